/-
  SH.Model.Sampler — executable model of the bucket sampler of StatsHouse
  (/repo/internal/data_model/sampling.go: NewSampler, Add, Run, run, keep/discard, sample, sampleQuota,
  partitionByBudget/Namespace/Group/Metric/Key, selectRandom, roundSampleFactor), shared by C05 and C06.

  Core Lean only (linked into drv_c05 and drv_c06). Branch for branch after the Go code; what is an *input* of the model:
    * the PRNG draws (53-bit integers k, the real draw is u = k / 2^53), in consumption order;
    * per row a `rank` that breaks ties of Go's unstable `sort.Slice` (the theorems hold for every rank assignment);
    * the resolved metric meta of every row (namespace, group, weights, NoSampleAgent, FairKeyIndex), because the
      code reads all of these from the first row of a partition.
  Numbers: sizes, weights and budgets are `Int` (Go: int64, no overflow assumed); sample factors are exact
  rationals `num/den` (Go: `float64(num)/float64(den)`, compared bit-exactly by the driver).

  `Variant.fitKeep` is the sampler in /repo, which contains fixes/C05-sample-fit.diff (a partition that reaches `sample`
  although it fits its budget is kept whole); `Variant.orig` is the sampler without that change; `Variant.posIds` is
  `fitKeep` with the guard `ID > 0` on group and namespace weights.
-/
import SH.Model.Core

namespace SH.Sampler

inductive Variant
  | orig      -- the sampler as first pinned (before fixes/C05-sample-fit.diff)
  | fitKeep   -- the sampler in /repo
  | posIds    -- fitKeep with the seeded guard `ID > 0` in getGroupWeight/getNamespaceWeight (seeded/C06-r5-2), kept as a witness
  deriving DecidableEq, Repr

inductive Mode | rand | det | quota
  deriving DecidableEq, Repr

structure Cfg where
  variant : Variant := .fitKeep
  mode : Mode := .rand
  agent : Bool := false            -- ModeAgent
  keepSingle : Bool := false       -- SampleKeepSingle
  disableNoSample : Bool := false  -- DisableNoSampleAgent
  sBudgets : Bool := false         -- SampleBudgets
  sNs : Bool := false              -- SampleNamespaces
  sGroups : Bool := false          -- SampleGroups
  sKeys : Bool := false            -- SampleKeys
  hasMeta : Bool := true           -- Meta != nil
  defNs : Int := -5                -- format.BuiltinNamespaceIDDefault
  defGrp : Int := -4               -- format.BuiltinGroupIDDefault
  deriving DecidableEq, Repr

/-- One `SamplingMultiItemPair` together with the metric meta `Run` attaches to it. -/
structure Item where
  id : Nat
  size : Int
  whale : Int := 0
  metric : Int := 0
  budget : Int := 0       -- fixed per-metric budget (uint32), 0 = none
  ns : Int := 0
  grp : Int := 0
  wNsTab : Int := 0       -- EffectiveWeight of Meta.GetNamespace(ns), 0 if unknown
  wGrpTab : Int := 0      -- EffectiveWeight of Meta.GetGroup(grp), 0 if unknown
  wMetric : Int := 1      -- metric.EffectiveWeight
  noSample : Bool := false
  fki : List Int := []    -- metric.FairKeyIndex
  tags : List Int := []   -- Item.Key.Tags (missing entries are 0)
  single : Bool := false  -- Item != nil && Item.isSingleValueCounter()
  rank : Nat := 0         -- tie-break of unstable sorts
  fkLen : Nat := 0        -- computed by `prep`
  fk : List Int := []     -- computed by `prep`, 3 entries
  deriving DecidableEq, Repr

/-- A decision callback: `KeepF`/`DiscardF` with the factor left in `Item.SF`. Factor = num/den, or MaxFloat32. -/
structure Ev where
  id : Nat
  kept : Bool
  num : Int
  den : Int
  isMax : Bool := false
  quota : Int := 0        -- `p.Size` at the time of the callback (third argument of KeepF)
  deriving DecidableEq, Repr

structure Group where     -- samplerGroup
  fixed : Bool := false
  ns : Int := 0
  grp : Int := 0
  metric : Int := 0
  depth : Nat := 0
  budget : Int := 0
  denom : Int := 0
  noSample : Bool := false
  weight : Int := 0
  sumSize : Int := 0
  items : List Item := []
  deriving DecidableEq, Repr

inductive Act
  | ev (e : Ev)
  | setGroup (g : Group)      -- setCurrentGroup(g)
  | err (what : String)       -- the model ran out of draws / fuel (never on replayed runs)
  deriving DecidableEq, Repr

def evs : List Act → List Ev
  | [] => []
  | .ev e :: r => e :: evs r
  | _ :: r => evs r

/-! ### sorting (Go: sort.Slice — unstable; ties are resolved by `rank`) -/

def insertBy {α} (le : α → α → Bool) (x : α) : List α → List α
  | [] => [x]
  | y :: ys => if le x y then x :: y :: ys else y :: insertBy le x ys

def isort {α} (le : α → α → Bool) : List α → List α
  | [] => []
  | x :: xs => insertBy le x (isort le xs)

/-! ### Run: fair key, the partitioning sort -/

def tagAt (tags : List Int) (x : Int) : Int :=
  if 0 ≤ x ∧ x < 48 then tags.getD x.toNat 0 else 0

def fairKeyOf (it : Item) (n : Nat) : List Int :=
  (List.range 3).map (fun j => if j < n then tagAt it.tags (it.fki.getD j 0) else 0)

def usesKeys (cfg : Cfg) (it : Item) : Bool := cfg.sKeys && !it.fki.isEmpty

def prep (cfg : Cfg) (it : Item) : Item :=
  if usesKeys cfg it then { it with fkLen := min it.fki.length 3, fk := fairKeyOf it (min it.fki.length 3) }
  else { it with fkLen := 0, fk := [0, 0, 0] }

def fkLt : Nat → List Int → List Int → Bool
  | 0, _, _ => false
  | n + 1, a :: as, b :: bs => if a ≠ b then a < b else fkLt n as bs
  | _, _, _ => false

/-- the comparator of the second `sort.Slice` in `Run` -/
def keyLt (a b : Item) : Bool :=
  if (a.budget != 0) != (b.budget != 0) then a.budget != 0
  else if a.ns ≠ b.ns then a.ns < b.ns
  else if a.grp ≠ b.grp then a.grp < b.grp
  else if a.metric ≠ b.metric then a.metric < b.metric
  else fkLt a.fkLen a.fk b.fk

def itemLe (a b : Item) : Bool := keyLt a b || (!keyLt b a && a.rank ≤ b.rank)

/-! ### Run: which metric meta a row is sampled with -/

/-- the meta a row carries itself (`Item.MetricMeta`), with the namespace/group table weights looked up for it -/
structure Carried where
  metricID : Int
  ns : Int
  grp : Int
  wNsTab : Int
  wGrpTab : Int
  wMetric : Int
  noSample : Bool
  fki : List Int
  deriving DecidableEq, Repr

/-- `if Item.MetricMeta != nil && MetricID == Item.MetricMeta.MetricID { metric = Item.MetricMeta } else { metric =
    getMetricMeta(MetricID) }`: `it` holds what meta storage says about the metric the row is ACCOUNTED to
    (`SamplingMultiItemPair.MetricID`); the carried meta replaces it only if it is the meta of that very metric — a row
    that belongs to another metric (an ingestion status accounted to a user metric) is sampled with the accounting metric's
    namespace, group, weight, NoSampleAgent flag and fair keys. -/
def resolveMeta (it : Item) (c : Option Carried) : Item :=
  match c with
  | some c =>
    if c.metricID = it.metric then
      { it with ns := c.ns, grp := c.grp, wNsTab := c.wNsTab, wGrpTab := c.wGrpTab, wMetric := c.wMetric, noSample := c.noSample, fki := c.fki }
    else it
  | none => it

/-! ### partitions -/

/-- maximal contiguous runs of rows with equal `key` (the `for j … if key s[i] != key s[j]` loops) -/
def runs (key : Item → Int) : List Item → List (List Item)
  | [] => []
  | x :: xs =>
    match runs key xs with
    | (y :: ys) :: rest => if key x = key y then (x :: y :: ys) :: rest else [x] :: (y :: ys) :: rest
    | [] :: rest => [x] :: rest
    | [] => [[x]]

def sumSizes (l : List Item) : Int := (l.map (·.size)).sum

def clamp1 (w : Int) : Int := if w < 1 then 1 else w

/-- `p.metric.GroupID != 0` / `p.metric.NamespaceID != 0`: the weight of a group or namespace is looked up for EVERY id but 0 —
    builtin groups and namespaces have negative ids (__default group -4, __builtin -2, __host -3, __default namespace -5) and
    their weights are configurable like any other. (`Variant.posIds` is the seeded guard `> 0`.) -/
def idHasWeight (cfg : Cfg) (id : Int) : Bool :=
  if cfg.variant == .posIds then decide (0 < id) else id != 0

def nsWeight (cfg : Cfg) (it : Item) : Int :=
  clamp1 (if cfg.hasMeta && idHasWeight cfg it.ns then it.wNsTab else 0)

def grpWeight (cfg : Cfg) (it : Item) : Int :=
  clamp1 (if cfg.hasMeta && idHasWeight cfg it.grp then it.wGrpTab else 0)

inductive PartKind | byBudget | byNs | byGroup | byMetric | byKey
  deriving DecidableEq, Repr

def partList (cfg : Cfg) : List PartKind :=
  (if cfg.sBudgets then [.byBudget] else []) ++ (if cfg.sNs then [.byNs] else []) ++
  (if cfg.sGroups then [.byGroup] else []) ++ [.byMetric]

def nPart (cfg : Cfg) : Nat := (partList cfg).length

def kindAt (cfg : Cfg) (d : Nat) : PartKind := (partList cfg).getD d .byKey

/-- the kind that follows partitionByBudget in `partF` -/
def kindAfterBudget (cfg : Cfg) : PartKind :=
  if cfg.sNs then .byNs else if cfg.sGroups then .byGroup else .byMetric

def hd (l : List Item) : Item := l.headD { id := 0, size := 0 }

def mkNs (cfg : Cfg) (d : Nat) (l : List Item) : Group :=
  { depth := d + 1, weight := nsWeight cfg (hd l), items := l, sumSize := sumSizes l, ns := (hd l).ns }

def mkGrp (cfg : Cfg) (d : Nat) (l : List Item) : Group :=
  { depth := d + 1, weight := grpWeight cfg (hd l), items := l, sumSize := sumSizes l, ns := (hd l).ns, grp := (hd l).grp }

def mkMetric (d : Nat) (l : List Item) : Group :=
  { depth := d + 1, weight := (hd l).wMetric, items := l, sumSize := sumSizes l, noSample := (hd l).noSample,
    ns := (hd l).ns, grp := (hd l).grp, metric := (hd l).metric }

def mkKey (d : Nat) (l : List Item) : Group :=
  { depth := d + 1, weight := 1, items := l, sumSize := sumSizes l, noSample := (hd l).noSample,
    ns := (hd l).ns, grp := (hd l).grp, metric := (hd l).metric }

def mkFixed (cfg : Cfg) (l : List Item) : Group :=
  { ns := (hd l).ns, grp := (hd l).grp, metric := (hd l).metric, depth := nPart cfg, budget := (hd l).budget,
    fixed := true, denom := 1, weight := 1, noSample := (hd l).noSample, sumSize := sumSizes l, items := l }

def sumWeights (gs : List Group) : Int := (gs.map (·.weight)).sum

/-- partitionByNamespace / Group / Metric / Key on the rows `l` of a group of depth `d` -/
def partPlain (cfg : Cfg) (k : PartKind) (d : Nat) (l : List Item) : List Group :=
  match k with
  | .byNs => (runs (·.ns) l).map (mkNs cfg d)
  | .byGroup => (runs (·.grp) l).map (mkGrp cfg d)
  | .byMetric => (runs (·.metric) l).map (mkMetric d)
  | .byKey => (runs (fun it => it.fk.getD (d - nPart cfg) 0) l).map (mkKey d)
  | .byBudget => []

def hasBudget (l : List Item) : Bool := decide (0 < (hd l).budget)

/-- partitionByBudget: leading metrics with a fixed budget become groups of their own, the rest is partitioned by
    the next partition function one level deeper. -/
def partBudget (cfg : Cfg) (d : Nat) (l : List Item) : List Group :=
  ((runs (·.metric) l).takeWhile hasBudget).map (mkFixed cfg) ++
  partPlain cfg (kindAfterBudget cfg) (d + 1) ((runs (·.metric) l).dropWhile hasBudget).flatten

def partition (cfg : Cfg) (g : Group) : List Group :=
  match kindAt cfg g.depth with
  | .byBudget => partBudget cfg g.depth g.items
  | k => partPlain cfg k g.depth g.items

/-- the `sumWeight` returned next to the groups -/
def partWeight (cfg : Cfg) (g : Group) : Int :=
  match kindAt cfg g.depth with
  | .byBudget =>
    if ((runs (·.metric) g.items).dropWhile hasBudget).flatten.isEmpty then 1
    else sumWeights (partPlain cfg (kindAfterBudget cfg) (g.depth + 1) ((runs (·.metric) g.items).dropWhile hasBudget).flatten)
  | k => sumWeights (partPlain cfg k g.depth g.items)

def minRank (g : Group) : Nat := (g.items.map (·.rank)).foldl min (hd g.items).rank

/-- `s[i].sumSize*s[j].weight < s[j].sumSize*s[i].weight` -/
def ratioLt (a b : Group) : Bool := a.sumSize * b.weight < b.sumSize * a.weight

def groupLe (a b : Group) : Bool := ratioLt a b || (!ratioLt b a && minRank a ≤ minRank b)

/-! ### keep / discard -/

def keepEv (it : Item) : Ev := { id := it.id, kept := true, num := 1, den := 1, quota := it.size }

def keepAll (l : List Item) : List Act := l.map (fun it => .ev (keepEv it))

/-! ### sample (SampleRows) -/

def two53 : Nat := 9007199254740992

def whaleLe (a b : Item) : Bool := a.whale > b.whale || (a.whale == b.whale && a.rank ≤ b.rank)

/-- `r.Float64()*sf < 1` with `Float64() = k/2^53`, `sf = num/den` -/
def drawKeeps (k : Nat) (num den : Int) : Bool := (k : Int) * num < (two53 : Int) * den

def sfEv (it : Item) (kept : Bool) (num den : Int) : Ev :=
  { id := it.id, kept := kept, num := num, den := den, quota := it.size }

/-- selectRandom (sf > 1): one draw per row, the row is kept iff its own draw says so -/
def selectRand (num den : Int) : List Item → List Nat → List Act × List Nat
  | [], ds => ([], ds)
  | it :: r, [] =>
    let res := selectRand num den r []
    (.err "no-draw" :: .ev (sfEv it true num den) :: res.1, res.2)
  | it :: r, k :: ds =>
    let res := selectRand num den r ds
    (.ev (sfEv it (drawKeeps k num den) num den) :: res.1, res.2)

/-- the deterministic selector of the repo's tests: the first ⌊len/sf⌋ rows -/
def detCount (n : Nat) (num den : Int) : Nat := min n ((n : Int) * den / num).toNat

def selectPart (cfg : Cfg) (num den : Int) (l : List Item) (ds : List Nat) : List Act × List Nat :=
  match cfg.mode with
  | .det =>
    ((l.take (detCount l.length num den)).map (fun it => .ev (sfEv it true num den)) ++
     (l.drop (detCount l.length num den)).map (fun it => .ev (sfEv it false num den)), ds)
  | _ =>
    if num ≤ den then (l.map (fun it => .ev (sfEv it true num den)), ds)   -- `if sf <= 1 { return len(s) }`
    else selectRand num den l ds

def keepSingleHit (cfg : Cfg) (g : Group) : Bool :=
  cfg.keepSingle && g.items.length == 1 && (hd g.items).single

def sfNumOf (g : Group) : Int := if g.denom * g.sumSize < 1 then 1 else g.denom * g.sumSize
def sfDenOf (g : Group) : Int := if g.budget < 1 then 1 else g.budget

/-- `pos := int(int64(len(items)) * sfDenom / sfNum / 2)` capped by len -/
def whalePos (g : Group) : Nat := min g.items.length ((g.items.length : Int) * sfDenOf g / sfNumOf g / 2).toNat

/-- fix C05-sample-fit: a group that fits its budget is not sampled -/
def fitShortcut (cfg : Cfg) (g : Group) : Bool := cfg.variant != .orig && sfNumOf g ≤ sfDenOf g

def sampleRows (cfg : Cfg) (g : Group) (ds : List Nat) : List Act × List Nat :=
  if g.items.isEmpty then ([], ds)
  else if keepSingleHit cfg g then (keepAll g.items, ds)
  else if fitShortcut cfg g then (keepAll g.items, ds)
  else if whalePos g > 0 then
    let sorted := isort whaleLe g.items
    let res := selectPart cfg (2 * sfNumOf g) (sfDenOf g) (sorted.drop (whalePos g)) ds
    (keepAll (sorted.take (whalePos g)) ++ res.1, res.2)
  else selectPart cfg (sfNumOf g) (sfDenOf g) g.items ds

/-! ### sampleQuota -/

def quotaOf (g : Group) (it : Item) : Int := g.budget * it.size / (g.denom * g.sumSize)

def quotaEv (g : Group) (it : Item) : Ev :=
  if quotaOf g it < 1 then { id := it.id, kept := false, num := 0, den := 1, isMax := true, quota := quotaOf g it }
  else { id := it.id, kept := true, num := 1, den := 1, quota := quotaOf g it }

def sampleQuota (g : Group) : List Act := g.items.map (fun it => .ev (quotaEv g it))

def leaf (cfg : Cfg) (g : Group) (ds : List Nat) : List Act × List Nat :=
  match cfg.mode with
  | .quota => (sampleQuota g, ds)
  | _ => sampleRows cfg g ds

/-! ### run: water filling -/

/-- `s[i].budget = g.budget * s[i].weight; s[i].budgetDenom = sumWeight` unless the budget is fixed -/
def assign (B W : Int) (g : Group) : Group :=
  if g.fixed then g else { g with budget := B * g.weight, denom := W }

/-- negation of `s[i].budget < s[i].budgetDenom*s[i].sumSize` -/
def fits (g : Group) : Bool := !(g.budget < g.denom * g.sumSize)

def stepB (B : Int) (g : Group) : Int := if g.fixed then B else B - g.sumSize
def stepW (W : Int) (g : Group) : Int := if g.fixed then W else W - g.weight

def markKeep (g : Group) : List Act := if g.metric == 0 then [.setGroup g] else []

/-- first loop: the callbacks of the groups that fit -/
def keptActs (B W : Int) : List Group → List Act
  | [] => []
  | g :: gs =>
    if fits (assign B W g) then markKeep (assign B W g) ++ keepAll g.items ++ keptActs (stepB B g) (stepW W g) gs
    else []

/-- the groups left for the second loop -/
def restGroups (B W : Int) : List Group → List Group
  | [] => []
  | g :: gs => if fits (assign B W g) then restGroups (stepB B g) (stepW W g) gs else g :: gs

def restB (B W : Int) : List Group → Int
  | [] => B
  | g :: gs => if fits (assign B W g) then restB (stepB B g) (stepW W g) gs else B

def restW (B W : Int) : List Group → Int
  | [] => W
  | g :: gs => if fits (assign B W g) then restW (stepB B g) (stepW W g) gs else W

def noSampleHit (cfg : Cfg) (g : Group) : Bool := g.noSample && cfg.agent && !cfg.disableNoSample

def recurses (cfg : Cfg) (g : Group) : Bool := decide (g.depth < nPart cfg + (hd g.items).fkLen)

def markSample (cfg : Cfg) (g : Group) : List Act :=
  if g.depth < nPart cfg && g.grp != 0 && g.metric == 0 then [.setGroup g] else []

/-- roundSampleFactor on `budget/denom` (random mode: one draw) or floor (deterministic test hook) -/
def roundUp (k : Nat) (g : Group) : Bool := (k : Int) * g.denom < (two53 : Int) * (g.budget % g.denom)

def rounded (cfg : Cfg) (g : Group) (ds : List Nat) : Group × List Nat × List Act :=
  if g.fixed then (g, ds, [])
  else match cfg.mode, ds with
    | .det, _ => ({ g with budget := g.budget / g.denom, denom := 1 }, ds, [])
    | _, [] => ({ g with budget := g.budget / g.denom, denom := 1 }, [], [.err "no-draw"])
    | _, k :: r => ({ g with budget := g.budget / g.denom + (if roundUp k g then 1 else 0), denom := 1 }, r, [])

/-- what the second loop does with one group (budget already assigned); `rec` is `run` one level deeper -/
def handle (cfg : Cfg) (rec : Group → List Nat → List Act × List Nat) (g : Group) (ds : List Nat) : List Act × List Nat :=
  if noSampleHit cfg g then (keepAll g.items, ds)
  else if recurses cfg g then
    ((rounded cfg g ds).2.2 ++ (rec (rounded cfg g ds).1 (rounded cfg g ds).2.1).1,
     (rec (rounded cfg g ds).1 (rounded cfg g ds).2.1).2)
  else leaf cfg g ds

/-- second loop over the groups that do not fit -/
def sampleLoop (cfg : Cfg) (rec : Group → List Nat → List Act × List Nat) (B W : Int) :
    List Group → List Nat → List Act × List Nat
  | [], ds => ([], ds)
  | g :: gs, ds =>
    (markSample cfg (assign B W g) ++ (handle cfg rec (assign B W g) ds).1 ++
       (sampleLoop cfg rec B W gs (handle cfg rec (assign B W g) ds).2).1,
     (sampleLoop cfg rec B W gs (handle cfg rec (assign B W g) ds).2).2)

def run : Nat → Cfg → Group → List Nat → List Act × List Nat
  | 0, cfg, g, ds => let r := leaf cfg g ds; (.err "fuel" :: r.1, r.2)
  | fuel + 1, cfg, g, ds =>
    let s := isort groupLe (partition cfg g)
    let W := partWeight cfg g
    let more := sampleLoop cfg (run fuel cfg) (restB g.budget W s) (restW g.budget W s) (restGroups g.budget W s) ds
    (keptActs g.budget W s ++ more.1, more.2)

/-! ### Add + Run -/

def addDiscard (it : Item) : Ev := { id := it.id, kept := false, num := 0, den := 1, isMax := true, quota := it.size }

def dropped (items : List Item) : List Item := items.filter (fun it => it.size < 1)
def added (cfg : Cfg) (items : List Item) : List Item := (items.filter (fun it => !(it.size < 1))).map (prep cfg)

def topGroup (cfg : Cfg) (items : List Item) (budget : Int) : Group :=
  { ns := cfg.defNs, grp := cfg.defGrp, items := isort itemLe (added cfg items), budget := budget }

def fuel0 : Nat := 9

/-- all callbacks of `Add`* ; `Run(budget)` in order -/
def runBucket (cfg : Cfg) (items : List Item) (budget : Int) (ds : List Nat) : List Act :=
  (dropped items).map (fun it => .ev (addDiscard it)) ++
  (if (added cfg items).isEmpty then [] else (run fuel0 cfg (topGroup cfg items budget) ds).1)

/-! ### MetricGroups (sampling statistics per namespace/group) -/

structure GStat where
  ns : Int
  grp : Int
  metric : Int
  budget : Int
  denom : Int
  depth : Nat
  keepN : Int := 0
  keepSum : Int := 0
  discN : Int := 0
  discSum : Int := 0
  deriving DecidableEq, Repr

def GStat.add (s : GStat) (e : Ev) : GStat :=
  if e.kept then { s with keepN := s.keepN + 1, keepSum := s.keepSum + e.quota }
  else { s with discN := s.discN + 1, discSum := s.discSum + e.quota }

def ofGroup (cfg : Cfg) (g : Group) : GStat :=
  { ns := g.ns, grp := if g.grp == 0 then cfg.defGrp else g.grp, metric := g.metric, budget := g.budget, denom := g.denom, depth := g.depth }

def foldStats (cfg : Cfg) : GStat → List GStat → List Act → List GStat
  | cur, done, [] => (cur :: done).reverse
  | cur, done, .ev e :: r => foldStats cfg (cur.add e) done r
  | cur, done, .setGroup g :: r => foldStats cfg (ofGroup cfg g) (if cur.depth != 0 then cur :: done else done) r
  | cur, done, .err _ :: r => foldStats cfg cur done r

/-- `sampler.MetricGroups` after `Run` -/
def metricGroups (cfg : Cfg) (items : List Item) (budget : Int) (ds : List Nat) : List GStat :=
  if (added cfg items).isEmpty then []
  else
    foldStats cfg { ns := cfg.defNs, grp := cfg.defGrp, metric := 0, budget := budget, denom := 0, depth := 0 } []
      (run fuel0 cfg (topGroup cfg items budget) ds).1 ++
    (if (dropped items).isEmpty then []
     else [{ ns := 0, grp := 0, metric := 0, budget := 0, denom := 0, depth := 0, discN := (dropped items).length, discSum := 0 }])

/-! ### consecutive samplers sharing SamplerBuffers (aggregator_insert.go hands `sampler.SamplerBuffers` to the next NewSampler) -/

/-- `c.items = c.items[:0]` in NewSampler: whatever rows the previous sampler left in the buffer, the new one starts empty -/
def newSamplerItems (_left : List Item) : List Item := []

/-- one sampler of a sequence: decisions, and the rows it leaves behind in the buffer (`h.items` after Add*) -/
def runShared (cfg : Cfg) (left : List Item) (items : List Item) (budget : Int) (ds : List Nat) : List Act × List Item :=
  (runBucket cfg (newSamplerItems left ++ items) budget ds, newSamplerItems left ++ items.filter (fun it => !(it.size < 1)))

structure RunIn where
  cfg : Cfg
  items : List Item
  budget : Int
  draws : List Nat

/-- the decisions of each sampler of a sequence -/
def runSeq : List Item → List RunIn → List (List Act)
  | _, [] => []
  | left, r :: rs => (runShared r.cfg left r.items r.budget r.draws).1 :: runSeq (runShared r.cfg left r.items r.budget r.draws).2 rs

/-! ### agent: (*Shard).sampleBucket around the sampler (agent_shard_send.go) -/

/-- `remainingBudget` handed to `sampler.Run`: the per-shard budget, capped by MaxUncompressedBucketSize/2, minus the
    fixed per-metric budgets received from the aggregator, but at least MinSampleBudget -/
def agentBudget (shardBudget minBudget budgetSum maxHalf : Int) : Int :=
  if minBudget < (if maxHalf < shardBudget then maxHalf else shardBudget) - budgetSum
  then (if maxHalf < shardBudget then maxHalf else shardBudget) - budgetSum else minBudget

/-- a row of the bucket: `bypass` = `item.MetricMeta.NoSampleAgent` of the row's OWN metric (such rows never reach the
    sampler: `keepF(item, bucket.Time, 1)` with the row's initial SF = 1); `item` is what `sampler.Add` would get
    (accounted metric, whale weight, size estimate) -/
structure ARow where
  item : Item
  bypass : Bool
  deriving DecidableEq, Repr

def agentBucket (cfg : Cfg) (rows : List ARow) (budget : Int) (ds : List Nat) : List Act :=
  ((rows.filter (·.bypass)).map (fun r => Act.ev (keepEv r.item))) ++
  runBucket cfg ((rows.filter (fun r => !r.bypass)).map (·.item)) budget ds

/-! ### aggregator: calcHostMetricBudgets around SampleQuota (aggregator.go) -/

/-- `keepF` of calcHostMetricBudgets: "We encourage good metrics that fully fit in quota" -/
def hostBudget (originalSize quota : Int) : Int := if originalSize ≤ quota then quota * 2 else quota

/-- budget reported back to the host for one (metric, host) row; nothing for rows whose quota is < 1 -/
def hostBudgetOf (items : List Item) (e : Ev) : Int :=
  if e.kept then hostBudget ((items.find? (fun it => it.id == e.id)).map (·.size) |>.getD 0) e.quota else 0

/-! ### size estimates fed to `Add` (transfer.go TLSizeEstimate, bucket.go RowBinarySizeEstimate) -/

/-- number of leading entries up to the last non-zero one (`for i := MaxTags; i != 0; i--`) -/
def trimLen : List Nat → Nat
  | [] => 0
  | x :: xs => if trimLen xs = 0 then (if x = 0 then 0 else 1) else trimLen xs + 1

/-- `l := 1 + len; l += (4 - l%4) % 4` -/
def stagPad (len : Nat) : Nat := (1 + len) + (4 - (1 + len) % 4) % 4

/-- Key.TLSizeEstimate: `tagsNZ[i] = 1` iff `Tags[i] != 0`, `stagLens[i] = len(STags[i])` -/
def keyTLSize (tagsNZ : List Nat) (stagLens : List Nat) (tsExtra : Bool) : Nat :=
  4 + (4 + 4 + 4 * trimLen tagsNZ) +
  (if trimLen stagLens > 0 then 4 + ((stagLens.take (trimLen stagLens)).map stagPad).sum else 0) +
  (if tsExtra then 4 else 0)

/-- the fields of a MultiValue that TLSizeEstimate / RowBinarySizeEstimate look at -/
structure ValDesc where
  empty : Bool := false        -- Empty(): Value.Count() <= 0
  maxHostI : Bool := false     -- MaxHostTag.I != 0
  maxHostS : Nat := 0          -- len(MaxHostTag.S)
  minEqMax : Bool := true      -- MinHostTag == MaxHostTag
  minHostI : Bool := false
  minHostS : Nat := 0
  mcEqMax : Bool := true       -- MaxCounterHostTag == MaxHostTag
  mcHostI : Bool := false
  mcHostS : Nat := 0
  hllItems : Nat := 0          -- HLL.ItemsCount()
  hasDigest : Bool := false    -- ValueTDigest != nil
  centroids : Nat := 0
  valueSet : Bool := false
  minNonZero : Bool := false   -- ValueMin != 0
  singleTL : Bool := true      -- Value.singleValueTL()
  deriving DecidableEq, Repr

def hostSz (isI : Bool) (sLen : Nat) : Nat := if isI then 4 else sLen

def hllEst (n : Nat) : Nat := 1 + 3 + 4 * n

/-- MultiValue.TLSizeEstimate -/
def valueTLSize (v : ValDesc) : Nat :=
  8 + hostSz v.maxHostI v.maxHostS +
  (if v.minEqMax then 0 else hostSz v.minHostI v.minHostS) +
  (if v.mcEqMax then 0 else hostSz v.mcHostI v.mcHostS) +
  (if v.hllItems ≠ 0 then hllEst v.hllItems else 0) +
  (if v.hasDigest then 4 + 8 * v.centroids else 0) +
  (if v.valueSet then (if v.minNonZero then 8 else 0) + (if v.singleTL then 0 else 24) else 0)

/-- MultiItem.TLSizeEstimate: tail + string top entries `(len(k.S), value)` -/
def itemTLSize (tail : ValDesc) (tops : List (Nat × ValDesc)) : Nat :=
  valueTLSize tail + (tops.map (fun t => 4 + t.1 + 3 + valueTLSize t.2)).sum

/-- MultiValue.RowBinarySizeEstimate -/
def valueRowSize (v : ValDesc) : Nat :=
  if v.empty then 0 else 5 * 8 + 1 + 1 + 10 + hllEst v.hllItems + (if v.hasDigest then 8 * v.centroids else 0)

/-- MultiItem.RowBinarySizeEstimate (oldTagNumber = 16) -/
def itemRowSize (stagLens : List Nat) (tail : ValDesc) (tops : List (Nat × ValDesc)) : Nat :=
  (4 + 4 + 16 * 4 + stagLens.sum) + valueRowSize tail +
  (tops.map (fun t => (4 + 4 + 16 * 4 + stagLens.sum) + 4 + t.1 + valueRowSize t.2)).sum

end SH.Sampler
