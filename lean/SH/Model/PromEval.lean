/-
  SH.Model.PromEval — executable model of the PromQL evaluator's aggregation operators, over-time functions and
  reduction (push-down) rules (property C27).

  Modelled code (/repo, branch for branch):
    internal/promql/functions.go   funcSum / funcMin / funcMax / funcAvg / funcCount / funcGroup / funcStdVar /
                                   funcStdDev / funcQuantile (per timestamp over one group)        → aggSum … aggQuantile
                                   aggregateAt0 (+ value.go Series.group / SeriesTags.hash: by/without key,
                                   unused tags removed)                                            → aggregate
                                   funcTopK (single time shift) + engine.go evaluator.weight       → topK / weights
    internal/promql/engine.go      evalBinary (CardOneToOne: scalar side, label-set matching, on/ignoring),
                                   slice<Op> / sliceFilter<Cmp> of functions.go                       → binApply / binVal
                                   evaluator.newWindow                                             → newWindow
    internal/promql/functions.go   window.moveOneLeft / setValueAtRight / fillPrefixWith            → moveOneLeft / setRight / fillPrefix
                                   overTimeCall, func{Avg,Min,Max,Sum,Count,StdVar,StdDev,Last}OverTime,
                                   funcQuantileOverTime                                            → overTime / otApply
    internal/promql/reductions.go  evalReductionRules, reduce{MatrixSelector,SubQueryExpr,OverTimeCall,
                                   AggregateExpr}, reduceWhat                                      → evalReductionRules …
    internal/promql/engine.go      NewEvaluator (where a reduction is attached to the selector), eval (ars
                                   replacement, ev.r), querySeries/buildSeriesQuery (what / grouping / Range of the
                                   storage query), exec (empty series removed, values trimmed to StartX)  → evalChain / exec
  The storage behind promql.Handler.QuerySeries is the contract of internal/api (requestHandler.QuerySeries,
  tsValues.merge, tsValues.value): rows of one (group, time bucket) are merged and the requested `what` is selected
  → Row.merge / rowValue / queryStorage.  The harness' Handler stub calls the real merge/value through an accessor.

  Numbers are exact (`Rat`); a missing point (NaN / NilValue) is `none` (DESIGN §4.1: the harness stays inside the
  exact domain of float64 and re-checks that with big.Rat).  `sqrt` is exact on perfect squares only.
  Go map iteration order (groups) is not observable: results are compared sorted by tag set.

  `evalChainEarlyRange`: the mutation of seeded/C27-r3-2 (subquery range stored before the operand is evaluated).
  `aggregateRepoAlias`: the PRE-FIX (before commit 78db24c9) engine-side grouping for labels given by the legacy alias key<i> alone
  (fixes/C27-group-alias.diff); the model's labels are resolved tag indices, i.e. the fixed behaviour.
  `Cfg`: `.repo` is the pinned tree, `.fixed` the tree after fixes/C27-*.diff:
    whatFix   the `what` chosen by a reduction rule reaches the storage query (the pinned tree stores it in
              VectorSelector.What, which nothing reads; the query is built from VectorSelector.Whats)
    aggFix    group / stdvar / stddev yield a missing point where every input point is missing (pinned tree: 1 / 0 / 0);
              quantile interpolates over the present points only (pinned tree: sorts with NaNs in place over len(group) —
              that variant is not modelled, the model's quantile is the fixed one under both settings)
-/
import SH.Model.Core

namespace SH.PromEval

abbrev Val := Option Rat

structure Cfg where
  whatFix : Bool
  aggFix : Bool
deriving DecidableEq, Repr

def Cfg.repo : Cfg := ⟨false, false⟩
def Cfg.fixed : Cfg := ⟨true, true⟩

/-! ## aggregation over one group at one timestamp (`col` = the values of the group's series at that timestamp) -/

/-- the points that are not missing, in series order -/
def present (col : List Val) : List Rat := col.filterMap id

def ratSum (l : List Rat) : Rat := l.foldl (· + ·) 0

/-- funcSum: `if nan {res = v} else {res += v}` -/
def sumStep (acc : Val) (v : Val) : Val :=
  match v, acc with
  | none, a => a
  | some x, none => some x
  | some x, some r => some (r + x)
def aggSum (col : List Val) : Val := col.foldl sumStep none

/-- funcMax: `if nan || res < v {res = v}` -/
def maxStep (acc : Val) (v : Val) : Val :=
  match v, acc with
  | none, a => a
  | some x, none => some x
  | some x, some r => if r < x then some x else some r
def aggMax (col : List Val) : Val := col.foldl maxStep none

/-- funcMin: `if nan || v < res {res = v}` -/
def minStep (acc : Val) (v : Val) : Val :=
  match v, acc with
  | none, a => a
  | some x, none => some x
  | some x, some r => if x < r then some x else some r
def aggMin (col : List Val) : Val := col.foldl minStep none

/-- funcAvg -/
def aggAvg (col : List Val) : Val :=
  if (present col).length = 0 then none else some (ratSum (present col) / ((present col).length : Rat))

/-- funcCount (0, not missing, where nothing is present) -/
def aggCount (col : List Val) : Val := some ((present col).length : Rat)

/-- funcGroup -/
def aggGroup (cfg : Cfg) (col : List Val) : Val :=
  if cfg.aggFix then (if (present col).length = 0 then none else some 1) else some 1

/-- funcStdVar: mean, then `res += d*d/cnt`.  Pinned tree with cnt = 0: mean = NaN, the loop adds nothing, result 0. -/
def varOf (xs : List Rat) : Rat :=
  let n : Rat := (xs.length : Rat)
  let mean := ratSum xs / n
  ratSum (xs.map (fun v => (v - mean) * (v - mean) / n))
def aggStdVar (cfg : Cfg) (col : List Val) : Val :=
  if (present col).length = 0 then (if cfg.aggFix then none else some 0) else some (varOf (present col))

/-- exact on perfect squares (the harness only lets those through) -/
def sqrtExact (q : Rat) : Rat := ((Nat.sqrt q.num.toNat : Nat) : Rat) / ((Nat.sqrt q.den : Nat) : Rat)
def aggStdDev (cfg : Cfg) (col : List Val) : Val := (aggStdVar cfg col).map sqrtExact

def insertSorted (x : Rat) : List Rat → List Rat
  | [] => [x]
  | y :: ys => if x ≤ y then x :: y :: ys else y :: insertSorted x ys
def isort (l : List Rat) : List Rat := l.foldr insertSorted []

/-- the interpolation shared by funcQuantile (fixed) and funcQuantileOverTime, `xs` sorted, 0 ≤ q ≤ 1 -/
def quantileSorted (q : Rat) (xs : List Rat) : Val :=
  if xs.length = 0 then none else
  let ix : Rat := q * ((xs.length : Rat) - 1)
  let i1 : Nat := ix.floor.toNat
  let i2 : Nat := min (xs.length - 1) (i1 + 1)
  let w1 : Rat := (i2 : Rat) - ix
  let w2 : Rat := 1 - w1
  some (xs.getD i1 0 * w1 + xs.getD i2 0 * w2)
def aggQuantile (q : Rat) (col : List Val) : Val := quantileSorted q (isort (present col))

inductive AggOp | sum | min | max | avg | count | group | stddev | stdvar
deriving DecidableEq, Repr

def aggApply (cfg : Cfg) : AggOp → List Val → Val
  | .sum => aggSum | .min => aggMin | .max => aggMax | .avg => aggAvg | .count => aggCount
  | .group => aggGroup cfg | .stddev => aggStdDev cfg | .stdvar => aggStdVar cfg

/-! ## series, grouping -/

/-- tags: (tag index, mapped value) sorted by index -/
abbrev Tags := List (Nat × Int)

structure Series where
  tags : Tags
  vals : List Val
deriving DecidableEq, Repr

/-- Series.group / SeriesTags.hash: `by (labels)` keeps the listed tags, `without (labels)` the others -/
def keyOf (without : Bool) (labels : List Nat) (tags : Tags) : Tags :=
  tags.filter (fun t => if without then !labels.contains t.1 else labels.contains t.1)

def dedupKeys (l : List Tags) : List Tags := l.eraseDups

/-- timestamp-wise columns of a group -/
def columns (n : Nat) (ss : List Series) : List (List Val) :=
  (List.range n).map (fun i => ss.map (fun s => s.vals.getD i none))

/-- aggregateAt0 -/
def aggregate (n : Nat) (f : List Val → Val) (without : Bool) (labels : List Nat) (ss : List Series) : List Series :=
  (dedupKeys (ss.map (fun s => keyOf without labels s.tags))).map (fun k =>
    { tags := k, vals := (columns n (ss.filter (fun s => keyOf without labels s.tags = k))).map f })

/-- PRE-FIX witness only, not part of any evaluated variant: aggregateAt0 before fixes/C27-group-alias.diff (/repo 78db24c9) when some labels are given only by the legacy alias
    key<i> (`aliasOnly`, resolved tag indices) and the others by id or custom name (`named`): SeriesTags.Get resolves the
    alias, so `by` hashes the tag, but the used/unused test of SeriesTags.hash does not know the alias: `by` then removes
    the tag from the result as unused, `without` does not exclude it.  After the fix the labels are simply
    `named ++ aliasOnly` for `aggregate` (the model's labels are resolved tag indices). -/
def aggregateRepoAlias (n : Nat) (f : List Val → Val) (without : Bool) (named aliasOnly : List Nat) (ss : List Series) : List Series :=
  if without then aggregate n f true named ss
  else
    (dedupKeys (ss.map (fun s => keyOf false (named ++ aliasOnly) s.tags))).map (fun k =>
      { tags := keyOf false named k,
        vals := (columns n (ss.filter (fun s => keyOf false (named ++ aliasOnly) s.tags = k))).map f })

/-! ## the time scale and the window cursor -/

structure TS where
  times : List Int
  startX : Nat
  viewStart : Nat
  viewEnd : Nat
  lodStep : Int      -- ev.t.LODs[last].Step: the finest grid step (reduction threshold, initial cursor step)
  step : Int         -- the requested step (Timescale.Step)
  widths : List Int := []   -- per time index: the step of the LOD the point belongs to (bucket width); [] = lodStep everywhere
deriving Repr

def TS.width (ts : TS) (i : Nat) : Int := ts.widths.getD i ts.lodStep

structure Wnd where
  w : Int
  s : Int
  l : Nat
  r : Nat
  n : Nat
  strict : Bool
  done : Bool
deriving DecidableEq, Repr

def newWindow (len : Nat) (w step : Int) (strict : Bool) : Wnd :=
  { w := w, s := step, l := len, r := len, n := 0, strict := strict, done := len = 0 }

def isPresent {α : Type} (v : List (Option α)) (i : Nat) : Bool := (v.getD i none).isSome
def tAt (t : List Int) (i : Nat) : Int := t.getD i 0

/-- the condition evaluated inside the left-boundary loop -/
def wideEnough (t : List Int) (wd : Wnd) (r l : Nat) : Bool :=
  decide (wd.w ≤ tAt t r - tAt t l + wd.s) || (wd.strict && decide (wd.w < tAt t r - tAt t (l - 1) + wd.s))

/-- `for !found && 0 < l { found = …; if found {break}; l--; if !NaN(v[l]) {n++} }` → (l, n, found) -/
def searchLeft {α : Type} (t : List Int) (v : List (Option α)) (wd : Wnd) (r : Nat) : Nat → Nat → Nat × Nat × Bool
  | 0, n => (0, n, false)
  | l + 1, n =>
    if wideEnough t wd r (l + 1) then (l + 1, n, true)
    else searchLeft t v wd r l (if isPresent v l then n + 1 else n)

/-- `if l > r {l = r; …}`: where the search for the left edge starts -/
def leftStart (wd : Wnd) (r : Nat) : Nat := if wd.l > r then r else wd.l

/-- the count of present points the search starts with -/
def countStart {α : Type} (v : List (Option α)) (wd : Wnd) (r : Nat) : Nat :=
  if wd.l > r then (if !isPresent v r || (wd.strict && decide (wd.w < wd.s)) then 0 else 1)
  else (if 0 < wd.n && isPresent v wd.r then wd.n - 1 else wd.n)

/-- "see what we got": commit l, r, n; at the left end of the data the cursor is done (and fails unless the window fits) -/
def finishMove (t : List Int) (wd : Wnd) (r l n : Nat) (found : Bool) : Option Wnd :=
  if l = 0 then
    (if found then some { wd with l := l, r := r, n := n, done := true } else none)
  else
    some { wd with l := l, r := r, n := n, s := tAt t r - tAt t (r - 1) }

/-- window.moveOneLeft; `none` = returned false (the cursor fields l, r, n keep their previous values) -/
def moveOneLeft {α : Type} (t : List Int) (v : List (Option α)) (wd : Wnd) : Option Wnd :=
  if wd.done then none else
  let r := wd.r - 1
  let l0 := leftStart wd r
  let n0 := countStart v wd r
  let res := if decide (wd.w ≤ 0) && l0 == r then (l0, n0, true) else searchLeft t v wd r l0 n0
  finishMove t wd r res.1 res.2.1 res.2.2

/-- window.setValueAtRight -/
def setRight {α : Type} (v : List (Option α)) (wd : Wnd) (x : Option α) : List (Option α) × Wnd :=
  let was := !isPresent v wd.r
  let isn := x.isNone
  let n := if was && !isn then wd.n + 1 else if !was && isn then wd.n - 1 else wd.n
  (v.set wd.r x, { wd with n := n })

inductive OtFn | avg | min | max | sum | count | stdvar | stddev | last
deriving DecidableEq, Repr

def otStrict : OtFn → Bool
  | .avg | .min | .max | .last => false
  | _ => true
def otNil : OtFn → Val
  | .count => some 0
  | _ => none

def lastPresent (s : List Val) : Val := (present s).getLast?

/-- func…OverTime on the window slice (missing points skipped inside) -/
def otApply (f : OtFn) (s : List Val) : Val :=
  match f with
  | .avg => aggAvg s
  | .min => aggMin s
  | .max => aggMax s
  | .sum => if (present s).length = 0 then none else some (ratSum (present s))
  | .count => some ((present s).length : Rat)
  | .stdvar => some (varOf (present s))
  | .stddev => some (sqrtExact (varOf (present s)))
  | .last => lastPresent s

def slice {α : Type} (v : List α) (l r : Nat) : List α := (v.drop l).take (r + 1 - l)

/-- the loop of overTimeCall / funcQuantileOverTime: `fuel` bounds the number of moves by len+1 -/
def otLoop {α : Type} (t : List Int) (fn : List (Option α) → Option α) (nilV : Option α) : Nat → List (Option α) → Wnd → List (Option α) × Wnd
  | 0, v, wd => (v, wd)
  | fuel + 1, v, wd =>
    match moveOneLeft t v wd with
    | none => (v, wd)
    | some wd' =>
      let out := if wd'.n ≠ 0 then fn (slice v wd'.l wd'.r) else nilV
      let (v', wd'') := setRight v wd' out
      otLoop t fn nilV fuel v' wd''

/-- fillPrefixWith(NilValue) -/
def fillPrefix {α : Type} (v : List (Option α)) (r : Nat) : List (Option α) :=
  (List.range v.length).map (fun i => if i < r then none else v.getD i none)

def overTimeWith {α : Type} (t : List Int) (range lodStep : Int) (strict : Bool) (fn : List (Option α) → Option α) (nilV : Option α) (v : List (Option α)) : List (Option α) :=
  let res := otLoop t fn nilV (v.length + 1) v (newWindow t.length range lodStep strict)
  fillPrefix res.1 res.2.r

def overTime (t : List Int) (range lodStep : Int) (f : OtFn) (v : List Val) : List Val :=
  overTimeWith t range lodStep (otStrict f) (otApply f) (otNil f) v

/-- funcQuantileOverTime (valid q): strict window, present values sorted, interpolation -/
def quantileOverTime (t : List Int) (range lodStep : Int) (q : Rat) (v : List Val) : List Val :=
  overTimeWith t range lodStep true (fun s => quantileSorted q (isort (present s))) none v

/-! ## topk / bottomk (one time shift) -/

def viewVals (ts : TS) (s : Series) : List Val := (s.vals.take ts.viewEnd).drop ts.viewStart

def nonDecreasing : List Rat → Bool
  | [] => true
  | [_] => true
  | a :: b :: rest => decide (a ≤ b) && nonDecreasing (b :: rest)

/-- evaluator.weight for a group: Σ v²·step over the view, or the last value when every series is non-decreasing -/
def weights (ts : TS) (g : List Series) : List Rat :=
  if g.all (fun s => nonDecreasing (present (viewVals ts s))) then
    g.map (fun s => ((present (s.vals.take ts.viewEnd)).getLast?).getD 0)
  else
    g.map (fun s => ratSum ((List.range s.vals.length).map (fun i =>
      if ts.viewStart ≤ i ∧ i < ts.viewEnd then
        (match s.vals.getD i none with | some v => v * v * ts.width i | none => 0)
      else 0)))

def insertBy (desc : Bool) (x : Rat × Series) : List (Rat × Series) → List (Rat × Series)
  | [] => [x]
  | y :: ys => if (if desc then decide (y.1 < x.1) else decide (x.1 < y.1)) then x :: y :: ys else y :: insertBy desc x ys

def hasPresentInView (ts : TS) (s : Series) : Bool := (present (viewVals ts s)).length ≠ 0

def topK (ts : TS) (desc : Bool) (k : Int) (without : Bool) (labels : List Nat) (ss : List Series) : List Series :=
  if k ≤ 0 then [] else
  let ss := if ts.viewStart = ts.viewEnd then ss else ss.filter (hasPresentInView ts)
  ((dedupKeys (ss.map (fun s => keyOf without labels s.tags))).map (fun key =>
    let g := ss.filter (fun s => keyOf without labels s.tags = key)
    let ws := (weights ts g).zip g
    ((ws.foldr (insertBy desc) []).take k.toNat).map (·.2))).flatten

/-! ## storage contract (internal/api QuerySeries: merge the rows of one group and bucket, select `what`) -/

inductive What | avg | count | countsec | min | max | sum | sumsec | stddev | stdvar
deriving DecidableEq, Repr

structure Row where
  count : Rat
  sum : Rat
  min : Rat
  max : Rat
  sumsq : Rat
deriving DecidableEq, Repr

def Row.ofEvent (v : Rat) : Row := ⟨1, v, v, v, v * v⟩

/-- tsValues.merge -/
def Row.merge (a b : Row) : Row :=
  { count := a.count + b.count, sum := a.sum + b.sum,
    min := if b.min < a.min then b.min else a.min,
    max := if a.max < b.max then b.max else a.max,
    sumsq := a.sumsq + b.sumsq }

def mergeRows : List Row → Option Row
  | [] => none
  | r :: rs => some (rs.foldl Row.merge r)

/-- tsValues.value (stableMulDiv is exact here) -/
def rowValue (w : What) (qstep lstep : Int) (r : Row) : Rat :=
  let sampleVar : Rat := if r.count < 2 then 0 else
    let x := (r.sumsq - r.sum * r.sum / r.count) / (r.count - 1)
    if x < 0 then 0 else x
  match w with
  | .count => r.count * qstep / lstep
  | .countsec => r.count / lstep
  | .sum => r.sum * qstep / lstep
  | .sumsec => r.sum / lstep
  | .avg => r.sum / r.count
  | .min => r.min
  | .max => r.max
  | .stdvar => sampleVar
  | .stddev => sqrtExact sampleVar

structure Event where
  series : Nat
  sec : Int
  val : Rat
deriving Repr

structure Store where
  tags : List Tags        -- stored series → its tags (indices 1..3)
  events : List Event     -- at most one event per (series, second); each is a row with count 1
deriving Repr

/-- the handler's query step: `qry.Range`, else `Timescale.Step`, else the step of the row's LOD -/
def queryStep (ts : TS) (range : Int) (rowStep : Int) : Int :=
  if range ≠ 0 then range else if ts.step ≠ 0 then ts.step else rowStep

def bucketRows (st : Store) (members : List Nat) (lo hi : Int) : List Row :=
  (st.events.filter (fun e => members.contains e.series && decide (lo ≤ e.sec) && decide (e.sec < hi))).map (fun e => Row.ofEvent e.val)

/-- QuerySeries: one series per group (by the tag indices in `groupBy`) that has at least one row on the time scale -/
def queryStorage (st : Store) (ts : TS) (w : What) (groupBy : List Nat) (range : Int) : List Series :=
  let keyed := (List.range st.tags.length).map (fun i => (keyOf false groupBy (st.tags.getD i []), i))
  ((dedupKeys (keyed.map (·.1))).map (fun k =>
    let members := (keyed.filter (fun p => p.1 = k)).map (·.2)
    let vals := (List.range ts.times.length).map (fun i =>
      let t := ts.times.getD i 0
      (mergeRows (bucketRows st members t (t + ts.width i))).map (rowValue w (queryStep ts range (ts.width i)) (ts.width i)))
    ({ tags := k, vals := vals } : Series))).filter (fun s => (present s.vals).length ≠ 0)

/-! ## reduction rules -/

/-- the AST nodes above the selector, as far as the rules look at them -/
inductive AstKind
  | agg (op : Option What) (without : Bool) (labels : List Nat)   -- AggregateExpr; `op` = what the rule maps it to (none: not reducible)
  | matrix (range : Int)
  | subquery (range : Int)
  | call (w : Option What) (needEq : Bool)                        -- over-time Call; needEq: stddev/stdvar need Range = step
  | other
deriving DecidableEq, Repr

structure Red where
  rule : Nat
  what : Option What := none
  step : Int := 0
  grouped : Bool := false
  groupBy : List Nat := []
  without : Bool := false
  upto : Nat := 0        -- index (bottom-up, in the chain) of the node the selector replaces
deriving DecidableEq, Repr

/-- reduceWhat -/
def reduceWhat (a : Option What) (b : What) : Option What × Bool :=
  match a with
  | none => (some b, true)
  | some a' =>
    if (a' = .sumsec && b = .sum) || (a' = .countsec && b = .count) then (some b, true)
    else if a' = b || (a' = .sum && b = .sumsec) || (a' = .count && b = .countsec) then (some a', true)
    else (some a', false)

def reduceMatrix (r : Red) (e : AstKind) (step : Int) : Option Red :=
  match e with
  | .matrix rng => if rng > step then none else some { r with step := rng }
  | _ => none
def reduceSubquery (r : Red) (e : AstKind) (step : Int) : Option Red :=
  match e with
  | .subquery rng => if rng > step then none else some { r with step := rng }
  | _ => none
def reduceOverTime (r : Red) (e : AstKind) (step : Int) : Option Red :=
  match e with
  | .call (some w) needEq =>
    if needEq && r.step ≠ step then none else
    let p := reduceWhat r.what w
    if p.2 then some { r with what := p.1 } else none
  | _ => none
def reduceAgg (r : Red) (e : AstKind) : Option Red :=
  match e with
  | .agg (some w) without labels =>
    let p := reduceWhat r.what w
    if p.2 then some { r with what := p.1, grouped := true, groupBy := labels, without := without } else none
  | _ => none

inductive RuleStep | agg | matrix | subquery | overTime
def reductionRules : List (List RuleStep) :=
  [[.agg], [.matrix, .overTime], [.matrix, .overTime, .agg], [.agg, .subquery, .overTime]]

def applyStep (s : RuleStep) (r : Red) (e : AstKind) (step : Int) : Option Red :=
  match s with
  | .agg => reduceAgg r e
  | .matrix => reduceMatrix r e step
  | .subquery => reduceSubquery r e step
  | .overTime => reduceOverTime r e step

/-- one depth level of evalReductionRules: returns the surviving candidates and the last completed reduction -/
def rulesLevel (depth : Nat) (e : AstKind) (idx : Nat) (step : Int) (curr : List Red) (res : Option Red) : List Red × Option Red :=
  curr.foldl (fun (acc : List Red × Option Red) r =>
    let s := reductionRules.getD r.rule []
    match s[depth]? with
    | none => acc
    | some st =>
      match applyStep st r e step with
      | none => acc
      | some r' =>
        let r' := { r' with upto := idx }
        if s.length = depth + 1 then (acc.1, some r') else (acc.1 ++ [r'], acc.2)) ([], res)

/-- evalReductionRules over the non-paren ancestors (bottom-up), each with its chain index -/
def rulesLoop : Nat → List (AstKind × Nat) → Int → List Red → Option Red → Option Red
  | _, [], _, _, res => res
  | depth, (e, idx) :: rest, step, curr, res =>
    if curr.isEmpty then res else
    let p := rulesLevel depth e idx step curr res
    rulesLoop (depth + 1) rest step p.1 p.2

def evalReductionRules (seed : Option What) (nodes : List (AstKind × Nat)) (step : Int) : Option Red :=
  rulesLoop 0 nodes step ((List.range reductionRules.length).map (fun i => { rule := i, what := seed })) none

/-! ## expressions: a chain of unary nodes over one vector selector -/

inductive Node
  | agg (op : AggOp) (without : Bool) (labels : List Nat)
  | quantile (q : Rat) (without : Bool) (labels : List Nat)
  | topk (desc : Bool) (k : Int) (without : Bool) (labels : List Nat)
  | ot (f : OtFn) (range : Int) (sub : Bool)       -- f_over_time(X[range]) / f_over_time((X)[range:])
  | qot (q : Rat) (range : Int) (sub : Bool)       -- quantile_over_time(q, X[range])
  | paren
  | brk                                            -- (X + 0): same values, never matches a reduction rule
deriving Repr

def aggWhat : AggOp → Option What
  | .avg => some .avg | .min => some .min | .max => some .max | .sum => some .sumsec | .count => some .countsec
  | _ => none
def otWhat : OtFn → Option What × Bool
  | .avg => (some .avg, false) | .min => (some .min, false) | .max => (some .max, false)
  | .sum => (some .sum, false) | .count => (some .count, false)
  | .stddev => (some .stddev, true) | .stdvar => (some .stdvar, true)
  | .last => (none, false)

/-- the AST nodes a chain node stands for (bottom-up), parens dropped -/
def astOf (idx : Nat) : Node → List (AstKind × Nat)
  | .agg op wo ls => [(.agg (aggWhat op) wo ls, idx)]
  | .quantile _ _ _ => [(.other, idx)]
  | .topk _ _ _ _ => [(.other, idx)]
  | .ot f rng sub => [(if sub then .subquery rng else .matrix rng, idx), (.call (otWhat f).1 (otWhat f).2, idx)]
  | .qot _ rng sub => [(if sub then .subquery rng else .matrix rng, idx), (.other, idx)]
  | .paren => []
  | .brk => [(.other, idx)]

def astList : Nat → List Node → List (AstKind × Nat)
  | _, [] => []
  | i, n :: ns => astOf i n ++ astList (i + 1) ns

def allTags : List Nat := [1, 2, 3]

/-- one engine-side node applied to the series below it -/
def applyNode (cfg : Cfg) (ts : TS) (n : Node) (ss : List Series) : List Series :=
  let len := ts.times.length
  match n with
  | .agg op wo ls => aggregate len (aggApply cfg op) wo ls ss
  | .quantile q wo ls => aggregate len (aggQuantile q) wo ls ss
  | .topk desc k wo ls => topK ts desc k wo ls ss
  | .ot f rng _ => ss.map (fun s => { s with vals := overTime ts.times rng ts.lodStep f s.vals })
  | .qot q rng _ => ss.map (fun s => { s with vals := quantileOverTime ts.times rng ts.lodStep q s.vals })
  | .paren => ss
  | .brk => ss

/-- evaluator.eval of the chain `nodes` (bottom-up) over the selector with optional explicit `__what__` -/
def evalChain (cfg : Cfg) (st : Store) (ts : TS) (selWhat : Option What) (nodes : List Node) : List Series :=
  let seed := if cfg.whatFix then selWhat else none
  match evalReductionRules seed (astList 0 nodes) ts.lodStep with
  | some red =>
    let what := if cfg.whatFix then red.what.getD .avg else selWhat.getD .avg
    let groupBy := if red.grouped then (if red.without then allTags.filter (fun t => !red.groupBy.contains t) else red.groupBy) else allTags
    (nodes.drop (red.upto + 1)).foldl (fun ss n => applyNode cfg ts n ss) (queryStorage st ts what groupBy red.step)
  | none =>
    nodes.foldl (fun ss n => applyNode cfg ts n ss) (queryStorage st ts (selWhat.getD .avg) allTags 0)

/-! ### variant: the range of a subquery / matrix selector stored BEFORE its operand is evaluated (seeded/C27-r3-2)

  evaluator.eval sets `ev.r = e.Range` AFTER evaluating the operand of a MatrixSelector / SubqueryExpr; every Call resets
  `ev.r = 0` when it returns.  If the assignment is moved before the operand's evaluation, a Call executed inside the
  operand (one that was not replaced by a reduction) leaves `ev.r = 0` behind and the outer window degenerates to a single
  point.  `evalChain` models the real order (the node's own range is used); this variant models the mutation. -/

def isCallNode : Node → Bool
  | .ot _ _ _ => true
  | .qot _ _ _ => true
  | _ => false

/-- the range the mutated evaluator uses for node `n` when `callBelow` says a Call was executed inside its operand -/
def earlyRange (n : Node) (callBelow : Bool) : Node :=
  match n with
  | .ot f rng sub => .ot f (if sub && callBelow then 0 else rng) sub
  | .qot q rng sub => .qot q (if sub && callBelow then 0 else rng) sub
  | n => n

def foldEarlyRange (cfg : Cfg) (ts : TS) : List Node → Bool → List Series → List Series
  | [], _, ss => ss
  | n :: ns, callBelow, ss => foldEarlyRange cfg ts ns (callBelow || isCallNode n) (applyNode cfg ts (earlyRange n callBelow) ss)

def evalChainEarlyRange (cfg : Cfg) (st : Store) (ts : TS) (selWhat : Option What) (nodes : List Node) : List Series :=
  let seed := if cfg.whatFix then selWhat else none
  match evalReductionRules seed (astList 0 nodes) ts.lodStep with
  | some red =>
    let what := if cfg.whatFix then red.what.getD .avg else selWhat.getD .avg
    let groupBy := if red.grouped then (if red.without then allTags.filter (fun t => !red.groupBy.contains t) else red.groupBy) else allTags
    foldEarlyRange cfg ts (nodes.drop (red.upto + 1)) false (queryStorage st ts what groupBy red.step)
  | none =>
    foldEarlyRange cfg ts nodes false (queryStorage st ts (selWhat.getD .avg) allTags 0)

/-- evaluator.exec: series without a present point in the view are removed, values trimmed to [StartX:] -/
def exec (cfg : Cfg) (st : Store) (ts : TS) (selWhat : Option What) (nodes : List Node) : List Series :=
  let ss := evalChain cfg st ts selWhat nodes
  let ss := if ts.viewStart = ts.viewEnd then ss else ss.filter (hasPresentInView ts)
  ss.map (fun s => { s with vals := s.vals.drop ts.startX })

/-! ## vector-vector binary operators (engine.go evalBinary, one-to-one matching) and expression trees -/

inductive BinOp | add | sub | mul | div | eq | gt | lt | ge | le
deriving DecidableEq, Repr

inductive Matching
  | dflt                       -- all labels
  | on (labels : List Nat)
  | ignoring (labels : List Nat)
deriving DecidableEq, Repr

/-- slice<Op> / sliceFilter<Cmp>: arithmetic on two present points; a comparison keeps the left point when it holds; a
    missing point (NaN) on either side gives a missing point.
    `scalarLeft`: the left operand is the label-less (scalar) side; evalBinary then keeps the RIGHT point and evaluates the
    comparison with swapped arguments and the operator table GTR→LTE, GTE→LSS, LSS→GTE, LTE→GTR as coded, i.e.
    `s > v` keeps v when v ≤ s and `s >= v` when v < s: on a tie this differs from the mirrored operator.  The harness
    regenerates cases with such a tie (reported as an observation, outside the property's operators). -/
def binVal (op : BinOp) (scalarLeft : Bool) (a b : Val) : Val :=
  match a, b with
  | some x, some y =>
    match op with
    | .add => some (x + y) | .sub => some (x - y) | .mul => some (x * y) | .div => some (x / y)
    | .eq => if x = y then some (if scalarLeft then y else x) else none
    | .gt => if scalarLeft then (if y ≤ x then some y else none) else (if x > y then some x else none)
    | .ge => if scalarLeft then (if y < x then some y else none) else (if x ≥ y then some x else none)
    | .lt => if scalarLeft then (if y ≥ x then some y else none) else (if x < y then some x else none)
    | .le => if scalarLeft then (if y > x then some y else none) else (if x ≤ y then some x else none)
  | _, _ => none

def zipVals (f : Val → Val → Val) (a b : List Val) : List Val :=
  (List.range a.length).map (fun i => f (a.getD i none) (b.getD i none))

/-- Series.scalar(): exactly one series and it carries no label -/
def isScalar (ss : List Series) : Bool :=
  match ss with
  | [s] => s.tags.isEmpty
  | _ => false

/-- the label set a series is matched by (SeriesTags.hash with on / tags) -/
def matchKey (m : Matching) (tags : Tags) : Tags :=
  match m with
  | .dflt => tags
  | .on ls => keyOf false ls tags
  | .ignoring ls => keyOf true ls tags

def hasDup : List Tags → Bool
  | [] => false
  | k :: ks => ks.contains k || hasDup ks

/-- evalBinary, CardOneToOne.  `none` = "label set match multiple series".  A label-less single series on either side is
    applied to every series of the other side (the engine's scalar convention); otherwise every left series with a partner
    of the same matching label set survives, keeping the matching labels only (on / ignoring) or all of its labels. -/
def binApply (op : BinOp) (m : Matching) (l r : List Series) : Option (List Series) :=
  if isScalar r then
    some (l.map (fun s => { s with vals := zipVals (binVal op false) s.vals ((r.head?.map (·.vals)).getD []) }))
  else if isScalar l then
    some (r.map (fun s => { s with vals := zipVals (binVal op true) ((l.head?.map (·.vals)).getD []) s.vals }))
  else if hasDup (l.map (fun s => matchKey m s.tags)) || hasDup (r.map (fun s => matchKey m s.tags)) then none
  else
    some (l.filterMap (fun s =>
      (r.find? (fun s' => matchKey m s'.tags = matchKey m s.tags)).map (fun s' =>
        { tags := matchKey m s.tags, vals := zipVals (binVal op false) s.vals s'.vals })))

/-- expressions: unary nodes over a selector or over a vector-vector binary operation -/
inductive Expr
  | sel (what : Option What)
  | un (n : Node) (e : Expr)
  | bin (op : BinOp) (m : Matching) (l r : Expr)
deriving Repr

def skipsOperand : Node → Bool
  | .topk _ k _ _ => decide (k ≤ 0)      -- funcTopK returns before evaluating its operand
  | _ => false

/-- evaluator.eval on a tree; `above` = the unary nodes between this expression and the nearest binary operator (or the
    root) above it, bottom-up: only those can take part in a reduction of the selector below them -/
def evalE (cfg : Cfg) (st : Store) (ts : TS) : Expr → List Node → Option (List Series)
  | .sel w, above => some (evalChain cfg st ts w above)
  | .un n e, above =>
    if skipsOperand n then some (above.foldl (fun ss n' => applyNode cfg ts n' ss) [])
    else evalE cfg st ts e (n :: above)
  | .bin op m l r, above =>
    match evalE cfg st ts l [], evalE cfg st ts r [] with
    | some a, some b => (binApply op m a b).map (fun ss => above.foldl (fun ss n' => applyNode cfg ts n' ss) ss)
    | _, _ => none

def execE (cfg : Cfg) (st : Store) (ts : TS) (e : Expr) : Option (List Series) :=
  (evalE cfg st ts e []).map (fun ss =>
    let ss := if ts.viewStart = ts.viewEnd then ss else ss.filter (hasPresentInView ts)
    ss.map (fun s => { s with vals := s.vals.drop ts.startX }))

/-! ## extended reals: ±Inf are points, only NaN is "no point"

  float64 points can be infinite (division by zero, overflow, quantile with q outside [0,1]); the operators must treat them
  as present points.  `ERat` = −∞ | finite | +∞; a missing point is `none` and NEVER one of these values.  Arithmetic whose
  float result is NaN (∞ − ∞, ∞ · 0) yields `none`: downstream that NaN is a missing point.  This layer models the
  operators on such columns (harness stream `xeval`: one operator over `(m + 0)` times 2^1008 / divided by 0 / …).
  Variants: `eMaxSentinel` = seeded/C27-r5-1 (−∞ as "nothing seen yet"); `eMinOverTimeOld` / `eMaxOverTimeOld` and
  `eInterpOld` = the tree before fixes/C27-infinite-points.diff (±MaxFloat64 start values; v1·w1 + v2·w2 with a zero weight). -/

inductive ERat | ninf | fin (q : Rat) | pinf
deriving DecidableEq, Repr

abbrev EVal := Option ERat

def ERat.lt : ERat → ERat → Bool
  | .ninf, .ninf => false
  | .ninf, _ => true
  | .fin _, .ninf => false
  | .fin a, .fin b => decide (a < b)
  | .fin _, .pinf => true
  | .pinf, _ => false

def ERat.le (a b : ERat) : Bool := !(ERat.lt b a)

/-- float addition; `none` = NaN -/
def ERat.add : ERat → ERat → EVal
  | .fin a, .fin b => some (.fin (a + b))
  | .pinf, .ninf => none
  | .ninf, .pinf => none
  | .pinf, _ => some .pinf
  | _, .pinf => some .pinf
  | .ninf, _ => some .ninf
  | _, .ninf => some .ninf

def EVal.add (a b : EVal) : EVal :=
  match a, b with
  | some x, some y => ERat.add x y
  | _, _ => none

/-- multiplication by a finite weight w ≥ 0 (∞ · 0 = NaN) -/
def ERat.mulW (a : ERat) (w : Rat) : EVal :=
  match a with
  | .fin x => some (.fin (x * w))
  | .pinf => if w = 0 then none else some .pinf
  | .ninf => if w = 0 then none else some .ninf

/-- division by a positive count -/
def ERat.divN (a : ERat) (n : Nat) : ERat :=
  match a with
  | .fin x => .fin (x / (n : Rat))
  | e => e

def epresent (col : List EVal) : List ERat := col.filterMap id

/-- funcMax (HEAD): `if nan || res < v {res = v}` -/
def eMaxStep (acc : EVal) (v : EVal) : EVal :=
  match v, acc with
  | none, a => a
  | some x, none => some x
  | some x, some r => if ERat.lt r x then some x else some r
def eMax (col : List EVal) : EVal := col.foldl eMaxStep none

/-- funcMin (HEAD) -/
def eMinStep (acc : EVal) (v : EVal) : EVal :=
  match v, acc with
  | none, a => a
  | some x, none => some x
  | some x, some r => if ERat.lt x r then some x else some r
def eMin (col : List EVal) : EVal := col.foldl eMinStep none

/-- seeded/C27-r5-1: start from −∞, compare (`res < v` is false for NaN), and afterwards read −∞ as "no point" -/
def eMaxSentinel (col : List EVal) : EVal :=
  let res := col.foldl (fun (r : ERat) v => match v with | some x => if ERat.lt r x then x else r | none => r) .ninf
  if res = .ninf then none else some res

/-- funcSum: `if nan {res = v; nan = false} else {res += v}`; state none = nothing seen yet -/
def eSumStep (st : Option EVal) (v : EVal) : Option EVal :=
  match v, st with
  | none, s => s
  | some x, none => some (some x)
  | some x, some r => some (EVal.add r (some x))
def eSum (col : List EVal) : EVal := (col.foldl eSumStep none).getD none

def eAcc (l : List ERat) : EVal := l.foldl (fun acc x => EVal.add acc (some x)) (some (.fin 0))

/-- funcAvg / funcAvgOverTime: `res += v; cnt++`, then res / cnt -/
def eAvg (col : List EVal) : EVal :=
  if (epresent col).length = 0 then none else (eAcc (epresent col)).map (fun e => e.divN (epresent col).length)

def eCount (col : List EVal) : EVal := some (.fin ((epresent col).length : Rat))
def eGroup (col : List EVal) : EVal := if (epresent col).length = 0 then none else some (.fin 1)

def eInsert (x : ERat) : List ERat → List ERat
  | [] => [x]
  | y :: ys => if ERat.le x y then x :: y :: ys else y :: eInsert x ys
def eSort (l : List ERat) : List ERat := l.foldr eInsert []

/-- `interpolate` of the fixed tree: a point with zero weight does not take part -/
def eInterp (x1 : ERat) (w1 : Rat) (x2 : ERat) (w2 : Rat) : EVal :=
  if w2 = 0 then some x1 else if w1 = 0 then some x2 else EVal.add (x1.mulW w1) (x2.mulW w2)
/-- before fixes/C27-infinite-points.diff: v1·w1 + v2·w2 unconditionally -/
def eInterpOld (x1 : ERat) (w1 : Rat) (x2 : ERat) (w2 : Rat) : EVal := EVal.add (x1.mulW w1) (x2.mulW w2)

def eQuantileSortedWith (interp : ERat → Rat → ERat → Rat → EVal) (q : Rat) (xs : List ERat) : EVal :=
  if xs.length = 0 then none else
  let ix : Rat := q * ((xs.length : Rat) - 1)
  let i1 : Nat := ix.floor.toNat
  let i2 : Nat := min (xs.length - 1) (i1 + 1)
  let w1 : Rat := (i2 : Rat) - ix
  let w2 : Rat := 1 - w1
  interp (xs.getD i1 (.fin 0)) w1 (xs.getD i2 (.fin 0)) w2
/-- q outside [0,1] (Prometheus: −∞ for q < 0, +∞ for q > 1) — for a column / window that has a point; nothing otherwise
    (fixes/C27-quantile-out-of-range.diff; `eQuantileOutOld`: the tree before it fills the value in unconditionally) -/
def eQuantile (q : Rat) (col : List EVal) : EVal :=
  if q < 0 then (if (epresent col).length = 0 then none else some .ninf)
  else if q > 1 then (if (epresent col).length = 0 then none else some .pinf)
  else eQuantileSortedWith eInterp q (eSort (epresent col))
def eQuantileOutOld (q : Rat) (_col : List EVal) : EVal :=
  if q < 0 then some .ninf else some .pinf
def eQuantileOld (q : Rat) (col : List EVal) : EVal := eQuantileSortedWith eInterpOld q (eSort (epresent col))

/-- math.MaxFloat64 -/
def maxFloat64 : Rat := ((2 ^ 1024 - 2 ^ 971 : Nat) : Rat)

/-- funcMinOverTime / funcMaxOverTime before the fix: ±MaxFloat64 as the start value -/
def eMinOverTimeOld (s : List EVal) : EVal :=
  if (epresent s).length = 0 then none
  else some ((epresent s).foldl (fun r x => if ERat.lt x r then x else r) (.fin maxFloat64))
def eMaxOverTimeOld (s : List EVal) : EVal :=
  if (epresent s).length = 0 then none
  else some ((epresent s).foldl (fun r x => if ERat.lt r x then x else r) (.fin (-maxFloat64)))

def eSumOverTime (s : List EVal) : EVal := if (epresent s).length = 0 then none else eAcc (epresent s)

inductive EOp | max | min | sum | avg | count | group | quantile (q : Rat)
  | otMax (r : Int) | otMin (r : Int) | otSum (r : Int) | otAvg (r : Int) | otCount (r : Int) | otLast (r : Int) | otQuantile (q : Rat) (r : Int)
deriving Repr

structure ESeries where
  tags : Tags
  vals : List EVal
deriving DecidableEq, Repr

def eColumns (n : Nat) (ss : List ESeries) : List (List EVal) :=
  (List.range n).map (fun i => ss.map (fun s => s.vals.getD i none))

def eAggregate (n : Nat) (f : List EVal → EVal) (without : Bool) (labels : List Nat) (ss : List ESeries) : List ESeries :=
  (dedupKeys (ss.map (fun s => keyOf without labels s.tags))).map (fun k =>
    { tags := k, vals := (eColumns n (ss.filter (fun s => keyOf without labels s.tags = k))).map f })

def eOverTime (ts : TS) (r : Int) (strict : Bool) (fn : List EVal → EVal) (nilV : EVal) (ss : List ESeries) : List ESeries :=
  ss.map (fun s => { s with vals := overTimeWith ts.times r ts.lodStep strict fn nilV s.vals })

/-- one operator of functions.go (fixed tree) on series with possibly infinite points -/
def eApply (ts : TS) (op : EOp) (without : Bool) (labels : List Nat) (ss : List ESeries) : List ESeries :=
  let n := ts.times.length
  match op with
  | .max => eAggregate n eMax without labels ss
  | .min => eAggregate n eMin without labels ss
  | .sum => eAggregate n eSum without labels ss
  | .avg => eAggregate n eAvg without labels ss
  | .count => eAggregate n eCount without labels ss
  | .group => eAggregate n eGroup without labels ss
  | .quantile q => eAggregate n (eQuantile q) without labels ss
  | .otMax r => eOverTime ts r false eMax none ss
  | .otMin r => eOverTime ts r false eMin none ss
  | .otSum r => eOverTime ts r true eSumOverTime none ss
  | .otAvg r => eOverTime ts r false eAvg none ss
  | .otCount r => eOverTime ts r true eCount (some (.fin 0)) ss
  | .otLast r => eOverTime ts r false (fun s => (epresent s).getLast?) none ss
  | .otQuantile q r => eOverTime ts r true (eQuantile q) none ss

/-- evaluator.exec on the result -/
def eExec (ts : TS) (op : EOp) (without : Bool) (labels : List Nat) (ss : List ESeries) : List ESeries :=
  let out := eApply ts op without labels ss
  let out := if ts.viewStart = ts.viewEnd then out
    else out.filter (fun s => (epresent ((s.vals.take ts.viewEnd).drop ts.viewStart)).length ≠ 0)
  out.map (fun s => { s with vals := s.vals.drop ts.startX })

end SH.PromEval
