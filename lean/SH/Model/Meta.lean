/-
  SH.Model.Meta — executable model of the metadata service's durable state (internal/metadata):
  entities (`metrics_v5`), their history (`entity_history`), tag mappings (`mappings`), flood limits
  (`flood_limits`), the bootstrap blob and the two AUTOINCREMENT high-water marks.  Core Lean only.

  Modelled functions (one model step = one `eng.Do` callback = one SQLite savepoint on the single RW connection):
    dbv2.go          SaveEntity, JournalEvents, GetEntityVersioned, GetHistoryShort, GetMappingByValue, GetMappingByID,
                     GetNewMappings, ResetFlood (incl. `getFreeCount`, which reads the literal metric "abc2"),
                     deleteMappingsByIdBatched, PutMapping, calcBudget, roundTime
    rules.go         resolveEntity = checkNamespace ; resolveNamespace ; checkCreateEntity
    binlog_event.go  getOrCreateMapping, putMapping, insertHistory
  SQLite itself is trusted and appears as: PRIMARY KEY / UNIQUE constraints = explicit `conflict` checks that make the
  statement fail, AUTOINCREMENT = `seq + 1` with `seq` never lowered, `INSERT OR REPLACE` = delete the rows that
  conflict on any unique column, then insert.

  Tokens.  Strings of the real system are opaque to the model: an entity name is a pair `⟨ns, loc⟩` rendered by
  the harness as "w<ns>:w<loc>" (ns > 0) or "w<loc>" (ns = 0), so that `format.SplitNamespace` of the rendered
  string is the rendering of `⟨0, ns⟩`; data, metadata, mapping keys and metric names are natural numbers
  (metric 0 is rendered "abc2", the name `getFreeCount` hard-codes).
-/
import SH.Model.Core

namespace SH.Meta

/-! ### configuration and rows -/

structure Cfg where
  maxBudget : Int
  step : Nat
  bonus : Int
  globalBudget : Int
deriving DecidableEq, Repr

structure Name where
  ns : Nat
  loc : Nat
deriving DecidableEq, Repr

/-- format.MetricEvent … format.NamespaceEvent -/
def tMetric : Nat := 0
def tDashboard : Nat := 1
def tGroup : Nat := 2
def tProm : Nat := 3
def tNamespace : Nat := 4

/-- a row of `metrics_v5` -/
structure Entity where
  id : Int
  name : Name
  nsId : Int
  version : Nat
  updatedAt : Nat
  deletedAt : Nat
  data : Nat
  dataLen : Nat
  typ : Nat
deriving DecidableEq, Repr

/-- `tlmetadata.Event` as returned by SaveEntity, and (the same fields) a row of `entity_history` -/
structure Event where
  id : Int
  name : Name
  nsId : Int
  version : Nat
  updatedAt : Nat
  deletedAt : Nat
  data : Nat
  dataLen : Nat
  typ : Nat
  mdata : Nat
deriving DecidableEq, Repr

/-- a row of `flood_limits` -/
structure Flood where
  metric : Nat
  last : Nat
  free : Int
deriving DecidableEq, Repr

structure State where
  ents : List Entity            -- kept sorted by id (the order SQLite scans the table in)
  entSeq : Nat                  -- sqlite_sequence(metrics_v5)
  hist : List Event             -- in insertion order
  maps : List (Int × Nat)       -- (id, key)
  mapSeq : Nat                  -- sqlite_sequence(mappings)
  flood : List Flood
  lastCreated : Int             -- DBV2.lastMappingIDToInsert (volatile)
  bootstrap : Option (List (Nat × Int))   -- property.bootstrap; written by no `Meta.Op`, only by Replay.pstep / applyEvent (C16)
deriving DecidableEq, Repr

def State.empty : State :=
  { ents := [], entSeq := 0, hist := [], maps := [], mapSeq := 0, flood := [], lastCreated := 0, bootstrap := none }

def two32 : Nat := 4294967296

/-! ### entities: SaveEntity -/

structure SaveReq where
  name : Name
  id : Int
  oldVersion : Nat
  data : Nat
  dataLen : Nat
  create : Bool
  deleteTime : Nat
  typ : Nat
  mdata : Nat
  now : Nat
deriving DecidableEq, Repr

inductive Err where
  | nsMissing        -- errNamespaceNotExists
  | renameNs         -- "can't rename namespace"
  | exists           -- errMetricIsExist
  | invalidVersion   -- errInvalidMetricVersion
  | constraint       -- SQLite UNIQUE constraint failed
deriving DecidableEq, Repr

inductive SaveOut where
  | ok (ev : Event) (created : Bool)
  | err (e : Err)
deriving DecidableEq, Repr

def maxVer (ents : List Entity) : Nat := ents.foldr (fun e m => max e.version m) 0

/-- `SELECT … WHERE id = $id` (id is the primary key) -/
def rowOf (ents : List Entity) (id : Int) : Option Entity := ents.find? (fun e => e.id == id)

/-- loadNamespaceName: `WHERE type = namespace AND id = $id AND version = $version` -/
def nsRow (ents : List Entity) (id : Int) (v : Nat) : Option Entity :=
  ents.find? (fun e => e.typ == tNamespace && e.id == id && e.version == v)

/-- resolveNamespace: `SELECT id WHERE type = namespace AND name = $namespaceName` (first row in id order) -/
def nsLookup (ents : List Entity) (k : Nat) : Option Entity :=
  ents.find? (fun e => e.typ == tNamespace && e.name == (⟨0, k⟩ : Name))

/-- checkCreateEntity: `SELECT id WHERE type = $type AND name = $name` has a row -/
def nameTaken (ents : List Entity) (typ : Nat) (name : Name) : Bool :=
  ents.any (fun e => e.typ == typ && e.name == name)

/-- UNIQUE (namespace_id, type, name) would be violated by a row `selfId` carrying this triple -/
def conflict (ents : List Entity) (selfId : Int) (nsId : Int) (typ : Nat) (name : Name) : Bool :=
  ents.any (fun e => e.id != selfId && e.nsId == nsId && e.typ == typ && e.name == name)

def isNsEdit (a : SaveReq) : Bool := a.typ == tNamespace && !a.create

/-- rules.go checkNamespace -/
def checkNamespace (s : State) (a : SaveReq) : Option Err :=
  if isNsEdit a then
    match nsRow s.ents a.id a.oldVersion with
    | none => some .nsMissing
    | some r => if r.name != a.name then some .renameNs else none
  else none

def needsNs (a : SaveReq) : Bool := (a.typ == tMetric || a.typ == tGroup) && a.name.ns != 0

/-- rules.go resolveNamespace -/
def resolveNs (s : State) (a : SaveReq) : Except Err Int :=
  if needsNs a then
    match nsLookup s.ents a.name.ns with
    | none => .error .nsMissing
    | some r => .ok r.id
  else .ok 0

def createBlocked (s : State) (a : SaveReq) : Bool := a.create && nameTaken s.ents a.typ a.name

/-- `createMetric` after the `id < 0` block of SaveEntity -/
def effCreate (s : State) (a : SaveReq) : Bool :=
  if a.id < 0 then (rowOf s.ents a.id).isNone else a.create

def mkEvent (a : SaveReq) (id : Int) (v : Nat) (nsId : Int) : Event :=
  { id := id, name := a.name, nsId := nsId, version := v, updatedAt := a.now % two32, deletedAt := a.deleteTime,
    data := a.data, dataLen := a.dataLen, typ := a.typ, mdata := a.mdata }

def insertById (e : Entity) : List Entity → List Entity
  | [] => [e]
  | x :: xs => if e.id < x.id then e :: x :: xs else x :: insertById e xs

/-- the UPDATE of SaveEntity: every column but `id` and `type` is overwritten -/
def editedRow (r : Entity) (a : SaveReq) (v : Nat) (nsId : Int) : Entity :=
  { r with version := v, data := a.data, dataLen := a.dataLen, updatedAt := a.now, name := a.name,
           deletedAt := a.deleteTime, nsId := nsId }

def replaceRow (r' : Entity) (ents : List Entity) : List Entity :=
  ents.map (fun e => if e.id == r'.id then r' else e)

/-- which SaveEntity is modelled:
    `Variant.old`     = the pinned tree;
    `Variant.untyped` = + fixes/C15-builtin-namespace-rename.diff (commit 36b353ab): a "create" of an existing builtin namespace
                        runs checkNamespace;
    `Variant.fixed`   = + fixes/C15-edit-type-mismatch.proposal.diff (commit fb668983): the edit path selects the row by (id, version, TYPE), so a
                        request of a foreign type gets errInvalidMetricVersion. This is the current code. -/
inductive Variant where
  | old
  | untyped
  | fixed
deriving DecidableEq, Repr

/-- `AND type = $type` of the edit path's row selection (fb668983) -/
def typeMatches (var : Variant) (r : Entity) (a : SaveReq) : Bool :=
  match var with
  | .fixed => r.typ == a.typ
  | _ => true

def versionMatches (r : Entity) (a : SaveReq) : Bool := r.version == a.oldVersion

/-- `SELECT … WHERE version = $oldVersion AND id = $id AND type = $type` finds the row -/
def rowMatches (var : Variant) (r : Entity) (a : SaveReq) : Bool := versionMatches r a && typeMatches var r a

def saveEdit (var : Variant) (s : State) (a : SaveReq) (nsId : Int) : State × SaveOut :=
  match rowOf s.ents a.id with
  | none => (s, .err .invalidVersion)
  | some r =>
    if rowMatches var r a then
      if conflict s.ents r.id nsId r.typ a.name then (s, .err .constraint)
      else
        let v := maxVer s.ents + 1
        let ev := mkEvent a r.id v nsId
        ({ s with ents := replaceRow (editedRow r a v nsId) s.ents, hist := s.hist ++ [ev] }, .ok ev false)
    else (s, .err .invalidVersion)

def newId (s : State) (a : SaveReq) : Int := if a.id < 0 then a.id else ((s.entSeq + 1 : Nat) : Int)
def newSeq (s : State) (a : SaveReq) : Nat := if a.id < 0 then s.entSeq else s.entSeq + 1

def createdRow (a : SaveReq) (id : Int) (v : Nat) (nsId : Int) : Entity :=
  { id := id, name := a.name, nsId := nsId, version := v, updatedAt := a.now, deletedAt := a.deleteTime,
    data := a.data, dataLen := a.dataLen, typ := a.typ }

def saveCreate (s : State) (a : SaveReq) (nsId : Int) : State × SaveOut :=
  if conflict s.ents (newId s a) nsId a.typ a.name then (s, .err .constraint)
  else
    let v := maxVer s.ents + 1
    let ev := mkEvent a (newId s a) v nsId
    ({ s with ents := insertById (createdRow a (newId s a) v nsId) s.ents, entSeq := newSeq s a, hist := s.hist ++ [ev] },
     .ok ev true)

/-- the request reached the edit path although its create flag is set (only possible for an existing negative id) -/
def lateNsEdit (a : SaveReq) : Bool := a.typ == tNamespace && a.create

/-- the fix: checkNamespace(…, createEntity = false) inside the `id < 0` block when the row exists -/
def lateCheck (var : Variant) (s : State) (a : SaveReq) : Option Err :=
  match var with
  | .old => none
  | _ =>
    if lateNsEdit a then
      match nsRow s.ents a.id a.oldVersion with
      | none => some .nsMissing
      | some r => if r.name != a.name then some .renameNs else none
    else none

def saveResolved (var : Variant) (s : State) (a : SaveReq) (nsId : Int) : State × SaveOut :=
  if createBlocked s a then (s, .err .exists)
  else if effCreate s a then saveCreate s a nsId
  else
    match lateCheck var s a with
    | some e => (s, .err e)
    | none => saveEdit var s a nsId

/-- dbv2.go SaveEntity (one transaction) -/
def saveV (var : Variant) (s : State) (a : SaveReq) : State × SaveOut :=
  match checkNamespace s a with
  | some e => (s, .err e)
  | none =>
    match resolveNs s a with
    | .error e => (s, .err e)
    | .ok nsId => saveResolved var s a nsId

/-- the behaviour the theorems are about and the driver replays (the fixed code) -/
def save (s : State) (a : SaveReq) : State × SaveOut := saveV .fixed s a

/-! ### journal and history reads -/

def insertByVer (e : Entity) : List Entity → List Entity
  | [] => [e]
  | x :: xs => if e.version < x.version then e :: x :: xs else x :: insertByVer e xs

def sortByVer (l : List Entity) : List Entity := l.foldr insertByVer []

/-- `SELECT … FROM metrics_v5 WHERE version > $version ORDER BY version asc` -/
def journalRows (ents : List Entity) (since : Nat) : List Entity :=
  sortByVer (ents.filter (fun e => since < e.version))

def metricCountReadLimit : Int := 1000
def metricBytesReadLimit : Nat := 1024 * 1024

/-- the row loop of JournalEvents: append, then stop on the byte limit or on the count limit -/
def takeJournal (limit : Int) : Nat → Nat → List Entity → List Entity
  | _, _, [] => []
  | n, bytes, e :: rest =>
    let bytes' := bytes + e.dataLen + 20
    if metricBytesReadLimit < bytes' then [e]
    else if limit ≤ ((n + 1 : Nat) : Int) then [e]
    else e :: takeJournal limit (n + 1) bytes' rest

def journalLimit (page : Int) : Int := if page < metricCountReadLimit then page else metricCountReadLimit

def journal (s : State) (since : Nat) (page : Int) : List Entity :=
  takeJournal (journalLimit page) 0 0 (journalRows s.ents since)

/-- GetEntityVersioned -/
def getVersioned (s : State) (id : Int) (v : Nat) : Option Event :=
  s.hist.find? (fun h => h.id == id && h.version == v)

def insertEvDesc (e : Event) : List Event → List Event
  | [] => [e]
  | x :: xs => if x.version < e.version then e :: x :: xs else x :: insertEvDesc e xs

/-- GetHistoryShort (the 4 MB response cut-off is not modelled) -/
def historyShort (s : State) (id : Int) : List Event :=
  (s.hist.filter (fun h => h.id == id)).foldr insertEvDesc []

/-! ### journal long-poll (rpc_handler.go RawGetJournal / broadcastJournal) -/

/-- a parked `metadata.getJournalnew` request: which client (harness token) and its `From` -/
structure Waiter where
  client : Nat
  since : Nat
deriving DecidableEq, Repr

/-- the per-client trim of broadcastJournal: `for len(ev) != 0 && ev[0].Version <= args.From { ev = ev[1:] }` -/
def trimSeen (since : Nat) (page : List Entity) : List Entity := page.dropWhile (fun e => decide (e.version ≤ since))

def minSince : List Waiter → Nat
  | [] => 0
  | [w] => w.since
  | w :: ws => min w.since (minSince ws)

/-- `h.db.JournalEvents(ctx, minVersion, 100)` of broadcastJournal -/
def broadcastPage (s : State) (ws : List Waiter) : List Entity :=
  if ws.isEmpty then [] else journal s (minSince ws) 100

def answered (page : List Entity) (w : Waiter) : Bool := !(trimSeen w.since page).isEmpty

/-- broadcastJournal: (clients still parked, replies as (client, events)); every reply carries
    CurrentVersion = version of the last event of the page, which is also the last event of the reply -/
def broadcast (s : State) (ws : List Waiter) : List Waiter × List (Nat × List Entity) :=
  (ws.filter (fun w => !answered (broadcastPage s ws) w),
   (ws.filter (answered (broadcastPage s ws))).map (fun w => (w.client, trimSeen w.since (broadcastPage s ws))))

/-- RawGetJournal: an immediate reply when something newer than `From` exists (or the client set return-if-empty),
    otherwise the request is parked (both JournalEvents calls of the handler see the same state: one model step) -/
def subscribe (s : State) (ws : List Waiter) (client since : Nat) (limit : Int) (returnIfEmpty : Bool) :
    List Waiter × Option (List Entity) :=
  if !(journal s since limit).isEmpty then (ws, some (journal s since limit))
  else if returnIfEmpty then (ws, some [])
  else (ws ++ [{ client := client, since := since }], none)

/-! ### mappings and flood limits -/

def u32 (x : Nat) : Nat := x % two32

/-- dbv2.go roundTime -/
def roundTime (now : Nat) (step : Nat) : Nat := u32 now - u32 now % step

/-- unsigned 32-bit subtraction `now - last` -/
def subU32 (now last : Nat) : Nat := (u32 now + two32 - u32 last) % two32

def overMax (old max : Int) : Bool := max < old

/-- dbv2.go calcBudget -/
def calcBudget (old expense : Int) (last now : Nat) (max bonus : Int) (step : Nat) : Int :=
  if overMax old max then old - expense
  else
    let res := old - expense + ((subU32 now last / step : Nat) : Int) * bonus
    if max ≤ res then max - expense else res

def lookupKey (maps : List (Int × Nat)) (key : Nat) : Option Int :=
  (maps.find? (fun p => p.2 == key)).map (·.1)

def lookupId (maps : List (Int × Nat)) (id : Int) : Option Nat :=
  (maps.find? (fun p => p.1 == id)).map (·.2)

def lookupFlood (fl : List Flood) (m : Nat) : Option Flood := fl.find? (fun f => f.metric == m)

def setFlood (fl : List Flood) (f : Flood) : List Flood := f :: fl.filter (fun g => g.metric != f.metric)

inductive MapOut where
  | got (id : Int)
  | created (id : Int)
  | flood
deriving DecidableEq, Repr

/-- `skipFloodLimitModification` -/
def skipFlood (c : Cfg) (s : State) : Bool := 0 < s.lastCreated && s.lastCreated ≤ c.globalBudget

/-- `INSERT INTO mappings (name) VALUES ($name)` on an AUTOINCREMENT table, and the bookkeeping of the caller -/
def insertMapping (s : State) (key : Nat) (fl : List Flood) : State × MapOut :=
  let id : Int := ((s.mapSeq + 1 : Nat) : Int)
  ({ s with maps := (id, key) :: s.maps, mapSeq := s.mapSeq + 1, flood := fl, lastCreated := id }, .created id)

def budgetFor (c : Cfg) (s : State) (f : Flood) (pred : Nat) : Int :=
  if skipFlood c s then c.maxBudget else calcBudget f.free 1 (u32 f.last) pred c.maxBudget c.bonus c.step

def floodHit (c : Cfg) (s : State) (f : Flood) (pred : Nat) : Bool :=
  !skipFlood c s && budgetFor c s f pred < 0

def createMapping (c : Cfg) (s : State) (metric key now : Nat) : State × MapOut :=
  let pred := roundTime now c.step
  match lookupFlood s.flood metric with
  | some f =>
    if floodHit c s f pred then (s, .flood)
    else insertMapping s key (setFlood s.flood { metric := metric, last := pred, free := budgetFor c s f pred })
  | none => insertMapping s key (setFlood s.flood { metric := metric, last := pred, free := c.maxBudget - 1 })

/-- binlog_event.go getOrCreateMapping + the `lastMappingIDToInsert` update of DBV2.GetOrCreateMapping -/
def getOrCreate (c : Cfg) (s : State) (metric key now : Nat) : State × MapOut :=
  match lookupKey s.maps key with
  | some id => (s, .got id)
  | none => createMapping c s metric key now

/-- `INSERT OR REPLACE INTO mappings(id, name)`: rows conflicting on id or on name are deleted first -/
def putOne (s : State) (key : Nat) (id : Int) : State :=
  { s with maps := (id, key) :: s.maps.filter (fun p => p.1 != id && p.2 != key),
           mapSeq := if (s.mapSeq : Int) < id then id.toNat else s.mapSeq }

/-- binlog_event.go putMapping -/
def putMany (s : State) : List (Nat × Int) → State
  | [] => s
  | (k, v) :: rest => putMany (putOne s k v) rest

/-- dbv2.go deleteMappingsByIdBatched: (state, countBeforeDeletion) -/
def deleteIds (s : State) (ids : List Int) : State × Nat :=
  ({ s with maps := s.maps.filter (fun p => !ids.contains p.1) }, (s.maps.filter (fun p => ids.contains p.1)).length)

def maxResetLimit : Int := 10000

def resetAfter (c : Cfg) (limit : Int) : Int :=
  if limit ≤ 0 then c.maxBudget else if maxResetLimit < limit then maxResetLimit else limit

/-- getFreeCount reads the flood row of the literal metric "abc2" (token 0) -/
def freeCount (c : Cfg) (s : State) : Int :=
  match lookupFlood s.flood 0 with
  | some f => f.free
  | none => c.maxBudget

/-- dbv2.go ResetFlood: (state, before, after) -/
def resetFlood (c : Cfg) (s : State) (metric : Nat) (limit : Int) (now : Nat) : State × Int × Int :=
  if limit ≤ 0 then
    ({ s with flood := s.flood.filter (fun g => g.metric != metric) }, freeCount c s, resetAfter c limit)
  else
    ({ s with flood := setFlood s.flood { metric := metric, last := now, free := resetAfter c limit } },
     freeCount c s, resetAfter c limit)

def insertPairById (p : Int × Nat) : List (Int × Nat) → List (Int × Nat)
  | [] => [p]
  | x :: xs => if p.1 < x.1 then p :: x :: xs else x :: insertPairById p xs

def sortedMaps (s : State) : List (Int × Nat) := s.maps.foldr insertPairById []

def mappingCountReadLimit : Int := 50000

def takeCount (limit : Int) : Nat → List (Int × Nat) → List (Int × Nat)
  | _, [] => []
  | n, p :: rest => if limit ≤ ((n + 1 : Nat) : Int) then [p] else p :: takeCount limit (n + 1) rest

def maxMapId (s : State) : Int := (sortedMaps s).foldl (fun _ p => p.1) 0

/-- GetNewMappings without deletion candidates (the byte limit is not modelled: keys are short) -/
def newMappings (s : State) (fromId : Int) (page : Int) : List (Int × Nat) × Int :=
  let limit := if page < mappingCountReadLimit then page else mappingCountReadLimit
  (takeCount limit 0 ((sortedMaps s).filter (fun p => fromId < p.1)),
   if s.maps.isEmpty then 0 else maxMapId s)

/-! ### one operation of the service -/

inductive Op where
  | save (a : SaveReq)
  | getOrCreate (metric key now : Nat)
  | put (kvs : List (Nat × Int))
  | delete (ids : List Int)
  | reset (metric : Nat) (limit : Int) (now : Nat)
deriving DecidableEq, Repr

/-- state transition of the write operations (reads do not change the state) -/
def step (c : Cfg) (s : State) : Op → State
  | .save a => (save s a).1
  | .getOrCreate m k now => (getOrCreate c s m k now).1
  | .put kvs => putMany s kvs
  | .delete ids => (deleteIds s ids).1
  | .reset m l now => (resetFlood c s m l now).1

def run (c : Cfg) (s : State) (ops : List Op) : State := ops.foldl (step c) s

/-! ### restart -/

/-- Close + OpenDB on the same files: everything durable survives, `lastMappingIDToInsert` starts again from 0 (OpenDB does
    not restore it), so the next creation is NOT exempted by the global budget -/
def reopen (s : State) : State := { s with lastCreated := 0 }

/-- histories with restarts (kept apart from `Op`, which C16's replay model matches on exhaustively) -/
inductive HOp where
  | op (o : Op)
  | reopen
deriving DecidableEq, Repr

def hstep (c : Cfg) (s : State) : HOp → State
  | .op o => step c s o
  | .reopen => reopen s

def hrun (c : Cfg) (s : State) (ops : List HOp) : State := ops.foldl (hstep c) s

/-! ### rendering (shared by the C15/C19 drivers and, later, C16) -/

def showName (n : Name) : String := s!"{n.ns}:{n.loc}"

def showEntity (e : Entity) : String :=
  s!"{e.id}:{e.version}:{showName e.name}:{e.typ}:{e.nsId}:{e.updatedAt}:{e.deletedAt}:{e.data}/{e.dataLen}"

def showEvent (e : Event) : String :=
  s!"{e.id}:{e.version}:{showName e.name}:{e.typ}:{e.nsId}:{e.updatedAt}:{e.deletedAt}:{e.data}/{e.dataLen}:{e.mdata}"

def insertEvAsc (e : Event) : List Event → List Event
  | [] => [e]
  | x :: xs => if e.version < x.version || (e.version == x.version && e.id < x.id) then e :: x :: xs else x :: insertEvAsc e xs

def insertFlood (f : Flood) : List Flood → List Flood
  | [] => [f]
  | x :: xs => if f.metric < x.metric then f :: x :: xs else x :: insertFlood f xs

/-- canonical dump of the replay-relevant state: entities by id, history by version, mappings by id, flood limits
    by metric token, sequences and the volatile last-created id -/
def dump (s : State) : List String :=
  s.ents.map (fun e => "E " ++ showEntity e)
  ++ (s.hist.foldr insertEvAsc []).map (fun e => "H " ++ showEvent e)
  ++ (sortedMaps s).map (fun p => s!"M {p.1} {p.2}")
  ++ (s.flood.foldr insertFlood []).map (fun f => s!"F {f.metric} {f.last} {f.free}")
  ++ [s!"S {s.entSeq} {s.mapSeq} {s.lastCreated}"]

end SH.Meta
