/-
  SH.Model.Table — model of internal/api/table.go (property C25):
    getTableFromLODs, limitQueries, inRange, and of the two comparison functions they use,
    handler.go `lessThan` (row marker against a storage row) and `queryTableRows.Less` (final sort);
    of handleGetTable's LOD order, of promql.go `getHandlerWhat`, and of a slimmer row key (`slimKey`, `slimStore`).

  What is data in the model
  * a storage row is its key (time, the tag block: numeric tag values followed by the codes of the unmapped string
    values, the string-top value `stag[47]`) plus the value fields;
    strings are order-preserving codes (`Nat`, 0 = ""), because only their order and emptiness are used;
  * the storage (`loadPoints`) is an input: per handler-what and per LOD either an error or the list of time
    groups it returned — any shape, any order, possibly different per handler-what;
  * `Req.cols` lists, per handler-what, which value field each of its columns shows; `getHandlerWhat` (promql.go), which
    computes it from the requested functions, is modelled further down in this file (`colsOf`) and compared with the real
    function by the harness. `value()` itself is not modelled;
  * NaN is `none`.

  `Variant.fixed` is the code after the `fix:` patch /verif/fixes/C25-table-window-limit-columns.diff.
  `Variant.old` keeps the four decision sites of the code before it, so that Props/C25 can exhibit the old
  defects: (1) limitQueries tested the limit before the window, (2) skipped a whole time group when its first
  and last row were outside the window, (3) answered `len(rowsByTime) > 0` for a limit ≤ 0, and (4) the NaN
  padding appended one NaN per handler-what instead of one per column.
  The shared `rowRepr.Tags` backing array of the old code is modelled separately at the end of this file
  (`passBatches`, `aliasedTags`, `getTableAliased`). Not modelled: appendRowValues of the old code indexed `qry` with
  the column index (index out of range for more than 7 columns in one handler-what).
  `handleGetTable` / `Caller` model the order in which handler.go hands the LODs of GetLODs to getTableFromLODs:
  `Caller.keeps` after /verif/fixes/C25-descending-lod-order.diff, `Caller.reversesFromEnd` before it.
-/
namespace SH.Table

inductive Variant | fixed | old
deriving DecidableEq, Repr

/-- `tableRowKey{time, tsTags}`: the time and the WHOLE tag block of the storage row. `tags` lists the integer tag values
    `tag[j]` (j < NT) followed, in the harness protocol, by the codes of the unmapped string values `stag[j]` (j < NT,
    0 = none) of the same tags: a group-by tag is either mapped (integer value), unmapped (integer 0, string value) or
    unspecified. Comparisons (`lessThan`, `less`) read the integer part only (`tagAt` with j < NT), key equality reads
    everything. -/
structure Key where
  time : Int
  tags : List Int       -- tag[j] = tags[j], 0 beyond the end; then the string-value codes
  skey : Nat            -- code of stag[StringTopTagIndexV3]; 0 = ""
deriving DecidableEq, Repr

structure Row where
  key : Key
  vals : List Int       -- value fields (count, sum, min, max, cardinality, percentile)
deriving DecidableEq, Repr

structure Marker where
  time : Int
  tags : List (Nat × Int)   -- RawTag{Index, Value}
  skey : Nat
deriving DecidableEq, Repr

def tagAt (k : Key) (j : Nat) : Int := k.tags.getD j 0

/-! ### handler.go: lessThan -/

/-- the loop over the marker's tags: the first listed tag that differs decides -/
def tagsDecide (fromEnd : Bool) : List (Nat × Int) → Key → Option Bool
  | [], _ => none
  | (j, v) :: rest, k =>
    if v ≠ tagAt k j then some (if fromEnd then decide (v > tagAt k j) else decide (v < tagAt k j))
    else tagsDecide fromEnd rest k

def skeyDecide (l r : Nat) (orEq fromEnd : Bool) : Bool :=
  if fromEnd then (if orEq then decide (l ≥ r) else decide (l > r))
  else (if orEq then decide (l ≤ r) else decide (l < r))

def lessThan (l : Marker) (k : Key) (orEq fromEnd : Bool) : Bool :=
  if l.time ≠ k.time then (if fromEnd then decide (l.time > k.time) else decide (l.time < k.time))
  else match tagsDecide fromEnd l.tags k with
    | some b => b
    | none => skeyDecide l.skey k.skey orEq fromEnd

/-! ### table.go: inRange -/

structure Win where
  frm : Marker
  to : Marker
  fromEnd : Bool
deriving DecidableEq, Repr

def afterFrom (w : Win) (k : Key) : Bool := w.frm.time == 0 || lessThan w.frm k false w.fromEnd
def beforeTo (w : Win) (k : Key) : Bool := w.to.time == 0 || !lessThan w.to k true w.fromEnd
def inRange (w : Win) (r : Row) : Bool := afterFrom w r.key && beforeTo w r.key

/-! ### table.go: limitQueries -/

/-- old code only: `len(rows) > 0 && !inRange(rows[0]) && !inRange(rows[len(rows)-1])` -/
def skipGroup (w : Win) (g : List Row) : Bool :=
  match g.head?, g.getLast? with
  | some a, some b => !inRange w a && !inRange w b
  | _, _ => false

def limitFirst : Variant → Bool
  | .old => true
  | .fixed => false

def skipsGroups : Variant → Bool
  | .old => true
  | .fixed => false

/-- the inner loop over one time group. `n` = limit − len(limitedRows). Result: rows appended, whether the
    function returned `true` from inside the loop, and the new `n`. -/
def scanRows (v : Variant) (w : Win) : Nat → List Row → List Row × Bool × Nat
  | n, [] => ([], false, n)
  | n, r :: rs =>
    if limitFirst v then
      if n = 0 then ([], true, 0)
      else if inRange w r then
        let t := scanRows v w (n - 1) rs
        (r :: t.1, t.2.1, t.2.2)
      else scanRows v w n rs
    else
      if inRange w r then
        if n = 0 then ([], true, 0)
        else
          let t := scanRows v w (n - 1) rs
          (r :: t.1, t.2.1, t.2.2)
      else scanRows v w n rs

/-- the outer loop over the time groups (already in visiting order) -/
def scanGroups (v : Variant) (w : Win) : Nat → List (List Row) → List Row × Bool
  | _, [] => ([], false)
  | n, g :: gs =>
    if skipsGroups v && skipGroup w g then scanGroups v w n gs
    else
      let t := scanRows v w n g
      if t.2.1 then (t.1, true)
      else
        let u := scanGroups v w t.2.2 gs
        (t.1 ++ u.1, u.2)

/-- visiting order: `if fromEnd { i = len(rowsByTime) - i - 1 }` -/
def dir {α} (fromEnd : Bool) (l : List α) : List α := if fromEnd then l.reverse else l

def limitQueries (v : Variant) (w : Win) (groups : List (List Row)) (limit : Int) : List Row × Bool :=
  match v with
  | .old => if limit ≤ 0 then ([], !groups.isEmpty) else scanGroups .old w limit.toNat (dir w.fromEnd groups)
  | .fixed => scanGroups .fixed w limit.toNat (dir w.fromEnd groups)

/-! ### table.go: getTableFromLODs -/

structure Lod where
  frm : Int
  to : Int
deriving DecidableEq, Repr

structure Req where
  win : Win
  limit : Int               -- numResults
  gby : List Nat            -- indices of the grouped numeric tags, ascending (the loop j = 0 … MaxTags-1)
  bySkey : Bool             -- `by` contains "_s"
  cols : List (List Nat)    -- per handler-what: value field of each column
deriving DecidableEq, Repr

/-- fromTime, toTime: the marker times, swapped for fromEnd -/
def fromTime (q : Req) : Int := if q.win.fromEnd then q.win.to.time else q.win.frm.time
def toTime (q : Req) : Int := if q.win.fromEnd then q.win.frm.time else q.win.to.time

/-- `toTime < x` where `toTime == 0` has been replaced by math.MaxInt -/
def aboveTo (q : Req) (x : Int) : Bool := toTime q != 0 && decide (toTime q < x)

def lodSkipped (q : Req) (l : Lod) : Bool := aboveTo q l.frm || decide (l.to < fromTime q)
def timeSkipped (q : Req) (r : Row) : Bool := aboveTo q r.key.time || decide (r.key.time < fromTime q)

/-- a table row under construction: `queryRows[ix]` plus membership of `ix` in `used` -/
structure ORow where
  key : Key
  data : List (Option Int)
  used : Bool
deriving DecidableEq, Repr

def rowVals (cols : List Nat) (r : Row) : List (Option Int) := cols.map (fun f => some (r.vals.getD f 0))

def hasKey (out : List ORow) (k : Key) : Bool := out.any (fun o => o.key == k)

/-- body of the row loop after the time test: look the key up in rowsIdx, create the row (padded with NaN for
    the earlier handler-whats) if absent, mark it used, append this handler-what's values -/
def addRow (pad : Nat) (cols : List Nat) (out : List ORow) (r : Row) : List ORow :=
  if hasKey out r.key then
    out.map (fun o => if o.key == r.key then { o with data := o.data ++ rowVals cols r, used := true } else o)
  else
    out ++ [{ key := r.key, data := List.replicate pad none ++ rowVals cols r, used := true }]

/-- NaNs a new row gets for the handler-whats before the current one -/
def padBefore (v : Variant) (prev : List (List Nat)) : Nat :=
  match v with
  | .old => prev.length
  | .fixed => (prev.map List.length).sum

/-- NaNs a row gets at the end of a pass in which it received no value -/
def padMissing (v : Variant) (cols : List Nat) : Nat :=
  match v with
  | .old => 1
  | .fixed => cols.length

/-- the loop over the LODs (already in visiting order) for one handler-what.
    `none` = loadPoints returned an error. Result: rows, hasMore of this pass. -/
def lodLoop (v : Variant) (q : Req) (pad : Nat) (cols : List Nat) :
    List (Lod × Option (List (List Row))) → Nat → List ORow → Option (List ORow × Bool)
  | [], _, out => some (out, false)
  | (l, ans) :: rest, cnt, out =>
    if lodSkipped q l then lodLoop v q pad cols rest cnt out
    else match ans with
      | none => none
      | some groups =>
        let lq := limitQueries v q.win groups (q.limit - cnt)
        let rows := lq.1.filter (fun r => !timeSkipped q r)
        let out' := rows.foldl (addRow pad cols) out
        if lq.2 then some (out', true)
        else lodLoop v q pad cols rest (cnt + rows.length) out'

/-- the loop over rowsIdx after all LODs of one handler-what -/
def endPass (v : Variant) (cols : List Nat) (out : List ORow) : List ORow :=
  out.map (fun o => if o.used then { o with used := false }
                    else { o with data := o.data ++ List.replicate (padMissing v cols) none })

/-- the loop over the handler-whats. `prev` = the handler-whats already done; `todo` pairs each remaining
    handler-what with its storage answers per LOD (LODs already in visiting order). -/
def whatLoop (v : Variant) (q : Req) :
    List (List Nat) → List (List Nat × List (Lod × Option (List (List Row)))) → List ORow → Bool → Option (List ORow × Bool)
  | _, [], out, more => some (out, more)
  | prev, (cols, answers) :: rest, out, more =>
    match lodLoop v q (padBefore v prev) cols answers 0 out with
    | none => none
    | some r => whatLoop v q (prev ++ [cols]) rest (endPass v cols r.1) (more || r.2)

/-! ### handler.go: queryTableRows.Less on rowRepr, and the final sort -/

structure RowRepr where
  time : Int
  tags : List Int
  skey : Nat
deriving DecidableEq, Repr

/-- rowRepr of a row (numeric tag 47 is assumed 0, so SKey is the string-top value when grouped by it) -/
def reprOf (q : Req) (k : Key) : RowRepr :=
  { time := k.time, tags := q.gby.map (tagAt k), skey := if q.bySkey then k.skey else 0 }

def tagsLess : List Int → List Int → Option Bool
  | a :: as, b :: bs => if a ≠ b then some (decide (a < b)) else tagsLess as bs
  | _, _ => none

def less (l r : RowRepr) : Bool :=
  if l.time ≠ r.time then decide (l.time < r.time)
  else if l.tags.length ≠ r.tags.length then decide (l.tags.length < r.tags.length)
  else match tagsLess l.tags r.tags with
    | some b => b
    | none => decide (l.skey < r.skey)

/-- `sort.Sort(queryRows)` / `sort.Sort(sort.Reverse(queryRows))` -/
def lessDir (q : Req) (a b : ORow) : Bool :=
  if q.win.fromEnd then less (reprOf q b.key) (reprOf q a.key) else less (reprOf q a.key) (reprOf q b.key)

/-- sort.Sort is not stable: the order of rows with equal rowRepr is unspecified. The model orders such
    rows by their full key (the harness canonicalises the implementation's output the same way). -/
def keyLess (a b : Key) : Bool :=
  match tagsLess a.tags b.tags with
  | some x => x
  | none => decide (a.skey < b.skey)

def before (q : Req) (a b : ORow) : Bool :=
  lessDir q a b || (!lessDir q b a && keyLess a.key b.key)

def insertRow (q : Req) (x : ORow) : List ORow → List ORow
  | [] => [x]
  | y :: ys => if before q x y then x :: y :: ys else y :: insertRow q x ys

def sortRows (q : Req) : List ORow → List ORow
  | [] => []
  | x :: xs => insertRow q x (sortRows q xs)

/-- getTableFromLODs. `lods` in the order of the caller's slice; `store[i]` = answers of handler-what `i`,
    one per LOD, in the same order. -/
def getTable (v : Variant) (q : Req) (lods : List Lod) (store : List (List (Option (List (List Row))))) :
    Option (List ORow × Bool) :=
  let todo := (q.cols.zip store).map (fun p => (p.1, dir q.win.fromEnd (lods.zip p.2)))
  match whatLoop v q [] todo [] false with
  | none => none
  | some r => some (sortRows q r.1, r.2)

/-! ### handler.go: handleGetTable — the order in which the LODs reach getTableFromLODs -/

/-- `GetLODs` returns the LODs in ascending time order. `Caller.keeps` is handleGetTable after
    /verif/fixes/C25-descending-lod-order.diff (the list is passed on as it is); `Caller.reversesFromEnd` is the code
    before it, which reversed the list for `fromEnd` although getTableFromLODs walks it from the end itself. -/
inductive Caller | keeps | reversesFromEnd
deriving DecidableEq, Repr

def callerOrder {α} (c : Caller) (fromEnd : Bool) (l : List α) : List α :=
  match c with
  | .keeps => l
  | .reversesFromEnd => if fromEnd then l.reverse else l

/-- handleGetTable from the LOD list on: `lods` ascending in time, `store[i][k]` the answer for handler-what `i`, LOD `k` -/
def handleGetTable (c : Caller) (v : Variant) (q : Req) (lods : List Lod) (store : List (List (Option (List (List Row))))) :
    Option (List ORow × Bool) :=
  getTable v q (callerOrder c q.win.fromEnd lods) (store.map (callerOrder c q.win.fromEnd))

/-! ### the row marker stored in a table row by the code before 8d8821bd (shared `rowRepr.Tags` backing array)

  Before the fix `var rowRepr RowMarker` was declared once per storage answer and `rowRepr.Tags = rowRepr.Tags[:0]`
  re-used its backing array for every row of that answer. Every table row created while one answer was processed
  kept a slice of that one array, so after the answer was processed all of them showed the grouped tags of the LAST
  row of the answer (created or not). The final sort and the FromRow/ToRow markers of the response read these tags.
  `batches` = per processed storage answer the rows handed to the row loop, in processing order. -/

/-- like the LOD loop, but keeps the rows of each storage answer apart -/
def passBatches (v : Variant) (q : Req) : List (Lod × Option (List (List Row))) → Nat → List (List Row)
  | [], _ => []
  | (l, ans) :: rest, cnt =>
    if lodSkipped q l then passBatches v q rest cnt
    else match ans with
      | none => []
      | some groups =>
        let lq := limitQueries v q.win groups (q.limit - cnt)
        let rows := lq.1.filter (fun r => !timeSkipped q r)
        if lq.2 then [rows] else rows :: passBatches v q rest (cnt + rows.length)

/-- the grouped tags the old code left in the row marker of the table row with key `k` -/
def aliasedTags (q : Req) (batches : List (List Row)) (k : Key) : List Int :=
  match batches.find? (fun b => b.any (fun r => r.key == k)) with
  | some b => match b.getLast? with
    | some r => q.gby.map (tagAt r.key)
    | none => q.gby.map (tagAt k)
  | none => q.gby.map (tagAt k)

def aliasedRepr (q : Req) (batches : List (List Row)) (k : Key) : RowRepr :=
  { reprOf q k with tags := aliasedTags q batches k }

/-- the old code's final sort compares the aliased markers (ascending; rows it cannot tell apart keep the model's
    insertion order, which Go's sort does not promise either) -/
def insertAliased (q : Req) (bs : List (List Row)) (x : ORow) : List ORow → List ORow
  | [] => [x]
  | y :: ys => if less (aliasedRepr q bs x.key) (aliasedRepr q bs y.key) then x :: y :: ys else y :: insertAliased q bs x ys

def sortAliased (q : Req) (bs : List (List Row)) : List ORow → List ORow
  | [] => []
  | x :: xs => insertAliased q bs x (sortAliased q bs xs)

/-- getTableFromLODs before 8d8821bd for an ascending request: rows as the old loops build them, ordered by the
    aliased markers; each row is returned with the marker tags it carries -/
def getTableAliased (q : Req) (lods : List Lod) (store : List (List (Option (List (List Row))))) :
    Option (List (Key × List Int)) :=
  let todo := (q.cols.zip store).map (fun p => (p.1, dir q.win.fromEnd (lods.zip p.2)))
  let bs := todo.flatMap (fun t => passBatches .old q t.2 0)
  match whatLoop .old q [] todo [] false with
  | none => none
  | some r => some ((sortAliased q bs r.1).map (fun o => (o.key, aliasedTags q bs o.key)))

/-! ### promql.go: getHandlerWhat — grouping the requested functions into storage queries

  A requested function is its `promql.DigestWhat` code plus (harness data) the stored value field its column shows.
  `selectorOf` mirrors `DigestWhat.Selector()`: (data_model.DigestWhat, argument in 1/1000); the harness compares the
  table with the real function for every code (`seltab`). getHandlerWhat sorts the request by digest code, opens a
  storage query with the first function and lets it absorb the following functions while it has fewer than
  `tsValueCount` = 7 selectors (a function whose selector differs from the last one added takes a new slot); the
  first function that finds the query full opens the next query. Every function is appended to the `sel` of the query
  that absorbs it. -/

structure Fn where
  digest : Nat
  field : Nat
deriving DecidableEq, Repr

def pctl (a : Nat) : Nat × Nat := (6, a)

def selectorOf (d : Nat) : Nat × Nat :=
  if d = 1 ∨ d = 2 ∨ d = 3 then (2, 0)          -- count, count_sec, count_raw
  else if d = 4 ∨ d = 5 ∨ d = 6 then (5, 0)     -- sum, sum_sec, sum_raw
  else if d = 7 then (1, 0)                     -- avg
  else if d = 8 then (4, 0)                     -- min
  else if d = 9 then (3, 0)                     -- max
  else if d = 10 then pctl 1 else if d = 11 then pctl 10 else if d = 12 then pctl 50 else if d = 13 then pctl 100
  else if d = 14 then pctl 250 else if d = 15 then pctl 500 else if d = 16 then pctl 750 else if d = 17 then pctl 900
  else if d = 18 then pctl 950 else if d = 19 then pctl 990 else if d = 20 then pctl 999
  else if d = 21 ∨ d = 22 then (7, 0)           -- stddev, stdvar
  else if d = 23 ∨ d = 24 ∨ d = 25 then (8, 0)  -- cardinality*
  else if d = 26 ∨ d = 27 then (9, 0)           -- unique, unique_sec (unique_raw is not listed in Selector())
  else (0, 0)

def tsValueCount : Nat := 7

/-- `sort.Slice(whats, Digest <)` — insertion sort by digest code (functions with equal codes are identical) -/
def insertFn (x : Fn) : List Fn → List Fn
  | [] => [x]
  | y :: ys => if x.digest < y.digest then x :: y :: ys else y :: insertFn x ys

def sortFns : List Fn → List Fn
  | [] => []
  | x :: xs => insertFn x (sortFns xs)

structure HandlerWhat where
  sel : List Fn               -- columns, in order
  qry : List (Nat × Nat)      -- selectors in use, at most tsValueCount
deriving DecidableEq, Repr

/-- loop state: finished queries (latest first), the query being filled (`tail`) -/
structure GroupState where
  done : List HandlerWhat
  cur : HandlerWhat

def newQuery (w : Fn) : HandlerWhat := { sel := [w], qry := [selectorOf w.digest] }

/-- one function: absorbed by the current query while it has a free slot (`n < len(tail.qry)`, `n` = selectors in
    use), else it opens the next query -/
def groupStep (s : GroupState) (w : Fn) : GroupState :=
  if s.cur.qry.length < tsValueCount then
    if s.cur.qry.getLast? ≠ some (selectorOf w.digest) then
      { s with cur := { sel := s.cur.sel ++ [w], qry := s.cur.qry ++ [selectorOf w.digest] } }
    else
      { s with cur := { s.cur with sel := s.cur.sel ++ [w] } }
  else
    { done := s.cur :: s.done, cur := newQuery w }

def groupSorted : List Fn → List HandlerWhat
  | [] => []
  | w :: ws =>
    let s := ws.foldl groupStep { done := [], cur := newQuery w }
    (s.cur :: s.done).reverse

/-- getHandlerWhat on the request as the client sent it -/
def getHandlerWhat (request : List Fn) : List HandlerWhat := groupSorted (sortFns request)

/-- the `cols` of a table request: per storage query the value field of each of its columns -/
def colsOf (request : List Fn) : List (List Nat) := (getHandlerWhat request).map (fun g => g.sel.map (·.field))

/-! ### a slimmer row key (seeded change C25-r4-2, kept as a variant for a witness)

  `tableRowKey{time, tag [MaxTags]int64, skey}` keeps the integer tag values and the string-top key and drops the other
  string values. In the model: only the first `nInt` entries of `tags` take part in the key. Looking rows up by the slim
  key is the same as running the loops on storage answers whose keys have been slimmed (the table row then keeps the
  tags of the first storage row that created it). -/

def slimKey (nInt : Nat) (k : Key) : Key := { k with tags := k.tags.take nInt }

def slimStore (nInt : Nat) (store : List (List (Option (List (List Row))))) : List (List (Option (List (List Row)))) :=
  store.map (fun perLod => perLod.map (fun ans => ans.map (fun groups =>
    groups.map (fun g => g.map (fun r => { r with key := slimKey nInt r.key })))))

end SH.Table
