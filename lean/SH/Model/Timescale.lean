/-
  SH.Model.Timescale — executable model of internal/data_model/timescale.go
  (GetTimescale, Timescale.GetLODs, StepForward, startOfLOD, endOfLOD, roundTime, mathDiv) and of
  internal/api/lod.go (mathDiv, roundTime — identical copies — and calcUTCOffset).

  Core Lean only. All times are `Int` seconds. Go's `time` package (zone rules) is DATA: the two calendar
  primitives the code uses for monthly steps,
      startOfMonth t = time.Date(y(t), m(t), 1, 0,0,0,0, loc)          (startOfLOD, step = _1M)
      nextMonth    t = startOfMonth of the month after t's (y(t), m(t)+1)  (StepForward, step = _1M)
  are the fields of `Cal`; the driver instantiates them from the list of month boundaries the Go harness
  observed for the range, the theorems quantify over every `Cal` satisfying `CalOK`.

  Tables and constants (lodLevels, lodLevelsV3Monthly, maxPoints, _1M, LODTables keys) come from the
  regenerated SH/Gen/C22.lean.
-/
import SH.Gen.C22

namespace SH.Timescale
open SH.Gen.C22

/-- the calendar as seen through Go's time package for one *time.Location -/
structure Cal where
  som : Int → Int
  next : Int → Int

/-- `mathDiv`: Go's `/` and `%` truncate (Int.tdiv / Int.tmod) -/
def sameSign (a b : Int) : Bool := (decide (0 ≤ a)) == (decide (0 ≤ b))

def mathDiv (a b : Int) : Int :=
  if sameSign a b || Int.tmod a b == 0 then Int.tdiv a b else Int.tdiv a b - 1

def roundTime (t step utcOffset : Int) : Int :=
  mathDiv (t + utcOffset) step * step - utcOffset

/-- seeded variant C22-r5-1 (NOT the code): `t - (t+utcOffset)%step` with Go's truncating `%` — rounds UP when t+utcOffset < 0 -/
def roundTimeTrunc (t step utcOffset : Int) : Int :=
  t - Int.tmod (t + utcOffset) step

def isMonth (step : Int) : Bool := step == monthStep

def stepForward (cal : Cal) (start step : Int) : Int :=
  if isMonth step then cal.next start else start + step

def startOfLOD (cal : Cal) (start step utcOffset : Int) : Int :=
  if isMonth step then cal.som start else roundTime start step utcOffset

/-- the loop of `endOfLOD`; `fuel` only makes it structurally recursive (see `endOfLOD`) -/
def endLoop (cal : Cal) (step : Int) (le : Bool) (end_ : Int) : Nat → Int → Nat → Int × Nat
  | 0, start, n => (start, n)
  | fuel + 1, start, n =>
    if start < end_ then
      if le && decide (end_ < stepForward cal start step) then (start, n)
      else endLoop cal step le end_ fuel (stepForward cal start step) (n + 1)
    else (start, n)

/-- `endOfLOD(start, step, end, le, loc)`. Every iteration advances `start` by at least one second (step ≥ 1,
    months are longer), so `end - start` iterations always suffice: the fuel never cuts a run short.
    (The Go `panic` for `step ≤ 0` is unreachable from GetTimescale: all steps come from the tables, which are positive.) -/
def endOfLOD (cal : Cal) (start step end_ : Int) (le : Bool) : Int × Nat :=
  endLoop cal step le end_ (end_ - start).toNat start 0

/-- TimescaleLOD (Version is always Version6) -/
structure LOD where
  step : Int
  len : Nat
  deriving DecidableEq, Repr

inductive Mode | range | instant | point | tags
  deriving DecidableEq, Repr

structure Args where
  start : Int
  end_ : Int
  step : Int
  now : Int
  width : Int
  mode : Mode
  extend : Bool
  utcOffset : Int
  /-- QueryStat.MetricOffset as a list of (metric resolution, offset) -/
  metrics : List (Int × Int)
  deriving Repr

inductive Err | outOfRange | lodRange | offset
  deriving DecidableEq, Repr

/-- the result `Timescale` (fields the property talks about) -/
structure TS where
  time : List Int
  lods : List LOD
  startX : Nat
  viewStartX : Nat
  viewEndX : Nat
  deriving DecidableEq, Repr

def TS.empty : TS := ⟨[], [], 0, 0, 0⟩

/-! ### query info -/

def isPoint (a : Args) : Bool := a.mode == Mode.point

/-- `maxOffset` (starts at 0, so negative offsets do not count) -/
def maxOffset (a : Args) : Int := a.metrics.foldl (fun m p => if m < p.2 then p.2 else m) 0

/-- `maxMetricRes` (starts at 1) -/
def maxMetricRes (a : Args) : Int := a.metrics.foldl (fun m p => if m < p.1 then p.1 else m) 1

def minStep (a : Args) : Int :=
  if isPoint a || decide (a.step < maxMetricRes a) then maxMetricRes a else a.step

def levelsFor (a : Args) : List (Int × List Int) :=
  if isMonth a.step then lodLevelsMonthly else lodLevels

/-! ### the inner loop over the steps of one level -/

inductive Inner
  | err
  | done (lod : LOD) (lodEnd : Int)
  deriving Repr

/-- `0 < lod.Step && lod.Step < step` — "step can not grow" -/
def grows (lod : LOD) (step : Int) : Bool := decide (0 < lod.step) && decide (lod.step < step)

/-- `lodStart`: rounded only while no LOD has been emitted yet -/
def lodStartOf (cal : Cal) (a : Args) (first : Bool) (start step : Int) : Int :=
  if first then startOfLOD cal start step a.utcOffset else start

/-- `n = resLen + lodLen + m` (0 for point queries, where `n` is never assigned) -/
def pointsToEnd (cal : Cal) (a : Args) (resLen : Nat) (lodStart step edge end_ : Int) : Nat :=
  if isPoint a then 0
  else resLen + (endOfLOD cal lodStart step edge false).2
        + (endOfLOD cal (endOfLOD cal lodStart step edge false).1 step end_ false).2

/-- `!pointQuery && maxPoints < n` -/
def overLimit (a : Args) (n : Nat) : Bool := !isPoint a && decide (maxPoints < (n : Int))

/-- `step <= minStep || (ScreenWidth != 0 && ScreenWidth < n)` -/
def fineEnough (a : Args) (step : Int) (n : Nat) : Bool :=
  decide (step ≤ minStep a) || (decide (a.width ≠ 0) && decide (a.width < (n : Int)))

/-- "use previous (larger) step to the end" -/
def usePrev (cal : Cal) (a : Args) (first : Bool) (start end_ : Int) (lod : LOD) : Inner :=
  let r := endOfLOD cal (lodStartOf cal a first start lod.step) lod.step end_ false
  .done ⟨lod.step, r.2⟩ r.1

/-- "use current step to the end" -/
def useCur (cal : Cal) (lodStart step edge end_ : Int) : Inner :=
  let r1 := endOfLOD cal lodStart step edge false
  let r2 := endOfLOD cal r1.1 step end_ false
  .done ⟨step, r1.2 + r2.2⟩ r2.1

def inner (cal : Cal) (a : Args) (first : Bool) (start end_ edge : Int) (resLen : Nat) :
    List Int → LOD → Int → Inner
  | [], lod, lodEnd => .done lod lodEnd
  | step :: rest, lod, lodEnd =>
    if grows lod step then inner cal a first start end_ edge resLen rest lod lodEnd
    else if overLimit a (pointsToEnd cal a resLen (lodStartOf cal a first start step) step edge end_) then
      (if lod.step == 0 then .err else usePrev cal a first start end_ lod)
    else if fineEnough a step (pointsToEnd cal a resLen (lodStartOf cal a first start step) step edge end_) then
      useCur cal (lodStartOf cal a first start step) step edge end_
    else
      inner cal a first start end_ edge resLen rest
        ⟨step, (endOfLOD cal (lodStartOf cal a first start step) step edge false).2⟩
        (endOfLOD cal (lodStartOf cal a first start step) step edge false).1

/-- `lod.Step <= 0 || lod.Step > _1M || lod.Len <= 0 || !(pointQuery || lod.Len <= maxPoints)` -/
def badLOD (a : Args) (lod : LOD) : Bool :=
  decide (lod.step ≤ 0) || decide (monthStep < lod.step) || lod.len == 0 ||
    !(isPoint a || decide ((lod.len : Int) ≤ maxPoints))

/-- `appendLOD` on the reversed list (head = most recent LOD) -/
def appendLOD : List LOD → LOD → List LOD
  | [], lod => [lod]
  | l :: ls, lod => if l.step == lod.step then ⟨l.step, l.len + lod.len⟩ :: ls else lod :: l :: ls

def edgeOf (a : Args) (relSwitch end_ : Int) : Int :=
  if decide (end_ < a.now - relSwitch) || isPoint a then end_ else a.now - relSwitch

/-- the loop over the LOD switches; `rlods` is `res.LODs` reversed, `lod` the "last LOD" variable -/
def outer (cal : Cal) (a : Args) (end_ : Int) :
    List (Int × List Int) → Int → Nat → List LOD → LOD → Except Err (List LOD)
  | [], _, _, rlods, _ => .ok rlods
  | sw :: rest, start, resLen, rlods, lod =>
    if start < end_ then
      if a.now - sw.1 < start then outer cal a end_ rest start resLen rlods lod
      else
        match inner cal a rlods.isEmpty start end_ (edgeOf a sw.1 end_) resLen sw.2 ⟨lod.step, 0⟩ 0 with
        | .err => .error .outOfRange
        | .done lod' lodEnd =>
          if badLOD a lod' then .error .lodRange
          else outer cal a end_ rest lodEnd (resLen + lod'.len) (appendLOD rlods lod') lod'
    else .ok rlods

/-- the LOD list of GetTimescale, before any extension point is added -/
def genLODs (cal : Cal) (a : Args) : Except Err (List LOD) :=
  (outer cal a (a.end_ - maxOffset a) (levelsFor a) (a.start - maxOffset a) 0 [] ⟨0, 0⟩).map List.reverse

/-! ### time generation -/

/-- `for j < len { Time = append(Time, t); t = StepForward(t) }` — returns the points and the final `t` -/
def genSeg (cal : Cal) (step : Int) : Nat → Int → List Int × Int
  | 0, t => ([], t)
  | n + 1, t => let r := genSeg cal step n (stepForward cal t step); (t :: r.1, r.2)

def genTime (cal : Cal) : List LOD → Int → List Int × Int
  | [], t => ([], t)
  | l :: ls, t =>
    let r := genSeg cal l.step l.len t
    let r' := genTime cal ls r.2
    (r.1 ++ r'.1, r'.2)

def bumpFirst (k : Nat) : List LOD → List LOD
  | [] => []
  | l :: ls => ⟨l.step, l.len + k⟩ :: ls

def bumpLast (k : Nat) : List LOD → List LOD
  | [] => []
  | [l] => [⟨l.step, l.len + k⟩]
  | l :: ls => l :: bumpLast k ls

/-- the offsets of all metrics must be multiples of the largest LOD step (Go `%`) -/
def offsetsOK (a : Args) (step0 : Int) : Bool := a.metrics.all (fun p => Int.tmod p.2 step0 == 0)

def pointTS (cal : Cal) (a : Args) (lods : List LOD) (step0 : Int) : TS :=
  let t0 := startOfLOD cal a.start step0 a.utcOffset
  let t := if decide (t0 < a.start) && !a.extend then stepForward cal t0 step0 else t0
  let t1 := (endOfLOD cal t step0 a.end_ (!a.extend)).1
  if t == t1 then TS.empty else ⟨[t, t1], lods, 0, 0, 1⟩

/-- number of points added on the left: (t < Start, extend) ↦ …; StartX always ends up 1 -/
def leftExtra (a : Args) (t0 : Int) : Nat :=
  if t0 < a.start then (if a.extend then 1 else 0) else (if a.extend then 2 else 1)

def viewStart (a : Args) : Nat := if a.extend then 2 else 1

/-- `t` after the left extensions: each one is `startOfLOD(t-1, step)` -/
def backN (cal : Cal) (step utcOffset : Int) : Nat → Int → Int
  | 0, t => t
  | n + 1, t => backN cal step utcOffset n (startOfLOD cal (t - 1) step utcOffset)

def rangeTS (cal : Cal) (a : Args) (lods : List LOD) (step0 : Int) : TS :=
  let t0 := startOfLOD cal a.start step0 a.utcOffset
  let k := leftExtra a t0
  let lods1 := bumpFirst k lods
  let r := genTime cal lods1 (backN cal step0 a.utcOffset k t0)
  let vsx := viewStart a
  let vex := if vsx < r.1.length then r.1.length else vsx
  if a.extend then ⟨r.1 ++ [r.2], bumpLast 1 lods1, 1, vsx, vex⟩
  else ⟨r.1, lods1, 1, vsx, vex⟩

def step0Of : List LOD → Int
  | [] => 0
  | l :: _ => l.step

def getTimescale (cal : Cal) (a : Args) : Except Err TS :=
  if decide (a.end_ ≤ a.start) || decide (a.step < 0) then .ok TS.empty
  else match genLODs cal a with
    | .error e => .error e
    | .ok lods =>
      if lods.isEmpty then .ok TS.empty
      else if !offsetsOK a (step0Of lods) then .error .offset
      else if isPoint a then .ok (pointTS cal a lods (step0Of lods))
      else .ok (rangeTS cal a lods (step0Of lods))

/-! ### Timescale.GetLODs -/

/-- `for i < lod.Len { end = StepForward(end) }` -/
def segEnd (cal : Cal) (step : Int) : Nat → Int → Int
  | 0, t => t
  | n + 1, t => segEnd cal step n (stepForward cal t step)

/-- (FromSec, ToSec, StepSec) -/
def lodRanges (cal : Cal) : List LOD → Int → List (Int × Int × Int)
  | [], _ => []
  | l :: ls, start =>
    (start, segEnd cal l.step l.len start, l.step) :: lodRanges cal ls (segEnd cal l.step l.len start)

def getLODs (cal : Cal) (utcOffset : Int) (ts : TS) (offset : Int) : List (Int × Int × Int) :=
  match ts.time with
  | [] => []
  | t0 :: _ =>
    lodRanges cal ts.lods (if offset != 0 then startOfLOD cal (t0 - offset) (step0Of ts.lods) utcOffset else t0)

/-- LOD.IndexOf(timestamp) for one returned range (FromSec, ToSec, StepSec): the index of the grid point `timestamp` inside the
    range, `none` for the "out of range" error. Monthly: `for t := FromSec; t < timestamp; n++ { t = <one month forward> }`,
    which is the loop of `endOfLOD` (le = false), then `t == timestamp`; the code after fixes/C22-indexof-month.diff steps with
    StepForward (= `cal.next`). Fixed steps: `d % step == 0 → d / step` with Go's truncating operators. -/
def indexOf (cal : Cal) (r : Int × Int × Int) (timestamp : Int) : Option Int :=
  if isMonth r.2.2 then
    (if (endOfLOD cal r.1 r.2.2 timestamp false).1 == timestamp then some ((endOfLOD cal r.1 r.2.2 timestamp false).2 : Int)
     else none)
  else
    (if Int.tmod (timestamp - r.1) r.2.2 == 0 then some (Int.tdiv (timestamp - r.1) r.2.2) else none)

/-- seeded variant C22-r3-1 (NOT the code): GetLODs without re-aligning the shifted start, `start := Time[0] - offset` -/
def getLODsNoRealign (cal : Cal) (ts : TS) (offset : Int) : List (Int × Int × Int) :=
  match ts.time with
  | [] => []
  | t0 :: _ => lodRanges cal ts.lods (t0 - offset)

/-! ### api/lod.go calcUTCOffset — the zone's offset at the Unix epoch is data -/

/-- 1970-01-01 is a Thursday (time.Weekday 4) -/
def calcUTCOffset (weekStartsAt zoneOffsetAtEpoch : Int) : Int :=
  let weekDay : Int := 4
  let weekDay := if weekDay == 0 && weekStartsAt != 0 then 7 else weekDay
  (weekDay - weekStartsAt) * 24 * 3600 + zoneOffsetAtEpoch

/-! ### calendar from observed month boundaries (driver) -/

def somOf (bounds : List Int) (t : Int) : Int :=
  bounds.foldl (fun acc b => if b ≤ t then b else acc) t

def nextOf : List Int → Int → Int
  | [], t => t + monthStep
  | b :: bs, t => if t < b then b else nextOf bs t

def calOfBounds (bounds : List Int) : Cal := ⟨somOf bounds, nextOf bounds⟩

end SH.Timescale
