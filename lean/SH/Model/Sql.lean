/-
  SH.Model.Sql — executable model of the storage-query builders (C26): the where-clause, the complete texts of the series,
  tag-values and tag-value-IDs queries, the integer expressions of the where-clause with their value, and the conversion
  of the user's filter strings.

  Code modelled (/repo/internal/api):
    sql_query_series.go : escapeReplacer, writeWhere, writeTimeClause, ensurePrimaryKeyPrefix, writeMetricFilter,
                          writeTagFilter, whereIntExpr, raw64; buildSeriesQuery, writeSelectTime, writeSelectValues,
                          sqlMinHost/sqlMaxHost, writeSelectTagsV3, writeSelectInt/selectIntExpr, writeGroupBy, writeOrderBy,
                          writeByTagsDir
    sql.go              : preKeyTagX, singleMetric, metricID, colInt/colIntV3, colStr, raw64Expr, groupedBy, selAlias,
                          preKeyTableName
    sql_query_tag_values.go : buildTagValuesQueryEx (buildTagValuesQuery, buildTagValueIDsQuery), hasStr, writeByTags;
                          its where-clause is the same writeWhere with another `mode`
    promql.go           : requestHandler.GetTagFilter (with format.ParseCodeTagValue, strconv.ParseInt)
    data_model/query_filter.go : TagValue (HasValue/IsMapped/Empty), TagFilter.Empty; data_model: LODTables, DigestWhat
  `IExpr.eval` (the value of the integer expressions under ClickHouse's typing) models no Go code: like the lexer below it
  is part of the trusted base.

  Plus a model of the consumer: ClickHouse's single-quoted string literal lexer/decoder (`lexLit`, `scan`) — written from
  ClickHouse's Lexer.cpp `quotedString` and ReadHelpers.cpp `parseComplexEscapeSequence` as remembered/documented; it is
  NOT derived from /repo (ClickHouse is not part of it) and is part of the trusted base.

  Core Lean only: linked into `drv_c26`.
-/
import SH.Model.Core

namespace SH.Sql

abbrev Bytes := List UInt8

/-- `'` -/
def q : UInt8 := 39
/-- `\` -/
def bs : UInt8 := 92

/-- bytes of an ASCII string constant of the Go source -/
def str (s : String) : Bytes := s.toList.map (fun c => c.toNat.toUInt8)

/-! ### escapeReplacer = strings.NewReplacer(`'`, `\'`, `\`, `\\`)  (all old strings are one byte: a per-byte replacer) -/

def escape : Bytes → Bytes
  | [] => []
  | c :: s =>
    if c = q then bs :: q :: escape s
    else if c = bs then bs :: bs :: escape s
    else c :: escape s

/-! ### ClickHouse quoted-literal lexer (the consumer of the text) -/

inductive LexSt where
  | normal            -- inside the literal
  | quote             -- just read a `'` inside the literal: doubled quote or end of literal
  | esc               -- just read a `\`
  | hex1              -- read `\x`
  | hex2 (hi : UInt8) -- read `\x` and one hex digit
deriving DecidableEq, Repr

def consO (c : UInt8) (o : Option (Bytes × Bytes)) : Option (Bytes × Bytes) :=
  match o with
  | none => none
  | some p => some (c :: p.1, p.2)

def appO (pre : Bytes) (o : Option (Bytes × Bytes)) : Option (Bytes × Bytes) :=
  match o with
  | none => none
  | some p => some (pre ++ p.1, p.2)

def isHex (c : UInt8) : Bool := (48 ≤ c && c ≤ 57) || (97 ≤ c && c ≤ 102) || (65 ≤ c && c ≤ 70)

def unhex (c : UInt8) : UInt8 :=
  if 48 ≤ c && c ≤ 57 then c - 48 else if 97 ≤ c && c ≤ 102 then c - 97 + 10 else c - 65 + 10

/-- parseEscapeSequence: \a \b \e \f \n \r \t \v \0, any other character stands for itself -/
def escSeq (c : UInt8) : UInt8 :=
  if c = 97 then 7 else if c = 98 then 8 else if c = 101 then 27 else if c = 102 then 12
  else if c = 110 then 10 else if c = 114 then 13 else if c = 116 then 9 else if c = 118 then 11
  else if c = 48 then 0 else c

/-- unrecognised escapes keep their backslash (`\%`, `\.` …) -/
def keepsBackslash (e : UInt8) : Bool :=
  e != 92 && e != 39 && e != 34 && e != 96 && e != 47 && e != 61 && e > 31

def escOut (c : UInt8) : Bytes :=
  if keepsBackslash (escSeq c) then [92, escSeq c] else [escSeq c]

/-- Reads a literal whose opening quote has been consumed. Result: decoded bytes and the rest of the input after the
    closing quote; `none` = the literal is not terminated / has a broken `\x` escape. -/
def lexLit : LexSt → Bytes → Option (Bytes × Bytes)
  | .normal, [] => none
  | .normal, c :: r =>
    if c = q then lexLit .quote r
    else if c = bs then lexLit .esc r
    else consO c (lexLit .normal r)
  | .quote, [] => some ([], [])
  | .quote, c :: r =>
    if c = q then consO q (lexLit .normal r)      -- '' inside a literal is one quote
    else some ([], c :: r)
  | .esc, [] => none
  | .esc, c :: r =>
    if c = 120 then lexLit .hex1 r
    else if c = 78 then lexLit .normal r            -- \N : nothing
    else appO (escOut c) (lexLit .normal r)
  | .hex1, [] => none
  | .hex1, c :: r => if isHex c then lexLit (.hex2 c) r else none
  | .hex2 _, [] => none
  | .hex2 h, c :: r => if isHex c then consO (unhex h * 16 + unhex c) (lexLit .normal r) else none

/-- a complete literal including its opening quote -/
def unlit : Bytes → Option (Bytes × Bytes)
  | [] => none
  | c :: r => if c = q then lexLit .normal r else none

def scanLit (scanRest : Bytes → Option (List Bytes × Bytes)) (o : Option (Bytes × Bytes)) :
    Option (List Bytes × Bytes) :=
  match o with
  | none => none
  | some p =>
    match scanRest p.2 with
    | none => none
    | some r => some (p.1 :: r.1, 63 :: r.2)

def consSk (c : UInt8) (o : Option (List Bytes × Bytes)) : Option (List Bytes × Bytes) :=
  match o with
  | none => none
  | some r => some (r.1, c :: r.2)

/-- Splits SQL text into the decoded string literals and the skeleton: the text with every literal replaced by `?`.
    (No other token of the generated queries can contain a quote.) -/
def scan : Nat → Bytes → Option (List Bytes × Bytes)
  | 0, _ => none
  | _ + 1, [] => some ([], [])
  | fuel + 1, c :: rest =>
    if c = q then scanLit (scan fuel) (lexLit .normal rest)
    else consSk c (scan fuel rest)

def scanAll (b : Bytes) : Option (List Bytes × Bytes) := scan (b.length + 1) b

/-! ### numbers: fmt.Sprint of an integer -/

def digitsAux : Nat → Nat → Bytes → Bytes
  | 0, _, acc => acc
  | fuel + 1, n, acc =>
    if n < 10 then (48 + n).toUInt8 :: acc
    else digitsAux fuel (n / 10) ((48 + n % 10).toUInt8 :: acc)

def natBytes (n : Nat) : Bytes := digitsAux (n + 1) n []

def itoa (i : Int) : Bytes :=
  if i < 0 then 45 :: natBytes i.natAbs else natBytes i.natAbs

/-! ### inputs -/

/-- data_model.TagValue: flags + Value + Mapped -/
structure TagValue where
  hasValue : Bool
  isMapped : Bool
  value : Bytes
  mapped : Int
deriving DecidableEq, Repr

/-- TagValue.Empty() -/
def TagValue.empty (v : TagValue) : Bool :=
  v.hasValue && v.isMapped && v.value.isEmpty && v.mapped == 0

structure TagFilter where
  values : List TagValue
  re2 : Bytes
deriving DecidableEq, Repr

/-- TagFilter.Empty() -/
def TagFilter.isEmpty (f : TagFilter) : Bool := f.values.isEmpty && f.re2.isEmpty

def noFilter : TagFilter := { values := [], re2 := [] }

/-- what the where-clause reads from queryBuilder and LOD -/
structure Cfg where
  mode : Nat                 -- 0 buildSeriesQuery, 1 buildTagValuesQuery, 2 buildTagValueIDsQuery
  fromSec : Int
  toSec : Int
  hasPreKey : Bool
  hasMetric : Bool           -- b.metric != nil
  metricId : Int
  metricPk : Int             -- format.TagIndex(b.metric.PreKeyTagID)
  raw : List Nat             -- indices i < len(b.metric.Tags) with Tags[i].Raw()
  raw64 : List Nat           -- … with Tags[i].Raw64()
  groupBy : List Int
  fim : List (Int × Int)     -- filterIn.Metrics as (MetricID, TagIndex(PreKeyTagID))
  fnm : List (Int × Int)
deriving DecidableEq, Repr

def maxTags : Nat := 48

/-- queryBuilder.singleMetric -/
def singleMetric (c : Cfg) : Option (Int × Int) :=
  if c.hasMetric then some (c.metricId, c.metricPk)
  else match c.fim with
    | [m] => some m
    | _ => none

/-- queryBuilder.metricID -/
def metricID (c : Cfg) : Int :=
  match singleMetric c with
  | some m => m.1
  | none => 0

/-- queryBuilder.preKeyTagX -/
def preKeyTagX (c : Cfg) : Int :=
  match singleMetric c with
  | some m => m.2
  | none => -1

def isPreKeyTag (c : Cfg) (x : Nat) : Bool := c.hasPreKey && (Int.ofNat x == preKeyTagX c)

def isRaw (c : Cfg) (x : Nat) : Bool := c.hasMetric && c.raw.contains x
def isRaw64 (c : Cfg) (x : Nat) : Bool := c.hasMetric && c.raw64.contains x
def groupedBy (c : Cfg) (x : Nat) : Bool := c.groupBy.contains (Int.ofNat x)

/-- colIntV3 for a tag index 0…47 (the StringTop/Shard cases have negative indices and cannot come from the filter array) -/
def colInt (c : Cfg) (x : Nat) : Bytes :=
  if isPreKeyTag c x then str "pre_tag" else str "tag" ++ natBytes x

def colStr (x : Nat) : Bytes := str "stag" ++ natBytes x

def raw64Expr (c : Cfg) (x : Nat) : Bytes :=
  str "bitOr(bitShiftLeft(toInt64(toUInt32(" ++ colInt c (x + 1) ++ str ")),32),toUInt32(" ++ colInt c x ++ str "))"

/-- whereIntExpr -/
def whereIntExpr (c : Cfg) (x : Nat) : Bytes :=
  if c.mode == 0 && isPreKeyTag c x then str "_prekey"
  else if isRaw64 c x then
    (if groupedBy c x then str "_tag" ++ natBytes x else raw64Expr c x)
  else colInt c x

/-! ### the condition written for one tag (writeTagFilter), as a tree -/

inductive Atom where
  | constF                                   -- `0!=0`  (positive filter without mapped values)
  | constT                                   -- `0=0`   (negative filter without mapped values)
  | intIn (neg : Bool) (ids : List Int)      -- `<int> [NOT] IN (1,2)`
  | strIn (neg : Bool) (vals : List Bytes)   -- `<str> [NOT] IN ('a','b')`
  | reMatch (neg : Bool) (re : Bytes)        -- `[NOT ]match(<str>,'re')`
  | isEmpty (neg : Bool) (raw : Bool)        -- `[NOT ](<int>=0[ AND <str>=''])`
deriving DecidableEq, Repr

def liveValues (f : TagFilter) : List TagValue := f.values.filter (fun v => !v.empty)
def mappedIds (f : TagFilter) : List Int := ((liveValues f).filter (·.isMapped)).map (·.mapped)
def strVals (f : TagFilter) : List Bytes := ((liveValues f).filter (·.hasValue)).map (·.value)
def hasEmpty (f : TagFilter) : Bool := f.values.any (·.empty)

def mappedAtom (isIn : Bool) (f : TagFilter) : Atom :=
  if (mappedIds f).isEmpty then (if isIn then .constF else .constT) else .intIn (!isIn) (mappedIds f)

def stringAtoms (isIn raw : Bool) (f : TagFilter) : List Atom :=
  if raw then []
  else if !f.re2.isEmpty then [.reMatch (!isIn) f.re2]
  else if (strVals f).isEmpty then [] else [.strIn (!isIn) (strVals f)]

def emptyAtoms (isIn raw : Bool) (f : TagFilter) : List Atom :=
  if hasEmpty f then [.isEmpty (!isIn) raw] else []

/-- The clauses written for one tag, in order. In the Go code a `started` flag decides whether the separator is written;
    the first clause (mapped list or constant) is always written, so `started` is true for every later clause. -/
def tagAtoms (isIn raw : Bool) (f : TagFilter) : List Atom :=
  mappedAtom isIn f :: (stringAtoms isIn raw f ++ emptyAtoms isIn raw f)

/-! ### text -/

inductive Frag where
  | raw (b : Bytes)     -- text written by the builder itself (keywords, column names, numbers, punctuation)
  | lit (s : Bytes)     -- `'` ++ escape s ++ `'`
  | qraw (s : Bytes)    -- `'` ++ s ++ `'` : text put between quotes WITHOUT escaping (fmt.Sprintf("'%s'", …): the LOD's
                        -- time-zone name in the 1-month time column; configuration, not a filter value)
deriving DecidableEq, Repr

def Frag.bytes : Frag → Bytes
  | .raw b => b
  | .lit s => q :: (escape s ++ [q])
  | .qraw s => q :: (s ++ [q])

def flatten : List Frag → Bytes
  | [] => []
  | f :: fs => f.bytes ++ flatten fs

def lits : List Frag → List Bytes
  | [] => []
  | .raw _ :: fs => lits fs
  | .lit s :: fs => s :: lits fs
  | .qraw s :: fs => s :: lits fs

def skel : List Frag → Bytes
  | [] => []
  | .raw b :: fs => b ++ skel fs
  | .lit _ :: fs => 63 :: skel fs
  | .qraw _ :: fs => 63 :: skel fs

def commaInts : List Int → Bytes
  | [] => []
  | [a] => itoa a
  | a :: b :: rest => itoa a ++ 44 :: commaInts (b :: rest)

def commaLits : List Bytes → List Frag
  | [] => []
  | [a] => [.lit a]
  | a :: b :: rest => .lit a :: .raw [44] :: commaLits (b :: rest)

def opText (neg : Bool) : Bytes := if neg then str " NOT IN " else str " IN "
def notText (neg : Bool) : Bytes := if neg then str "NOT " else []
def sepText (isIn : Bool) : Bytes := if isIn then str " OR " else str " AND "

def Atom.frags (intE strE : Bytes) : Atom → List Frag
  | .constF => [.raw (str "0!=0")]
  | .constT => [.raw (str "0=0")]
  | .intIn neg ids => [.raw (intE ++ opText neg ++ str "(" ++ commaInts ids ++ str ")")]
  | .strIn neg vals => .raw (strE ++ opText neg ++ str "(") :: (commaLits vals ++ [.raw (str ")")])
  | .reMatch neg re => [.raw (notText neg ++ str "match(" ++ strE ++ str ","), .lit re, .raw (str ")")]
  | .isEmpty neg raw =>
    if raw then [.raw (notText neg ++ str "(" ++ intE ++ str "=0)")]
    else [.raw (notText neg ++ str "(" ++ intE ++ str "=0 AND " ++ strE ++ str "="), .lit [], .raw (str ")")]

def joinFrags (sep : Bytes) : List (List Frag) → List Frag
  | [] => []
  | [a] => a
  | a :: b :: rest => a ++ .raw sep :: joinFrags sep (b :: rest)

/-- writeTagFilter for one tag index -/
def tagFrags (c : Cfg) (isIn : Bool) (x : Nat) (f : TagFilter) : List Frag :=
  if f.isEmpty then []
  else .raw (str " AND (") ::
    (joinFrags (sepText isIn) ((tagAtoms isIn (isRaw c x) f).map (Atom.frags (whereIntExpr c x) (colStr x)))
      ++ [.raw (str ")")])

abbrev Filters := List (Nat × TagFilter)

/-- f.Tags[x] of the fixed-size array; indices never set hold the zero TagFilter -/
def Filters.get (fs : Filters) (x : Nat) : TagFilter :=
  match fs.find? (fun p => p.1 == x) with
  | some p => p.2
  | none => noFilter

def tagFilterFrags (c : Cfg) (isIn : Bool) (fs : Filters) : List Frag :=
  (List.range maxTags).flatMap (fun x => tagFrags c isIn x (fs.get x))

def metricList (ms : List (Int × Int)) : Bytes := commaInts (ms.map (·.1))

/-- writeMetricFilter -/
def metricFrags (c : Cfg) : List Frag :=
  if metricID c != 0 || (c.fim.isEmpty && c.fnm.isEmpty) then
    [.raw (str " AND metric=" ++ itoa (metricID c))]
  else
    (if c.fim.isEmpty then [] else [.raw (str " AND metric IN (" ++ metricList c.fim ++ str ")")]) ++
    (if c.fnm.isEmpty then [] else [.raw (str " AND metric NOT IN (" ++ metricList c.fnm ++ str ")")])

/-- writeTimeClause + ensurePrimaryKeyPrefix -/
def baseFrags (c : Cfg) : List Frag :=
  [.raw (str " WHERE time>=" ++ itoa c.fromSec ++ str " AND time<" ++ itoa c.toSec ++
      str " AND index_type=0 AND pre_tag=0 AND pre_stag="), .lit []]

/-- writeWhere -/
def whereFrags (c : Cfg) (fin fnotin : Filters) : List Frag :=
  baseFrags c ++ metricFrags c ++ tagFilterFrags c true fin ++ tagFilterFrags c false fnotin

def whereBytes (c : Cfg) (fin fnotin : Filters) : Bytes := flatten (whereFrags c fin fnotin)

/-! ### meaning of the condition on a row -/

/-- the two values a row has for one tag: the integer expression the where-clause uses for it, and its string column -/
structure TagRow where
  n : Int
  s : Bytes
deriving DecidableEq, Repr

def Atom.eval (re : Bytes → Bytes → Bool) (r : TagRow) : Atom → Bool
  | .constF => false
  | .constT => true
  | .intIn neg ids => ids.contains r.n != neg
  | .strIn neg vals => vals.contains r.s != neg
  | .reMatch neg p => re p r.s != neg
  | .isEmpty neg raw => (r.n == 0 && (raw || r.s.isEmpty)) != neg

/-- clauses of a positive filter are joined by OR, of a negative filter by AND -/
def evalAtoms (re : Bytes → Bytes → Bool) (isIn : Bool) (r : TagRow) (as : List Atom) : Bool :=
  if isIn then as.any (Atom.eval re r) else as.all (Atom.eval re r)

structure Row where
  time : Int
  indexType : Int
  preTag : Int
  preStag : Bytes
  metric : Int
  tags : List (Nat × TagRow)
deriving DecidableEq, Repr

def Row.tag (r : Row) (x : Nat) : TagRow :=
  match r.tags.find? (fun p => p.1 == x) with
  | some p => p.2
  | none => { n := 0, s := [] }

def tagSel (re : Bytes → Bytes → Bool) (c : Cfg) (isIn : Bool) (x : Nat) (f : TagFilter) (r : Row) : Bool :=
  f.isEmpty || evalAtoms re isIn (r.tag x) (tagAtoms isIn (isRaw c x) f)

def metricSel (c : Cfg) (m : Int) : Bool :=
  if metricID c != 0 || (c.fim.isEmpty && c.fnm.isEmpty) then m == metricID c
  else (c.fim.isEmpty || (c.fim.map (·.1)).contains m) && (c.fnm.isEmpty || !(c.fnm.map (·.1)).contains m)

def baseSel (c : Cfg) (r : Row) : Bool :=
  decide (c.fromSec ≤ r.time) && decide (r.time < c.toSec) && r.indexType == 0 && r.preTag == 0 && r.preStag.isEmpty

def evalWhere (re : Bytes → Bytes → Bool) (c : Cfg) (fin fnotin : Filters) (r : Row) : Bool :=
  baseSel c r && metricSel c r.metric &&
  (List.range maxTags).all (fun x => tagSel re c true x (fin.get x) r) &&
  (List.range maxTags).all (fun x => tagSel re c false x (fnotin.get x) r)

/-! ### the complete query texts (buildSeriesQuery, buildTagValuesQuery, buildTagValueIDsQuery) -/

/-- what the rest of the query text reads from queryBuilder, LOD and the `settings` argument -/
structure QCfg where
  step : Int                 -- lod.StepSec
  utcOffset : Int            -- b.utcOffset
  loc : Bytes                -- lod.Location.String()
  sharded : Bool             -- b.metric.Sharded()
  whats : List Nat           -- b.what[i].What, the 7 slots (data_model.DigestWhat as a number)
  minHost : Bool
  maxHost : Bool
  sort : Nat                 -- 0 sortNone, 1 sortAscending, 2 sortDescending
  settings : Bytes           -- the `settings` argument (Config.BuildSelectSettings)
  tagIndex : Int             -- b.tag.Index (tag-values queries)
  tagRaw : Bool              -- b.tag.Raw()
  tagRaw64 : Bool            -- b.tag.Raw64()
  numResults : Int
deriving DecidableEq, Repr

def stepMonth : Int := 2678400

/-- data_model.LODTables[Version6][step]; a step that is not in the map gives the empty string -/
def lodTable (step : Int) : Bytes :=
  if step == 1 || step == 5 || step == 15 then str "statshouse_v6_1s"
  else if step == 60 || step == 300 || step == 900 then str "statshouse_v6_1m"
  else if step == 3600 || step == 14400 || step == 86400 || step == 604800 || step == 2678400 then str "statshouse_v6_1h"
  else []

/-- preKeyTableName = lod.Table(b.metric.Sharded()) -/
def tableName (e : QCfg) : Bytes := lodTable e.step ++ (if e.sharded then [] else str "_dist")

/-- selAlias -/
def selAlias (c : Cfg) (x : Nat) : Bytes :=
  if isPreKeyTag c x then str "_prekey"
  else if isRaw64 c x then str "_tag" ++ natBytes x
  else colInt c x

/-- writeSelectInt: selectIntExpr, plus ` AS <alias>` when it is an expression -/
def selectIntText (c : Cfg) (x : Nat) : Bytes :=
  if isPreKeyTag c x then str "_prekey"
  else if isRaw64 c x then raw64Expr c x ++ str " AS " ++ selAlias c x
  else colInt c x

/-- writeSelectTime -/
def timeFrags (e : QCfg) : List Frag :=
  if e.step == stepMonth then
    [.raw (str "toInt64(toDateTime(toStartOfInterval(time,INTERVAL 1 MONTH,"), .qraw e.loc, .raw (str "),"), .qraw e.loc,
     .raw (str "))")]
  else
    [.raw (str "toInt64(toStartOfInterval(time+" ++ itoa e.utcOffset ++ str ",INTERVAL " ++ itoa e.step ++ str " second))-" ++
       itoa e.utcOffset)]

/-- state of the loop in writeSelectValues: `has`, the column counter `j`, the columns written so far -/
structure SelSt where
  has : List Nat
  j : Nat
  cols : List Bytes
deriving DecidableEq, Repr

def valCol (expr : Bytes) (j : Nat) : Bytes := expr ++ str " AS _val" ++ natBytes j

def addCol (expr : Bytes) (s : SelSt) : SelSt := { s with j := s.j + 1, cols := s.cols ++ [valCol expr s.j] }

/-- `if !has[k] { write; has[k] = true; j++ }` -/
def ensureCol (k : Nat) (expr : Bytes) (s : SelSt) : SelSt :=
  if s.has.contains k then s else { addCol expr s with has := k :: s.has }

def sumE : Bytes := str "toFloat64(sum(sum))"
def countE : Bytes := str "toFloat64(sum(count))"

/-- body of the switch for one digest kind (1 avg, 2 count, 3 max, 4 min, 5 sum, 6 percentile, 7 stddev, 8 cardinality,
    9 unique); `none` = "unsupported operation kind" -/
def selKind (w : Nat) (s : SelSt) : Option SelSt :=
  if w == 1 then some (ensureCol 2 countE (ensureCol 5 sumE s))
  else if w == 2 then some (addCol countE s)
  else if w == 3 then some (addCol (str "toFloat64(max(max))") s)
  else if w == 4 then some (addCol (str "toFloat64(min(min))") s)
  else if w == 5 then some (addCol sumE s)
  else if w == 7 then some (addCol (str "toFloat64(sum(sumsquare))") (ensureCol 2 countE (ensureCol 5 sumE s)))
  else if w == 6 then some (addCol (str "quantilesTDigestMergeState(0.5)(percentiles)") s)
  else if w == 8 then some (addCol (str "toFloat64(sum(1))") s)
  else if w == 9 then some (addCol (str "uniqMergeState(uniq_state)") s)
  else none

def selStep (w : Nat) (s : SelSt) : Option SelSt :=
  if s.has.contains w then some s
  else match selKind w s with
    | none => none
    | some s' => some { s' with has := w :: s'.has }

def selLoop : List Nat → SelSt → Option SelSt
  | [], s => some s
  | w :: ws, s =>
    match selStep w s with
    | none => none
    | some s' => selLoop ws s'

/-- the slots up to the first unspecified one (tsWhat.specifiedAt) -/
def specified (whats : List Nat) : List Nat := (whats.take 7).takeWhile (fun w => w != 0)

def hostCols (e : QCfg) (has : List Nat) : List Bytes :=
  (if e.minHost then [str "argMinMergeState(min_host) AS _minHost"] else []) ++
  (if e.maxHost then
     [(if has.contains 3 then str "argMaxMergeState(max_host)" else str "argMaxMergeState(max_count_host)") ++ str " AS _maxHost"]
   else [])

def shardIndex : Int := -3

/-- writeSelectTagsV3: one item for the shard pseudo-tag, two (int, string) for a real tag -/
def tagCols (c : Cfg) : List Int → List Bytes
  | [] => []
  | x :: xs =>
    (if x == shardIndex then [str "_shard_num"] else [selectIntText c x.toNat, colStr x.toNat]) ++ tagCols c xs

/-- every later item of the select list is preceded by a comma -/
def commaItems : List Bytes → Bytes
  | [] => []
  | a :: rest => 44 :: (a ++ commaItems rest)

/-- writeByTagsDir -/
def byTags (c : Cfg) (dir : Bytes) : List Int → Bytes
  | [] => []
  | x :: xs =>
    (if x == shardIndex then str ",_shard_num" ++ dir
     else 44 :: (selAlias c x.toNat ++ dir ++ 44 :: (colStr x.toNat ++ dir))) ++ byTags c dir xs

def dirText (e : QCfg) : Bytes := if e.sort == 2 then str " DESC" else []

def maxSeriesRows : Int := 10000000
def maxTableRows : Int := 100000

/-- everything buildSeriesQuery writes after the where-clause -/
def seriesTail (c : Cfg) (e : QCfg) : Bytes :=
  str " GROUP BY _time" ++ byTags c [] c.groupBy ++
  (if e.sort == 0 then str " LIMIT " ++ itoa maxSeriesRows
   else str " ORDER BY _time" ++ dirText e ++ byTags c (dirText e) c.groupBy ++ str " LIMIT " ++ itoa maxTableRows) ++
  e.settings

/-- buildSeriesQuery; `none` = the builder returns an error (unsupported operation kind) -/
def seriesFrags (c : Cfg) (e : QCfg) (fin fnotin : Filters) : Option (List Frag) :=
  match selLoop (specified e.whats) { has := [], j := 0, cols := [] } with
  | none => none
  | some s =>
    some (.raw (str "SELECT ") :: (timeFrags e ++
      (.raw (str " AS _time" ++ commaItems (s.cols ++ hostCols e s.has ++ tagCols c c.groupBy) ++ str " FROM " ++ tableName e) ::
        (whereFrags c fin fnotin ++ [.raw (seriesTail c e)]))))

/-- b.tag.Index after `if b.tag.Index == StringTopTagIndex { b.tag.Index = StringTopTagIndexV3 }` -/
def tagX (e : QCfg) : Nat := if e.tagIndex == -1 then 47 else e.tagIndex.toNat

/-- tagValuesQuery.hasStr -/
def hasStr (c : Cfg) (e : QCfg) : Bool := !e.tagRaw && !e.tagRaw64 && c.mode != 2

/-- tagValuesQuery.writeByTags -/
def tvByTags (c : Cfg) (e : QCfg) : Bytes :=
  selAlias c (tagX e) ++ (if hasStr c e then 44 :: colStr (tagX e) else [])

/-- buildTagValuesQueryEx (modes 1 and 2) -/
def tagValuesFrags (c : Cfg) (e : QCfg) (fin fnotin : Filters) : List Frag :=
  .raw (str "SELECT " ++ selectIntText c (tagX e) ++ (if hasStr c e then 44 :: colStr (tagX e) else []) ++
        str ",toFloat64(sum(count)) AS _count FROM " ++ tableName e) ::
    (whereFrags c fin fnotin ++
      [.raw (str " GROUP BY " ++ tvByTags c e ++ str " HAVING _count>0 ORDER BY _count DESC," ++ tvByTags c e ++
             str " LIMIT " ++ itoa (e.numResults + 1) ++ e.settings)])

/-- the query text for the builder's mode -/
def queryFrags (c : Cfg) (e : QCfg) (fin fnotin : Filters) : Option (List Frag) :=
  if c.mode == 0 then seriesFrags c e fin fnotin else some (tagValuesFrags c e fin fnotin)

def queryBytes (c : Cfg) (e : QCfg) (fin fnotin : Filters) : Option Bytes :=
  match queryFrags c e fin fnotin with
  | none => none
  | some fs => some (flatten fs)

/-! ### integer expressions of the where-clause and their value (ClickHouse typing of the forms the builder emits) -/

/-- the integer expression forms the builder writes: Int32 columns (tagN, pre_tag, _prekey), Int64 aliases (_tagN),
    toUInt32, toInt64, bitShiftLeft by a constant, bitOr -/
inductive IExpr where
  | col32 (name : Bytes)
  | col64 (name : Bytes)
  | toUInt32 (e : IExpr)
  | toInt64 (e : IExpr)
  | shl (e : IExpr) (n : Nat)
  | bor (a b : IExpr)
deriving DecidableEq, Repr

def IExpr.render : IExpr → Bytes
  | .col32 n => n
  | .col64 n => n
  | .toUInt32 e => str "toUInt32(" ++ e.render ++ str ")"
  | .toInt64 e => str "toInt64(" ++ e.render ++ str ")"
  | .shl e n => str "bitShiftLeft(" ++ e.render ++ str "," ++ natBytes n ++ str ")"
  | .bor a b => str "bitOr(" ++ a.render ++ str "," ++ b.render ++ str ")"

/-- a typed integer value: 32 or 64 bits wide, signed or not; `bits` holds the value extended to 64 bits according to its
    type (sign-extended if signed, zero-extended otherwise), so conversions that preserve the value keep `bits` -/
structure IVal where
  wide : Bool
  signed : Bool
  bits : BitVec 64
deriving DecidableEq, Repr

def ext32 (signed : Bool) (x : BitVec 32) : BitVec 64 := if signed then x.signExtend 64 else x.zeroExtend 64

/-- ClickHouse rules used (trusted, see checks/C26.py): tagN columns are Int32; toUInt32 keeps the low 32 bits; toInt64 preserves
    the value; bitShiftLeft has the type of its first argument and shifts inside its width; bitOr converts both arguments,
    value-preserving, to the common type (64 bits if either is, or if signedness differs; signed if either is) -/
def IExpr.eval (e32 : Bytes → BitVec 32) (e64 : Bytes → BitVec 64) : IExpr → IVal
  | .col32 n => ⟨false, true, ext32 true (e32 n)⟩
  | .col64 n => ⟨true, true, e64 n⟩
  | .toUInt32 e => ⟨false, false, ext32 false ((e.eval e32 e64).bits.setWidth 32)⟩
  | .toInt64 e => ⟨true, true, (e.eval e32 e64).bits⟩
  | .shl e n =>
    let v := e.eval e32 e64
    if v.wide then ⟨true, v.signed, v.bits <<< n⟩ else ⟨false, v.signed, ext32 v.signed ((v.bits.setWidth 32) <<< n)⟩
  | .bor a b =>
    let x := a.eval e32 e64
    let y := b.eval e32 e64
    ⟨x.wide || y.wide || (x.signed != y.signed), x.signed || y.signed, x.bits ||| y.bits⟩

/-- raw64Expr as a tree -/
def raw64AST (hi lo : Bytes) : IExpr :=
  .bor (.shl (.toInt64 (.toUInt32 (.col32 hi))) 32) (.toUInt32 (.col32 lo))

/-- whereIntExpr as a tree (`whereIntAST_render`: it renders to `whereIntExpr`) -/
def whereIntAST (c : Cfg) (x : Nat) : IExpr :=
  if c.mode == 0 && isPreKeyTag c x then .col32 (str "_prekey")
  else if isRaw64 c x then
    (if groupedBy c x then .col64 (str "_tag" ++ natBytes x) else raw64AST (colInt c (x + 1)) (colInt c x))
  else .col32 (colInt c x)

/-! ### from the user's filter string to a TagValue (requestHandler.GetTagFilter, internal/api/promql.go) -/

def isDigit (c : UInt8) : Bool := 48 ≤ c && c ≤ 57

def digitsValue (ds : Bytes) : Nat := ds.foldl (fun a c => a * 10 + (c.toNat - 48)) 0

def inInt64 (v : Int) : Bool := decide (-9223372036854775808 ≤ v) && decide (v ≤ 9223372036854775807)

def parseDigits (neg : Bool) (ds : Bytes) : Option Int :=
  if ds.isEmpty || !ds.all isDigit then none
  else
    let v : Int := if neg then -(Int.ofNat (digitsValue ds)) else Int.ofNat (digitsValue ds)
    if inInt64 v then some v else none

/-- strconv.ParseInt(s, 10, 64): optional sign, at least one decimal digit, value in the int64 range -/
def parseInt64 : Bytes → Option Int
  | [] => none
  | c :: r => if c == 45 then parseDigits true r else if c == 43 then parseDigits false r else parseDigits false (c :: r)

/-- format.ParseCodeTagValue: a space followed by a decimal integer -/
def parseCode : Bytes → Option Int
  | [] => none
  | c :: r => if c == 32 then parseInt64 r else none

/-- what GetTagFilter reads from the metric's tag: whether tagIndex is inside metric.Tags, the tag's Raw(), whether its name is
    the histogram bucket label "le", and its ValueComments as (raw code key, comment) pairs (keys distinct and non-empty) -/
structure TagCtx where
  inTags : Bool
  raw : Bool
  isLe : Bool
  comments : List (Bytes × Bytes)
deriving DecidableEq, Repr

def TagCtx.isRaw (t : TagCtx) : Bool := t.inTags && t.raw

def tvEmpty : TagValue := ⟨true, true, [], 0⟩          -- NewTagValue("", 0)
def tvM (n : Int) : TagValue := ⟨false, true, [], n⟩    -- NewTagValueM(n)
def tvBoth (s : Bytes) (n : Int) : TagValue := ⟨true, true, s, n⟩   -- NewTagValue(s, n)

def commentKeys (t : TagCtx) (s : Bytes) : List Bytes := (t.comments.filter (fun p => p.2 == s)).map (·.1)

/-- the loop over ValueComments: `none` = no comment equals the string, fall through to the mapping lookup;
    `some none` = error (ambiguous comment, or the key is not a raw code) -/
def rawComment (t : TagCtx) (s : Bytes) : Option (Option TagValue) :=
  match commentKeys t s with
  | [] => none
  | [k] => some (match parseCode k with | none => none | some v => some (tvM v))
  | _ :: _ :: _ => some none

def tagValueIDDoesNotExist : Int := -2

/-- GetTagValueID for an ordinary tag: the string->id mapping, or TagValueIDDoesNotExist -/
def mapString (lookup : Bytes → Option Int) (s : Bytes) : TagValue :=
  match lookup s with
  | some id => tvBoth s id
  | none => tvBoth s tagValueIDDoesNotExist

/-- requestHandler.GetTagFilter. `lookup` = mappingsStorage.GetValue; `leEnc` = LexEncode(float32(v)) when
    strconv.ParseFloat(s, 32) succeeds (external float code, passed in). `none` = error. -/
def getTagFilter (lookup : Bytes → Option Int) (leEnc : Option Int) (t : TagCtx) (s : Bytes) : Option TagValue :=
  if s.isEmpty then some tvEmpty
  else if s.head? == some 32 then
    (match parseCode s with
     | none => none
     | some v => if v != 0 then some (tvM v) else some tvEmpty)
  else if t.isRaw then
    (match (if t.isLe then leEnc else none) with
     | some e => some (tvM e)
     | none =>
       match rawComment t s with
       | some r => r
       | none => some (tvBoth s tagValueIDDoesNotExist))   -- getRichTagValueID on a raw tag: comment not found
  else some (mapString lookup s)

end SH.Sql
