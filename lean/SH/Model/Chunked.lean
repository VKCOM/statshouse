/-
  SH.Model.Chunked — executable model of internal/data_model/chunked_storage2.go (property C21).

  File format: file = chunk*, chunk = magic(4, LE) ‖ bodySize(4, LE) ‖ body ‖ hash(16), where
  hash = H(previous chunk's hash ‖ magic ‖ bodySize ‖ body) and the first chunk uses 16 zero bytes.

  `H` (xxh3-128 in the code) is a PARAMETER of every function here (DESIGN §4.7): theorems hold for every `H`,
  the driver instantiates it with a finite table of the hash values the Go harness computed with the real xxh3.

  Modelled branch for branch:
    ReadNext            → `readNext` (pure, on the unread rest of the file) and `stepReadNext` (the stateful wrapper:
                           offset/hash are advanced only by the NEXT call, `ReadAt = nil` after the end was seen)
    ResetToStartOfFile  → `resetToStart`;  StartWriteChunk → `startWrite`
    finishChunk         → `finishChunk` (empty chunk = no-op, writeErr makes it a discarding no-op, WriteAt failure is an input)
    FinishItem          → `finishItem` (write once half of ChunkSize is used, "too big" error)
    FinishWriteChunk    → `finishWrite` (finishChunk + Truncate)
  The `chunk []byte` slice the Go caller appends to is the `pending` field (body bytes only, without the 24 reserved bytes).
  Assumed away: the storage callbacks are those of NewChunkedStorage2Slice (WriteAt only fails when the harness
  injects a failure; ReadAt/Truncate never fail).
-/
import SH.Gen.C21

namespace SH.Chunked

abbrev Bytes := List UInt8

def chunkSize : Nat := SH.Gen.C21.chunkSize
def halfChunk : Nat := chunkSize / 2
def headerSize : Nat := SH.Gen.C21.chunkHeaderSize
def hashSize : Nat := SH.Gen.C21.chunkHashSize
def magicMappings : Nat := SH.Gen.C21.chunkedMagicMappings

def zeroHash : Bytes := List.replicate hashSize 0

/-- `k` little-endian bytes of `n` -/
def le : Nat → Nat → Bytes
  | 0, _ => []
  | k + 1, n => UInt8.ofNat (n % 256) :: le k (n / 256)

def unle : Bytes → Nat
  | [] => 0
  | b :: bs => b.toNat + 256 * unle bs

/-- `magic ‖ bodySize` -/
def header (magic : Nat) (body : Bytes) : Bytes := le 4 magic ++ le 4 body.length

/-- the bytes the hash of a chunk is computed over: previous hash ‖ magic ‖ size ‖ body -/
def hashInput (magic : Nat) (prev body : Bytes) : Bytes := prev ++ (header magic body ++ body)

/-- one chunk as written by `finishChunk` -/
def encChunk (H : Bytes → Bytes) (magic : Nat) (prev body : Bytes) : Bytes :=
  header magic body ++ (body ++ H (hashInput magic prev body))

/-- a whole file: chunks chained through their hashes, starting from `prev` -/
def encodeAll (H : Bytes → Bytes) (magic : Nat) : Bytes → List Bytes → Bytes
  | _, [] => []
  | prev, b :: bs => encChunk H magic prev b ++ encodeAll H magic (H (hashInput magic prev b)) bs

/-! ### reader -/

inductive Err
  | headerOverflow   -- "chunk at %d header overflows file size"
  | badMagic         -- "invalid magic"
  | bodyTooBig       -- "body size overflows hard limit"
  | bodyOverflow     -- "body size overflows file size"
  | wrongHash        -- "has wrong xxhash"
deriving DecidableEq, Repr

def Err.name : Err → String
  | .headerOverflow => "header-overflow"
  | .badMagic => "bad-magic"
  | .bodyTooBig => "body-too-big"
  | .bodyOverflow => "body-overflow"
  | .wrongHash => "wrong-hash"

inductive Next
  | eof
  | err (e : Err)
  | chunk (body stored rest : Bytes)
deriving DecidableEq, Repr

def shortHeader (rest : Bytes) : Bool := rest.length < headerSize + hashSize
def magicOf (rest : Bytes) : Nat := unle (rest.take 4)
def bodySize (rest : Bytes) : Nat := unle ((rest.drop 4).take 4)
def wrongMagic (magic : Nat) (rest : Bytes) : Bool := magicOf rest != magic
def tooBig (rest : Bytes) : Bool := bodySize rest > chunkSize
def bodyOverflows (rest : Bytes) : Bool := headerSize + bodySize rest + hashSize > rest.length
def storedHash (rest : Bytes) : Bytes := (rest.drop (headerSize + bodySize rest)).take hashSize
def hashedPart (rest : Bytes) : Bytes := rest.take (headerSize + bodySize rest)
def hashMismatch (H : Bytes → Bytes) (prev rest : Bytes) : Bool := H (prev ++ hashedPart rest) != storedHash rest

/-- `ReadNext` on the unread part `rest` of the file (`rest = file[offset:initialFileSize]`), `prev` = hash of the previous chunk -/
def readNext (H : Bytes → Bytes) (magic : Nat) (prev rest : Bytes) : Next :=
  if rest.isEmpty then .eof
  else if shortHeader rest then .err .headerOverflow
  else if wrongMagic magic rest then .err .badMagic
  else if tooBig rest then .err .bodyTooBig
  else if bodyOverflows rest then .err .bodyOverflow
  else if hashMismatch H prev rest then .err .wrongHash
  else .chunk ((rest.drop headerSize).take (bodySize rest)) (storedHash rest) (rest.drop (headerSize + bodySize rest + hashSize))

theorem else_of_ite_ne {α} {c : Prop} [Decidable c] {a x y : α} (h : (if c then a else x) = y) (ha : a ≠ y) : x = y := by
  split at h
  · exact absurd h ha
  · exact h

theorem readNext_chunk_lt {H magic prev rest body stored rest'}
    (h : readNext H magic prev rest = .chunk body stored rest') : rest'.length < rest.length := by
  have hne : rest.length ≠ 0 := by
    intro h0
    rw [readNext, List.length_eq_zero_iff.mp h0] at h
    cases h
  unfold readNext at h
  -- the answer is a chunk, so each of the six tests has failed (`split` on the whole chain is ten times dearer)
  have h := else_of_ite_ne (else_of_ite_ne (else_of_ite_ne (else_of_ite_ne (else_of_ite_ne (else_of_ite_ne h nofun) nofun)
    nofun) nofun) nofun) nofun
  cases h
  rw [List.length_drop]
  simp only [headerSize, hashSize, SH.Gen.C21.chunkHeaderSize, SH.Gen.C21.chunkHashSize]
  omega

/-- call `ReadNext` until it returns an error or the end of the file: the chunks returned and how it ended -/
def readAll (H : Bytes → Bytes) (magic : Nat) (prev rest : Bytes) : List Bytes × Option Err :=
  match h : readNext H magic prev rest with
  | .eof => ([], none)
  | .err e => ([], some e)
  | .chunk body stored rest' =>
    let r := readAll H magic stored rest'
    (body :: r.1, r.2)
termination_by rest.length
decreasing_by exact readNext_chunk_lt h

/-! ### the storage object -/

structure St where
  file : Bytes := []
  initialSize : Nat := 0
  offset : Nat := 0
  hash : Bytes := zeroHash
  readDone : Bool := false
  nextOffset : Nat := 0
  nextHash : Bytes := zeroHash
  magic : Nat := 0
  writeErr : Bool := false
  pending : Bytes := []
deriving DecidableEq, Repr

/-- `NewChunkedStorage2Slice(&file)` -/
def new (file : Bytes) : St := { file := file, initialSize := file.length }

inductive ReadOut
  | nothing            -- (nil, nil): end of file, or reading already finished
  | err (e : Err)
  | chunk (body : Bytes)
deriving DecidableEq, Repr

def unread (s : St) : Bytes := (s.file.take s.initialSize).drop s.nextOffset

/-- `ReadNext(magic)` -/
def stepReadNext (H : Bytes → Bytes) (magic : Nat) (s : St) : St × ReadOut :=
  if s.readDone then (s, .nothing)
  else
    let s1 := { s with offset := s.nextOffset, hash := s.nextHash }
    match readNext H magic s1.hash (unread s) with
    | .eof => ({ s1 with readDone := true }, .nothing)
    | .err e => (s1, .err e)
    | .chunk body stored _ =>
      ({ s1 with nextOffset := s1.offset + headerSize + body.length + hashSize, nextHash := stored }, .chunk body)

/-- `ResetToStartOfFile()` -/
def resetToStart (s : St) : St := { s with hash := zeroHash, offset := 0, writeErr := false }

/-- `StartWriteChunk(magic, _)`: the returned slice is the empty pending body -/
def startWrite (magic : Nat) (s : St) : St := { s with readDone := true, magic := magic, pending := [] }

/-- `WriteAt(offset, data)` of the slice storage: overwrite / extend (zero filling a gap) -/
def writeAt (f : Bytes) (pos : Nat) (d : Bytes) : Bytes :=
  let g := f ++ List.replicate (pos - f.length) 0
  g.take pos ++ (d ++ g.drop (pos + d.length))

inductive WErr
  | none
  | discarded    -- "chunk storage discarded chunk due to previous write error"
  | writeFailed  -- "chunk storage write error"
  | tooBig       -- "too big item(s)"
deriving DecidableEq, Repr

def WErr.name : WErr → String
  | .none => "ok"
  | .discarded => "discarded"
  | .writeFailed => "write-failed"
  | .tooBig => "too-big"

/-- `finishChunk(chunk)`; `failWrite` = the WriteAt callback returns an error for this call -/
def finishChunk (H : Bytes → Bytes) (failWrite : Bool) (s : St) : St × WErr :=
  if s.pending.isEmpty then (s, .none)
  else if s.writeErr then ({ s with pending := [] }, .discarded)
  else if failWrite then ({ s with pending := [], writeErr := true }, .writeFailed)
  else
    let h := H (hashInput s.magic s.hash s.pending)
    ({ s with file := writeAt s.file s.offset (encChunk H s.magic s.hash s.pending),
              hash := h,
              offset := s.offset + (headerSize + s.pending.length + hashSize),
              pending := [] }, .none)

def belowHalf (s : St) : Bool := s.pending.length < halfChunk
def overFull (s : St) : Bool := s.pending.length > chunkSize

/-- the caller appends `item` to the chunk, then `FinishItem(chunk)` -/
def finishItem (H : Bytes → Bytes) (failWrite : Bool) (item : Bytes) (s : St) : St × WErr :=
  let s1 := { s with pending := s.pending ++ item }
  if belowHalf s1 then (s1, .none)
  else if overFull s1 then (s1, .tooBig)
  else finishChunk H failWrite s1

/-- `FinishWriteChunk(chunk)` -/
def finishWrite (H : Bytes → Bytes) (failWrite : Bool) (s : St) : St × WErr :=
  let r := finishChunk H failWrite s
  if r.2 != .none then r
  else ({ r.1 with file := r.1.file.take r.1.offset }, .none)

/-! ### helpers for drivers (no part of the model proper) -/

/-- adler32, used to print large byte strings compactly -/
def adler32 (b : Bytes) : Nat :=
  let r := b.foldl (fun (acc : Nat × Nat) x =>
    let a := (acc.1 + x.toNat) % 65521
    (a, (acc.2 + a) % 65521)) (1, 0)
  r.2 * 65536 + r.1

end SH.Chunked
