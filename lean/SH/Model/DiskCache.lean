/-
  SH.Model.DiskCache — executable model of internal/agent/disk_cache.go (property C09).

  One `Shard` = one `diskCacheShard` (shards are fully independent: `DiskBucketStorage` only dispatches on
  the shard index).  The state has a durable part (`disk`: the `*.seconds` files of the shard directory in
  name order, i.e. creation order, and `clock`, the source of file names) and a volatile part (everything
  else) that `restart` resets exactly as `makeDiscCacheShard` does.

  Modelled branch for branch: `writeSecond` (size / time rotation, new file, header ++ body layout),
  `PutBucket`, `ReadNextTailSecond` (its `for` loop = `readLoop` with fuel), `GetBucket` (time check, short
  read, crc check, erase on failure), `eraseBucket` (magic overwrite, unref), `unrefFileWithRemove`
  (refCount, totalFileSize, os.Remove), `TotalFileSize`, `makeDiscCacheShard`.
  `diskCacheFile` objects are shared by pointer in Go; here they live in `ofiles`, keyed by file name
  (a name is opened at most once per incarnation).

  Parameters / inputs (DESIGN §4): `Cfg.crc` is crc32c (uninterpreted in the theorems, table-free bitwise
  implementation in the driver); the outcome of the clock test `now.Sub(writingFileCreatedTs) >=
  fileRotateInterval` is the `timeRot` input of `put`.  Assumed away (I/O error branches): WriteAt / Seek failures other than the
  body write of a put failing part way (`putFail`), OpenFile failures other than "the tail file is gone" (`hasFile`/`skipMissing`); file names (wall clock with nanoseconds) are strictly increasing.
  `Cfg.tornEraseOk = true` is the reader of disk_cache.go, which accepts the magic left by an erase torn after 3 bytes
  (`magicDeletedTorn`) as "deleted"; `false` is a reader that knows only the two other magics (see Props/C09 `torn_erase_*`).
-/
namespace SH.DiskCache

abbrev Bytes := List UInt8

def magicGood : Nat := 0x59b907EC
def magicDeleted : Nat := 0x000007EC
/-- bytes EC 07 00 59: an erase (EC 07 00 00 over EC 07 B9 59) torn after its third byte -/
def magicTornDeleted : Nat := 0x590007EC
def headerSize : Nat := 20
def fileRotateSize : Nat := 52428800
def maxChunkSize : Nat := fileRotateSize - headerSize

structure Cfg where
  crc : Bytes → Nat
  tornEraseOk : Bool := false

/-! ### bytes -/

/-- `k` little-endian bytes of `n` -/
def le : Nat → Nat → Bytes
  | 0, _ => []
  | k + 1, n => UInt8.ofNat (n % 256) :: le k (n / 256)

def unle : Bytes → Nat
  | [] => 0
  | b :: bs => b.toNat + 256 * unle bs

def encHeader (magic time size crc : Nat) : Bytes :=
  le 4 magic ++ (le 4 time ++ (le 8 size ++ le 4 crc))

/-- `fp.WriteAt(d, pos)`: overwrite / append, zero-filling a gap -/
def writeAt (f : Bytes) (pos : Nat) (d : Bytes) : Bytes :=
  let g := f ++ List.replicate (pos - f.length) 0
  g.take pos ++ (d ++ g.drop (pos + d.length))

structure Hdr where
  magic : Nat
  time : Nat
  size : Nat
  crc : Nat
deriving DecidableEq, Repr

/-- the four `binary.LittleEndian` reads on a full header; `none` = `io.ReadFull` came back short -/
def parseHdr (h : Bytes) : Option Hdr :=
  if h.length < headerSize then none
  else some { magic := unle (h.take 4), time := unle ((h.drop 4).take 4),
              size := unle ((h.drop 8).take 8), crc := unle ((h.drop 16).take 4) }

/-- `io.ReadFull(fp, header[:])` at `pos` -/
def readHdr (f : Bytes) (pos : Nat) : Option Hdr := parseHdr ((f.drop pos).take headerSize)

def isDeletedMagic (cfg : Cfg) (m : Nat) : Bool :=
  m == magicDeleted || (cfg.tornEraseOk && m == magicTornDeleted)

/-- `chunkSize < 0 || chunkSize > maxChunkSize || nextPos+headerSize+chunkSize > size` (uint64 → int64: negative = huge) -/
def badChunk (h : Hdr) (size pos : Nat) : Bool :=
  h.size > maxChunkSize || pos + headerSize + h.size > size

inductive Look
  | stop
  | skip (next : Nat)
  | good (h : Hdr) (next : Nat)
deriving DecidableEq, Repr

/-- what one iteration of the `ReadNextTailSecond` loop decides at position `pos` of a file whose cached size is `size` -/
def look (cfg : Cfg) (f : Bytes) (size pos : Nat) : Look :=
  match readHdr f pos with
  | none => .stop
  | some h =>
    if badChunk h size pos then .stop
    else if isDeletedMagic cfg h.magic then .skip (pos + headerSize + h.size)
    else if h.magic != magicGood then .stop
    else .good h (pos + headerSize + h.size)

/-! ### state -/

structure DFile where
  name : Nat
  bytes : Bytes
deriving DecidableEq, Repr

/-- `diskCacheFile` -/
structure OFile where
  name : Nat
  nextPos : Nat
  size : Nat
  refCount : Int
deriving DecidableEq, Repr

/-- `diskCacheBucket` (+ its key in `knownBuckets`) -/
structure Bucket where
  id : Nat
  file : Nat
  pos : Nat
  time : Nat
  size : Nat
  crc : Nat
deriving DecidableEq, Repr

structure WFile where
  name : Nat
  size : Nat
deriving DecidableEq, Repr

structure Shard where
  disk : List DFile := []
  clock : Nat := 0
  ofiles : List OFile := []
  known : List Bucket := []
  knownSize : Int := 0
  lastID : Nat := 0
  reading : Option Nat := none
  waiting : List WFile := []
  waitingSize : Int := 0
  writing : Option Nat := none
  total : Int := 0
deriving DecidableEq, Repr

def findO (os : List OFile) (name : Nat) : Option OFile := os.find? (fun f => f.name == name)
def findB (bs : List Bucket) (id : Nat) : Option Bucket := bs.find? (fun b => b.id == id)
def fileBytes (d : List DFile) (name : Nat) : Bytes :=
  match d.find? (fun f => f.name == name) with
  | some f => f.bytes
  | none => []

def mapO (os : List OFile) (name : Nat) (g : OFile → OFile) : List OFile :=
  os.map (fun f => if f.name == name then g f else f)

def mapDisk (d : List DFile) (name : Nat) (g : Bytes → Bytes) : List DFile :=
  d.map (fun f => if f.name == name then { f with bytes := g f.bytes } else f)

def sumSizes (d : List DFile) : Int := (d.map (fun f => (f.bytes.length : Int))).sum

/-- `unrefFileWithRemove(fp, true)` for the file object named `name` (the caller clears its pointer) -/
def unref (s : Shard) (name : Nat) : Shard :=
  match findO s.ofiles name with
  | none => s
  | some f =>
    if f.refCount - 1 = 0 then
      { s with ofiles := s.ofiles.filter (fun g => g.name != name),
               total := s.total - f.size,
               disk := s.disk.filter (fun g => g.name != name) }
    else
      { s with ofiles := mapO s.ofiles name (fun g => { g with refCount := g.refCount - 1 }) }

/-- `makeDiscCacheShard` on the directory left by `s` -/
def restart (s : Shard) : Shard :=
  { disk := s.disk, clock := s.clock,
    waiting := s.disk.map (fun f => { name := f.name, size := f.bytes.length }),
    waitingSize := sumSizes s.disk, total := sumSizes s.disk }

/-! ### PutBucket / writeSecond -/

def rotates (f : OFile) (len : Nat) (timeRot : Bool) : Bool :=
  f.size + headerSize + len > fileRotateSize || timeRot

/-- first `if` of `writeSecond`: drop the writing file when it is full or old -/
def rotateIfNeeded (s : Shard) (len : Nat) (timeRot : Bool) : Shard :=
  match s.writing with
  | none => s
  | some w =>
    match findO s.ofiles w with
    | none => s
    | some f => if rotates f len timeRot then { unref s w with writing := none } else s

/-- second `if` of `writeSecond`: create a new file named by the clock -/
def ensureWriting (s : Shard) : Shard :=
  match s.writing with
  | some _ => s
  | none =>
    { s with disk := s.disk ++ [{ name := s.clock, bytes := [] }],
             ofiles := { name := s.clock, nextPos := 0, size := 0, refCount := 1 } :: s.ofiles,
             writing := some s.clock, clock := s.clock + 1 }

/-- the two `WriteAt` calls + the bookkeeping of `PutBucket`, on the writing file `w` with object `f` -/
def appendRec (cfg : Cfg) (s : Shard) (w : Nat) (f : OFile) (time : Nat) (data : Bytes) : Shard :=
  let crc := cfg.crc data
  let n := headerSize + data.length
  { s with disk := mapDisk s.disk w (fun b => writeAt b f.size (encHeader magicGood time data.length crc ++ data)),
           ofiles := mapO s.ofiles w (fun g => { g with refCount := g.refCount + 1, size := g.size + n }),
           total := s.total + n,
           knownSize := s.knownSize + n,
           lastID := s.lastID + 1,
           known := { id := s.lastID + 1, file := w, pos := f.size, time := time, size := data.length, crc := crc } :: s.known }

/-- `len(data) > maxChunkSize` -/
def tooBigLen (n : Nat) : Bool := n > maxChunkSize
def tooBig (data : Bytes) : Bool := tooBigLen data.length

/-- `PutBucket`; returns the id, 0 = error -/
def put (cfg : Cfg) (s : Shard) (time : Nat) (data : Bytes) (timeRot : Bool) : Shard × Nat :=
  if tooBig data then (s, 0)
  else
    let s1 := ensureWriting (rotateIfNeeded s data.length timeRot)
    match s1.writing with
    | none => (s1, 0)
    | some w =>
      match findO s1.ofiles w with
      | none => (s1, 0)
      | some f => (appendRec cfg s1 w f time data, s1.lastID + 1)

/-- fault: the body `WriteAt` of `writeSecond` fails after `k` bytes (disk full / file size limit). The header and `k` body bytes
    are on disk behind the last valid record, `size` is NOT advanced, no bucket is registered, and the code drops the writing file
    (`d.unrefFile(&d.writingFile)`), so the next put starts a new file and nothing is ever appended behind that garbage.
    `keepFile = true` is the seeded variant that keeps writing to the same file. -/
def putFail (keepFile : Bool) (cfg : Cfg) (s : Shard) (time : Nat) (data : Bytes) (timeRot : Bool) (k : Nat) : Shard :=
  if tooBig data then s
  else
    let s1 := ensureWriting (rotateIfNeeded s data.length timeRot)
    match s1.writing with
    | none => s1
    | some w =>
      match findO s1.ofiles w with
      | none => s1
      | some f =>
        let s2 := { s1 with disk := mapDisk s1.disk w (fun b =>
                      writeAt b f.size (encHeader magicGood time data.length (cfg.crc data) ++ data.take k)) }
        if keepFile then s2 else { unref s2 w with writing := none }

/-! ### eraseBucket / GetBucket -/

def eraseKnown (s : Shard) (b : Bucket) : Shard :=
  let s1 := { s with disk := mapDisk s.disk b.file (fun f => writeAt f b.pos (le 4 magicDeleted)) }
  let s2 := unref s1 b.file
  { s2 with knownSize := s2.knownSize - (b.size + headerSize), known := s2.known.filter (fun c => c.id != b.id) }

def erase (s : Shard) (id : Nat) : Shard :=
  match findB s.known id with
  | none => s
  | some b => eraseKnown s b

inductive GetRes
  | unknown
  | wrongTime
  | readErr
  | badCrc
  | ok (data : Bytes)
deriving DecidableEq, Repr

/-- `fp.ReadAt(scratch[:size], pos+headerSize)` -/
def readBody (f : Bytes) (b : Bucket) : Bytes := (f.drop (b.pos + headerSize)).take b.size

def get (cfg : Cfg) (s : Shard) (id time : Nat) : Shard × GetRes :=
  match findB s.known id with
  | none => (s, .unknown)
  | some b =>
    if b.time != time then (s, .wrongTime)
    else
      let body := readBody (fileBytes s.disk b.file) b
      if body.length < b.size then (eraseKnown s b, .readErr)
      else if cfg.crc body != b.crc then (eraseKnown s b, .badCrc)
      else (s, .ok body)

/-! ### the caller's scratch pad

  `GetBucket(id, time, scratchPad *[]byte)` reads into the caller's pad: `*scratchPad = (*scratchPad)[0:size]` when the capacity
  suffices, else `make([]byte, size)`, then `ReadAt` overwrites all `size` bytes and that slice is returned. The agent reuses ONE
  pad for all its reads, so the pad holds the bytes of the previous second. `pad` below = the contents of the pad's whole
  capacity. `get` (above) returns the bytes read as a value; `getP` threads the pad exactly as the code does and
  Lemmas/DiskCachePad `getP_eq_get` proves that the two agree for EVERY previous pad contents. -/

/-- `(*scratchPad)[0:n]` or `make([]byte, n)` -/
def resliced (pad : Bytes) (n : Nat) : Bytes :=
  if pad.length ≥ n then pad.take n else List.replicate n 0

/-- `ReadAt(buf, …)` that delivers `src`: the first `src.length` bytes of `buf` are overwritten -/
def overwrite (buf src : Bytes) : Bytes := src.take buf.length ++ buf.drop src.length

/-- the pad (whole capacity) after a read of `body` into it -/
def padAfter (pad body : Bytes) : Bytes :=
  if pad.length ≥ body.length then body ++ pad.drop body.length else body

inductive GetVariant
  | asIs          -- the code as it is
  | emptyFastPath -- seeded variant: `if sec.size == 0 { return *scratchPad, nil }` before the pad is resliced
deriving DecidableEq, Repr

/-- `GetBucket` with the caller's scratch pad; returns the new state, the result and the pad afterwards -/
def getP (v : GetVariant) (cfg : Cfg) (s : Shard) (id time : Nat) (pad : Bytes) : Shard × GetRes × Bytes :=
  match findB s.known id with
  | none => (s, .unknown, pad)
  | some b =>
    if b.time != time then (s, .wrongTime, pad)
    else if v == .emptyFastPath && b.size == 0 then (s, .ok pad, pad)
    else
      let body := readBody (fileBytes s.disk b.file) b
      if body.length < b.size then (eraseKnown s b, .readErr, padAfter pad (List.replicate b.size 0))
      else
        let out := overwrite (resliced pad b.size) body
        if cfg.crc out != b.crc then (eraseKnown s b, .badCrc, padAfter pad out)
        else (s, .ok out, padAfter pad out)

/-! ### ReadNextTailSecond -/

inductive ReadRes
  | none
  | got (time id : Nat)
  | fuel
deriving DecidableEq, Repr

/-- `d.unrefFile(&d.readingFileTail)` -/
def closeReading (s : Shard) (name : Nat) : Shard := { unref s name with reading := none }

/-- pop the first waiting file and make it `readingFileTail` -/
def openNext (s : Shard) (w : WFile) (ws : List WFile) : Shard :=
  { s with waiting := ws, waitingSize := s.waitingSize - w.size, reading := some w.name,
           ofiles := { name := w.name, nextPos := 0, size := w.size, refCount := 1 } :: s.ofiles }

/-- `os.OpenFile(tailFile.name, …)` succeeds iff the file is (still) in the directory -/
def hasFile (d : List DFile) (name : Nat) : Bool := d.any (fun f => f.name == name)

/-- the waiting file `w` could not be opened (it vanished after the start-up scan): it is dropped from the waiting list and
    from the accounted sizes (`d.totalFileSize -= tailFile.size`), and the loop goes on with the next one -/
def skipMissing (s : Shard) (w : WFile) (ws : List WFile) : Shard :=
  { s with waiting := ws, waitingSize := s.waitingSize - w.size, total := s.total - w.size }

def setNextPos (s : Shard) (name nx : Nat) : Shard :=
  { s with ofiles := mapO s.ofiles name (fun g => { g with nextPos := nx }) }

/-- a good record found at `f.nextPos` of the reading file -/
def register (s : Shard) (f : OFile) (h : Hdr) (nx : Nat) : Shard :=
  { s with lastID := s.lastID + 1,
           known := { id := s.lastID + 1, file := f.name, pos := f.nextPos, time := h.time, size := h.size, crc := h.crc } :: s.known,
           knownSize := s.knownSize + (h.size + headerSize),
           ofiles := mapO s.ofiles f.name (fun g => { g with refCount := g.refCount + 1, nextPos := nx }) }

def readLoop (cfg : Cfg) : Nat → Shard → Shard × ReadRes
  | 0, s => (s, .fuel)
  | fuel + 1, s =>
    match s.reading with
    | none =>
      match s.waiting with
      | [] => (s, .none)
      | w :: ws =>
        if hasFile s.disk w.name then readLoop cfg fuel (openNext s w ws)
        else readLoop cfg fuel (skipMissing s w ws)
    | some name =>
      match findO s.ofiles name with
      | none => (s, .fuel)
      | some f =>
        if f.nextPos ≥ f.size then readLoop cfg fuel (closeReading s name)
        else
          match look cfg (fileBytes s.disk name) f.size f.nextPos with
          | .stop => readLoop cfg fuel (closeReading s name)
          | .skip nx => readLoop cfg fuel (setNextPos s name nx)
          | .good h nx => (register s f h nx, .got h.time (s.lastID + 1))

/-- enough iterations: every iteration opens a file, closes one, or advances `nextPos` by ≥ 20 -/
def readFuel (s : Shard) : Nat :=
  2 * s.waiting.length + (s.waiting.map (·.size)).sum +
    (match s.reading with
     | none => 0
     | some n => match findO s.ofiles n with
       | none => 0
       | some f => f.size) + 3

def readNext (cfg : Cfg) (s : Shard) : Shard × ReadRes := readLoop cfg (readFuel s) s

/-! ### TotalFileSize -/

def readingRest (s : Shard) : Int :=
  match s.reading with
  | none => 0
  | some n => match findO s.ofiles n with
    | none => 0
    | some f => if f.nextPos < f.size then (f.size : Int) - f.nextPos else 0

def unsent (s : Shard) : Int :=
  let u := s.knownSize + s.waitingSize + readingRest s
  if u > s.total then s.total else u

/-! ### crashes and external damage (not API calls: they act on the directory) -/

/-- the newest file loses its last `n` bytes (a put torn `n` bytes before its end) -/
def tearNewest (s : Shard) (n : Nat) : Shard :=
  match s.disk.getLast? with
  | none => s
  | some f => { s with disk := mapDisk s.disk f.name (fun b => b.take (b.length - n)) }

/-- an erase of bucket `id` torn after `k` bytes (no volatile bookkeeping: the process dies) -/
def tornErase (s : Shard) (id k : Nat) : Shard :=
  match findB s.known id with
  | none => s
  | some b => { s with disk := mapDisk s.disk b.file (fun f => writeAt f b.pos ((le 4 magicDeleted).take k)) }

def nthName (s : Shard) (i : Nat) : Option Nat := (s.disk[i]?).map (·.name)

/-- the `i`-th file of the directory vanishes (removed from outside while the cache runs) -/
def vanish (s : Shard) (i : Nat) : Shard :=
  match nthName s i with
  | none => s
  | some n => { s with disk := s.disk.filter (fun f => f.name != n) }

/-- xor one byte of the `i`-th file -/
def flip (s : Shard) (i off x : Nat) : Shard :=
  match nthName s i with
  | none => s
  | some n => { s with disk := mapDisk s.disk n (fun b => b.set off ((b.getD off 0) ^^^ UInt8.ofNat x)) }

/-- truncate the `i`-th file to `len` bytes -/
def chop (s : Shard) (i len : Nat) : Shard :=
  match nthName s i with
  | none => s
  | some n => { s with disk := mapDisk s.disk n (fun b => b.take len) }

/-! ### histories -/

inductive Op
  | put (time : Nat) (data : Bytes) (timeRot : Bool)
  | get (id time : Nat)
  | erase (id : Nat)
  | readNext
  | restart
deriving DecidableEq, Repr

def step (cfg : Cfg) (s : Shard) : Op → Shard
  | .put t d r => (put cfg s t d r).1
  | .get id t => (get cfg s id t).1
  | .erase id => erase s id
  | .readNext => (readNext cfg s).1
  | .restart => restart s

def run (cfg : Cfg) (s : Shard) (ops : List Op) : Shard := ops.foldl (step cfg) s

/-- call `ReadNextTailSecond` until it reports the end; collect `(time, id)` -/
def drain (cfg : Cfg) : Nat → Shard → Shard × List (Nat × Nat)
  | 0, s => (s, [])
  | n + 1, s =>
    match readNext cfg s with
    | (s', .got t id) =>
      let r := drain cfg n s'
      (r.1, (t, id) :: r.2)
    | (s', _) => (s', [])

end SH.DiskCache
