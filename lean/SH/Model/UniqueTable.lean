/-
  SH.Model.UniqueTable — the open-addressing layer of internal/data_model/ch_unique.go (property C04), concretely:
  `buf` as an array of 2^sizeDegree slots (0 = empty), place / linear probing with wrap-around, insertImpl,
  reinsertImpl, rehash (both loops: the pass over the table and "process the first collision resolution chain once
  again"), resize (the relocation loop `for i := 0; i < oldSize || buf[i] != 0; i++`), shrinkIfNeed, insertHash,
  Merge (walks rhs.buf in slot order), MarshallAppend (slot order), UmMarshall/ReadFrom, MergeRead.

  SH.Model.Unique is the abstraction of this file (buf ↦ the set of stored values); Props/C04 Part 4 relates the two.
  The compiled driver replays every op on this model as well and compares the slot-by-slot layout with the real table.

  Loops that are unbounded in Go get fuel = number of slots (a probe that finds no free slot, which the code excludes
  by keeping the table at most half full, stops instead of spinning).
  `ResizeV.oldOnly` is the relocation loop shortened to `i < oldSize` (seeded change C03-2), kept for the counter-example.
-/
import SH.Model.Unique

namespace SH.UTable
open SH.Unique (Params limit good sdFor SdV)

structure Tb where
  alloc : Bool       -- buf != nil
  buf : Array Nat    -- 2^sd slots, 0 = empty
  cnt : Nat          -- itemsCount
  sd : Nat           -- sizeDegree
  k : Nat            -- skipDegree
  zero : Bool        -- hasZeroItem
deriving DecidableEq, Repr

def nilTb : Tb := { alloc := false, buf := #[], cnt := 0, sd := 0, k := 0, zero := false }

def size (t : Tb) : Nat := 2 ^ t.sd

/-- Reset() -/
def reset (P : Params) : Tb :=
  { alloc := true, buf := Array.replicate (2 ^ P.initDeg) 0, cnt := 0, sd := P.initDeg, k := 0, zero := false }

def ensure (P : Params) (t : Tb) : Tb := if t.alloc then t else reset P

def get (t : Tb) (i : Nat) : Nat := t.buf.getD i 0
def put (t : Tb) (i v : Nat) : Tb := { t with buf := t.buf.setIfInBounds i v }

/-- `int(x>>uniquesHashBitsForSkip) & ch.mask()` -/
def place (P : Params) (t : Tb) (x : Nat) : Nat := (x / 2 ^ (P.bits - P.maxDeg)) % 2 ^ t.sd

/-- `(placeValue + 1) & ch.mask()` -/
def next (t : Tb) (p : Nat) : Nat := (p + 1) % 2 ^ t.sd

def maxFill (t : Tb) : Nat := 2 ^ (t.sd - 1)

/-- first slot, probing from `p`, that is empty or holds `x` (none: table full of other values) -/
def probe (t : Tb) (x : Nat) : Nat → Nat → Option Nat
  | 0, _ => none
  | f + 1, p => if get t p = x ∨ get t p = 0 then some p else probe t x f (next t p)

/-- insertImpl -/
def insertImpl (P : Params) (t : Tb) (x : Nat) : Tb :=
  if x = 0 then (if t.zero then t else { t with cnt := t.cnt + 1, zero := true })
  else match probe t x (size t) (place P t x) with
    | none => t
    | some p => if get t p = x then t else
      let c := t.cnt + 1        -- (read before `put` so that the compiled model updates the array in place)
      { put t p x with cnt := c }

/-- reinsertImpl: first empty slot from place(x) -/
def reinsertImpl (P : Params) (t : Tb) (x : Nat) : Tb :=
  match probe t 0 (size t) (place P t x) with
  | none => t
  | some p => put t p x

/-- body of the first loop of rehash for slot `i` -/
def rehashStep (P : Params) (t : Tb) (i : Nat) : Tb :=
  let v := get t i
  if v = 0 then t
  else if !good t.k v then
    let c := t.cnt - 1
    { put t i 0 with cnt := c }
  else if i ≠ place P t v then reinsertImpl P (put t i 0) v
  else t

def rehashLoop1 (P : Params) : Nat → Nat → Tb → Tb
  | 0, _, t => t
  | f + 1, i, t => rehashLoop1 P f (i + 1) (rehashStep P t i)

/-- `for i := 0; i < bufSize && buf[i] != 0; i++ { if i != place(buf[i]) { move } }` -/
def rehashLoop2 (P : Params) : Nat → Nat → Tb → Tb
  | 0, _, t => t
  | f + 1, i, t =>
    let v := get t i
    if v = 0 then t
    else if i ≠ place P t v then rehashLoop2 P f (i + 1) (reinsertImpl P (put t i 0) v)
    else rehashLoop2 P f (i + 1) t

def rehash (P : Params) (t : Tb) : Tb := rehashLoop2 P (size t) 0 (rehashLoop1 P (size t) 0 t)

/-- seeded change C04-r6-1, kept for the counter-example only: the second pass is skipped when the last slot is free after
    the first pass ("a chain can only wrap around through the last slot") -/
def rehashLastSlotGuard (P : Params) (t : Tb) : Tb :=
  let t1 := rehashLoop1 P (size t) 0 t
  if get t1 (size t - 1) = 0 then t1 else rehashLoop2 P (size t) 0 t1

inductive ResizeV | full | oldOnly
deriving DecidableEq, Repr

/-- body of the relocation loop of resize for slot `i` -/
def resizeStep (P : Params) (t : Tb) (i : Nat) : Tb :=
  let x := get t i
  if x = 0 then t
  else if place P t x = i then t
  else match probe t x (size t) (place P t x) with
    | none => t
    | some q => if get t q = x then t else put (put t q x) i 0

def resizeLoop (v : ResizeV) (P : Params) (oldSize : Nat) : Nat → Nat → Tb → Tb
  | 0, _, t => t
  | f + 1, i, t =>
    if i < oldSize ∨ (v = .full ∧ get t i ≠ 0) then resizeLoop v P oldSize f (i + 1) (resizeStep P t i) else t

/-- resize(newSizeDegree): grow the buffer (new slots zero), then relocate -/
def resize (v : ResizeV) (P : Params) (t : Tb) (newSd : Nat) : Tb :=
  let t1 := { t with sd := newSd, buf := t.buf ++ Array.replicate (2 ^ newSd - t.buf.size) 0 }
  resizeLoop v P (size t) (2 ^ newSd) 0 t1

def thinLoop (P : Params) : Nat → Tb → Tb
  | 0, t => t
  | f + 1, t => if limit P < t.cnt then thinLoop P f (rehash P { t with k := t.k + 1 }) else t

def shrinkIfNeed (v : ResizeV) (P : Params) (t : Tb) : Tb :=
  if t.cnt ≤ maxFill t then t
  else if limit P < t.cnt then thinLoop P (P.bits + 1) t
  else resize v P t (t.sd + 1)

def insertHash (v : ResizeV) (P : Params) (t : Tb) (x : Nat) : Tb :=
  if good t.k x then shrinkIfNeed v P (insertImpl P t x) else t

/-- loop body of Merge for slot value `x` of rhs.buf -/
def mergeSlot (v : ResizeV) (P : Params) (ch : Tb) (x : Nat) : Tb :=
  if x ≠ 0 ∧ good ch.k x = true then shrinkIfNeed v P (insertImpl P ch x) else ch

/-- ChUnique.Merge -/
def merge (v : ResizeV) (P : Params) (ch rhs : Tb) : Tb :=
  if !rhs.alloc then ch
  else
    let c0 := ensure P ch
    let c1 := if c0.k < rhs.k then rehash P { c0 with k := rhs.k } else c0
    let c2 := if !c1.zero && rhs.zero then shrinkIfNeed v P { c1 with zero := true, cnt := c1.cnt + 1 } else c1
    rhs.buf.toList.foldl (mergeSlot v P) c2

/-- MarshallAppend: skipDegree, itemsCount, [0], the non-empty slots in slot order -/
def marshal (t : Tb) : Unique.Wire :=
  if t.alloc then
    { k := t.k, ic := t.cnt, xs := (if t.zero then [0] else []) ++ t.buf.toList.filter (fun x => x != 0) }
  else { k := 0, ic := 0, xs := [] }

def readItem (P : Params) (t : Tb) (x : Nat) : Tb :=
  if x = 0 then { t with zero := true } else reinsertImpl P t x

/-- UmMarshall / ReadFrom -/
def unmarshal (w : SdV) (P : Params) (m : Unique.Wire) : Tb :=
  m.xs.foldl (readItem P)
    { alloc := true, buf := Array.replicate (2 ^ sdFor w P m.ic) 0, cnt := m.ic, sd := sdFor w P m.ic, k := m.k, zero := false }

/-- MergeRead -/
def mergeRead (v : ResizeV) (w : SdV) (P : Params) (ch : Tb) (m : Unique.Wire) : Tb :=
  if !ch.alloc then unmarshal w P m
  else
    let c1 := if ch.k < m.k then rehash P { ch with k := m.k } else ch
    let c2 := if 2 ^ c1.sd < m.ic then resize v P c1 (sdFor w P m.ic) else c1
    m.xs.foldl (insertHash v P) c2

def occupied (t : Tb) : Nat := (t.buf.toList.filter (fun x => x != 0)).length

def findsAll (P : Params) (t : Tb) : Bool :=
  (List.range (size t)).all (fun i => get t i == 0 || probe t (get t i) (size t) (place P t (get t i)) == some i)

/-- executable well-formedness: the right number of slots, itemsCount = occupied slots (+1 for zero), and every stored
    value is found AT ITS SLOT by the probe that insertImpl runs (reachable from its home slot without crossing an empty
    slot, and stored once) -/
def wfb (P : Params) (t : Tb) : Bool :=
  if !t.alloc then t.buf.size == 0 && t.cnt == 0 else
  t.buf.size == size t && t.cnt == occupied t + (if t.zero then 1 else 0) && findsAll P t

end SH.UTable
