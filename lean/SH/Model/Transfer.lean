/-
  SH.Model.Transfer — executable model of the agent → aggregator row transfer (property C02).

  Modelled code (/repo, branch for branch):
    internal/data_model/max_host_probability.go  ItemCounter.AddCounterHost / ItemCounter.Merge      → addCounterHost
    internal/data_model/bucket.go                ItemValue.addOnlyValue / ItemValue.Merge            → addOnlyValue / itemMerge
                                                 MultiValue.AddCounterHost / ApplyValues / ApplyUnique /
                                                 AddValueCounterHost[Percentile]                      → applyEvent .counter / applyValues / applyUnique / addValuePct
                                                 MultiValue.ApplyValuesLegacy                         → applyValuesLegacy
                                                 MultiItem.MapStringTop(Bytes) below capacity         → topUpdate
                                                 MultiItem.MapStringTop at capacity / resample /
                                                 FinishStringTop, MultiValue.Merge (agent side)       → rowEventCap / resampleLoop / finishTop, mvMerge; agentRun
                                                 Key.MarshalAppend                                    → marshalKey
    internal/agent/agent_shard.go                Shard.ApplyValues / ApplyUnique / ApplyCounter / AddValueCounterHost (count defaulting, routing) → Event.count / rowEvent
    internal/data_model/transfer.go              Key.TagSlice / STagSlice / TLMultiItemFromKey        → rowToTL (keys, skeys, t)
                                                 KeyFromStatshouseMultiItem (+ the Skeys loop of
                                                 aggregator_handlers.go with no mapping known)        → keyFromTL
                                                 MultiValue.MultiValueToTL                            → toTL
                                                 ItemValue.MergeWithTLItem2                           → mergeValueTL
                                                 MultiValue.MergeWithTL2                              → mergeTL
                                                 MultiItem.MergeWithTLMultiItem                       → mergeItemTL
    internal/agent/agent_shard_send.go           sampleBucket / keepF (row assembly)                  → rowToTL
    internal/format/format.go                    ValidateCounter / ValidateValue                      → counterErr / valueErr
    internal/aggregator/aggregator_handlers.go   handleSendSourceBucket: string → int32 mapping of key string
                                                 tags, host string tags, string-top tags before the merge → mapItem, keyFromTLm, receiveM

  Numbers: the model is generic in the number type `α` (float64 in Go).  The driver instantiates it with `Rat`
  (the harness stays in the exact domain of float64, DESIGN §4.1), the theorems are proved for every linearly
  ordered field, the `decide` witnesses use `Int`.
  External functions are parameters (DESIGN §4.2–4.7): the random draw of AddCounterHost is `pick`, the 32-bit
  hash of a unique value travels with the value, `Centroids()` of hrissan/tdigest is the list `cents` handed to
  `toTL`; a digest is represented by the list of centroids added to it (the library ignores weights ≤ 0).
  The TL byte codec is not modelled here (C14): a TL value is a record of optional fields (= field-mask bits).

  `Variant`: `.repo` is the pinned tree; `.fixed` is the tree after fixes/C02-*.diff:
    exactCompact       MultiValueToTL uses the compact form (sum/sumsq/max omitted) only if the aggregator's
                       reconstruction sum = min·count, sumsq = sum·min is exact            (F1)
    explicitEmptyHost  an empty min/max-counter host that differs from the max host is sent as an explicit 0 and the
                       aggregator substitutes the sending agent's host for it             (fixes/C02-empty-host.diff)
-/
import SH.Model.Core

namespace SH.Transfer

abbrev Str := List Char

/-- data_model.TagUnion -/
structure Tag where
  i : Int
  s : Str
deriving DecidableEq, Repr, Inhabited

def Tag.none : Tag := ⟨0, []⟩
/-- TagUnion.Empty -/
def Tag.isEmpty (t : Tag) : Bool := t.i == 0 && t.s.isEmpty
/-- TagUnion.Normalize -/
def Tag.normalize (t : Tag) : Tag := if t.i != 0 then ⟨t.i, []⟩ else t
/-- `I` has priority over `S`: a normalized tag has at most one of them -/
def Tag.isNorm (t : Tag) : Bool := t.i == 0 || t.s.isEmpty

structure Variant where
  exactCompact : Bool
  explicitEmptyHost : Bool
deriving DecidableEq, Repr

def Variant.repo : Variant := ⟨false, false⟩
def Variant.fixed : Variant := ⟨true, true⟩

structure Centroid (α : Type) where
  mean : α
  w : α
deriving DecidableEq, Repr

/-- data_model.ItemValue (with the embedded ItemCounter) -/
structure ItemValue (α : Type) where
  counter : α
  hcnt : Tag
  min : α
  max : α
  sum : α
  sq : α
  hmin : Tag
  hmax : Tag
  vset : Bool
deriving DecidableEq, Repr

/-- data_model.MultiValue; `dg` = ValueTDigest (none = nil) as the list of added centroids, `uq` = the strictly
    increasing list of 32-bit hashes held by the ChUnique sketch (skipDegree 0) -/
structure MultiValue (α : Type) where
  v : ItemValue α
  dg : Option (List (Centroid α))
  uq : List Nat
deriving DecidableEq, Repr

section
variable {α : Type} [Zero α] [One α] [Add α] [Mul α] [Div α] [LT α] [LE α] [NatCast α]
  [DecidableEq α] [DecidableLT α] [DecidableLE α]

def ItemValue.empty : ItemValue α := ⟨0, Tag.none, 0, 0, 0, 0, Tag.none, Tag.none, false⟩
def MultiValue.empty : MultiValue α := ⟨ItemValue.empty, none, []⟩

/-! ### agent side: building a row from events -/

/-- ItemCounter.AddCounterHost = ItemCounter.Merge; `pick` = outcome of `rng.Uint64n(total) >= weight` -/
def addCounterHost (s : ItemValue α) (count : α) (host : Tag) (pick : Bool) : ItemValue α :=
  if count ≤ 0 then s
  else if s.counter ≤ 0 then { s with hcnt := host, counter := count }
  else if s.hcnt = host then { s with counter := s.counter + count }
  else if pick then { s with hcnt := host, counter := s.counter + count }
  else { s with counter := s.counter + count }

def newMin (s : ItemValue α) (value : α) : Bool := !s.vset || decide (value < s.min)
def newMax (s : ItemValue α) (value : α) : Bool := !s.vset || decide (s.max < value)

/-- ItemValue.addOnlyValue -/
def addOnlyValue (s : ItemValue α) (value count : α) (host : Tag) : ItemValue α :=
  { s with
    sum := s.sum + value * count
    sq := s.sq + value * value * count
    min := if newMin s value then value else s.min
    hmin := if newMin s value then host else s.hmin
    max := if newMax s value then value else s.max
    hmax := if newMax s value then host else s.hmax
    vset := true }

/-- SimpleItemCounter -/
def simpleItemCounter (count : α) (host : Tag) : ItemValue α :=
  { (ItemValue.empty : ItemValue α) with counter := count, hcnt := host }

/-- value half of ItemValue.Merge (s2.ValueSet is true) -/
def mergeValuePart (s s2 : ItemValue α) : ItemValue α :=
  { s with
    sum := s.sum + s2.sum
    sq := s.sq + s2.sq
    min := if newMin s s2.min then s2.min else s.min
    hmin := if newMin s s2.min then s2.hmin else s.hmin
    max := if newMax s s2.max then s2.max else s.max
    hmax := if newMax s s2.max then s2.hmax else s.hmax
    vset := true }

/-- ItemValue.Merge -/
def itemMerge (s s2 : ItemValue α) (pick : Bool) : ItemValue α :=
  if s2.vset then mergeValuePart (addCounterHost s s2.counter s2.hcnt pick) s2
  else addCounterHost s s2.counter s2.hcnt pick

/-- the "clean division" rescaling of ApplyValues / ApplyUnique -/
def scaleTmp (t : ItemValue α) (count total : α) : ItemValue α :=
  if count = total then t
  else if total = 1 then { t with sum := t.sum * count, sq := t.sq * count }
  else { t with sum := t.sum * count / total, sq := t.sq * count / total }

def tmpOfValues (hist : List (α × α)) (vals : List α) (count total : α) (host : Tag) : ItemValue α :=
  scaleTmp
    (hist.foldl (fun t kv => addOnlyValue t kv.1 kv.2 host)
      (vals.foldl (fun t x => addOnlyValue t x 1 host) (simpleItemCounter count host)))
    count total

/-- tdigest.AddCentroid: weights ≤ 0 are ignored -/
def dgAdd (l : List (Centroid α)) (c : Centroid α) : List (Centroid α) :=
  if c.w ≤ 0 then l else l ++ [c]

/-- the digest a value event starts from: the existing one, or a new one seeded with the previous single value -/
def dgBase (m : MultiValue α) : List (Centroid α) :=
  match m.dg with
  | some l => l
  | none => if m.v.vset then dgAdd [] ⟨m.v.max, m.v.counter⟩ else []

def mult (count total : α) : α := if count = total then 1 else count / total

def valueCentroids (hist : List (α × α)) (vals : List α) (count total : α) : List (Centroid α) :=
  vals.map (fun x => ⟨x, mult count total⟩) ++ hist.map (fun kv => ⟨kv.1, mult count total * kv.2⟩)

/-- MultiValue.ApplyValues -/
def applyValues (m : MultiValue α) (hist : List (α × α)) (vals : List α) (count total : α) (host : Tag)
    (pick hasPct : Bool) : MultiValue α :=
  if total ≤ 0 then m
  else
    let v' := itemMerge m.v (tmpOfValues hist vals count total host) pick
    if !hasPct then { m with v := v' }
    else if v'.min = v'.max then { m with v := v' }
    else { m with v := v', dg := some ((valueCentroids hist vals count total).foldl dgAdd (dgBase m)) }

/-- MultiValue.ApplyValuesLegacy (agent Config.LegacyApplyValues): the digest is created eagerly, every value is added
    to it even while all values are identical -/
def applyValuesLegacy (m : MultiValue α) (hist : List (α × α)) (vals : List α) (count total : α) (host : Tag)
    (pick hasPct : Bool) : MultiValue α :=
  if total ≤ 0 then m
  else
    { m with
      v := itemMerge m.v (tmpOfValues hist vals count total host) pick
      dg := if hasPct then some ((valueCentroids hist vals count total).foldl dgAdd (m.dg.getD [])) else m.dg }

/-- MultiValue.AddValueCounterHostPercentile (hasPct) / MultiValue.AddValueCounterHost (otherwise), as chosen by
    Shard.AddValueCounterHost -/
def addValuePct (m : MultiValue α) (value count : α) (host : Tag) (pick hasPct : Bool) : MultiValue α :=
  let v' := addOnlyValue (addCounterHost m.v count host pick) value count host
  if !hasPct then { m with v := v' }
  else if v'.min = v'.max then { m with v := v' }
  else { m with v := v', dg := some (dgAdd (dgBase m) ⟨value, count⟩) }

/-- insertion into a strictly increasing list (ChUnique.Insert at skipDegree 0, observed as a set) -/
def setInsert : List Nat → Nat → List Nat
  | [], x => [x]
  | y :: ys, x => if x < y then x :: y :: ys else if x = y then y :: ys else y :: setInsert ys x

/-- MultiValue.ApplyUnique; every hash comes as (value as a number, its 32-bit sketch hash) -/
def applyUnique (m : MultiValue α) (hashes : List (α × Nat)) (count : α) (host : Tag) (pick : Bool) : MultiValue α :=
  if ((hashes.length : Nat) : α) ≤ 0 then m
  else
    { m with
      uq := hashes.foldl (fun u h => setInsert u h.2) m.uq
      v := itemMerge m.v
        (scaleTmp (hashes.foldl (fun t h => addOnlyValue t h.1 1 host) (simpleItemCounter count host))
          count ((hashes.length : Nat) : α)) pick }

/-- Shard.ApplyValues: totalCount and the defaulting of count -/
def totalCount (hist : List (α × α)) (vals : List α) : α :=
  hist.foldl (fun t kv => t + kv.2) ((vals.length : Nat) : α)

def defaultCount (count total : α) : α := if count = 0 then total else count

inductive Event (α : Type) where
  /-- counter-only event -/
  | counter (count : α) (host : Tag) (pick : Bool)
  /-- value / histogram event (metric without or with percentiles) -/
  | values (hist : List (α × α)) (vals : List α) (count : α) (host : Tag) (pick hasPct : Bool)
  /-- value / histogram event on an agent running with LegacyApplyValues -/
  | valuesLegacy (hist : List (α × α)) (vals : List α) (count : α) (host : Tag) (pick hasPct : Bool)
  /-- single value with a count (Shard.AddValueCounterHost, used for built-in metrics) -/
  | valuePct (value count : α) (host : Tag) (pick hasPct : Bool)
  /-- unique event -/
  | unique (hashes : List (α × Nat)) (count : α) (host : Tag) (pick : Bool)
deriving Repr

/-- the count an event carries into MapStringTop / the MultiValue (after Shard.Apply* defaulting) -/
def Event.count : Event α → α
  | .counter c _ _ => c
  | .values hist vals c _ _ _ => defaultCount c (totalCount hist vals)
  | .valuesLegacy hist vals c _ _ _ => defaultCount c (totalCount hist vals)
  | .valuePct _ c _ _ _ => c
  | .unique hashes c _ _ => defaultCount c ((hashes.length : Nat) : α)

/-- what the event does to the MultiValue it was routed to -/
def applyEvent (m : MultiValue α) (e : Event α) : MultiValue α :=
  match e with
  | .counter c host pick => { m with v := addCounterHost m.v c host pick }
  | .values hist vals c host pick hasPct =>
      applyValues m hist vals (defaultCount c (totalCount hist vals)) (totalCount hist vals) host pick hasPct
  | .valuesLegacy hist vals c host pick hasPct =>
      applyValuesLegacy m hist vals (defaultCount c (totalCount hist vals)) (totalCount hist vals) host pick hasPct
  | .valuePct value c host pick hasPct => addValuePct m value c host pick hasPct
  | .unique hashes c host pick => applyUnique m hashes (defaultCount c ((hashes.length : Nat) : α)) host pick

/-! ### keys and rows -/

/-- data_model.Key (Tags and STags are arrays of format.MaxTags entries) -/
structure Key where
  ts : Nat
  metric : Int
  tags : List Int
  stags : List Str
deriving DecidableEq, Repr

/-- data_model.MultiItem: Top (a Go map; here an association list with distinct keys) and Tail -/
structure Row (α : Type) where
  key : Key
  top : List (Tag × MultiValue α)
  tail : MultiValue α
deriving DecidableEq, Repr

def Row.empty (k : Key) : Row α := ⟨k, [], MultiValue.empty⟩

/-- apply `f` to the entry with key `k`, appending a fresh entry if there is none
    (MultiItem.MapStringTop below capacity with sampleFactorLog2 = 0, followed by the update) -/
def topUpdate (top : List (Tag × MultiValue α)) (k : Tag) (f : MultiValue α → MultiValue α) : List (Tag × MultiValue α) :=
  match top with
  | [] => [(k, f MultiValue.empty)]
  | (k', m) :: rest => if k' = k then (k', f m) :: rest else (k', m) :: topUpdate rest k f

/-- Shard.Apply*: events whose count is ≤ 0 after defaulting are dropped before the row is touched; the others go to
    Tail (empty string-top tag) or to the Top entry of the normalized tag -/
def rowEvent (r : Row α) (topTag : Tag) (e : Event α) : Row α :=
  if e.count ≤ 0 then r
  else if topTag.isEmpty then { r with tail := applyEvent r.tail e }
  else { r with top := topUpdate r.top topTag.normalize (fun m => applyEvent m e) }

/-! ### the TL layer -/

/-- tlstatshouse.MultiValue: `some` = field-mask bit set (bit numbers in comments) -/
structure TLValue (α : Type) where
  counter : Option α                  -- 0
  eq1 : Bool                          -- 1
  vset : Bool                         -- 2
  min : Option α                      -- 3
  max : Option α                      -- 4 (ValueMax, ValueSum, ValueSumSquare share the bit)
  sum : α
  sq : α
  uq : Option (List Nat)              -- 5
  cents : Option (List (Centroid α))  -- 6
  implicit : Bool                     -- 18
  hmaxI : Option Int                  -- 7
  hminI : Option Int                  -- 8
  hcntI : Option Int                  -- 9
  hmaxS : Option Str                  -- 14
  hminS : Option Str                  -- 15
  hcntS : Option Str                  -- 16
deriving DecidableEq, Repr

def TLValue.empty : TLValue α :=
  ⟨none, false, false, none, none, 0, 0, none, none, false, none, none, none, none, none, none⟩

def hostI (t : Tag) : Option Int := if t.i ≠ 0 then some t.i else none
def hostS (t : Tag) : Option Str := if t.i ≠ 0 then none else if t.s.isEmpty then none else some t.s

/-- int field of a host that is only sent when it differs from the max host (`expl`: variant explicitEmptyHost) -/
def hostDiffI (expl : Bool) (t hmax : Tag) : Option Int :=
  if t = hmax then none
  else if t.i ≠ 0 then some t.i
  else if t.s.isEmpty then (if expl then some 0 else none)
  else none

def hostDiffS (t hmax : Tag) : Option Str := if t = hmax then none else hostS t

/-- can the aggregator restore max/sum/sumsq from min and counter? -/
def compact (var : Variant) (v : ItemValue α) : Bool :=
  if var.exactCompact then decide (v.min = v.max) && decide (v.sum = v.min * v.counter) && decide (v.sq = v.sum * v.min)
  else decide (v.min = v.max)

def scaleCentroids (cents : List (Centroid α)) (sf : α) : List (Centroid α) :=
  cents.map (fun c => ⟨c.mean, c.w * sf⟩)

/-- fields written by MultiValueToTL before the `if !s.Value.ValueSet { return }` -/
def toTLHead (var : Variant) (m : MultiValue α) (sf : α) : TLValue α :=
  { (TLValue.empty : TLValue α) with
    hmaxI := hostI m.v.hmax
    hmaxS := hostS m.v.hmax
    hminI := hostDiffI var.explicitEmptyHost m.v.hmin m.v.hmax
    hminS := hostDiffS m.v.hmin m.v.hmax
    hcntI := hostDiffI var.explicitEmptyHost m.v.hcnt m.v.hmax
    hcntS := hostDiffS m.v.hcnt m.v.hmax
    uq := if m.uq.isEmpty then none else some m.uq
    eq1 := decide (m.v.counter * sf = 1)
    counter := if m.v.counter * sf = 1 then none else some (m.v.counter * sf) }

/-- centroid fields: `cents` = ValueTDigest.Centroids() when the digest exists -/
def toTLCents (m : MultiValue α) (sf : α) (hasPct : Bool) (cents : List (Centroid α)) : Option (List (Centroid α)) :=
  if hasPct && m.dg.isSome && !cents.isEmpty then some (scaleCentroids cents sf) else none

def toTLImplicit (m : MultiValue α) (hasPct : Bool) : Bool := hasPct && m.dg.isNone

/-- MultiValue.MultiValueToTL -/
def toTL (var : Variant) (m : MultiValue α) (sf : α) (hasPct : Bool) (cents : List (Centroid α)) : TLValue α :=
  if m.v.counter * sf ≤ 0 then TLValue.empty
  else if !m.v.vset then toTLHead var m sf
  else
    { toTLHead var m sf with
      cents := toTLCents m sf hasPct cents
      implicit := toTLImplicit m hasPct
      vset := true
      min := if m.v.min = 0 then none else some m.v.min
      max := if compact var m.v then none else some m.v.max
      sum := if compact var m.v then 0 else m.v.sum * sf
      sq := if compact var m.v then 0 else m.v.sq * sf }

/-! ### aggregator side -/

/-- math.MaxFloat32 -/
def maxF32 : Nat := 340282346638528859811704183484516925440

/-- format.ValidateCounter (NaN cannot occur in the model): 0 = ok, 1 = negative, 2 = too big -/
def counterErr (c : α) : Nat := if c < 0 then 1 else if ((maxF32 : Nat) : α) < c then 2 else 0
/-- format.ValidateValue: 0 = ok, 3 = too big (either sign) -/
def valueErr (x : α) : Nat := if ((maxF32 : Nat) : α) < x then 3 else if x + ((maxF32 : Nat) : α) < 0 then 3 else 0

def tlCounter (t : TLValue α) : α := if t.eq1 then 1 else t.counter.getD 0

def tagOf (i : Option Int) (s : Option Str) : Tag := ⟨i.getD 0, s.getD []⟩

/-- step 2 of MergeWithTL2 -/
def restoreMaxHost (t : TLValue α) (host : Tag) : Tag :=
  if t.hmaxI.isNone && t.hmaxS.isNone then host else tagOf t.hmaxI t.hmaxS

def restoreOther (var : Variant) (i : Option Int) (s : Option Str) (hmax host : Tag) : Tag :=
  if i.isNone && s.isNone then hmax
  else if var.explicitEmptyHost && (tagOf i s).isEmpty then host
  else tagOf i s

def restoreMinHost (var : Variant) (t : TLValue α) (host : Tag) : Tag :=
  restoreOther var t.hminI t.hminS (restoreMaxHost t host) host

def restoreCntHost (var : Variant) (t : TLValue α) (host : Tag) : Tag :=
  restoreOther var t.hcntI t.hcntS (restoreMaxHost t host) host

/-- ChUnique.MergeRead at skipDegree 0: every incoming hash is inserted -/
def uqMerge (a : List Nat) (b : Option (List Nat)) : List Nat := (b.getD []).foldl setInsert a

/-- ItemValue.MergeWithTLItem2; `c` is the restored counter -/
def mergeValueTL (var : Variant) (s : ItemValue α) (t : TLValue α) (c : α) (host : Tag) : ItemValue α :=
  let mn := t.min.getD 0
  let mx := if t.max.isNone then mn else t.max.getD 0
  let sm := if t.max.isNone then mn * c else t.sum
  let sq := if t.max.isNone then mn * c * mn else t.sq
  { s with
    sum := s.sum + sm
    sq := s.sq + sq
    min := if newMin s mn then mn else s.min
    hmin := if newMin s mn then restoreMinHost var t host else s.hmin
    max := if newMax s mx then mx else s.max
    hmax := if newMax s mx then restoreMaxHost t host else s.hmax
    vset := true }

/-- the centroid loop of MergeWithTL2: zero counts skipped, an invalid centroid aborts with an ingestion error -/
def addCentroids : List (Centroid α) → List (Centroid α) → List (Centroid α) × Nat
  | dg, [] => (dg, 0)
  | dg, c :: cs =>
    if c.w = 0 then addCentroids dg cs
    else if counterErr c.w ≠ 0 then (dg, counterErr c.w)
    else if valueErr c.mean ≠ 0 then (dg, valueErr c.mean)
    else addCentroids (dgAdd dg c) cs

structure Merged (α : Type) where
  mv : MultiValue α
  err : Nat
deriving DecidableEq, Repr

def tlCents (t : TLValue α) : List (Centroid α) := t.cents.getD []

/-- the tail of MergeWithTL2 after MergeWithTLItem2: explicit centroids, then the implicit one -/
def mergeDigest (m : MultiValue α) (t : TLValue α) (c : α) : Merged α :=
  if (tlCents t).isEmpty then
    if t.implicit then ⟨{ m with dg := some (dgAdd (m.dg.getD []) ⟨t.min.getD 0, c⟩) }, 0⟩ else ⟨m, 0⟩
  else if (addCentroids (m.dg.getD []) (tlCents t)).2 ≠ 0 then
    ⟨{ m with dg := some (addCentroids (m.dg.getD []) (tlCents t)).1 }, (addCentroids (m.dg.getD []) (tlCents t)).2⟩
  else if t.implicit then
    ⟨{ m with dg := some (dgAdd (addCentroids (m.dg.getD []) (tlCents t)).1 ⟨t.min.getD 0, c⟩) }, 0⟩
  else ⟨{ m with dg := some (addCentroids (m.dg.getD []) (tlCents t)).1 }, 0⟩

/-- value validation of MergeWithTL2 step 4 (on the raw fields, before the compact form is expanded) -/
def valueFieldsErr (t : TLValue α) : Nat :=
  if valueErr (t.min.getD 0) ≠ 0 then valueErr (t.min.getD 0)
  else if valueErr (t.max.getD 0) ≠ 0 then valueErr (t.max.getD 0)
  else valueErr t.sum

/-- steps 2–3 of MergeWithTL2: counter with its host, uniques -/
def mergeCounterUq (var : Variant) (m : MultiValue α) (t : TLValue α) (host : Tag) (pick : Bool) : MultiValue α :=
  { m with v := addCounterHost m.v (tlCounter t) (restoreCntHost var t host) pick, uq := uqMerge m.uq t.uq }

/-- MultiValue.MergeWithTL2 -/
def mergeTL (var : Variant) (m : MultiValue α) (t : TLValue α) (host : Tag) (pick : Bool) : Merged α :=
  if tlCounter t = 0 then ⟨m, 0⟩
  else if counterErr (tlCounter t) ≠ 0 then ⟨m, counterErr (tlCounter t)⟩
  else if !t.vset then ⟨mergeCounterUq var m t host pick, 0⟩
  else if valueFieldsErr t ≠ 0 then ⟨mergeCounterUq var m t host pick, valueFieldsErr t⟩
  else
    mergeDigest
      { mergeCounterUq var m t host pick with
        v := mergeValueTL var (mergeCounterUq var m t host pick).v t (tlCounter t) host }
      t (tlCounter t)

/-! ### row level: key transport and string tops -/

/-- format.MaxTags -/
def maxTags : Nat := 48

def dropTrailing {β : Type} (p : β → Bool) (l : List β) : List β := (l.reverse.dropWhile p).reverse

def padTo {β : Type} (n : Nat) (d : β) (l : List β) : List β := (l ++ List.replicate (n - l.length) d).take n

structure TLTop (α : Type) where
  stag : Str
  tag : Option Int            -- FieldsMask bit 10
  value : TLValue α
deriving DecidableEq, Repr

/-- tlstatshouse.MultiItem -/
structure TLItem (α : Type) where
  metric : Int
  keys : List Int
  skeys : Option (List Str)   -- FieldsMask bit 12
  t : Option Nat              -- FieldsMask bit 10
  tail : TLValue α
  top : Option (List (TLTop α))  -- FieldsMask bit 11
deriving DecidableEq, Repr

def sendT (k : Key) (bucketTs : Nat) : Bool := k.ts != 0 && k.ts != bucketTs

/-- BelieveTimestampWindow -/
def believeWindow : Nat := 86400 + 2 * 3600

/-- KeyFromStatshouseMultiItem timestamp logic: (timestamp, ingestion warning: 0 none, 1 clamped future, 2 clamped past) -/
def tsFromTL (t : Option Nat) (bucketTs : Nat) : Nat × Nat :=
  match t with
  | none => (bucketTs, 0)
  | some x =>
    if bucketTs < x then (bucketTs, 1)
    else if x + believeWindow < bucketTs then (bucketTs, 2)
    else (x, 0)

/-- Key.TLMultiItemFromKey + sampleBucket.keepF -/
def rowToTL (var : Variant) (r : Row α) (bucketTs : Nat) (sf : α) (hasPct : Bool)
    (cents : Tag → List (Centroid α)) : TLItem α :=
  { metric := r.key.metric
    keys := dropTrailing (fun x => x == 0) r.key.tags
    skeys := if (dropTrailing (fun (x : Str) => x.isEmpty) r.key.stags).isEmpty then none
             else some (dropTrailing (fun (x : Str) => x.isEmpty) r.key.stags)
    t := if sendT r.key bucketTs then some r.key.ts else none
    tail := toTL var r.tail sf hasPct (cents Tag.none)
    top := if r.top.isEmpty then none
           else some (r.top.map (fun kv => ⟨kv.1.s, hostI kv.1, toTL var kv.2 sf hasPct (cents kv.1)⟩)) }

/-- KeyFromStatshouseMultiItem + the Skeys loop of handleSendSourceBucket (no string mapping known) -/
def keyFromTL (it : TLItem α) (bucketTs : Nat) : Key :=
  { ts := (tsFromTL it.t bucketTs).1
    metric := it.metric
    tags := padTo maxTags 0 it.keys
    stags := padTo maxTags [] (it.skeys.getD []) }

structure MergedRow (α : Type) where
  row : Row α
  err : Nat
deriving DecidableEq, Repr

/-- one element of the Top loop of MergeWithTLMultiItem: MapStringTopBytes (below capacity, fresh item: never
    resampled) then MergeWithTL2 -/
def mergeTopElem (var : Variant) (r : Row α) (e : TLTop α) (host : Tag) (pick : Bool) : MergedRow α :=
  if (tagOf e.tag (some e.stag)).isEmpty then
    ⟨{ r with tail := (mergeTL var r.tail e.value host pick).mv }, (mergeTL var r.tail e.value host pick).err⟩
  else
    ⟨{ r with top := topUpdate r.top (tagOf e.tag (some e.stag)).normalize (fun m => (mergeTL var m e.value host pick).mv) },
      (mergeTL var ((r.top.lookup (tagOf e.tag (some e.stag)).normalize).getD MultiValue.empty) e.value host pick).err⟩

def mergeTops (var : Variant) (host : Tag) (pick : Bool) : Row α → List (TLTop α) → MergedRow α
  | r, [] => ⟨r, 0⟩
  | r, e :: es =>
    if (mergeTopElem var r e host pick).err ≠ 0 then mergeTopElem var r e host pick
    else mergeTops var host pick (mergeTopElem var r e host pick).row es

/-- MultiItem.MergeWithTLMultiItem into the row `r` -/
def mergeItemTL (var : Variant) (r : Row α) (it : TLItem α) (host : Tag) (pick : Bool) : MergedRow α :=
  if (mergeTops var host pick r (it.top.getD [])).err ≠ 0 then mergeTops var host pick r (it.top.getD [])
  else
    ⟨{ (mergeTops var host pick r (it.top.getD [])).row with
        tail := (mergeTL var (mergeTops var host pick r (it.top.getD [])).row.tail it.tail host pick).mv },
      (mergeTL var (mergeTops var host pick r (it.top.getD [])).row.tail it.tail host pick).err⟩

/-- what the aggregator holds after receiving `it` in a bucket with time `bucketTs` from the agent on `host` -/
def receive (var : Variant) (it : TLItem α) (bucketTs : Nat) (host : Tag) : MergedRow α :=
  mergeItemTL var (Row.empty (keyFromTL it bucketTs)) it host false

/-! ### the string → int32 mapping glue of handleSendSourceBucket

  The aggregator replaces every string it knows a mapping for (string tags of the key, the three host string tags of the
  tail and of every top element, the string-top tag itself) by the mapped int32 before the row is merged; `mp` is the
  aggregator's mapping table (`getTagValueBytes`), a value ≤ 0 or an empty string means "not mapped" (`mapStringTag`
  returns 0).  Invalid strings (`validateStringTag` fails: the row is dropped) are outside the model. -/

def mapStr (mp : Str → Int) (s : Str) : Int := if s.isEmpty then 0 else mp s

/-- a TagUnion as the aggregator sees it: a mapped string becomes its int -/
def mapTag (mp : Str → Int) (t : Tag) : Tag := if t.i = 0 ∧ 0 < mapStr mp t.s then ⟨mapStr mp t.s, []⟩ else t

def mapHostI (mp : Str → Int) (i : Option Int) (s : Option Str) : Option Int :=
  match s with
  | some str => if 0 < mapStr mp str then some (mapStr mp str) else i
  | none => i

def mapHostS (mp : Str → Int) (s : Option Str) : Option Str :=
  match s with
  | some str => if 0 < mapStr mp str then none else some str
  | none => none

/-- `if item.Tail.IsSetMaxHostStag … SetMaxHostTag(m); ClearMaxHostStag` and the same for min / max-counter host -/
def mapTLValue (mp : Str → Int) (t : TLValue α) : TLValue α :=
  { t with
    hmaxI := mapHostI mp t.hmaxI t.hmaxS
    hmaxS := mapHostS mp t.hmaxS
    hminI := mapHostI mp t.hminI t.hminS
    hminS := mapHostS mp t.hminS
    hcntI := mapHostI mp t.hcntI t.hcntS
    hcntS := mapHostS mp t.hcntS }

/-- `ptb.Tag = m; ptb.Stag = ptb.Stag[:0]` plus the host mapping of the element's value -/
def mapTLTop (mp : Str → Int) (e : TLTop α) : TLTop α :=
  { stag := if 0 < mapStr mp e.stag then [] else e.stag
    tag := if 0 < mapStr mp e.stag then some (mapStr mp e.stag) else e.tag
    value := mapTLValue mp e.value }

def mapItem (mp : Str → Int) (it : TLItem α) : TLItem α :=
  { it with tail := mapTLValue mp it.tail, top := it.top.map (List.map (mapTLTop mp)) }

/-- KeyFromStatshouseMultiItem + the Skeys loop of handleSendSourceBucket: `k.Tags[i] = m` if mapped, else `k.STags[i] = str` -/
def keyFromTLm (mp : Str → Int) (it : TLItem α) (bucketTs : Nat) : Key :=
  { ts := (tsFromTL it.t bucketTs).1
    metric := it.metric
    tags := List.zipWith (fun (t : Int) (s : Str) => if 0 < mapStr mp s then mapStr mp s else t)
      (padTo maxTags 0 it.keys) (padTo maxTags [] (it.skeys.getD []))
    stags := (padTo maxTags [] (it.skeys.getD [])).map (fun (s : Str) => if 0 < mapStr mp s then [] else s) }

/-- what the aggregator that knows the mappings `mp` holds after handleSendSourceBucket processed `it` -/
def receiveM (var : Variant) (mp : Str → Int) (it : TLItem α) (bucketTs : Nat) (host : Tag) : MergedRow α :=
  mergeItemTL var (Row.empty (keyFromTLm mp it bucketTs)) (mapItem mp it) host false

/-! ### agent side: string tops at capacity (MultiItem.MapStringTop / resample / FinishStringTop, MultiValue.Merge)

  Relational in the random draws and in the Go map / unstable-sort order (DESIGN §4.2–4.3): WHICH entries a resample
  round evicts and in WHICH order they are folded into Tail are inputs; the model checks the necessary conditions the
  code imposes on them and returns `none` for an impossible input. -/

/-- MultiValue.Merge: ChUnique.Merge at skipDegree 0 = union; the digest of `b` is adopted or its (processed)
    centroids are added — the list is what tdigest reports, trusted -/
def mvMerge (a b : MultiValue α) (pick : Bool) : MultiValue α :=
  { v := itemMerge a.v b.v pick
    dg := match b.dg with
      | none => a.dg
      | some lb => match a.dg with
        | none => some lb
        | some la => some (la ++ lb)
    uq := b.uq.foldl setInsert a.uq }

def topRemove (top : List (Tag × MultiValue α)) (k : Tag) : List (Tag × MultiValue α) :=
  top.filter (fun kv => !(kv.1 == k))

/-- `s.Tail.Merge(rng, v); delete(s.Top, k)` for the listed keys, in the listed order, each with the outcome of its
    max-counter-host draw -/
def foldIntoTail (r : Row α) : List (Tag × Bool) → Row α
  | [] => r
  | (k, pick) :: ks =>
    match r.top.lookup k with
    | none => foldIntoTail r ks
    | some m => foldIntoTail { r with tail := mvMerge r.tail m pick, top := topRemove r.top k } ks

/-- MultiItem with its sampleFactorLog2 -/
structure AgentRow (α : Type) where
  row : Row α
  sfLog2 : Nat
deriving DecidableEq, Repr

/-- an entry can be evicted by a round with factor 2^k only if `!(Count() >= sf)` and `!(Count() > rv)` for some
    integer draw rv < sf, i.e. Count < sf and Count ≤ sf - 1 -/
def evictable (k : Nat) (m : MultiValue α) : Bool :=
  decide (m.v.counter < ((2 ^ k : Nat) : α)) && decide (m.v.counter ≤ ((2 ^ k - 1 : Nat) : α))

def evictionOk (a : AgentRow α) (ev : List (Tag × Bool)) : Bool :=
  ev.all (fun kp => match a.row.top.lookup kp.1 with
    | some m => evictable (a.sfLog2 + 1) m
    | none => false)

/-- MultiItem.resample: one round; `ev` = the evicted keys in enumeration order -/
def resampleRound (a : AgentRow α) (ev : List (Tag × Bool)) : Option (AgentRow α) :=
  if evictionOk a ev then some ⟨foldIntoTail a.row ev, a.sfLog2 + 1⟩ else none

/-- `for len(s.Top) >= capacity { s.resample(rng) }`: the list of rounds is the fuel and must be used up exactly -/
def resampleLoop (cap : Nat) : AgentRow α → List (List (Tag × Bool)) → Option (AgentRow α)
  | a, [] => if a.row.top.length < cap then some a else none
  | a, ev :: rest =>
    if a.row.top.length < cap then none
    else match resampleRound a ev with
      | none => none
      | some a' => resampleLoop cap a' rest

/-- DefaultStringTopCapacity -/
def defaultTopCapacity : Nat := 100

/-- Shard.Apply* with the full MultiItem.MapStringTop: `redirect` = outcome of
    `sampleFactorLog2 != 0 && rng.Float64()*sf >= count` (only possible after a resample), `rounds` = the resample rounds -/
def rowEventCap (cap : Nat) (a : AgentRow α) (topTag : Tag) (e : Event α) (redirect : Bool)
    (rounds : List (List (Tag × Bool))) : Option (AgentRow α) :=
  if e.count ≤ 0 then some a
  else if topTag.isEmpty then some { a with row := { a.row with tail := applyEvent a.row.tail e } }
  else if (a.row.top.lookup topTag.normalize).isSome then
    some { a with row := { a.row with top := topUpdate a.row.top topTag.normalize (fun m => applyEvent m e) } }
  else if redirect then
    (if a.sfLog2 = 0 then none else some { a with row := { a.row with tail := applyEvent a.row.tail e } })
  else match resampleLoop (if cap < 1 then defaultTopCapacity else cap) a rounds with
    | none => none
    | some a' => some { a' with row := { a'.row with top := topUpdate a'.row.top topTag.normalize (fun m => applyEvent m e) } }

/-- MultiItem.FinishStringTop(capacity): the entries beyond the `capacity` largest counts are folded into Tail; `ev` =
    those entries in the order of the (unstable) sort.  Checked: their number, and no folded count above a kept one. -/
def finishOk (cap : Nat) (r : Row α) (ev : List (Tag × Bool)) : Bool :=
  decide (ev.length = r.top.length - cap) &&
  decide ((ev.map (·.1)).eraseDups.length = ev.length) &&
  ev.all (fun kp => match r.top.lookup kp.1 with
    | none => false
    | some m => r.top.all (fun kv => (ev.any (fun q => q.1 == kv.1)) || decide (m.v.counter ≤ kv.2.v.counter)))

def finishTop (cap : Nat) (a : AgentRow α) (ev : List (Tag × Bool)) : Option (AgentRow α) :=
  if finishOk cap a.row ev then some { a with row := foldIntoTail a.row ev } else none

/-- everything the agent does to a row before it is sent -/
inductive AgentOp (α : Type) where
  | event (cap : Nat) (topTag : Tag) (e : Event α) (redirect : Bool) (rounds : List (List (Tag × Bool)))
  | finish (cap : Nat) (ev : List (Tag × Bool))

def agentStep (a : AgentRow α) : AgentOp α → Option (AgentRow α)
  | .event cap topTag e redirect rounds => rowEventCap cap a topTag e redirect rounds
  | .finish cap ev => finishTop cap a ev

def agentRun : AgentRow α → List (AgentOp α) → Option (AgentRow α)
  | a, [] => some a
  | a, op :: ops => match agentStep a op with
    | none => none
    | some a' => agentRun a' ops

end

/-! ### Key.MarshalAppend — the identity of a row in MultiItemMap (agent buckets and aggregator shards)

  Fixed-width fields (timestamp, metric, tag count, tags: little-endian 4-byte words) are kept as numbers (their byte
  encoding is trusted to be injective); the string-tag section is modelled byte for byte, including the quirk that the
  strings start AT the `#stags` byte (`stagsPos := tagsPos + tagsCount*4`), overwriting it, which leaves one unused zero
  byte at the end.  `skipEmpty` is the seeded variant C02-r5-1 (unset string tags before the last set one take no space). -/

structure Marshalled where
  ts : Nat
  metric : Int
  tags : List Int          -- tagsCount = tags.length
  stagBytes : List Char    -- everything after the tags
deriving DecidableEq, Repr

def nul : Char := Char.ofNat 0

/-- zero-terminated strings one after another -/
def terminated (l : List Str) : List Char := l.flatMap (fun s => s ++ [nul])

def stagSection (skipEmpty : Bool) (stags : List Str) : List Char :=
  if (dropTrailing (fun (x : Str) => x.isEmpty) stags).isEmpty then [nul]   -- only the `#stags = 0` byte
  else
    terminated ((dropTrailing (fun (x : Str) => x.isEmpty) stags).filter (fun s => !(skipEmpty && s.isEmpty))) ++ [nul]

def marshalKeyV (skipEmpty : Bool) (k : Key) : Marshalled :=
  ⟨k.ts, k.metric, dropTrailing (fun x => x == 0) k.tags, stagSection skipEmpty k.stags⟩

/-- Key.MarshalAppend of the tree -/
def marshalKey (k : Key) : Marshalled := marshalKeyV false k

end SH.Transfer
