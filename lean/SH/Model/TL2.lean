/-
  SH.Model.TL2 — the TL2 layout of the generated types, as a second generic codec over the SAME schema descriptors
  (SH.Model.TL.Desc) and the same values as the TL1 codec (C14).

  What is modelled (generated code of tl2gen ≥ 1.5, gen2/internal/*.go: CalculateLayout / InternalWriteTL2 /
  InternalReadTL2, and basictl2.go):
    object        size-prefixed body (TL2WriteSize, proved in Props/C14: tl2_size_roundtrip). The body is a sequence of
                  blocks of eight slots: slot 0 is "constructor index present" (never set for a plain constructor),
                  slot k+1 belongs to field k. Every block starts with one byte holding the presence bits of its slots,
                  followed by the bytes of the present fields. The body is cut after the last present field
                  (`lastUsedByte`), so trailing block bytes and absent fields cost nothing and an object whose fields
                  are all absent has an empty body (written as the single byte 0, or as nothing at all where the
                  enclosing object records presence: `optimizeEmpty`).
    plain field   `#`, int, long: absent iff zero. string: absent iff empty. Bool: absent iff false, present = byte 1.
                  object / enum / vector / dictionary: absent iff its optimizeEmpty encoding is empty.
    `m.bit?t`     presence is its own bit in the block byte (tl2mask in the Go struct) and does not depend on the mask;
                  the payload is written in full (`true`: no bytes at all).
    enum          a union whose constructors have no fields: index 0 = empty body, else body = [1, index].
    vector        size-prefixed body = element count, then the elements (objects/enums/vectors as elements are written
                  with optimizeEmpty = false, i.e. at least one byte each). Dictionary = vector of {key, value} objects.
    boxed t       no constructor tags in TL2.
  The reader ignores bytes it does not understand at the end of a body (forward compatibility), accepts a zero body
  for anything, and refuses an element count larger than the number of remaining body bytes.

  Outside this fragment (no generated TL2 code uses it in /repo): float/double as *direct* fields (absent iff `== 0`,
  which also drops -0.0), Bool as vector element or conditional field, unions with non-empty constructors, tuples,
  Maybe. `tl2Supported` says whether a descriptor stays inside the fragment; the driver refuses the others.

  Core Lean only: linked into drv_c14.
-/
import SH.Model.TL

namespace SH.TL

def boolFalseTag : Nat := 0xbc799737
def boolTrueTag : Nat := 0x997275b5

def isEmptyCtor : Desc → Bool
  | .struct _ .nil => true
  | _ => false

/-- `Bool` is recognised by its two constructors boolFalse#bc799737 / boolTrue#997275b5 -/
def isBoolAlts : Alts → Bool
  | .cons a t1 (.cons b t2 .nil) => a == boolFalseTag && b == boolTrueTag && isEmptyCtor t1 && isEmptyCtor t2
  | _ => false

def isEnumAlts : Alts → Bool
  | .nil => true
  | .cons _ t rest => isEmptyCtor t && isEnumAlts rest

def altCount : Alts → Nat
  | .nil => 0
  | .cons _ _ rest => altCount rest + 1

def isNil : Vals → Bool
  | .nil => true
  | _ => false

/-- little endian bits -/
def bitsToNat : List Bool → Nat
  | [] => 0
  | b :: bs => (if b then 1 else 0) + 2 * bitsToNat bs

/-- the block/trim layout of an object body. `k` = slot number of the first entry, entries = (present, bytes) per slot.
    Nothing at all is produced once no later slot is present; a block byte precedes every slot ≡ 0 mod 8. -/
def layout : Nat → List (Bool × Bytes) → Bytes
  | _, [] => []
  | k, (p, b) :: rest =>
    if ((p, b) :: rest).any (·.1) then
      (if k % 8 = 0 then [UInt8.ofNat (bitsToNat ((((p, b) :: rest).take 8).map (·.1)))] else [])
        ++ (if p then b else []) ++ layout (k + 1) rest
    else []

/-- size prefix; an empty body is the single byte 0, or nothing with `optimizeEmpty` -/
def wrapBody (optimizeEmpty : Bool) (body : Bytes) : Bytes :=
  if body.isEmpty then (if optimizeEmpty then [] else [0]) else tl2WriteSize body.length ++ body

/-- non-zero enum index: body = block byte 1 (constructor index present), index -/
def enumBytes (i : Nat) : Bytes :=
  UInt8.ofNat (1 + tl2CalculateSize i) :: 1 :: tl2WriteSize i

mutual
/-- a plain (unconditional) field: empty result = absent -/
def encF : Desc → Val → Bytes
  | .nat, .nat n => if n = 0 then [] else le32 n
  | .fixed _, .raw b => if allZero b then [] else b
  | .str, .str b => if b.isEmpty then [] else tl2WriteStr b
  | .boxed _ t, v => encF t v
  | .union alts, .alt i _ =>
    if isBoolAlts alts then (if i = 1 then [1] else [])
    else if i = 0 then [] else enumBytes i
  | .struct _ fs, .recd vs => wrapBody true (layout 0 ((false, []) :: encFs fs vs))
  | .vec t, .list vs =>
    if isNil vs then [] else wrapBody true (tl2WriteSize vs.length ++ encVals (encE t) vs)
  | _, _ => []
/-- a vector element, the payload of a conditional field, or the top level: always written (optimizeEmpty = false) -/
def encE : Desc → Val → Bytes
  | .nat, .nat n => le32 n
  | .fixed _, .raw b => b
  | .str, .str b => tl2WriteStr b
  | .boxed _ t, v => encE t v
  | .union _, .alt i _ => if i = 0 then [0] else enumBytes i
  | .struct _ fs, .recd vs => wrapBody false (layout 0 ((false, []) :: encFs fs vs))
  | .vec t, .list vs =>
    if isNil vs then [0] else wrapBody false (tl2WriteSize vs.length ++ encVals (encE t) vs)
  | _, _ => []
/-- (present, bytes) of every field -/
def encFs : Flds → Vals → List (Bool × Bytes)
  | .natF rest, .cons (.nat n) vs => (n != 0, le32 n) :: encFs rest vs
  | .fld t rest, .cons v vs => (!(encF t v).isEmpty, encF t v) :: encFs rest vs
  | .opt _ _ t rest, .cons v vs =>
    (if v.isNone then (false, []) else (true, if isEmptyCtor t then [] else encE t v)) :: encFs rest vs
  | _, _ => []
end

mutual
/-- what an absent field reads as (Reset) -/
def defaultV : Desc → Val
  | .nat => .nat 0
  | .fixed w => .raw (List.replicate w 0)
  | .str => .str []
  | .boxed _ t => defaultV t
  | .union _ => .alt 0 (.recd .nil)
  | .struct _ fs => .recd (defaultFs fs)
  | .vec _ => .list .nil
  | .tup _ _ => .list .nil
def defaultFs : Flds → Vals
  | .nil => .nil
  | .natF rest => .cons (.nat 0) (defaultFs rest)
  | .fld t rest => .cons (defaultV t) (defaultFs rest)
  | .opt _ _ _ rest => .cons .none (defaultFs rest)
end

/-- the block byte in force for slot k: a new one is read when k starts a block — none left means 0 -/
def nextBlock (k blk : Nat) (r : Bytes) : Nat × Bytes :=
  if k % 8 = 0 then
    match r with
    | [] => (0, [])
    | b :: r1 => (b.toNat, r1)
  else (blk, r)

def slotSet (k blk : Nat) : Bool := blk.testBit (k % 8)

/-- one slot of an object body: switch to the next block byte if the slot starts a block; a set bit = read the field with
    `rd`, a clear bit = the default value; then the remaining slots -/
def decSlot (rd : Bytes → Option (Val × Bytes)) (dv : Val) (cont : Nat → Bytes → Option Vals) (k blk : Nat) (r : Bytes) :
    Option Vals :=
  if slotSet k (nextBlock k blk r).1 then
    match rd (nextBlock k blk r).2 with
    | none => none
    | some (v, r1) => match cont (nextBlock k blk r).1 r1 with
      | some vs => some (.cons v vs)
      | none => none
  else match cont (nextBlock k blk r).1 (nextBlock k blk r).2 with
    | some vs => some (.cons dv vs)
    | none => none

def readNatV (r : Bytes) : Option (Val × Bytes) :=
  match readNat r with
  | some (n, r1) => some (.nat n, r1)
  | none => none

/-- a conditional field of type `true`: the presence bit is the whole value -/
def readNothing (r : Bytes) : Option (Val × Bytes) := some (.recd .nil, r)

/-- body of an enum: block byte, optional constructor index -/
def decEnumBody (count : Nat) (body : Bytes) : Option Nat :=
  match body with
  | [] => none
  | b0 :: r1 =>
    if b0.toNat.testBit 0 then
      match tl2ParseSize r1 with
      | none => none
      | some (i, _) => if i ≥ count then none else some i
    else some 0

mutual
/-- InternalReadTL2 -/
def decE : Desc → Bytes → Option (Val × Bytes)
  | .nat, r => match readNat r with
    | some (n, r1) => some (.nat n, r1)
    | none => none
  | .fixed w, r => match takeN w r with
    | some (b, r1) => some (.raw b, r1)
    | none => none
  | .str, r => match tl2ReadStr r with
    | some (b, r1) => some (.str b, r1)
    | none => none
  | .boxed _ t, r => decE t r
  | .union alts, r =>
    if isBoolAlts alts then
      match r with
      | [] => none
      | b :: r1 => some (.alt (if b.toNat = 0 then 0 else 1) (.recd .nil), r1)
    else
      match tl2ParseSize r with
      | none => none
      | some (sz, r1) =>
        if sz = 0 then some (.alt 0 (.recd .nil), r1)
        else match takeN sz r1 with
          | none => none
          | some (body, r2) => match decEnumBody (altCount alts) body with
            | none => none
            | some i => some (.alt i (.recd .nil), r2)
  | .struct _ fs, r =>
    match tl2ParseSize r with
    | none => none
    | some (sz, r1) =>
      if sz = 0 then some (.recd (defaultFs fs), r1)
      else match takeN sz r1 with
        | none => none
        | some (body, r2) =>
          match body with
          | [] => none
          | b0 :: c1 =>
            if b0.toNat.testBit 0 then
              match tl2ParseSize c1 with
              | none => none
              | some (i, c2) =>
                if i = 0 then
                  match decFs fs 1 b0.toNat c2 with
                  | some vs => some (.recd vs, r2)
                  | none => none
                else none
            else
              match decFs fs 1 b0.toNat c1 with
              | some vs => some (.recd vs, r2)
              | none => none
  | .vec t, r =>
    match tl2ParseSize r with
    | none => none
    | some (sz, r1) =>
      match takeN sz r1 with
      | none => none
      | some (body, r2) =>
        if sz = 0 then some (.list .nil, r2)
        else match tl2ParseSize body with
          | none => none
          | some (count, c1) =>
            if count > c1.length then none
            else match decN (decE t) count c1 with
              | some (vs, _) => some (.list vs, r2)
              | none => none
  | .tup _ _, _ => none
/-- the fields of an object body from slot k on; `blk` = block byte in force -/
def decFs : Flds → Nat → Nat → Bytes → Option Vals
  | .nil, _, _, _ => some .nil
  | .natF rest, k, blk, r => decSlot readNatV (.nat 0) (fun b r1 => decFs rest (k + 1) b r1) k blk r
  | .fld t rest, k, blk, r => decSlot (decE t) (defaultV t) (fun b r1 => decFs rest (k + 1) b r1) k blk r
  | .opt _ _ t rest, k, blk, r =>
    decSlot (if isEmptyCtor t then readNothing else decE t) .none (fun b r1 => decFs rest (k + 1) b r1) k blk r
end

def headIsBool : Desc → Bool
  | .union a => isBoolAlts a
  | .boxed _ t => headIsBool t
  | _ => false

mutual
/-- the descriptor stays inside the modelled TL2 fragment; a vector element or conditional payload must not be a Bool
    (`headIsBool`) -/
def tl2Supported : Desc → Bool
  | .nat => true
  | .fixed w => w == 4 || w == 8
  | .str => true
  | .boxed _ t => tl2Supported t
  | .union alts => isEnumAlts alts
  | .struct _ fs => tl2SupportedFs fs
  | .vec t => tl2Supported t && !headIsBool t
  | .tup _ _ => false
def tl2SupportedFs : Flds → Bool
  | .nil => true
  | .natF rest => tl2SupportedFs rest
  | .fld t rest => tl2Supported t && tl2SupportedFs rest
  | .opt _ _ t rest =>
    tl2Supported t && !headIsBool t && tl2SupportedFs rest
end

end SH.TL
