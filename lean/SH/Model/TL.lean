/-
  SH.Model.TL — a generic TL1 codec (C14).

  What is modelled (Go, /repo):
    internal/vkgo/basictl/basictl.go   NatRead/NatWrite, IntRead/…/DoubleWrite (fixed width little endian),
                                       StringRead/StringWrite (+Bytes variants: the same format, the writers byte for byte
                                       the same code; StringReadBytes differs in how it fills its destination),
                                       paddingLen / StringWritePadding, NatReadExactTag, ReadBool
    gen2/internal/*.go (generated)     struct ReadTL1/WriteTL1 (fields in schema order, fields conditional on a bit
                                       of an earlier `#` field or of a nat argument, nat arguments passed down to
                                       nested types), BuiltinVector…ReadTL1/WriteTL1 (count + items),
                                       BuiltinTuple… (n items, no count), ReadTL1Boxed/WriteTL1Boxed (constructor tag),
                                       unions (tag selects the constructor, unknown tag is an error), Bool, Maybe.
  The generated code is one instance of this codec per schema type; the schema is translated to `Desc` values
  by tools/tl2lean.py (SH/Gen/C14.lean, regenerated from the .tl files on every run) and the instance is tied to
  the generated Go by the correspondence harness (go/C14).

  Dictionaries: `Dictionary t` is a vector of (key, value) constructors on the wire and in this model (and in the
  []byte variants of the generated types). The string variants keep it in a Go map and write it sorted by key, a later
  duplicate replacing an earlier one: the identity on every value a map can hold (FillRandom values, sorted unique
  keys), a canonicalisation on other inputs. The correspondence compares such inputs (recognised on the Go side by
  "re-encoding differs from the consumed input") on verdict and consumed length only.

  Not modelled: basictl.CheckLengthSanity (an early EOF error for vectors whose count cannot fit in the remaining
  bytes; it changes which error is returned and avoids a big allocation, never whether a read succeeds, as long as
  every element really occupies at least the declared minimum) and the "length > MaxInt" branch of the huge string
  form (unreachable for 56-bit lengths on a 64-bit platform).

  Core Lean only: linked into drv_c14.
-/
import SH.Model.Core

namespace SH.TL

abbrev Bytes := List UInt8

/-! ### primitives (basictl) -/

/-- NatWrite / IntWrite / FloatWrite: 4 bytes little endian -/
def le32 (n : Nat) : Bytes :=
  [UInt8.ofNat (n % 256), UInt8.ofNat (n / 256 % 256), UInt8.ofNat (n / 65536 % 256), UInt8.ofNat (n / 16777216 % 256)]

/-- NatRead: `len(r) < 4` is an error, else little endian -/
def readNat : Bytes → Option (Nat × Bytes)
  | b0 :: b1 :: b2 :: b3 :: r => some (b0.toNat + b1.toNat * 256 + b2.toNat * 65536 + b3.toNat * 16777216, r)
  | _ => none

/-- first n bytes or failure (`len(r) < n`) -/
def takeN : Nat → Bytes → Option (Bytes × Bytes)
  | 0, r => some ([], r)
  | _ + 1, [] => none
  | n + 1, x :: r => match takeN n r with
    | some (a, b) => some (x :: a, b)
    | none => none

/-- basictl.paddingLen: `int(-uint(l) % 4)` -/
def padLen (p : Nat) : Nat := (4 - p % 4) % 4

/-- StringWritePadding(w, p % 4): case 1 → three zeros, 2 → two, 3 → one, otherwise none -/
def padW (p : Nat) : Nat :=
  match p % 4 with
  | 1 => 3
  | 2 => 2
  | 3 => 1
  | _ => 0

def tinyStringLen : Nat := 253
def maxMediumStringLen : Nat := 16777215      -- (1 << 24) - 1
def maxHugeStringLen : Nat := 72057594037927935 -- (1 << 56) - 1

def isTiny (l : Nat) : Bool := l ≤ tinyStringLen
def isMedium (l : Nat) : Bool := l ≤ maxMediumStringLen

/-- StringWriteLen: header bytes and the `p` the padding is computed from -/
def strHeader (l : Nat) : Bytes :=
  if isTiny l then [UInt8.ofNat l]
  else if isMedium l then [254, UInt8.ofNat (l % 256), UInt8.ofNat (l / 256 % 256), UInt8.ofNat (l / 65536 % 256)]
  else [255, UInt8.ofNat (l % 256), UInt8.ofNat (l / 256 % 256), UInt8.ofNat (l / 65536 % 256),
        UInt8.ofNat (l / 16777216 % 256), UInt8.ofNat (l / 4294967296 % 256), UInt8.ofNat (l / 1099511627776 % 256),
        UInt8.ofNat (l / 281474976710656 % 256)]

def strP (l : Nat) : Nat := if isTiny l then l + 1 else l

/-- StringWrite / StringWriteBytes -/
def encStr (b : Bytes) : Bytes :=
  strHeader b.length ++ b ++ List.replicate (padW (strP b.length)) 0

def allZero (z : Bytes) : Bool := z.all (fun x => x == 0)

/-- tail of StringRead: l payload bytes, paddingLen(p) padding bytes that must all be zero -/
def takeStr (l p : Nat) (r : Bytes) : Option (Bytes × Bytes) :=
  match takeN l r with
  | none => none
  | some (s, r1) =>
    match takeN (padLen p) r1 with
    | none => none
    | some (z, r2) => if allZero z then some (s, r2) else none

/-- StringRead / StringReadBytes: non-canonical length forms and non-zero padding are errors -/
def decStr : Bytes → Option (Bytes × Bytes)
  | [] => none
  | b0 :: r =>
    if b0.toNat ≤ tinyStringLen then takeStr b0.toNat (b0.toNat + 1) r
    else if b0.toNat = 254 then
      match r with
      | l0 :: l1 :: l2 :: r' =>
        if isTiny (l0.toNat + l1.toNat * 256 + l2.toNat * 65536) then none
        else takeStr (l0.toNat + l1.toNat * 256 + l2.toNat * 65536) (l0.toNat + l1.toNat * 256 + l2.toNat * 65536) r'
      | _ => none
    else
      match r with
      | l0 :: l1 :: l2 :: l3 :: l4 :: l5 :: l6 :: r' =>
        if isMedium (l0.toNat + l1.toNat * 256 + l2.toNat * 65536 + l3.toNat * 16777216 + l4.toNat * 4294967296
              + l5.toNat * 1099511627776 + l6.toNat * 281474976710656) then none
        else takeStr (l0.toNat + l1.toNat * 256 + l2.toNat * 65536 + l3.toNat * 16777216 + l4.toNat * 4294967296
              + l5.toNat * 1099511627776 + l6.toNat * 281474976710656)
             (l0.toNat + l1.toNat * 256 + l2.toNat * 65536 + l3.toNat * 16777216 + l4.toNat * 4294967296
              + l5.toNat * 1099511627776 + l6.toNat * 281474976710656) r'
      | _ => none

/-! ### descriptors and values -/

/-- a nat argument: literal or a reference into the environment of the enclosing constructor
    (its nat parameters first, then its unconditional `#` fields in declaration order) -/
inductive NatE where
  | const (k : Nat)
  | var (i : Nat)
deriving DecidableEq, Repr, Inhabited

abbrev Env := List Nat

def NatE.eval (env : Env) : NatE → Nat
  | .const k => k
  | .var i => env.getD i 0

mutual
inductive Desc where
  | nat                                   -- `#`
  | fixed (w : Nat)                       -- int, float (4); long, double (8): opaque little endian bytes
  | str                                   -- string ([]byte and string variants share the wire code)
  | vec (t : Desc)                        -- bare vector: count, items
  | tup (n : NatE) (t : Desc)             -- bare tuple: n items
  | struct (args : List NatE) (fs : Flds) -- bare constructor; args (evaluated outside) are its nat parameters
  | boxed (tag : Nat) (t : Desc)          -- constructor tag, then t
  | union (alts : Alts)                   -- boxed union: the tag selects the constructor
inductive Flds where
  | nil
  | natF (rest : Flds)                                   -- unconditional `#` field: value enters the environment
  | fld (t : Desc) (rest : Flds)                         -- unconditional field
  | opt (m : NatE) (bit : Nat) (t : Desc) (rest : Flds)  -- `name: m.bit ? t`
inductive Alts where
  | nil
  | cons (tag : Nat) (t : Desc) (rest : Alts)
end

mutual
inductive Val where
  | nat (n : Nat)
  | raw (b : Bytes)
  | str (b : Bytes)
  | list (vs : Vals)
  | recd (vs : Vals)         -- one entry per field; `none` for an absent conditional field
  | alt (i : Nat) (v : Val)  -- i-th constructor of a union
  | none
inductive Vals where
  | nil
  | cons (v : Val) (vs : Vals)
end

deriving instance DecidableEq for Val, Vals
deriving instance DecidableEq for Desc, Flds, Alts
deriving instance Repr for Val, Vals
deriving instance Repr for Desc, Flds, Alts

instance : Inhabited Val := ⟨.none⟩
instance : Inhabited Desc := ⟨.nat⟩

def Val.isNone : Val → Bool
  | .none => true
  | _ => false

def Vals.length : Vals → Nat
  | .nil => 0
  | .cons _ vs => vs.length + 1

/-- WriteTL1 of the items of a vector/tuple -/
def encVals (f : Val → Bytes) : Vals → Bytes
  | .nil => []
  | .cons v vs => f v ++ encVals f vs

/-- the read loop of a vector/tuple: n items, stop at the first error -/
def decN (f : Bytes → Option (Val × Bytes)) : Nat → Bytes → Option (Vals × Bytes)
  | 0, r => some (.nil, r)
  | n + 1, r =>
    match f r with
    | none => none
    | some (v, r1) =>
      match decN f n r1 with
      | none => none
      | some (vs, r2) => some (.cons v vs, r2)

def allVals (p : Val → Bool) : Vals → Bool
  | .nil => true
  | .cons v vs => p v && allVals p vs

def bitSet (env : Env) (m : NatE) (bit : Nat) : Bool := (m.eval env).testBit bit

def evalArgs (env : Env) (args : List NatE) : Env := args.map (NatE.eval env)

/-- tag of the i-th alternative (2^32 = "no such alternative", never equal to a real tag) -/
def tagAt : Alts → Nat → Nat
  | .nil, _ => 4294967296
  | .cons tag _ _, 0 => tag
  | .cons _ _ rest, i + 1 => tagAt rest i

mutual
/-- WriteTL1 -/
def enc : Desc → Env → Val → Bytes
  | .nat, _, .nat n => le32 n
  | .fixed _, _, .raw b => b
  | .str, _, .str b => encStr b
  | .vec t, env, .list vs => le32 vs.length ++ encVals (enc t env) vs
  | .tup _ t, env, .list vs => encVals (enc t env) vs
  | .struct args fs, env, .recd vs => encFlds fs (evalArgs env args) vs
  | .boxed tag t, env, v => le32 tag ++ enc t env v
  | .union alts, env, .alt i v => le32 (tagAt alts i) ++ encAlt alts env i v
  | _, _, _ => []
def encFlds : Flds → Env → Vals → Bytes
  | .natF rest, env, .cons (.nat n) vs => le32 n ++ encFlds rest (env ++ [n]) vs
  | .fld t rest, env, .cons v vs => enc t env v ++ encFlds rest env vs
  | .opt m bit t rest, env, .cons v vs =>
    if bitSet env m bit then enc t env v ++ encFlds rest env vs else encFlds rest env vs
  | _, _, _ => []
def encAlt : Alts → Env → Nat → Val → Bytes
  | .cons _ t _, env, 0, v => enc t env v
  | .cons _ _ rest, env, i + 1, v => encAlt rest env i v
  | .nil, _, _, _ => []
end

mutual
/-- ReadTL1: value and remaining bytes, `none` = any error -/
def dec : Desc → Env → Bytes → Option (Val × Bytes)
  | .nat, _, r => match readNat r with
    | some (n, r1) => some (.nat n, r1)
    | none => none
  | .fixed w, _, r => match takeN w r with
    | some (b, r1) => some (.raw b, r1)
    | none => none
  | .str, _, r => match decStr r with
    | some (b, r1) => some (.str b, r1)
    | none => none
  | .vec t, env, r => match readNat r with
    | some (n, r1) => match decN (dec t env) n r1 with
      | some (vs, r2) => some (.list vs, r2)
      | none => none
    | none => none
  | .tup n t, env, r => match decN (dec t env) (n.eval env) r with
    | some (vs, r1) => some (.list vs, r1)
    | none => none
  | .struct args fs, env, r => match decFlds fs (evalArgs env args) r with
    | some (vs, r1) => some (.recd vs, r1)
    | none => none
  | .boxed tag t, env, r => match readNat r with
    | some (n, r1) => if n = tag then dec t env r1 else none
    | none => none
  | .union alts, env, r => match readNat r with
    | some (n, r1) => decAlts alts env n r1 0
    | none => none
def decFlds : Flds → Env → Bytes → Option (Vals × Bytes)
  | .nil, _, r => some (.nil, r)
  | .natF rest, env, r => match readNat r with
    | some (n, r1) => match decFlds rest (env ++ [n]) r1 with
      | some (vs, r2) => some (.cons (.nat n) vs, r2)
      | none => none
    | none => none
  | .fld t rest, env, r => match dec t env r with
    | some (v, r1) => match decFlds rest env r1 with
      | some (vs, r2) => some (.cons v vs, r2)
      | none => none
    | none => none
  | .opt m bit t rest, env, r =>
    if bitSet env m bit then
      match dec t env r with
      | some (v, r1) => match decFlds rest env r1 with
        | some (vs, r2) => some (.cons v vs, r2)
        | none => none
      | none => none
    else
      match decFlds rest env r with
      | some (vs, r2) => some (.cons .none vs, r2)
      | none => none
def decAlts : Alts → Env → Nat → Bytes → Nat → Option (Val × Bytes)
  | .nil, _, _, _, _ => none
  | .cons tag t rest, env, n, r, k =>
    if n = tag then
      match dec t env r with
      | some (v, r1) => some (.alt k v, r1)
      | none => none
    else decAlts rest env n r (k + 1)
end

mutual
/-- well-typed values: the values the generated Go types can hold (and that WriteTL1 accepts) -/
def wt : Desc → Env → Val → Bool
  | .nat, _, .nat n => n < 4294967296
  | .fixed w, _, .raw b => b.length == w
  | .str, _, .str b => b.length ≤ maxHugeStringLen
  | .vec t, env, .list vs => vs.length < 4294967296 && allVals (wt t env) vs
  | .tup n t, env, .list vs => vs.length == n.eval env && allVals (wt t env) vs
  | .struct args fs, env, .recd vs => wtFlds fs (evalArgs env args) vs
  | .boxed tag t, env, v => tag < 4294967296 && wt t env v
  | .union alts, env, .alt i v => wtAlt alts env i v
  | _, _, _ => false
def wtFlds : Flds → Env → Vals → Bool
  | .nil, _, .nil => true
  | .natF rest, env, .cons (.nat n) vs => n < 4294967296 && wtFlds rest (env ++ [n]) vs
  | .fld t rest, env, .cons v vs => wt t env v && wtFlds rest env vs
  | .opt m bit t rest, env, .cons v vs =>
    if bitSet env m bit then wt t env v && wtFlds rest env vs
    else v.isNone && wtFlds rest env vs
  | _, _, _ => false
/-- the i-th alternative exists, its tag fits 32 bits and differs from every earlier tag (the reader takes the first match) -/
def wtAlt : Alts → Env → Nat → Val → Bool
  | .cons tag t _, env, 0, v => tag < 4294967296 && wt t env v
  | .cons tag _ rest, env, i + 1, v => tagAt rest i != tag && wtAlt rest env i v
  | .nil, _, _, _ => false
end

/-! ### bucket frames (internal/compress/lz4.go); lz4 itself is a parameter -/

/-- CompressAndFrame; `lz` = output of lz4.CompressBlockHC for `x` -/
def frameOf (lz x : Bytes) : Bytes :=
  le32 x.length ++ (if lz.length ≥ x.length then x else lz)

/-- DeFrame -/
def deFrame (f : Bytes) : Option (Nat × Bytes) :=
  if f.length < 4 then none else readNat f

def tooBig (maxU size : Nat) : Bool := size > maxU

/-- Decompress; `unlz data size` = lz4.UncompressBlock(data, make([]byte, size)) : bytes written or error -/
def decompress (maxU : Nat) (unlz : Bytes → Nat → Option Bytes) (size : Nat) (data : Bytes) : Option Bytes :=
  if size = data.length then some data
  else if tooBig maxU size then none
  else match unlz data size with
    | none => none
    | some out => if out.length = size then some out else none

/-- DeFrame then Decompress -/
def unframe (maxU : Nat) (unlz : Bytes → Nat → Option Bytes) (f : Bytes) : Option Bytes :=
  match deFrame f with
  | none => none
  | some (size, data) => decompress maxU unlz size data

/-! ### TL2 size codec and TL2 strings (internal/vkgo/basictl/basictl2.go) -/

def le64 (n : Nat) : Bytes :=
  [UInt8.ofNat (n % 256), UInt8.ofNat (n / 256 % 256), UInt8.ofNat (n / 65536 % 256), UInt8.ofNat (n / 16777216 % 256),
   UInt8.ofNat (n / 4294967296 % 256), UInt8.ofNat (n / 1099511627776 % 256), UInt8.ofNat (n / 281474976710656 % 256),
   UInt8.ofNat (n / 72057594037927936 % 256)]

def mediumStringMarker : Nat := 254
def maxInt : Nat := 9223372036854775807   -- math.MaxInt on the 64-bit platforms statshouse runs on

def tl2Tiny (l : Nat) : Bool := l < mediumStringMarker
def tl2Medium (l : Nat) : Bool := l < mediumStringMarker + 65536

/-- TL2WriteSize (TL2PutSize writes the same bytes in place, TL2CalculateSize is their number): one byte below 254,
    marker 254 and uint16(l-254) below 254+2^16, otherwise marker 255 and uint64(l) -/
def tl2WriteSize (l : Nat) : Bytes :=
  if tl2Tiny l then [UInt8.ofNat l]
  else if tl2Medium l then [254, UInt8.ofNat ((l - 254) % 256), UInt8.ofNat ((l - 254) / 256 % 256)]
  else 255 :: le64 l

def tl2CalculateSize (l : Nat) : Nat :=
  if tl2Tiny l then 1 else if tl2Medium l then 3 else 9

/-- TL2ParseSize: the huge form is accepted for any value ≤ MaxInt (non-canonical lengths are allowed there) -/
def tl2ParseSize : Bytes → Option (Nat × Bytes)
  | [] => none
  | b0 :: r =>
    if b0.toNat < mediumStringMarker then some (b0.toNat, r)
    else if b0.toNat = mediumStringMarker then
      match r with
      | l0 :: l1 :: r' => some (mediumStringMarker + (l0.toNat + l1.toNat * 256), r')
      | _ => none
    else
      match r with
      | l0 :: l1 :: l2 :: l3 :: l4 :: l5 :: l6 :: l7 :: r' =>
        if l0.toNat + l1.toNat * 256 + l2.toNat * 65536 + l3.toNat * 16777216 + l4.toNat * 4294967296
            + l5.toNat * 1099511627776 + l6.toNat * 281474976710656 + l7.toNat * 72057594037927936 > maxInt then none
        else some (l0.toNat + l1.toNat * 256 + l2.toNat * 65536 + l3.toNat * 16777216 + l4.toNat * 4294967296
            + l5.toNat * 1099511627776 + l6.toNat * 281474976710656 + l7.toNat * 72057594037927936, r')
      | _ => none

/-- StringWriteTL2 / StringWriteTL2Bytes -/
def tl2WriteStr (b : Bytes) : Bytes := tl2WriteSize b.length ++ b

/-- StringReadTL2 / StringReadTL2Bytes -/
def tl2ReadStr (r : Bytes) : Option (Bytes × Bytes) :=
  match tl2ParseSize r with
  | none => none
  | some (l, r1) => takeN l r1

/-! ### helpers for the driver -/

def Vals.toList : Vals → List Val
  | .nil => []
  | .cons v vs => v :: vs.toList

/-- the environment a constructor's fields leave behind (its nat parameters, then its `#` fields): what a function's
    result type refers to -/
def envAfter : Flds → Env → Vals → Env
  | .natF rest, env, .cons (.nat n) vs => envAfter rest (env ++ [n]) vs
  | .fld _ rest, env, .cons _ vs => envAfter rest env vs
  | .opt _ _ _ rest, env, .cons _ vs => envAfter rest env vs
  | _, env, _ => env

end SH.TL
