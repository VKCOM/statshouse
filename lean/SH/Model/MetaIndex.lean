/-
  SH.Model.MetaIndex — model of internal/metajournal/meta_metrics.go: MetricsStorage.ApplyEvent and
  calcGroupForMetricLocked (property C20, second half: in-memory indexes and group assignment).

  The three index pairs of MetricsStorage (metricsByID/metricsByName, groupsByID/groupsByName,
  namespaceByID/namespaceByName) are `Idx` values: two association lists with first-match lookup, functional
  `aset` (Go: `m[k] = v`) and `adel` (Go: `delete(m, k)`). Stored values are immutable structs in the Go code, so a
  value (`Ent`) stands for the pointer.

  `Variant.fixed` is the code after fixes/C20-name-index.diff: on a rename the entry under the old name is deleted
  only if it still belongs to the renamed entity, and the regrouping pass keeps the name index instead of rebuilding it
  from the id index. `Variant.orig` is the pinned code (unconditional delete, rebuild from metricsByID); it is kept so
  that Props/C20 can exhibit the defect.

  External inputs (DESIGN §4.3): `slices.SortFunc` is not stable and starts from Go map order, so the relative order of
  two enabled user groups with the *same name* (possible only transiently on a replica) is an input: `tie` lists group
  ids in the order observed; it is consulted only between equal names. In `Variant.orig` the winner among two metrics
  with the same name in the rebuild depends on map order; the model uses list order (last wins).
-/
import SH.Gen.C20

namespace SH.MetaIndex

/-- a name as its bytes (Go compares strings bytewise) -/
abbrev Name := List Nat

/-- one stored metric / group / namespace (the fields ApplyEvent reads or writes) -/
structure Ent where
  id : Int
  name : Name
  ver : Int
  grp : Int := 0        -- metrics: GroupID
  dis : Bool := false   -- groups: Disable
deriving DecidableEq, Repr

/-! ### association lists -/

def aget {κ} [DecidableEq κ] : List (κ × Ent) → κ → Option Ent
  | [], _ => none
  | (k', v) :: r, k => if k' = k then some v else aget r k

def aset {κ} [DecidableEq κ] : List (κ × Ent) → κ → Ent → List (κ × Ent)
  | [], k, v => [(k, v)]
  | (k', v') :: r, k, v => if k' = k then (k, v) :: r else (k', v') :: aset r k v

def adel {κ} [DecidableEq κ] (m : List (κ × Ent)) (k : κ) : List (κ × Ent) := m.filter (fun p => p.1 ≠ k)

/-- an id index and a name index -/
structure Idx where
  byId : List (Int × Ent) := []
  byName : List (Name × Ent) := []
deriving DecidableEq, Repr

inductive Variant | fixed | orig
deriving DecidableEq, Repr

/-- is the entry under the old name deleted when `old` is renamed?  orig: always.  fixed: only if it is `old`'s. -/
def dropsOld (v : Variant) (x : Idx) (old : Ent) : Bool :=
  match v with
  | .orig => true
  | .fixed =>
    match aget x.byName old.name with
    | some cur => cur.id == old.id
    | none => false

/-- `if idExists && valueOld.Name != value.Name { delete(byName, valueOld.Name) }` -/
def renameOut (v : Variant) (x : Idx) (id : Int) (name : Name) : Idx :=
  match aget x.byId id with
  | some old => if old.name ≠ name ∧ dropsOld v x old = true then { x with byName := adel x.byName old.name } else x
  | none => x

/-- `byID[id] = value; byName[name] = value` -/
def put (x : Idx) (e : Ent) : Idx := { byId := aset x.byId e.id e, byName := aset x.byName e.name e }

def upsert (v : Variant) (x : Idx) (e : Ent) : Idx := put (renameOut v x e.id e.name) e

/-! ### group assignment -/

def lexLt : Name → Name → Bool
  | [], [] => false
  | [], _ :: _ => true
  | _ :: _, [] => false
  | a :: as, b :: bs => if a < b then true else if a = b then lexLt as bs else false

/-- `calcGroupForMetricLocked`: first group of `ordered` whose name is a prefix of the metric name -/
def calcGroup (ordered : List Ent) (name : Name) : Int :=
  match ordered.find? (fun g => g.name.isPrefixOf name) with
  | some g => g.id
  | none => SH.Gen.C20.builtinGroupIDDefault

def idxOf (tie : List Int) (id : Int) : Nat :=
  match tie with
  | [] => 0
  | t :: r => if t = id then 0 else idxOf r id + 1

/-- `a` is placed before `b`: names descending; between equal names the observed order `tie`, then the id -/
def before (tie : List Int) (a b : Ent) : Bool :=
  if a.name = b.name then
    (if idxOf tie a.id = idxOf tie b.id then decide (a.id ≤ b.id) else decide (idxOf tie a.id < idxOf tie b.id))
  else lexLt b.name a.name

def insertSorted (tie : List Int) (g : Ent) : List Ent → List Ent
  | [] => [g]
  | h :: r => if before tie g h then g :: h :: r else h :: insertSorted tie g r

def sortGroups (tie : List Int) (gs : List Ent) : List Ent := gs.foldr (insertSorted tie) []

/-- `g.ID > 0 && !g.Disable` -/
def userEnabled (g : Ent) : Bool := decide (0 < g.id) && !g.dis

def orderedOf (tie : List Int) (groups : Idx) : List Ent :=
  sortGroups tie ((groups.byId.map (·.2)).filter userEnabled)

/-! ### the storage -/

structure Store where
  metrics : Idx := {}
  groups : Idx := {}
  nss : Idx := {}
  ordered : List Ent := []     -- groupsOrdered
deriving DecidableEq, Repr

def nameOfString (s : String) : Name := s.toList.map Char.toNat

/-- `MakeMetricsStorage`: built-in groups and namespaces are present from the start -/
def init : Store :=
  let gs := SH.Gen.C20.builtinGroups.map (fun p => ({ id := p.1, name := nameOfString p.2.1, ver := 0, dis := p.2.2 } : Ent))
  let ns := SH.Gen.C20.builtinNamespaces.map (fun p => ({ id := p.1, name := nameOfString p.2, ver := 0 } : Ent))
  { groups := { byId := gs.map (fun g => (g.id, g)), byName := gs.map (fun g => (g.name, g)) },
    nss := { byId := ns.map (fun g => (g.id, g)), byName := ns.map (fun g => (g.name, g)) } }

/-- one journal event as ApplyEvent sees it; `ok` = the XxxMetaFromEvent converter succeeded -/
structure IEv where
  typ : Int
  id : Int
  name : Name
  ver : Int
  ok : Bool
  dis : Bool
deriving DecidableEq, Repr

/-- GroupID of an incoming metric: kept when the name is unchanged, otherwise computed from groupsOrdered -/
def metricGroup (st : Store) (e : IEv) : Int :=
  match aget st.metrics.byId e.id with
  | some old => if old.name = e.name then old.grp else calcGroup st.ordered e.name
  | none => calcGroup st.ordered e.name

def applyMetric (v : Variant) (st : Store) (e : IEv) : Store :=
  { st with metrics := upsert v st.metrics { id := e.id, name := e.name, ver := e.ver, grp := metricGroup st e } }

/-- `!idExists || valueOld.Name != value.Name || valueOld.Disable != value.Disable` -/
def groupChanged (st : Store) (e : IEv) : Bool :=
  match aget st.groups.byId e.id with
  | some old => old.name ≠ e.name || old.dis != e.dis
  | none => true

def applyGroup (v : Variant) (st : Store) (e : IEv) : Store :=
  { st with groups := upsert v st.groups { id := e.id, name := e.name, ver := e.ver, dis := e.dis } }

def applyNs (v : Variant) (st : Store) (e : IEv) : Store :=
  { st with nss := upsert v st.nss { id := e.id, name := e.name, ver := e.ver } }

def isMetric (e : IEv) : Bool := e.typ = SH.Gen.C20.metricEvent
def isGroup (e : IEv) : Bool := e.typ = SH.Gen.C20.metricsGroupEvent
def isNs (e : IEv) : Bool := e.typ = SH.Gen.C20.namespaceEvent

/-- one iteration of the `for _, e := range newEntries` loop; the Bool is `changedGroups` -/
def applyOne (v : Variant) (s : Store × Bool) (e : IEv) : Store × Bool :=
  if !e.ok then s
  else if isMetric e then (applyMetric v s.1 e, s.2)
  else if isGroup e then (applyGroup v s.1 e, s.2 || groupChanged s.1 e)
  else if isNs e then (applyNs v s.1 e, s.2)
  else s    -- dashboards, prom configs, unknown types: not part of the name indexes

def regroup (ordered : List Ent) (m : Ent) : Ent := { m with grp := calcGroup ordered m.name }

/-- the `if changedGroups { … }` pass -/
def rebuild (v : Variant) (tie : List Int) (st : Store) : Store :=
  let ordered := orderedOf tie st.groups
  let byId := st.metrics.byId.map (fun p => (p.1, regroup ordered p.2))
  let byName :=
    match v with
    | .fixed =>
      -- `for name, m := range ms.metricsByName { metricsByName[name] = metricsByID[m.MetricID] }`
      -- (a missing id would store nil in Go; impossible while every byName entry is also the byId entry — `I1` in Lemmas/MetaIndex)
      st.metrics.byName.map (fun p => (p.1, (aget byId p.2.id).getD (regroup ordered p.2)))
    | .orig => byId.foldl (fun acc p => aset acc p.2.name p.2) []
  { st with metrics := { byId := byId, byName := byName }, ordered := ordered }

def finish (v : Variant) (tie : List Int) (s : Store × Bool) : Store :=
  if s.2 then rebuild v tie s.1 else s.1

/-- `MetricsStorage.ApplyEvent(newEntries)` -/
def applyBatch (v : Variant) (tie : List Int) (st : Store) (evs : List IEv) : Store :=
  finish v tie (evs.foldl (applyOne v) (st, false))

def applyBatches (v : Variant) (tie : List Int) (st : Store) (bs : List (List IEv)) : Store :=
  bs.foldl (applyBatch v tie) st

end SH.MetaIndex
