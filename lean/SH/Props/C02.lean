/-
  C02 — Row aggregates survive agent-to-aggregator transfer unchanged.

  "For every row an agent sends with any sample factor sf, the aggregator reconstructs the same key (tags, string tags,
   timestamp), the same string-top keys, and for each of them count*sf, min, max, sum*sf, sum-of-squares*sf, the
   min/max/max-count host attributions, the unique-value set and the percentile centroids with weights*sf. This holds
   for every mix of counter-only, value, histogram and unique events that contributed to the row."

  Model: SH.Model.Transfer.  The round-trip theorems are about `Variant.fixed` (= /repo with fixes/C02-compact-sum.diff
  and fixes/C02-empty-host.diff); the pinned tree is `Variant.repo`, for which the property is FALSE — see the evaluated
  counterexamples `repo_loses_sum` / `repo_misattributes_min_host` in the witnesses section.
  Numbers: any linearly ordered field (float64 is modelled by exact arithmetic, DESIGN §4.1).

  `agent_row_roundtrip` is the full statement; the others are its parts and special cases.  Lemmas that need neither the
  specification below nor arithmetic are in SH/Lemmas/Transfer.lean and SH/Lemmas/TransferMap.lean (core Lean only).
  Hypotheses and why they are part of "valid": event host tags are normalized (TagUnion: I has priority over S); the
  scaled numbers pass format.ValidateCounter/ValidateValue (|x| ≤ MaxFloat32 — otherwise the aggregator deliberately
  rejects the value with an ingestion error); in `built_row_roundtrip` string tops stay below capacity (resampling is
  random; `agent_row_roundtrip` covers it with the draws as inputs); with a mapping table `hh` and `hdist` (see the
  mapped section).
  Reading of "percentile centroids" for a value without a digest (agent keeps no digest while all values are equal):
  it counts as the single centroid (min, count) — `expectedDg`.  For a percentile row that holds several distinct
  values but no digest (possible only through unique events) the property does not say what the centroids are; the
  theorem then states what the code does (implicit centroid at min, see the example in the witnesses section) and the
  direct oracle does not judge that case.
-/
import SH.Model.Transfer
import SH.Lemmas.Transfer
import SH.Lemmas.TransferMap
import Mathlib.Tactic.Ring
import Mathlib.Tactic.Linarith
import Mathlib.Algebra.Order.Field.Basic

namespace SH.C02
open SH.Transfer

/-- the aggregator substitutes the sending agent's host for an empty host -/
def sub (h t : Tag) : Tag := if t.isEmpty then h else t

theorem restoreOther_hostDiff (t hmax h : Tag) (hn : t.isNorm = true) :
    restoreOther Variant.fixed (hostDiffI true t hmax) (hostDiffS t hmax) (sub h hmax) h = sub h t := by
  by_cases e : t = hmax
  · subst e
    simp [restoreOther, hostDiffI, hostDiffS]
  · rcases norm_cases t hn with rfl | ⟨c, cs, rfl⟩ | ⟨i, hi, rfl⟩ <;>
      simp [restoreOther, hostDiffI, hostDiffS, hostS, sub, Tag.isEmpty, tagOf, Variant.fixed, *]

section spec
variable {α : Type} [Zero α] [One α] [Add α] [Mul α] [Div α] [LT α] [LE α] [NatCast α]
  [DecidableEq α] [DecidableLT α] [DecidableLE α]

/-- the value part the aggregator must hold: count, sum, sum of squares × sf, same min/max, the agent's host in place of
    an empty host; while ValueSet is false there is no min/max host at all (not the agent's) -/
def expectedV (v : ItemValue α) (sf : α) (h : Tag) : ItemValue α :=
  { counter := v.counter * sf
    hcnt := sub h v.hcnt
    min := v.min
    max := v.max
    sum := v.sum * sf
    sq := v.sq * sf
    hmin := if v.vset then sub h v.hmin else Tag.none
    hmax := if v.vset then sub h v.hmax else Tag.none
    vset := v.vset }

/-- the centroids the aggregator must hold for a row whose ValueSet is true -/
def expectedDg (m : MultiValue α) (sf : α) (pct : Bool) (cents : List (Centroid α)) : Option (List (Centroid α)) :=
  if pct then
    match m.dg with
    | some _ => if cents.isEmpty then none else some (scaleCentroids cents sf)
    | none => some [⟨m.v.min, m.v.counter * sf⟩]
  else none

/-- what the aggregator must hold for the agent-side value `m` sent with sample factor `sf` by the agent on host `h` -/
def expected (m : MultiValue α) (sf : α) (h : Tag) (pct : Bool) (cents : List (Centroid α)) : MultiValue α :=
  if m.v.counter * sf ≤ 0 then MultiValue.empty
  else
    { v := expectedV m.v sf h
      dg := if m.v.vset then expectedDg m sf pct cents else none
      uq := m.uq }

end spec

section
variable {α : Type} [Zero α] [Mul α] [LE α] [DecidableLE α]

theorem expected_dg (m : MultiValue α) (sf : α) (h : Tag) (pct : Bool) (cents : List (Centroid α))
    (hn : ¬ m.v.counter * sf ≤ 0) (hv : m.v.vset = true) :
    (expected m sf h pct cents).dg = expectedDg m sf pct cents := by
  rw [expected, if_neg hn, hv]
  rfl

end

/-! MergeWithTL2 on a sent value, step by step, without arithmetic: the order facts (`¬ count·sf ≤ 0`, `0 ≤ 0`, the
  validators' verdicts) are hypotheses, which `value_roundtrip` supplies. -/

section
variable {α : Type} [Zero α] [One α] [Mul α] [LE α] [DecidableEq α] [DecidableLE α]

/-- the value part of a sent value only adds fields to the head, so the hosts are restored from the head -/
theorem restoreHosts_toTL (m : MultiValue α) (sf : α) (pct : Bool) (cents : List (Centroid α)) (h : Tag)
    (hn : ¬ m.v.counter * sf ≤ 0) (n1 : m.v.hcnt.isNorm = true) (n2 : m.v.hmin.isNorm = true)
    (n3 : m.v.hmax.isNorm = true) :
    restoreMaxHost (toTL Variant.fixed m sf pct cents) h = sub h m.v.hmax ∧
    restoreMinHost Variant.fixed (toTL Variant.fixed m sf pct cents) h = sub h m.v.hmin ∧
    restoreCntHost Variant.fixed (toTL Variant.fixed m sf pct cents) h = sub h m.v.hcnt := by
  have hmax : restoreMaxHost (toTLHead Variant.fixed m sf) h = sub h m.v.hmax := by
    show (if (hostI m.v.hmax).isNone && (hostS m.v.hmax).isNone then h else tagOf (hostI m.v.hmax) (hostS m.v.hmax)) = _
    generalize m.v.hmax = t at n3 ⊢
    rcases norm_cases t n3 with rfl | ⟨c, cs, rfl⟩ | ⟨i, hi, rfl⟩ <;> simp [hostI, hostS, sub, Tag.isEmpty, tagOf, *]
  have head : restoreMaxHost (toTLHead Variant.fixed m sf) h = sub h m.v.hmax ∧
      restoreMinHost Variant.fixed (toTLHead Variant.fixed m sf) h = sub h m.v.hmin ∧
      restoreCntHost Variant.fixed (toTLHead Variant.fixed m sf) h = sub h m.v.hcnt := by
    refine ⟨hmax, ?_, ?_⟩
    · unfold restoreMinHost
      rw [hmax]
      exact restoreOther_hostDiff _ _ _ n2
    · unfold restoreCntHost
      rw [hmax]
      exact restoreOther_hostDiff _ _ _ n1
  cases hv : m.v.vset with
  | false =>
    rw [toTL_unset _ m sf pct cents hn hv]
    exact head
  | true =>
    rw [toTL_set _ m sf pct cents hn hv]
    exact head

variable [Add α] [LT α] [DecidableLT α]

theorem mergeValueTL_toTL (m : MultiValue α) (sf : α) (pct : Bool) (cents : List (Centroid α)) (h : Tag)
    (hn : ¬ m.v.counter * sf ≤ 0) (hv : m.v.vset = true)
    (hmaxh : restoreMaxHost (toTL Variant.fixed m sf pct cents) h = sub h m.v.hmax)
    (hminh : restoreMinHost Variant.fixed (toTL Variant.fixed m sf pct cents) h = sub h m.v.hmin)
    (s : ItemValue α) (hs : s.vset = false) :
    mergeValueTL Variant.fixed s (toTL Variant.fixed m sf pct cents) (m.v.counter * sf) h =
      { s with
        sum := s.sum + (if compact Variant.fixed m.v then m.v.min * (m.v.counter * sf) else m.v.sum * sf)
        sq := s.sq + (if compact Variant.fixed m.v then m.v.min * (m.v.counter * sf) * m.v.min else m.v.sq * sf)
        min := m.v.min
        hmin := sub h m.v.hmin
        max := if compact Variant.fixed m.v then m.v.min else m.v.max
        hmax := sub h m.v.hmax
        vset := true } := by
  unfold mergeValueTL
  rw [hmaxh, hminh, toTL_set _ m sf pct cents hn hv]
  simp only [getD_ite_zero, newMin, newMax, hs, Bool.not_false, Bool.true_or, if_true]
  cases compact Variant.fixed m.v <;> rfl

variable [NatCast α]

theorem mergeDigest_toTL (m : MultiValue α) (sf : α) (pct : Bool) (cents : List (Centroid α))
    (hn : ¬ m.v.counter * sf ≤ 0) (hv : m.v.vset = true)
    (hc : ∀ c ∈ scaleCentroids cents sf, c.w ≠ 0 ∧ counterErr c.w = 0 ∧ valueErr c.mean = 0 ∧ ¬ c.w ≤ 0)
    (a : MultiValue α) (ha : a.dg = none) :
    mergeDigest a (toTL Variant.fixed m sf pct cents) (m.v.counter * sf) =
      ⟨{ a with dg := expectedDg m sf pct cents }, 0⟩ := by
  rw [toTL_set _ m sf pct cents hn hv]
  obtain ⟨av, adg, auq⟩ := a
  cases ha
  cases pct with
  | false =>
    rw [mergeDigest_nil _ _ _ rfl]
    rfl
  | true =>
    cases hd : m.dg with
    | none =>
      rw [mergeDigest_nil _ _ _ (by simp [tlCents, toTLCents, hd])]
      -- the implicit centroid (min, count·sf) is kept by `dgAdd` because its weight is not ≤ 0 (`hn`)
      simp [toTLImplicit, hd, expectedDg, dgAdd, hn, getD_ite_zero]
    | some l =>
      cases cents with
      | nil =>
        rw [mergeDigest_nil _ _ _ (by simp [tlCents, toTLCents])]
        simp [toTLImplicit, hd, expectedDg]
      | cons x xs =>
        rw [mergeDigest_ok _ _ _ (scaleCentroids (x :: xs) sf) (by simp [tlCents, toTLCents, hd, scaleCentroids])
          (by simpa [tlCents, toTLCents, hd] using addCentroids_ok _ [] hc)]
        simp [toTLImplicit, hd, expectedDg]

end

section
variable {α : Type} [Field α] [LinearOrder α]

theorem counterErr_ok (x : α) (h0 : 0 ≤ x) (h1 : x ≤ ((maxF32 : Nat) : α)) : counterErr x = 0 := by
  unfold counterErr
  rw [if_neg (not_lt.mpr h0), if_neg (not_lt.mpr h1)]

end

-- Every declaration below that mentions `α` takes these three instances, used or not: `omit` what a new lemma does not
-- use.  A lemma without arithmetic belongs above or in SH/Lemmas/Transfer.lean, over the model's own classes (the
-- well-formedness lemmas below are here only because `WFv`, `WFm`, `RowWF` are declared for a field).
variable {α : Type} [Field α] [LinearOrder α] [IsStrictOrderedRing α]

/-- |x| ≤ MaxFloat32 -/
def InF32 (x : α) : Prop := -((maxF32 : Nat) : α) ≤ x ∧ x ≤ ((maxF32 : Nat) : α)

theorem valueErr_ok (x : α) (h : InF32 x) : valueErr x = 0 := by
  unfold valueErr
  rw [if_neg (not_lt.mpr h.2), if_neg (not_lt.mpr (neg_le_iff_add_nonneg.mp h.1))]

theorem sf_pos {sf : α} (h : 1 ≤ sf) : 0 < sf := lt_of_lt_of_le one_pos h

/-- well-formed agent-side value: hosts normalized; nothing recorded in the value fields while ValueSet is false -/
structure WFv (v : ItemValue α) : Prop where
  hcnt : v.hcnt.isNorm = true
  hmin : v.hmin.isNorm = true
  hmax : v.hmax.isNorm = true
  unset : v.vset = false → v.min = 0 ∧ v.max = 0 ∧ v.sum = 0 ∧ v.sq = 0 ∧ v.hmin = Tag.none ∧ v.hmax = Tag.none

omit [IsStrictOrderedRing α] in
/-- the fixed tree omits max, sum and sumsq only when the aggregator re-derives exactly them from min and the counter -/
theorem compact_exact (v : ItemValue α) (sf : α) :
    (if compact Variant.fixed v then v.min * (v.counter * sf) else v.sum * sf) = v.sum * sf ∧
    (if compact Variant.fixed v then v.min * (v.counter * sf) * v.min else v.sq * sf) = v.sq * sf ∧
    (if compact Variant.fixed v then v.min else v.max) = v.max := by
  by_cases hc : compact Variant.fixed v = true
  · obtain ⟨⟨c1, c2⟩, c3⟩ : (v.min = v.max ∧ v.sum = v.min * v.counter) ∧ v.sq = v.sum * v.min := by
      simpa only [compact, Variant.fixed, if_true, Bool.and_eq_true, decide_eq_true_eq] using hc
    rw [if_pos hc, if_pos hc, if_pos hc]
    exact ⟨by rw [c2]; ring, by rw [c3, c2]; ring, c1⟩
  · rw [if_neg hc, if_neg hc, if_neg hc]
    exact ⟨rfl, rfl, rfl⟩

/-- every centroid the agent's digest reports has a positive weight (assumed of `Centroids()`: `addCentroids` skips a
    zero weight silently) and passes the aggregator's validators after scaling -/
def CentsOk (cents : List (Centroid α)) (sf : α) : Prop :=
  ∀ c ∈ cents, 0 < c.w ∧ c.w * sf ≤ ((maxF32 : Nat) : α) ∧ InF32 c.mean

/-- the numbers of the row pass the aggregator's validators (format.ValidateCounter / ValidateValue); MergeWithTL2
    validates min, max and sum only, so the sum of squares needs no bound -/
structure InRange (m : MultiValue α) (sf : α) (cents : List (Centroid α)) : Prop where
  counter : m.v.counter * sf ≤ ((maxF32 : Nat) : α)
  min : InF32 m.v.min
  max : InF32 m.v.max
  sum : InF32 (m.v.sum * sf)
  cents : CentsOk cents sf

/-- One MultiValue (tail or one string-top entry).  For every well-formed agent-side value, every sample factor
    > 0 (the agent's are ≥ 1), every centroid list its digest reports and every agent host, merging the TL form into a
    fresh aggregator value yields count·sf, the same min and max, sum·sf, sumsq·sf, the three hosts (agent host for
    empty), the same unique set and the centroids with weights·sf, and no ingestion error. -/
theorem value_roundtrip (m : MultiValue α) (sf : α) (pct : Bool) (cents : List (Centroid α)) (h : Tag) (pick : Bool)
    (wf : WFv m.v) (hu : m.uq.Pairwise (· < ·)) (hsf : 0 < sf) (rg : InRange m sf cents) :
    mergeTL Variant.fixed MultiValue.empty (toTL Variant.fixed m sf pct cents) h pick =
      ⟨expected m sf h pct cents, 0⟩ := by
  by_cases hn : m.v.counter * sf ≤ 0
  · rw [toTL_nonpos _ m sf pct cents hn, expected, if_pos hn]
    unfold mergeTL
    -- `tlCounter TLValue.empty` is 0: nothing is merged
    exact if_pos rfl
  have hpos : 0 < m.v.counter * sf := not_le.mp hn
  obtain ⟨hc, hvs, huq⟩ := toTL_counter_vset_uq Variant.fixed m sf pct cents hn
  obtain ⟨hmaxh, hminh, hcnt⟩ := restoreHosts_toTL m sf pct cents h hn wf.hcnt wf.hmin wf.hmax
  unfold mergeTL
  simp only [mergeCounterUq, hc, hcnt, huq, hvs, MultiValue.empty, addCounterHost_empty _ _ _ hn (le_refl 0),
    uqMerge_toTL_uq _ hu]
  rw [if_neg (ne_of_gt hpos), if_neg (fun e => e (counterErr_ok _ hpos.le rg.counter)), expected, if_neg hn]
  cases hv : m.v.vset with
  | false =>
    obtain ⟨u1, u2, u3, u4, _, _⟩ := wf.unset hv
    simp [hv, expectedV, ItemValue.empty, u1, u2, u3, u4]
  | true =>
    have z : valueErr (0 : α) = 0 := valueErr_ok _ ⟨neg_nonpos.mpr (Nat.cast_nonneg _), Nat.cast_nonneg _⟩
    obtain ⟨a1, a2, a3⟩ := compact_exact m.v sf
    have hcs : ∀ c ∈ scaleCentroids cents sf, c.w ≠ 0 ∧ counterErr c.w = 0 ∧ valueErr c.mean = 0 ∧ ¬ c.w ≤ 0 := by
      intro c hcm
      obtain ⟨c0, hc0, rfl⟩ := List.mem_map.mp hcm
      obtain ⟨w1, w2, w3⟩ := rg.cents c0 hc0
      have hw : 0 < c0.w * sf := mul_pos w1 hsf
      exact ⟨ne_of_gt hw, counterErr_ok _ hw.le w2, valueErr_ok _ w3, not_le.mpr hw⟩
    rw [if_neg (show ¬ (!true) = true from Bool.false_ne_true),
      if_neg (fun e => e (valueFieldsErr_toTL _ m sf pct cents hn hv z (valueErr_ok _ rg.min) (valueErr_ok _ rg.max)
        (valueErr_ok _ rg.sum))),
      mergeValueTL_toTL m sf pct cents h hn hv hmaxh hminh _ rfl,
      mergeDigest_toTL m sf pct cents hn hv hcs _ rfl, a1, a2, a3]
    -- left: `0 + x = x` on sum and sumsq of the fresh value
    simp [expectedV, ItemValue.empty, hv]

/-! ### percentile centroids

  Proved below: what list goes on the wire and what list is added to the fresh digest.  TRUSTED (library hrissan/tdigest,
  not modelled): what `Centroids()` returns for the adds made on the agent (the compression on the agent side; `cents` is
  universally quantified here), how the aggregator-side digest compresses / merges the added list afterwards, and the
  float32 rounding of mean and weight on the wire. -/

omit [IsStrictOrderedRing α] in
theorem sent_centroids (var : Variant) (m : MultiValue α) (sf : α) (cents : List (Centroid α))
    (hpos : 0 < m.v.counter * sf) (hv : m.v.vset = true) (hd : m.dg.isSome = true) (hne : cents ≠ []) :
    (toTL var m sf true cents).cents = some (cents.map (fun c => ⟨c.mean, c.w * sf⟩)) ∧
      (toTL var m sf true cents).implicit = false := by
  obtain ⟨l, hl⟩ := Option.isSome_iff_exists.mp hd
  cases cents with
  | nil => exact absurd rfl hne
  | cons x xs =>
    rw [toTL_set var m sf true _ (not_le.mpr hpos) hv]
    simp [toTLCents, toTLImplicit, hl, scaleCentroids]

theorem received_centroid_adds (m : MultiValue α) (sf : α) (cents : List (Centroid α)) (h : Tag) (pick : Bool)
    (wf : WFv m.v) (hu : m.uq.Pairwise (· < ·)) (hsf : 1 ≤ sf) (rg : InRange m sf cents)
    (hpos : 0 < m.v.counter * sf) (hv : m.v.vset = true) (hd : m.dg.isSome = true) (hne : cents ≠ []) :
    (mergeTL Variant.fixed MultiValue.empty (toTL Variant.fixed m sf true cents) h pick).mv.dg =
      some (cents.map (fun c => ⟨c.mean, c.w * sf⟩)) := by
  rw [value_roundtrip m sf true cents h pick wf hu (sf_pos hsf) rg, expected_dg m sf h true cents (not_le.mpr hpos) hv]
  obtain ⟨l, hl⟩ := Option.isSome_iff_exists.mp hd
  cases cents with
  | nil => exact absurd rfl hne
  | cons x xs =>
    unfold expectedDg
    rw [hl]
    rfl

theorem received_implicit_centroid (m : MultiValue α) (sf : α) (cents : List (Centroid α)) (h : Tag) (pick : Bool)
    (wf : WFv m.v) (hu : m.uq.Pairwise (· < ·)) (hsf : 1 ≤ sf) (rg : InRange m sf cents)
    (hpos : 0 < m.v.counter * sf) (hv : m.v.vset = true) (hd : m.dg = none) :
    (mergeTL Variant.fixed MultiValue.empty (toTL Variant.fixed m sf true cents) h pick).mv.dg =
      some [⟨m.v.min, m.v.counter * sf⟩] := by
  rw [value_roundtrip m sf true cents h pick wf hu (sf_pos hsf) rg, expected_dg m sf h true cents (not_le.mpr hpos) hv]
  unfold expectedDg
  rw [hd]
  rfl

structure WFm (m : MultiValue α) : Prop where
  v : WFv m.v
  uq : m.uq.Pairwise (· < ·)

/-- the host tag carried by an event is normalized (`I` has priority over `S`; mapping produces one of them) -/
def _root_.SH.Transfer.Event.hostNorm : Event α → Prop
  | .counter _ host _ => host.isNorm = true
  | .values _ _ _ host _ _ => host.isNorm = true
  | .valuesLegacy _ _ _ host _ _ => host.isNorm = true
  | .valuePct _ _ host _ _ => host.isNorm = true
  | .unique _ _ host _ => host.isNorm = true

section wf
omit [IsStrictOrderedRing α]

section
omit [LinearOrder α]

theorem WFv.hosts {v : ItemValue α} (wf : WFv v) : HostsNorm v := ⟨wf.hcnt, wf.hmin, wf.hmax⟩

theorem WFv_of_vset (v : ItemValue α) (h : HostsNorm v) (hv : v.vset = true) : WFv v :=
  ⟨h.1, h.2.1, h.2.2, fun hf => Bool.noConfusion (hv.symm.trans hf)⟩

theorem WFm_empty : WFm (MultiValue.empty : MultiValue α) :=
  ⟨⟨rfl, rfl, rfl, fun _ => ⟨rfl, rfl, rfl, rfl, rfl, rfl⟩⟩, List.Pairwise.nil⟩

end

theorem addCounterHost_WFv (s : ItemValue α) (c : α) (host : Tag) (pick : Bool) (wf : WFv s) (hh : host.isNorm = true) :
    WFv (addCounterHost s c host pick) := by
  have keep : ∀ x, WFv { s with counter := x } := fun _ => ⟨wf.hcnt, wf.hmin, wf.hmax, wf.unset⟩
  have take : ∀ x, WFv { s with hcnt := host, counter := x } := fun _ => ⟨hh, wf.hmin, wf.hmax, wf.unset⟩
  exact ite_inv WFv wf
    (ite_inv WFv (take _) (ite_inv WFv (keep _) (ite_inv WFv (take _) (keep _))))

theorem itemMerge_WFv (s s2 : ItemValue α) (pick : Bool) (wf : WFv s) (h2 : HostsNorm s2) : WFv (itemMerge s s2 pick) :=
  have w := addCounterHost_WFv s s2.counter s2.hcnt pick wf h2.1
  ite_inv WFv
    (WFv_of_vset _ ⟨w.hcnt, ite_inv (fun t : Tag => t.isNorm = true) h2.2.1 w.hmin,
      ite_inv (fun t : Tag => t.isNorm = true) h2.2.2 w.hmax⟩ rfl) w

theorem applyEvent_WFm (m : MultiValue α) (e : Event α) (wf : WFm m) (he : e.hostNorm) : WFm (applyEvent m e) := by
  obtain ⟨wv, wu⟩ := wf
  cases e with
  | counter c host pick => exact ⟨addCounterHost_WFv _ _ _ _ wv he, wu⟩
  | values hist vals c host pick pct =>
    -- every branch keeps `uq` and has `v = m.v` or the merged value; the digest is no part of WFm
    have hm := itemMerge_WFv m.v _ pick wv
      (tmpOfValues_hosts hist vals (defaultCount c (totalCount hist vals)) (totalCount hist vals) host he)
    exact ite_inv WFm ⟨wv, wu⟩ (ite_inv WFm ⟨hm, wu⟩ (ite_inv WFm ⟨hm, wu⟩ ⟨hm, wu⟩))
  | valuesLegacy hist vals c host pick pct =>
    have hm := itemMerge_WFv m.v _ pick wv
      (tmpOfValues_hosts hist vals (defaultCount c (totalCount hist vals)) (totalCount hist vals) host he)
    exact ite_inv WFm ⟨wv, wu⟩ ⟨hm, wu⟩
  | valuePct x c host pick pct =>
    have hm := WFv_of_vset _ (addOnlyValue_hosts _ x c host (addCounterHost_WFv m.v c host pick wv he).hosts he) rfl
    exact ite_inv WFm ⟨hm, wu⟩ (ite_inv WFm ⟨hm, wu⟩ ⟨hm, wu⟩)
  | unique hashes c host pick =>
    refine ite_inv WFm ⟨wv, wu⟩ ⟨?_, foldl_setInsert_pairwise (fun h : α × Nat => h.2) hashes _ wu⟩
    exact itemMerge_WFv _ _ _ wv (scaleTmp_hosts _ _ _
      (List.foldlRecOn hashes _ (simpleItemCounter_hosts _ host he) (fun t ht _ _ => addOnlyValue_hosts t _ _ host ht he)))

theorem built_WFm (evs : List (Event α)) (he : ∀ e ∈ evs, e.hostNorm) :
    WFm (evs.foldl applyEvent (MultiValue.empty : MultiValue α)) :=
  List.foldlRecOn evs applyEvent WFm_empty (fun m wf e hm => applyEvent_WFm m e wf (he e hm))

end wf

/-- Any sequence of counter / value / histogram / unique events (hosts normalized)
    builds a value that survives the transfer with every sample factor ≥ 1, as long as the scaled numbers pass the
    aggregator's float32 range validators. -/
theorem built_value_roundtrip (evs : List (Event α)) (he : ∀ e ∈ evs, e.hostNorm)
    (sf : α) (pct : Bool) (cents : List (Centroid α)) (h : Tag) (pick : Bool) (hsf : 1 ≤ sf)
    (rg : InRange (evs.foldl applyEvent (MultiValue.empty : MultiValue α)) sf cents) :
    mergeTL Variant.fixed MultiValue.empty
        (toTL Variant.fixed (evs.foldl applyEvent (MultiValue.empty : MultiValue α)) sf pct cents) h pick =
      ⟨expected (evs.foldl applyEvent (MultiValue.empty : MultiValue α)) sf h pct cents, 0⟩ :=
  value_roundtrip _ sf pct cents h pick (built_WFm evs he).v (built_WFm evs he).uq (sf_pos hsf) rg

/-- Tags, string tags, metric and timestamp arrive unchanged when the timestamp is set and inside the
    aggregator's believe window (0 < ts ≤ bucket ≤ ts + 93600); no ingestion warning is raised. -/
theorem key_roundtrip (var : Variant) (r : Row α) (bucketTs : Nat) (sf : α) (pct : Bool) (cents : Tag → List (Centroid α))
    (hl1 : r.key.tags.length = maxTags) (hl2 : r.key.stags.length = maxTags)
    (h0 : r.key.ts ≠ 0) (h1 : r.key.ts ≤ bucketTs) (h2 : bucketTs ≤ r.key.ts + believeWindow) :
    keyFromTL (rowToTL var r bucketTs sf pct cents) bucketTs = r.key ∧
      (tsFromTL (rowToTL var r bucketTs sf pct cents).t bucketTs).2 = 0 := by
  have ets : tsFromTL (rowToTL var r bucketTs sf pct cents).t bucketTs = (r.key.ts, 0) := tsFromTL_sendT r.key bucketTs h0 h1 h2
  refine ⟨key_ext _ _ (congrArg Prod.fst ets) rfl (pad_tags _ _ hl1) ?_, congrArg Prod.snd ets⟩
  show padTo maxTags [] ((rowToTL var r bucketTs sf pct cents).skeys.getD []) = r.key.stags
  rw [rowToTL_skeys]
  exact pad_stags _ _ hl2

omit [Field α] [LinearOrder α] [IsStrictOrderedRing α] in
/-- the two deliberate clamps and the default: a timestamp in the future of the bucket or older than the believe window
    arrives as the bucket time with a warning; an unset (0) timestamp arrives as the bucket time -/
theorem ts_clamps (bucketTs ts : Nat) :
    (bucketTs < ts → tsFromTL (some ts) bucketTs = (bucketTs, 1)) ∧
    (ts + believeWindow < bucketTs → tsFromTL (some ts) bucketTs = (bucketTs, 2)) ∧
    tsFromTL none bucketTs = (bucketTs, 0) := by
  refine ⟨fun h => by simp [tsFromTL, h], fun h => ?_, rfl⟩
  have : ¬ bucketTs < ts := by omega
  simp [tsFromTL, this, h]

/-! ### the row identity: Key.MarshalAppend is injective

  The marshalled key is the map key of MultiItemMap on the agent (bucket) and on the aggregator (shard): two different
  keys must never share it, otherwise one key is not reconstructed and the other carries both rows' aggregates. -/

section marshal
/-- Key.MarshalAppend is injective on keys with tag arrays of the same size whose string tags contain no NUL byte:
    equal marshalled bytes ⇒ the same key (every tag and string tag in the same POSITION). -/
theorem marshal_injective (k1 k2 : Key) (n : Nat)
    (ht1 : k1.tags.length = n) (ht2 : k2.tags.length = n) (hs1 : k1.stags.length = n) (hs2 : k2.stags.length = n)
    (hn1 : ∀ s ∈ k1.stags, nul ∉ s) (hn2 : ∀ s ∈ k2.stags, nul ∉ s)
    (h : marshalKey k1 = marshalKey k2) : k1 = k2 := by
  simp only [marshalKey, marshalKeyV, Marshalled.mk.injEq] at h
  obtain ⟨e1, e2, e3, e4⟩ := h
  rw [stagSection_false, stagSection_false] at e4
  have e4' := terminated_inj _ _ (fun s hs => hn1 s (mem_dropTrailing _ _ s hs))
    (fun s hs => hn2 s (mem_dropTrailing _ _ s hs)) (List.append_cancel_right e4)
  apply key_ext _ _ e1 e2
  · rw [← pad_tags n k1.tags ht1, ← pad_tags n k2.tags ht2, e3]
  · rw [← pad_stags n k1.stags hs1, ← pad_stags n k2.stags hs2, e4']

def keyA : Key := ⟨5, 7, [0, 3, 0, 0], [[], ['c', 'o'], [], ['e', 'u']]⟩
def keyB : Key := ⟨5, 7, [0, 3, 0, 0], [[], [], ['c', 'o'], ['e', 'u']]⟩

/-- non-vacuity and the seeded variant C02-r5-1 ("unset string tags take no space"): two keys that differ only in the
    POSITION of equal string-tag values are distinct, satisfy the hypotheses, marshal differently in the tree — and
    marshal to the same bytes in the variant (the aggregator would merge the two rows). -/
example : keyA ≠ keyB ∧ keyA.tags.length = 4 ∧ keyB.stags.length = 4 ∧ (∀ s ∈ keyA.stags, nul ∉ s) ∧
    marshalKey keyA ≠ marshalKey keyB ∧ marshalKeyV true keyA = marshalKeyV true keyB := by decide +kernel

end marshal

/-- a string-top key as the agent stores it: not empty and normalized -/
def TopKeyOk (k : Tag) : Prop := k.isEmpty = false ∧ k.isNorm = true

def expectedTop (sf : α) (h : Tag) (pct : Bool) (cents : Tag → List (Centroid α)) (kv : Tag × MultiValue α) :
    Tag × MultiValue α := (kv.1, expected kv.2 sf h pct (cents kv.1))

def TopOk (sf : α) (cents : Tag → List (Centroid α)) (kv : Tag × MultiValue α) : Prop :=
  TopKeyOk kv.1 ∧ WFm kv.2 ∧ InRange kv.2 sf (cents kv.1)

/-- `cents k` is what the digest of the top entry `k` reports, `cents Tag.none` what the tail's reports (as in `rowToTL`;
    no clash: a top key is never empty) -/
def expectedRow (r : Row α) (sf : α) (h : Tag) (pct : Bool) (cents : Tag → List (Centroid α)) : Row α :=
  { key := r.key
    top := r.top.map (expectedTop sf h pct cents)
    tail := expected r.tail sf h pct (cents Tag.none) }

/-- the hypothesis of `row_roundtrip` on an agent-side row: well formed (`RowWF`), and key arrays of MaxTags entries,
    timestamp set and inside the believe window, every value in the float32 range after scaling -/
structure RowOk (r : Row α) (bucketTs : Nat) (sf : α) (cents : Tag → List (Centroid α)) : Prop where
  tags : r.key.tags.length = maxTags
  stags : r.key.stags.length = maxTags
  ts0 : r.key.ts ≠ 0
  ts1 : r.key.ts ≤ bucketTs
  ts2 : bucketTs ≤ r.key.ts + believeWindow
  top : ∀ kv ∈ r.top, TopOk sf cents kv
  distinct : r.top.Pairwise (fun a b => a.1 ≠ b.1)
  tail : WFm r.tail
  tailRange : InRange r.tail sf (cents Tag.none)

/-- Whole row.  For every well-formed row, every sample factor > 0 and every agent host, the aggregator that
    receives the row's TL item in a fresh bucket entry holds the same key, the same string-top keys (in the order they
    were sent, whatever that order was) and, for the tail and every top entry, the scaled aggregates; no ingestion
    error is raised.  `rowToTL` enumerates `r.top` in list order; Go enumerates a map in arbitrary order, which is
    covered because `r.top` is an arbitrary list with distinct keys.  The draw `receive` fixes (`pick := false`) is
    never consulted: every value is merged into a fresh one (`addCounterHost_empty`). -/
theorem row_roundtrip (r : Row α) (bucketTs : Nat) (sf : α) (pct : Bool) (cents : Tag → List (Centroid α)) (h : Tag)
    (hsf : 0 < sf) (ok : RowOk r bucketTs sf cents) :
    receive Variant.fixed (rowToTL Variant.fixed r bucketTs sf pct cents) bucketTs h =
      ⟨expectedRow r sf h pct cents, 0⟩ := by
  have hkey := (key_roundtrip Variant.fixed r bucketTs sf pct cents ok.tags ok.stags ok.ts0 ok.ts1 ok.ts2).1
  unfold receive
  rw [hkey]
  exact mergeItemTL_fresh (β := Tag × MultiValue α) Variant.fixed h false _ Prod.fst
    (fun kv => expected kv.2 sf h pct (cents kv.1)) r.key _ r.top _
    (rowToTL_top _ r bucketTs sf pct cents)
    (fun kv hkv => by
      obtain ⟨⟨k1, k2⟩, wf, rg⟩ := ok.top kv hkv
      obtain ⟨e1, e2⟩ := topKeyOf_sent kv.1 (toTL Variant.fixed kv.2 sf pct (cents kv.1)) k1 k2
      exact ⟨e1, e2, value_roundtrip kv.2 sf pct (cents kv.1) h false wf.v wf.uq hsf rg⟩)
    ok.distinct (value_roundtrip r.tail sf pct (cents Tag.none) h false ok.tail.v ok.tail.uq hsf ok.tailRange)

/-- what every agent-side row built by events satisfies -/
structure RowWF (r : Row α) : Prop where
  top : ∀ kv ∈ r.top, TopKeyOk kv.1 ∧ WFm kv.2
  distinct : r.top.Pairwise (fun a b => a.1 ≠ b.1)
  tail : WFm r.tail

section inv
omit [IsStrictOrderedRing α]

/-- the invariant of agent runs on the row under the key `k` (`RowInv_closed`); with the ranges it is `RowOk` (`RowInv_rowOk`) -/
def RowInv (k : Key) (r : Row α) : Prop := RowWF r ∧ r.key = k

omit [LinearOrder α] in
theorem RowInv_empty (k : Key) : RowInv k (Row.empty k : Row α) :=
  ⟨⟨fun _ h => absurd h List.not_mem_nil, List.Pairwise.nil, WFm_empty⟩, rfl⟩

theorem RowInv_closed (k : Key) : AgentClosed (RowInv k : Row α → Prop) Event.hostNorm where
  tail e he r inv := ⟨⟨inv.1.top, inv.1.distinct, applyEvent_WFm _ e inv.1.tail he⟩, inv.2⟩
  top topTag e he hemp r inv := by
    refine ⟨⟨?_, topUpdate_distinct _ _ _ inv.1.distinct, inv.1.tail⟩, inv.2⟩
    intro kv hkv
    rcases topUpdate_mem _ _ _ kv hkv with h | ⟨h1, m, h2, h3⟩
    · exact inv.1.top kv h
    · refine ⟨by rw [h1]; exact normalize_ok topTag hemp, ?_⟩
      rw [h3]
      rcases h2 with h2 | h2
      · subst h2; exact applyEvent_WFm _ e WFm_empty he
      · exact applyEvent_WFm _ e (inv.1.top _ h2).2 he
  fold r k' m pick hl inv :=
    ⟨⟨fun kv hkv => inv.1.top kv (List.mem_filter.mp hkv).1, List.Pairwise.sublist List.filter_sublist inv.1.distinct,
      itemMerge_WFv _ _ _ inv.1.tail.v (inv.1.top _ (lookup_mem k' r.top m hl)).2.v.hosts,
      foldl_setInsert_pairwise (fun x : Nat => x) m.uq r.tail.uq inv.1.tail.uq⟩, inv.2⟩

theorem built_row_inv (k : Key) (evs : List (Tag × Event α)) (he : ∀ p ∈ evs, p.2.hostNorm) :
    RowInv k (evs.foldl (fun r p => rowEvent r p.1 p.2) (Row.empty k : Row α)) :=
  List.foldlRecOn evs _ (RowInv_empty k) (fun r hr p hp => rowEvent_inv (RowInv_closed k) p.1 p.2 (he p hp) r hr)

theorem RowInv_rowOk {k : Key} {r : Row α} (inv : RowInv k r) (bucketTs : Nat) (sf : α)
    (cents : Tag → List (Centroid α)) (hl1 : k.tags.length = maxTags) (hl2 : k.stags.length = maxTags)
    (h0 : k.ts ≠ 0) (h1 : k.ts ≤ bucketTs) (h2 : bucketTs ≤ k.ts + believeWindow)
    (rgTop : ∀ kv ∈ r.top, InRange kv.2 sf (cents kv.1)) (rgTail : InRange r.tail sf (cents Tag.none)) :
    RowOk r bucketTs sf cents := by
  obtain ⟨wf, rfl⟩ := inv
  exact ⟨hl1, hl2, h0, h1, h2, fun kv hkv => ⟨(wf.top kv hkv).1, (wf.top kv hkv).2, rgTop kv hkv⟩, wf.distinct, wf.tail,
    rgTail⟩

end inv

/-- Take any key with 48-entry tag arrays and a timestamp inside the believe window, any sequence
    of counter / value / histogram / single-value / unique events with any string-top tags (hosts normalized), any
    sample factor ≥ 1, any agent host: if the scaled numbers are inside the aggregator's float32 range, the aggregator
    reconstructs exactly `expectedRow` — same key, same string-top keys, and for each of them count·sf, min, max,
    sum·sf, sumsq·sf, hosts, unique set, centroids with weights·sf — without ingestion error. -/
theorem built_row_roundtrip (k : Key) (evs : List (Tag × Event α)) (he : ∀ p ∈ evs, p.2.hostNorm)
    (bucketTs : Nat) (sf : α) (pct : Bool) (cents : Tag → List (Centroid α)) (h : Tag) (hsf : 1 ≤ sf)
    (hl1 : k.tags.length = maxTags) (hl2 : k.stags.length = maxTags)
    (h0 : k.ts ≠ 0) (h1 : k.ts ≤ bucketTs) (h2 : bucketTs ≤ k.ts + believeWindow)
    (rgTop : ∀ kv ∈ (evs.foldl (fun r p => rowEvent r p.1 p.2) (Row.empty k : Row α)).top, InRange kv.2 sf (cents kv.1))
    (rgTail : InRange (evs.foldl (fun r p => rowEvent r p.1 p.2) (Row.empty k : Row α)).tail sf (cents Tag.none)) :
    receive Variant.fixed (rowToTL Variant.fixed (evs.foldl (fun r p => rowEvent r p.1 p.2) (Row.empty k : Row α))
        bucketTs sf pct cents) bucketTs h =
      ⟨expectedRow (evs.foldl (fun r p => rowEvent r p.1 p.2) (Row.empty k : Row α)) sf h pct cents, 0⟩ :=
  row_roundtrip _ bucketTs sf pct cents h (sf_pos hsf)
    (RowInv_rowOk (built_row_inv k evs he) bucketTs sf cents hl1 hl2 h0 h1 h2 rgTop rgTail)

/-! ### the aggregator knows string mappings (handleSendSourceBucket glue)

  `mp` is the aggregator's string → int32 table.  Every string it maps (key string tags, host string tags, string-top
  tags) arrives as its int; everything else is as in the unmapped theorems.  Not any table: `hh : mapTag mp h = h` says
  the agent host `h` is what `getTagUnionBytes` returned (already an int if the host name is mapped); `hdist` says no two
  string-top keys of THIS row are mapped alike (a string and the int it maps to): the aggregator would merge the second
  into the first's entry, a used value, with a random max-counter host (`mergeTL_map` is for fresh values only). -/

section mapped

/-- As `value_roundtrip`, for an aggregator with mappings: the three hosts arrive mapped. -/
theorem value_roundtrip_mapped (mp : Str → Int) (m : MultiValue α) (sf : α) (pct : Bool) (cents : List (Centroid α))
    (h : Tag) (pick : Bool) (hh : mapTag mp h = h)
    (wf : WFv m.v) (hu : m.uq.Pairwise (· < ·)) (hsf : 0 < sf) (rg : InRange m sf cents) :
    mergeTL Variant.fixed MultiValue.empty (mapTLValue mp (toTL Variant.fixed m sf pct cents)) h pick =
      ⟨mapHostsMV mp (expected m sf h pct cents), 0⟩ := by
  rw [mergeTL_map mp _ h (toTL_hostsOk _ _ _ _ _) hh Variant.fixed pick (le_refl 0),
    value_roundtrip m sf pct cents h pick wf hu hsf rg]
  rfl

theorem mapTag_sub (mp : Str → Int) (h t : Tag) (hh : mapTag mp h = h) : mapTag mp (sub h t) = sub h (mapTag mp t) := by
  unfold sub
  rw [isEmpty_mapTag]
  split <;> simp [hh]

omit [Field α] [LinearOrder α] [IsStrictOrderedRing α] in
/-- mapping commutes with `sub` (the agent host for an empty host) on each of the three hosts; with `expectedV` this
    gives the hosts of `mapHostsMV mp (expected …)` -/
theorem mapped_hosts (mp : Str → Int) (v : ItemValue α) (h : Tag) (hh : mapTag mp h = h) :
    mapTag mp (sub h v.hcnt) = sub h (mapTag mp v.hcnt) ∧ mapTag mp (sub h v.hmin) = sub h (mapTag mp v.hmin) ∧
      mapTag mp (sub h v.hmax) = sub h (mapTag mp v.hmax) :=
  ⟨mapTag_sub mp h _ hh, mapTag_sub mp h _ hh, mapTag_sub mp h _ hh⟩

/-- Every string-top key survives the transfer as the same key, whatever its sign.  Take ANY tag with I ≠ 0 or
    S ≠ "" (I is a full int32: raw tag values may be negative, e.g. −1 or MinInt32).  The agent stores it normalized
    (`MapStringTop`), keepF sends (stag, tag-if-I≠0), the handler rewrites a mapped string, and MapStringTopBytes on the
    aggregator recovers a non-empty key equal to the agent's key with a mapped string replaced by its id.  An integer key
    is never touched by the mapping, whatever its sign. -/
theorem top_key_survives (mp : Str → Int) (k : Tag) (hk : k.i ≠ 0 ∨ k.s ≠ []) :
    (tagOf (mapTLTop mp (⟨k.normalize.s, hostI k.normalize, (TLValue.empty : TLValue α)⟩ : TLTop α)).tag
        (some (mapTLTop mp (⟨k.normalize.s, hostI k.normalize, (TLValue.empty : TLValue α)⟩ : TLTop α)).stag)).isEmpty = false ∧
    (tagOf (mapTLTop mp (⟨k.normalize.s, hostI k.normalize, (TLValue.empty : TLValue α)⟩ : TLTop α)).tag
        (some (mapTLTop mp (⟨k.normalize.s, hostI k.normalize, (TLValue.empty : TLValue α)⟩ : TLTop α)).stag)).normalize =
      mapTag mp k.normalize ∧
    (k.i ≠ 0 → mapTag mp k.normalize = ⟨k.i, []⟩) := by
  have hne : k.isEmpty = false := by
    obtain ⟨i, s⟩ := k
    rcases hk with h | h
    · simp [Tag.isEmpty, h]
    · cases s with
      | nil => exact absurd rfl h
      | cons c cs => simp [Tag.isEmpty]
  have hok := normalize_ok k hne
  obtain ⟨h1, h2⟩ := topKeyOf_mapTLTop mp k.normalize (TLValue.empty : TLValue α) hok.1 hok.2
  refine ⟨h1, h2, ?_⟩
  intro hi
  obtain ⟨i, s⟩ := k
  simp only at hi
  simp [Tag.normalize, hi, mapTag]

/-- negative raw int32 top keys (−1, MinInt32) and a positive one: sent with their tag, recovered unchanged -/
example : (tagOf (hostI ⟨-1, []⟩) (some [])).normalize = ⟨-1, []⟩ ∧ (tagOf (hostI ⟨-1, []⟩) (some [])).isEmpty = false ∧
    (tagOf (hostI ⟨-2147483648, []⟩) (some [])).normalize = ⟨-2147483648, []⟩ ∧
    hostI ⟨-1, []⟩ = some (-1) ∧ hostI ⟨-2147483648, []⟩ = some (-2147483648) ∧ hostI ⟨41, []⟩ = some 41 := by decide +kernel

/-- what the seeded change `if key.I > 0 { SetTag }` would do: without the tag the aggregator sees an EMPTY key and
    MergeWithTLMultiItem folds the entry into Tail (`mergeTopElem`, first branch) -/
example : (tagOf (none : Option Int) (some [])).isEmpty = true := by decide +kernel

def expectedTopM (mp : Str → Int) (sf : α) (h : Tag) (pct : Bool) (cents : Tag → List (Centroid α))
    (kv : Tag × MultiValue α) : Tag × MultiValue α :=
  (mapTag mp kv.1, mapHostsMV mp (expected kv.2 sf h pct (cents kv.1)))

/-- the key as an aggregator with mappings stores it: a mapped string tag moves into the int tag of the same index -/
def mapKey (mp : Str → Int) (k : Key) : Key :=
  { k with
    tags := List.zipWith (fun (t : Int) (s : Str) => if 0 < mapStr mp s then mapStr mp s else t) k.tags k.stags
    stags := k.stags.map (fun (s : Str) => if 0 < mapStr mp s then [] else s) }

theorem keyFromTLm_eq {β : Type} (mp : Str → Int) (it : TLItem β) (bucketTs : Nat) :
    keyFromTLm mp it bucketTs = mapKey mp (keyFromTL it bucketTs) := rfl

def expectedRowM (mp : Str → Int) (r : Row α) (sf : α) (h : Tag) (pct : Bool) (cents : Tag → List (Centroid α)) : Row α :=
  { key := mapKey mp r.key
    top := r.top.map (expectedTopM mp sf h pct cents)
    tail := mapHostsMV mp (expected r.tail sf h pct (cents Tag.none)) }

/-- Whole row through the real handler glue.  `receiveM` = KeyFromStatshouseMultiItem + Skeys mapping loop +
    host / string-top mapping + MergeWithTLMultiItem, as handleSendSourceBucket composes them.  `row_roundtrip` is the
    case of a table that maps nothing, proved on its own: both are instances of `mergeItemTL_fresh`. -/
theorem row_roundtrip_mapped (mp : Str → Int) (r : Row α) (bucketTs : Nat) (sf : α) (pct : Bool)
    (cents : Tag → List (Centroid α)) (h : Tag) (hh : mapTag mp h = h) (hsf : 0 < sf) (ok : RowOk r bucketTs sf cents)
    (hdist : r.top.Pairwise (fun a b => mapTag mp a.1 ≠ mapTag mp b.1)) :
    receiveM Variant.fixed mp (rowToTL Variant.fixed r bucketTs sf pct cents) bucketTs h =
      ⟨expectedRowM mp r sf h pct cents, 0⟩ := by
  have hk := (key_roundtrip Variant.fixed r bucketTs sf pct cents ok.tags ok.stags ok.ts0 ok.ts1 ok.ts2).1
  have htop : (mapItem mp (rowToTL Variant.fixed r bucketTs sf pct cents)).top.getD [] =
      r.top.map (fun kv => mapTLTop mp ⟨kv.1.s, hostI kv.1, toTL Variant.fixed kv.2 sf pct (cents kv.1)⟩) := by
    rw [mapItem_top, rowToTL_top, List.map_map]
    rfl
  unfold receiveM
  rw [keyFromTLm_eq, hk]
  exact mergeItemTL_fresh (β := Tag × MultiValue α) Variant.fixed h false _ (fun kv => mapTag mp kv.1)
    (fun kv => mapHostsMV mp (expected kv.2 sf h pct (cents kv.1))) _ _ r.top _ htop
    (fun kv hkv => by
      obtain ⟨⟨k1, k2⟩, wf, rg⟩ := ok.top kv hkv
      obtain ⟨e1, e2⟩ := topKeyOf_mapTLTop mp kv.1 (toTL Variant.fixed kv.2 sf pct (cents kv.1)) k1 k2
      exact ⟨e1, e2, value_roundtrip_mapped mp kv.2 sf pct (cents kv.1) h false hh wf.v wf.uq hsf rg⟩)
    hdist
    (value_roundtrip_mapped mp r.tail sf pct (cents Tag.none) h false hh ok.tail.v ok.tail.uq hsf ok.tailRange)

/-- As `built_row_roundtrip`, through the real handler glue of an aggregator with a mapping table (`hh`, `hdist`). -/
theorem built_row_roundtrip_mapped (mp : Str → Int) (k : Key) (evs : List (Tag × Event α)) (he : ∀ p ∈ evs, p.2.hostNorm)
    (bucketTs : Nat) (sf : α) (pct : Bool) (cents : Tag → List (Centroid α)) (h : Tag) (hh : mapTag mp h = h) (hsf : 1 ≤ sf)
    (hl1 : k.tags.length = maxTags) (hl2 : k.stags.length = maxTags)
    (h0 : k.ts ≠ 0) (h1 : k.ts ≤ bucketTs) (h2 : bucketTs ≤ k.ts + believeWindow)
    (rgTop : ∀ kv ∈ (evs.foldl (fun r p => rowEvent r p.1 p.2) (Row.empty k : Row α)).top, InRange kv.2 sf (cents kv.1))
    (rgTail : InRange (evs.foldl (fun r p => rowEvent r p.1 p.2) (Row.empty k : Row α)).tail sf (cents Tag.none))
    (hdist : (evs.foldl (fun r p => rowEvent r p.1 p.2) (Row.empty k : Row α)).top.Pairwise
      (fun a b => mapTag mp a.1 ≠ mapTag mp b.1)) :
    receiveM Variant.fixed mp (rowToTL Variant.fixed (evs.foldl (fun r p => rowEvent r p.1 p.2) (Row.empty k : Row α))
        bucketTs sf pct cents) bucketTs h =
      ⟨expectedRowM mp (evs.foldl (fun r p => rowEvent r p.1 p.2) (Row.empty k : Row α)) sf h pct cents, 0⟩ :=
  row_roundtrip_mapped mp _ bucketTs sf pct cents h hh (sf_pos hsf)
    (RowInv_rowOk (built_row_inv k evs he) bucketTs sf cents hl1 hl2 h0 h1 h2 rgTop rgTail) hdist

/-- non-vacuity: a mapping table, a mapped agent host (int) and an unmapped one (string) satisfy `mapTag mp h = h`;
    a mapped string host / string-top key really changes -/
example : let mp : Str → Int := fun s => if s = ['y', 'y'] then 77 else if s = ['h'] then 7 else 0
    mapTag mp ⟨1000, []⟩ = ⟨1000, []⟩ ∧ mapTag mp ⟨0, ['a', 'g']⟩ = ⟨0, ['a', 'g']⟩ ∧
    mapTag mp ⟨0, ['y', 'y']⟩ = ⟨77, []⟩ ∧ mapTag mp ⟨0, ['h']⟩ = ⟨7, []⟩ ∧
    [(⟨0, ['y', 'y']⟩ : Tag), ⟨2, []⟩, ⟨0, ['x']⟩].Pairwise (fun a b => mapTag mp a ≠ mapTag mp b) := by decide +kernel

end mapped

/-! ### string tops at capacity: resampling and FinishStringTop keep the row well formed, so the round trip covers them -/

section capacity

def AgentOp.hostNorm : AgentOp α → Prop
  | .event _ _ e _ _ => e.hostNorm
  | .finish _ _ => True

/-- The statement of C02 in full, string tops at capacity included.  The row is produced by ANY sequence of agent
    operations — events routed by the full MapStringTop (redirect to Tail after a resample, resample rounds evicting any
    admissible entries in any order) and FinishStringTop — for any outcome of the random draws the code could see
    (`agentRun … = some a`).
    The aggregator (with a mapping table as `hh` and `hdist` say) reconstructs exactly the row as it was sent: key, the
    string-top keys that survived, and for each of them and for the tail (which now contains the folded entries) the
    scaled aggregates. -/
theorem agent_row_roundtrip (mp : Str → Int) (k : Key) (ops : List (AgentOp α)) (a : AgentRow α)
    (hn : ∀ op ∈ ops, AgentOp.hostNorm op) (hrun : agentRun ⟨Row.empty k, 0⟩ ops = some a)
    (bucketTs : Nat) (sf : α) (pct : Bool) (cents : Tag → List (Centroid α)) (h : Tag) (hh : mapTag mp h = h) (hsf : 1 ≤ sf)
    (hl1 : k.tags.length = maxTags) (hl2 : k.stags.length = maxTags)
    (h0 : k.ts ≠ 0) (h1 : k.ts ≤ bucketTs) (h2 : bucketTs ≤ k.ts + believeWindow)
    (rgTop : ∀ kv ∈ a.row.top, InRange kv.2 sf (cents kv.1)) (rgTail : InRange a.row.tail sf (cents Tag.none))
    (hdist : a.row.top.Pairwise (fun x y => mapTag mp x.1 ≠ mapTag mp y.1)) :
    receiveM Variant.fixed mp (rowToTL Variant.fixed a.row bucketTs sf pct cents) bucketTs h =
      ⟨expectedRowM mp a.row sf h pct cents, 0⟩ := by
  have inv := agentRun_inv (RowInv_closed k) ops _ a (fun _ _ _ _ _ hm => hn _ hm) hrun (RowInv_empty k)
  exact row_roundtrip_mapped mp _ bucketTs sf pct cents h hh (sf_pos hsf)
    (RowInv_rowOk inv bucketTs sf cents hl1 hl2 h0 h1 h2 rgTop rgTail) hdist

end capacity

/-! ### the pinned tree (`Variant.repo`) violates the property: concrete, kernel-evaluated counterexamples over `Int` -/

section witnesses

/-- F1: one counter-only event and one value event 7 on the same row (count 2, min = max = 7, sum 7, sumsq 49) -/
def mixedRow : MultiValue Int :=
  applyEvent (applyEvent MultiValue.empty (.counter 1 Tag.none false)) (.values [] [7] 0 Tag.none false false)

example : mixedRow.v.counter = 2 ∧ mixedRow.v.min = 7 ∧ mixedRow.v.max = 7 ∧ mixedRow.v.sum = 7 ∧ mixedRow.v.sq = 49 := by decide +kernel

/-- pinned tree: the compact form drops the sum, the aggregator re-derives 7·2 = 14 (sumsq 98) — the row does NOT
    arrive as `expected` -/
theorem repo_loses_sum :
    (mergeTL Variant.repo MultiValue.empty (toTL Variant.repo mixedRow 1 false []) ⟨1000, []⟩ false).mv.v.sum = 14 ∧
    (mergeTL Variant.repo MultiValue.empty (toTL Variant.repo mixedRow 1 false []) ⟨1000, []⟩ false).mv.v.sq = 98 ∧
    mergeTL Variant.repo MultiValue.empty (toTL Variant.repo mixedRow 1 false []) ⟨1000, []⟩ false ≠
      ⟨expected mixedRow 1 ⟨1000, []⟩ false [], 0⟩ := by decide +kernel

/-- fixed tree on the same row (also with sf = 3): exactly the expected row -/
example : mergeTL Variant.fixed MultiValue.empty (toTL Variant.fixed mixedRow 1 false []) ⟨1000, []⟩ false =
    ⟨expected mixedRow 1 ⟨1000, []⟩ false [], 0⟩ := by decide +kernel
example : (mergeTL Variant.fixed MultiValue.empty (toTL Variant.fixed mixedRow 3 false []) ⟨1000, []⟩ false).mv.v.sum = 21 := by decide +kernel
/-- rows whose sum is consistent still use the compact form after the fix (no behaviour removed) -/
example : (toTL Variant.fixed (applyEvent (MultiValue.empty : MultiValue Int) (.values [] [7, 7] 0 Tag.none false false)) 2 false []).max = none := by decide +kernel

/-- the empty-host defect (fixes/C02-empty-host.diff): value 3 without host tag, then value 5 with host tag 9: max host 9, min host empty (= the agent itself) -/
def hostRow : MultiValue Int :=
  applyEvent (applyEvent MultiValue.empty (.values [] [3] 0 Tag.none false false)) (.values [] [5] 0 ⟨9, []⟩ false false)

example : hostRow.v.hmin = Tag.none ∧ hostRow.v.hmax = ⟨9, []⟩ ∧ hostRow.v.hcnt = Tag.none := by decide +kernel

/-- pinned tree: the minimum (and the counter) is attributed to host 9 instead of the sending agent 1000 -/
theorem repo_misattributes_min_host :
    (mergeTL Variant.repo MultiValue.empty (toTL Variant.repo hostRow 1 false []) ⟨1000, []⟩ false).mv.v.hmin = ⟨9, []⟩ ∧
    (mergeTL Variant.repo MultiValue.empty (toTL Variant.repo hostRow 1 false []) ⟨1000, []⟩ false).mv.v.hcnt = ⟨9, []⟩ ∧
    mergeTL Variant.repo MultiValue.empty (toTL Variant.repo hostRow 1 false []) ⟨1000, []⟩ false ≠
      ⟨expected hostRow 1 ⟨1000, []⟩ false [], 0⟩ := by decide +kernel

example : mergeTL Variant.fixed MultiValue.empty (toTL Variant.fixed hostRow 1 false []) ⟨1000, []⟩ false =
    ⟨expected hostRow 1 ⟨1000, []⟩ false [], 0⟩ := by decide +kernel

/-- what stays outside the theorem (hypothesis-free model behaviour, both variants): a percentile row that holds two
    distinct values but no digest (unique events) is sent with an implicit centroid, which the aggregator places at
    `min` with the whole count -/
example : (mergeTL Variant.fixed MultiValue.empty
    (toTL Variant.fixed (applyEvent (MultiValue.empty : MultiValue Int) (.unique [(1, 11), (5, 55)] 0 Tag.none false)) 1 true [])
    ⟨1000, []⟩ false).mv.dg = some [⟨1, 2⟩] := by decide +kernel

/-- the shape of seeded change C02-r6-2: a legacy-path percentile row whose values are all 0 (it HAS a digest: one
    centroid (0, 1)) plus a counter-only event (count 3).  The tree sends the explicit centroid list — the aggregator
    holds weight 1·sf; sending the implicit flag instead would restore the whole count 3·sf. -/
def legacyZeroRow : MultiValue Int :=
  applyEvent (applyEvent MultiValue.empty (.valuesLegacy [] [0] 0 Tag.none false true)) (.counter 2 Tag.none false)

example : legacyZeroRow.dg = some [⟨0, 1⟩] ∧ legacyZeroRow.v.counter = 3 ∧ compact Variant.fixed legacyZeroRow.v = true ∧
    (toTL Variant.fixed legacyZeroRow 2 true [⟨0, 1⟩]).cents = some [⟨0, 2⟩] ∧
    (toTL Variant.fixed legacyZeroRow 2 true [⟨0, 1⟩]).implicit = false ∧
    (mergeTL Variant.fixed MultiValue.empty (toTL Variant.fixed legacyZeroRow 2 true [⟨0, 1⟩]) ⟨1000, []⟩ false).mv.dg =
      some [⟨0, 2⟩] := by decide +kernel

end witnesses

section nonvacuity

/-- count 2, single value 7 seen once (the F1 shape), hosts: max host 9, the others empty (the shape of the empty-host defect) -/
def exValue : MultiValue Rat :=
  ⟨⟨2, Tag.none, 7, 7, 7, 49, Tag.none, ⟨9, []⟩, true⟩, some [⟨7, 1⟩], [3, 8]⟩

example : WFv exValue.v := ⟨rfl, rfl, rfl, fun h => by simp [exValue] at h⟩
example : exValue.uq.Pairwise (· < ·) := by decide +kernel

theorem maxF32_rat_pos : (100 : Rat) ≤ ((maxF32 : Nat) : Rat) := by
  have : (100 : Nat) ≤ maxF32 := by decide +kernel
  exact_mod_cast this

example : InRange exValue (3 / 2) [⟨7, 1⟩] := by
  have small : ∀ x : Rat, -100 ≤ x → x ≤ 100 → InF32 x := fun x h1 h2 =>
    ⟨le_trans (neg_le_neg maxF32_rat_pos) h1, le_trans h2 maxF32_rat_pos⟩
  have s7 : InF32 (7 : Rat) := small 7 (by norm_num) (by norm_num)
  refine ⟨le_trans (by norm_num [exValue]) maxF32_rat_pos, s7, s7,
    small _ (by norm_num [exValue]) (by norm_num [exValue]), ?_⟩
  intro c hc
  rw [List.mem_singleton.mp hc]
  exact ⟨by norm_num, le_trans (by norm_num) maxF32_rat_pos, s7⟩

/-- events with normalized hosts exist (four of the five kinds; `.valuesLegacy` takes the same arguments as `.values`) -/
example : ∀ e ∈ ([.counter 1 Tag.none false, .values [(2, 3)] [7] 0 ⟨9, []⟩ true true, .valuePct 1 2 ⟨0, ['h']⟩ false true,
    .unique [(5, 55)] 0 Tag.none false] : List (Event Rat)), e.hostNorm := by
  intro e he
  simp only [List.mem_cons, List.mem_nil_iff, or_false] at he
  rcases he with rfl | rfl | rfl | rfl <;> exact rfl

example : TopKeyOk ⟨5, []⟩ ∧ TopKeyOk ⟨0, ['x']⟩ := ⟨⟨rfl, rfl⟩, ⟨rfl, rfl⟩⟩

/-- non-vacuity of `sent_centroids` / `received_centroid_adds` (with `exValue`, sf = 3/2, cents = [(7,1)]) -/
example : (0 : Rat) < exValue.v.counter * (3 / 2) ∧ exValue.v.vset = true ∧ exValue.dg.isSome = true ∧
    ([⟨7, 1⟩] : List (Centroid Rat)) ≠ [] := by
  refine ⟨by norm_num [exValue], rfl, rfl, by simp⟩

/-- the hypothesis `agentRun … = some a` of `agent_row_roundtrip` is met by a run with a real resample and a real
    FinishStringTop (the model functions are generic, evaluated here over `Int`): capacity 2, three keys — the third insert resamples
    (factor 2) and evicts key 1 into Tail, FinishStringTop(1) then folds key 2; key 3 survives, Tail holds count 2 -/
example :
    (agentRun (⟨Row.empty ⟨5, 1, [], []⟩, 0⟩ : AgentRow Int)
      [.event 2 ⟨1, []⟩ (.counter 1 Tag.none false) false [],
       .event 2 ⟨2, []⟩ (.counter 1 Tag.none false) false [],
       .event 2 ⟨3, []⟩ (.counter 1 Tag.none false) false [[(⟨1, []⟩, false)]],
       .finish 1 [(⟨2, []⟩, false)]]).map
      (fun a => (a.sfLog2, a.row.top.map (·.1), a.row.tail.v.counter)) = some (1, [⟨3, []⟩], 2) := by decide +kernel

/-- an impossible draw is rejected: an entry with count 5 cannot be evicted by a round with factor 2 -/
example :
    agentRun (⟨Row.empty ⟨5, 1, [], []⟩, 0⟩ : AgentRow Int)
      [.event 1 ⟨1, []⟩ (.counter 5 Tag.none false) false [],
       .event 1 ⟨2, []⟩ (.counter 1 Tag.none false) false [[(⟨1, []⟩, false)]]] = none := by decide +kernel

end nonvacuity
end SH.C02
