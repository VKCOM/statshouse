/-
  C22 — Query time axes are aligned, gap-free and bounded.

  "For every query range, step, current time, time zone, week start and screen width, the returned time points
   strictly increase, consecutive points differ by exactly their level-of-detail step (calendar months for monthly
   steps), every point is aligned to its step in the configured time zone, each level's step is one of the table
   resolutions and levels get finer toward the present, the number of points stays within the limit, and the
   requested range is covered starting at the reported start index. The per-level ranges handed to the storage
   layer are contiguous and match those points."

  Model: SH.Model.Timescale (`getTimescale` = data_model.GetTimescale, `getLODs` = Timescale.GetLODs,
  `mathDiv`/`roundTime` = both copies in data_model/timescale.go and api/lod.go, `calcUTCOffset` = api/lod.go),
  tables from the regenerated SH.Gen.C22.

  Reading.
  * All theorems are for EVERY argument tuple `a : Args` (start, end, step, now, width, mode, extend, utc offset,
    list of (metric resolution, offset)) and every calendar `cal` with `CalOK cal` where months are involved:
    the hypothesis `getTimescale cal a = .ok ts` only says "the call returned without error"; `hne : ts.time ≠ []`, where
    present, that the result is not the empty Timescale (End ≤ Start, Step < 0, no level chosen, a point range that collapses).
  * Time zone: the configured zone enters the code as `UTCOffset` (for all non-monthly steps) and as the
    *time.Location used for month arithmetic. "Aligned in the configured time zone" is therefore
    `(t + utcOffset) % step = 0`, and for the monthly step `cal.som t = t` (`Aligned`).
    Go's `time` package is data: `Cal.som`/`Cal.next`; `CalOK` lists the six order facts used
    (the harness checks them for the month boundaries of every generated monthly case on the real code).
    `getLODs` takes the UTC offset as an argument (Go: the field `UTCOffset`, which GetTimescale stores from its arguments):
    the theorems pass `a.utcOffset`.
  * Two offsets: `a.metrics` / `maxOffset` is QueryStat.MetricOffset, an input of GetTimescale; `o` is the `offset` argument
    of Timescale.GetLODs(metric, offset), the time shift of one metric.
  * The level of point i is `(expand ts.lods)[i]`: `ts.lods` lists (step, len) per level, `expand` repeats each
    step `len` times; `axis_length` says that this list is as long as `ts.time`. `walk cal ss t` steps from `t` by the
    steps `ss`: the visited points and the point after the last one (`genSeg` for one level; its end is `segEnd`).
  * Point queries (mode = point) return a two-element [from, to) range, not an axis; the axis theorems are stated
    for the other modes (`isPoint a = false`), `steps_valid_nonincreasing` for all modes.

  Explicit exclusions, with `decide` witnesses, both for the monthly step only: `hm` of range_end_covered (a positive metric
    offset, `maxOffset a ≠ 0`: known finding `month-offset-coverage`, the axis is laid out a month off) and `hm` of
    lods_with_offset_translated (`o ≠ 0`: the shifted ranges are re-aligned to month starts, as lods_shifted_on_grid says,
    so they are not a translation).
  Not in Lean: Go's `time` package (CalOK is assumed, checked on the observed month boundaries by the harness).
-/
import SH.Lemmas.Timescale
import SH.Lemmas.TimescaleEnd

namespace SH.C22
open SH.Timescale SH.Gen.C22

theorem mathDiv_is_floor (a b : Int) (hb : b ≠ 0) : mathDiv a b = Int.fdiv a b := mathDiv_fdiv a b hb

example : mathDiv (-7) 2 = -4 ∧ mathDiv 7 (-2) = -4 ∧ mathDiv (-8) 2 = -4 ∧ mathDiv 7 2 = 3 := by decide +kernel

theorem roundTime_is_aligned_floor (t step off : Int) (hs : 0 < step) :
    (roundTime t step off + off) % step = 0 ∧ roundTime t step off ≤ t ∧ t < roundTime t step off + step :=
  ⟨roundTime_aligned t step off hs, roundTime_bracket t step off hs⟩

example : roundTime 100 60 0 = 60 ∧ roundTime (-1) 60 10800 = -60 := by decide +kernel

/-- rounding goes DOWN, by less than one step, for every `t : Int` — negative `t + utcOffset` (times before 1970, or the first
    days of 1970 under a negative offset) included -/
theorem roundTime_floor (t step off : Int) (hs : 0 < step) :
    roundTime t step off ≤ t ∧ t - roundTime t step off < step := by
  have := roundTime_bracket t step off hs
  omega

/-- the model's `mathDiv` is built from Go's truncating `/` and `%` (Int.tdiv / Int.tmod) plus the correction branch; it is floor
    division, not T-division: for a negative dividend the two differ -/
example : mathDiv (-1) 60 = -1 ∧ Int.tdiv (-1) 60 = 0 ∧ Int.fdiv (-1) 60 = -1 := by decide +kernel

/-- seeded variant C22-r5-1 as a counter-example: `t - (t+utcOffset) % step` with the truncating `%` rounds 1969-12-31T23:59:59 UP
    to 1970-01-01T00:00:00 (and, under utcOffset = -5h, the first hours of 1970 up as well), violating `result ≤ t`;
    for `t + utcOffset ≥ 0` it agrees with the code -/
example : roundTimeTrunc (-1) 60 0 = 0 ∧ ¬ (roundTimeTrunc (-1) 60 0 ≤ -1) ∧ roundTime (-1) 60 0 = -60 ∧
    roundTimeTrunc 3601 86400 (-18000) = 18000 ∧ roundTime 3601 86400 (-18000) = -68400 ∧
    roundTimeTrunc 100 60 0 = roundTime 100 60 0 := by decide +kernel

/-- week start: with `off = calcUTCOffset ws z`, a time is 7d-aligned iff its local time (zone offset `z`) is a multiple of
    a week after 1970-01-01 shifted to weekday `ws` — local day number ≡ ws - 4 (mod 7), 1970-01-01 being a Thursday (4). -/
theorem calcUTCOffset_week_start (ws z t : Int) :
    (t + calcUTCOffset ws z) % 604800 = 0 ↔ (t + z) % 86400 = 0 ∧ ((t + z) / 86400 + 4 - ws) % 7 = 0 := by
  have e : t + calcUTCOffset ws z = (t + z) + (4 - ws) * 86400 := by
    show t + ((4 - ws) * 24 * 3600 + z) = _
    rw [Int.mul_assoc, Int.add_comm _ z, ← Int.add_assoc]
    rfl
  -- a week is seven days: split the divisibility by 604800 into the day and the weekday
  rw [e, show (604800 : Int) = 86400 * 7 from rfl, emod_mul_eq_zero, Int.add_mul_emod_self_right,
    Int.add_mul_ediv_right _ _ (by decide), Int.add_sub_assoc]

example : calcUTCOffset 1 10800 = 3 * 86400 + 10800 := by decide +kernel

theorem time_strictly_increasing (cal : Cal) (hc : CalOK cal) (a : Args) (ts : TS)
    (h : getTimescale cal a = .ok ts) (hp : isPoint a = false) :
    List.Pairwise (· < ·) ts.time := by
  by_cases hne : ts.time = []
  · rw [hne]; exact List.Pairwise.nil
  · obtain ⟨hok, _, ht⟩ := range_axis cal a ts h hp hne
    rw [ht]
    exact walk_increasing cal _ (fun s hs => tbl_fwd cal hc a s (expand_mem_tbl hok s hs)) _

theorem axis_length (cal : Cal) (a : Args) (ts : TS)
    (h : getTimescale cal a = .ok ts) (hp : isPoint a = false) :
    ts.time.length = (expand ts.lods).length ∧ (expand ts.lods).length = (ts.lods.map (·.len)).sum := by
  refine ⟨?_, expand_length _⟩
  rcases getTimescale_ok cal a ts h with rfl | ⟨lods, _, hne, _, rfl⟩
  · rfl
  · rw [hp, if_neg Bool.false_ne_true, rangeTS_time cal a lods _ hne, walk_length]

theorem adjacent_diff_is_lod_step (cal : Cal) (a : Args) (ts : TS)
    (h : getTimescale cal a = .ok ts) (hp : isPoint a = false)
    (i : Nat) (x y s : Int) (hx : ts.time[i]? = some x) (hy : ts.time[i + 1]? = some y)
    (hs : (expand ts.lods)[i]? = some s) :
    y = stepForward cal x s := by
  have hne : ts.time ≠ [] := by intro e; simp [e] at hx
  obtain ⟨_, _, ht⟩ := range_axis cal a ts h hp hne
  rw [ht] at hx hy
  exact walk_chain cal _ _ i x y s hx hy hs

theorem points_aligned (cal : Cal) (hc : CalOK cal) (a : Args) (ts : TS)
    (h : getTimescale cal a = .ok ts) (hp : isPoint a = false)
    (i : Nat) (x s : Int) (hx : ts.time[i]? = some x) (hs : (expand ts.lods)[i]? = some s) :
    Aligned cal a.utcOffset x s := by
  have hne : ts.time ≠ [] := by intro e; simp [e] at hx
  obtain ⟨hok, hlne, ht⟩ := range_axis cal a ts h hp hne
  obtain ⟨rest, hr⟩ := expand_head ts.lods hok hlne
  rw [ht, hr] at hx
  rw [hr] at hs
  have hso := expand_pairwise (tbl_finer a) _ hok
  rw [hr] at hso
  exact walk_aligned cal hc a.utcOffset _ rest hso _ (tstart_aligned cal hc a _ (step0_pos a _ hok hlne)) i x s hx hs

theorem steps_valid_nonincreasing (cal : Cal) (a : Args) (ts : TS) (h : getTimescale cal a = .ok ts) :
    (∀ l ∈ ts.lods, l.step ∈ tableSteps ∧ 0 < l.len) ∧ List.Pairwise (fun x y => y.step < x.step) ts.lods := by
  have key : LodsOK (allSteps (levelsFor a)) ts.lods := by
    rcases getTimescale_ok cal a ts h with rfl | ⟨lods, hl, _, _, rfl⟩
    · exact ⟨fun _ hl => absurd hl List.not_mem_nil, List.Pairwise.nil⟩
    · have hok := genLODs_ok cal a lods hl
      split
      · rcases pointTS_cases cal a lods (step0Of lods) with e | ⟨_, _, _, e⟩
        · rw [e]
          exact ⟨fun _ hl => absurd hl List.not_mem_nil, List.Pairwise.nil⟩
        · rw [e]
          exact hok
      · exact rangeTS_lodsOK cal a lods _ hok
  exact ⟨fun l hl => ⟨tbl_in_table a _ (key.1 l hl).1, (key.1 l hl).2⟩, key.2⟩

theorem start_index_covered (cal : Cal) (hc : CalOK cal) (a : Args) (ts : TS)
    (h : getTimescale cal a = .ok ts) (hp : isPoint a = false) (hne : ts.time ≠ []) :
    ts.startX = 1 ∧ ts.viewStartX = (if a.extend then 2 else 1) ∧
    (∀ (i : Nat) (x : Int), i < ts.viewStartX → ts.time[i]? = some x → x < a.start) ∧
    (∀ x : Int, ts.time[ts.viewStartX]? = some x → a.start ≤ x) := by
  obtain ⟨lods, hl, hne', _, rfl⟩ := getTimescale_range cal a ts h hp hne
  have hok := genLODs_ok cal a lods hl
  have hs0 := step0_pos a lods hok hne'
  obtain ⟨hsx, hvx⟩ := rangeTS_view cal a lods (step0Of lods)
  refine ⟨hsx, hvx, ?_⟩
  -- the axis begins with k + 1 steps of the coarsest level from `tstart`, k = leftExtra; the k-th point is t0 = startOfLOD(Start)
  obtain ⟨rest, hr⟩ := rangeTS_prefix cal a lods (step0Of lods) hok hne'
  have ht := rangeTS_time cal a lods (step0Of lods) hne'
  rw [hr] at ht
  rw [hvx, ht]
  have hfw := fwd_step cal hc (step0Of lods) hs0
  have f0 := startOfLOD_bracket cal hc (step0Of lods) a.utcOffset a.start hs0
  have key := walk_run_around cal (step0Of lods) hfw _ rest (tstart cal a (step0Of lods)) _
    (segEnd_backN cal hc (step0Of lods) a.utcOffset hs0 _ _ (startOfLOD_aligned cal hc (step0Of lods) a.utcOffset a.start hs0))
  generalize startOfLOD cal a.start (step0Of lods) a.utcOffset = t0 at *
  rcases leftExtra_view a t0 f0.1 with ⟨hlt, hkv⟩ | ⟨heq, hkv⟩
  · refine ⟨fun i x hi hx => ?_, fun x hx => ?_⟩
    · obtain ⟨k1, k2, _⟩ := key i x hx
      rcases Nat.lt_or_ge i (leftExtra a t0) with hik | hik
      · exact Int.lt_trans (k1 hik) hlt
      · rw [← hkv] at hi
        rw [k2 (Nat.le_antisymm (Nat.le_of_lt_succ hi) hik)]
        exact hlt
    · rw [(key _ x hx).2.2 hkv.symm]
      exact Int.le_of_lt f0.2
  · refine ⟨fun i x hi hx => ?_, fun x hx => ?_⟩
    · rw [← heq]
      rw [← hkv] at hi
      exact (key i x hx).1 hi
    · rw [(key _ x hx).2.1 hkv.symm, heq]
      exact Int.le_refl _

/-- the number of points stays within the limit: at most maxPoints points of the LOD list, plus at most two points on the left
    and the `extend` point on the right (the out-of-range error is the other outcome: `getTimescale = .error .outOfRange`) -/
theorem points_bounded (cal : Cal) (hc : CalOK cal) (a : Args) (ts : TS)
    (h : getTimescale cal a = .ok ts) (hp : isPoint a = false) :
    (ts.time.length : Int) ≤ maxPoints + 3 := by
  by_cases hne : ts.time = []
  · rw [hne]; decide
  · obtain ⟨lods, hl, hne', _, rfl⟩ := getTimescale_range cal a ts h hp hne
    have hb := genLODs_bound cal hc a hp lods hl
    rw [rangeTS_length cal a lods _ hne']
    have := leftExtra_le a (startOfLOD cal a.start (step0Of lods) a.utcOffset)
    split <;> push_cast <;> omega

/-- "the requested range is covered" at its end, and the view end index: the points up to ViewEndX end with the last point
    before `End`; one more step of the finest level reaches `End`; with `extend` that next point is appended. -/
theorem range_end_covered (cal : Cal) (hc : CalOK cal) (a : Args) (ts : TS)
    (h : getTimescale cal a = .ok ts) (hp : isPoint a = false) (hne : ts.time ≠ [])
    (hm : isMonth a.step = false ∨ maxOffset a = 0) :
    ∃ base L, ts.time = base ++ [L] ++ (if a.extend then [stepForward cal L (lastStepOf ts.lods)] else []) ∧
      L < a.end_ ∧ a.end_ ≤ stepForward cal L (lastStepOf ts.lods) ∧
      ts.viewEndX = max (base.length + 1) ts.viewStartX := by
  obtain ⟨lods, hl, hne', hoff, rfl⟩ := getTimescale_range cal a ts h hp hne
  have hok := genLODs_ok cal a lods hl
  have hs0 := step0_pos a lods hok hne'
  -- the walk over the LOD list from startOfLOD(Start): its last point `L` lies before End, one more step reaches End
  obtain ⟨pts, L, hwalk, hbefore, hreach⟩ := covers_walk (cover_unshifted cal hc a hp lods hl hne' hoff hm)
  have hlast : lastStepOf (rangeTS cal a lods (step0Of lods)).lods = lastStepOf lods :=
    lastStepOf_congr (rangeTS_steps cal a lods _)
  -- `Time` is that walk behind the left extension points `left`, with its end appended as the `extend` point
  obtain ⟨hs1, hs2⟩ := rangeTS_shape cal a lods (step0Of lods) _ rfl
  obtain ⟨left, hleft⟩ := rangeTS_walk_split cal hc a lods hne' hs0
  rw [hleft, hwalk] at hs1 hs2
  refine ⟨left ++ pts, L, ?_, hbefore, by rw [hlast]; exact hreach, ?_⟩
  · rw [hs1, hlast]
    simp only [List.append_assoc]
  · rw [hs2, ← List.append_assoc, List.length_append, List.length_singleton]

/-- GetLODs (offset 0): one contiguous range per level, from Time[0]; enumerating them by their steps gives exactly Time -/
theorem lods_contiguous_and_match_points (cal : Cal) (a : Args) (ts : TS)
    (h : getTimescale cal a = .ok ts) (hp : isPoint a = false) (hne : ts.time ≠ []) :
    (getLODs cal a.utcOffset ts 0).map (·.2.2) = ts.lods.map (·.step) ∧
    (∀ (j : Nat) (r r' : Int × Int × Int), (getLODs cal a.utcOffset ts 0)[j]? = some r →
        (getLODs cal a.utcOffset ts 0)[j + 1]? = some r' → r.2.1 = r'.1) ∧
    (∀ r : Int × Int × Int, (getLODs cal a.utcOffset ts 0)[0]? = some r → ts.time[0]? = some r.1) ∧
    ts.time = ((getLODs cal a.utcOffset ts 0).zip ts.lods).flatMap
        (fun p => (walk cal (List.replicate p.2.len p.1.2.2) p.1.1).1) ∧
    (∀ (j : Nat) (r : Int × Int × Int) (l : LOD), (getLODs cal a.utcOffset ts 0)[j]? = some r → ts.lods[j]? = some l →
        r.2.1 = (walk cal (List.replicate l.len r.2.2) r.1).2) := by
  obtain ⟨tl, hhead⟩ := axis_head cal a ts h hp hne
  have hg : getLODs cal a.utcOffset ts 0 = lodRanges cal ts.lods (tstart cal a (step0Of ts.lods)) :=
    getLODs_lodRanges cal a ts h hp hne 0
  rw [hg]
  refine ⟨lodRanges_steps cal _ _, lodRanges_contiguous cal _ _, ?_, ?_, ?_⟩
  · intro r hr0
    rw [lodRanges_head cal _ _ r hr0, hhead]
    rfl
  · rw [← lodRanges_enumerate]
    exact (range_axis cal a ts h hp hne).2.2
  · intro j r l hr hl
    obtain ⟨h1, h2⟩ := lodRanges_get cal _ _ j r l hr hl
    rw [h1, ← segEnd_eq_walk]
    exact h2

/-! ### non-vacuity: concrete argument tuples for which `getTimescale` succeeds with a non-trivial axis -/

/-- a calendar with 30-day months satisfies `CalOK` (so the hypotheses about months are satisfiable) -/
def cal30 : Cal := ⟨fun t => t / 2592000 * 2592000, fun t => t / 2592000 * 2592000 + 2592000⟩

example : CalOK cal30 := by
  constructor <;> intro t <;> simp only [cal30] <;> omega

/-- two levels (1m up to the 52h switch, then 5s = metric resolution), start inside a bucket, extend -/
def exArgs : Args :=
  { start := 80, end_ := 250, step := 0, now := 187398, width := 0, mode := .range, extend := true,
    utcOffset := 0, metrics := [(5, 0)] }

example : (getTimescale cal30 exArgs).toOption =
    some ⟨[0, 60, 120, 180, 240, 245, 250], [⟨60, 4⟩, ⟨5, 3⟩], 1, 2, 6⟩ := by decide +kernel
example : getLODs cal30 0 ⟨[0, 60, 120, 180, 240, 245, 250], [⟨60, 4⟩, ⟨5, 3⟩], 1, 2, 6⟩ 0 =
    [(0, 240, 60), (240, 255, 5)] := by decide +kernel
example : isPoint exArgs = false := by decide +kernel

/-- monthly step on the 30-day calendar -/
def exArgsMonthly : Args :=
  { start := 2592000 * 3 + 5, end_ := 2592000 * 5 + 9, step := 2678400, now := 2592000 * 5, width := 0, mode := .range,
    extend := false, utcOffset := 0, metrics := [] }

example : (getTimescale cal30 exArgsMonthly).toOption =
    some ⟨[7776000, 10368000, 12960000], [⟨2678400, 3⟩], 1, 1, 3⟩ := by decide +kernel

example : isPoint exArgs = false ∧ ((getTimescale cal30 exArgs).toOption.map (·.time.length)) = some 7 := by decide +kernel

/-- the hypothesis `hm` of `range_end_covered` holds for both -/
example : isMonth exArgs.step = false ∨ maxOffset exArgs = 0 := by decide +kernel
example : isMonth exArgsMonthly.step = false ∨ maxOffset exArgsMonthly = 0 := by decide +kernel

/-! ### GetLODs with a metric time offset: the ranges are the unshifted ones translated by the offset -/

/-- every offset of the query's metrics is a multiple of the coarsest step (the `%` check of GetTimescale) -/
theorem metric_offset_dvd (cal : Cal) (a : Args) (ts : TS) (h : getTimescale cal a = .ok ts) (hp : isPoint a = false)
    (hne : ts.time ≠ []) (p : Int × Int) (hpm : p ∈ a.metrics) : step0Of ts.lods ∣ p.2 := by
  obtain ⟨lods, _, _, hoff, rfl⟩ := getTimescale_range cal a ts h hp hne
  rw [step0Of_congr (rangeTS_steps cal a lods _)]
  simp only [offsetsOK, List.all_eq_true] at hoff
  exact Int.dvd_of_tmod_eq_zero (by simpa using hoff p hpm)

/-- for an offset that is a multiple of the coarsest step (all metric offsets are: `metric_offset_dvd`) `GetLODs(metric, offset)`
    returns the ranges of offset 0 moved back by it. Not for the monthly step with `o ≠ 0`: there the shifted start is re-aligned
    to a month start (`lods_shifted_on_grid`) and months differ in length, so the ranges are not a translation (witness below). -/
theorem lods_with_offset_translated (cal : Cal) (hc : CalOK cal) (a : Args) (ts : TS)
    (h : getTimescale cal a = .ok ts) (hp : isPoint a = false) (hne : ts.time ≠ [])
    (o : Int) (hd : step0Of ts.lods ∣ o) (hm : isMonth a.step = false ∨ o = 0) :
    getLODs cal a.utcOffset ts o = (getLODs cal a.utcOffset ts 0).map (fun r => (r.1 - o, r.2.1 - o, r.2.2)) := by
  by_cases ho : o = 0
  · subst ho; simp
  · have hnm : isMonth a.step = false := hm.resolve_right ho
    obtain ⟨hok, hlne, _⟩ := range_axis cal a ts h hp hne
    have hsteps : ∀ l ∈ ts.lods, isMonth l.step = false := fun l hl => tbl_fixed a hnm _ (hok.1 l hl).1
    have hs0m := tbl_fixed a hnm _ (step0_mem hok hlne)
    have hs0p := step0_pos a _ hok hlne
    have hal := (aligned_fixed cal hs0m _ _).mp (tstart_aligned cal hc a _ hs0p)
    have h0 : getLODs cal a.utcOffset ts 0 = lodRanges cal ts.lods (tstart cal a (step0Of ts.lods)) :=
      getLODs_lodRanges cal a ts h hp hne 0
    rw [getLODs_lodRanges cal a ts h hp hne o, if_pos (by simpa using ho), h0]
    generalize tstart cal a (step0Of ts.lods) = t0 at *
    -- the shifted start is on the grid already, so re-aligning it changes nothing
    have hstart : startOfLOD cal (t0 - o) (step0Of ts.lods) a.utcOffset = t0 - o := by
      rw [startOfLOD_fixed cal hs0m]
      refine roundTime_unique _ _ _ _ hs0p ?_ (Int.le_refl _) (Int.lt_add_of_pos_right _ hs0p)
      rw [Int.sub_eq_add_neg, Int.add_right_comm, ← Int.sub_eq_add_neg, Int.sub_emod, hal, Int.emod_eq_zero_of_dvd hd]
      rfl
    rw [hstart, Int.sub_eq_add_neg, lodRanges_translate cal ts.lods hsteps]
    simp only [Int.sub_eq_add_neg]

example : (getTimescale cal30 { exArgs with metrics := [(5, 120)] }).toOption =
    some ⟨[0, 60, 120, 180, 240, 300], [⟨60, 6⟩], 1, 2, 5⟩ := by decide +kernel
example : getLODs cal30 0 ⟨[0, 60, 120, 180, 240, 300], [⟨60, 6⟩], 1, 2, 5⟩ 120 = [(-120, 240, 60)] ∧
    getLODs cal30 0 ⟨[0, 60, 120, 180, 240, 300], [⟨60, 6⟩], 1, 2, 5⟩ 0 = [(0, 360, 60)] := by decide +kernel

/-- witness that monthly ranges are not translated: monthly axis [3M, 4M, 5M] of the 30-day calendar, offset 31 days (a multiple of
    `_1M`, so it passes the `%` check): GetLODs re-aligns to month 1 and returns [1M, 4M), not [3M - 31d, 6M - 31d) -/
example : getLODs cal30 0 ⟨[7776000, 10368000, 12960000], [⟨2678400, 3⟩], 1, 1, 3⟩ 2678400 = [(2592000, 10368000, 2678400)] ∧
    (getLODs cal30 0 ⟨[7776000, 10368000, 12960000], [⟨2678400, 3⟩], 1, 1, 3⟩ 0).map
      (fun r => (r.1 - 2678400, r.2.1 - 2678400, r.2.2)) = [(5097600, 12873600, 2678400)] := by decide +kernel

/-- point queries return one [from, to) range on the grid of the (single, coarsest) level: both ends aligned, from < to,
    and the range lies inside the request (or covers it when `extend` is set) -/
theorem point_range (cal : Cal) (hc : CalOK cal) (a : Args) (ts : TS) (h : getTimescale cal a = .ok ts)
    (hp : isPoint a = true) (hne : ts.time ≠ []) :
    ∃ t t1, ts.time = [t, t1] ∧ t < t1 ∧
      Aligned cal a.utcOffset t (step0Of ts.lods) ∧ Aligned cal a.utcOffset t1 (step0Of ts.lods) ∧
      (if a.extend then t ≤ a.start ∧ a.end_ ≤ t1 else a.start ≤ t ∧ t1 ≤ a.end_) := by
  obtain ⟨lods, hl, hlne, rfl⟩ := getTimescale_point cal a ts h hp hne
  have hs0 := step0_pos a lods (genLODs_ok cal a lods hl) hlne
  have hfw := fwd_step cal hc _ hs0
  have f0 := startOfLOD_bracket cal hc (step0Of lods) a.utcOffset a.start hs0
  have a0 := startOfLOD_aligned cal hc (step0Of lods) a.utcOffset a.start hs0
  rcases pointTS_cases cal a lods (step0Of lods) with he | ⟨t, ht, hne1, heq⟩
  · rw [he] at hne
    exact absurd rfl hne
  rw [heq]
  refine ⟨t, _, rfl, ?_⟩
  have hat : Aligned cal a.utcOffset t (step0Of lods) ∧ (if a.extend then t ≤ a.start else a.start ≤ t) := by
    rcases ht with ⟨rfl, he | he⟩ | ⟨he, rfl⟩
    · rw [he]
      exact ⟨a0, f0.1⟩
    · refine ⟨a0, ?_⟩
      split
      · exact f0.1
      · exact he
    · rw [he]
      exact ⟨aligned_step cal hc _ _ _ a0, Int.le_of_lt f0.2⟩
  have hlt : ∀ k : Nat, t ≠ segEnd cal (step0Of lods) k t → t < segEnd cal (step0Of lods) k t := fun k hk =>
    Int.lt_iff_le_and_ne.mpr
      ⟨Int.le_trans (Int.le_add_of_nonneg_right (Int.natCast_nonneg k)) (segEnd_ge cal (step0Of lods) hfw k t), hk⟩
  cases he : a.extend with
  | true =>
    -- extend: to = first grid point ≥ End
    simp only [he, Bool.not_true, if_true] at hne1 hat ⊢
    obtain ⟨k, hk, hle⟩ := endOfLOD_spec cal (step0Of lods) hfw t a.end_
    have hk' : (endOfLOD cal t (step0Of lods) a.end_ false).1 = segEnd cal (step0Of lods) k t := by rw [hk]
    rw [hk'] at hne1 ⊢
    exact ⟨hlt k hne1, hat.1, aligned_segEnd cal hc _ _ k t hat.1, hat.2, hle.1⟩
  | false =>
    -- no extend: to = last grid point ≤ End
    simp only [he, Bool.not_false, Bool.false_eq_true, if_false] at hne1 hat ⊢
    obtain ⟨k, hk, hle⟩ := endLoop_le_spec cal (step0Of lods) a.end_ (a.end_ - t).toNat t 0
    have hk' : (endOfLOD cal t (step0Of lods) a.end_ true).1 = segEnd cal (step0Of lods) k t := hk
    rw [hk'] at hne1 ⊢
    refine ⟨hlt k hne1, hat.1, aligned_segEnd cal hc _ _ k t hat.1, hat.2, hle.resolve_left ?_⟩
    rintro rfl
    exact hne1 rfl

theorem point_single_level (cal : Cal) (hc : CalOK cal) (a : Args) (ts : TS) (h : getTimescale cal a = .ok ts)
    (hp : isPoint a = true) (hne : ts.time ≠ []) : ts.lods.length = 1 := by
  obtain ⟨lods, hl, hlne, rfl⟩ := getTimescale_point cal a ts h hp hne
  rcases pointTS_cases cal a lods (step0Of lods) with he | ⟨t, _, _, heq⟩
  · rw [he] at hne
    exact absurd rfl hne
  rw [heq]
  have := genLODs_point_single cal hc a hp lods hl
  cases lods with
  | nil => exact absurd rfl hlne
  | cons l ls =>
    simp at this ⊢
    exact this

example : (getTimescale cal30 { exArgs with mode := .point, extend := false }).toOption =
    some ⟨[120, 240], [⟨60, 4⟩], 0, 0, 1⟩ := by decide +kernel
example : (getTimescale cal30 { exArgs with mode := .point, extend := true }).toOption =
    some ⟨[60, 300], [⟨60, 4⟩], 0, 0, 1⟩ := by decide +kernel

/-! ### GetLODs for every offset `o`: alignment, point count, IndexOf -/

/-- GetLODs(metric, o) for EVERY time shift `o`: range j has the step of level j, FromSec and ToSec lie on the grid of that step
    (month starts for the monthly step: the shifted start is re-aligned), and the range holds exactly the level's `Len` grid points,
    for each of which LOD.IndexOf returns its position. -/
theorem lods_shifted_on_grid (cal : Cal) (hc : CalOK cal) (a : Args) (ts : TS)
    (h : getTimescale cal a = .ok ts) (hp : isPoint a = false) (hne : ts.time ≠ []) (o : Int)
    (j : Nat) (r : Int × Int × Int) (l : LOD)
    (hr : (getLODs cal a.utcOffset ts o)[j]? = some r) (hl : ts.lods[j]? = some l) :
    r.2.2 = l.step ∧ Aligned cal a.utcOffset r.1 l.step ∧ Aligned cal a.utcOffset r.2.1 l.step ∧
    r.2.1 = segEnd cal l.step l.len r.1 ∧
    ∀ i, i < l.len → r.1 ≤ segEnd cal l.step i r.1 ∧ segEnd cal l.step i r.1 < r.2.1 ∧
      Aligned cal a.utcOffset (segEnd cal l.step i r.1) l.step ∧ indexOf cal r (segEnd cal l.step i r.1) = some (i : Int) := by
  obtain ⟨hok, hlne, _⟩ := range_axis cal a ts h hp hne
  have hs0 := step0_pos a _ hok hlne
  rw [getLODs_lodRanges cal a ts h hp hne o] at hr
  have hSa : Aligned cal a.utcOffset
      (if o != 0 then startOfLOD cal (tstart cal a (step0Of ts.lods) - o) (step0Of ts.lods) a.utcOffset
       else tstart cal a (step0Of ts.lods)) (step0Of ts.lods) := by
    split
    · exact startOfLOD_aligned cal hc _ _ _ hs0
    · exact tstart_aligned cal hc a _ hs0
  obtain ⟨g1, g4⟩ := lodRanges_get cal _ _ j r l hr hl
  have g2 := lodRanges_grid cal hc a.utcOffset (tbl_finer a) ts.lods hok _ hSa j r l hr hl
  have g3 : Aligned cal a.utcOffset r.2.1 l.step := by
    rw [g4]
    exact aligned_segEnd cal hc _ _ l.len _ g2
  have hlm : l ∈ ts.lods := List.mem_of_getElem? hl
  have hstep := (hok.1 l hlm).1
  have hfw := tbl_fwd cal hc a l.step hstep
  have hsp := tbl_pos a l.step hstep
  refine ⟨g1, g2, g3, g4, ?_⟩
  intro i hi
  refine ⟨?_, ?_, aligned_segEnd cal hc _ _ i _ g2, ?_⟩
  · have := segEnd_ge cal l.step hfw i r.1
    have : (0 : Int) ≤ i := Int.natCast_nonneg i
    omega
  · rw [g4]; exact segEnd_lt cal l.step hfw i l.len hi r.1
  · have hrr : r = (r.1, r.2.1, l.step) := by rw [← g1]
    rw [hrr]; exact indexOf_grid cal l.step hfw hsp _ _ i

/-- the monthly axis [3M, 4M, 5M] of the 30-day calendar, shifted by 31 days (one nominal month, what the API passes) -/
def monthlyTS : TS := ⟨[7776000, 10368000, 12960000], [⟨2678400, 3⟩], 1, 1, 3⟩

/-- the code: the shifted start is re-aligned to the month start (month 1), the range holds months 1, 2, 3 -/
example : getLODs cal30 0 monthlyTS 2678400 = [(2592000, 10368000, 2678400)] ∧ cal30.som 2592000 = 2592000 ∧
    indexOf cal30 (2592000, 10368000, 2678400) 7776000 = some 2 := by decide +kernel
/-- seeded variant C22-r3-1 (`start := Time[0] - offset`, no re-alignment) as a counter-example: the range starts at
    3M - 31d = 5097600, inside month 1 (not a month start), and only two month starts (2M, 3M) lie in [5097600, 4M) although the
    axis has three points -/
example : getLODsNoRealign cal30 monthlyTS 2678400 = [(5097600, 10368000, 2678400)] ∧ cal30.som 5097600 ≠ 5097600 ∧
    segEnd cal30 2678400 1 5097600 = 2592000 * 2 ∧ segEnd cal30 2678400 3 5097600 = 10368000 := by decide +kernel
/-- fixed steps: IndexOf of a grid point, of an off-grid instant (error), and before the range (negative index, as in Go) -/
example : indexOf cal30 (0, 600, 60) 120 = some 2 ∧ indexOf cal30 (0, 600, 60) 121 = none ∧
    indexOf cal30 (0, 600, 60) (-60) = some (-1) := by decide +kernel

/-! ### `decide` witnesses on the model: the behaviour before two fixes, (1) and (3), and the open finding (2)

  (1) fixes/C22-month-start.diff. Before the fix StepForward is `AddDate(0,1,0)`: it adds a month to the previous point instead of
  going to the start of the next month. In a zone where a month starts at 01:00 (summer time switched on at 00:00 of the 1st)
  every later point stays at 01:00. `calGapOld` is such a calendar (30-day months, month 3 starts one hour late) with the old
  `next`; `calGapFixed` has the `next` of the fixed code. With the old one `CalOK.next_aligned` fails and so does the property. -/

def gapSom (t : Int) : Int :=
  if 2592000 * 3 ≤ t ∧ t < 2592000 * 3 + 3600 then 2592000 * 2   -- the missing hour belongs to the previous month
  else if 2592000 * 3 + 3600 ≤ t ∧ t < 2592000 * 4 then 2592000 * 3 + 3600
  else t / 2592000 * 2592000

/-- old code: `AddDate(0,1,0)` keeps the time of day; a result inside the missing hour is normalised to its end -/
def calGapOld : Cal :=
  ⟨gapSom, fun t => if 2592000 * 3 ≤ t + 2592000 ∧ t + 2592000 < 2592000 * 3 + 3600 then 2592000 * 3 + 3600 else t + 2592000⟩
/-- fixed code: start of the next calendar month -/
def calGapFixed : Cal := ⟨gapSom, fun t => gapSom (gapSom t + 2592000 + 3600)⟩

def gapArgs : Args :=
  { start := 2592000 * 2 + 5, end_ := 2592000 * 5 + 9, step := 2678400, now := 2592000 * 5, width := 0, mode := .range,
    extend := false, utcOffset := 0, metrics := [] }

/-- old: the point after the late month start is not a month start (4M+3600 instead of 4M), and month 5, which begins
    (at 5M) before End = 5M+9, is missing because the drifted 5M+3600 is already past End -/
example : (getTimescale calGapOld gapArgs).toOption.map (·.time) = some [5184000, 7779600, 10371600] := by decide +kernel
example : calGapOld.som 10371600 ≠ 10371600 := by decide +kernel
/-- fixed: every point is the start of its month -/
example : (getTimescale calGapFixed gapArgs).toOption.map (·.time) =
    some [5184000, 7779600, 10368000, 12960000] := by decide +kernel
example : ∀ x ∈ [5184000, 7779600, 10368000, 12960000], calGapFixed.som x = x := by decide +kernel

/-! (2) known finding `month-offset-coverage` (no small fix): monthly step with a metric offset of 31 days. The months are counted
  on [Start - 31d, End - 31d) — four of them — but laid out from the unshifted start, so the last point (month 6) lies
  beyond End (in month 5) although `extend` is off: `range_end_covered` above is false without its hypothesis `hm`. -/
example : (getTimescale cal30 { exArgsMonthly with end_ := 2592000 * 5 + 100000, metrics := [(1, 2678400)] }).toOption.map (·.time) =
    some [7776000, 10368000, 12960000, 15552000] := by decide +kernel
example : (getTimescale cal30 { exArgsMonthly with end_ := 2592000 * 5 + 100000, metrics := [] }).toOption.map (·.time) =
    some [7776000, 10368000, 12960000] := by decide +kernel

/-! (3) fixes/C22-indexof-month.diff: before it IndexOf stepped with AddDate(0,1,0) (`calGapOld.next`): after a month that starts at 01:00
    every later month start is missed; with StepForward (`calGapFixed.next`) month 4 of the range starting at month 2 has index 2 -/
example : indexOf calGapOld (5184000, 15552000, 2678400) 10368000 = none ∧
    indexOf calGapFixed (5184000, 15552000, 2678400) 10368000 = some 2 := by decide +kernel

end SH.C22
