/-
  C24 — The API points cache never serves rows older than an invalidation.

  "Within the mutable window, a cached point-query result for a range is served only if no second in that range
   was invalidated at or after the moment its load started (allowing the replication linger); otherwise it is
   reloaded. Outside the mutable window cached results are served as loaded, and the cache stays within its
   size bound regardless of the sequence of requests."
  Quantifier: all sequences of get/invalidate calls over arbitrary ranges and clock values.

  Model: SH.Model.PCache (pcache.go branch for branch; constants from SH.Gen.C24, regenerated from /repo).
  A history is an arbitrary `List Op` of critical sections (lookup = loadCached, store = the locked tail of get,
  invalidate); every clock reading, the eviction choices and the gc deletions are data in the ops, so the
  theorems hold for every interleaving of concurrent callers, every clock and every Go map order.

  Clock hypothesis: `served_fresh` / `stale_iff` need the lookup's clock not to be behind the clock of an earlier
  invalidate call (gc forgets seconds older than ITS edge). `clock_hypothesis_needed` shows by `decide` that
  without it the code does serve stale rows; a wall clock stepping back by more than the distance of a cached
  range to the 48 h edge is outside what the property can promise.
-/
import SH.Model.PCache
import SH.Lemmas.PCacheBase
import SH.Lemmas.PCacheCheck
import SH.Lemmas.PCacheEvict
import SH.Lemmas.PCacheInt64
import Mathlib.Tactic.Ring

namespace SH.C24
open SH.PCache SH.Gen.C24

/-- the recursion over the levels misses no late entry of a second of [f,t] (any positive steps ending in 1) -/
theorem checkLevels_sound (sm : LMap) (off g loadAt : Int) :
    ∀ (lv : List Level), (∀ p ∈ lv, 0 < p.1) → lv.getLast? = some (1, sm) → CovL lv sm off g →
    ∀ (f t s a : Int), g ≤ f → f ≤ s → s ≤ t → mget sm s = some a → loadAt ≤ a + invalidateLingerNs →
    checkLevels lv off loadAt f t = false := by
  intro lv
  induction lv with
  | nil => intro _ h; simp at h
  | cons p rest ih =>
    intro hpos hlast hcov f t s a hg hfs hst hsm hla
    cases rest with
    | nil =>
      simp at hlast
      subst hlast
      simp only [checkLevels]
      have e : f + 1 * ((s - f).toNat : Int) = s := by
        rw [Int.toNat_of_nonneg (Int.sub_nonneg.mpr hfs)]
        ring
      exact (scanOK_eq_false _ _ _ _ _).mpr ⟨(s - f).toNat, (lt_countLast_one f t _).mpr (by rw [e]; exact hst),
        (staleKey_iff _ _ _).mpr ⟨a, by rw [e]; exact hsm, hla⟩⟩
    | cons q rest' =>
      have hp : 0 < p.1 := hpos p (by simp)
      have IH := ih (fun x hx => hpos x (List.mem_cons_of_mem _ hx))
        (by rw [List.getLast?_cons_cons] at hlast; exact hlast) (fun x hx => hcov x (List.mem_cons_of_mem _ hx))
      simp only [checkLevels, Bool.and_eq_false_iff]
      by_cases c1 : s ≤ fromNext (roundTime f p.1 off) p.1 t
      · exact Or.inl (Or.inl (IH f _ s a hg hfs c1 hsm hla))
      · by_cases c2 : toPrev (roundTime t p.1 off) f ≤ s
        · exact Or.inl (Or.inr (IH _ t s a (by rw [toPrev_eq]; exact le_trans hg (le_max_left _ _)) c2 hst hsm hla))
        · -- `s` is in neither fringe, so its bucket is one of the scanned middle keys
          rw [fromNext_eq] at c1
          rw [toPrev_eq] at c2
          obtain ⟨k, hk, hr⟩ := (mid_key_iff s f t p.1 off hp).mpr
            ⟨le_of_not_ge (fun h => c1 (le_min hst h)), not_le.mp (fun h => c2 (max_le hfs h))⟩
          obtain ⟨b, hb, hab⟩ := hcov p (by simp) s a hsm
            (hr ▸ le_of_lt (lt_of_le_of_lt hg (lt_mid_key f p.1 off hp k)))
          exact Or.inr ((scanOK_eq_false _ _ _ _ _).mpr ⟨k, hk, (staleKey_iff _ _ _).mpr
            ⟨b, by rw [← hr]; exact hb, le_trans hla (Int.add_le_add_right hab _)⟩⟩)

/-- the levels are those of `steps`; from `g` on every level dominates the per-second map, and the per-second map
    remembers every event of `H`. `H` = every (second, invalidation clock) seen so far, `g` = an upper bound of every
    gc edge so far -/
structure Good (s : State) (H : List (Int × Int)) (g : Int) : Prop where
  stepsEq : s.levels.map (·.1) = steps
  cov : CovL s.levels (secMap s.levels) s.off g
  hist : ∀ sec tAt, (sec, tAt) ∈ H → g ≤ sec → ∃ a, mget (secMap s.levels) sec = some a ∧ tAt ≤ a

theorem good_congr (s s' : State) (H H' : List (Int × Int)) (g : Int) (hl : s'.levels = s.levels) (ho : s'.off = s.off)
    (hH : ∀ x, x ∈ H' ↔ x ∈ H) (h : Good s H g) : Good s' H' g := by
  refine ⟨?_, ?_, fun sec tAt hm => ?_⟩
  · rw [hl]; exact h.stepsEq
  · rw [hl, ho]; exact h.cov
  · rw [hl]; exact h.hist sec tAt ((hH _).mp hm)

theorem update_good (s : State) (H : List (Int × Int)) (g tAt sec : Int) (h : Good s H g) :
    Good { s with levels := updateLevels s.levels s.off tAt sec } ((sec, tAt) :: H) g := by
  have hsm := updateLevels_secMap s.levels s.off tAt sec h.stepsEq
  refine ⟨(updateLevels_fst _ _ _ _).trans h.stepsEq, ?_, ?_⟩
  · simp only [hsm]
    exact update_cov _ _ _ _ _ _ h.cov
  · intro sec' tAt' hmem hg
    simp only [hsm]
    rcases List.mem_cons.mp hmem with e | hmem
    · cases e
      exact bump_self _ _ _
    · exact bump_mono _ sec tAt _ tAt' (h.hist sec' tAt' hmem hg)

theorem gc_good (s : State) (H : List (Int × Int)) (g gf : Int) (ds : List (List Int)) (h : Good s H g) (hgf : gf ≤ g) :
    Good { s with levels := gcLevels s.levels gf ds } H g := by
  obtain ⟨d, hsm⟩ := gcLevels_secMap s.levels gf ds h.stepsEq
  refine ⟨(gcLevels_fst _ _ _).trans h.stepsEq, ?_, ?_⟩
  · simp only [hsm]
    exact gc_cov _ _ _ _ _ _ _ h.cov hgf
  · intro sec tAt hmem hg
    simp only [hsm]
    rw [mget_gcMap_ge _ _ _ _ (le_trans hgf hg)]
    exact h.hist sec tAt hmem hg

theorem good_mono (s : State) (H : List (Int × Int)) (g g' : Int) (h : Good s H g) (hg : g ≤ g') : Good s H g' :=
  ⟨h.stepsEq,
   fun p hp sec a hs hr => h.cov p hp sec a hs (le_trans hg hr),
   fun sec tAt hm hs => h.hist sec tAt hm (le_trans hg hs)⟩

/-- the (second, invalidation clock) pairs an op records -/
def opEvents : Op → List (Int × Int)
  | .invalidate tAt _ secs _ => secs.map (fun x => (x, tAt))
  | _ => []

def events : List Op → List (Int × Int)
  | [] => []
  | op :: r => opEvents op ++ events r

/-- every gc edge (`now.Add(invalidateFrom).Unix()` of an invalidate call) in the history is at most `g` -/
def EdgesLe (ops : List Op) (g : Int) : Prop :=
  ∀ tAt tFrom secs dels, Op.invalidate tAt tFrom secs dels ∈ ops → edgeSec tFrom ≤ g

/-- Every history keeps an invariant `I` of the invalidation maps relative to the recorded events, if `I` looks only at
    `levels`, `off` and which events are recorded (`hcongr`). `Good` is such an `I`, and so is `Tight` beside `Good`. -/
theorem run_levels (I : State → List (Int × Int) → Prop) (g : Int)
    (hcongr : ∀ s s' H H', s'.levels = s.levels → s'.off = s.off → (∀ x, x ∈ H' ↔ x ∈ H) → I s H → I s' H')
    (hupd : ∀ s H tAt sec, I s H → I { s with levels := updateLevels s.levels s.off tAt sec } ((sec, tAt) :: H))
    (hgc : ∀ s H gf ds, gf ≤ g → I s H → I { s with levels := gcLevels s.levels gf ds } H) :
    ∀ (ops : List Op) (s : State) (H : List (Int × Int)), I s H → EdgesLe ops g → I (run s ops) (events ops ++ H) := by
  have hall : ∀ (tAt : Int) (secs : List Int) (s : State) (H : List (Int × Int)), I s H →
      I { s with levels := updateAll s.levels s.off tAt secs } (secs.map (fun x => (x, tAt)) ++ H) := by
    intro tAt secs
    induction secs with
    | nil => intro s H h; exact h
    | cons x r ih =>
      intro s H h
      exact hcongr _ _ _ _ rfl rfl (fun y => List.perm_middle.mem_iff.symm) (ih _ _ (hupd s H tAt x h))
  have hstep : ∀ (s : State) (H : List (Int × Int)) (op : Op), I s H →
      (∀ tAt tFrom secs dels, op = .invalidate tAt tFrom secs dels → edgeSec tFrom ≤ g) →
      I (step s op) (opEvents op ++ H) := by
    intro s H op h he
    cases op with
    | lookup key f t tLru tChk =>
      have hf := lookup_frame s key f t tLru tChk
      exact hcongr s _ H _ hf.levels hf.off (fun _ => Iff.rfl) h
    | store key tLru cr ch =>
      have hf := store_frame s key tLru cr ch
      exact hcongr s _ H _ hf.levels hf.off (fun _ => Iff.rfl) h
    | invalidate tAt tFrom secs dels =>
      exact hgc _ _ (edgeSec tFrom) dels (he tAt tFrom secs dels rfl) (hall tAt secs s H h)
  intro ops
  induction ops with
  | nil => intro s H h _; exact h
  | cons op r ih =>
    intro s H h he
    have h1 := hstep s H op h (fun a b c d e => he a b c d (e ▸ List.mem_cons_self))
    have h2 := ih (step s op) _ h1 (fun a b c d hm => he a b c d (List.mem_cons_of_mem _ hm))
    refine hcongr _ _ _ _ rfl rfl (fun x => ?_) h2
    rw [show events (op :: r) = opEvents op ++ events r from rfl, List.append_assoc]
    exact (List.perm_append_comm_assoc _ _ _).mem_iff

theorem run_good : ∀ (ops : List Op) (s : State) (H : List (Int × Int)) (g : Int), Good s H g → EdgesLe ops g →
    Good (run s ops) (events ops ++ H) g := fun ops s H g =>
  run_levels (fun s H => Good s H g) g (fun s s' H H' => good_congr s s' H H' g)
    (fun s H tAt sec => update_good s H g tAt sec) (fun s H gf ds hgf h => gc_good s H g gf ds h hgf) ops s H

theorem init_good (maxSize off g : Int) : Good (init maxSize off) [] g := by
  refine ⟨init_levels.1, ?_, ?_⟩
  · intro p _ s a hm
    rw [show secMap (init maxSize off).levels = [] from init_levels.2] at hm
    cases hm
  · intro sec tAt hm
    cases hm

/-- soundness for the range the code really scans, `[clampFrom f now, t]` (it includes the second that
    contains the edge even when the edge has a sub-second part) -/
theorem check_sound_clamp (s : State) (H : List (Int × Int)) (g : Int) (hgood : Good s H g)
    (now loadAt f t sec a : Int) (hg : g ≤ edgeSec now) (ht : beforeEdge t now = false)
    (h1 : clampFrom f now ≤ sec) (h2 : sec ≤ t)
    (hs : mget (secMap s.levels) sec = some a) (hl : loadAt ≤ a + invalidateLingerNs) :
    checkInvalidation s.levels s.off now loadAt f t = false := by
  unfold checkInvalidation
  simp only [ht, Bool.false_eq_true, if_false]
  exact checkLevels_sound (secMap s.levels) s.off g loadAt s.levels (levels_pos _ hgood.stepsEq)
    (levels_last _ hgood.stepsEq) hgood.cov (clampFrom f now) t sec a
    (le_trans hg (edge_le_clamp f now)) h1 h2 hs hl

theorem check_sound (s : State) (H : List (Int × Int)) (g : Int) (hgood : Good s H g)
    (now loadAt f t sec a : Int) (hg : g ≤ edgeSec now) (h1 : f ≤ sec) (h2 : sec ≤ t)
    (hmut : beforeEdge sec now = false)
    (hs : mget (secMap s.levels) sec = some a) (hl : loadAt ≤ a + invalidateLingerNs) :
    checkInvalidation s.levels s.off now loadAt f t = false :=
  check_sound_clamp s H g hgood now loadAt f t sec a hg (beforeEdge_mono sec t now h2 hmut)
    (clamp_le_of_mutable f sec now h1 hmut) h2 hs hl

/-- the converse of `Good`: coarse entries are witnessed by seconds of their bucket, and every entry of the
    per-second map is an invalidation of the history with exactly that clock -/
structure Tight (s : State) (H : List (Int × Int)) (g : Int) : Prop where
  wit : WitL s.levels (secMap s.levels) s.off g
  src : ∀ sec a, mget (secMap s.levels) sec = some a → (sec, a) ∈ H

theorem tight_congr (s s' : State) (H H' : List (Int × Int)) (g : Int) (hl : s'.levels = s.levels) (ho : s'.off = s.off)
    (hH : ∀ x, x ∈ H' ↔ x ∈ H) (h : Tight s H g) : Tight s' H' g := by
  refine ⟨?_, fun sec a hm => (hH _).mpr ?_⟩
  · rw [hl, ho]; exact h.wit
  · rw [hl] at hm; exact h.src sec a hm

theorem update_tight (s : State) (H : List (Int × Int)) (g tAt sec : Int) (hst : s.levels.map (·.1) = steps)
    (h : Tight s H g) : Tight { s with levels := updateLevels s.levels s.off tAt sec } ((sec, tAt) :: H) g := by
  have hsm := updateLevels_secMap s.levels s.off tAt sec hst
  refine ⟨?_, ?_⟩
  · simp only [hsm]
    exact update_wit _ _ _ _ _ _ h.wit
  · intro sec' a hm
    simp only [hsm] at hm
    rcases bump_src _ _ _ _ _ hm with hm | ⟨rfl, rfl⟩
    · exact List.mem_cons_of_mem _ (h.src sec' a hm)
    · exact List.mem_cons_self

theorem gc_tight (s : State) (H : List (Int × Int)) (g gf : Int) (ds : List (List Int))
    (hst : s.levels.map (·.1) = steps) (h : Tight s H g) (hgf : gf ≤ g) :
    Tight { s with levels := gcLevels s.levels gf ds } H g := by
  obtain ⟨d, hsm⟩ := gcLevels_secMap s.levels gf ds hst
  refine ⟨?_, ?_⟩
  · simp only [hsm]; exact gc_wit _ _ _ _ _ _ _ (levels_pos _ hst) h.wit hgf
  · intro sec a hm
    simp only [hsm] at hm
    exact h.src sec a (mget_gcMap_some _ _ _ _ _ hm)

theorem step_stepsEq (s : State) (op : Op) (h : s.levels.map (·.1) = steps) : (step s op).levels.map (·.1) = steps := by
  cases op with
  | lookup key f t tLru tChk => exact (lookup_frame s key f t tLru tChk).levels ▸ h
  | store key tLru cr ch => exact (store_frame s key tLru cr ch).levels ▸ h
  | invalidate tAt tFrom secs dels => exact ((gcLevels_fst _ _ _).trans (updateAll_fst _ _ _ _)).trans h

theorem run_tight : ∀ (ops : List Op) (s : State) (H : List (Int × Int)) (g : Int), Good s H g → Tight s H g →
    EdgesLe ops g → Tight (run s ops) (events ops ++ H) g := fun ops s H g hg h he =>
  (run_levels (fun s H => Good s H g ∧ Tight s H g) g
    (fun s s' H H' hl ho hH h => ⟨good_congr s s' H H' g hl ho hH h.1, tight_congr s s' H H' g hl ho hH h.2⟩)
    (fun s H tAt sec h => ⟨update_good s H g tAt sec h.1, update_tight s H g tAt sec h.1.stepsEq h.2⟩)
    (fun s H gf ds hgf h => ⟨gc_good s H g gf ds h.1 hgf, gc_tight s H g gf ds h.1.stepsEq h.2 hgf⟩)
    ops s H ⟨hg, h⟩ he).2

theorem init_tight (maxSize off g : Int) : Tight (init maxSize off) [] g := by
  refine ⟨?_, ?_⟩
  · intro p hp k b hb _
    obtain ⟨st, _, rfl⟩ := List.mem_map.mp (show p ∈ steps.map (fun st => (st, [])) from hp)
    cases hb
  · intro sec a hm
    rw [show secMap (init maxSize off).levels = [] from init_levels.2] at hm
    cases hm

theorem check_complete (s : State) (H : List (Int × Int)) (g : Int) (hst : s.levels.map (·.1) = steps) (htight : Tight s H g)
    (now loadAt f t : Int) (hg : g ≤ edgeSec now)
    (hc : checkInvalidation s.levels s.off now loadAt f t = false) :
    beforeEdge t now = false ∧
    ∃ sec a, clampFrom f now ≤ sec ∧ sec ≤ t ∧ mget (secMap s.levels) sec = some a ∧
      loadAt ≤ a + invalidateLingerNs := by
  unfold checkInvalidation at hc
  cases ht : beforeEdge t now with
  | true => simp [ht] at hc
  | false =>
    simp only [ht, Bool.false_eq_true, if_false] at hc
    refine ⟨rfl, ?_⟩
    exact checkLevels_exact (secMap s.levels) s.off g loadAt s.levels (levels_pos _ hst)
      (levels_last _ hst) htight.wit (clampFrom f now) t (le_trans hg (edge_le_clamp f now)) hc

/-- what the check answers in a state reached from `init` (`reach_`), two-sided; the freshness theorems are read off it -/
theorem reach_check_iff (maxSize off : Int) (ops : List Op) (tChk loadAt f t : Int)
    (hclock : EdgesLe ops (edgeSec tChk)) :
    checkInvalidation (run (init maxSize off) ops).levels (run (init maxSize off) ops).off tChk loadAt f t = false ↔
      (beforeEdge t tChk = false ∧ ∃ sec tAt, (sec, tAt) ∈ events ops ∧ clampFrom f tChk ≤ sec ∧ sec ≤ t ∧
        loadAt ≤ tAt + invalidateLingerNs) := by
  have hgood := run_good ops (init maxSize off) [] (edgeSec tChk) (init_good _ _ _) hclock
  rw [List.append_nil] at hgood
  constructor
  · intro hc
    have htight := run_tight ops (init maxSize off) [] (edgeSec tChk) (init_good _ _ _) (init_tight _ _ _) hclock
    rw [List.append_nil] at htight
    obtain ⟨ht, sec, a, h1, h2, hm, hl⟩ := check_complete _ _ _ hgood.stepsEq htight tChk loadAt f t (le_refl _) hc
    exact ⟨ht, sec, a, htight.src sec a hm, h1, h2, hl⟩
  · rintro ⟨ht, sec, tAt, hev, h1, h2, hl⟩
    obtain ⟨a, ha, hle⟩ := hgood.hist sec tAt hev (le_trans (edge_le_clamp f tChk) h1)
    exact check_sound_clamp _ _ _ hgood tChk loadAt f t sec a (le_refl _) ht h1 h2 ha
      (le_trans hl (Int.add_le_add_right hle _))

/-- C24, "otherwise it is reloaded": an invalidated second in range (inside the window, not older than the load
    start minus the linger) makes the lookup answer `stale`, never `served`. -/
theorem invalidated_is_reloaded (maxSize off : Int) (ops : List Op) (key : Nat) (f t tLru tChk : Int) (cr : CRows)
    (hclock : EdgesLe ops (edgeSec tChk))
    (hcached : lookupRows (run (init maxSize off) ops) key f t = some cr)
    (sec tAt : Int) (hev : (sec, tAt) ∈ events ops) (h1 : f ≤ sec) (h2 : sec ≤ t)
    (hmut : beforeEdge sec tChk = false) (hl : cr.loadedAt ≤ tAt + invalidateLingerNs) :
    (loadCached (run (init maxSize off) ops) key f t tLru tChk).2 = .stale :=
  (loadCached_cached _ key f t tLru tChk cr hcached).1.mpr
    ((reach_check_iff maxSize off ops tChk cr.loadedAt f t hclock).mpr ⟨beforeEdge_mono sec t tChk h2 hmut,
      sec, tAt, hev, clamp_le_of_mutable f sec tChk h1 hmut, h2, hl⟩)

/-- C24, first sentence. For EVERY history `ops` (arbitrary keys, ranges, clock readings, eviction and gc choices):
    if a lookup of `(key, [f,t])` with clock reading `tChk` is served from the cache, the served rows are a stored
    pair `cr` whose load-start time `cr.loadedAt` is later than `tAt + linger` for every invalidation `(sec, tAt)`
    of the history with `sec` in the range and inside the mutable window at `tChk`.
    `hclock`: the lookup's clock is not behind the clock of an earlier invalidate call (at second granularity of
    the gc edge); a monotone clock implies it (`served_fresh_monotone`). -/
theorem served_fresh (maxSize off : Int) (ops : List Op) (key : Nat) (f t tLru tChk : Int) (n gen : Nat)
    (hserved : (loadCached (run (init maxSize off) ops) key f t tLru tChk).2 = .served n gen)
    (hclock : EdgesLe ops (edgeSec tChk)) :
    ∃ cr, lookupRows (run (init maxSize off) ops) key f t = some cr ∧ cr.n = n ∧ cr.gen = gen ∧
      ∀ sec tAt, (sec, tAt) ∈ events ops → f ≤ sec → sec ≤ t → beforeEdge sec tChk = false →
        tAt + invalidateLingerNs < cr.loadedAt := by
  cases hl : lookupRows (run (init maxSize off) ops) key f t with
  | none =>
    rw [loadCached_snd, hl] at hserved
    cases hserved
  | some cr =>
    rw [loadCached_snd, hl] at hserved
    simp only at hserved
    split at hserved
    · rename_i hc
      injection hserved with e1 e2
      refine ⟨cr, rfl, e1, e2, fun sec tAt hev h1 h2 hmut => not_le.mp fun hcon => ?_⟩
      have hst := (loadCached_cached _ key f t tLru tChk cr hl).1.mp
        (invalidated_is_reloaded maxSize off ops key f t tLru tChk cr hclock hl sec tAt hev h1 h2 hmut hcon)
      rw [hc] at hst
      cases hst
    · cases hserved

/-- the same with the clock hypothesis in its natural form: no earlier invalidate call read a later clock -/
theorem served_fresh_monotone (maxSize off : Int) (ops : List Op) (key : Nat) (f t tLru tChk : Int) (n gen : Nat)
    (hserved : (loadCached (run (init maxSize off) ops) key f t tLru tChk).2 = .served n gen)
    (hmono : ∀ tAt tFrom secs dels, Op.invalidate tAt tFrom secs dels ∈ ops → tFrom ≤ tChk) :
    ∃ cr, lookupRows (run (init maxSize off) ops) key f t = some cr ∧ cr.n = n ∧ cr.gen = gen ∧
      ∀ sec tAt, (sec, tAt) ∈ events ops → f ≤ sec → sec ≤ t → beforeEdge sec tChk = false →
        tAt + invalidateLingerNs < cr.loadedAt :=
  served_fresh maxSize off ops key f t tLru tChk n gen hserved
    (fun a b c d hm => edgeSec_mono _ _ (hmono a b c d hm))

/-- C24, second sentence: a cached range that ends before the mutable window is served as stored. -/
theorem immutable_served (s : State) (key : Nat) (f t tLru tChk : Int) (cr : CRows)
    (hcached : lookupRows s key f t = some cr) (him : beforeEdge t tChk = true) :
    (loadCached s key f t tLru tChk).2 = .served cr.n cr.gen := by
  have hc : checkInvalidation s.levels s.off tChk cr.loadedAt f t = true := if_pos him
  rw [loadCached_snd, hcached]
  exact if_pos hc

/-- C24 two-sided. For EVERY history: a cached range is reported stale (and then reloaded by get) IF AND ONLY IF
    it does not end before the mutable window and some second of the scanned range `[max(from, edge second), to]`
    was invalidated, in this history, at a clock `tAt` with `loadedAt ≤ tAt + linger`. The witness second lies
    inside the range itself: no coarse-bucket over-invalidation. -/
theorem stale_iff (maxSize off : Int) (ops : List Op) (key : Nat) (f t tLru tChk : Int) (cr : CRows)
    (hclock : EdgesLe ops (edgeSec tChk))
    (hcached : lookupRows (run (init maxSize off) ops) key f t = some cr) :
    (loadCached (run (init maxSize off) ops) key f t tLru tChk).2 = .stale ↔
      (beforeEdge t tChk = false ∧ ∃ sec tAt, (sec, tAt) ∈ events ops ∧ clampFrom f tChk ≤ sec ∧ sec ≤ t ∧
        cr.loadedAt ≤ tAt + invalidateLingerNs) :=
  (loadCached_cached _ key f t tLru tChk cr hcached).1.trans (reach_check_iff maxSize off ops tChk cr.loadedAt f t hclock)

/-- the same, read from the serving side: served ⟺ outside the window or no late invalidation in range -/
theorem served_iff (maxSize off : Int) (ops : List Op) (key : Nat) (f t tLru tChk : Int) (cr : CRows)
    (hclock : EdgesLe ops (edgeSec tChk))
    (hcached : lookupRows (run (init maxSize off) ops) key f t = some cr) :
    (loadCached (run (init maxSize off) ops) key f t tLru tChk).2 = .served cr.n cr.gen ↔
      (beforeEdge t tChk = true ∨ ∀ sec tAt, (sec, tAt) ∈ events ops → clampFrom f tChk ≤ sec → sec ≤ t →
        tAt + invalidateLingerNs < cr.loadedAt) := by
  have hc := loadCached_cached (run (init maxSize off) ops) key f t tLru tChk cr hcached
  -- served ⟺ not stale; the right side is the negation of `stale_iff`'s
  rw [hc.2, ← hc.1, stale_iff maxSize off ops key f t tLru tChk cr hclock hcached, not_and_or, Bool.not_eq_false]
  simp only [not_exists, not_and, not_le]

/-- provenance: rows and load time are stored together, by one store section of `L` -/
def Prov (s : State) (L : List Op) : Prop :=
  ∀ e ∈ s.cache, ∀ cr ∈ e.rows, ∃ tLru ch, Op.store e.key tLru cr ch ∈ L

theorem step_prov (s : State) (L : List Op) (op : Op) (hop : op ∈ L) (h : Prov s L) : Prov (step s op) L :=
  step_entries (fun e => ∀ cr ∈ e.rows, ∃ tLru ch, Op.store e.key tLru cr ch ∈ L) s op
    (fun e t he => he)
    (fun k cr hcr => by simp at hcr)
    (fun key tLru cr ch hop' e hk he cr' hcr' => by
      simp only [putEntry, putRange, List.mem_cons, List.mem_filter] at hcr'
      rcases hcr' with rfl | hcr'
      · subst hk hop'
        exact ⟨tLru, ch, hop⟩
      · exact he cr' hcr'.1)
    h

/-- whatever a lookup finds for `(key, [f,t])` — rows (n, gen) together with their loadedAt — was put there by
    one store section of the history for exactly that key and range ("served as loaded"; a load of another
    range or key can never refresh it) -/
theorem served_rows_stored_by_load (maxSize off : Int) (ops : List Op) (key : Nat) (f t : Int) (cr : CRows)
    (h : lookupRows (run (init maxSize off) ops) key f t = some cr) :
    cr.tFrom = f ∧ cr.tTo = t ∧ ∃ tLru ch, Op.store key tLru cr ch ∈ ops := by
  have hp : Prov (run (init maxSize off) ops) ops :=
    run_inv (fun s => Prov s ops) ops (fun s op hop hs => step_prov s ops op hop hs) _
      (by intro e he; simp [init] at he)
  unfold lookupRows at h
  split at h
  · simp at h
  · rename_i e he
    obtain ⟨hmem, hkey⟩ := findEntry_mem _ _ _ he
    obtain ⟨hr, h1, h2⟩ := findRows_mem _ _ _ _ h
    obtain ⟨a, b, hm⟩ := hp e hmem cr hr
    exact ⟨h1, h2, a, b, by simpa [hkey] using hm⟩

def exInval : Op := .invalidate 200000000000000 200000000000000 [37000] [[], [], []]
def exRows (la : Int) : CRows := { tFrom := 30000, tTo := 45000, n := 2, gen := 7, loadedAt := la }
/-- second 37000 (inside the hour bucket 36000, strictly inside the range 30000..45000, 9800 s inside the
    mutable window) is invalidated at clock 200000 s; then rows loaded at `la` are stored -/
def exOps (la : Int) : List Op := [exInval, .store 1 200020000000000 (exRows la) []]

/-- load started 1 ns after invalidation + linger: served (hypotheses of `served_fresh` are satisfiable and its
    conclusion is about a real event) -/
example : (loadCached (run (init 10 0) (exOps 200015000000001)) 1 30000 45000 200030000000000 200030000000000).2
    = .served 2 7 := by decide +kernel
example : EdgesLe (exOps 200015000000001) (edgeSec 200030000000000) := by
  intro a b c d hm
  simp [exOps, exInval] at hm
  obtain ⟨_, rfl, _, _⟩ := hm
  decide
example : (37000, 200000000000000) ∈ events (exOps 200015000000001) ∧ beforeEdge 37000 200030000000000 = false := by
  decide +kernel
/-- load started exactly at invalidation + linger: reloaded (the coarse hour map catches it) -/
example : (loadCached (run (init 10 0) (exOps 200015000000000)) 1 30000 45000 200030000000000 200030000000000).2
    = .stale := by decide +kernel
/-- the same rows once the range has left the mutable window (clock + 48 h): served as stored -/
example : (loadCached (run (init 10 0) (exOps 200015000000000)) 1 30000 45000 400000000000000 400000000000000).2
    = .served 2 7 := by decide +kernel
/-- The clock hypothesis of `served_fresh` is necessary for the code as it is. History: second 38700 is
    invalidated at clock A = 200000 s; rows for 33000..43300 that were loaded 1 ns BEFORE that are stored; a later
    invalidate call at clock 210600 s garbage-collects the hour key 36000 (< its edge 37800) but keeps second 38700;
    then a lookup whose clock reads 200030 s (the wall clock stepped back ~3 h) scans the hour map, finds no
    hour 36000 and serves the stale rows. With a clock that does not step back the lookup is `stale`. -/
def backOps : List Op :=
  [.invalidate 200000000000000 200000000000000 [38700] [[], [], []],
   .store 1 200001000000000 { tFrom := 33000, tTo := 43300, n := 1, gen := 1, loadedAt := 199999999999999 } [],
   .invalidate 210600000000000 210600000000000 [] [[36000], [], []]]

/-- on `backOps`: served with the stepped-back clock although the event is in the history, in the window and late
    enough; the gc deletion is one the real loop can make; with a clock that did not step back the answer is `stale` -/
theorem clock_hypothesis_needed :
    (loadCached (run (init 10 0) backOps) 1 33000 43300 200030000000000 200030000000000).2 = .served 1 1 ∧
    (38700, 200000000000000) ∈ events backOps ∧ beforeEdge 38700 200030000000000 = false ∧
    (199999999999999 : Int) ≤ 200000000000000 + invalidateLingerNs ∧
    invalidateLegal (run (init 10 0) (backOps.take 2)) 210600000000000 210600000000000 [] [[36000], [], []] = true ∧
    (loadCached (run (init 10 0) backOps) 1 33000 43300 210700000000000 210700000000000).2 = .stale := by
  decide +kernel

/-- In every reachable state, whatever `invalidateLocked` deletes (any sampled subset — even an illegal one) does
    not change the answer of a lookup made right after the call whose clock is not behind the invalidate call's clock:
    the call with deletions `dels` and the same call without any deletion give the same lookup result. -/
theorem gc_never_changes_answers (maxSize off : Int) (ops : List Op) (tAt tFrom : Int) (secs : List Int)
    (dels : List (List Int)) (key : Nat) (f t tLru tChk : Int) (hclock : edgeSec tFrom ≤ edgeSec tChk) :
    (loadCached (invalidate (run (init maxSize off) ops) tAt tFrom secs dels) key f t tLru tChk).2 =
    (loadCached (invalidate (run (init maxSize off) ops) tAt tFrom secs []) key f t tLru tChk).2 := by
  have hst := run_inv (fun s => s.levels.map (·.1) = steps) ops (fun s op _ h => step_stepsEq s op h) (init maxSize off)
    init_levels.1
  generalize run (init maxSize off) ops = s at *
  have hpos := levels_pos _ ((updateAll_fst s.off tAt secs s.levels).trans hst)
  have hchk : ∀ ds loadAt, checkInvalidation (gcLevels (updateAll s.levels s.off tAt secs) (edgeSec tFrom) ds) s.off tChk loadAt f t
      = checkInvalidation (updateAll s.levels s.off tAt secs) s.off tChk loadAt f t := by
    intro ds loadAt
    unfold checkInvalidation
    split
    · rfl
    · exact checkLevels_gc s.off loadAt (edgeSec tFrom) _ ds hpos _ t (le_trans hclock (edge_le_clamp f tChk))
  -- `invalidate` leaves the cache alone, so both lookups find the same rows; only the check differs
  rw [loadCached_snd, loadCached_snd]
  simp only [invalidate, hchk]
  rfl

/-- hypotheses of `stale_iff` / `served_iff` hold in a concrete history, and both sides of the iff occur -/
example : lookupRows (run (init 10 0) (exOps 200015000000000)) 1 30000 45000 = some (exRows 200015000000000) := by decide +kernel
example : beforeEdge 45000 200030000000000 = false ∧ (37000, 200000000000000) ∈ events (exOps 200015000000000) ∧
    clampFrom 30000 200030000000000 ≤ 37000 := by decide +kernel

/-- `gc_never_changes_answers`: a real deletion (hour key 36000, legal for the code) and the necessity of its clock
    hypothesis: the same deletion changes the answer of a lookup whose clock stepped back behind the gc edge -/
example : (loadCached (invalidate (run (init 10 0) (backOps.take 2)) 210600000000000 210600000000000 [] [[36000], [], []])
      1 33000 43300 200030000000000 200030000000000).2 = .served 1 1 ∧
    (loadCached (invalidate (run (init 10 0) (backOps.take 2)) 210600000000000 210600000000000 [] [])
      1 33000 43300 200030000000000 200030000000000).2 = .stale ∧
    ¬ (edgeSec 210600000000000 ≤ edgeSec 200030000000000) := by decide +kernel

/-- every store of the history loads at most `N` rows -/
def RowsLe (ops : List Op) (N : Nat) : Prop := ∀ key tLru cr ch, Op.store key tLru cr ch ∈ ops → cr.n ≤ N

theorem step_load_bound (s : State) (op : Op) (N : Nat) (h : load s ≤ s.maxSize + 1 + (N : Int))
    (hop : ∀ key tLru cr ch, op = .store key tLru cr ch → cr.n ≤ N) :
    load (step s op) ≤ s.maxSize + 1 + (N : Int) :=
  step_cases (fun s' => load s' ≤ s.maxSize + 1 + (N : Int)) s op (fun _ _ _ _ h' => h')
    (fun k t h' => by
      unfold load setLru
      simp only [List.length_map]
      exact h')
    (fun s' k h' => le_trans (evictOne_load_le s' k) h')
    (fun s' key tLru cr ch e hn hm _ => by
      have h1 := insertRows_bound s' key tLru cr hn
      have h2 : (cr.n : Int) ≤ N := Int.ofNat_le.mpr (hop key tLru cr ch e)
      rw [hm] at h1
      omega) h

theorem run_maxSize (ops : List Op) (s : State) : (run s ops).maxSize = s.maxSize :=
  run_inv (fun s' => s'.maxSize = s.maxSize) ops (fun s' op _ h => (step_maxSize s' op).trans h) s rfl

/-- C24 size bound, every history: whatever the sequence of requests (any eviction choices, also ones the real
    loop cannot make), the accounted size never exceeds approxMaxSize + 1 + (largest single load) -/
theorem cache_within_bound (maxSize off : Int) (N : Nat) (ops : List Op) (hpos : 0 ≤ maxSize) (hr : RowsLe ops N) :
    load (run (init maxSize off) ops) ≤ maxSize + 1 + (N : Int) := by
  have h := run_inv (fun s => load s ≤ s.maxSize + 1 + (N : Int)) ops
    (fun s op hop h => by
      rw [step_maxSize s op]
      exact step_load_bound s op N h (fun k tl cr ch e => hr k tl cr ch (e ▸ hop)))
    (init maxSize off) (Int.add_nonneg (Int.add_nonneg hpos (by decide)) (Int.natCast_nonneg N))
  rwa [run_maxSize] at h

/-- the accounted size can exceed approxMaxSize: approxMaxSize 3, a 2-row load into the empty cache gives 4
    (the bound of `cache_within_bound` is 3 + 1 + 2) -/
example : load (run (init 3 0) (exOps 0)) = 4 := by decide +kernel

/-- `c.size` is exactly Σ (rowsSize + len(rows)) over the entries; keys are distinct; the ranges of an entry
    are distinct (they are Go map keys) -/
structure Exact (s : State) : Prop where
  sizeEq : s.size = costSum s.cache
  nodup : (s.cache.map (·.key)).Nodup
  ranges : ∀ e ∈ s.cache, RangesNodup e.rows

theorem init_exact (maxSize off : Int) : Exact (init maxSize off) :=
  ⟨by simp [init, costSum], by simp [init], by intro e he; simp [init] at he⟩

theorem evictOne_exact (s : State) (k : Nat) (h : Exact s) : Exact (evictOne s k) := by
  unfold evictOne; split
  · exact h
  · rename_i e he
    refine ⟨?_, ?_, ?_⟩
    · simp only; rw [costSum_filter_eq s.cache k e h.nodup he, h.sizeEq]
    · exact List.Nodup.sublist (List.Sublist.map _ List.filter_sublist) h.nodup
    · intro x hx; exact h.ranges x (List.mem_filter.mp hx).1

theorem insertRows_exact (s : State) (key : Nat) (tLru : Int) (cr : CRows) (h : Exact s) :
    Exact (insertRows s key tLru cr) := by
  -- `addKey` adds at most a cost-0 entry under an absent key; then exactly one entry changes (distinct keys), by
  -- `sizeDelta` (distinct ranges)
  have hr := insertRows_entries (fun e => RangesNodup e.rows) s key tLru cr List.nodup_nil
    (fun e _ he => putRange_nodup _ _ he) h.ranges
  obtain ⟨e, he, hi⟩ := insertRows_eq s key tLru cr
  rw [hi] at hr ⊢
  have hadd : costSum (addKey s.cache key) = costSum s.cache ∧ ((addKey s.cache key).map (·.key)).Nodup := by
    rcases addKey_eq s.cache key with ⟨_, _, h'⟩ | ⟨hnone, h'⟩ <;> rw [h']
    · exact ⟨rfl, h.nodup⟩
    · refine ⟨by simp [costSum, entryCost], ?_⟩
      rw [List.map_append, List.nodup_append]
      refine ⟨h.nodup, by simp, ?_⟩
      intro a ha b hb
      simp at hb
      obtain ⟨e, he, rfl⟩ := List.mem_map.mp ha
      rw [hb]; exact findEntry_none s.cache key hnone e he
  have hrg : RangesNodup e.rows := by
    rcases mem_addKey _ _ _ (findEntry_mem _ _ _ he).1 with hm | hm
    · exact h.ranges e hm
    · rw [hm]; exact List.nodup_nil
  refine ⟨?_, ?_, hr⟩
  · simp only
    rw [costSum_update _ key (fun x => putEntry x tLru cr) e hadd.2 he, putEntry_cost_eq e tLru cr hrg, hadd.1,
      h.sizeEq]
    omega
  · simp only [List.map_map]
    have : ((fun (x : Entry) => x.key) ∘ fun x => if x.key = key then putEntry x tLru cr else x) = (fun x => x.key) := by
      funext x; simp only [Function.comp]; split <;> rfl
    rw [this]; exact hadd.2

theorem step_exact (s : State) (op : Op) (h : Exact s) : Exact (step s op) :=
  step_cases Exact s op (fun _ _ _ _ h' => ⟨h'.sizeEq, h'.nodup, h'.ranges⟩)
    (fun k t h' => by
      have hcost := setLru_map entryCost (fun _ _ => rfl) s.cache k t
      have hkeys := setLru_map (·.key) (fun _ _ => rfl) s.cache k t
      refine ⟨?_, ?_, setLru_entries _ _ k t (fun e t he => he) h'.ranges⟩
      · simp only [costSum, hcost]
        exact h'.sizeEq
      · simp only [hkeys]
        exact h'.nodup)
    evictOne_exact (fun s' key tLru cr _ _ _ _ h' => insertRows_exact s' key tLru cr h') h

theorem run_exact : ∀ (ops : List Op) (s : State), Exact s → Exact (run s ops) :=
  fun ops s h => run_inv Exact ops (fun s op _ => step_exact s op) s h

/-- The `k == ""` corner of evictLocked (`return 0` without deleting anything, which would make the loop in
    get spin forever under the lock) needs an EMPTY cache (real keys are never ""), and with exact accounting and
    approxMaxSize > 0 the loop condition is false on an empty cache: the corner is unreachable. -/
theorem needEvict_nonempty (s : State) (h : Exact s) (hpos : 0 < s.maxSize) (hn : needEvict s = true) :
    s.cache ≠ [] := by
  intro he
  have := h.sizeEq
  unfold needEvict at hn
  simp [he, costSum] at this hn
  omega

theorem evictLoop_no_hang : ∀ (ch : List Nat) (s : State), Exact s → 0 < s.maxSize → (evictLoop s ch).2 ≠ .hang := by
  intro ch s h hpos hh
  obtain ⟨hn, he⟩ := (evictLoop_flag ch s).2 hh
  exact needEvict_nonempty _ (evictLoop_inv Exact evictOne_exact ch s h)
    (by rw [(evictLoop_frame ch s).maxSize]; exact hpos) hn he

/-- the keys a picking strategy (= a Go map order and sample) makes the loop evict -/
def picks (pick : State → Nat) : Nat → State → List Nat
  | 0, _ => []
  | fuel + 1, s => if needEvict s then pick s :: picks pick fuel (evictOne s (pick s)) else []

/-- in a state with distinct keys evictLocked can always take a key: one with the smallest lru -/
theorem legal_pick_exists (s : State) (h : Exact s) (hne : s.cache ≠ []) : ∃ k, evictLegal s.cache k = true := by
  exact ⟨_, min_lru_legal s.cache (s.cache.minOn (·.lru) hne) h.nodup List.minOn_mem
    (fun _ hx => List.apply_minOn_le_of_mem hx)⟩

theorem exists_legal_strategy :
    ∃ pick : State → Nat, ∀ s' : State, Exact s' → s'.cache ≠ [] → evictLegal s'.cache (pick s') = true := by
  have h : ∀ s : State, ∃ k, Exact s → s.cache ≠ [] → evictLegal s.cache k = true := by
    intro s
    by_cases hs : Exact s ∧ s.cache ≠ []
    · obtain ⟨k, hk⟩ := legal_pick_exists s hs.1 hs.2
      exact ⟨k, fun _ _ => hk⟩
    · exact ⟨0, fun h1 h2 => absurd ⟨h1, h2⟩ hs⟩
  exact Classical.skolem.mp h

/-- Termination. If `pick` names a key evictLocked can take in every `Exact` state (legality needs its distinct keys;
    such `pick`s exist: `exists_legal_strategy`), the loop `for size+len >= approxMaxSize` ends normally after at most
    len(cache) rounds. -/
theorem evictLoop_ends (pick : State → Nat)
    (hpick : ∀ s' : State, Exact s' → s'.cache ≠ [] → evictLegal s'.cache (pick s') = true) :
    ∀ (fuel : Nat) (s : State), Exact s → 0 < s.maxSize → s.cache.length ≤ fuel →
      (evictLoop s (picks pick fuel s)).2 = .ok ∧ (picks pick fuel s).length ≤ s.cache.length := by
  intro fuel
  induction fuel with
  | zero =>
    intro s h hpos hlen
    have hn : ¬ needEvict s = true := fun hx =>
      needEvict_nonempty s h hpos hx (List.eq_nil_of_length_eq_zero (Nat.le_zero.mp hlen))
    rw [picks, evictLoop, if_neg hn]
    exact ⟨rfl, Nat.zero_le _⟩
  | succ fuel ih =>
    intro s h hpos hlen
    rw [picks]
    by_cases hn : needEvict s = true
    · have hleg := hpick s h (needEvict_nonempty s h hpos hn)
      rw [if_pos hn, evictLoop, if_pos hn, if_pos hleg]
      obtain ⟨e, he⟩ : ∃ e, findEntry s.cache (pick s) = some e := by
        unfold evictLegal at hleg
        cases hf : findEntry s.cache (pick s) with
        | none => simp [hf] at hleg
        | some e => exact ⟨e, rfl⟩
      -- every round deletes an entry
      have hlt := evictOne_length_lt s (pick s) e he
      have := ih (evictOne s (pick s)) (evictOne_exact s _ h) (by rw [(evictOne_frame s _).maxSize]; exact hpos)
        (Nat.le_of_lt_succ (Nat.lt_of_lt_of_le hlt hlen))
      exact ⟨this.1, Nat.succ_le_of_lt (Nat.lt_of_le_of_lt this.2 hlt)⟩
    · rw [if_neg hn, evictLoop, if_neg hn]
      exact ⟨rfl, Nat.zero_le _⟩

/-- `evictLoop_ends` for a `pick` that is legal in EVERY state with a non-empty cache. There is no such `pick`: in
    the cache `[{key 0, lru 5}, {key 0, lru 1}]` no key is legal (`findEntry` finds the first entry, the other
    one has a smaller lru, and `2 - evictionSample = 0`). -/
theorem evictLoop_terminates (pick : State → Nat)
    (hpick : ∀ s' : State, s'.cache ≠ [] → evictLegal s'.cache (pick s') = true) :
    ∀ (fuel : Nat) (s : State), Exact s → 0 < s.maxSize → s.cache.length ≤ fuel →
      (evictLoop s (picks pick fuel s)).2 = .ok ∧ (picks pick fuel s).length ≤ s.cache.length :=
  evictLoop_ends pick (fun s' _ => hpick s')

theorem store_completes_with (maxSize off : Int) (hpos : 0 < maxSize) (ops : List Op) (pick : State → Nat)
    (hpick : ∀ s' : State, Exact s' → s'.cache ≠ [] → evictLegal s'.cache (pick s') = true)
    (key : Nat) (tLru : Int) (cr : CRows) :
    let s := run (init maxSize off) ops
    let ch := picks pick s.cache.length s
    (store s key tLru cr ch).2 = .ok ∧ load (store s key tLru cr ch).1 ≤ maxSize + 1 + (cr.n : Int) := by
  intro s ch
  have hex : Exact s := run_exact ops _ (init_exact maxSize off)
  have hms : s.maxSize = maxSize := run_maxSize ops _
  have hterm := (evictLoop_ends pick hpick s.cache.length s hex (by rw [hms]; exact hpos) (le_refl _)).1
  rw [store_eq, if_pos hterm, ← hms, ← (evictLoop_frame ch s).maxSize]
  exact ⟨rfl, insertRows_bound _ key tLru cr ((evictLoop_flag ch s).1 hterm)⟩

/-- C24 size bound with nothing assumed about the loop: in every reachable state of a cache created with
    approxMaxSize > 0 there are eviction choices, each one evictLocked can make, with which the store section
    completes (flag ok), and the accounted size is then ≤ approxMaxSize + 1 + rows just loaded. -/
theorem store_completes (maxSize off : Int) (hpos : 0 < maxSize) (ops : List Op) (key : Nat) (tLru : Int) (cr : CRows) :
    ∃ ch, (store (run (init maxSize off) ops) key tLru cr ch).2 = .ok ∧
      load (store (run (init maxSize off) ops) key tLru cr ch).1 ≤ maxSize + 1 + (cr.n : Int) := by
  obtain ⟨pick, hpick⟩ := exists_legal_strategy
  exact ⟨_, store_completes_with maxSize off hpos ops pick hpick key tLru cr⟩

/-- `store_completes_with` for a `pick` as in `evictLoop_terminates`, of which there is none; the size bound without
    a hypothesis on the loop is `store_completes`. -/
theorem size_bounded (maxSize off : Int) (hpos : 0 < maxSize) (ops : List Op) (pick : State → Nat)
    (hpick : ∀ s' : State, s'.cache ≠ [] → evictLegal s'.cache (pick s') = true)
    (key : Nat) (tLru : Int) (cr : CRows) :
    let s := run (init maxSize off) ops
    let ch := picks pick s.cache.length s
    (store s key tLru cr ch).2 = .ok ∧ load (store s key tLru cr ch).1 ≤ maxSize + 1 + (cr.n : Int) :=
  store_completes_with maxSize off hpos ops pick (fun s' _ => hpick s') key tLru cr

/-- a concrete run: key 1 is legal in the state after `exOps 0`, and the store section with that choice completes -/
example : evictLegal (run (init 3 0) (exOps 0)).cache 1 = true := by decide +kernel
example : (store (run (init 3 0) (exOps 0)) 2 5 { tFrom := 1, tTo := 2, n := 1, gen := 9, loadedAt := 4 }
    (picks (fun _ => 1) 1 (run (init 3 0) (exOps 0)))).2 = .ok := by decide +kernel
/-- the corner itself: with approxMaxSize = 0 the model reports the spin (`hang`) on the very first store -/
example : (store (init 0 0) 1 5 { tFrom := 1, tTo := 2, n := 1, gen := 9, loadedAt := 4 } []).2 = .hang := by decide +kernel

/-- `rowsSize` only grows while replaced ranges are dropped, so it bounds the rows an entry holds -/
theorem step_rows (s : State) (op : Op) (h : ∀ e ∈ s.cache, rowsTotal e.rows ≤ (e.rowsSize : Int)) :
    ∀ e ∈ (step s op).cache, rowsTotal e.rows ≤ (e.rowsSize : Int) :=
  step_entries (fun e => rowsTotal e.rows ≤ (e.rowsSize : Int)) s op (fun e t he => he) (fun k => by simp [rowsTotal])
    (fun key tLru cr ch _ e _ he => by
      have := rowsTotal_filter_le e.rows (fun x => !isRange x cr.tFrom cr.tTo)
      simp only [putEntry, putRange, rowsTotal, List.map_cons, List.sum_cons] at this he ⊢
      push_cast
      omega) h

/-- C24, last clause, every history: what the cache really holds (keys + ranges + rows, counted from the
    entries themselves) never exceeds the accounted size, hence stays ≤ approxMaxSize + 1 + largest load. -/
theorem cache_content_bounded (maxSize off : Int) (N : Nat) (ops : List Op) (hpos : 0 ≤ maxSize) (hr : RowsLe ops N) :
    actual (run (init maxSize off) ops) ≤ maxSize + 1 + (N : Int) := by
  have hrows := run_inv (fun s => ∀ e ∈ s.cache, rowsTotal e.rows ≤ (e.rowsSize : Int)) ops
    (fun s op _ h => step_rows s op h) (init maxSize off) (by intro e he; simp [init] at he)
  have h1 := sum_actual_le _ hrows
  have h2 := (run_exact ops _ (init_exact maxSize off)).sizeEq
  have h3 := cache_within_bound maxSize off N ops hpos hr
  unfold actual; unfold load at h3
  omega

/-- Precondition under which the model's `Int` arithmetic IS pcache.go's int64 / time.Time arithmetic:
    clock readings in [0, 2^62] ns (1970..2116), seconds within ±2^40, utcOffset within ±2^31. Then
    (a) roundTime computed with wrapping int64 operations and lod.go's truncating mathDiv equals the model's;
    (b) `at + linger`, `now.Add(invalidateFrom)`, its `.Unix()`, `time.Unix(sec,0)` do not overflow;
    (c) the loop variables of checkInvalidationMapLocked stay in int64;
    (d) `time.Unix(sec,0).Before(T)` is the nanosecond comparison the model uses.
    These are the listed expressions, not every operation of pcache.go; `loadAt` occurs in no conjunct (it is only
    compared with `at + linger`). That the accounted size stays in int64 is `size_in_int64`. -/
theorem int64_preconditions (now tAt loadAt sec f t off : Int) (hnow : ClockOK now) (hat : ClockOK tAt)
    (hla : ClockOK loadAt) (hsec : SecOK sec) (hf : SecOK f) (ht : SecOK t) (ho : OffOK off) :
    (∀ st ∈ steps, roundTime64 sec st off = roundTime sec st off ∧ I64 (roundTime sec st off)) ∧
    I64 (tAt + invalidateLingerNs) ∧ I64 (immutableNs now) ∧ I64 (edgeSec now) ∧ SecOK (edgeSec now) ∧
    I64 (sec + 62135596800) ∧
    (∀ st ∈ steps, I64 (roundTime f st off + st) ∧ I64 (roundTime t st off + st) ∧ I64 (t + st) ∧
      I64 (fromNext (roundTime f st off) st t) ∧ I64 (toPrev (roundTime t st off) f)) ∧
    (beforeEdge sec now = true ↔
      (sec < immutableNs now / 1000000000 ∨ (sec = immutableNs now / 1000000000 ∧ 0 < immutableNs now % 1000000000))) := by
  obtain ⟨c1, c2, c3⟩ := consts_in_range
  have h := int64_safe now tAt sec hnow hat hsec c1 c2
  exact ⟨fun st hst => roundTime64_eq sec st off hsec (c3 st hst) ho, h.1, h.2.1, h.2.2.1, h.2.2.2.1, h.2.2.2.2,
    fun st hst => loop_vars_safe f t st off hf ht (c3 st hst), beforeEdge_lex sec now⟩

theorem size_in_int64 (maxSize off : Int) (N : Nat) (ops : List Op) (hpos : 0 ≤ maxSize)
    (hm : maxSize ≤ 2305843009213693952) (hN : (N : Int) ≤ 2305843009213693952) (hr : RowsLe ops N) :
    I64 (load (run (init maxSize off) ops)) ∧ 0 ≤ (run (init maxSize off) ops).size := by
  have h1 := cache_within_bound maxSize off N ops hpos hr
  have h2 := costSum_nonneg (run (init maxSize off) ops).cache
  have h3 := (run_exact ops _ (init_exact maxSize off)).sizeEq
  unfold load at h1 ⊢
  unfold I64
  omega

/-- the harness' clocks (Unix nanoseconds around 1.65e18..1.75e18 plus at most days) satisfy the precondition -/
example : ClockOK 1750000000000000000 ∧ SecOK 1750000000 ∧ OffOK 356400 := by
  unfold ClockOK SecOK OffOK; omega
/-- mathDiv on a negative, non-divisible argument: Go gives -7/3 = -2 (truncated), corrected to -3 = floor -/
example : goMathDiv (-7) 3 = -3 ∧ Int.tdiv (-7) 3 = -2 := by decide
end SH.C24
