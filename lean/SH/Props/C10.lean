/-
  C10 — Shard and replica routing is deterministic and consistent end to end.

  "For every metric and key, the shard an agent writes to is within the configured shard count, does not depend
   on the event timestamp, and for fixed or by-metric sharding equals the shard the API reads that metric from;
   a secondary shard, when configured, differs from the primary. Each second goes to one primary replica, its
   spare is always a different replica and the two remaining replicas share spare traffic, and the aggregator
   files every accepted second into a bucket it will itself insert at most two seconds later, or into its
   historic queue."

  Model: SH.Model.Routing (tied to /repo by the C10 correspondence, incl. a real Aggregator).

  In order: Agent.shard and its secondary; agent and API; tags_hash and the timestamp (on the real code also checked by
  the direct oracle, signature shard-depends-on-timestamp); replicas; the handler's rounding; the recent window stays a
  run (one tick, then any schedule), the premise of the filing theorems after it; the uint32 wrap; ties to source text.
-/
import SH.Model.Routing
import SH.Gen.C10

namespace SH.C10
open SH.Routing

/-- Agent.shard: the raw shard as it is, or shard 0 with a sharding failure; the secondary is taken against that result -/
theorem agentShard_cases {m : Meta} {km : Int} {hash cnt ns : Nat} {a : AgentShard}
    (h : agentShard m km hash cnt ns = some a) :
    a.shard2 = secondary m a.shard1 ns ∧
      ((a.ok = true ∧ shardRaw m km hash cnt = some (a.shard1, true) ∧ a.shard1 < ns) ∨ (a.ok = false ∧ a.shard1 = 0)) := by
  simp only [agentShard, Option.map_eq_some_iff] at h
  obtain ⟨⟨s, ok⟩, hr, rfl⟩ := h
  unfold agentShardOf
  split
  · exact ⟨rfl, .inr ⟨rfl, rfl⟩⟩
  · rename_i ho
    simp [overflow] at ho
    exact ⟨rfl, .inl ⟨rfl, by rw [hr, ho.1], ho.2⟩⟩

theorem agentShard_of_raw {m : Meta} {km : Int} {hash cnt ns s : Nat}
    (hr : shardRaw m km hash cnt = some (s, true)) (hs : s < ns) :
    agentShard m km hash cnt ns = some ⟨s, true, secondary m s ns⟩ := by
  simp [agentShard, hr, agentShardOf, overflow, hs]

/-- "the shard an agent writes to is within the configured shard count", whatever the metric says.  Here the count
    is `ns` = len(s.Shards); elsewhere (`count` in the model, `cnt`) it is the by-metric count passed to sharding.Shard. -/
theorem shard_lt_count (m : Meta) (km : Int) (hash cnt ns : Nat) (hns : 0 < ns) (a : AgentShard)
    (h : agentShard m km hash cnt ns = some a) : a.shard1 < ns := by
  obtain ⟨_, ⟨_, _, h⟩ | ⟨_, h⟩⟩ := agentShard_cases h
  · exact h
  · rwa [h]

example : agentShard ⟨0, .byMetric, 0, -7, 0⟩ (-7) 0 5 8 = some ⟨4, true, none⟩ := by decide +kernel

theorem secondary_some {m : Meta} {s1 ns s2 : Nat} (h : secondary m s1 ns = some s2) : s2 ≠ s1 ∧ s2 < ns := by
  simp [secondary] at h
  obtain ⟨_, ⟨h1, h2⟩, rfl⟩ := h
  exact ⟨h2, h1⟩

/-- "a secondary shard, when configured, differs from the primary" (and is a real shard) -/
theorem shard2_ne_shard1 (m : Meta) (km : Int) (hash cnt ns : Nat) (a : AgentShard) (s2 : Nat)
    (h : agentShard m km hash cnt ns = some a) (h2 : a.shard2 = some s2) : s2 ≠ a.shard1 ∧ s2 < ns :=
  secondary_some ((agentShard_cases h).1 ▸ h2)

example : agentShard ⟨3, .fixed, 0, 1, 5⟩ 1 0 8 8 = some ⟨2, true, some 4⟩ := by decide +kernel
/-- the same key configured twice yields no secondary -/
example : agentShard ⟨3, .fixed, 0, 1, 3⟩ 1 0 8 8 = some ⟨2, true, none⟩ := by decide +kernel

/-! ### agent ↔ API; the by-metric shard count may be smaller than the number of shards -/

/-- sharding.Shard (agent side) and MetricMetaValue.Shard (API side) compute the same number -/
theorem shardRaw_apiShard (m : Meta) (hash cnt : Nat) (hc : 0 < cnt) (hc' : cnt < u32) (hsh : apiSharded m = true) :
    ∃ s, shardRaw m m.metricID hash cnt = some (s, true) ∧ apiShard m cnt = some (s : Int) := by
  have hcm : cnt % u32 = cnt := Nat.mod_eq_of_lt hc'
  have hne : cnt ≠ 0 := by omega
  unfold shardRaw apiShard
  unfold apiSharded at hsh
  by_cases hfk : m.fixedKey > 0
  · exact ⟨m.fixedKey - 1, by simp [hfk], by simp [hfk]⟩
  · simp only [hfk, ↓reduceIte] at hsh ⊢
    cases hs : m.strategy <;> simp only [hs] at hsh ⊢
    · exact ⟨_, rfl, rfl⟩
    · simp only [hcm, hne, ↓reduceIte]
      exact ⟨_, rfl, rfl⟩
    -- tags_hash, builtin, other: not sharded for the API
    all_goals cases hsh

/-- "for fixed or by-metric sharding [the agent's shard] equals the shard the API reads that metric from", from the
    agent's side: a shard the agent accepted is the one MetricMetaValue.Shard computes (same metric id in key and meta,
    same by-metric count on both sides).  About `apiShard`, before chutil's clamp; agent_shard_eq_api_shard is about
    `apiReadShard`, after it. -/
theorem agent_api_agree (m : Meta) (hash cnt ns : Nat) (hc : 0 < cnt) (hc' : cnt < u32) (a : AgentShard)
    (hsh : apiSharded m = true)
    (h : agentShard m m.metricID hash cnt ns = some a) (hok : a.ok = true) :
    apiShard m cnt = some (a.shard1 : Int) := by
  obtain ⟨_, ⟨_, hr, _⟩ | ⟨hf, _⟩⟩ := agentShard_cases h
  · obtain ⟨s, hs, hapi⟩ := shardRaw_apiShard m hash cnt hc hc' hsh
    rw [hr] at hs
    cases hs
    exact hapi
  · rw [hok] at hf
    cases hf

example : agentShard ⟨0, .byMetric, 0, -7, 0⟩ (-7) 0 5 8 = some ⟨4, true, none⟩ ∧
    apiShard ⟨0, .byMetric, 0, -7, 0⟩ 5 = some 4 := by decide +kernel

/-- The same from the API's side, for every by-metric count ≥ 1 (equal to the number of shards, or below it: cluster
    grown, by-metric metrics pinned to the former shards): the one shard chutil reads (Sharded(), Shard(byMetric) below
    the real shard count) is the shard the agent accepts and writes, also for fixed keys and fixed_shard numbers ≥ the
    by-metric count. -/
theorem agent_shard_eq_api_shard (m : Meta) (hash cnt ns s : Nat) (hc : 1 ≤ cnt) (hc' : cnt < u32)
    (h : apiReadShard m cnt ns = some s) :
    ∃ a, agentShard m m.metricID hash cnt ns = some a ∧ a.ok = true ∧ a.shard1 = s ∧ s < ns := by
  unfold apiReadShard at h
  by_cases hsh : apiSharded m = true
  · obtain ⟨s', hraw, hapi⟩ := shardRaw_apiShard m hash cnt hc hc' hsh
    simp only [hsh, ↓reduceIte, hapi] at h
    split at h
    · cases h
      have hlt : s' < ns := by omega
      exact ⟨_, agentShard_of_raw hraw hlt, rfl, by simp, by simpa using hlt⟩
    · cases h
  · simp [hsh] at h

/-- with 1 ≤ byMetric ≤ shards a by-metric metric is always read from one specific shard (never "all shards") -/
theorem by_metric_reads_one_shard (m : Meta) (cnt ns : Nat) (hc : 1 ≤ cnt) (hcn : cnt ≤ ns) (hc' : cnt < u32)
    (hfk : m.fixedKey = 0) (hst : m.strategy = .byMetric) :
    apiReadShard m cnt ns = some (toU32 m.metricID % cnt) := by
  have hlt : toU32 m.metricID % cnt < ns := Nat.lt_of_lt_of_le (Nat.mod_lt _ hc) hcn
  simp [apiReadShard, apiSharded, apiShard, hfk, hst, Nat.mod_eq_of_lt hc', Nat.ne_of_gt hc]
  -- left: the clamp's test `0 ≤ s < ns` on the Int residue and its way back through `toNat`
  omega

/-- 8 shards, by-metric count 4: metric pinned to the highest shard by key, by fixed_shard number; a by-metric metric -/
example : apiReadShard ⟨8, .byMetric, 0, 5, 0⟩ 4 8 = some 7 ∧
    agentShard ⟨8, .byMetric, 0, 5, 0⟩ 5 0 4 8 = some ⟨7, true, none⟩ := by decide +kernel
example : apiReadShard ⟨0, .fixed, 7, 5, 0⟩ 4 8 = some 7 ∧ agentShard ⟨0, .fixed, 7, 5, 0⟩ 5 0 4 8 = some ⟨7, true, none⟩ := by
  decide +kernel
example : apiReadShard ⟨0, .byMetric, 0, -7, 0⟩ 4 8 = some 1 ∧ agentShard ⟨0, .byMetric, 0, -7, 0⟩ (-7) 0 4 8 = some ⟨1, true, none⟩ := by
  decide +kernel

theorem agentShardV_shards (m : Meta) (km : Int) (hash cnt ns : Nat) :
    agentShardV .shards m km hash cnt ns = agentShard m km hash cnt ns := rfl

/-- comparing the primary shard with the by-metric count instead of len(s.Shards) (`agentShardV .byMetric`) breaks the
    statement exactly there: the API reads shard 7, the agent reports a sharding failure and falls back to shard 0 (the
    same in the smallest case: fixed_shard 1, by-metric count 1, two shards); with equal counts both variants agree -/
example : agentShardV .byMetric ⟨8, .byMetric, 0, 5, 0⟩ 5 0 4 8 = some ⟨0, false, none⟩ ∧
    agentShardV .byMetric ⟨0, .fixed, 1, 0, 0⟩ 0 0 1 2 = some ⟨0, false, none⟩ ∧ apiReadShard ⟨0, .fixed, 1, 0, 0⟩ 1 2 = some 1 ∧
    agentShardV .byMetric ⟨8, .byMetric, 0, 5, 0⟩ 5 0 8 8 = agentShardV .shards ⟨8, .byMetric, 0, 5, 0⟩ 5 0 8 8 := by decide +kernel

/-! ### tags_hash sharding and the event timestamp (xxh3 as data: any function `H` of the hashed bytes) -/

theorem le32_length (n : Nat) : (le32 n).length = 4 := rfl

/-- Key.XXHash hashes `MarshalAppend(key)[4:]`; the four bytes it skips are exactly the little-endian timestamp, so
    the hashed bytes do not change when only the timestamp changes (marshalKey is tied byte for byte to the real
    MarshalAppend by the correspondence op `key`). -/
theorem hashInput_ignores_ts (k : Key) (t : Nat) : hashInput { k with ts := t } = hashInput k := by
  unfold hashInput marshalKey
  exact (List.drop_left' (le32_length t)).trans (List.drop_left' (le32_length k.ts)).symm

/-- "[the shard] does not depend on the event timestamp": for every strategy (tags_hash is where the key hash enters)
    and every hash function. -/
theorem shard_ignores_ts (H : List UInt8 → Nat) (m : Meta) (k : Key) (t cnt ns : Nat) :
    agentShardKey H m { k with ts := t } cnt ns = agentShardKey H m k cnt ns := by
  unfold agentShardKey
  rw [hashInput_ignores_ts]

theorem shardByMappedTags_lt (hash cnt : Nat) (hh : hash < u32 * u32) (hc : 0 < cnt) :
    shardByMappedTags hash cnt < cnt :=
  Nat.div_lt_of_lt_mul (Nat.mul_lt_mul_of_pos_right (Nat.div_lt_of_lt_mul hh) hc)

example : shardRaw ⟨0, .tagsHash, 0, 1, 0⟩ 1 (u32 * u32 - 1) 16 = some (15, true) := by decide +kernel

/-- tags_hash: the agent accepts the shard `(hash >> 32) * count >> 32`, which is below the by-metric count (64-bit
    hash, count not above the number of shards). -/
theorem tags_hash_lt_count (H : List UInt8 → Nat) (hH : ∀ b, H b < u32 * u32) (m : Meta) (hfk : m.fixedKey = 0)
    (hs : m.strategy = .tagsHash) (k : Key) (cnt ns : Nat) (hc : 0 < cnt) (hcn : cnt ≤ ns) :
    ∃ a, agentShardKey H m k cnt ns = some a ∧ a.ok = true ∧
      a.shard1 = shardByMappedTags (H (hashInput k)) cnt ∧ a.shard1 < cnt := by
  have hraw : shardRaw m k.metric (H (hashInput k)) cnt = some (shardByMappedTags (H (hashInput k)) cnt, true) := by
    simp [shardRaw, hfk, hs]
  have hlt := shardByMappedTags_lt (H (hashInput k)) cnt (hH _) hc
  exact ⟨_, agentShard_of_raw hraw (by omega), rfl, rfl, hlt⟩

example : hashInput ⟨1700000000, -7, [5, 0, 9, 0], [[], [0x61]]⟩ = hashInput ⟨1, -7, [5, 0, 9, 0], [[], [0x61]]⟩ ∧
    (marshalKey ⟨1, -7, [5, 0, 9, 0], [[], [0x61]]⟩).take 4 = [1, 0, 0, 0] ∧
    (marshalKey ⟨1700000000, -7, [5, 0, 9, 0], [[], [0x61]]⟩).take 4 ≠ [1, 0, 0, 0] := by decide +kernel
example : agentShardKey (fun b => b.length * 2 ^ 59) ⟨0, .tagsHash, 0, -7, 0⟩ ⟨1, -7, [5], []⟩ 16 16 =
    some ⟨5, true, none⟩ := by decide +kernel

theorem last_seconds (t : Nat) (ht : t < u32) (h : ¬ t + 2 < u32) : t = 4294967294 ∨ t = 4294967295 := by
  unfold u32 at *
  omega

theorem spare_nowrap (t : Nat) (h : t + 2 < u32) : spare t = (primary t + 1 + t % 2) % 3 := by
  unfold spare primary
  rw [Nat.mod_eq_of_lt (show t + 1 + t % 2 < u32 by omega), Nat.add_assoc, Nat.add_assoc, Nat.mod_add_mod]

/-- "Each second goes to one primary replica, its spare is always a different replica" — for every uint32 second,
    including the last two where `timestamp+1+timestamp%2` wraps. -/
theorem spare_ne_primary (t : Nat) (ht : t < u32) : spare t ≠ primary t ∧ spare t < 3 ∧ primary t < 3 := by
  by_cases h : t + 2 < u32
  · rw [spare_nowrap t h]
    unfold primary
    omega
  · rcases last_seconds t ht h with rfl | rfl <;> decide

/-- Agent.getShardReplicaForSecond case by case -/
theorem replicaFor_spec (alive : Nat → Bool) (t : Nat) (ht : t < u32) :
    (alive (primary t) = true → replicaFor alive t = (some (primary t), false)) ∧
    (alive (primary t) = false → alive (spare t) = true →
        replicaFor alive t = (some (spare t), true) ∧ spare t ≠ primary t) ∧
    (alive (primary t) = false → alive (spare t) = false → replicaFor alive t = (none, false)) := by
  refine ⟨?_, ?_, ?_⟩
  · intro h; simp [replicaFor, h]
  · intro h1 h2; exact ⟨by simp [replicaFor, h1, h2], (spare_ne_primary t ht).1⟩
  · intro h1 h2; simp [replicaFor, h1, h2]

example : replicaFor (fun i => i != 1) 4 = (some 2, true) := by decide +kernel

/-- witness: the second of the window whose residue mod 6 is 4p + 3e (4 ≡ 1, 3 ≡ 0 mod 3; 4 ≡ 0, 3 ≡ 1 mod 2) -/
theorem exists_mod3_mod2 (t0 p e : Nat) (hp : p < 3) (he : e < 2) :
    ∃ t, t0 ≤ t ∧ t < t0 + 6 ∧ t % 3 = p ∧ t % 2 = e :=
  ⟨t0 + (4 * p + 3 * e + 6 - t0 % 6) % 6, by omega, by omega, by omega, by omega⟩

/-- "the two remaining replicas share spare traffic": in any 6 consecutive seconds that do not reach the uint32 wrap
    every ordered pair (primary p, spare q ≠ p) occurs … -/
theorem spares_balanced_exists (t0 : Nat) (h0 : t0 + 7 < u32) (p q : Nat) (hp : p < 3) (hq : q < 3) (hpq : p ≠ q) :
    ∃ t, t0 ≤ t ∧ t < t0 + 6 ∧ primary t = p ∧ spare t = q := by
  -- the spare follows the primary on even seconds and precedes it on odd ones: pick the parity that makes q the spare
  obtain ⟨t, h1, h2, h3, h4⟩ := exists_mod3_mod2 t0 p ((q + 2 - p) % 3) hp (by omega)
  refine ⟨t, h1, h2, h3, ?_⟩
  rw [spare_nowrap t (by omega), primary, h3, h4]
  omega

/-- … exactly once: equal primaries give equal residues mod 3, equal spares then equal parities -/
theorem spares_balanced_unique (t0 t t' : Nat) (h0 : t0 + 7 < u32)
    (h1 : t0 ≤ t) (h2 : t < t0 + 6) (h1' : t0 ≤ t') (h2' : t' < t0 + 6)
    (hp : primary t = primary t') (hs : spare t = spare t') : t = t' := by
  rw [spare_nowrap t (by omega), spare_nowrap t' (by omega), hp] at hs
  unfold primary at hp
  omega

example : (List.range 6).map (fun t => (primary (1700000000 + t), spare (1700000000 + t))) =
    [(2, 0), (0, 2), (1, 2), (2, 1), (0, 1), (1, 0)] := by decide +kernel

theorem roundLoop_succ (f t r : Nat) :
    roundLoop (f + 1) t r = if t % 3 = r then t else roundLoop f (inc32 t) r := by
  simp [roundLoop, notOurs]

/-- "at most two seconds later": without wrap the rounded second is t, t+1 or t+2 -/
theorem round_le_2 (t r : Nat) (ht : t + 2 < u32) (hr : r < 3) :
    t ≤ roundUp t r ∧ roundUp t r ≤ t + 2 ∧ roundUp t r % 3 = r := by
  have i1 : inc32 t = t + 1 := Nat.mod_eq_of_lt (by omega)
  have i2 : inc32 (t + 1) = t + 2 := Nat.mod_eq_of_lt (by omega)
  simp only [roundUp, roundLoop_succ, i1, i2]
  split
  · omega
  split
  · omega
  split
  · omega
  -- one of three consecutive seconds has residue r
  exfalso
  omega

/-- the last two uint32 seconds, where `roundedToOurTime++` can wrap -/
theorem roundUp_wrap : ∀ t ∈ [4294967294, 4294967295], ∀ r < 3,
    roundUp t r % 3 = r ∧ (t ≤ roundUp t r ∧ roundUp t r < u32 ∨ roundUp t r ≤ 2) := by
  decide +kernel

/-- every uint32 second: at the last two the increment can wrap, and the result is then second 0, 1 or 2 -/
theorem round_general (t r : Nat) (ht : t < u32) (hr : r < 3) :
    roundUp t r % 3 = r ∧
    ((t ≤ roundUp t r ∧ roundUp t r ≤ t + 2 ∧ roundUp t r < u32) ∨ (u32 ≤ t + 2 ∧ roundUp t r ≤ 2)) := by
  by_cases h : t + 2 < u32
  · have := round_le_2 t r h hr
    omega
  · have := roundUp_wrap t (by simpa using last_seconds t ht h) r hr
    omega

/-- `r` = replicaKey-1; also across the wrap -/
theorem round_owned (t r : Nat) (ht : t < u32) (hr : r < 3) : roundUp t r % 3 = r ∧ roundUp t r < u32 := by
  have := round_general t r ht hr
  unfold u32 at *
  omega

example : roundUp 1700000000 0 = 1700000001 ∧ roundUp 1700000000 1 = 1700000002 ∧ roundUp 1700000000 2 = 1700000000 := by
  decide +kernel

/-- true of every number, not only of `roundUp 10 3`: no second has residue 3, so for a replica key outside 1..3 the
    `notOurs` test never fails (the real loop would spin forever; `roundUp` gives up after four steps) -/
example : roundUp 10 3 % 3 ≠ 3 := by decide +kernel

/-- for ANY window: what advanceRecentBuckets pops and what it keeps (before it reseeds an empty window and extends
    it) is the old window -/
theorem ready_append_kept (now sw : Nat) (w : Window) : readyOf now sw w ++ dropReady now sw w = w := by
  induction w with
  | nil => simp [readyOf, dropReady]
  | cons b rest ih =>
    simp only [readyOf, dropReady]
    split <;> simp [ih]

/-- `k` = number of ready buckets; the last conjunct (they are older than `now - sw`) bounds the next window's start -/
theorem ready_drop_range (now sw : Nat) : ∀ (n a : Nat), a + n + sw < u32 → ∃ k, k ≤ n ∧
    readyOf now sw (List.range' a n) = List.range' a k ∧
    dropReady now sw (List.range' a n) = List.range' (a + k) (n - k) ∧ (0 < k → a + k + sw ≤ now) := by
  intro n
  induction n with
  | zero => intro a _; exact ⟨0, by simp [dropReady, readyOf]⟩
  | succ n ih =>
    intro a hb
    simp only [List.range'_succ, dropReady, readyOf]
    rw [Nat.mod_eq_of_lt (show a + sw < u32 by omega)]
    split
    · obtain ⟨k, hk, hr, he, hlt⟩ := ih (a + 1) (by omega)
      refine ⟨k + 1, by omega, ?_, ?_, by omega⟩
      · rw [hr, List.range'_succ]
      · rw [he]
        congr 1 <;> omega
    · exact ⟨0, by omega, by simp, by simp [List.range'_succ], by omega⟩

theorem extend_range (first : Nat) : ∀ (f n : Nat), first + n + f ≤ u32 →
    extend first f (List.range' first n) = List.range' first (n + f) := by
  intro f
  induction f with
  | zero => intro n _; simp [extend]
  | succ f ih =>
    intro n h
    simp only [extend, List.length_range']
    rw [Nat.mod_eq_of_lt (show first + n < u32 by omega), ← List.range'_1_concat, ih (n + 1) (by omega)]
    congr 1
    omega

/-- the last line of `advance`, `extend (kept.headD 0) (want - kept.length) kept`, for a non-empty run `kept` -/
theorem extend_kept (a m want : Nat) (hm : 0 < m) (h : a + m + want ≤ u32) :
    extend ((List.range' a m).headD 0) (want - (List.range' a m).length) (List.range' a m) =
      List.range' a (max m want) := by
  obtain ⟨m, rfl⟩ : ∃ m', m = m' + 1 := ⟨m - 1, by omega⟩
  rw [List.length_range', show (List.range' a (m + 1)).headD 0 = a from rfl,
    show max (m + 1) want = m + 1 + (want - (m + 1)) by omega]
  exact extend_range a _ _ (by omega)

/-- One call of advanceRecentBuckets with ANY ShortWindow on a run of `n` consecutive seconds from `a` (n = 0: before
    the first call; n exceeds ShortWindow+FutureWindow right after ShortWindow was lowered): the ready buckets are
    exactly the first `k`, the rest keep their seconds, and the new window is again a run, at least
    ShortWindow+FutureWindow long (away from the uint32 edges).  The two `max` bounds keep start and length bounded
    along a schedule (window_always_contiguous). -/
theorem advance_window_any (now sw fw a n : Nat) (hpos : 0 < sw + fw)
    (hnow : sw ≤ now) (hmax : now + sw + fw < u32) (ha : a + n + sw + fw < u32) :
    ∃ k a' n', k ≤ n ∧ (advance now sw fw (List.range' a n)).1 = List.range' a k ∧
      (advance now sw fw (List.range' a n)).2 = List.range' a' n' ∧
      sw + fw ≤ n' ∧ n' ≤ max n (sw + fw) ∧ (k < n → a' = a + k) ∧ (k = n → a' = now - sw ∧ n' = sw + fw) ∧
      a' ≤ max a (now - sw) := by
  obtain ⟨k, hk, hr, hd, hlt⟩ := ready_drop_range now sw n a (by omega)
  simp only [advance, hr, hd]
  by_cases hkn : k = n
  · -- every bucket was ready: the window starts again at now - sw
    have h1 : (now + u32 - sw % u32) % u32 = now - sw := by
      rw [Nat.mod_eq_of_lt (show sw < u32 by omega), Nat.sub_add_comm hnow, Nat.add_mod_right,
        Nat.mod_eq_of_lt (by omega)]
    have := extend_kept (now - sw) 1 (sw + fw) Nat.one_pos (by omega)
    rw [hkn, Nat.sub_self, List.range'_zero, List.isEmpty_nil, if_pos rfl, h1]
    exact ⟨n, now - sw, max 1 (sw + fw), Nat.le_refl _, rfl, this, Nat.le_max_right _ _, by omega,
      fun h => absurd rfl (Nat.ne_of_lt h), fun _ => ⟨rfl, Nat.max_eq_right hpos⟩, Nat.le_max_right _ _⟩
  · have := extend_kept (a + k) (n - k) (sw + fw) (by omega) (by omega)
    have he : (List.range' (a + k) (n - k)).isEmpty = false := by
      simp
      omega
    rw [he, if_neg Bool.false_ne_true]
    -- the new start a + k is a, or (k > 0, hlt) at most now - sw
    exact ⟨k, a + k, max (n - k) (sw + fw), hk, rfl, this, Nat.le_max_right _ _, by omega, fun _ => rfl,
      fun h => absurd h hkn, by omega⟩

/-- advance_window_any while ShortWindow has not been lowered since the last tick -/
theorem advance_window (now sw fw a n : Nat) (hlen : n ≤ sw + fw) (hpos : 0 < sw + fw)
    (hnow : sw ≤ now) (hmax : now + sw + fw < u32) (ha : a + n + sw + fw < u32) :
    ∃ k a', k ≤ n ∧ (advance now sw fw (List.range' a n)).1 = List.range' a k ∧
      (advance now sw fw (List.range' a n)).2 = List.range' a' (sw + fw) ∧
      (k < n → a' = a + k) ∧ (k = n → a' = now - sw) := by
  obtain ⟨k, a', n', hk, h1, h2, h3, h4, h5, h6, _⟩ := advance_window_any now sw fw a n hpos hnow hmax ha
  obtain rfl : n' = sw + fw := by omega
  exact ⟨k, a', hk, h1, h2, h5, fun h => (h6 h).1⟩

example : advance 100 5 4 [] = ([], [95, 96, 97, 98, 99, 100, 101, 102, 103]) := by decide +kernel
example : advance 103 5 4 [95, 96, 97, 98, 99, 100, 101, 102, 103] =
    ([95, 96, 97], [98, 99, 100, 101, 102, 103, 104, 105, 106]) := by decide +kernel

/-! ### the window under a ShortWindow that changes at run time (remote config) -/

/-- the window after a schedule of ticks, each with the clock value and the ShortWindow in force at that tick -/
def runAdvance (fw : Nat) : List (Nat × Nat) → Window → Window
  | [], w => w
  | (now, sw) :: rest, w => runAdvance fw rest (advance now sw fw w).2

/-- For ANY sequence of ticks with ANY ShortWindow values up to S and any clock values up to N (forward, backward,
    jumps), recentBuckets stays a run of consecutive seconds, non-empty after the first tick — which is what
    filed_in_own_bucket / filed_general assume.  (A, L bound start and length so that nothing comes near 2^32.) -/
theorem window_always_contiguous (fw S N A L : Nat) (hfw : 0 < fw) (hb : A + L + S + fw < u32) (hN : N ≤ A)
    (hL : S + fw ≤ L) : ∀ (steps : List (Nat × Nat)),
    (∀ p ∈ steps, p.2 ≤ p.1 ∧ p.1 ≤ N ∧ p.2 ≤ S) → ∀ a n, a ≤ A → n ≤ L →
    ∃ a' n', runAdvance fw steps (List.range' a n) = List.range' a' n' ∧ a' ≤ A ∧ n' ≤ L ∧ (steps ≠ [] → 0 < n') := by
  intro steps
  induction steps with
  | nil => intro _ a n ha hn; exact ⟨a, n, rfl, ha, hn, fun h => absurd rfl h⟩
  | cons p rest ih =>
    intro hs a n ha hn
    obtain ⟨now, sw⟩ := p
    have hp := hs (now, sw) (by simp)
    -- hge: sw + fw ≤ n'; hle: n' ≤ max n (sw + fw); hst: a' ≤ max a (now - sw)
    obtain ⟨k, a', n', _, _, hw, hge, hle, _, _, hst⟩ :=
      advance_window_any now sw fw a n (by omega) hp.1 (by omega) (by omega)
    simp only [runAdvance, hw]
    obtain ⟨a'', n'', h1, h2, h3, h4⟩ := ih (fun q hq => hs q (by simp [hq])) a' n' (by omega) (by omega)
    refine ⟨a'', n'', h1, h2, h3, fun _ => ?_⟩
    -- after the last tick the window is the one just produced, of length n' ≥ sw + fw
    cases rest with
    | nil =>
      simp only [runAdvance] at h1
      have := congrArg List.length h1
      simp at this
      omega
    | cons q r => exact h4 (by simp)

/-- ShortWindow raised 3 → 5 between two ticks one second apart, then lowered again: the window stays a run -/
example : runAdvance 4 [(100, 3), (101, 5), (102, 3), (103, 4)] [] = [99, 100, 101, 102, 103, 104, 105, 106] := by
  decide +kernel
example : (advance 101 5 4 [97, 98, 99, 100, 101, 102, 103]).2 = [97, 98, 99, 100, 101, 102, 103, 104, 105] := by decide +kernel

/-- Where handleSendSourceBucket files a second, for EVERY uint32 second `t`.  Window = run of n > 0 consecutive
    seconds from `a` (window_always_contiguous), replica key in 1..3 (`r` = key-1).  Whatever the handler answers:
    * `recent idx bt`: the bucket exists, this replica's goTicker test lets it through to the inserters
      (`insertsOwn`), and bt ∈ {t, t+1, t+2} — except that for the last two seconds
      before 2^32 the wrapped rounding can file the second into bucket 0, 1 or 2 (possible only while the
      aggregator's own window still contains those seconds, i.e. its clock is within seconds of the epoch);
    * `historic k`: only for requests flagged historic, under the second's own time;
    * everything else is a rejection (the agent is told to discard or to resend through the historic conveyor). -/
theorem filed_general (a n r hw t : Nat) (hist : Bool) (hn : 0 < n) (hr : r < 3) (ht : t < u32) :
    match file (List.range' a n) r hw hist t with
    | .recent idx bt => idx < n ∧ bt = a + idx ∧ insertsOwn bt r = true ∧
        ((t ≤ bt ∧ bt ≤ t + 2) ∨ (u32 ≤ t + 2 ∧ bt ≤ 2))
    | .historic k => hist = true ∧ k = t
    | .noWindow => False
    | _ => True := by
  obtain ⟨m, rfl⟩ : ∃ m, n = m + 1 := ⟨n - 1, by omega⟩
  obtain ⟨h3, h12⟩ := round_general t r ht hr
  have hl : (List.range' a (m + 1)).getLastD 0 = a + m := by
    simp [List.getLastD_eq_getLast?, List.getLast?_range']
  unfold file
  -- `file` matches on the window: show its head, put in the newest second, fold the run back
  rw [List.range'_succ] at hl ⊢
  simp only [hl]
  rw [← List.range'_succ]
  generalize roundUp t r = rd at *
  simp only [isFuture, isLate, decide_eq_true_eq]
  by_cases c1 : rd > a + m
  · cases hist <;> simp [c1]
  by_cases c2 : rd < a
  · cases hist <;> by_cases c3 : isBeyond rd a hw = true <;> simp [c1, c2, c3]
  -- the rounded second lies in the window: its bucket has index rd - a and time rd
  have hra : a + (rd - a) = rd := by omega
  have hi : rd - a < m + 1 := by omega
  have hbt : (List.range' a (m + 1)).getD (rd - a) 0 = rd := by
    simp [List.getD_eq_getElem?_getD, hi, hra]
  have hrec : rd - a < m + 1 ∧ rd = a + (rd - a) ∧ insertsOwn rd r = true ∧
      ((t ≤ rd ∧ rd ≤ t + 2) ∨ (u32 ≤ t + 2 ∧ rd ≤ 2)) :=
    ⟨hi, hra.symm, by simp [insertsOwn, notOurs, h3], h12.imp (fun h => ⟨h.1, h.2.1⟩) id⟩
  simp only [if_neg c1, if_neg c2, hbt]
  cases hist
  · exact hrec
  · by_cases c3 : isBeyond rd a hw = true
    · simp [c3]
    · simpa [c3] using hrec

/-- "the aggregator files every accepted second into a bucket it will itself insert at most two seconds later, or
    into its historic queue."  Away from the last two uint32 seconds the wrap of filed_general cannot happen. -/
theorem filed_in_own_bucket (a n r hw t : Nat) (hist : Bool) (hn : 0 < n) (hr : r < 3) (ht : t + 2 < u32) :
    match file (List.range' a n) r hw hist t with
    | .recent idx bt => idx < n ∧ bt = a + idx ∧ insertsOwn bt r = true ∧ t ≤ bt ∧ bt ≤ t + 2
    | .historic k => hist = true ∧ k = t
    | .noWindow => False
    | _ => True := by
  have h := filed_general a n r hw t hist hn hr (by omega)
  generalize file (List.range' a n) r hw hist t = x at h ⊢
  cases x with
  | recent idx bt => exact ⟨h.1, h.2.1, h.2.2.1, by omega⟩
  | _ => exact h

example : file (List.range' 98 9) 1 86400 false 101 = .recent 5 103 := by decide +kernel
example : file (List.range' 98 9) 1 86400 true 50 = .historic 50 := by decide +kernel
example : file (List.range' 98 9) 1 86400 false 50 = .lateRecent := by decide +kernel
example : file (List.range' 98 9) 1 10 true 50 = .beyondWindow := by decide +kernel
/-- a second below the oldest bucket is still accepted when its rounded second is the oldest bucket -/
example : file (List.range' 100 9) 1 86400 false 98 = .recent 0 100 := by decide +kernel

/-! ### the uint32 wrap: the region `t + 2 ≥ 2^32` that filed_in_own_bucket excludes -/

/-- the wrap really happens in the model (and on the real handler: correspondence case "agg send 4294967295" with a
    window starting at second 1): the last uint32 second lands in bucket 2 of replica 3, i.e. the full-strength
    reading "at most two seconds later" is false at the wrap -/
example : file (List.range' 1 6) 2 86400 false 4294967295 = .recent 1 2 := by decide +kernel
example : roundUp 4294967294 1 = 1 ∧ roundUp 4294967295 0 = 4294967295 ∧ roundUp 4294967295 2 = 2 := by decide +kernel
/-- away from the epoch the wrapped second is simply rejected as late (recent) or beyond the window (historic) -/
example : file (List.range' 1700000000 9) 2 86400 false 4294967295 = .lateRecent ∧
    file (List.range' 1700000000 9) 2 86400 true 4294967295 = .beyondWindow := by decide +kernel

/-- goTicker is an endless wall-clock loop that cannot be called.  It ranges over what advanceRecentBuckets returned,
    and the only condition under which a ready bucket is skipped before `a.bucketsToSend <- aggBucket` is the text
    below — the expression `notOurs`/`insertsOwn` model.
    SH/Gen/C10.lean is regenerated from the working tree (go/parser) on every run, so an edit of that guard makes
    this obligation fail. -/
theorem gen_ticker_guard :
    SH.Gen.C10.tickerSkipConds = ["aggBucket.time%3 != uint32(a.replicaKey-1)"] ∧
    SH.Gen.C10.tickerRangeOver = "readyBuckets" ∧
    SH.Gen.C10.tickerSource = "a.advanceRecentBuckets(now, false)" ∧
    SH.Gen.C10.tickerSends = true :=
  ⟨rfl, rfl, rfl, rfl⟩

/-- chutil (the API's ClickHouse layer) picks the shard to read as `apiReadShard` models it: `shard =
    meta.Metric.Shard(shardCnt)`, and a shard at or above the real shard count becomes -1 (= all shards).  Tied as
    source text only (go/parser), like goTicker's guard.  The default before the call (count 0 becomes the real shard
    count) is pinned here but is NOT in the model: `apiReadShard` takes the count after it. -/
theorem gen_api_clamp :
    SH.Gen.C10.apiShardCall = "shard = meta.Metric.Shard(shardCnt)" ∧
    SH.Gen.C10.apiClampCond = "shard >= shardMax" ∧ SH.Gen.C10.apiClampBody = "{ shard = -1 }" ∧
    SH.Gen.C10.apiZeroCond = "shardCnt == 0" ∧ SH.Gen.C10.apiZeroBody = "{ shardCnt = shardMax }" :=
  ⟨rfl, rfl, rfl, rfl, rfl⟩

/-- data_model.FutureWindow and MaxShortWindow as compiled: the hypothesis `0 < fw` of window_always_contiguous holds
    for the real FutureWindow -/
theorem gen_window_constants : 0 < SH.Gen.C10.futureWindow ∧ 2 ≤ SH.Gen.C10.maxShortWindow := by decide

end SH.C10
