/-
  C31 — The balancer forwards every accepted packet upstream promptly and in order.

  "Every packet the balancer accepts is written upstream byte-for-byte with its length frame, in acceptance order per
   connection, within a bounded delay (about one second plus reconnection time) even if no further packets arrive; a
   packet is dropped only when both send buffers are full, and every drop is counted and reported upstream."

  Model: SH.Model.Egress. A history is an arbitrary `List Op` (pushes through the handler, sender steps, wake-ups, timer
  callbacks, Close, Stats, reports, in any interleaving of critical sections); `run v c {} ops` is the state after it.
  `Variant.signal` = the code with fixes/C31-swap-timeout-wakes-sender.diff, `Variant.silent` = the pinned code.
  After order, promptness, drops, framing and failover: the write deadline, over `List OpD` / `runD` (`Deadline.armed` = the code
  with fixes/C31-write-deadline.diff, `.never` = the pinned code, `.stale` = a seeded variant), and `addressPool.pick`.
-/
import SH.Lemmas.Egress

namespace SH.C31
open SH.Egress

/-- packets handed over completely to a successful write, in the order the sender wrote them -/
def writtenOf (b : Buf) : List Pkt := (b.done.filter (fun d => d.2 == Fate.written)).map (·.1)

/-- **C31, order / byte-for-byte / nothing lost inside the balancer.** After any history, for each sender: the packets
    it accepted, in acceptance order, are exactly the packets it is finished with (written, or skipped because the write
    callback failed while sending them — one per failed write) followed by the rest of its read batch followed by its
    write buffer. Nothing is duplicated, reordered, altered or forgotten; the buffer never exceeds `bufferLen`. -/
theorem fifo_per_sender (v : Variant) (c : Cfg) (ops : List Op) (i : Bool) :
    let b := getB (run v c {} ops) i
    b.acc = b.done.map (·.1) ++ (b.r.drop b.ri ++ b.w) ∧ skippedCount b.done = b.nerr ∧ b.w.length ≤ c.bufLen := by
  have h := reach_binv v c ops i
  exact ⟨h.data.fifo, h.data.nerr, h.data.wlen⟩

/-- … hence what went upstream on the connections of one sender is a subsequence of what it accepted, in acceptance order. -/
theorem written_in_acceptance_order (v : Variant) (c : Cfg) (ops : List Op) (i : Bool) :
    List.Sublist (writtenOf (getB (run v c {} ops) i)) (getB (run v c {} ops) i).acc := by
  have h := (fifo_per_sender v c ops i).1
  rw [h]
  exact List.Sublist.trans (List.Sublist.map _ (List.filter_sublist)) (List.sublist_append_left _ _)

def c10 : Cfg := { bufLen := 10 }    -- threshold 2

/-- a write error with one packet left to resend: the first is written, the second skipped (and counted), the third offered again -/
example :
    let s := run .signal c10 {} [.handle [1], .handle [2], .handle [3], .pop false, .wres false (.err 1), .pop false]
    s.b0.done = [(frame [1], Fate.written), (frame [2], Fate.skipped)] ∧ s.b0.nerr = 1 ∧ s.b0.pc = .writing ∧
    batch s.b0 = [frame [3]] := by decide +kernel

/-- a failed write makes progress too: exactly one packet (the one being written) is given up, `n` are offered again by
    the next `pop` without waiting, and the error is counted — so a finite number of upstream failures only delays the rest -/
theorem write_error_skips_exactly_one (c : Cfg) (i : Bool) (b : Buf) (n : Nat) (hpc : b.pc = .writing)
    (hn : n < (batch b).length) :
    (pendingOf (writeDone c i b (.err n)).1).length = n + b.w.length ∧ (writeDone c i b (.err n)).1.pc = .idle ∧
    (writeDone c i b (.err n)).1.nerr = b.nerr + 1 ∧ (writeDone c i b (.err n)).1.w = b.w := by
  have hl := batch_length b
  rw [writeDone_err c i b n hpc hn]
  refine ⟨?_, rfl, rfl, rfl⟩
  simp only [pendingOf, List.length_append, List.length_drop]
  omega

example :
    let b := (run .signal c10 {} [.handle [1], .handle [2], .handle [3], .pop false]).b0
    b.pc = .writing ∧ 1 < (batch b).length := by decide +kernel

/-- what the write callback of `sendLoop` returns on an error after `written` packets of the batch were consumed
    completely by `net.Buffers.WriteTo`: `len(bufs) - 1` with `len(bufs) = batchLen - written` -/
def callbackRet (batchLen written : Nat) : Nat := batchLen - written - 1

/-- **the contract between sendLoop's callback and `pop` (`b.ri = b.rm - n`)**: with the callback's return value the
    `written` packets count as written, exactly the packet the write failed on is given up, and the next `pop` offers
    exactly the packets after it, in order — nothing is resent, nothing else is skipped. -/
theorem callback_contract (c : Cfg) (i : Bool) (b : Buf) (written : Nat) (hpc : b.pc = .writing)
    (hw : written < (batch b).length) :
    (writeDone c i b (.err (callbackRet (batch b).length written))).1.done =
        b.done ++ ((batch b).take written).map (·, Fate.written) ++ (((batch b).drop written).take 1).map (·, Fate.skipped) ∧
    batch (writeDone c i b (.err (callbackRet (batch b).length written))).1 = (batch b).drop (written + 1) := by
  have h1 : callbackRet (batch b).length written < (batch b).length := by unfold callbackRet; omega
  have h2 : (batch b).length - callbackRet (batch b).length written - 1 = written := by unfold callbackRet; omega
  rw [writeDone_err c i b _ hpc h1, h2]
  refine ⟨rfl, ?_⟩
  have := resend_eq b _ h1
  rw [h2] at this
  exact this

example :
    let b := (run .signal c10 {} [.handle [1], .handle [2], .handle [3], .pop false]).b0
    b.pc = .writing ∧ 0 < (batch b).length ∧ callbackRet (batch b).length 0 = 2 := by decide +kernel

/-- **C31, bounded delay even if no further packets arrive (buffer level).** From any state of a sender's buffer that is not
    closed and satisfies the invariants (every reachable state does, see `prompt_even_if_idle_partial`), if nobody pushes any more, the forced
    moves of the sender and of its batch timer — at most 6 of them, among which at most ONE expiry of the 1 s batch timer —
    hand every accepted packet that was still buffered to an upstream write, in order. The schedule assumes that the writes
    succeed (`senderNext`); a failed write: `write_error_skips_exactly_one`. -/
theorem flush_within_one_timeout (c : Cfg) (i : Bool) (b : Buf) (hinv : BInv c b) (hnl : NoLost c b)
    (hcl : b.closed = false) : Flushed b (drive .signal c i 6 b) := by
  obtain ⟨h1, h2, h3, h4⟩ := drive_flushed c i 6 b hinv.exh hnl hcl (path_le c i b).1
  rw [h1, List.map_nil, List.append_nil] at h3
  exact ⟨h1, Nat.le_trans h2 (path_le c i b).2, h3, h4⟩

/-- the same, for every reachable state of the pool (any history of pushes, sender steps, timers, … in any interleaving) in
    which that sender's buffer is not closed.
    `_partial`: the bound is "at most 6 forced moves, among them at most one batch-timer expiry"; that a timer period is 1 s of
    real time and sendLoop's reconnect loop are outside the model (see the end of this file). -/
theorem prompt_even_if_idle_partial (c : Cfg) (ops : List Op) (i : Bool)
    (hcl : (getB (run .signal c {} ops) i).closed = false) :
    Flushed (getB (run .signal c {} ops) i) (drive .signal c i 6 (getB (run .signal c {} ops) i)) :=
  flush_within_one_timeout c i _ (reach_binv .signal c ops i) (reach_nolost c ops i) hcl

/-- **C31, no lost wake-up.** In every reachable state of the fixed code a sender parked in `swap` has a pending wake-up or
    an armed timer: it is never left sleeping with nothing to wake it. -/
theorem never_stuck (c : Cfg) (ops : List Op) (i : Bool) :
    senderNext i (getB (run .signal c {} ops) i) ≠ none :=
  never_stuck_buf c i _ (reach_nolost c ops i)

/-- the forced moves used by `drive` are steps of the pool model that touch only the sender's own buffer -/
theorem senderNext_is_step (v : Variant) (c : Cfg) (s : Pool) (i : Bool) (op : Op) (h : senderNext i (getB s i) = some op) :
    getB (step v c s op).1 i = bstep v c i (getB s i) op ∧ getB (step v c s op).1 (!i) = getB s (!i) := by
  rcases senderNext_cases i (getB s i) op h with rfl | rfl | rfl | rfl <;>
    exact ⟨getB_setB_same _ _ _, by cases i <;> rfl⟩

/-- sender waits for a batch, one packet arrives (below the threshold), the wake-up finds the batch too small, the timer fires -/
def idleTail : List Op := [.pop false, .handle [7], .wake false, .timer false, .wake false]

/-- pinned code: the packet is accepted and counted as forwarded, the timer has fired, and the sender is parked with no
    pending wake-up and no timer left — `senderNext = none`, `drive` makes no progress: the packet is never written. -/
example :
    let s := run .silent c10 {} idleTail
    s.fwdTotal = 1 ∧ s.b0.w = [frame [7]] ∧ s.b0.pc = .swap1 ∧ s.b0.timeout = true ∧
    senderNext false s.b0 = none ∧ (drive .silent c10 false 6 s.b0).1.done = [] := by decide +kernel

/-- fixed code, same history: the timer's broadcast releases the sender and the packet is in the upstream write -/
example :
    let s := run .signal c10 {} idleTail
    s.b0.pc = .writing ∧ batch s.b0 = [frame [7]] ∧ s.b0.w = [] ∧
    (drive .signal c10 false 6 s.b0).1.done = [(frame [7], Fate.written)] := by decide +kernel

/-- non-vacuity of `flush_within_one_timeout`: a reachable state that needs the timer (parked, partial batch, no wake-up) -/
example :
    let b := (run .signal c10 {} [.pop false, .handle [7], .wake false]).b0
    BInv c10 b ∧ NoLost c10 b ∧ b.closed = false ∧ parked b = true ∧ b.sig = false ∧ pendingOf b = [frame [7]] ∧
    (drive .signal c10 false 6 b).2 = 1 :=
  ⟨reach_binv .signal c10 _ false, reach_nolost c10 _ false, by decide +kernel,
    by decide +kernel, by decide +kernel, by decide +kernel, by decide +kernel⟩

/-- **C31, "a packet is dropped only when both send buffers are full, and every drop is counted".** For an open pool, one
    `WritePacketLocked` either refuses the packet — exactly when both write buffers hold `bufferLen` packets; then
    `droppedPackets` and `wouldBlockBytes` (+ len) record it and nothing else changes in the accepted logs — or appends it
    to the acceptance log of exactly one sender, which had room, the secondary being used only when the current primary is full. -/
theorem drop_iff_both_full (c : Cfg) (s : Pool) (p : Pkt) (hc : s.closed = false) :
    ((push c s p).2 = [.dropped] ∧ full c s.b0 = true ∧ full c s.b1 = true ∧
        (push c s p).1.drop = s.drop + 1 ∧ (push c s p).1.wb = s.wb + p.length ∧ (push c s p).1.fwd = s.fwd ∧
        (push c s p).1.b0.acc = s.b0.acc ∧ (push c s p).1.b1.acc = s.b1.acc) ∨
    (∃ j, (push c s p).2 = [.accepted j] ∧ full c (getB s j) = false ∧ (j ≠ s.prim → full c (getB s s.prim) = true) ∧
        (getB (push c s p).1 j).acc = (getB s j).acc ++ [p] ∧ (getB (push c s p).1 (!j)).acc = (getB s (!j)).acc ∧
        (push c s p).1.fwd = s.fwd + 1 ∧ (push c s p).1.drop = s.drop ∧ (push c s p).1.wb = s.wb ∧ (push c s p).1.prim = j) := by
  have a0 := bufPush_acc c s.b0 p
  have a1 := bufPush_acc c s.b1 p
  rcases push_cases c s p with ⟨h, -⟩ | ⟨-, hf, e⟩ | ⟨-, hf, hg, e⟩ | ⟨-, hf, hg, e⟩
  · rw [hc] at h; cases h
  · rw [e]
    refine .inr ⟨s.prim, rfl, hf, fun h => absurd rfl h, ?_, ?_, rfl, rfl, rfl, rfl⟩
    · cases hp : s.prim <;> simp [hp, getB] at hf <;> simp [getB, a0, a1, hf]
    · cases hp : s.prim <;> simp [getB]
  · rw [e]
    refine .inr ⟨!s.prim, rfl, hg, fun _ => hf, ?_, ?_, rfl, rfl, rfl, rfl⟩
    · cases hp : s.prim <;> simp [hp, getB] at hg <;> simp [getB, a0, a1, hg]
    · cases hp : s.prim <;> simp [hp, getB] at hf <;> simp [getB, a0, a1, hf]
  · rw [e]
    cases hp : s.prim <;> simp [hp, getB] at hf hg <;> simp [a0, a1, hf, hg]

/-- **C31, "every drop is counted and reported upstream".** After any history: every non-empty packet handed to the
    balancer was either accepted by exactly one sender or counted as dropped (ghost totals, which `Stats` does not reset); and the bytes of all packets refused because
    both buffers were full are exactly: still in `wouldBlockBytes` (sent with the primary sender's next report) + already
    announced upstream by report packets + announced by report packets whose write failed.
    `_partial`: only the books; that the pending part is sent is `drops_reported_within_one_loop_iteration`, under the
    hypothesis that the sender is scheduled (checked by the live tier, not proved). -/
theorem drops_counted_and_reported_partial (v : Variant) (c : Cfg) (ops : List Op) : Acct (run v c {} ops) :=
  (reach_ledger v c ops).acct

/-- a failed report write is the only way a drop can go unannounced -/
theorem report_never_lost_if_conn_ok (v : Variant) (c : Cfg) (ops : List Op) (h : ∀ i, Op.report i false ∉ ops) :
    (run v c {} ops).lostRep = 0 := by
  suffices hs : ∀ s : Pool, s.lostRep = 0 → (run v c s ops).lostRep = 0 from hs {} rfl
  induction ops with
  | nil => intro s hs; exact hs
  | cons op ops ih =>
    intro s hs
    apply ih (fun i hi => h i (List.mem_cons_of_mem _ hi))
    rw [← hs]
    cases op with
    | handle body =>
      simp only [step, handle]
      split
      · rfl
      · rcases push_cases c s (frame body) with ⟨-, e⟩ | ⟨-, -, e⟩ | ⟨-, -, -, e⟩ | ⟨-, -, -, e⟩ <;> rw [e]
    | close => rfl
    | stats => rfl
    | report i ok =>
      cases ok
      · exact absurd List.mem_cons_self (h i)
      · rw [step_report, if_pos rfl]
        split <;> rfl
    | pop i | wres i _ | timer i | wake i | takeRecon i => cases i <;> rfl

def c2 : Cfg := { bufLen := 2 }

/-- five packets into an open pool with `bufferLen = 2` and senders that never pop: 2 + 2 accepted (with a failover and a
    reconnect request to the old primary), the fifth dropped, counted, 5 bytes (4 + 1) in `wouldBlockBytes`; a report
    announces them -/
example :
    let s := run .signal c2 {} [.handle [1], .handle [2], .handle [3], .handle [4], .handle [5]]
    s.closed = false ∧ full c2 s.b0 = true ∧ full c2 s.b1 = true ∧ s.prim = true ∧ s.recon0 = true ∧
    s.fwd = 4 ∧ s.drop = 1 ∧ s.wb = 5 ∧ s.dropBytes = 5 ∧
    (step .signal c2 s (.report false true)).2 = [.report 5] ∧ (step .signal c2 s (.report false true)).1.wb = 0 := by decide +kernel

example : (run .signal c2 {} [.handle [1], .handle [2], .handle [3], .handle [4], .handle [5], .report false true]).lostRep = 0 ∧
    (∀ i, Op.report i false ∉ [Op.handle [1], .handle [2], .handle [3], .handle [4], .handle [5], .report false true]) := by decide +kernel

/-- **C31, "every drop is … reported upstream" — the eventual part (state level).** From any state satisfying the
    invariants in which the primary sender's buffer is open: if the primary sender has a live connection and is scheduled
    (its forced moves happen: `pop` is called, the write in progress completes, a pending wake-up is taken, an armed batch
    timer fires), then after at most 8 such moves — among them at most 2 batch-timer expiries — its `pop` returns nil and
    `reportWouldBlockIfAny` runs: every byte pending in `wouldBlockBytes` moves to `reported` exactly once (`wb` becomes 0,
    `reported` grows by exactly the old `wb`, nothing is added to `lostRep`, `writeErrors`, `dropBytes`). -/
theorem drops_reported_within_one_loop_iteration (c : Cfg) (s : Pool) (hinv : PInv c s) (hnl : PNoLost c s)
    (hcl : s.b0.closed = false) :
    RetOk (untilRet c false 8 s.b0) ∧ Reported s (loopUntilReport c 8 s) := by
  obtain ⟨x, e, h1, h2⟩ := untilRet_ok c false 8 s.b0 hinv.1.exh hnl.1 hcl (Nat.lt_succ_of_le (pathRet_le c false s.b0).1)
  refine ⟨?_, loopUntilReport_reported c 8 s e⟩
  rw [e]
  exact ⟨Nat.le_trans h1 (pathRet_le c false s.b0).2, h2⟩

/-- **C31, "every drop is counted and reported upstream", full form** (fixed code): after ANY history that leaves the primary
    sender's buffer open the books balance
    (`drops_counted_and_reported_partial`: pushes = forwarded + dropped; dropped bytes = pending + reported + lost with a
    failed report write), and from that state one scheduled loop iteration of the primary sender on a live connection
    (≤ 8 forced moves, ≤ 2 timer expiries) reports everything that is pending, exactly once — so afterwards
    dropped bytes = reported + (bytes of reports whose write had failed earlier). -/
theorem drops_counted_and_reported (c : Cfg) (ops : List Op) (hcl : (run .signal c {} ops).b0.closed = false) :
    Acct (run .signal c {} ops) ∧ RetOk (untilRet c false 8 (run .signal c {} ops).b0) ∧
    Reported (run .signal c {} ops) (loopUntilReport c 8 (run .signal c {} ops)) ∧
    (∀ s', loopUntilReport c 8 (run .signal c {} ops) = some s' → s'.dropBytes = s'.reported + s'.lostRep) := by
  have ha := drops_counted_and_reported_partial .signal c ops
  have h := drops_reported_within_one_loop_iteration c _ ⟨reach_binv .signal c ops false, reach_binv .signal c ops true⟩
    ⟨reach_nolost c ops false, reach_nolost c ops true⟩ hcl
  refine ⟨ha, h.1, h.2, ?_⟩
  intro s' hs
  have h2 := h.2
  rw [hs] at h2
  simp only [Reported] at h2
  have := ha.bytes
  omega

/-- non-vacuity: both buffers full, one packet dropped (5 bytes pending), the primary sender sits in its loop: its next
    iteration writes its batch and reports the 5 bytes -/
example :
    let s := run .signal c2 {} [.handle [1], .handle [2], .handle [3], .handle [4], .handle [5]]
    s.b0.closed = false ∧ s.wb = 5 ∧ s.reported = 0 ∧
    (loopUntilReport c2 8 s).map (fun s' => (s'.wb, s'.reported, s'.b0.done.length)) = some (0, 5, 2) := by decide +kernel

def le32dec (a b c d : UInt8) : Nat := a.toNat + 256 * b.toNat + 65536 * c.toNat + 16777216 * d.toNat

/-- what the upstream receiver does with the byte stream of one connection: 4-byte little-endian length, then the body -/
def deframe : Nat → List UInt8 → Option (List (List UInt8))
  | _, [] => some []
  | 0, _ :: _ => none
  | fuel + 1, a :: b :: c :: d :: rest =>
    if rest.length < le32dec a b c d then none
    else (deframe fuel (rest.drop (le32dec a b c d))).map (rest.take (le32dec a b c d) :: ·)
  | _ + 1, _ => none

theorem le32dec_le32 (n : Nat) (h : n < 4294967296) :
    le32dec (UInt8.ofNat (n % 256)) (UInt8.ofNat (n / 256 % 256)) (UInt8.ofNat (n / 65536 % 256)) (UInt8.ofNat (n / 16777216 % 256)) = n := by
  simp only [le32dec, UInt8.toNat_ofNat', Nat.mod_mod]
  rw [← Nat.mod_mul, ← Nat.mod_mul, ← Nat.mod_mul, Nat.mod_eq_of_lt h]

/-- **C31, "byte-for-byte with its length frame".** The concatenation of the frames of any list of packets (bodies shorter
    than 2^32) parses back, frame by frame, to exactly those bodies in the same order: framing loses and merges nothing. -/
theorem frames_parse_back (bodies : List (List UInt8)) (h : ∀ b ∈ bodies, b.length < 4294967296) :
    deframe bodies.length (bodies.map frame).flatten = some bodies := by
  induction bodies with
  | nil => simp [deframe]
  | cons b bs ih =>
    have hb := h b (List.mem_cons_self)
    have ih' := ih (fun x hx => h x (List.mem_cons_of_mem _ hx))
    simp only [List.map_cons, List.flatten_cons, frame, le32, List.cons_append, List.nil_append, List.length_cons, deframe,
      le32dec_le32 b.length hb]
    simp [List.take_left', List.drop_left', ih']

/-- everything a sender ever accepts (hence everything it writes upstream, by `fifo_per_sender`) is the 4-byte
    little-endian length of a non-empty packet handed to `HandleMetricsBatchRaw`, followed by that packet unchanged -/
theorem accepted_are_frames (v : Variant) (c : Cfg) (ops : List Op) : AllFrames (run v c {} ops) :=
  have k := run_bufInv v c (frames_move v c) ops {} (fun j q hq => by cases j <;> cases hq)
  ⟨k false, k true⟩

example : deframe 2 ((([[1, 2, 3], [9]] : List (List UInt8)).map frame).flatten) = some [[1, 2, 3], [9]] := by decide +kernel

/-- **C31 at pool level: acceptance order across failover.** `accAll` is the order in which `WritePacketLocked` accepted
    packets, each tagged with the sender that took it. After any history (any number of failovers and pointer swaps):
    every accepted packet was taken by exactly one sender (the tags partition the log: its length is the sum of the two
    senders' logs, and each sender's log is exactly the sub-log carrying its tag, in the same order); hence what each
    sender has written upstream (`writtenOf`, one connection at a time) is a subsequence of the pool's acceptance order. -/
theorem pool_fifo_across_failover (v : Variant) (c : Cfg) (ops : List Op) :
    let s := run v c {} ops
    projTo s.accAll false = s.b0.acc ∧ projTo s.accAll true = s.b1.acc ∧
    s.accAll.length = s.b0.acc.length + s.b1.acc.length ∧
    (∀ i, List.Sublist (writtenOf (getB s i)) (projTo s.accAll i)) ∧
    (∀ i, List.Sublist (writtenOf (getB s i)) (s.accAll.map (·.1))) := by
  have h := reach_ledger v c ops
  have hw : ∀ i, List.Sublist (writtenOf (getB (run v c {} ops) i)) (projTo (run v c {} ops).accAll i) := by
    intro i
    have := written_in_acceptance_order v c ops i
    cases i
    · simpa [getB, h.proj0] using this
    · simpa [getB, h.proj1] using this
  exact ⟨h.proj0, h.proj1, h.logged ▸ h.acct.accepted, hw, fun i => (hw i).trans (List.Sublist.map _ List.filter_sublist)⟩

/-- **failover.** A packet goes to the sender `*secPtr` only when the buffer of `*primPtr` is full; then the old primary
    gets a reconnect request (its upstream is the slow one), the pointers swap, and the packet is logged once, for the new
    primary — the old primary's acceptance log is untouched. -/
theorem failover_spec (c : Cfg) (s : Pool) (p : Pkt) (hc : s.closed = false)
    (h : (push c s p).2 = [.accepted (!s.prim)]) :
    full c (getB s s.prim) = true ∧ full c (getB s (!s.prim)) = false ∧
    getRecon (push c s p).1 s.prim = true ∧ (push c s p).1.prim = !s.prim ∧
    (push c s p).1.accAll = s.accAll ++ [(p, !s.prim)] ∧
    (getB (push c s p).1 s.prim).acc = (getB s s.prim).acc := by
  rcases push_cases c s p with ⟨h', -⟩ | ⟨-, hf, e⟩ | ⟨-, hf, hg, e⟩ | ⟨-, hf, hg, e⟩
  · rw [hc] at h'; cases h'
  · rw [e] at h
    cases hp : s.prim <;> simp [hp] at h
  · rw [e]
    refine ⟨hf, hg, ?_, rfl, rfl, ?_⟩
    · cases s.prim <;> rfl
    · cases hp : s.prim <;> simp [hp, getB] at hf <;> simp [getB, bufPush_acc, hf]
  · rw [e] at h
    cases h

/-- non-vacuity: bufferLen 2, four packets without any pop — two go to the primary, the third fails over -/
example :
    let s := run .signal c2 {} [.handle [1], .handle [2]]
    s.closed = false ∧ (push c2 s (frame [3])).2 = [.accepted (!s.prim)] ∧
    (run .signal c2 {} [.handle [1], .handle [2], .handle [3], .handle [4]]).accAll =
      [(frame [1], false), (frame [2], false), (frame [3], true), (frame [4], true)] := by decide +kernel

/-- **the deadline bookkeeping of `sendLoop` (fixed code), for every history** of pool steps, write errors, deadline
    expiries and passing time: (1) every write happens under a deadline (`getDl`) — whenever a sender is inside `pop` (waiting for a batch
    or blocked in the write callback) its CURRENT connection carries a write deadline; (2) the bookkeeping variable
    `writeDeadline` is honest — it is non-zero only if the current connection really has a deadline, in particular it is
    zero on every newly dialled connection, so the first loop iteration on it arms one. -/
theorem write_always_armed (v : Variant) (c : Cfg) (ops : List OpD) (i : Bool) :
    ((getB (runD .armed v c {} ops).p i).pc ≠ .idle → getDl (runD .armed v c {} ops) i = true) ∧
    (getBk (runD .armed v c {} ops) i ≠ .zero → getDl (runD .armed v c {} ops) i = true) :=
  dlinv_runD v c ops {} dlinv_init i

/-- **C31, "upstream connection failures" — a stalled upstream (fixed code, `Deadline.armed`).** After any history of
    pool steps and deadline expiries, a sender that is blocked in the write callback (its upstream neither reads nor resets,
    so the write never completes by itself) has a write deadline armed: `stalledNext` is a move, not `none`. When the
    deadline expires with `n` packets left, the callback returns, `pop` returns the error — sendLoop closes the connection and
    reconnects — exactly one packet is given up, `n` packets are offered again by the next `pop`, the write buffer is
    untouched and the error is counted. So a stalled upstream does not hold the packets behind it for ever (that the deadline
    is `WriteTimeout` of real time is outside the model). -/
theorem stalled_write_released (v : Variant) (c : Cfg) (ops : List OpD) (i : Bool) (n : Nat)
    (hw : (getB (runD .armed v c {} ops).p i).pc = .writing)
    (hn : n < (batch (getB (runD .armed v c {} ops).p i)).length) :
    let s := runD .armed v c {} ops
    stalledNext s i ≠ none ∧ deadlineEnabled s i n = true ∧
    (getB (stepD .armed v c s (.deadline i n)).1.p i).pc = .idle ∧
    (stepD .armed v c s (.deadline i n)).2 = [.ret i true] ∧
    (pendingOf (getB (stepD .armed v c s (.deadline i n)).1.p i)).length = n + (getB s.p i).w.length ∧
    (getB (stepD .armed v c s (.deadline i n)).1.p i).nerr = (getB s.p i).nerr + 1 := by
  have hd := (write_always_armed v c ops i).1 (by rw [hw]; simp)
  have hen : deadlineEnabled (runD .armed v c {} ops) i n = true := by simp [deadlineEnabled, hd, hw, hn]
  have hsk := write_error_skips_exactly_one c i (getB (runD .armed v c {} ops).p i) n hw hn
  have e : getB (stepD .armed v c (runD .armed v c {} ops) (.deadline i n)).1.p i =
      (writeDone c i (getB (runD .armed v c {} ops).p i) (.err n)).1 := by
    simp only [stepD, hen, if_true, step, onBuf, getB_setB_same]
  refine ⟨by simp [stalledNext, hw, hd], hen, ?_, ?_, ?_, ?_⟩
  · rw [e]; exact hsk.2.1
  · simp only [stepD, hen, if_true, step, onBuf, writeDone_err c i _ n hw hn]
  · rw [e]; exact hsk.1
  · rw [e]; exact hsk.2.2.1

/-- two packets accepted, the sender calls `pop` and is handed both; the upstream does not read -/
def stalledWrite : List OpD := [.base (.handle [1]), .base (.handle [2]), .base (.pop false)]

/-- pinned code (`Deadline.never`: the overflowing comparison never arms a deadline): the sender is inside the write
    callback with two accepted packets, no deadline is armed, and no move is left — it stays in `WriteTo` -/
example :
    let s := runD .never .signal c10 {} stalledWrite
    (getB s.p false).pc = .writing ∧ batch (getB s.p false) = [frame [1], frame [2]] ∧ getDl s false = false ∧
    stalledNext s false = none ∧ (stepD .never .signal c10 s (.deadline false 1)).1 = s := by decide +kernel

/-- fixed code, same history: the deadline expires, `pop` returns the error, one packet is given up and counted, the other
    is handed to the next write (on the new connection) -/
example :
    let s := runD .armed .signal c10 {} stalledWrite
    (getB s.p false).pc = .writing ∧ stalledNext s false = some (.deadline false 1) ∧
    (let s' := runD .armed .signal c10 s [.deadline false 1, .base (.pop false)]
     (getB s'.p false).nerr = 1 ∧ (getB s'.p false).pc = .writing ∧ batch (getB s'.p false) = [frame [2]] ∧
     getDl s' false = true) := by decide +kernel

/-- a write error shortly after a deadline refresh, then the next write (on the newly dialled connection) -/
def errorThenWrite : List OpD :=
  [.base (.handle [1]), .base (.handle [2]), .base (.handle [3]), .base (.pop false), .base (.wres false (.err 1)), .base (.pop false)]

/-- `Deadline.stale` (the write-error path does not reset `writeDeadline`, the reset after reconnect is gone): after the write error the new connection inherits a `fresh` bookkeeping value, the loop top sees nothing to
    refresh, and the next write runs on a connection WITHOUT a deadline — if that upstream stalls there is no move left -/
example :
    let s := runD .stale .signal c10 {} errorThenWrite
    (getB s.p false).pc = .writing ∧ batch (getB s.p false) = [frame [3]] ∧ getBk s false = .fresh ∧ getDl s false = false ∧
    stalledNext s false = none := by decide +kernel

/-- … the stale value protects nothing until it has aged: only after `age` does a `pop` arm the connection again -/
example :
    let s := runD .stale .signal c10 {} [.base (.handle [1]), .base (.handle [2]), .base (.pop false),
      .base (.wres false (.err 1)), .age false, .base (.pop false)]
    (getB s.p false).pc = .writing ∧ getDl s false = true := by decide +kernel

/-- fixed code, same history as `errorThenWrite`: the reconnect resets the bookkeeping, the loop top arms the new
    connection, a stalled write is ended by its deadline -/
example :
    let s := runD .armed .signal c10 {} errorThenWrite
    (getB s.p false).pc = .writing ∧ getBk s false = .fresh ∧ getDl s false = true ∧
    stalledNext s false = some (.deadline false 0) := by decide +kernel

theorem pick_kth (p : AddrPool) (hh : p.head < p.addrs.length) (k n : Nat) (hk : k < n) :
    (pickN n p)[k]? = some (p.addrs[(p.head + k) % p.addrs.length]?) := by
  have hne : ¬ p.addrs.length = 0 := by omega
  induction k generalizing n p with
  | zero =>
    cases n with
    | zero => omega
    | succ n => simp [pickN, pick, hne, Nat.mod_eq_of_lt hh]
  | succ k ih =>
    cases n with
    | zero => omega
    | succ n =>
      -- after one pick: same addresses, head `(head + 1) mod len`
      have := ih (pick p).1 (by simp [pick, hne]; exact Nat.mod_lt _ (by omega)) n (by omega) (by simp [pick, hne])
      simp only [pickN, List.getElem?_cons_succ, this]
      simp [pick, hne, Nat.mod_add_mod, Nat.add_assoc, Nat.add_comm 1 k]

/-- **reconnection reaches every upstream address.** From every position `head < len(addrs)` (pools are built with head 0 and
    `pick` keeps it below `len`), any `len(addrs)` consecutive picks return every address of the pool. `tcpSender.reconnect`
    calls `pick` once per attempt (that loop is not modelled): a sender whose pool holds a live upstream dials it within
    `len(addrs)` attempts, however many of the others are down. -/
theorem pick_visits_all (p : AddrPool) (hh : p.head < p.addrs.length) (j : Nat) (hj : j < p.addrs.length) :
    (some (p.addrs[j]?)) ∈ (pickN p.addrs.length p).map some := by
  have hl : 0 < p.addrs.length := by omega
  -- attempt number k = (j + len - head) mod len dials address j
  let k := (j + p.addrs.length - p.head) % p.addrs.length
  have hk : k < p.addrs.length := Nat.mod_lt _ hl
  have hidx : (p.head + k) % p.addrs.length = j := by
    rw [Nat.add_mod_mod]
    have : p.head + (j + p.addrs.length - p.head) = j + p.addrs.length := by omega
    rw [this, Nat.add_mod_right, Nat.mod_eq_of_lt hj]
  have h := pick_kth p hh k p.addrs.length hk
  rw [hidx] at h
  simp only [List.mem_map]
  exact ⟨p.addrs[j]?, List.mem_of_getElem? h, rfl⟩

/-- non-vacuity: the pool [dead, dead, live] with head 1 dials 1, 2, 0 -/
example : pickN 3 { addrs := [10, 11, 12], head := 1 } = [some 11, some 12, some 10] := by decide +kernel

/-
  Not proved (the `_partial` theorems): the real-time length of a timer period (time.AfterFunc 1 s, WriteTimeout) and of a
  write; sendLoop's reconnect loop itself (ReconnectDelay, DialTimeout, one `pick` per attempt; `pick` alone is proved round-robin) — measured by the live tier of the
  harness with 10x budgets; that the scheduler runs the sender (fairness is the hypothesis "the forced moves happen").
-/

end SH.C31
