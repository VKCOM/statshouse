/-
  C19 — Tag mappings form a stable bijection and creation obeys flood limits.

  "A string is mapped to at most one positive id and an id to at most one string; once created, a mapping never changes
   until it is explicitly deleted, repeated get-or-create calls return the same id, and deleted ids are never handed out
   again. Once the global budget is exhausted, the number of new mappings a metric can create in any time span is at most
   its remaining budget (the maximum budget, or the value set by a flood reset) plus the per-step bonus times the number
   of elapsed steps, and requests beyond that fail with a flood-limit error."

  Model: SH.Model.Meta (getOrCreate, putMany, deleteIds, resetFlood, calcBudget). For the bijection a history is an arbitrary
  `List Op` with the clock value carried by every request (any clock progression, including backwards); the flood bound is over
  `List HOp` (operations and restarts) and needs the clock hypothesis `clockOk`.
-/
import SH.Model.Meta
import SH.Lemmas.MetaFlood
import SH.Props.C15

namespace SH.C19
open SH.Meta SH.MetaFlood

/-- the mapping table in a reachable state. `keyUniq` and `idUniq` are UNIQUE (name) and PRIMARY KEY (id), which SQLite enforces
    (uniqueness of the rows as values: a pair listed twice is not excluded); `seqBound` is AUTOINCREMENT, never lowered by the code -/
structure MInv (s : State) : Prop where
  keyUniq : ∀ p1 ∈ s.maps, ∀ p2 ∈ s.maps, p1.2 = p2.2 → p1 = p2
  idUniq : ∀ p1 ∈ s.maps, ∀ p2 ∈ s.maps, p1.1 = p2.1 → p1 = p2
  seqBound : ∀ p ∈ s.maps, p.1 ≤ (s.mapSeq : Int)

theorem minv_empty : MInv State.empty := by constructor <;> simp [State.empty]

theorem MInv.congr {s t : State} (h1 : t.maps = s.maps) (h2 : t.mapSeq = s.mapSeq) (hi : MInv s) : MInv t := by
  constructor
  · rw [h1]; exact hi.keyUniq
  · rw [h1]; exact hi.idUniq
  · rw [h1, h2]; exact hi.seqBound

theorem lookupKey_none {maps : List (Int × Nat)} {k : Nat} (h : lookupKey maps k = none) : ∀ p ∈ maps, p.2 ≠ k := by
  intro p hp
  have := List.find?_eq_none.mp (Option.map_eq_none_iff.mp h) p hp
  simpa using this

theorem lookupKey_some {maps : List (Int × Nat)} {k : Nat} {id : Int} (h : lookupKey maps k = some id) : (id, k) ∈ maps := by
  unfold lookupKey at h
  cases hf : maps.find? (fun p => p.2 == k) with
  | none => simp [hf] at h
  | some x =>
    simp only [hf, Option.map_some, Option.some.injEq] at h
    have h1 := List.mem_of_find?_eq_some hf
    have h2 := List.find?_some hf
    have : x.2 = k := by simpa using h2
    have hx : x = (id, k) := Prod.ext h this
    rw [← hx]; exact h1

theorem created_id {c : Cfg} {s : State} {m k now : Nat} {id : Int} (h : (getOrCreate c s m k now).2 = .created id) :
    id = ((s.mapSeq + 1 : Nat) : Int) := by
  have hs := goc_shape c s m k now
  generalize getOrCreate c s m k now = p at hs h
  cases hs with
  | got => cases h
  | flood => cases h
  | created => exact (MapOut.created.inj h).symm

/-- the table after `INSERT` / `INSERT OR REPLACE` of `(v, k)`: the new pair and old pairs that share neither id nor key with it -/
theorem minv_insert {s t : State} {v : Int} {k : Nat} (hi : MInv s)
    (hmem : ∀ p ∈ t.maps, p = (v, k) ∨ (p ∈ s.maps ∧ p.1 ≠ v ∧ p.2 ≠ k))
    (hseq : s.mapSeq ≤ t.mapSeq) (hv : v ≤ (t.mapSeq : Int)) : MInv t := by
  constructor
  · exact C15.uniq_upsert (fun _ _ h => h.symm) hmem (fun _ _ h => h.2) hi.keyUniq
  · exact C15.uniq_upsert (fun _ _ h => h.symm) hmem (fun _ _ h => h.1) hi.idUniq
  · intro p hp
    rcases hmem p hp with e | e
    · subst e; exact hv
    · have := hi.seqBound p e.1
      omega

def isCreated : MapOut → Bool
  | .created _ => true
  | _ => false

/-- the operation creates a mapping on behalf of metric `m` when run in state `s` -/
def createdNow (c : Cfg) (s : State) (m : Nat) : HOp → Bool
  | .op (.getOrCreate m' k now) => m' == m && isCreated (getOrCreate c s m' k now).2
  | _ => false

/-- what one operation or restart does to mappings, id sequence, flood table and last created id. `quiet`: a save, a restart (which
    forgets the last created id), a get-or-create that found the key or hit the flood limit. What holds of an arbitrary step is read
    off this relation (`hstep_shape`) instead of going through `hstep` case by case. -/
inductive MapStep (c : Cfg) (s : State) : HOp → State → Prop
  | quiet (o : HOp) (t : State) (hmaps : t.maps = s.maps) (hseq : t.mapSeq = s.mapSeq) (hfl : t.flood = s.flood)
      (hlast : t.lastCreated = s.lastCreated ∨ t.lastCreated = 0) (hcr : ∀ m, createdNow c s m o = false) : MapStep c s o t
  | created (m k now : Nat) (free : Int) (hk : lookupKey s.maps k = none) (hfree : NewFree c s m now free)
      (hcr : ∀ m', createdNow c s m' (.op (.getOrCreate m k now)) = (m == m')) :
      MapStep c s (.op (.getOrCreate m k now))
        { s with maps := (((s.mapSeq + 1 : Nat) : Int), k) :: s.maps, mapSeq := s.mapSeq + 1,
                 flood := setFlood s.flood { metric := m, last := roundTime now c.step, free := free },
                 lastCreated := ((s.mapSeq + 1 : Nat) : Int) }
  | put (kvs : List (Nat × Int)) (t : State) (hfl : t.flood = s.flood) (hlast : t.lastCreated = s.lastCreated)
      (ht : t = putMany s kvs) : MapStep c s (.op (.put kvs)) t
  | delete (ids : List Int) : MapStep c s (.op (.delete ids)) { s with maps := s.maps.filter (fun p => !ids.contains p.1) }
  | reset (m : Nat) (l : Int) (now : Nat) : MapStep c s (.op (.reset m l now)) { s with flood := resetTable c s.flood m l now }

theorem hstep_shape (c : Cfg) (s : State) (o : HOp) : MapStep c s o (hstep c s o) := by
  cases o with
  | reopen => exact .quiet _ _ rfl rfl rfl (Or.inr rfl) (fun _ => rfl)
  | op o =>
    cases o with
    | save a =>
      obtain ⟨h1, h2, h3, h4⟩ := C15.save_frame s a
      exact .quiet _ _ h4 h3 h1 (Or.inl h2) (fun _ => rfl)
    | put kvs => exact .put kvs _ (putMany_frame kvs s).2.2.2.1 (putMany_frame kvs s).2.2.2.2 rfl
    | delete ids => exact .delete ids
    | reset m l now =>
      show MapStep c s _ (resetFlood c s m l now).1
      rw [resetFlood_eq]
      exact .reset m l now
    | getOrCreate m k now =>
      have hs := goc_shape c s m k now
      -- `createdNow` hides a call of `getOrCreate`; spelt out, so that the `generalize` below replaces that one too
      have hcn : ∀ m', createdNow c s m' (.op (.getOrCreate m k now)) = (m == m' && isCreated (getOrCreate c s m k now).2) :=
        fun _ => rfl
      show MapStep c s _ (getOrCreate c s m k now).1
      generalize getOrCreate c s m k now = p at hs hcn
      cases hs with
      | got id hk => exact .quiet _ _ rfl rfl rfl (Or.inl rfl) (fun m' => by rw [hcn]; exact Bool.and_false _)
      | flood f hk hf hh => exact .quiet _ _ rfl rfl rfl (Or.inl rfl) (fun m' => by rw [hcn]; exact Bool.and_false _)
      | created free hk hfree => exact .created m k now free hk hfree (fun m' => by rw [hcn]; exact Bool.and_true _)

theorem mem_putOne (s : State) (k : Nat) (v : Int) (p : Int × Nat) :
    p ∈ (putOne s k v).maps ↔ p = (v, k) ∨ (p ∈ s.maps ∧ p.1 ≠ v ∧ p.2 ≠ k) := by
  simp [putOne, List.mem_filter]

theorem minv_putOne (s : State) (k : Nat) (v : Int) (hi : MInv s) : MInv (putOne s k v) := by
  refine minv_insert (v := v) (k := k) hi (fun p hp => (mem_putOne s k v p).mp hp) ?_ ?_
  · simp only [putOne]
    split <;> omega
  · simp only [putOne]
    split <;> omega

theorem minv_putMany (kvs : List (Nat × Int)) (s : State) : MInv s → MInv (putMany s kvs) :=
  putMany_ind (R := fun s t => MInv s → MInv t) (fun _ h => h) (fun s k v _ h hi => h (minv_putOne s k v hi)) kvs s

theorem minv_delete (s : State) (ids : List Int) (hi : MInv s) : MInv (deleteIds s ids).1 := by
  have hsub : ∀ p ∈ (deleteIds s ids).1.maps, p ∈ s.maps := by
    intro p hp
    simp only [deleteIds, List.mem_filter] at hp
    exact hp.1
  constructor
  · intro p1 h1 p2 h2; exact hi.keyUniq p1 (hsub p1 h1) p2 (hsub p2 h2)
  · intro p1 h1 p2 h2; exact hi.idUniq p1 (hsub p1 h1) p2 (hsub p2 h2)
  · intro p hp; exact hi.seqBound p (hsub p hp)

theorem minv_step (c : Cfg) (s : State) (op : Op) (hi : MInv s) : MInv (step c s op) := by
  have hs := hstep_shape c s (.op op)
  show MInv (hstep c s (.op op))
  generalize hstep c s (.op op) = t at hs
  cases hs with
  | quiet o t hmaps hseq => exact hi.congr hmaps hseq
  | created m k now free hk =>
    refine minv_insert (v := ((s.mapSeq + 1 : Nat) : Int)) (k := k) hi ?_ (Nat.le_succ _) (Int.le_refl _)
    intro p hp
    rcases List.mem_cons.mp hp with e | e
    · exact Or.inl e
    · have := hi.seqBound p e
      exact Or.inr ⟨e, by push_cast; omega, lookupKey_none hk p e⟩
  | put kvs t hfl hlast ht => exact ht ▸ minv_putMany kvs s hi
  | delete ids => exact minv_delete s ids hi
  | reset m l now => exact MInv.congr (s := s) rfl rfl hi

/-- "A string is mapped to at most one id and an id to at most one string", in every state reachable by any history of
    get-or-create, put, delete, reset-flood (and entity) requests under any clock. -/
theorem bijection_invariant (c : Cfg) : ∀ (ops : List Op) (s : State), MInv s → MInv (run c s ops) :=
  fun ops _ hi => List.foldlRecOn ops (step c) hi (fun s hs op _ => minv_step c s op hs)

theorem reachable_bijection (c : Cfg) (ops : List Op) : MInv (run c State.empty ops) := bijection_invariant c ops _ minv_empty

theorem created_positive (c : Cfg) (s : State) (m k now : Nat) (id : Int)
    (h : (getOrCreate c s m k now).2 = .created id) : 0 < id := by
  rw [created_id h]
  push_cast
  omega

/-! ### a mapping never changes until it is explicitly deleted (or explicitly overwritten by put) -/

theorem get_or_create_stable (c : Cfg) (s : State) (m k now : Nat) (id : Int) (h : lookupKey s.maps k = some id) :
    getOrCreate c s m k now = (s, .got id) := by
  unfold getOrCreate; simp [h]

/-- "repeated get-or-create calls return the same id": whatever the first call answered with an id, the second call
    (any metric, any later or earlier time) answers `got` with that id and leaves the state unchanged -/
theorem get_idempotent (c : Cfg) (s : State) (m k now m' now' : Nat) (id : Int)
    (h : (getOrCreate c s m k now).2 = .created id ∨ (getOrCreate c s m k now).2 = .got id) :
    getOrCreate c (getOrCreate c s m k now).1 m' k now' = ((getOrCreate c s m k now).1, .got id) := by
  apply get_or_create_stable
  have hs := goc_shape c s m k now
  generalize getOrCreate c s m k now = p at hs h
  cases hs with
  | got id' hk =>
    rcases h with h | h
    · cases h
    · injection h with h
      subst h
      exact hk
  | flood f hk hf hh => rcases h with h | h <;> cases h
  | created free hk hfree =>
    rcases h with h | h
    · injection h with h
      subst h
      simp [lookupKey]
    · cases h

theorem mapping_kept_by_non_explicit_ops (c : Cfg) (s : State) (op : Op)
    (hput : ∀ kvs, op ≠ .put kvs) (hdel : ∀ ids, op ≠ .delete ids) :
    ∀ p ∈ s.maps, p ∈ (step c s op).maps := by
  intro p hp
  have hs := hstep_shape c s (.op op)
  show p ∈ (hstep c s (.op op)).maps
  generalize hstep c s (.op op) = t at hs
  cases hs with
  | quiet o t hmaps => exact hmaps ▸ hp
  | created => exact List.mem_cons_of_mem _ hp
  | put kvs => exact absurd rfl (hput kvs)
  | delete ids => exact absurd rfl (hdel ids)
  | reset => exact hp

/-- delete removes exactly the listed ids and reports how many of them were present -/
theorem delete_exact (s : State) (ids : List Int) (p : Int × Nat) :
    p ∈ (deleteIds s ids).1.maps ↔ p ∈ s.maps ∧ p.1 ∉ ids := by
  simp [deleteIds, List.mem_filter]

theorem putMany_seq (kvs : List (Nat × Int)) (s : State) : s.mapSeq ≤ (putMany s kvs).mapSeq := by
  refine putMany_ind (R := fun s t => s.mapSeq ≤ t.mapSeq) (fun _ => Nat.le_refl _) (fun s k v t h => Nat.le_trans ?_ h) kvs s
  simp only [putOne]
  split <;> omega

theorem mapSeq_mono (c : Cfg) (s : State) (op : Op) : s.mapSeq ≤ (step c s op).mapSeq := by
  have hs := hstep_shape c s (.op op)
  show s.mapSeq ≤ (hstep c s (.op op)).mapSeq
  generalize hstep c s (.op op) = t at hs
  cases hs with
  | quiet o t hmaps hseq => exact Nat.le_of_eq hseq.symm
  | created => exact Nat.le_succ _
  | put kvs t hfl hlast ht => exact ht ▸ putMany_seq kvs s
  | delete => exact Nat.le_refl _
  | reset => exact Nat.le_refl _

theorem mapSeq_mono_run (c : Cfg) (ops : List Op) (s : State) : s.mapSeq ≤ (run c s ops).mapSeq :=
  List.foldlRecOn (motive := fun t => s.mapSeq ≤ t.mapSeq) ops (step c) (Nat.le_refl _)
    (fun t ht op _ => Nat.le_trans ht (mapSeq_mono c t op))

/-- "deleted ids are never handed out again": take any id `p.1` present in a reachable state `s`; after ANY further history
    `ops` (which may delete it), an id created by get-or-create is strictly greater than it. -/
theorem ids_never_reused (c : Cfg) (s : State) (hi : MInv s) (p : Int × Nat) (hp : p ∈ s.maps)
    (ops : List Op) (m k now : Nat) (id : Int)
    (h : (getOrCreate c (run c s ops) m k now).2 = .created id) : p.1 < id := by
  have h1 := hi.seqBound p hp
  have h2 := mapSeq_mono_run c ops s
  rw [created_id h]
  push_cast
  omega

/-! ### flood limits: calcBudget is a token bucket on the metric's flood row

  `bucketRun` / `flood_bound_partial` look at one flood row in isolation, with the elapsed steps as the code measures them;
  `flood_bound`, the bound over full histories, does not go through them. Under a non-decreasing clock the measured steps of
  successive creations telescope to at most the real number of elapsed steps (`lastTimeUpdate` is always a rounded time except
  right after ResetFlood: Observation 1 at the end of the file). -/

/-- calcBudget for one creation (expense 1) as a function of the measured number of elapsed steps -/
def attempt (c : Cfg) (free : Int) (el : Nat) : Int :=
  if overMax free c.maxBudget then free - 1
  else if c.maxBudget ≤ free - 1 + (el : Int) * c.bonus then c.maxBudget - 1 else free - 1 + (el : Int) * c.bonus

theorem calcBudget_eq_attempt (c : Cfg) (free : Int) (last now : Nat) :
    calcBudget free 1 last now c.maxBudget c.bonus c.step = attempt c free (subU32 now last / c.step) := rfl

theorem attempt_le (c : Cfg) (hb : 0 ≤ c.bonus) (free : Int) (el : Nat) :
    attempt c free el ≤ free - 1 + (el : Int) * c.bonus := by
  unfold attempt overMax
  have h0 : 0 ≤ (el : Int) * c.bonus := Int.mul_nonneg (Int.natCast_nonneg el) hb
  split
  · omega
  · split <;> omega

/-- the refill never lifts the budget above maxBudget − 1 (a budget above maxBudget, set by ResetFlood, only shrinks) -/
theorem attempt_cap (c : Cfg) (free : Int) (el : Nat) :
    (free ≤ c.maxBudget → attempt c free el ≤ c.maxBudget - 1) ∧ (c.maxBudget < free → attempt c free el = free - 1) := by
  unfold attempt overMax
  constructor
  · intro h
    have : ¬ (decide (c.maxBudget < free) = true) := by simpa using Int.not_lt.mpr h
    simp only [this]
    split <;> omega
  · intro h
    have : decide (c.maxBudget < free) = true := by simpa using h
    simp only [this, if_true]

theorem attempt_le_pred (c : Cfg) (free : Int) (el : Nat) (B : Int) (hB : c.maxBudget ≤ B) (h : free ≤ B) :
    attempt c free el ≤ B - 1 := by
  have hcap := attempt_cap c free el
  by_cases hle : free ≤ c.maxBudget
  · have := hcap.1 hle
    omega
  · have := hcap.2 (by omega)
    omega

/-- a sequence of creation attempts against one flood row: `el` is the number of elapsed steps the code measures at that
    attempt; a refused attempt (flood-limit error) leaves the row untouched. Returns (#created, final budget, Σ steps of the
    successful attempts). -/
def bucketRun (c : Cfg) : Int → List Nat → Nat × Int × Nat
  | free, [] => (0, free, 0)
  | free, el :: els =>
    if attempt c free el < 0 then bucketRun c free els
    else ((bucketRun c (attempt c free el) els).1 + 1, (bucketRun c (attempt c free el) els).2.1,
          (bucketRun c (attempt c free el) els).2.2 + el)

/-- the budget is a potential: every creation costs one unit, every measured step refills at most `bonus` -/
theorem bucket_potential (c : Cfg) (hb : 0 ≤ c.bonus) : ∀ (els : List Nat) (free : Int),
    ((bucketRun c free els).1 : Int) + (bucketRun c free els).2.1 ≤ free + ((bucketRun c free els).2.2 : Int) * c.bonus := by
  intro els
  induction els with
  | nil => intro free; simp [bucketRun]
  | cons el els ih =>
    intro free
    simp only [bucketRun]
    by_cases h : attempt c free el < 0
    · simp only [h, if_true]; exact ih free
    · simp only [h, if_false]
      have h1 := ih (attempt c free el)
      have h3 := attempt_le c hb free el
      push_cast
      rw [Int.add_mul]
      omega

theorem bucket_nonneg (c : Cfg) : ∀ (els : List Nat) (free : Int), 0 ≤ free → 0 ≤ (bucketRun c free els).2.1 := by
  intro els
  induction els with
  | nil => intro free h; exact h
  | cons el els ih =>
    intro free hf
    simp only [bucketRun]
    by_cases h : attempt c free el < 0
    · simp only [h, if_true]; exact ih free hf
    · simp only [h, if_false]; exact ih _ (Int.not_lt.mp h)

/-- the bound for one flood row in isolation: for every sequence of attempts against it,
    #created ≤ remaining budget at the start + bonus · (steps the code measured at the successful attempts) -/
theorem flood_bound_partial (c : Cfg) (hb : 0 ≤ c.bonus) (free : Int) (hf : 0 ≤ free) (els : List Nat) :
    ((bucketRun c free els).1 : Int) ≤ free + ((bucketRun c free els).2.2 : Int) * c.bonus := by
  have h1 := bucket_potential c hb els free
  have h2 := bucket_nonneg c els free hf
  omega

/-- limited mode: the global budget no longer exempts creations from the per-metric limit (the first half of `Exhausted`) -/
def Limited (c : Cfg) (s : State) : Prop := skipFlood c s = false

theorem budgetFor_limited (c : Cfg) (s : State) (f : Flood) (pred : Nat) (hl : skipFlood c s = false) :
    budgetFor c s f pred = attempt c f.free (subU32 pred (u32 f.last) / c.step) := by
  unfold budgetFor
  rw [hl]
  exact calcBudget_eq_attempt c f.free (u32 f.last) pred

theorem floodHit_limited (c : Cfg) (s : State) (f : Flood) (pred : Nat) (hl : skipFlood c s = false) :
    floodHit c s f pred = decide (attempt c f.free (subU32 pred (u32 f.last) / c.step) < 0) := by
  unfold floodHit
  rw [hl, budgetFor_limited c s f pred hl]
  rfl

/-- "requests beyond that fail with a flood-limit error" — and change nothing -/
theorem beyond_budget_is_flood_error (c : Cfg) (s : State) (m k now : Nat) (f : Flood) (hl : Limited c s)
    (hk : lookupKey s.maps k = none) (hf : lookupFlood s.flood m = some f)
    (hneg : attempt c f.free (subU32 (roundTime now c.step) (u32 f.last) / c.step) < 0) :
    getOrCreate c s m k now = (s, .flood) := by
  have hs := goc_shape c s m k now
  generalize getOrCreate c s m k now = p at hs
  cases hs with
  | got id hk' => rw [hk] at hk'; cases hk'
  | flood f' hk' hf' hh => rfl
  | created free hk' hfree =>
    exfalso
    rcases hfree with ⟨f', hf', hh, _⟩ | ⟨hf', _⟩
    · rw [hf] at hf'
      injection hf' with e
      subst e
      rw [floodHit_limited c s f _ hl] at hh
      simp [hneg] at hh
    · rw [hf] at hf'
      cases hf'

/-- a metric without a flood row starts with the maximum budget: the creation succeeds and leaves maxBudget − 1 -/
theorem create_first (c : Cfg) (s : State) (m k now : Nat) (hk : lookupKey s.maps k = none)
    (hf : lookupFlood s.flood m = none) :
    (getOrCreate c s m k now).2 = .created ((s.mapSeq + 1 : Nat) : Int) ∧
    lookupFlood (getOrCreate c s m k now).1.flood m
      = some { metric := m, last := roundTime now c.step, free := c.maxBudget - 1 } := by
  unfold getOrCreate createMapping
  simp only [hk, hf]
  exact ⟨rfl, lookup_setFlood_eq s.flood _⟩

/-! ### the flood bound over full mixed histories (with restarts)

  "Once the global budget is exhausted, the number of new mappings a metric can create in any time span is at most its remaining
   budget (the maximum budget, or the value set by a flood reset) plus the per-step bonus times the number of elapsed steps."

  A history is any `List HOp`: get-or-create for any metrics and keys, put, delete, reset-flood, entity saves and restarts. A time
  span is any segment `ops` of such a history, started in the state `s` the prefix produced. Hypotheses:
  * `Exhausted c s` — the global budget is exhausted (the last created id is not inside it and the id sequence is past it); this
    is preserved by every operation (`exhausted_hstep`), so it is a condition on the start of the span only;
  * no reset-flood of `m` inside the span (a reset hands out a new budget: it starts a new span; resets of other metrics are fine);
  * the clock seen by `m`'s get-or-create requests is non-decreasing from `t0` and stays ≤ `T < 2^32` (other requests may carry any
    time). Without it the bound is false: `backwards_clock_breaks_bound`.
  * `CfgOk`: stepSec ≥ 1, bonus ≥ 0, maxBudget ≥ 1 (with maxBudget = 0 a first creation still succeeds: `zero_budget_creates`;
    no witness is given for stepSec ≥ 1 and bonus ≥ 0).
  With resets of `m` inside the span each reset adds what it hands out: `flood_bound_across_resets`. -/

/-- number of mappings created for metric `m` while `ops` runs from `s` -/
def createdFor (c : Cfg) (m : Nat) : State → List HOp → Nat
  | _, [] => 0
  | s, o :: os => (if createdNow c s m o then 1 else 0) + createdFor c m (hstep c s o) os

def noReset (m : Nat) : HOp → Bool
  | .op (.reset m' _ _) => m' != m
  | _ => true

/-- the times carried by the get-or-create requests of metric `m` are non-decreasing, start at `t0` or later and end at `T` or
    earlier; nothing is required of any other request -/
def clockOk (m T : Nat) : Nat → List HOp → Bool
  | _, [] => true
  | t0, .op (.getOrCreate m' _ now) :: os =>
    if m' == m then decide (t0 ≤ now) && decide (now ≤ T) && clockOk m T now os else clockOk m T t0 os
  | t0, _ :: os => clockOk m T t0 os

/-- the remaining budget of a metric: its flood row, or the maximum budget when it has none (`Meta.freeCount` is this for the
    literal metric 0) -/
def budget (c : Cfg) (s : State) (m : Nat) : Int :=
  match lookupFlood s.flood m with
  | some f => f.free
  | none => c.maxBudget

structure CfgOk (c : Cfg) : Prop where
  step : 1 ≤ c.step
  bonus : 0 ≤ c.bonus
  maxB : 1 ≤ c.maxBudget

/-- "the global budget is exhausted" -/
def Exhausted (c : Cfg) (s : State) : Prop := skipFlood c s = false ∧ c.globalBudget ≤ (s.mapSeq : Int)

/-- `Exhausted` looks at the last created id and the id sequence only: it survives when the sequence does not go down and the last
    created id stays, is forgotten (restart), or is a new id above the old sequence -/
theorem Exhausted.mono {c : Cfg} {s t : State} (h : Exhausted c s) (hseq : s.mapSeq ≤ t.mapSeq)
    (hl : t.lastCreated = s.lastCreated ∨ t.lastCreated = 0 ∨ (t.lastCreated = (t.mapSeq : Int) ∧ s.mapSeq < t.mapSeq)) :
    Exhausted c t := by
  obtain ⟨h1, h2⟩ := h
  refine ⟨?_, by omega⟩
  rcases hl with hl | hl | ⟨hl, hlt⟩
  · unfold skipFlood at h1 ⊢
    rw [hl]
    exact h1
  · simp [skipFlood, hl]
  · simp only [skipFlood, hl, Bool.and_eq_false_iff, decide_eq_false_iff_not]
    right
    omega

theorem exhausted_hstep (c : Cfg) (s : State) (o : HOp) (h : Exhausted c s) : Exhausted c (hstep c s o) := by
  have hs := hstep_shape c s o
  generalize hstep c s o = t at hs
  cases hs with
  | quiet o t hmaps hseq hfl hlast => exact h.mono (Nat.le_of_eq hseq.symm) (hlast.imp_right Or.inl)
  | created => exact h.mono (Nat.le_succ _) (Or.inr (Or.inr ⟨rfl, Nat.lt_succ_self _⟩))
  | put kvs t hfl hlast ht => exact h.mono (ht ▸ putMany_seq kvs s) (Or.inl hlast)
  | delete => exact h.mono (Nat.le_refl _) (Or.inl rfl)
  | reset => exact h.mono (Nat.le_refl _) (Or.inl rfl)

theorem exhausted_hrun (c : Cfg) : ∀ (ops : List HOp) (s : State), Exhausted c s → Exhausted c (hrun c s ops) :=
  fun ops _ h => List.foldlRecOn ops (hstep c) h (fun s hs o _ => exhausted_hstep c s o hs)

/-- what a creation for `m` at time `now` leaves as remaining budget in `m`'s flood row once the global budget no longer exempts it:
    the accepted bucket attempt on the old row, or maxBudget − 1 when there was no row. `u32 f.last`: getOrCreateMapping reads the
    stored time as uint32, while ResetFlood stores the full `db.now().Unix()` -/
def RowWrite (c : Cfg) (s : State) (m now : Nat) (free : Int) : Prop :=
  (∃ f, lookupFlood s.flood m = some f ∧
        ¬ attempt c f.free (subU32 (roundTime now c.step) (u32 f.last) / c.step) < 0 ∧
        free = attempt c f.free (subU32 (roundTime now c.step) (u32 f.last) / c.step)) ∨
  (lookupFlood s.flood m = none ∧ free = c.maxBudget - 1)

theorem rowWrite_of_created {c : Cfg} {s : State} {m now : Nat} {free : Int} (hl : skipFlood c s = false)
    (hfree : NewFree c s m now free) : RowWrite c s m now free := by
  rcases hfree with ⟨f, hf, hh, hfr⟩ | h
  · rw [floodHit_limited c s f _ hl] at hh
    exact Or.inl ⟨f, hf, by simpa using hh, hfr.trans (budgetFor_limited c s f _ hl)⟩
  · exact Or.inr h

/-- what one operation does to the flood row of metric `m`: nothing, unless it is a reset of `m` (excluded by `noReset`) or a
    successful creation for `m`, which rewrites the row as one bucket attempt -/
theorem hstep_row (c : Cfg) (s : State) (m : Nat) (o : HOp) (hex : Exhausted c s) (hr : noReset m o = true) :
    (lookupFlood (hstep c s o).flood m = lookupFlood s.flood m ∧ createdNow c s m o = false) ∨
    (∃ k now free, o = .op (.getOrCreate m k now) ∧ createdNow c s m o = true ∧
      lookupFlood (hstep c s o).flood m = some { metric := m, last := roundTime now c.step, free := free } ∧
      ((∃ f, lookupFlood s.flood m = some f ∧
            ¬ attempt c f.free (subU32 (roundTime now c.step) (u32 f.last) / c.step) < 0 ∧
            free = attempt c f.free (subU32 (roundTime now c.step) (u32 f.last) / c.step)) ∨
       (lookupFlood s.flood m = none ∧ free = c.maxBudget - 1))) := by
  have hs := hstep_shape c s o
  generalize hstep c s o = t at hs
  cases hs with
  | quiet o t hmaps hseq hfl hlast hcr => exact Or.inl ⟨by rw [hfl], hcr m⟩
  | put kvs t hfl => exact Or.inl ⟨by rw [hfl], rfl⟩
  | delete => exact Or.inl ⟨rfl, rfl⟩
  | reset m' l now =>
    have hne : m' ≠ m := by simpa [noReset] using hr
    exact Or.inl ⟨lookup_resetTable_ne c s.flood l now hne, rfl⟩
  | created m' k now free hk hfree hcr =>
    by_cases hm : m' = m
    · subst hm
      exact Or.inr ⟨k, now, free, rfl, by rw [hcr]; exact beq_self_eq_true _, lookup_setFlood_eq s.flood _,
        rowWrite_of_created hex.1 hfree⟩
    · exact Or.inl ⟨lookup_setFlood_ne s.flood _ m hm, by rw [hcr]; simpa using hm⟩

/-- `clockOk` read for one operation: `t1` is the lower bound it hands on to the rest of the history — the request's own time when
    the operation is a get-or-create of `m`, otherwise `t0` -/
theorem clock_step (m T t0 : Nat) (o : HOp) (os : List HOp) (h : clockOk m T t0 (o :: os) = true) :
    ∃ t1, t0 ≤ t1 ∧ (t0 ≤ T → t1 ≤ T) ∧ clockOk m T t1 os = true ∧ (∀ k now, o = .op (.getOrCreate m k now) → t1 = now ∧ now ≤ T) := by
  cases o with
  | reopen => exact ⟨t0, Nat.le_refl _, id, h, fun _ _ h' => nomatch h'⟩
  | op o =>
    cases o with
    | getOrCreate m' k now =>
      simp only [clockOk] at h
      by_cases hm : (m' == m) = true
      · simp only [hm, if_true, Bool.and_eq_true, decide_eq_true_eq] at h
        refine ⟨now, h.1.1, fun _ => h.1.2, h.2, ?_⟩
        intro k' now' h'
        injection h' with h'
        injection h' with _ _ h3
        exact ⟨h3, h3 ▸ h.1.2⟩
      · simp only [hm] at h
        refine ⟨t0, Nat.le_refl _, id, h, ?_⟩
        intro k' now' h'
        injection h' with h'
        injection h' with h1 _ _
        exact absurd (by simp [h1]) hm
    | _ => exact ⟨t0, Nat.le_refl _, id, h, fun _ _ h' => nomatch h'⟩

/-- Σ over the reset-flood requests of `m` in `ops` of max(maxBudget, value the reset sets) — `resetAfter` is the code's own
    capping: maxBudget for a limit ≤ 0, the limit itself up to 10000, 10000 above -/
def resetBudgets (c : Cfg) (m : Nat) : List HOp → Int
  | [] => 0
  | .op (.reset m' l _) :: os => (if m' == m then max c.maxBudget (resetAfter c l) else 0) + resetBudgets c m os
  | _ :: os => resetBudgets c m os

theorem resetBudgets_cons_noReset (c : Cfg) (m : Nat) (o : HOp) (os : List HOp) (h : noReset m o = true) :
    resetBudgets c m (o :: os) = resetBudgets c m os := by
  cases o with
  | reopen => rfl
  | op o =>
    cases o with
    | reset m' l now =>
      have : (m' == m) = false := by simpa [noReset] using h
      simp [resetBudgets, this]
    | _ => rfl

theorem noReset_false (m : Nat) (o : HOp) (h : noReset m o = false) : ∃ l now, o = .op (.reset m l now) := by
  cases o with
  | reopen => simp [noReset] at h
  | op o =>
    cases o with
    | reset m' l now =>
      have : m' = m := by simpa [noReset] using h
      subst this; exact ⟨l, now, rfl⟩
    | _ => simp [noReset] at h

theorem budget_after_reset (c : Cfg) (s : State) (m : Nat) (l : Int) (now : Nat) :
    budget c (hstep c s (.op (.reset m l now))) m = resetAfter c l := by
  simp only [hstep, step, budget, resetFlood_eq, lookup_resetTable_eq]
  by_cases h : l ≤ 0
  · simp only [h, if_true, resetAfter]
  · simp only [h, if_false]

theorem resetBudgets_noReset (c : Cfg) (m : Nat) : ∀ ops : List HOp, (∀ o ∈ ops, noReset m o = true) → resetBudgets c m ops = 0 := by
  intro ops
  induction ops with
  | nil => intro _; rfl
  | cons o os ih =>
    intro h
    rw [resetBudgets_cons_noReset c m o os (h o List.mem_cons_self)]
    exact ih (fun o' ho' => h o' (List.mem_cons_of_mem _ ho'))

/-- what the flood row of `m` still allows: `B` creations now and `bonus` more per step from step index `kl` on. Either nothing is
    known about the time in the row (no row yet, a reset, a clock that went back before the span): the first creation may measure
    any number of steps, so `B` has to cover maxBudget as well as the stored budget. Or a creation at step index `kl` wrote the row. -/
def Credit (c : Cfg) (s : State) (m : Nat) (B : Int) (kl : Nat) : Prop :=
  max c.maxBudget (budget c s m) ≤ B ∨
  ∃ free, lookupFlood s.flood m = some { metric := m, last := c.step * kl, free := free } ∧ 0 ≤ free ∧ free ≤ B

theorem Credit.nonneg {c : Cfg} {s : State} {m : Nat} {B : Int} {kl : Nat} (hc : CfgOk c) (h : Credit c s m B kl) : 0 ≤ B := by
  rcases h with h | ⟨free, _, h0, h1⟩
  · exact Int.le_trans (Int.le_trans (by decide) hc.maxB) (Int.le_trans (Int.le_max_left _ _) h)
  · exact Int.le_trans h0 h1

theorem Credit.congr {c : Cfg} {s t : State} {m : Nat} {B : Int} {kl : Nat} (h : lookupFlood t.flood m = lookupFlood s.flood m)
    (hcr : Credit c s m B kl) : Credit c t m B kl := by
  unfold Credit budget at *
  rw [h]
  exact hcr

/-- a creation at a time with step index `k1 ≥ kl` spends one unit of the credit and earns the bonus of the steps since `kl` -/
theorem credit_created (c : Cfg) (hc : CfgOk c) (s : State) (m : Nat) (B : Int) (kl t1 : Nat) (free' : Int)
    (hcr : Credit c s m B kl) (hk : kl ≤ t1 / c.step) (ht : t1 < two32)
    (hfrom : RowWrite c s m t1 free') :
    0 ≤ free' ∧ free' ≤ B - 1 + ((t1 / c.step - kl : Nat) : Int) * c.bonus := by
  have hnn : 0 ≤ ((t1 / c.step - kl : Nat) : Int) * c.bonus := Int.mul_nonneg (Int.natCast_nonneg _) hc.bonus
  have hmax := hc.maxB
  rcases hcr with hB | ⟨free, hrow, _, hB⟩
  · have hB1 : c.maxBudget ≤ B := Int.le_trans (Int.le_max_left _ _) hB
    rcases hfrom with ⟨f, hf, hpos, hfr⟩ | ⟨hf, hfr⟩
    · have hB2 : f.free ≤ B := by
        have hbud : budget c s m = f.free := by unfold budget; rw [hf]
        exact hbud ▸ Int.le_trans (Int.le_max_right _ _) hB
      have hle := attempt_le_pred c f.free (subU32 (roundTime t1 c.step) (u32 f.last) / c.step) B hB1 hB2
      rw [hfr]
      omega
    · omega
  · rcases hfrom with ⟨f, hf, hpos, hfr⟩ | ⟨hf, _⟩
    · rw [hrow] at hf
      injection hf with hf
      subst hf
      simp only at hpos hfr
      rw [measured_steps c.step kl t1 hc.step ht hk] at hpos hfr
      have hle := attempt_le c hc.bonus free (t1 / c.step - kl)
      rw [hfr]
      omega
    · rw [hrow] at hf
      cases hf

theorem bonus_split (b : Int) {kl k1 K : Nat} (h1 : kl ≤ k1) (h2 : k1 ≤ K) :
    b * ((K - kl : Nat) : Int) = ((k1 - kl : Nat) : Int) * b + b * ((K - k1 : Nat) : Int) := by
  rw [← Nat.sub_add_sub_cancel h2 h1, Nat.add_comm, Int.natCast_add, Int.mul_add, Int.mul_comm b]

/-- the credit bounds the creations of every span, resets of `m` allowed anywhere. Every creation re-bases the pair: it pays the
    bonus of the steps `kl..k1` into `B` (`credit_created`, `bonus_split`) and leaves the steps `k1..T/step` to the rest of the
    span; a reset of `m` hands out max(maxBudget, its value) and is entered in `resetBudgets` -/
theorem flood_credit (c : Cfg) (hc : CfgOk c) (m T : Nat) (hT : T < two32) : ∀ (ops : List HOp) (s : State) (B : Int) (kl t0 : Nat),
    Exhausted c s → Credit c s m B kl → kl ≤ t0 / c.step → t0 ≤ T → clockOk m T t0 ops = true →
    (createdFor c m s ops : Int) ≤ B + resetBudgets c m ops + c.bonus * ((T / c.step - kl : Nat) : Int) := by
  intro ops
  induction ops with
  | nil =>
    intro s B kl t0 _ hcr _ _ _
    have h0 : 0 ≤ c.bonus * ((T / c.step - kl : Nat) : Int) := Int.mul_nonneg hc.bonus (Int.natCast_nonneg _)
    have hB := hcr.nonneg hc
    simp only [createdFor, resetBudgets]
    omega
  | cons o os ih =>
    intro s B kl t0 hex hcr hkl ht0 hck
    obtain ⟨t1, ht01, ht1T, hck', hnow⟩ := clock_step m T t0 o os hck
    have hex' := exhausted_hstep c s o hex
    have hk1 : kl ≤ t1 / c.step := Nat.le_trans hkl (Nat.div_le_div_right ht01)
    by_cases hnr : noReset m o = true
    · rw [resetBudgets_cons_noReset c m o os hnr]
      simp only [createdFor]
      rcases hstep_row c s m o hex hnr with ⟨hsame, hcn⟩ | ⟨k, now, free', ho, hcn, hnew, hfrom⟩
      · have hih := ih (hstep c s o) B kl t1 hex' (hcr.congr hsame) hk1 (ht1T ht0) hck'
        rw [hcn]
        simpa using hih
      · obtain ⟨ht1, hnowT⟩ := hnow k now ho
        subst ht1
        have hn32 : t1 < two32 := by omega
        obtain ⟨h0, hle⟩ := credit_created c hc s m B kl t1 free' hcr hk1 hn32 hfrom
        have hih := ih (hstep c s o) _ (t1 / c.step) t1 hex'
          (Or.inr ⟨free', by rw [hnew, roundTime_eq t1 c.step hn32], h0, hle⟩) (Nat.le_refl _) hnowT hck'
        rw [hcn, bonus_split c.bonus hk1 (Nat.div_le_div_right hnowT)]
        simp only [if_true]
        push_cast
        omega
    · obtain ⟨l, now, ho⟩ := noReset_false m o (by simpa using hnr)
      subst ho
      have hB := hcr.nonneg hc
      have hih := ih _ (max c.maxBudget (resetAfter c l)) kl t1 hex'
        (Or.inl (by rw [budget_after_reset]; exact Int.le_refl _)) hk1 (ht1T ht0) hck'
      have hcn : createdNow c s m (.op (.reset m l now)) = false := rfl
      simp only [createdFor, hcn, resetBudgets, beq_self_eq_true, if_true, Bool.false_eq_true, if_false]
      push_cast
      omega

/-- "…at most its remaining budget (the maximum budget, or the value set by a flood reset) plus the per-step bonus times the
    number of elapsed steps": for every span `ops` of every mixed history (any metrics, keys, puts, deletes, resets of other metrics,
    entity saves, restarts) started with the global budget exhausted, under a non-decreasing clock of `m`'s requests in [t0, T],
        #created(m) ≤ max(maxBudget, remaining budget of m at the start) + bonus · (⌊T/step⌋ − ⌊t0/step⌋). -/
theorem flood_bound (c : Cfg) (hc : CfgOk c) (m T : Nat) (hT : T < two32) : ∀ (ops : List HOp) (s : State) (t0 : Nat),
    Exhausted c s → t0 ≤ T → (∀ o ∈ ops, noReset m o = true) → clockOk m T t0 ops = true →
    (createdFor c m s ops : Int) ≤ max c.maxBudget (budget c s m) + c.bonus * ((T / c.step - t0 / c.step : Nat) : Int) := by
  intro ops s t0 hex ht0 hnr hck
  have h := flood_credit c hc m T hT ops s _ _ t0 hex (Or.inl (Int.le_refl _)) (Nat.le_refl _) ht0 hck
  rw [resetBudgets_noReset c m ops hnr] at h
  omega

/-- a small configuration for the concrete witnesses: budget 3, one unit per 60 s, no global budget -/
def c3 : Cfg := { maxBudget := 3, step := 60, bonus := 1, globalBudget := 0 }
def gcs (reqs : List (Nat × Nat)) : List Op := reqs.map (fun r => Op.getOrCreate 1 r.1 r.2)

-- non-vacuity of `flood_bound`: its hypotheses hold on a mixed history (other metric, put, delete, reset of another metric, a
-- restart) and the bound is attained: 3 = maxBudget creations at once, flood-limit, one more after one step
def mixed : List HOp :=
  [.op (.getOrCreate 1 1 600), .op (.getOrCreate 2 7 600), .op (.getOrCreate 1 2 610), .op (.put [(9, 40)]), .reopen,
   .op (.getOrCreate 1 3 610), .op (.reset 2 5 620), .op (.getOrCreate 1 4 650), .op (.delete [1]), .op (.getOrCreate 1 4 665)]

example : CfgOk c3 := ⟨by decide +kernel, by decide +kernel, by decide +kernel⟩
example : Exhausted c3 State.empty := ⟨by decide +kernel, by decide +kernel⟩
example : (∀ o ∈ mixed, noReset 1 o = true) ∧ clockOk 1 665 600 mixed = true := by decide +kernel
example : createdFor c3 1 State.empty mixed = 4 ∧ budget c3 State.empty 1 = 3 ∧ 665 / 60 - 600 / 60 = 1 := by decide +kernel
example : (getOrCreate c3 (hrun c3 State.empty (mixed.take 7)) 1 4 650).2 = .flood := by decide +kernel

/-- without the clock hypothesis the bound is false: budget 3, bonus 1 per 60 s; three creations at t = 600 exhaust the budget, then
    the clock goes BACK to 540 and the unsigned subtraction `now − lastTimeUpdate` wraps to ≈ 2^32 s: the budget is refilled to
    maxBudget − 1 and three more mappings are created although no step has elapsed -/
theorem backwards_clock_breaks_bound :
    createdFor c3 1 State.empty ((gcs [(1, 600), (2, 600), (3, 600), (4, 540), (5, 540), (6, 540)]).map HOp.op) = 6 ∧
    clockOk 1 600 0 ((gcs [(1, 600), (2, 600), (3, 600), (4, 540), (5, 540), (6, 540)]).map HOp.op) = false := by decide +kernel

/-- what the wrap does in general: whenever the measured steps times the bonus cover the gap to maxBudget the row is reset to
    maxBudget − 1, whatever it held -/
theorem wrap_refills (c : Cfg) (free : Int) (el : Nat) (hf : free ≤ c.maxBudget)
    (hbig : c.maxBudget ≤ free - 1 + (el : Int) * c.bonus) : attempt c free el = c.maxBudget - 1 := by
  unfold attempt overMax
  have : ¬ (decide (c.maxBudget < free) = true) := by simpa using Int.not_lt.mpr hf
  simp only [this, hbig, if_true]
  rfl

/-- maxBudget = 0 is not a "no mappings" configuration: the first creation of a metric succeeds and stores −1 -/
theorem zero_budget_creates :
    (getOrCreate { maxBudget := 0, step := 60, bonus := 0, globalBudget := 0 } State.empty 1 1 600).2 = .created 1 := by decide +kernel

/-- "…at most its remaining budget (the maximum budget, or the value set by a flood reset) plus the per-step bonus times the
    number of elapsed steps", ACROSS RESETS: for every span of every mixed history with restarts — now with any number of
    reset-flood requests of `m` inside — started with the global budget exhausted, under a non-decreasing clock of `m`'s requests,
      #created(m) ≤ max(maxBudget, budget(m) at the start) + Σ_{resets of m in the span} max(maxBudget, value set by the reset)
                    + bonus · (⌊T/step⌋ − ⌊t0/step⌋).
    With no reset of `m` in the span this is `flood_bound`. -/
theorem flood_bound_across_resets (c : Cfg) (hc : CfgOk c) (m T : Nat) (hT : T < two32) (ops : List HOp) (s : State) (t0 : Nat)
    (hex : Exhausted c s) (ht0 : t0 ≤ T) (hck : clockOk m T t0 ops = true) :
    (createdFor c m s ops : Int) ≤ max c.maxBudget (budget c s m) + resetBudgets c m ops
      + c.bonus * ((T / c.step - t0 / c.step : Nat) : Int) :=
  flood_credit c hc m T hT ops s _ _ t0 hex (Or.inl (Int.le_refl _)) (Nat.le_refl _) ht0 hck

-- non-vacuity: budget 3; three creations, flood-limit, a reset to 2 (below maxBudget: it still contributes max(3, 2) = 3 because the
-- unrounded reset time makes the next creation wrap: Observation 1 at the end of the file), three more creations, flood-limit;
-- one step later one more
def withReset : List HOp :=
  [.op (.getOrCreate 1 1 600), .op (.getOrCreate 1 2 600), .op (.getOrCreate 1 3 600), .op (.getOrCreate 1 4 600),
   .op (.reset 1 2 630), .op (.getOrCreate 1 4 640), .op (.getOrCreate 1 5 640), .op (.getOrCreate 1 6 640), .op (.getOrCreate 1 7 640),
   .op (.reset 2 9 650), .op (.getOrCreate 1 7 665)]
example : clockOk 1 665 600 withReset = true ∧ createdFor c3 1 State.empty withReset = 7 ∧ resetBudgets c3 1 withReset = 3 := by decide +kernel
example : resetBudgets c3 1 [.op (.reset 1 20000 5), .op (.reset 1 0 6), .op (.reset 1 7 7)] = 10000 + 3 + 7 := by decide +kernel

def FloodBounded (c : Cfg) (s : State) : Prop := ∀ f ∈ s.flood, f.free ≤ max c.maxBudget maxResetLimit

theorem resetAfter_le (c : Cfg) (limit : Int) : resetAfter c limit ≤ max c.maxBudget maxResetLimit := by
  unfold resetAfter maxResetLimit
  split
  · exact Int.le_max_left _ _
  · split
    · exact Int.le_max_right _ _
    · rename_i h1 h2
      have : limit ≤ 10000 := by simpa [maxResetLimit] using Int.not_lt.mp h2
      exact Int.le_trans this (Int.le_max_right _ _)

theorem floodBounded_hstep (c : Cfg) (s : State) (o : HOp) (h : FloodBounded c s) : FloodBounded c (hstep c s o) := by
  have hs := hstep_shape c s o
  generalize hstep c s o = t at hs
  cases hs with
  | quiet o t hmaps hseq hfl => intro f hf; exact h f (hfl ▸ hf)
  | put kvs t hfl => intro f hf; exact h f (hfl ▸ hf)
  | delete => exact h
  | reset m l now =>
    intro f hf
    rcases mem_resetTable hf with hf | hf
    · subst hf; exact resetAfter_le c l
    · exact h f hf
  | created m k now free hk hfree =>
    intro g hg
    rcases mem_setFlood hg with hg | hg
    · subst hg
      simp only
      rcases hfree with ⟨f, hf, _, hfr⟩ | ⟨_, hfr⟩
      · rw [hfr]
        unfold budgetFor
        split
        · exact Int.le_max_left _ _
        · rw [calcBudget_eq_attempt]
          have h2 := h f (lookupFlood_mem hf)
          exact Int.le_trans (attempt_le_pred c f.free _ _ (Int.le_max_left _ _) h2) (by omega)
      · rw [hfr]
        have := Int.le_max_left c.maxBudget maxResetLimit
        omega
    · exact h g hg

/-- "(the maximum budget, or the value set by a flood reset)": in every state reachable by any history with restarts the
    remaining budget of every metric is at most max(maxBudget, 10000), 10000 being the largest value a reset can set -/
theorem budget_bounded (c : Cfg) : ∀ (ops : List HOp) (s : State), FloodBounded c s → ∀ m,
    budget c (hrun c s ops) m ≤ max c.maxBudget maxResetLimit := by
  intro ops s h m
  have hb : FloodBounded c (hrun c s ops) := List.foldlRecOn ops (hstep c) h (fun t ht o _ => floodBounded_hstep c t o ht)
  unfold budget
  cases hf : lookupFlood (hrun c s ops).flood m with
  | none => exact Int.le_max_left _ _
  | some f => exact hb f (lookupFlood_mem hf)

/-- "the value set by a flood reset" has a ceiling: whatever value is requested, the row a reset-flood leaves behind holds
    min(requested value, 10000) — in particular never more than the ceiling and never more than what the reply reports -/
theorem reset_budget_le_ceiling (c : Cfg) (s : State) (m : Nat) (limit : Int) (now : Nat) (f : Flood)
    (h : lookupFlood (resetFlood c s m limit now).1.flood m = some f) :
    0 < limit ∧ f.free = min limit maxResetLimit ∧ f.free ≤ maxResetLimit ∧ f.free = (resetFlood c s m limit now).2.2 := by
  rw [resetFlood_eq] at h ⊢
  simp only [lookup_resetTable_eq] at h
  split at h
  · cases h
  · rename_i hl
    injection h with h
    subst h
    have hmin : resetAfter c limit = min limit maxResetLimit := by
      unfold resetAfter
      rw [if_neg hl]
      split <;> omega
    exact ⟨by omega, hmin, hmin ▸ Int.min_le_right _ _, rfl⟩

/-- a ResetFlood that clamps the reply but stores the raw value, next to the model: a reset to 20000
    leaves a budget of 20000 while reporting 10000; a budget above maxBudget is never capped by calcBudget (`attempt_cap`), so the
    metric really gets 20000 creations; `FloodBounded`, which every reachable state of the real model satisfies, fails -/
def resetFloodRaw (c : Cfg) (s : State) (metric : Nat) (limit : Int) (now : Nat) : State × Int × Int :=
  if limit ≤ 0 then resetFlood c s metric limit now
  else ({ s with flood := setFlood s.flood { metric := metric, last := now, free := limit } }, freeCount c s, resetAfter c limit)

example : (resetFloodRaw c3 State.empty 1 20000 600).1.flood = [{ metric := 1, last := 600, free := 20000 }] ∧
    (resetFloodRaw c3 State.empty 1 20000 600).2.2 = 10000 := by decide +kernel
example : (resetFlood c3 State.empty 1 20000 600).1.flood = [{ metric := 1, last := 600, free := 10000 }] := by decide +kernel
example : attempt c3 20000 0 = 19999 ∧ attempt c3 10001 0 = 10000 := by decide +kernel
example : ¬ FloodBounded c3 (resetFloodRaw c3 State.empty 1 20000 600).1 := by
  intro h
  exact absurd (h { metric := 1, last := 600, free := 20000 } (by decide +kernel)) (by decide +kernel)
-- non-vacuity of `reset_budget_le_ceiling`: values around the ceiling
example : ((resetFlood c3 State.empty 1 9999 5).1.flood.map (·.free), (resetFlood c3 State.empty 1 10000 5).1.flood.map (·.free),
    (resetFlood c3 State.empty 1 10001 5).1.flood.map (·.free), (resetFlood c3 State.empty 1 2147483647 5).1.flood.map (·.free))
    = ([9999], [10000], [10000], [10000]) := by decide +kernel

/-! ### where the global-budget decision is read

  `getOrCreate c s m k now` takes NO pre-read argument: `skipFlood c s` looks at `s.lastCreated`, the state in which the request is
  APPLIED (the real code reads db.lastMappingIDToInsert inside the eng.Do callback, where requests are serialised). A history is
  the order of application, so `flood_bound` is about exactly that order. `getOrCreateStale` decides from a snapshot taken
  when the request ENTERED GetOrCreateMapping: -/

/-- get-or-create whose global-budget decision uses `snap`, a value of lastCreated read earlier (at function entry) -/
def getOrCreateStale (c : Cfg) (s : State) (snap : Int) (m k now : Nat) : State × MapOut :=
  let r := getOrCreate c { s with lastCreated := snap } m k now
  ({ r.1 with lastCreated := match r.2 with
                             | .created id => id
                             | _ => s.lastCreated }, r.2)

theorem getOrCreateStale_fresh (c : Cfg) (s : State) (m k now : Nat) :
    (getOrCreateStale c s s.lastCreated m k now).2 = (getOrCreate c s m k now).2 := by
  rfl

/-- budget 1, global budget 2, bonus 1 per hour, the clock never moves. k1, k2 are inside the global budget; the late request
    enters now (snapshot 2); k3 uses up the global budget, k4 spends the metric's budget, k5 is refused -/
def cG : Cfg := { maxBudget := 1, step := 3600, bonus := 1, globalBudget := 2 }
def sLate : State := run cG State.empty [.getOrCreate 1 1 7200, .getOrCreate 1 2 7200, .getOrCreate 1 3 7200, .getOrCreate 1 4 7200]
example : sLate.lastCreated = 4 ∧ sLate.flood = [{ metric := 1, last := 7200, free := 0 }] := by decide +kernel
example : Exhausted cG sLate ∧ (getOrCreate cG sLate 1 5 7200).2 = .flood := ⟨⟨by decide +kernel, by decide +kernel⟩, by decide +kernel⟩
-- the code (decision at apply time): the late request is refused like k5, the budget stays spent
example : getOrCreate cG sLate 1 9 7200 = (sLate, .flood) := by decide +kernel
-- `getOrCreateStale` (snapshot 2 taken at entry, still inside the global budget): the late request is created, the skip path also
-- rewrites the metric's budget to maxBudget, so the next request succeeds as well — 3 creations against a budget of 1, no step elapsed
example : (getOrCreateStale cG sLate 2 1 9 7200).2 = .created 5 ∧
    (getOrCreateStale cG sLate 2 1 9 7200).1.flood = [{ metric := 1, last := 7200, free := 1 }] ∧
    (getOrCreate cG (getOrCreateStale cG sLate 2 1 9 7200).1 1 10 7200).2 = .created 6 := by decide +kernel
-- … which `flood_bound` forbids for the real model: from sLate at most max(1, 0) + 1·0 = 1 … in fact 0 further creations
example : createdFor cG 1 sLate [.op (.getOrCreate 1 9 7200), .op (.getOrCreate 1 10 7200)] = 0 := by decide +kernel

-- budget 3, no time passes: three creations, then flood-limit; one step later one more creation
example : ((gcs [(1, 600), (2, 600), (3, 600)]).foldl (step c3) State.empty).maps.map (·.1) = [3, 2, 1] := by decide +kernel
example : (getOrCreate c3 (run c3 State.empty (gcs [(1, 600), (2, 600), (3, 600)])) 1 4 600).2 = .flood := by decide +kernel
example : (getOrCreate c3 (run c3 State.empty (gcs [(1, 600), (2, 600), (3, 600)])) 1 4 660).2 = .created 4 := by decide +kernel
example : (getOrCreate c3 (run c3 State.empty (gcs [(1, 600), (2, 600), (3, 600)])) 1 2 9999).2 = .got 2 := by decide +kernel
example : bucketRun c3 2 [0, 0, 0, 0, 1, 0] = (3, 0, 1) := by decide +kernel
-- a deleted id is not handed out again
example : (getOrCreate c3 (run c3 State.empty (gcs [(1, 600), (2, 600)] ++ [.delete [2]])) 1 9 600).2 = .created 3 := by decide +kernel
-- put displaces both the pair using the key and the pair using the id
example : (run c3 State.empty (gcs [(1, 600), (2, 600)] ++ [.put [(1, 2)]])).maps = [(2, 1)] := by decide +kernel

/-- Observation 1: ResetFlood stores the UNROUNDED time. A reset to 1 at t = 630 followed by a creation at t = 640
    (same 60 s step) measures 2^32 − 30 elapsed seconds by unsigned wrap, so the budget is refilled to maxBudget − 1 = 2
    instead of going from 1 to 0. -/
example : (run c3 State.empty (gcs [(1, 600)] ++ [.reset 1 1 630, .getOrCreate 1 2 640])).flood
    = [{ metric := 1, last := 600, free := 2 }] := by decide +kernel
/-- Observation 2: the same wrap refills the budget when the clock moves backwards by one step -/
example : (getOrCreate c3 (run c3 State.empty (gcs [(1, 600), (2, 600), (3, 600)])) 1 4 540).2 = .created 4 := by decide +kernel

end SH.C19
