/-
  C11 — Tag values are normalized and raw tag values parsed exactly.

  "Forcing any byte string into a tag value yields a valid value (UTF-8, at most 128 bytes, trimmed, single ASCII
   spaces, printable) that equals the input when the input was already valid, and forcing is idempotent; strict
   normalization fails only on invalid UTF-8 and otherwise agrees with forcing. Raw tags accept exactly the decimal
   integers in [-2^31, 2^32-1] (64-bit raw tags: [-2^63, 2^64-1]) and store their bit pattern so that it decodes
   back to the same number."

  Models: SH.Model.Norm, SH.Model.RawTag (tied to /repo by the C11 correspondence); unicode tables: SH.Gen.C11
  (regenerated from the Go toolchain on every run).

  Raw tags: accept sets, read-back, leading zeros of any length.  Normalisation: force (valid, identity on valid,
  idempotent), strict against force, valid_iff (what "valid" means), the in-place call on a shared array, whitespace
  runs of any length.
-/
import SH.Model.Norm
import SH.Model.RawTag
import SH.Gen.C11
import SH.Lemmas.RawTagC11
import SH.Lemmas.NormC11
import SH.Lemmas.NormInPlaceC11
import SH.Lemmas.NormLenC11
import SH.Lemmas.NormSpecC11

namespace SH.C11

section Raw
open SH.RawTag

/-- "decimal integer": one or more ASCII digits with an optional sign; the number it denotes -/
inductive Decimal : List UInt8 → Int → Prop
  | pos (d : List UInt8) : d ≠ [] → AllDigits d → Decimal d (natVal d 0)
  | plus (d : List UInt8) : d ≠ [] → AllDigits d → Decimal (plus :: d) (natVal d 0)
  | neg (d : List UInt8) : d ≠ [] → AllDigits d → Decimal (minus :: d) (-(natVal d 0 : Int))

theorem decimal_plus (d : List UInt8) (v : Int) : Decimal (plus :: d) v ↔ d ≠ [] ∧ AllDigits d ∧ v = (natVal d 0 : Int) := by
  constructor
  · intro h
    cases h with
    | pos _ _ had => exact absurd rfl (digit_not_sign plus (had plus (by simp))).1
    | plus _ hd had => exact ⟨hd, had, rfl⟩
  · rintro ⟨hd, had, rfl⟩
    exact Decimal.plus d hd had

theorem decimal_minus (d : List UInt8) (v : Int) :
    Decimal (minus :: d) v ↔ d ≠ [] ∧ AllDigits d ∧ v = -(natVal d 0 : Int) := by
  constructor
  · intro h
    cases h with
    | pos _ _ had => exact absurd rfl (digit_not_sign minus (had minus (by simp))).2
    | neg _ hd had => exact ⟨hd, had, rfl⟩
  · rintro ⟨hd, had, rfl⟩
    exact Decimal.neg d hd had

theorem decimal_unsigned (c : UInt8) (d : List UInt8) (v : Int) (hp : c ≠ plus) (hm : c ≠ minus) :
    Decimal (c :: d) v ↔ (c :: d ≠ [] ∧ AllDigits (c :: d) ∧ v = (natVal (c :: d) 0 : Int)) := by
  constructor
  · intro h
    cases h with
    | pos _ hd had => exact ⟨hd, had, rfl⟩
    | plus _ _ _ => exact absurd rfl hp
    | neg _ _ _ => exact absurd rfl hm
  · rintro ⟨hd, had, rfl⟩
    exact Decimal.pos _ hd had

/-- strconv.ParseInt(s, 10, 64) accepts exactly the decimal integers of the int64 range -/
theorem parseInt64_iff (s : List UInt8) (v : Int) :
    parseInt64 s = some v ↔ Decimal s v ∧ -(2 ^ 63 : Int) ≤ v ∧ v < (2 ^ 63 : Int) := by
  cases s with
  | nil => exact ⟨(fun h => nomatch h), fun h => by cases h.1 with | pos d hd _ => exact absurd rfl hd⟩
  | cons c rest =>
    simp only [parseInt64]
    by_cases hp : c = plus
    · subst hp
      rw [if_pos rfl, decimal_plus]
      refine (magnitude_match rest (· < 2 ^ 63) (fun n => (n : Int)) v).trans (and_congr_right ?_)
      rintro ⟨_, _, rfl⟩
      omega
    by_cases hm : c = minus
    · subst hm
      rw [if_neg (by decide), if_pos rfl, decimal_minus]
      refine (magnitude_match rest (· ≤ 2 ^ 63) (fun n => -(n : Int)) v).trans (and_congr_right ?_)
      rintro ⟨_, _, rfl⟩
      omega
    · rw [if_neg hp, if_neg hm, decimal_unsigned c rest v hp hm]
      refine (magnitude_match (c :: rest) (· < 2 ^ 63) (fun n => (n : Int)) v).trans (and_congr_right ?_)
      rintro ⟨_, _, rfl⟩
      omega

/-- "Raw tags accept exactly the decimal integers in [-2^31, 2^32-1] … and store their bit pattern":
    ContainsRawTagValueBytes answers (p, true) iff the bytes are a decimal integer (optional sign, leading zeros
    allowed) whose value v lies in [-2^31, 2^32-1], and then p is v's 32-bit two's complement pattern. -/
theorem raw32_accepts_iff (s : List UInt8) (p : Nat) :
    raw32 s = some p ↔ ∃ v, Decimal s v ∧ -(2 ^ 31 : Int) ≤ v ∧ v ≤ (2 ^ 32 - 1 : Int) ∧ p = pattern 32 v := by
  unfold raw32
  constructor
  · intro h
    cases hp : parseInt64 s with
    | none => simp [hp] at h
    | some i =>
      simp only [hp] at h
      obtain ⟨hd, _, _⟩ := (parseInt64_iff s i).1 hp
      split at h
      · rename_i hr; cases h; exact ⟨i, hd, hr.1, hr.2, rfl⟩
      · cases h
  · rintro ⟨v, hd, hlo, hhi, rfl⟩
    have := (parseInt64_iff s v).2 ⟨hd, by omega, by omega⟩
    simp only [this]
    rw [if_pos ⟨hlo, hhi⟩]

/-- "… so that it decodes back to the same number": negative numbers read back through the signed reading of the
    pattern, non-negative ones through the unsigned reading (and below 2^31 both readings agree). -/
theorem raw32_roundtrip (v : Int) (hlo : -(2 ^ 31 : Int) ≤ v) (hhi : v ≤ (2 ^ 32 - 1 : Int)) :
    pattern 32 v < 2 ^ 32 ∧ (v < 0 → asSigned 32 (pattern 32 v) = v) ∧ (0 ≤ v → asUnsigned (pattern 32 v) = v) ∧
    (0 ≤ v → v < (2 ^ 31 : Int) → asSigned 32 (pattern 32 v) = v) :=
  pattern_roundtrip 31 v hlo (by omega)

/-- 64-bit raw tags: accepted iff a decimal integer WITHOUT an explicit plus sign (strconv.ParseUint takes none —
    unlike the 32-bit parser) whose value lies in [-2^63, 2^64-1]; the result is its 64-bit pattern. -/
theorem raw64_accepts_iff (s : List UInt8) (p : Nat) :
    raw64 s = some p ↔
      ∃ v, Decimal s v ∧ s.head? ≠ some plus ∧ -(2 ^ 63 : Int) ≤ v ∧ v ≤ (2 ^ 64 - 1 : Int) ∧ p = pattern 64 v := by
  cases s with
  | nil => exact ⟨(fun h => nomatch h), fun ⟨v, hd, _⟩ => by cases hd with | pos d hd _ => exact absurd rfl hd⟩
  | cons c rest =>
    by_cases hm : c = minus
    · subst hm
      simp only [raw64, ↓reduceIte, Option.map_eq_some_iff, parseInt64_iff, List.head?_cons, ne_eq, Option.some.injEq]
      constructor
      · rintro ⟨i, ⟨hd, h1, h2⟩, rfl⟩
        exact ⟨i, hd, by decide, h1, by omega, rfl⟩
      · rintro ⟨v, hd, _, h1, h2, rfl⟩
        have hv := ((decimal_minus rest v).1 hd).2.2
        exact ⟨v, ⟨hd, h1, by omega⟩, rfl⟩
    · simp only [raw64, hm, ↓reduceIte, parseUint64_iff, List.head?_cons, ne_eq, Option.some.injEq]
      constructor
      · rintro ⟨h1, h2, rfl, h4⟩
        have hp := (digit_not_sign c (h2 c (by simp))).1
        refine ⟨_, (decimal_unsigned c rest _ hp hm).2 ⟨h1, h2, rfl⟩, hp, by omega, by omega, ?_⟩
        exact (Int.ofNat_inj.1 (pattern_nonneg 64 _ (by omega) (by omega))).symm
      · rintro ⟨v, hd, hp, h1, h2, rfl⟩
        obtain ⟨hne, had, rfl⟩ := (decimal_unsigned c rest v hp hm).1 hd
        have := pattern_nonneg 64 _ (Int.natCast_nonneg (natVal (c :: rest) 0)) (by omega)
        exact ⟨hne, had, Int.ofNat_inj.1 this, by omega⟩

theorem raw64_roundtrip (v : Int) (hlo : -(2 ^ 63 : Int) ≤ v) (hhi : v ≤ (2 ^ 64 - 1 : Int)) :
    pattern 64 v < 2 ^ 64 ∧ (v < 0 → asSigned 64 (pattern 64 v) = v) ∧ (0 ≤ v → asUnsigned (pattern 64 v) = v) ∧
    (0 ≤ v → v < (2 ^ 63 : Int) → asSigned 64 (pattern 64 v) = v) :=
  pattern_roundtrip 63 v hlo (by omega)

/-! non-vacuity and the boundaries (ASCII: '0' = 0x30, '+' = 0x2B, '-' = 0x2D) -/
def str (s : String) : List UInt8 := s.toList.map (fun c => UInt8.ofNat c.toNat)

example : raw32 (str "-2147483648") = some 2147483648 ∧ raw32 (str "-2147483649") = none := by decide +kernel
example : raw32 (str "4294967295") = some 4294967295 ∧ raw32 (str "4294967296") = none := by decide +kernel
example : raw32 (str "+007") = some 7 ∧ raw32 (str "-0") = some 0 ∧ raw32 (str "-1") = some 4294967295 := by decide +kernel
example : raw32 (str "") = none ∧ raw32 (str "+") = none ∧ raw32 (str "1_0") = none ∧ raw32 (str " 1") = none := by decide +kernel
example : raw64 (str "-9223372036854775808") = some 9223372036854775808 ∧ raw64 (str "-9223372036854775809") = none := by
  decide +kernel
example : raw64 (str "18446744073709551615") = some 18446744073709551615 ∧ raw64 (str "18446744073709551616") = none := by
  decide +kernel
/-- the asymmetry between the two parsers: an explicit plus sign is a raw value for 32-bit tags only -/
example : raw32 (str "+5") = some 5 ∧ raw64 (str "+5") = none := by decide +kernel
example : Decimal (str "-12") (-12) := Decimal.neg (str "12") (by decide) (by unfold AllDigits; decide)

/-- "a decimal integer may carry any number of leading zeros": for every k, k zeros in front of the digits — at the
    start of the spelling or right after the sign — give the same answer (accepted or not, and the same stored
    pattern) as the spelling without them, for both raw parsers.  `c :: rest` is a spelling that starts with a digit
    (anything may follow: if it is not a decimal integer both sides are rejected alike). -/
theorem leading_zeros_irrelevant (k : Nat) (c : UInt8) (rest : List UInt8) (hc : isDigit c = true) :
    raw32 (zeros k ++ c :: rest) = raw32 (c :: rest) ∧
    raw64 (zeros k ++ c :: rest) = raw64 (c :: rest) ∧
    raw32 (minus :: (zeros k ++ c :: rest)) = raw32 (minus :: c :: rest) ∧
    raw64 (minus :: (zeros k ++ c :: rest)) = raw64 (minus :: c :: rest) ∧
    raw32 (plus :: (zeros k ++ c :: rest)) = raw32 (plus :: c :: rest) ∧
    raw64 (plus :: (zeros k ++ c :: rest)) = raw64 (plus :: c :: rest) := by
  have hne : (c :: rest) ≠ [] := by simp
  have e1 := parseInt64_zeros k c rest hc
  have e2 := parseInt64_sign_zeros k minus (Or.inr rfl) (c :: rest) hne
  have e3 := parseInt64_sign_zeros k plus (Or.inl rfl) (c :: rest) hne
  have e4 := parseUint64_zeros k (c :: rest) hne
  have hpm : plus ≠ minus := by decide
  obtain ⟨h1, h2⟩ := digit_not_sign c hc
  refine ⟨by simp only [raw32, e1], ?_, by simp only [raw32, e2], by simp only [raw64, ↓reduceIte, e2],
    by simp only [raw32, e3], ?_⟩
  · cases k with
    | zero => rfl
    | succ k =>
      have hz : (0x30 : UInt8) ≠ minus := by decide
      simp only [zeros, List.replicate_succ, List.cons_append] at e4 ⊢
      simp only [raw64, hz, h2, ↓reduceIte, e4]
  · -- an explicit plus: ParseUint rejects it whatever follows
    have : ∀ t, parseUint64 (plus :: t) = none := by
      intro t
      have : isDigit plus = false := by decide
      simp [parseUint64, digitsVal, this]
    simp only [raw64, hpm, ↓reduceIte, this]

/-- instances for every number k of zeros: zeros then 42; '-', zeros, then 1 -/
example (k : Nat) : raw64 (zeros k ++ str "42") = some 42 ∧ raw32 (zeros k ++ str "42") = some 42 := by
  have h := leading_zeros_irrelevant k 0x34 (str "2") (by decide +kernel)
  exact ⟨h.2.1.trans (by decide +kernel), h.1.trans (by decide +kernel)⟩
example (k : Nat) : raw64 (minus :: (zeros k ++ str "1")) = some (2 ^ 64 - 1) ∧
    raw32 (minus :: (zeros k ++ str "1")) = some (2 ^ 32 - 1) := by
  have h := leading_zeros_irrelevant k 0x31 [] (by decide +kernel)
  exact ⟨h.2.2.2.1.trans (by decide +kernel), h.2.2.1.trans (by decide +kernel)⟩
/-- … and a boundary value stays a boundary value: 2^64-1 accepted, 2^64 rejected behind any number of zeros -/
example (k : Nat) : raw64 (zeros k ++ str "18446744073709551615") = some 18446744073709551615 ∧
    raw64 (zeros k ++ str "18446744073709551616") = none := by
  have e1 : str "18446744073709551615" = 0x31 :: str "8446744073709551615" := by decide +kernel
  have e2 : str "18446744073709551616" = 0x31 :: str "8446744073709551616" := by decide +kernel
  rw [e1, e2, (leading_zeros_irrelevant k 0x31 _ (by decide)).2.1, (leading_zeros_irrelevant k 0x31 _ (by decide)).2.1]
  decide +kernel

end Raw

section Normalisation
open SH.Norm

/-- the four sanity facts hold for the tables dumped from the Go toolchain on this run -/
theorem gen_tables_sane : SH.Gen.C11.tables.Sane where
  print_ascii := by decide +kernel
  space_ascii := fun c h1 h2 =>
    (by decide +kernel : ∀ c, c < 128 → 0x20 ≤ c → c ≤ 0x7e → SH.Gen.C11.tables.isSpace c = decide (c = 0x20)) c (by omega) h1 h2
  print_fffd := by decide +kernel
  space_fffd := by decide +kernel

/-- "Forcing any byte string into a tag value yields a valid value (UTF-8, at most 128 bytes, trimmed, single ASCII
    spaces, printable)": for every byte string, every IsSpace/IsPrint tables with the sanity facts and every length
    limit, the forced value passes validStringValue — which checks the length, rejects malformed UTF-8, leading,
    trailing, doubled and non-ASCII spaces and non-printable runes — and is at most maxLen bytes long. -/
theorem force_valid (T : Tables) (hT : T.Sane) (maxLen : Nat) (b : List UInt8) :
    valid T maxLen (force T maxLen b) = true ∧ (force T maxLen b).length ≤ maxLen := by
  obtain ⟨out, prev, he, hi⟩ := slow_inv T hT maxLen b [] true (inv_init T maxLen)
  have h : valid T maxLen (force T maxLen b) = true := by
    rw [force_eq_slow T hT, he]
    exact trimLast_valid T maxLen out prev hi
  exact ⟨h, valid_length T maxLen _ h⟩

/-- "… that equals the input when the input was already valid" -/
theorem force_id_on_valid (T : Tables) (hT : T.Sane) (maxLen : Nat) (b : List UInt8) (hv : valid T maxLen b = true) :
    force T maxLen b = b := by
  rw [force_eq_slow T hT]
  exact slow_returns_valid_input T hT maxLen b hv

/-- "… and forcing is idempotent" -/
theorem force_idempotent (T : Tables) (hT : T.Sane) (maxLen : Nat) (b : List UInt8) :
    force T maxLen (force T maxLen b) = force T maxLen b :=
  force_id_on_valid T hT maxLen _ (force_valid T hT maxLen b).1

/-- ForceValidStringValue (the string version with the "already valid" shortcut) is the same function -/
theorem forceStr_eq_force (T : Tables) (hT : T.Sane) (maxLen : Nat) (b : List UInt8) :
    forceStr T maxLen b = force T maxLen b := by
  unfold forceStr
  by_cases hv : valid T maxLen b = true
  · simp [hv, force_id_on_valid T hT maxLen b hv]
  · simp [hv]

/-- "strict normalization fails only on invalid UTF-8 …": on well-formed UTF-8 it succeeds, with the forced value
    appended to dst … -/
theorem strict_ok_on_utf8 (T : Tables) (maxLen : Nat) (dst b : List UInt8) (hu : utf8Valid b = true) :
    strict T maxLen dst b = some (dst ++ force T maxLen b) := by
  obtain ⟨v, hv⟩ := strict_some T maxLen dst b hu
  rw [hv, appendValid_eq_force T maxLen dst b v hv]

theorem strict_fails_only_on_bad_utf8 (T : Tables) (maxLen : Nat) (dst b : List UInt8)
    (h : strict T maxLen dst b = none) : utf8Valid b = false := by
  cases hu : utf8Valid b with
  | false => rfl
  | true => rw [strict_ok_on_utf8 T maxLen dst b hu] at h; cases h

/-- "… and otherwise agrees with forcing": whenever it does not fail — also on malformed input whose damage lies
    beyond the point where the output is full — the result is dst followed by the forced value. -/
theorem strict_agrees_with_force (T : Tables) (maxLen : Nat) (dst b v : List UInt8)
    (h : strict T maxLen dst b = some v) : v = dst ++ force T maxLen b :=
  appendValid_eq_force T maxLen dst b v h

/-- The converse of strict_fails_only_on_bad_utf8 is FALSE for the code as it is (and the property does not claim it):
    malformed bytes after the maxLen-byte cut are never looked at, so
      strict T maxLen [] b = if utf8Valid b then some (force T maxLen b) else none
    does not hold.  Counterexample (maxLen 2 to keep it small; same with 128): -/
example : utf8Valid [0x61, 0x62, 0x63, 0xFF] = false ∧
    strict SH.Gen.C11.tables 2 [] [0x61, 0x62, 0x63, 0xFF] = some [0x61, 0x62] := by decide +kernel

/-- for ANY tables (valid_iff needs Tables.Sane) -/
theorem valid_is_utf8 (T : Tables) (maxLen : Nat) (b : List UInt8) (hv : valid T maxLen b = true) :
    utf8Valid b = true ∧ b.length ≤ maxLen := by
  refine ⟨?_, valid_length T maxLen b hv⟩
  cases b with
  | nil => rfl
  | cons c rest =>
    rw [valid_eq_validL, List.isEmpty_cons, Bool.false_or, Bool.and_eq_true] at hv
    obtain ⟨rs, h, _⟩ := (validL_iff_goodR T _ _ true (Nat.le_refl _)).1 hv.2
    exact decodeAll_utf8Ok _ _ rs h

def G := SH.Gen.C11.tables

/-! non-vacuity, on the toolchain's tables (bytes: 0x20 ' ', 0x09 tab, 0xC2 0xA0 = U+00A0, 0xE2 0x80 0x8B = U+200B) -/

example : force G 128 [0x20, 0x61, 0x09, 0x20, 0xC2, 0xA0, 0x62, 0x20] = [0x61, 0x20, 0x62] := by decide +kernel
example : force G 128 [0x61, 0xFF, 0xE2, 0x80, 0x8B] = [0x61, 0xEF, 0xBF, 0xBD, 0xEF, 0xBF, 0xBD] := by decide +kernel
example : strict G 128 [0x70] [0x61, 0xFF] = none ∧ strict G 128 [0x70] [0x20, 0x61] = some [0x70, 0x61] := by decide +kernel
example : valid G 128 [0x61, 0x20, 0xD0, 0x96] = true ∧ valid G 128 [0x61, 0x20, 0x20, 0x62] = false ∧
    valid G 128 [0x61, 0x20] = false ∧ valid G 128 [0xED, 0xA0, 0x80] = false := by decide +kernel
/-- truncation never splits a rune and never leaves a trailing space (limit 4 to keep it small) -/
example : force G 4 [0x61, 0x20, 0xD0, 0x96, 0xD0, 0x96] = [0x61, 0x20, 0xD0, 0x96] ∧
    force G 4 [0x61, 0x62, 0x63, 0x20, 0x64] = [0x61, 0x62, 0x63] ∧
    force G 4 [0x61, 0x62, 0x63, 0xD0, 0x96] = [0x61, 0x62, 0x63] := by decide +kernel

/-- `valid` (the model of validStringValue / ValidStringValue / ValidStringValueBytes) holds exactly when
    * the bytes are at most maxLen long ("at most 128 bytes"),
    * they are well-formed UTF-8: they decode, DecodeRune by DecodeRune, into a rune list `rs` ("UTF-8"),
    * every rune is printable per the table, and a rune the table calls a space can only be U+0020
      ("printable", "ASCII spaces"),
    * the first and the last rune are not a space ("trimmed"),
    * no two consecutive runes are both spaces ("single spaces").
    Where the code and this reading could differ and do not: on bytes 0x20..0x7e the code does not consult the tables
    (bytePrint, `c == ' '`) — equal to the tables by Tables.Sane (re-proved for the toolchain's tables on every run);
    "printable" is unicode.IsPrint, which already excludes every space except U+0020 and every control/format rune;
    the empty value is valid; a literal U+FFFD is accepted (it is printable), only (RuneError, width ≤ 1) is malformed. -/
theorem valid_iff (T : Tables) (hT : T.Sane) (maxLen : Nat) (b : List UInt8) :
    valid T maxLen b = true ↔
      b.length ≤ maxLen ∧
      ∃ rs, runesOf b = some rs ∧ (∀ r ∈ rs, RuneOK T r) ∧ rs.head? ≠ some 0x20 ∧ rs.getLast? ≠ some 0x20 ∧
        NoDoubleSpace rs := by
  rw [valid_eq_validL]
  simp only [Bool.and_eq_true, decide_eq_true_eq, Bool.or_eq_true]
  cases b with
  | nil =>
    simp only [List.length_nil, Nat.zero_le, List.isEmpty_nil, true_or, and_self, true_and, true_iff]
    exact ⟨[], rfl, by simp, by simp, by simp, by simp [NoDoubleSpace]⟩
  | cons c rest =>
    simp only [List.isEmpty_cons, Bool.false_eq_true, false_or, and_congr_right_iff]
    intro _
    unfold runesOf
    rw [validL_iff_goodR T _ _ _ (Nat.le_refl _)]
    constructor
    · rintro ⟨rs, h1, h2⟩
      obtain ⟨g1, g2, _, g4, g5⟩ := (goodR_iff T hT rs true).1 h2
      exact ⟨rs, h1, g1, g2 rfl, g4, g5⟩
    · rintro ⟨rs, h1, g1, g2, g4, g5⟩
      refine ⟨rs, h1, (goodR_iff T hT rs true).2 ⟨g1, fun _ => g2, ?_, g4, g5⟩⟩
      intro h
      exact absurd h (decodeAll_cons_ne_nil _ c rest rs h1)

/-- force_valid restated on the property's own notion: the forced value is at most maxLen bytes of well-formed UTF-8
    whose runes are printable, with only ASCII spaces, none leading, trailing or doubled. -/
theorem force_valid_spec (T : Tables) (hT : T.Sane) (maxLen : Nat) (b : List UInt8) :
    (force T maxLen b).length ≤ maxLen ∧
    ∃ rs, runesOf (force T maxLen b) = some rs ∧ (∀ r ∈ rs, RuneOK T r) ∧ rs.head? ≠ some 0x20 ∧
      rs.getLast? ≠ some 0x20 ∧ NoDoubleSpace rs :=
  (valid_iff T hT maxLen _).1 (force_valid T hT maxLen b).1

/-- bytes that decode into runes are well-formed in the sense of the strict-normalisation theorems (the converse is not
    proved) -/
theorem runesOf_utf8Valid (b : List UInt8) (rs : List Nat) (h : runesOf b = some rs) : utf8Valid b = true :=
  decodeAll_utf8Ok _ b rs h

/-! non-vacuity: "a b" / "Ж" decode and satisfy every clause; one failing witness per clause -/
example : runesOf [0x61, 0x20, 0xD0, 0x96] = some [0x61, 0x20, 0x416] := by decide +kernel
example : valid G 128 [0x61, 0x20, 0xD0, 0x96] = true := by decide +kernel
example : valid G 128 [0x20, 0x61] = false ∧ valid G 128 [0x61, 0x20] = false ∧
    valid G 128 [0x61, 0x20, 0x20, 0x62] = false ∧ valid G 128 [0x61, 0xC2, 0xA0, 0x62] = false ∧
    valid G 128 [0x61, 0x09, 0x62] = false ∧ valid G 128 [0x61, 0xC2, 0xAD] = false ∧
    valid G 128 [0x61, 0xC0, 0x80] = false ∧ valid G 2 [0x61, 0x62, 0x63] = false := by decide +kernel
example : RuneOK G 0x416 ∧ RuneOK G 0x20 ∧ ¬ RuneOK G 0xA0 ∧ ¬ RuneOK G 0xAD ∧ ¬ RuneOK G 0x09 := by
  unfold RuneOK; decide

/-! ### in place: ForceValidStringValueBytes(b) calls appendValidStringValue(b[:0], b, …) — dst aliases src
    (ForceValidStringValue makes the same call on its own copy `[]byte(src)`) -/

/-- For every backing array `arr` (the caller's b[:cap(b)]) and every slice length n ≤ cap, the in-place call —
    modelled at the level of the shared array, each read looking at the array as it is at that moment — returns
    exactly the out-of-place `force` of the slice's bytes.  (What makes it safe in the code as it is: the slow path
    writes into the local `buf` and touches the shared array only after the last read, first half of slowIP_value; the
    fast path copies the bytes onto themselves, which changes nothing, as poke_self states.) -/
theorem force_in_place_eq (T : Tables) (maxLen : Nat) (arr : List UInt8) (n : Nat) (hn : n ≤ arr.length) :
    (forceInPlace .buffered T maxLen arr n).value = force T maxLen (arr.take n) := by
  rw [(forceInPlace_force T maxLen arr n hn).1, appendAtZero_value]

/-- … and the caller's array afterwards: the result sits at its start when it fits the capacity (the returned slice
    aliases the array), otherwise the array is untouched and the result lives in a fresh array.  The statement carries
    `hne`, which is not needed: for an empty slice the result is `[]`, aliased, and the array is as it was, which is what
    the first clause says. -/
theorem force_in_place_memory (T : Tables) (maxLen : Nat) (arr : List UInt8) (n : Nat) (hn : n ≤ arr.length)
    (hne : (arr.take n).isEmpty = false) :
    let v := force T maxLen (arr.take n)
    let r := forceInPlace .buffered T maxLen arr n
    (v.length ≤ arr.length → r.aliased = true ∧ r.arr = v ++ arr.drop v.length) ∧
    (arr.length < v.length → r.aliased = false ∧ r.arr = arr) := by
  intro v r
  have hr : r = appendAtZero arr v := (forceInPlace_force T maxLen arr n hn).1
  rw [hr]
  unfold appendAtZero
  constructor
  · intro h; simp [h, poke]
  · intro h
    have : ¬ v.length ≤ arr.length := by omega
    simp [this]

/-- non-vacuity (and the growing case: 1 input byte, 3 output bytes, capacity 2: reallocated, caller's array intact) -/
example : forceInPlace .buffered G 128 [0x01, 0xAA] 1 = ⟨[0xEF, 0xBF, 0xBD], [0x01, 0xAA], false⟩ := by decide +kernel
example : forceInPlace .buffered G 128 [0x20, 0x61, 0x20, 0x20, 0x62, 0xAA] 5 =
    ⟨[0x61, 0x20, 0x62], [0x61, 0x20, 0x62, 0x20, 0x62, 0xAA], true⟩ := by decide +kernel
/-- why the local buffer matters: appending each rune straight to dst (`WriteMode.direct`) lets the write index
    overtake the read index as soon as a rune grows (0x01 → U+FFFD) and the unread "host" is decoded from clobbered
    bytes ("\x01host" → five U+FFFD; the trial change seeded/C11-2 does this to /repo). -/
example : (forceInPlace .direct G 128 [0x01, 0x68, 0x6F, 0x73, 0x74, 0xAA, 0xAA, 0xAA, 0xAA, 0xAA, 0xAA, 0xAA, 0xAA, 0xAA, 0xAA] 5).value
      = [0xEF, 0xBF, 0xBD, 0xEF, 0xBF, 0xBD, 0xEF, 0xBF, 0xBD, 0xEF, 0xBF, 0xBD, 0xEF, 0xBF, 0xBD] ∧
    force G 128 [0x01, 0x68, 0x6F, 0x73, 0x74] = [0xEF, 0xBF, 0xBD, 0x68, 0x6F, 0x73, 0x74] := by decide +kernel

/-- The invariant that would make appending straight to dst safe — "the write index never overtakes the read index":
    if every rune the slow path writes is no longer than what it consumed (`nonGrowing`: spaces collapsing, valid
    printable text; NOT a control byte or a 2-byte non-printable turning into the 3-byte U+FFFD), the direct variant
    reads the same bytes as the buffered code and returns the same value (the second half of slowIP_value keeps
    `len(written) ≤ read index`, so no unread byte is overwritten).  The code as it is does not need this hypothesis
    (force_in_place_eq); the example above shows the hypothesis cannot be dropped for the direct variant. -/
theorem direct_safe_when_not_growing (T : Tables) (maxLen : Nat) (arr : List UInt8) (n : Nat) (hn : n ≤ arr.length)
    (hg : nonGrowing T (n + 1) (arr.take n) true = true) :
    (forceInPlace .direct T maxLen arr n).value = force T maxLen (arr.take n) :=
  (forceInPlace_force T maxLen arr n hn).2 hg

/-- non-vacuity: messy spacing only shrinks, so it is nonGrowing; "\x01host" is not -/
example : nonGrowing G 6 [0x20, 0x61, 0x20, 0x20, 0x62] true = true ∧
    nonGrowing G 6 [0x01, 0x68, 0x6F, 0x73, 0x74] true = false := by decide +kernel

/-- "trimmed": whitespace in front of a value — the encodings of any number of runes the table calls spaces, hence
    any number of BYTES — does not take part in the result: forcing `ws ++ s` is forcing `s`.  (The output has at most
    maxLen bytes but the bytes that form it may lie arbitrarily far into the input: no cut of the input at a fixed
    offset is sound; the trial changes seeded/C11-r3-1 and seeded/C11-r4-1 cut at 132 and at 512 bytes.) -/
theorem force_ignores_leading_whitespace_length (T : Tables) (hT : T.Sane) (maxLen : Nat) (ws s : List UInt8)
    (hws : WsOnly T ws) : force T maxLen (ws ++ s) = force T maxLen s := by
  rw [force_eq_slow T hT, force_eq_slow T hT, slow_skip_ws T maxLen ws hws]

/-- "single ASCII spaces": a non-empty whitespace run of any length after whole runes `a` acts exactly like one
    ASCII space, whatever follows. -/
theorem force_whitespace_run_length (T : Tables) (hT : T.Sane) (maxLen : Nat) (a ws s : List UInt8) (ra : List Nat)
    (ha : Encoded a ra) (hws : WsOnly T ws) (hne : ws ≠ []) :
    force T maxLen (a ++ ws ++ s) = force T maxLen (a ++ (0x20 : UInt8) :: s) := by
  rw [force_eq_slow T hT, force_eq_slow T hT, List.append_assoc,
    slow_prefix_congr T maxLen a ra ha (ws ++ s) (0x20 :: s) (fun o p => slow_ws_run T hT maxLen ws hws hne s o p)]

/-- the same for the string variant (ForceValidStringValue) and for strict normalisation when it succeeds -/
theorem forceStr_ignores_leading_whitespace_length (T : Tables) (hT : T.Sane) (maxLen : Nat) (ws s : List UInt8)
    (hws : WsOnly T ws) : forceStr T maxLen (ws ++ s) = forceStr T maxLen s := by
  rw [forceStr_eq_force T hT, forceStr_eq_force T hT, force_ignores_leading_whitespace_length T hT maxLen ws s hws]

theorem strict_ignores_leading_whitespace_length (T : Tables) (hT : T.Sane) (maxLen : Nat) (dst ws s v : List UInt8)
    (hws : WsOnly T ws) (h : strict T maxLen dst (ws ++ s) = some v) : v = dst ++ force T maxLen s := by
  rw [← force_ignores_leading_whitespace_length T hT maxLen ws s hws]
  exact strict_agrees_with_force T maxLen dst _ v h

/-- non-vacuity for EVERY run length k: k spaces then "host-42"; "\tdc1", k newlines, "rack7 "; k EM SPACEs
    (U+2003, 3 bytes each) then "arg" -/
example (k : Nat) : force G 128 (List.replicate k 0x20 ++ str "host-42") = str "host-42" ∧
    forceStr G 128 (List.replicate k 0x20 ++ str "host-42") = str "host-42" := by
  have hw := wsOnly_spaces G gen_tables_sane k
  rw [forceStr_ignores_leading_whitespace_length G gen_tables_sane 128 _ _ hw,
    force_ignores_leading_whitespace_length G gen_tables_sane 128 _ _ hw]
  decide +kernel
example (k : Nat) (hk : 0 < k) :
    force G 128 (str "\tdc1" ++ List.replicate k 0x0A ++ str "rack7 ") = str "dc1 rack7" := by
  have hne : List.replicate k (0x0A : UInt8) ≠ [] := fun h => Nat.ne_of_gt hk ((List.replicate_eq_nil_iff _).1 h)
  have hws := wsOnly_replicate_ascii G 0x0A (by decide +kernel) (by decide +kernel) k
  rw [force_whitespace_run_length G gen_tables_sane 128 _ _ _ _ (encoded_ascii (str "\tdc1") (by decide +kernel)) hws hne]
  decide +kernel
example (k : Nat) : force G 128 ((List.replicate k [0xE2, 0x80, 0x83]).flatten ++ str "arg") = str "arg" := by
  have hw := wsOnly_replicate G 0x2003 (by unfold Scalar; omega) (by decide +kernel) k
  have he : encodeRune 0x2003 = [0xE2, 0x80, 0x83] := by decide +kernel
  rw [he] at hw
  rw [force_ignores_leading_whitespace_length G gen_tables_sane 128 _ _ hw]
  decide +kernel
/-- the whitespace hypothesis cannot be dropped: a non-printable rune in front is not ignored -/
example : force G 128 ([0x01] ++ str "a") ≠ force G 128 (str "a") := by decide +kernel

end Normalisation

end SH.C11
