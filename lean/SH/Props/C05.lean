/-
  C05 — Sampling keeps the expected value of every row unchanged.

  "Every row handed to the sampler is either kept or discarded exactly once, and a kept row carries the inverse of
   its keep probability as its sample factor (1 for rows kept unconditionally, such as whales or rows of groups
   within budget). Hence the expected inserted count, sum and sum-of-squares of each row equal its true values, and
   rows whose metric is marked not-to-sample on the agent are always kept with factor 1."

  Model: SH.Model.Sampler (`runBucket` = Add* ; Run). All statements quantify over every configuration, bucket,
  budget, draw stream `ds` and tie order (`Item.rank`). Draws are the 53-bit integers `k` of `Float64() = k/2^53`.
  Theorems marked (fix) hold for `Variant.fitKeep` = the code in /repo, which has fixes/C05-sample-fit.diff; for the code
  without it (`Variant.orig`) `orig_keeps_row_with_factor_below_one` is a `decide` witness of the violation
  (`Variant.posIds` has the shortcut too but is outside the (fix) statements).
  `run` is given `fuel0 = 9` units of fuel; that this covers the at most 4 partition levels plus 3 fair-key levels (so that
  `Act.err "fuel"` is never emitted) is not proved here: the statements hold for the model as it is, fuel included.
  Also here: `sampleBucket` around the sampler, the size estimates fed to `Add`, samplers sharing SamplerBuffers.
-/
import SH.Lemmas.SamplerTree
import Mathlib.Tactic.Linarith

namespace SH.Sampler

/-- The decision callbacks (KeepF/DiscardF, including the discards issued by `Add` for rows with size < 1) of
    Add*;Run are, up to order, exactly the rows handed in: no row is lost, none is decided twice.
    For every configuration (every variant), bucket, budget, draw stream and tie order. -/
theorem each_item_once (cfg : Cfg) (items : List Item) (budget : Int) (ds : List Nat) :
    ((evs (runBucket cfg items budget ds)).map (·.id)).Perm (items.map (·.id)) := by
  refine (runBucket_decides (P := fun it e => e.id = it.id) cfg items (fun _ _ => rfl) (fun _ => rfl) (leaf_decides_id cfg)
    budget ds).ids_perm.trans ?_
  have ha : (added cfg items).map (·.id) = (items.filter fun it => !decide (it.size < 1)).map (·.id) := by
    rw [added, List.map_map]
    exact List.map_congr_left fun it _ => prep_id cfg it
  rw [List.map_append, ha, ← List.map_append]
  exact (List.filter_append_perm (fun it : Item => decide (it.size < 1)) items).map _

/-- in particular a bucket with pairwise distinct row ids yields pairwise distinct decisions -/
theorem decisions_nodup (cfg : Cfg) (items : List Item) (budget : Int) (ds : List Nat)
    (h : (items.map (·.id)).Nodup) : ((evs (runBucket cfg items budget ds)).map (·.id)).Nodup :=
  (each_item_once cfg items budget ds).nodup_iff.2 h

/-- `selectRandom` (sf > 1): row i of the slice is kept iff draw i satisfies `u*sf < 1`; every draw is used for
    exactly one row and the stream continues after `len` draws. -/
theorem selectRand_own_draw (num den : Int) (l : List Item) (ds : List Nat) (h : l.length ≤ ds.length) :
    (selectRand num den l ds).1 = List.zipWith (fun it k => Act.ev (sfEv it (drawKeeps k num den) num den)) l ds ∧
    (selectRand num den l ds).2 = ds.drop l.length := by
  induction l generalizing ds with
  | nil => simp [selectRand]
  | cons it r ih =>
    cases ds with
    | nil => simp at h
    | cons k ds =>
      have := ih ds (by simpa using h)
      simp [selectRand, this.1, this.2]

/-- The shapes a decision can have in production mode (random selection):
    * dropped by `Add` because the size estimate is < 1 (factor MaxFloat32; agent and aggregator size estimates are
      ≥ 20 and ≥ 72, so such rows do not occur there: `add_discard_unreachable`);
    * kept with factor exactly 1 (groups within budget, whales, NoSampleAgent, single counters);
    * carrying a factor `sf = num/den > 1`. The clause `∃ k, kept = drawKeeps k num den` adds nothing to that: for
      `0 < den < num` some `k` gives `true` (k = 0) and some gives `false`. That such a row is decided by ITS OWN draw is
      `selectRand_own_draw`, a statement about `selectRand` alone. -/
def Shape (e : Ev) : Prop :=
  (e.isMax = true ∧ e.kept = false) ∨
  (e.isMax = false ∧ e.kept = true ∧ e.num = 1 ∧ e.den = 1) ∨
  (e.isMax = false ∧ 0 < e.den ∧ e.den < e.num ∧ ∃ k : Nat, e.kept = drawKeeps k e.num e.den)

theorem sfNumOf_pos (g : Group) : 0 < sfNumOf g := sfNumOf_ge g

/-- `sample` in production mode: past the fit shortcut the factor exceeds 1, so the selector is `selectRandom` -/
theorem sampleRows_shape (cfg : Cfg) (hv : cfg.variant = .fitKeep) (hm : cfg.mode = .rand) (g : Group) (ds : List Nat) :
    Decides (fun _ e => Shape e) (sampleRows cfg g ds).1 g.items := by
  refine sampleRows_decides cfg g (fun it => Or.inr (Or.inl ⟨rfl, rfl, rfl, rfl⟩)) (fun hfit num l ds' hnum => ?_) ds
  have hden := sfDenOf_ge g
  have hn := sfNumOf_ge g
  have hlt : sfDenOf g < num := by
    simp only [fitShortcut, hv, Bool.and_eq_false_iff, decide_eq_false_iff_not] at hfit
    rcases hfit with hfit | hfit
    · cases hfit
    · omega
  simp only [selectPart, hm, if_neg (Int.not_le.2 hlt)]
  refine selectRand_decides num _ (fun it => ?_) (fun it k => Or.inr (Or.inr ⟨rfl, hden, hlt, k, rfl⟩)) l ds'
  -- out of draws the row is kept, as draw 0 would have kept it
  refine Or.inr (Or.inr ⟨rfl, hden, hlt, 0, ?_⟩)
  have h0 : ((0 : Nat) : Int) * num < (two53 : Int) * sfDenOf g := by
    rw [Int.natCast_zero, Int.zero_mul]
    exact Int.mul_pos (Int.natCast_pos.2 (by decide)) hden
  exact (decide_eq_true h0).symm

/-- (fix) In production mode every decision of Add*;Run has one of the three shapes of `Shape`: rejected by `Add`
    (size < 1, MaxFloat32), carrying factor exactly 1 and kept, or carrying a factor `sf > 1`. What is proved is the
    factor a decision carries; that a row with `sf > 1` is kept iff its own draw `u` satisfies `u*sf < 1` (probability
    `threshold/2^53`, see `keep_iff_below_threshold`) is `selectRand_own_draw` and is not part of this statement. -/
theorem kept_factor_is_inverse_probability (cfg : Cfg) (hv : cfg.variant = .fitKeep) (hm : cfg.mode = .rand)
    (items : List Item) (budget : Int) (ds : List Nat) :
    ∀ e ∈ evs (runBucket cfg items budget ds), Shape e := by
  intro e he
  have hleaf : ∀ g ds', Decides (fun _ e => Shape e) (leaf cfg g ds').1 g.items := fun g ds' => by
    simp only [leaf, hm]
    exact sampleRows_shape cfg hv hm g ds'
  obtain ⟨_, _, h⟩ := (runBucket_decides cfg items (fun _ _ => Or.inl ⟨rfl, rfl⟩) (fun _ => Or.inr (Or.inl ⟨rfl, rfl, rfl, rfl⟩)) hleaf
    budget ds).forall e he
  exact h

/-- a kept row never carries a factor below 1 (fix) -/
theorem kept_factor_ge_one (cfg : Cfg) (hv : cfg.variant = .fitKeep) (hm : cfg.mode = .rand)
    (items : List Item) (budget : Int) (ds : List Nat) :
    ∀ e ∈ evs (runBucket cfg items budget ds), e.kept = true → 0 < e.den ∧ e.den ≤ e.num := by
  intro e he hk
  rcases kept_factor_is_inverse_probability cfg hv hm items budget ds e he with h | h | h
  · simp [h.2] at hk
  · omega
  · omega

/-- The code without fixes/C05-sample-fit.diff violates it: metric 2 floods its fixed budget 3 (size 5) and stops the keep loop; metric 1
    (one row of size 8, share of the budget 10) then reaches `sample` with sf = 8/10 and the row is kept — with
    certainty — carrying factor 0.8. Replayed on the real code by the oracle signature `kept-factor-below-one`. -/
def origWitnessCfg : Cfg := { variant := .orig, mode := .rand, sBudgets := true }
def origWitnessItems : List Item :=
  [{ id := 0, size := 8, metric := 1 }, { id := 1, size := 5, metric := 2, budget := 3 }]

theorem orig_keeps_row_with_factor_below_one :
    ({ id := 0, kept := true, num := 8, den := 10, quota := 8 } : Ev) ∈
      evs (runBucket origWitnessCfg origWitnessItems 10 [0]) := by decide +kernel

/-- the same bucket on the fixed code: the row is kept with factor 1 -/
example : ({ id := 0, kept := true, num := 1, den := 1, quota := 8 } : Ev) ∈
    evs (runBucket { origWitnessCfg with variant := .fitKeep } origWitnessItems 10 [0]) := by decide +kernel

/-- number of the 2^53 equally likely draws that keep a row with factor num/den -/
def threshold (num den : Int) : Int := ((two53 : Int) * den + num - 1) / num

/-- the draws that keep the row are exactly the `threshold` smallest ones -/
theorem keep_iff_below_threshold (num den : Int) (hd : 0 < den) (h : den < num) (k : Nat) :
    drawKeeps k num den = true ↔ (k : Int) < threshold num den := by
  have hn : 0 < num := by omega
  simp only [drawKeeps, threshold, decide_eq_true_eq]
  rw [Int.lt_iff_add_one_le (a := (k : Int)), Int.le_ediv_iff_mul_le hn, Int.add_mul, Int.one_mul]
  omega

/-- P(keep) = threshold/2^53 and factor * P(keep) ∈ [1, 1 + sf/2^53): the factor is the inverse of the keep
    probability up to the 2^-53 granularity of `Float64()` (never below: no systematic loss). -/
theorem threshold_bounds (num den : Int) (hd : 0 < den) (h : den < num) :
    (two53 : Int) * den ≤ threshold num den * num ∧ threshold num den * num < (two53 : Int) * den + num ∧
    0 < threshold num den ∧ threshold num den ≤ (two53 : Int) := by
  have hn : 0 < num := by omega
  have h1 := Int.ediv_mul_le ((two53 : Int) * den + num - 1) (Int.ne_of_gt hn)
  have h2 := Int.lt_ediv_add_one_mul_self ((two53 : Int) * den + num - 1) hn
  have hN : (0 : Int) < (two53 : Int) := Int.natCast_pos.2 (by decide)
  have hNd : 0 < (two53 : Int) * den := Int.mul_pos hN hd
  have hle : (two53 : Int) * den ≤ (two53 : Int) * num := Int.mul_le_mul_of_nonneg_left (by omega) (by omega)
  rw [Int.add_mul, Int.one_mul] at h2
  unfold threshold
  refine ⟨by omega, by omega, ?_, ?_⟩
  · rw [Int.lt_iff_add_one_le, Int.zero_add, Int.le_ediv_iff_mul_le hn]
    omega
  · rw [← Int.lt_add_one_iff, Int.ediv_lt_iff_lt_mul hn, Int.add_mul, Int.one_mul]
    omega

/-- The integer inequality behind "the expectation is preserved": for one number `v ≥ 0` (a count, sum or sum of squares,
    all scaled linearly by the factor in `MultiValueToTL`/`multiValueMarshal`) and a factor sf = num/den > 1,
    `v * sf * threshold/2^53` lies in `[v, v + v*sf/2^53]`. Reading `threshold/2^53` as the keep probability (uniform
    53-bit draws) and the remark that budget rounding (`roundSampleFactor`) only chooses which `sf` is used are prose,
    not theorems. -/
theorem expectation_preserved (num den v : Int) (hd : 0 < den) (h : den < num) (hv : 0 ≤ v) :
    v * (den * (two53 : Int)) ≤ v * (num * threshold num den) ∧
    v * (num * threshold num den) ≤ v * (den * (two53 : Int)) + v * num := by
  obtain ⟨h1, h2, _, _⟩ := threshold_bounds num den hd h
  rw [Int.mul_comm den, Int.mul_comm num, ← Int.mul_add]
  exact ⟨Int.mul_le_mul_of_nonneg_left h1 hv, Int.mul_le_mul_of_nonneg_left (Int.le_of_lt h2) hv⟩

/-- non-vacuity: factor 3/2 keeps exactly ⌈2^53·2/3⌉ of the 2^53 draws -/
example : threshold 3 2 = 6004799503160662 ∧ drawKeeps 6004799503160661 3 2 = true ∧ drawKeeps 6004799503160662 3 2 = false := by
  decide +kernel

/-- one level: a partition that carries the NoSampleAgent flag is kept whole with factor 1, whichever loop it ends
    up in -/
theorem no_sample_level (cfg : Cfg) (ha : cfg.agent = true) (hdis : cfg.disableNoSample = false)
    (fuel : Nat) (g : Group) (ds : List Nat) (p : Group) (hp : p ∈ partition cfg g) (hns : p.noSample = true) :
    ∀ it ∈ p.items, keepEv it ∈ evs (run (fuel + 1) cfg g ds).1 := by
  intro it hit
  rcases partition_kept_or_rest cfg g p hp with h | h
  · exact mem_evs_run_of_keptActs (h it hit)
  · obtain ⟨ds', h⟩ := handle_evs_subset_run fuel cfg g ds p h
    apply h
    rw [handle_noSample (by simp [noSampleHit, assign_noSample, hns, ha, hdis])]
    exact mem_evs_keepAll (by rwa [assign_items])

/-- rows of one metric agree on the NoSampleAgent flag (it is a property of the metric) -/
def FlagConsistent (l : List Item) : Prop := ∀ a ∈ l, ∀ b ∈ l, a.metric = b.metric → a.noSample = b.noSample

/-- in agent mode every row of a NoSampleAgent metric below a group above the metric level is kept with factor 1,
    provided the recursion has enough fuel to reach the metric level -/
theorem run_noSample (cfg : Cfg) (ha : cfg.agent = true) (hdis : cfg.disableNoSample = false) (fuel : Nat) :
    ∀ (g : Group) (ds : List Nat), g.depth < nPart cfg → nPart cfg ≤ g.depth + fuel → FlagConsistent g.items →
      ∀ it ∈ g.items, it.noSample = true → keepEv it ∈ evs (run fuel cfg g ds).1 := by
  induction fuel with
  | zero =>
    intro g ds h1 h2
    omega
  | succ n ih =>
    intro g ds hdep hfuel hcons it hit hns
    obtain ⟨p, hp, hip⟩ := mem_items_iff_partition.1 hit
    have hpart := partition_part cfg g p hp
    rcases hpart.flag hdep with ⟨hmet, hflag⟩ | ⟨hfalse, hpd⟩
    · -- the partition carries the flag of its first row, which is a row of `it`'s metric
      have hpn : p.noSample = true := by
        rw [hflag, ← hcons it hit _ (hpart.sub _ (hd_mem p.items hpart.ne_nil)) (hmet it hip)]
        exact hns
      exact no_sample_level cfg ha hdis n g ds p hp hpn it hip
    · rcases partition_kept_or_rest cfg g p hp with h | h
      · exact mem_evs_run_of_keptActs (h it hip)
      · obtain ⟨ds', h⟩ := handle_evs_subset_run n cfg g ds p h
        apply h
        rw [handle_recurses (by simp [noSampleHit, assign_noSample, hfalse])
          (by simp only [recurses, assign_depth, decide_eq_true_eq]; omega)]
        refine mem_evs_append.2 (Or.inr ?_)
        have hdgt := hpart.depth_gt
        apply ih
        · rwa [rounded_depth, assign_depth]
        · rw [rounded_depth, assign_depth]
          omega
        · rw [rounded_items, assign_items]
          exact PerMetric.subset (f := (·.noSample)) hcons hpart.sub
        · rwa [rounded_items, assign_items]
        · exact hns

/-- In agent mode, unless DisableNoSampleAgent is set, every row (accepted by Add) of a metric
    marked NoSampleAgent is kept with factor 1 by Add*;Run — for every bucket in which the flag is a property of the
    metric, every budget, option set, draw stream, tie order; every variant and selection mode. -/
theorem no_sample_agent_kept (cfg : Cfg) (ha : cfg.agent = true) (hdis : cfg.disableNoSample = false)
    (items : List Item) (budget : Int) (ds : List Nat) (hcons : FlagConsistent items)
    (it : Item) (hit : it ∈ items) (hsz : 1 ≤ it.size) (hns : it.noSample = true) :
    keepEv (prep cfg it) ∈ evs (runBucket cfg items budget ds) := by
  have hin : prep cfg it ∈ (topGroup cfg items budget).items := mem_topGroup.2 ⟨it, hit, hsz, rfl⟩
  refine mem_evs_runBucket_of_run hin
    (run_noSample cfg ha hdis fuel0 (topGroup cfg items budget) ds (nPart_pos cfg)
      (Nat.le_trans (nPart_le cfg) (show 4 ≤ 0 + fuel0 by decide))
      (PerMetric.topGroup (f := (·.noSample)) (prep_noSample cfg) hcons budget) (prep cfg it) hin (by rwa [prep_noSample]))

/-- the flag of a metric level partition is the flag of its (first) row -/
theorem metric_partition_flag (d : Nat) (l : List Item) :
    (mkMetric d l).noSample = (hd l).noSample ∧ (mkKey d l).noSample = (hd l).noSample := ⟨rfl, rfl⟩

/-- non-vacuity: an over-budget NoSampleAgent metric next to an ordinary one, agent mode -/
example :
    let cfg : Cfg := { agent := true }
    let items : List Item := [{ id := 0, size := 50, metric := 1, noSample := true }, { id := 1, size := 50, metric := 1, noSample := true },
                              { id := 2, size := 10, metric := 2 }]
    (evs (runBucket cfg items 20 [])) =
      [keepEv { id := 2, size := 10, metric := 2 }, keepEv { id := 0, size := 50, metric := 1, noSample := true },
       keepEv { id := 1, size := 50, metric := 1, noSample := true }] := by decide +kernel

/-! ## the agent around the sampler: (*Shard).sampleBucket (agent_shard_send.go) -/

/-- `sampleBucket` sends every row whose own metric is marked
    NoSampleAgent without asking the sampler (`bypass`, factor = the row's initial SF = 1, whatever the component and
    DisableNoSampleAgent say); every other row goes through Add*;Run, where — in agent mode, unless disabled — rows
    ACCOUNTED to a NoSampleAgent metric (ingestion statuses of such a metric) are kept with factor 1 as well
    (`no_sample_agent_kept`). The model `agentBucket` is tied to the real `sampleBucket` by the agent cases of the
    harness (real Shard, real SourceBucket3 rows). -/
theorem agent_no_sample_kept (cfg : Cfg) (rows : List ARow) (budget : Int) (ds : List Nat) :
    (∀ r ∈ rows, r.bypass = true → keepEv r.item ∈ evs (agentBucket cfg rows budget ds)) ∧
    (cfg.agent = true → cfg.disableNoSample = false →
      FlagConsistent ((rows.filter (fun r => !r.bypass)).map (·.item)) →
      ∀ r ∈ rows, r.bypass = false → 1 ≤ r.item.size → r.item.noSample = true →
        keepEv (prep cfg r.item) ∈ evs (agentBucket cfg rows budget ds)) := by
  constructor
  · intro r hr hb
    simp only [agentBucket, evs_append, evs_map_ev, List.mem_append, List.mem_map, List.mem_filter]
    exact Or.inl ⟨r, ⟨hr, hb⟩, rfl⟩
  · intro ha hdis hcons r hr hb hsz hns
    simp only [agentBucket, evs_append, List.mem_append]
    right
    apply no_sample_agent_kept cfg ha hdis _ budget ds hcons r.item _ hsz hns
    simp only [List.mem_map, List.mem_filter]
    exact ⟨r, ⟨hr, by simp [hb]⟩, rfl⟩

/-- non-vacuity: a bypassed row, an ingestion-status-like row accounted to the flagged metric 1 and an ordinary
    over-budget metric 2; agent mode -/
example :
    let cfg : Cfg := { agent := true }
    let rows : List ARow := [⟨{ id := 0, size := 50, metric := 1, noSample := true }, true⟩,
                             ⟨{ id := 1, size := 40, metric := 1, noSample := true }, false⟩,
                             ⟨{ id := 2, size := 60, metric := 2, rank := 1 }, false⟩, ⟨{ id := 3, size := 60, metric := 2, rank := 2 }, false⟩]
    (evs (agentBucket cfg rows 30 [0, 9007199254740991])).map (fun e => (e.id, e.kept, e.num, e.den)) =
      [(0, true, 1, 1), (1, true, 1, 1), (2, true, 240, 30), (3, false, 240, 30)] := by decide +kernel

/-- The size `sampleBucket` hands to `Add` (`Key.TLSizeEstimate + MultiItem.TLSizeEstimate`, models
    tied to the real functions by the size cases of the harness) is at least 20 for every key and every row content. -/
theorem agent_row_size_ge_20 (tagsNZ stagLens : List Nat) (ts : Bool) (tail : ValDesc) (tops : List (Nat × ValDesc)) :
    20 ≤ keyTLSize tagsNZ stagLens ts + itemTLSize tail tops := by
  have h1 := keyTLSize_ge tagsNZ stagLens ts
  have h2 := valueTLSize_ge tail
  unfold itemTLSize
  omega

/-- The size `rowDataMarshalAppendPositions` hands to `Add` (`RowBinarySizeEstimate`) -/
theorem aggregator_row_size_ge_72 (stagLens : List Nat) (tail : ValDesc) (tops : List (Nat × ValDesc)) :
    72 ≤ itemRowSize stagLens tail tops := by
  unfold itemRowSize
  omega

/-- When every row's size is at least 1 — as it is for every row `sampleBucket`
    (agent_row_size_ge_20) and `rowDataMarshalAppendPositions` (aggregator_row_size_ge_72) hand in — `Add` rejects
    nothing and no decision carries the MaxFloat32 factor: the one exception of `kept_factor_is_inverse_probability`
    (`Shape`'s first case) does not occur. (calcHostMetricBudgets can reach the branch: an agent may report original
    size 0 for a metric; that row simply gets no budget — quota mode, no sample factors involved.) -/
theorem add_discard_unreachable (cfg : Cfg) (hm : cfg.mode ≠ .quota) (items : List Item) (budget : Int) (ds : List Nat)
    (h : ∀ it ∈ items, 1 ≤ it.size) :
    dropped items = [] ∧ ∀ e ∈ evs (runBucket cfg items budget ds), e.isMax = false := by
  have hnone : dropped items = [] := by
    simp only [dropped, List.filter_eq_nil_iff, decide_eq_true_eq]
    intro it hit
    have := h it hit
    omega
  refine ⟨hnone, ?_⟩
  intro e he
  have hleaf : ∀ g ds', Decides (fun _ e => e.isMax = false) (leaf cfg g ds').1 g.items := fun g ds' => by
    rw [leaf_of_not_quota hm]
    exact sampleRows_decides (P := fun _ e => e.isMax = false) cfg g (fun _ => rfl)
      (fun _ num l ds'' _ => selectPart_decides cfg num _ (fun _ _ => rfl) l ds'') ds'
  -- `Add` rejects nothing, so its MaxFloat32 callback does not occur
  obtain ⟨_, _, h⟩ := (runBucket_decides (P := fun _ e => e.isMax = false) cfg items (fun _ hit => by rw [hnone] at hit; cases hit)
    (fun _ => rfl) hleaf budget ds).forall e he
  exact h

/-- non-vacuity of the size models: an empty key with a plain counter is estimated at 12 + 8 = 20 bytes on the agent
    and 72 + 52 + 4 = 128 bytes on the aggregator -/
example : keyTLSize [] [] false + itemTLSize {} [] = 20 ∧ itemRowSize [] {} [] = 128 := by decide +kernel

/-- The aggregator hands the SamplerBuffers of one insert to the sampler of the next
    (aggregator_insert.go). Because NewSampler truncates them (`newSamplerItems`), the decisions of every sampler of such
    a sequence are, up to order, exactly the rows handed to THAT sampler — whatever the earlier samplers were given:
    no row of an earlier run is decided (and inserted) again. Every sequence, configuration, budget, draw stream. -/
theorem each_item_once_seq (left : List Item) (runs : List RunIn) :
    List.Forall₂ (fun acts r => ((evs acts).map (·.id)).Perm (r.items.map (·.id))) (runSeq left runs) runs := by
  induction runs generalizing left with
  | nil => exact List.Forall₂.nil
  | cons r rs ih =>
    simp only [runSeq]
    refine List.Forall₂.cons ?_ (ih _)
    simp only [runShared, newSamplerItems, List.nil_append]
    exact each_item_once r.cfg r.items r.budget r.draws

/-- a run's decisions do not depend on what the previous sampler left in the buffers -/
theorem runShared_independent (cfg : Cfg) (left left' : List Item) (items : List Item) (budget : Int) (ds : List Nat) :
    runShared cfg left items budget ds = runShared cfg left' items budget ds := rfl

/-- why the truncation matters: were the row left behind by the previous run still in `items`, it would be decided a second
    time by the next sampler (oracle signature `row-decided-in-later-run`) -/
example :
    let old : Item := { id := 7, size := 10, metric := 1 }
    let new : Item := { id := 0, size := 10, metric := 2 }
    (evs (runBucket {} ([old] ++ [new]) 100 [])).map (·.id) = [7, 0] ∧
    (evs (runShared {} [old] [new] 100 []).1).map (·.id) = [0] := by decide +kernel

end SH.Sampler
