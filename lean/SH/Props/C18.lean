/-
  SH.Props.C18 — fsbinlog replays exactly what was appended, across rotation and damage.

  Property (properties.jsonl): "A reader replaying a binlog delivers exactly the appended events in order, each at the offset the
  writer returned, across any number of file rotations, and resuming from any committed position (with its snapshot meta)
  delivers exactly the remaining suffix. Commit notifications are monotone and never exceed the bytes written before the last
  fsync; a truncated binlog replays up to its last complete event and never yields a partial event, and any corruption of bytes
  covered by a later checksum record makes replay fail with a checksum error when that record is reached."

  Model: SH/Model/Binlog.lean (putLevToBuffer, writer loop + file system, reader loop, scan/seek, engine stub).
  crc32 is the parameter `Cfg.upd`; md5 hashes and clocks are inputs.

  Proved here, for ALL inputs of the stated shape (lemmas in SH/Lemmas/Binlog*.lean): replay of what was appended, through any
  number of rotations (`replay_all` for one file, `replay_from_state` via `sim`); `readAllFromPosition` end to end — scan, sort,
  chunk choice, seek with the commit's meta, an older meta of the same chunk, or no meta — after any history of writer sessions
  (`readAll_reduce_meta` with its instance `readAll_reduce`, `sessions_good`, `readAll_resume_sessions`, `readAll_resume_older_meta`, `readAll_from_commit`,
  `readAll_from_start`, `restart_takes_replay_result`); truncation (`truncate_tail_files`, `truncate_prefix`, `readAll_truncated`);
  damage in reduction form (`crc_record_checked`, `readAll_damaged_prefix_or_collision`); what an append puts into the buffer and the
  writer loop on disk (`apNext_buff`, `iter_files_layout`); commits against fsyncs (`commit_monotone`, `commit_all_synced_partial`,
  `commit_le_fsynced`, `commit_covered_per_file`); shutdown (`append_after_stop_refused_or_durable`); the first-chunk restart
  (`putLev_no_panic`); the driver's crc32 (`crcUpdate_append`).  Variants of the code (`seekBad`, `rotateFSBad`, `iterNoStop`) are
  refuted by `decide` witnesses.  Not proved: see the note at the end and the known finding (a file cut inside its ROTATE_FROM).
-/
import SH.Model.Binlog
import SH.Lemmas.Binlog
import SH.Lemmas.BinlogCut
import SH.Lemmas.BinlogWriter
import SH.Lemmas.BinlogAll
import SH.Lemmas.BinlogWB
import SH.Lemmas.BinlogMulti
open SH.Binlog
namespace SH.C18


/-- One file, no rotation (§6: `replay_all`, `offsets_match_writer`, `resume_suffix` in one file).
    Start the reader at ANY writer state `w` (position `w.offG`, running crc `w.crc`: the start of the binlog, or a later event boundary with the crc the writer's
    Commit reported there = resume with snapshot meta) on the bytes the subsequent appends `es` put into the buffer.
    Then the loop ends without error, delivers exactly `es`, in order, each at the offset the writer assigned
    (`offsets` = the values `Append` returned), and ends at the writer's final position and crc. -/
theorem replay_all (cfg : Cfg) (hm : cfg.evMagic < 4294967296) (hsvc : cfg.evMagic ∉ serviceMagics) :
    ∀ (es : List Ev) (w : WS) (s : RS) (fuel : Nat),
      NoRotate cfg w es →
      (∀ e ∈ es, e.body.length < 4294967296 ∧ e.ts < 4294967296) →
      (writeAll cfg w es).buff = w.buff ++ s.rest →
      s.pos = w.offG → s.crc = w.crc → s.eng.off = w.offG → s.dk = false → s.slack = 0 →
      ((writeAll cfg w es).offG : Int) - s.commitPos ≤ uncommittedMax →
      2 * es.length + 1 ≤ fuel →
      (readLoop cfg fuel s).err = none ∧ (readLoop cfg fuel s).rotated = false ∧
      (readLoop cfg fuel s).s.eng.evs = (offsets cfg w es).reverse ++ s.eng.evs ∧
      (readLoop cfg fuel s).s.pos = (writeAll cfg w es).offG ∧
      (readLoop cfg fuel s).s.crc = (writeAll cfg w es).crc := by
  intro es w s fuel hnr hsz hbuf hpos hcrc hoff hdk hsl _ hf
  -- in the general vocabulary: the buffer holds the layout of the run, which is what the reader sees
  obtain ⟨e1, e2, e3⟩ := ev_ap cfg es w
  obtain ⟨hb, hl4⟩ := runAll_buff_noRot cfg _ w (e3 hnr)
  rw [e1, hb] at hbuf
  have hat : At s w.offG w.crc (layoutC cfg w (es.map Ev.ap) ([], [])).1 :=
    ⟨hpos, hcrc, (List.append_cancel_left hbuf).symm, hoff, hdk, by rw [hsl, hl4]⟩
  obtain ⟨n, s', hn, hl, hat', hev⟩ := read_noRot cfg hm hsvc _ w s (e3 hnr)
    (fun a ha => by obtain ⟨e, he, rfl⟩ := List.mem_map.mp ha; exact (hsz e he).1) hat
  rw [List.length_map] at hn
  obtain ⟨f, rfl⟩ : ∃ f, fuel = f + 1 + n := ⟨fuel - 1 - n, by omega⟩
  rw [e1, e2, hl, ← hev]
  exact readLoop_end cfg f hat'


/-- tie between the layout and the writer model's buffer: one append puts exactly the layout's bytes into `buffEx.buff`
    (event, crc record, and — when it rotates — ROTATE_TO and ROTATE_FROM, with the rotation position recorded between them) -/
theorem apNext_buff (cfg : Cfg) (w : WS) (a : Ap) :
    (apNext cfg w a).buff = w.buff ++ apA cfg w a ++ (if rotates cfg w a then apRT cfg w a ++ apRF cfg w a else []) ∧
    (apNext cfg w a).rotPos = w.rotPos ++ (if rotates cfg w a then [(w.buff ++ apA cfg w a ++ apRT cfg w a).length] else []) :=
  apNext_buff_rotPos cfg w a

/-- The appends are `pre ++ post`; of the chunk in which `post` starts only the first `t` bytes behind
    that point are left and EVERY later chunk is removed (a crash/cleanup that lost whole files, the last remaining one possibly
    cut — inside an event, a crc record or its ROTATE_TO).  Replay ends without error and delivers the events of `pre` followed
    by exactly the events of `post` that are complete in what is left of that chunk: a prefix of the appended list, never a
    partial event.  (`t` = the whole rest of the chunk: only later files are missing, every event of the chunk is delivered.)
    Not covered: a file cut inside its own header record — ROTATE_FROM (the layout keeps `apRF` whole; known finding) or, for the
    first file, LevStart/tag (the cut lies behind the chunk's head). -/
theorem truncate_tail_files (cfg : Cfg) (hm : cfg.evMagic < 4294967296) (hsvc : cfg.evMagic ∉ serviceMagics)
    (pre post : List Ap) (w : WS) (s : RS) (fuel t : Nat)
    (hsz : ∀ a ∈ pre ++ post, a.body.length < 4294967296 ∧ a.ts < 4294967296)
    (hbound : (runAll cfg w pre).offG < 9223372036854775808)
    (ht : t ≤ (layoutC cfg (runAll cfg w pre) post ([], [])).1.length)
    (h : At s w.offG w.crc (layoutC cfg w pre ((layoutC cfg (runAll cfg w pre) post ([], [])).1.take t, [])).1)
    (hf : (layoutC cfg w pre ((layoutC cfg (runAll cfg w pre) post ([], [])).1.take t, [])).1.length / 4 + 2 ≤ fuel) :
    (finish cfg (readLoop cfg fuel s)
        ((layoutC cfg w pre ((layoutC cfg (runAll cfg w pre) post ([], [])).1.take t, [])).2.map hdrOf)).2.2.1 = none ∧
    (finish cfg (readLoop cfg fuel s)
        ((layoutC cfg w pre ((layoutC cfg (runAll cfg w pre) post ([], [])).1.take t, [])).2.map hdrOf)).2.2.2.1.evs
      = ((offsR cfg (runAll cfg w pre) post).take (completeC cfg (runAll cfg w pre) post t)).reverse ++
        ((offsR cfg w pre).reverse ++ s.eng.evs) := by
  obtain ⟨s', fuel', hat, hfl, hev, hfin⟩ := sim cfg hm hsvc pre w (_, []) s fuel
    (fun a ha => (hsz a (List.mem_append_left _ ha)).1) hbound h hf
  have hlen : ((layoutC cfg (runAll cfg w pre) post ([], [])).1.take t).length = t := by simp; omega
  have hc := read_chunk_cut cfg hm hsvc post (runAll cfg w pre) s' t fuel' (fun a ha => (hsz a (List.mem_append_right _ ha)).1) hat
    (by simp only [hlen] at hfl; exact hfl)
  rw [hfin, List.map_nil, finish_last]
  exact ⟨hc.1, by rw [hc.2, hev]⟩


/-- The appends are `pre ++ post` where `post` is the run written into the LAST chunk (no rotation in it);
    the last chunk is cut `t` bytes after the point where `post` starts (for a rotated chunk: `36 + t` bytes into the file, i.e.
    the file keeps its complete ROTATE_FROM header — the excluded case is the known finding below).  Then replay ends without
    error and delivers exactly the events of `pre` followed by the first `complete … t` events of `post`: those that lie, with
    their padding, inside the cut (a cut crc record ends the replay) — a prefix of the appended list, never a partial event. -/
theorem truncate_prefix (cfg : Cfg) (hm : cfg.evMagic < 4294967296) (hsvc : cfg.evMagic ∉ serviceMagics)
    (pre post : List Ap) (w : WS) (s : RS) (fuel t : Nat)
    (hsz : ∀ a ∈ pre ++ post, a.body.length < 4294967296 ∧ a.ts < 4294967296)
    (hbound : (runAll cfg w pre).offG < 9223372036854775808)
    (hnr : NoRotR cfg (runAll cfg w pre) post)
    (ht : t ≤ (layoutC cfg (runAll cfg w pre) post ([], [])).1.length)
    (h : At s w.offG w.crc (layoutC cfg w pre ((layoutC cfg (runAll cfg w pre) post ([], [])).1.take t, [])).1)
    (hf : (layoutC cfg w pre ((layoutC cfg (runAll cfg w pre) post ([], [])).1.take t, [])).1.length / 4 + 2 ≤ fuel) :
    (finish cfg (readLoop cfg fuel s)
        ((layoutC cfg w pre ((layoutC cfg (runAll cfg w pre) post ([], [])).1.take t, [])).2.map hdrOf)).2.2.1 = none ∧
    (finish cfg (readLoop cfg fuel s)
        ((layoutC cfg w pre ((layoutC cfg (runAll cfg w pre) post ([], [])).1.take t, [])).2.map hdrOf)).2.2.2.1.evs
      = ((offsR cfg (runAll cfg w pre) post).take (complete cfg (runAll cfg w pre) post t)).reverse ++
        ((offsR cfg w pre).reverse ++ s.eng.evs) := by
  rw [complete_eq_completeC cfg post _ t hnr]
  exact truncate_tail_files cfg hm hsvc pre post w s fuel t hsz hbound ht h hf


/-- how the reader was asked to start at the commit `(pos, crc)`: without snapshot meta, or with the meta of that commit -/
def MetaFor (pos : Nat) (crc : UInt32) (si : Option Meta) : Prop := si = none ∨ ∃ mts, si = some ⟨pos, crc, mts⟩

/-- `readAll_reduce` for every admissible snapshot meta: absent, or the meta of ANY commit of the chunk in which the position
    lies, at or before it — `pre = pre1 ++ pre2`, the commit was issued after `pre1`, `pre2` does not rotate (`pre2 = []`: the
    commit's own meta).  The seek verifies the checksum against the meta up to its position and recomputes it over the bytes
    of `pre2`.  (`D0`, `c0`, `w`, `k1`, `wk` and the shape of the conclusion: docstring of `readAll_reduce` below.) -/
theorem readAll_reduce_meta (cfg : Cfg) (hupd : ∀ c a b, cfg.upd (cfg.upd c a) b = cfg.upd c (a ++ b))
    (D0 : List Bytes) (pre post : List Ap) (w : WS) (c0 : Cur) (k1 : Bytes) (ts0 : Nat) (si : Option Meta)
    (hb : (runAll cfg w (pre ++ post)).offG < 9223372036854775808) (hg : Good cfg D0 w c0) (wk : WS) (hwk : wk = runAll cfg w pre)
    (hsi : si = none ∨ ∃ pre1 pre2 mts, pre = pre1 ++ pre2 ∧ NoRotR cfg (runAll cfg w pre1) pre2 ∧
      si = some ⟨(runAll cfg w pre1).offG, (runAll cfg w pre1).crc, mts⟩) :
    ∃ (s : RS) (fuel : Nat), At s wk.offG wk.crc (layoutC cfg wk post (k1, [])).1 ∧
      (layoutC cfg wk post (k1, [])).1.length / 4 + 2 ≤ fuel ∧ s.eng.evs = [] ∧
      (let r := readAll cfg (D0 ++ allFilesK cfg w (pre ++ post) c0.bytes k1) wk.offG si ts0 ⟨wk.offG, [], []⟩
       let f := finish cfg (readLoop cfg fuel s) ((layoutC cfg wk post (k1, [])).2.map hdrOf)
       r.pos = f.1 ∧ r.crc = f.2.1 ∧ r.err = f.2.2.1 ∧ r.eng = f.2.2.2.1) := by
  subst hwk
  obtain ⟨H1, h, hscan, hle, hgt, hpos, hcrc, hdata, -, hacc, hck⟩ := files_at cfg hupd D0 pre post w c0 k1 hb hg
  have hP : ((runAll cfg w pre).offG : Int) = h.pos + ((splitC cfg w pre c0).2.bytes.length : Int) := by
    rw [hpos]; have := hacc.1; omega
  rcases hsi with rfl | ⟨pre1, pre2, mts, rfl, hnr, rfl⟩
  · -- no meta: the checksum is recomputed over the chunk's bytes in front of the position
    refine readAll_at cfg _ H1 h _ _ _ _ none ts0 ts0 hscan hle (by omega) hgt (fun m hm => nomatch hm) ?_
    rw [seek_none, hdata, seekFrom_skip cfg _ _ _ _ _ _ hP (curOK_nonempty cfg _ hck), hcrc, hacc.2]
  · -- the chunk of the meta's commit is the chunk of the position (`pre2` does not rotate): it holds `X` more bytes
    obtain ⟨X, hX⟩ := splitC_noRot cfg pre2 (runAll cfg w pre1) (splitC cfg w pre1 c0).2 hnr
    have hcK : (splitC cfg w (pre1 ++ pre2) c0).2 = { (splitC cfg w pre1 c0).2 with body := (splitC cfg w pre1 c0).2.body ++ X } := by
      rw [(splitC_append cfg pre1 pre2 w c0).2, hX]
    have hbytes : (splitC cfg w (pre1 ++ pre2) c0).2.bytes = (splitC cfg w pre1 c0).2.bytes ++ X := by
      rw [hcK]; exact (List.append_assoc ..).symm
    have hb1 : (runAll cfg w pre1).offG < 9223372036854775808 := by
      have := runAll_mono cfg (pre2 ++ post) (runAll cfg w pre1)
      rw [← runAll_append, ← List.append_assoc] at this; omega
    have hacc1 := (good_append cfg hupd pre1 D0 w c0 hb1 hg).acc
    have e1 := hacc1.1
    have e2 := hacc.1
    have hposK : (splitC cfg w (pre1 ++ pre2) c0).2.pos = (splitC cfg w pre1 c0).2.pos := by rw [hcK]
    have hcrcK : (splitC cfg w (pre1 ++ pre2) c0).2.crc = (splitC cfg w pre1 c0).2.crc := by rw [hcK]
    rw [hbytes, List.length_append, hposK] at e2
    rw [hposK] at hpos
    rw [hbytes, List.append_assoc] at hdata
    -- all position arithmetic at once: header ≤ meta's commit ≤ position, `X` lies between the two
    obtain ⟨a1, a2, a3, a4⟩ : h.pos ≤ ((runAll cfg w pre1).offG : Int) ∧
        ((runAll cfg w pre1).offG : Int) ≤ ((runAll cfg w (pre1 ++ pre2)).offG : Int) ∧
        ((runAll cfg w pre1).offG : Int) = h.pos + ((splitC cfg w pre1 c0).2.bytes.length : Int) ∧
        ((runAll cfg w (pre1 ++ pre2)).offG : Int) = ((runAll cfg w pre1).offG : Int) + (X.length : Int) := by
      omega
    refine readAll_at cfg _ H1 h _ _ _ _ _ ts0 mts hscan hle (Int.le_trans a1 a2) hgt (fun m hm => by cases hm; exact ⟨a1, a2⟩) ?_
    rw [seek_meta cfg h _ _ _ _ ts0 hdata a3 (by rw [hcrc, hcrcK]; exact hacc1.2) a2, ← hacc.2, hbytes, hcrcK]
    cases X with
    | nil =>
      rw [show ((runAll cfg w (pre1 ++ pre2)).offG : Int) = ((runAll cfg w pre1).offG : Int) by simpa using a4, List.append_nil,
        hacc1.2]
      exact seekFrom_here ..
    | cons x X =>
      rw [← hupd, hacc1.2]
      exact seekFrom_skip cfg _ _ _ _ _ _ a4 (by simp)

/-- **readAll reduces to the replay of the remaining chunks** — for the general file list: chunks `D0` closed by earlier writer
    sessions, the chunk `c0` being written when the appends `pre ++ post` start (`w` is the writer state at that moment — the one
    of a fresh binlog or one rebuilt by a restart), the later chunks of the layout, the last chunk continued by arbitrary bytes
    `k1` (e.g. a cut).  `readAllFromPosition` called with the offset of a commit after `pre`, with that commit's meta or without
    meta, passes scan, sort, chunk choice and seek (checksum verified or recomputed) and equals `finish` of the loop started in
    a state that matches the writer after `pre` on the rest of that chunk. -/
theorem readAll_reduce (cfg : Cfg) (hupd : ∀ c a b, cfg.upd (cfg.upd c a) b = cfg.upd c (a ++ b))
    (D0 : List Bytes) (pre post : List Ap) (w : WS) (c0 : Cur) (k1 : Bytes) (ts0 : Nat) (si : Option Meta)
    (hb : (runAll cfg w (pre ++ post)).offG < 9223372036854775808)
    (hp : PreOK cfg D0 c0.pos) (ha : Acc cfg w c0) (hk : CurOK cfg c0) (wk : WS) (hwk : wk = runAll cfg w pre)
    (hsi : MetaFor wk.offG wk.crc si) :
    ∃ (s : RS) (fuel : Nat), At s wk.offG wk.crc (layoutC cfg wk post (k1, [])).1 ∧
      (layoutC cfg wk post (k1, [])).1.length / 4 + 2 ≤ fuel ∧ s.eng.evs = [] ∧
      (let r := readAll cfg (D0 ++ allFilesK cfg w (pre ++ post) c0.bytes k1) wk.offG si ts0 ⟨wk.offG, [], []⟩
       let f := finish cfg (readLoop cfg fuel s) ((layoutC cfg wk post (k1, [])).2.map hdrOf)
       r.pos = f.1 ∧ r.crc = f.2.1 ∧ r.err = f.2.2.1 ∧ r.eng = f.2.2.2.1) := by
  exact readAll_reduce_meta cfg hupd D0 pre post w c0 k1 ts0 si hb ⟨hp, ha, hk⟩ wk hwk
    (hsi.imp id fun ⟨mts, h⟩ => ⟨pre, [], mts, (List.append_nil _).symm, trivial, hwk ▸ h⟩)

/-- **replay across rotations** (§6: `replay_all`, `offsets_match_writer`, `resume_suffix` across rotations).  From a state
    that matches the writer at `wk` (i.e. after the seek) on what the writer lays out for `post`, the loop on the current file
    followed by the later files ends without error, delivers exactly the events of `post`, in order, each at the offset `Append`
    returned, and ends at the writer's position and checksum. -/
theorem replay_from_state (cfg : Cfg) (hm : cfg.evMagic < 4294967296) (hsvc : cfg.evMagic ∉ serviceMagics)
    (post : List Ap) (wk : WS) (r : RA) (hsz : ∀ a ∈ post, a.body.length < 4294967296)
    (hbk : (runAll cfg wk post).offG < 9223372036854775808)
    (s : RS) (fuel : Nat) (hat : At s wk.offG wk.crc (layoutC cfg wk post ([], [])).1)
    (hf : (layoutC cfg wk post ([], [])).1.length / 4 + 2 ≤ fuel) (hev : s.eng.evs = [])
    (hred : let f := finish cfg (readLoop cfg fuel s) ((layoutC cfg wk post ([], [])).2.map hdrOf)
      r.pos = f.1 ∧ r.crc = f.2.1 ∧ r.err = f.2.2.1 ∧ r.eng = f.2.2.2.1) :
    r.err = none ∧ r.eng.evs = (offsR cfg wk post).reverse ∧ r.pos = ((runAll cfg wk post).offG : Int) ∧
      r.crc = (runAll cfg wk post).crc := by
  obtain ⟨s', fuel', hat', hfl, hev', hfin⟩ := sim cfg hm hsvc post wk ([], []) s fuel hsz hbk hat hf
  obtain ⟨f, rfl⟩ := Nat.exists_eq_add_of_le' (Nat.le_trans (Nat.le_add_left 1 _) hfl)
  obtain ⟨e1, -, e3, e4, e5⟩ := readLoop_end cfg f hat'
  rw [hfin, List.map_nil, finish_last] at hred
  obtain ⟨h1, h2, h3, h4⟩ := hred
  exact ⟨h3.trans e1, by rw [h4, e3, hev', hev, List.append_nil], h1.trans e4, h2.trans e5⟩

/-- the writer state with which a session on a fresh binlog starts: behind the 44-byte head, checksum of the head -/
def StartsAt (cfg : Cfg) (w : WS) (sy ty : Bytes) : Prop := w.offG = 44 ∧ w.crc = cfg.upd 0 (initBytes cfg sy ty)

theorem initBytes_length (cfg : Cfg) {sy ty : Bytes} (hsy : sy.length = 16) (hty : ty.length = 16) :
    (initBytes cfg sy ty).length = 44 := by
  simp only [initBytes, List.length_append, le32_length, hsy, hty]

theorem initCur_acc (cfg : Cfg) (w : WS) (sy ty : Bytes) (hsy : sy.length = 16) (hty : ty.length = 16) (h : StartsAt cfg w sy ty) :
    Acc cfg w (initCur cfg sy ty) :=
  ⟨by rw [initCur_bytes, initBytes_length cfg hsy hty, h.1]; rfl, by rw [initCur_bytes, h.2]; rfl⟩

theorem good_start (cfg : Cfg) (hs : cfg.schema < 4294967296) {sy ty : Bytes} (hsy : sy.length = 16) (hty : ty.length = 16)
    {w : WS} (hw : StartsAt cfg w sy ty) : Good cfg [] w (initCur cfg sy ty) :=
  ⟨preOK_nil cfg _, initCur_acc cfg w sy ty hsy hty hw, initCur_ok cfg sy ty hs hsy⟩

/-- histories: a fresh binlog; a batch of accepted appends (closing chunks as they rotate); a writer restart — the new writer
    state is `wsInit` of what a replay returned (position, checksum, last header, timestamp: any values for the latter two).
    `restart` keeps the chunk `c`: `Good` constrains only `offG`/`crc`, which `wsInit` takes over; `last` and `restoreTail` matter
    for `HashInv` only -/
inductive Sessions (cfg : Cfg) (sy ty : Bytes) : List Bytes → WS → Cur → Prop
  | start (w : WS) : StartsAt cfg w sy ty → Sessions cfg sy ty [] w (initCur cfg sy ty)
  | append {D0 : List Bytes} {w : WS} {c : Cur} (as : List Ap) : Sessions cfg sy ty D0 w c →
      (runAll cfg w as).offG < 9223372036854775808 →
      Sessions cfg sy ty (D0 ++ (splitC cfg w as c).1) (runAll cfg w as) (splitC cfg w as c).2
  | restart {D0 : List Bytes} {w : WS} {c : Cur} (b : Bool) (last : Hdr) (ts : Nat) : Sessions cfg sy ty D0 w c →
      Sessions cfg sy ty D0 (wsInit cfg b w.offG w.crc last ts) c

/-- the accounting invariant only looks at the writer's position and checksum, which `wsInit` takes over from the replay -/
theorem acc_wsInit (cfg : Cfg) (w : WS) (c : Cur) (b : Bool) (last : Hdr) (ts : Nat) (h : Acc cfg w c) :
    Acc cfg (wsInit cfg b w.offG w.crc last ts) c := h

theorem sessions_good (cfg : Cfg) (hupd : ∀ c a b, cfg.upd (cfg.upd c a) b = cfg.upd c (a ++ b)) (hs : cfg.schema < 4294967296)
    (sy ty : Bytes) (hsy : sy.length = 16) (hty : ty.length = 16) {D0 : List Bytes} {w : WS} {c : Cur}
    (h : Sessions cfg sy ty D0 w c) : Good cfg D0 w c := by
  induction h with
  | start w hw => exact good_start cfg hs hsy hty hw
  | append as _ hb ih => exact good_append cfg hupd as _ _ _ hb ih
  | restart b last ts _ ih => exact ⟨ih.pre, acc_wsInit cfg _ _ b last ts ih.acc, ih.ok⟩

/-- **readAll = ok (suffix), any history, with or without meta.**  After any history of sessions (`Good`), the appends
    `pre ++ post` are made; `readAllFromPosition` at the offset of a commit issued after `pre`, with that commit's snapshot meta
    or with no meta, delivers exactly the events of `post`, in order, at the offsets `Append` returned. -/
theorem readAll_resume_sessions (cfg : Cfg) (hm : cfg.evMagic < 4294967296) (hsvc : cfg.evMagic ∉ serviceMagics)
    (hupd : ∀ c a b, cfg.upd (cfg.upd c a) b = cfg.upd c (a ++ b))
    (D0 : List Bytes) (pre post : List Ap) (w : WS) (c0 : Cur) (ts0 : Nat) (si : Option Meta)
    (hsz : ∀ a ∈ pre ++ post, a.body.length < 4294967296 ∧ a.ts < 4294967296)
    (hb : (runAll cfg w (pre ++ post)).offG < 9223372036854775808) (hg : Good cfg D0 w c0)
    (wk : WS) (hwk : wk = runAll cfg w pre) (hsi : MetaFor wk.offG wk.crc si) (r : RA)
    (hr : r = readAll cfg (D0 ++ allFiles cfg w (pre ++ post) c0.bytes) wk.offG si ts0 ⟨wk.offG, [], []⟩) :
    r.err = none ∧ r.eng.evs = (offsR cfg wk post).reverse ∧ r.pos = ((runAll cfg wk post).offG : Int) ∧
      r.crc = (runAll cfg wk post).crc := by
  subst hwk
  rw [hr]
  obtain ⟨s, fuel, hat, hf, hev, hred⟩ := readAll_reduce cfg hupd D0 pre post w c0 [] ts0 si hb hg.pre hg.acc hg.ok _ rfl hsi
  exact replay_from_state cfg hm hsvc post _ _ (fun a ha' => (hsz a (List.mem_append_right _ ha')).1) (by rw [← runAll_append]; exact hb)
    s fuel hat hf hev hred

/-- **readAll = ok (suffix) for every committed position.**  The binlog is the head written by `CreateEmptyFsBinlog` followed by
    what the writer lays out for `pre ++ post`; a commit after `pre` carried `(offset, crc)` of the writer at that moment.
    `readAllFromPosition(offset, meta)` delivers exactly the events of `post` at the offsets `Append` returned. -/
theorem readAll_from_commit (cfg : Cfg) (hm : cfg.evMagic < 4294967296) (hsvc : cfg.evMagic ∉ serviceMagics)
    (hupd : ∀ c a b, cfg.upd (cfg.upd c a) b = cfg.upd c (a ++ b)) (hs : cfg.schema < 4294967296)
    (pre post : List Ap) (w : WS) (sy ty : Bytes) (hsy : sy.length = 16) (hty : ty.length = 16) (hw : StartsAt cfg w sy ty)
    (ts0 mts : Nat) (hsz : ∀ a ∈ pre ++ post, a.body.length < 4294967296 ∧ a.ts < 4294967296)
    (hb : (runAll cfg w (pre ++ post)).offG < 9223372036854775808) (wk : WS) (hwk : wk = runAll cfg w pre) (r : RA)
    (hr : r = readAll cfg (allFiles cfg w (pre ++ post) (initBytes cfg sy ty)) wk.offG (some ⟨wk.offG, wk.crc, mts⟩) ts0 ⟨wk.offG, [], []⟩) :
    r.err = none ∧ r.eng.evs = (offsR cfg wk post).reverse ∧ r.pos = ((runAll cfg wk post).offG : Int) ∧
      r.crc = (runAll cfg wk post).crc := by
  rw [← initCur_bytes] at hr
  exact readAll_resume_sessions cfg hm hsvc hupd [] pre post w (initCur cfg sy ty) ts0 _ hsz hb (good_start cfg hs hsy hty hw)
    wk hwk (.inr ⟨mts, rfl⟩) r hr

/-- **replay from offset 0.**  `readAllFromPosition(0, no meta)` on the same files: LevStart and the tag are skipped, then every
    appended event is delivered at the offset `Append` returned, through all rotations. -/
theorem readAll_from_start (cfg : Cfg) (hm : cfg.evMagic < 4294967296) (hsvc : cfg.evMagic ∉ serviceMagics)
    (hupd : ∀ c a b, cfg.upd (cfg.upd c a) b = cfg.upd c (a ++ b)) (hs : cfg.schema < 4294967296)
    (as : List Ap) (w : WS) (sy ty : Bytes) (hsy : sy.length = 16) (hty : ty.length = 16) (hw : StartsAt cfg w sy ty) (ts0 : Nat)
    (hsz : ∀ a ∈ as, a.body.length < 4294967296 ∧ a.ts < 4294967296)
    (hb : (runAll cfg w as).offG < 9223372036854775808) (r : RA)
    (hr : r = readAll cfg (allFiles cfg w as (initBytes cfg sy ty)) 0 none ts0 ⟨0, [], []⟩) :
    r.err = none ∧ r.eng.evs = (offsR cfg w as).reverse ∧ r.pos = ((runAll cfg w as).offG : Int) ∧ r.crc = (runAll cfg w as).crc := by
  have hcb := initCur_bytes cfg sy ty
  obtain ⟨H1, h, hscan, hle, hgt, hpos, hcrc, hdata, -⟩ := files_at cfg hupd [] [] as w (initCur cfg sy ty) [] hb
    (good_start cfg hs hsy hty hw)
  have hdata' : h.data = (le32 magicStart ++ (le32 cfg.schema ++ sy)) ++ ((le32 magicTag ++ ty) ++ (layoutC cfg w as ([], [])).1) := by
    rw [hdata, ← List.append_assoc]
    exact congrArg (· ++ _) hcb
  rw [hcb] at hscan
  obtain ⟨s0, fuel, hat0, hf0, hev0, hred⟩ := readAll_at cfg _ H1 h _ 0 h.crc h.data none ts0 ts0 hscan hle (Int.le_of_eq hpos)
    (fun x hx => Int.lt_of_le_of_lt (Int.natCast_nonneg _) (hgt x hx)) (fun m hm => nomatch hm)
    (by rw [seek_none, hpos]; exact seekFrom_here ..)
  rw [hcrc, hdata'] at hat0
  obtain ⟨s1, st1, at1, ev1⟩ := step_start cfg s0 0 0 (le32 cfg.schema ++ sy) _ (by simp [hsy]) hat0
  obtain ⟨s2, st2, at2, ev2⟩ := step_tag cfg s1 _ _ ty _ hty at1
  have at2' : At s2 w.offG w.crc (layoutC cfg w as ([], [])).1 := by
    rw [hw.1, hw.2, initBytes, ← hupd]
    exact at2
  have hlen : h.data.length = 44 + (layoutC cfg w as ([], [])).1.length := by
    rw [hdata, List.length_append]
    exact congrArg (· + _) ((congrArg List.length hcb).trans (initBytes_length cfg hsy hty))
  obtain ⟨f, rfl, hf⟩ := fuel_split (A := 44) (k := 2) (by decide) (hlen ▸ hf0)
  rw [readLoop_cont _ st1, readLoop_cont _ st2] at hred
  rw [hr]
  exact replay_from_state cfg hm hsvc as w _ (fun a ha => (hsz a ha).1) hb s2 f at2' hf (by rw [ev2, ev1, hev0]) hred

/-- **truncation through readAll.**  Any history (`Good`), then appends `pre1 ++ pre2 ++ post`.  Of the chunk in which `post`
    starts only `t` bytes behind that point are left, all later files are gone.  `readAllFromPosition` at the commit after
    `pre1` (with its meta or without) — scan, sort, chunk choice, seek, replay — ends WITHOUT error and delivers the events of
    `pre2` and then exactly the events of `post` that are complete in what is left: a prefix, never a partial event.
    Not covered: a file cut inside its own header record (ROTATE_FROM: the known finding; LevStart/tag of the first file) — here
    every remaining file keeps its header. -/
theorem readAll_truncated (cfg : Cfg) (hm : cfg.evMagic < 4294967296) (hsvc : cfg.evMagic ∉ serviceMagics)
    (hupd : ∀ c a b, cfg.upd (cfg.upd c a) b = cfg.upd c (a ++ b))
    (D0 : List Bytes) (pre1 pre2 post : List Ap) (w : WS) (c0 : Cur) (ts0 t : Nat) (si : Option Meta)
    (hsz : ∀ a ∈ pre2 ++ post, a.body.length < 4294967296 ∧ a.ts < 4294967296)
    (hb : (runAll cfg w (pre1 ++ pre2)).offG < 9223372036854775808) (hg : Good cfg D0 w c0)
    (wk : WS) (hwk : wk = runAll cfg w pre1) (hsi : MetaFor wk.offG wk.crc si)
    (ht : t ≤ (layoutC cfg (runAll cfg wk pre2) post ([], [])).1.length) (r : RA)
    (hr : r = readAll cfg (D0 ++ allFilesK cfg w (pre1 ++ pre2) c0.bytes ((layoutC cfg (runAll cfg wk pre2) post ([], [])).1.take t))
            wk.offG si ts0 ⟨wk.offG, [], []⟩) :
    r.err = none ∧
    r.eng.evs = ((offsR cfg (runAll cfg wk pre2) post).take (completeC cfg (runAll cfg wk pre2) post t)).reverse ++
      (offsR cfg wk pre2).reverse := by
  obtain ⟨s, fuel, hat, hf, hev, hred⟩ := readAll_reduce cfg hupd D0 pre1 pre2 w c0
    ((layoutC cfg (runAll cfg wk pre2) post ([], [])).1.take t) ts0 si hb hg.pre hg.acc hg.ok wk hwk hsi
  have hbk : (runAll cfg wk pre2).offG < 9223372036854775808 := by rw [hwk, ← runAll_append]; exact hb
  have htr := truncate_tail_files cfg hm hsvc pre2 post wk s fuel t hsz hbk ht hat hf
  rw [← hr] at hred
  obtain ⟨_, _, h3, h4⟩ := hred
  refine ⟨by rw [h3]; exact htr.1, by rw [h4, htr.2, hev]; simp⟩


/-- **a restart takes over exactly what the replay returns.**  Any history (`Good`), then the appends `pre ++ post`; the engine
    restarts: it replays the files with `readAllFromPosition` from a commit after `pre` (with its meta or without) and builds the
    new writer state with `wsInit` from the RESULT of that replay (`r.pos`, `r.crc`, `r.ts`; no assumed position/checksum).
    The replay delivered exactly the events of `post`, and the new writer state together with the file list satisfies the
    invariant `Good` again — so every theorem about further appends, commits and resumes applies to the restarted writer. -/
theorem restart_takes_replay_result (cfg : Cfg) (hm : cfg.evMagic < 4294967296) (hsvc : cfg.evMagic ∉ serviceMagics)
    (hupd : ∀ c a b, cfg.upd (cfg.upd c a) b = cfg.upd c (a ++ b))
    (D0 : List Bytes) (pre post : List Ap) (w : WS) (c0 : Cur) (ts0 : Nat) (si : Option Meta)
    (hsz : ∀ a ∈ pre ++ post, a.body.length < 4294967296 ∧ a.ts < 4294967296)
    (hb : (runAll cfg w (pre ++ post)).offG < 9223372036854775808) (hg : Good cfg D0 w c0)
    (wk : WS) (hwk : wk = runAll cfg w pre) (hsi : MetaFor wk.offG wk.crc si) (r : RA)
    (hr : r = readAll cfg (D0 ++ allFiles cfg w (pre ++ post) c0.bytes) wk.offG si ts0 ⟨wk.offG, [], []⟩)
    (b : Bool) (last : Hdr) :
    r.err = none ∧ r.eng.evs = (offsR cfg wk post).reverse ∧
    Good cfg (D0 ++ (splitC cfg w (pre ++ post) c0).1) (wsInit cfg b r.pos.toNat r.crc last r.ts) (splitC cfg w (pre ++ post) c0).2 ∧
    (wsInit cfg b r.pos.toNat r.crc last r.ts).offG = (runAll cfg w (pre ++ post)).offG ∧
    (wsInit cfg b r.pos.toNat r.crc last r.ts).crc = (runAll cfg w (pre ++ post)).crc := by
  obtain ⟨h1, h2, h3, h4⟩ := readAll_resume_sessions cfg hm hsvc hupd D0 pre post w c0 ts0 si hsz hb hg wk hwk hsi r hr
  have hrun : runAll cfg wk post = runAll cfg w (pre ++ post) := by rw [hwk, runAll_append]
  rw [hrun] at h3 h4
  have hpos : r.pos.toNat = (runAll cfg w (pre ++ post)).offG := by rw [h3]; simp
  have hgood := good_append cfg hupd (pre ++ post) D0 w c0 hb hg
  refine ⟨h1, h2, ⟨hgood.pre, ?_, hgood.ok⟩, ?_, ?_⟩
  · rw [hpos, h4]; exact acc_wsInit cfg _ _ b last r.ts hgood.acc
  · rw [hpos]; rfl
  · rw [h4]; rfl


/-- Any history (`Good`); appends `pre1 ++ pre2 ++ post`, `pre2` non-empty and without rotation
    (the commits after `pre1` and after `pre2` lie in the same chunk).  `readAllFromPosition(offset after pre2, meta of the OLDER
    commit after pre1)` delivers exactly the events of `post`, at the offsets `Append` returned, ending at the writer's position
    and checksum. -/
theorem readAll_resume_older_meta (cfg : Cfg) (hm : cfg.evMagic < 4294967296) (hsvc : cfg.evMagic ∉ serviceMagics)
    (hupd : ∀ c a b, cfg.upd (cfg.upd c a) b = cfg.upd c (a ++ b))
    (D0 : List Bytes) (pre1 pre2 post : List Ap) (w : WS) (c0 : Cur) (ts0 mts : Nat)
    (hsz : ∀ a ∈ post, a.body.length < 4294967296 ∧ a.ts < 4294967296)
    (hb : (runAll cfg w ((pre1 ++ pre2) ++ post)).offG < 9223372036854775808) (hg : Good cfg D0 w c0)
    (w1 : WS) (hw1 : w1 = runAll cfg w pre1) (hnr : NoRotR cfg w1 pre2) (hne : pre2 ≠ [])
    (wk : WS) (hwk : wk = runAll cfg w (pre1 ++ pre2)) (r : RA)
    (hr : r = readAll cfg (D0 ++ allFiles cfg w ((pre1 ++ pre2) ++ post) c0.bytes) wk.offG (some ⟨w1.offG, w1.crc, mts⟩) ts0 ⟨wk.offG, [], []⟩) :
    r.err = none ∧ r.eng.evs = (offsR cfg wk post).reverse ∧ r.pos = ((runAll cfg wk post).offG : Int) ∧
      r.crc = (runAll cfg wk post).crc := by
  subst hw1 hwk
  -- `hne` is not needed: for `pre2 = []` the meta is the commit's own
  have _ := hne
  obtain ⟨s, fuel, hat, hf, hev, hred⟩ := readAll_reduce_meta cfg hupd D0 (pre1 ++ pre2) post w c0 [] ts0 _ hb hg _ rfl
    (.inr ⟨pre1, pre2, mts, rfl, hnr, rfl⟩)
  rw [hr]
  exact replay_from_state cfg hm hsvc post _ _ (fun a ha => (hsz a ha).1) (by rw [← runAll_append]; exact hb) s fuel hat hf hev hred

/-- a variant of the seek, refuted by a witness below: after the checksum was verified against the meta the position is
    set to the requested start although only the bytes up to the meta's position were read -/
def seekBad (cfg : Cfg) (h : Hdr) (startPos : Int) (m : Meta) : Option (Int × UInt32 × Bytes) :=
  let need := (m.pos - h.pos).toNat
  if cfg.upd h.crc (h.data.take need) ≠ m.crc then none else some (startPos, m.crc, h.data.drop need)


/-- **writeBuffer contents = layout chunks.**  The writer state is what the accepted appends `as` made of a state `w0` with an
    empty buffer; one loop iteration (any flags) then leaves on disk: the files that were already closed, followed by exactly
    `allFiles` — the current file extended by the rest of its chunk and the later chunks of `layoutC`, byte for byte. -/
theorem iter_files_layout (cfg : Cfg) (s : Sys) (w0 : WS) (as : List Ap) (t st : Bool)
    (hb : w0.buff = []) (hr : w0.rotPos = []) (hw : s.w = runAll cfg w0 as) :
    ((iter s t st).l.older.reverse ++ [(iter s t st).l.cur]).map (·.data)
      = s.l.older.reverse.map (·.data) ++ allFiles cfg w0 as s.l.cur.data := by
  have hcb : (⟨s.l.cur.data, [], 0, 0⟩ : Cur).bytes = s.l.cur.data := List.append_nil _
  have hall : allFiles cfg w0 as s.l.cur.data
      = (splitC cfg w0 as ⟨s.l.cur.data, [], 0, 0⟩).1 ++ [(splitC cfg w0 as ⟨s.l.cur.data, [], 0, 0⟩).2.bytes] := by
    have h := allFilesK_split cfg [] as w0 ⟨s.l.cur.data, [], 0, 0⟩
    rwa [hcb, List.append_nil] at h
  obtain ⟨hwf, hcur, hold⟩ := writeBuffer_runAll cfg s.l w0 hb hr _ hcb as.reverse
  rw [List.reverse_reverse, ← hw] at hwf hcur hold
  have hwr : (written s).cur.data = (splitC cfg w0 as ⟨s.l.cur.data, [], 0, 0⟩).2.bytes ∧
      (written s).older.map (·.data) = (splitC cfg w0 as ⟨s.l.cur.data, [], 0, 0⟩).1.reverse ++ s.l.older.map (·.data) := by
    unfold written
    split
    · rename_i he
      rw [List.isEmpty_iff.mp he] at hwf hcur hold
      cases hp : s.w.rotPos with
      | nil =>
        -- `writeBuffer` on an empty buffer without rotation position writes nothing
        rw [hp] at hcur hold
        exact ⟨by simpa [writeBuffer, FileS.write] using hcur, hold⟩
      | cons p ps =>
        -- a rotation position has 36 bytes of the buffer behind it
        rw [hp] at hwf
        obtain ⟨_, h36, _⟩ := hwf
        simp at h36
    · exact ⟨hcur, hold⟩
  have hit : (iter s t st).l.cur.data = (written s).cur.data ∧ (iter s t st).l.older = (written s).older := by
    simp only [iter]; split <;> simp [syncCommit, FileS.sync]
  rw [List.map_append, List.map_reverse, hit.2, hwr.2, hall]
  simp [hit.1, hwr.1]


theorem crcUpdate_append (c : UInt32) (a b : Bytes) : crcUpdate (crcUpdate c a) b = crcUpdate c (a ++ b) := by
  simp [crcUpdate, List.foldl_append]

theorem crcUpdate_nil (c : UInt32) : crcUpdate c [] = c := by simp [crcUpdate]

/-- `t` is reachable from `s` by continuing reader steps -/
inductive Reach (cfg : Cfg) : RS → RS → Prop
  | refl (s : RS) : Reach cfg s s
  | step {s s' t : RS} : readStep cfg s = .cont s' → Reach cfg s' t → Reach cfg s t

theorem reach_consumed {cfg : Cfg} (hupd : ∀ c a b, cfg.upd (cfg.upd c a) b = cfg.upd c (a ++ b)) (hnil : ∀ c, cfg.upd c [] = c)
    {s t : RS} (h : Reach cfg s t) : ∃ k, Consumed cfg s t k := by
  induction h with
  | refl s => exact ⟨0, by simp, by simp [hnil]⟩
  | step hs _ ih =>
    obtain ⟨n, a1, b1⟩ := readStep_cont hs
    obtain ⟨k, a2, b2⟩ := ih
    refine ⟨n + k, ?_, ?_⟩
    · rw [a2, a1, List.drop_drop]
    · rw [b2, b1, a1, hupd, List.take_add]

/-- §6: `crc_checked_at_next_record`.  Let the reader start at `s0` (running crc `s0.crc`) and reach, after consuming `k` bytes
    of whatever is in the file, a state whose next record is a complete crc record. That record makes replay fail with a
    checksum error iff the stored checksum differs from `upd s0.crc (the k bytes actually read)`. So a corruption of the
    bytes in front of the record is detected there exactly when the checksum function distinguishes the two byte strings. -/
theorem crc_record_checked {cfg : Cfg} (hupd : ∀ c a b, cfg.upd (cfg.upd c a) b = cfg.upd c (a ++ b)) (hnil : ∀ c, cfg.upd c [] = c)
    {s0 s : RS} (h : Reach cfg s0 s) (hrec : atLeast s.rest levCrcSize = true) (hm : rd32 s.rest = magicCrc) :
    ∃ k, s.rest = s0.rest.drop k ∧
      ((∃ s', readStep cfg s = .fail .crc s') ↔
        UInt32.ofNat (rd32 ((s0.rest.drop k).drop 16)) ≠ cfg.upd s0.crc (s0.rest.take k)) := by
  obtain ⟨k, a, b⟩ := reach_consumed hupd hnil h
  refine ⟨k, a, ?_⟩
  have hstep : readStep cfg s = stepCrc cfg (preCommit s) := by
    rw [readStep_kind cfg (by rw [atLeast_iff, levCrcSize] at hrec; omega), hm]
    rfl
  rw [hstep, ← a, ← b]
  simp only [stepCrc, pre_rest, hrec, if_true]
  by_cases hmm : crcMismatch (preCommit s) = true
  · simp only [hmm, if_true]
    constructor
    · intro _; simpa [crcMismatch] using hmm
    · intro _; exact ⟨_, rfl⟩
  · simp only [hmm]
    constructor
    · rintro ⟨s', hs'⟩
      simp only [Bool.false_eq_true, if_false, skipLev] at hs'
      split at hs' <;> cases hs'
    · intro hne; exact absurd (by simpa [crcMismatch] using hne) hmm

/-- `t` is reached from `s` by exactly `n` continuing reader steps (`Reach` with the count the loop budget needs, `readLoop_reachN`) -/
inductive ReachN (cfg : Cfg) : Nat → RS → RS → Prop
  | refl (s : RS) : ReachN cfg 0 s s
  | step {n : Nat} {s s' t : RS} : readStep cfg s = .cont s' → ReachN cfg n s' t → ReachN cfg (n + 1) s t

theorem ReachN.toReach {cfg : Cfg} {n : Nat} {s t : RS} (h : ReachN cfg n s t) : Reach cfg s t := by
  induction h with
  | refl s => exact .refl s
  | step hs _ ih => exact .step hs ih

theorem readLoop_reachN {cfg : Cfg} {n : Nat} {s t : RS} (h : ReachN cfg n s t) (f : Nat) :
    readLoop cfg (f + n) s = readLoop cfg f t := by
  induction h with
  | refl s => rfl
  | step hs _ ih => rw [← Nat.add_assoc, readLoop_cont _ hs]; exact ih

/-- Any history (`Good`), appends `pre ++ post1`; behind the bytes of `post1` the last
    chunk holds ARBITRARY bytes `dmg` (the written rest with a byte changed, anything).  `readAllFromPosition` from the commit after
    `pre` (with its meta or without) first delivers exactly the events of `post1` — the written prefix in front of the damage —
    and then runs the loop on `dmg` from the writer's position/checksum.  Whatever the loop does there: whenever it reaches, after
    consuming `k` bytes of `dmg`, a complete crc record, `readAll` fails with a checksum error UNLESS the value stored in that
    record equals `upd crc (first k bytes of dmg)` — i.e. unless the damaged bytes collide, under the checksum, with the bytes
    the writer summed when it stored that value.  (`n + 1 ≤ fuel`: the loop's step budget reaches that record.) -/
theorem readAll_damaged_prefix_or_collision (cfg : Cfg) (hm : cfg.evMagic < 4294967296) (hsvc : cfg.evMagic ∉ serviceMagics)
    (hupd : ∀ c a b, cfg.upd (cfg.upd c a) b = cfg.upd c (a ++ b)) (hnil : ∀ c, cfg.upd c [] = c)
    (D0 : List Bytes) (pre post1 : List Ap) (w : WS) (c0 : Cur) (dmg : Bytes) (ts0 : Nat) (si : Option Meta)
    (hsz : ∀ a ∈ post1, a.body.length < 4294967296 ∧ a.ts < 4294967296)
    (hb : (runAll cfg w (pre ++ post1)).offG < 9223372036854775808) (hg : Good cfg D0 w c0)
    (wk : WS) (hwk : wk = runAll cfg w pre) (hsi : MetaFor wk.offG wk.crc si) (r : RA)
    (hr : r = readAll cfg (D0 ++ allFilesK cfg w (pre ++ post1) c0.bytes dmg) wk.offG si ts0 ⟨wk.offG, [], []⟩) :
    ∃ (s : RS) (fuel : Nat),
      At s (runAll cfg wk post1).offG (runAll cfg wk post1).crc dmg ∧ s.eng.evs = (offsR cfg wk post1).reverse ∧
      r.err = (readLoop cfg fuel s).err ∧ r.eng = (readLoop cfg fuel s).s.eng ∧
      ∀ (n : Nat) (t : RS), ReachN cfg n s t → n + 1 ≤ fuel → atLeast t.rest levCrcSize = true → rd32 t.rest = magicCrc →
        ∃ k, t.rest = dmg.drop k ∧
          (UInt32.ofNat (rd32 ((dmg.drop k).drop 16)) ≠ cfg.upd (runAll cfg wk post1).crc (dmg.take k) → r.err = some .crc) := by
  obtain ⟨s0, fuel0, hat0, hf0, hev0, hred⟩ := readAll_reduce cfg hupd D0 pre post1 w c0 dmg ts0 si hb hg.pre hg.acc hg.ok wk hwk hsi
  have hbk : (runAll cfg wk post1).offG < 9223372036854775808 := by rw [hwk, ← runAll_append]; exact hb
  obtain ⟨s, fuel, hat, _, hev, hfin⟩ := sim cfg hm hsvc post1 wk (dmg, []) s0 fuel0 (fun a ha => (hsz a ha).1) hbk hat0 hf0
  rw [← hr] at hred
  obtain ⟨_, _, h3, h4⟩ := hred
  rw [hfin, List.map_nil, finish_last] at h3 h4
  refine ⟨s, fuel, hat, by rw [hev, hev0]; simp, h3, h4, ?_⟩
  intro n t hreach hn h20 hmagic
  obtain ⟨k, hk, hiff⟩ := crc_record_checked hupd hnil hreach.toReach h20 hmagic
  rw [hat.hrest] at hk hiff
  rw [hat.hcrc] at hiff
  refine ⟨k, hk, fun hne => ?_⟩
  obtain ⟨s', hs'⟩ := hiff.mpr hne
  obtain ⟨f, rfl⟩ : ∃ f, fuel = (f + 1) + n := ⟨fuel - 1 - n, by omega⟩
  rw [h3, readLoop_reachN hreach]
  simp only [readLoop, hs']


inductive WOp
  | put (inOff : Int) (body : Bytes) (asap : Bool) (ts h1 h2 : Nat)     -- Append / AppendASAP with any arguments
  | iter (timer stop : Bool)                                             -- one writer loop iteration

def sysStep (cfg : Cfg) (s : Sys) : WOp → Sys
  | .put inOff body asap ts h1 h2 => { s with w := (putLev cfg s.w inOff body asap ts h1 h2).1 }
  | .iter t st => iter s t st

def run (cfg : Cfg) (s : Sys) (ops : List WOp) : Sys := ops.foldl (sysStep cfg) s

theorem run_ind (cfg : Cfg) (P : Sys → Prop) (hstep : ∀ s op, P s → P (sysStep cfg s op)) (ops : List WOp) (s : Sys) (h : P s) :
    P (run cfg s ops) := by
  induction ops generalizing s with
  | nil => exact h
  | cons op ops ih => exact ih _ (hstep s op h)

/-- commits (newest first) never decrease and none is ahead of the append position -/
def CommitInv (s : Sys) : Prop :=
  s.l.commits.Pairwise (fun a b => b.off ≤ a.off) ∧ ∀ c ∈ s.l.commits, c.off ≤ (s.w.offG : Int)

theorem iter_offG (s : Sys) (t st : Bool) : (iter s t st).w.offG = s.w.offG := rfl

theorem commitInv_step (cfg : Cfg) (s : Sys) (op : WOp) (h : CommitInv s) : CommitInv (sysStep cfg s op) := by
  cases op with
  | put inOff body asap ts h1 h2 =>
    refine ⟨h.1, fun c hc => ?_⟩
    have := h.2 c hc
    have m := putLev_offG cfg s.w inOff body asap ts h1 h2
    simp only [sysStep]; omega
  | iter t st =>
    simp only [sysStep, CommitInv, iter_offG]
    simp only [iter]
    split
    · simp only [syncCommit, List.pairwise_cons, List.mem_cons, written_commits]
      refine ⟨⟨fun c hc => h.2 c hc, h.1⟩, ?_⟩
      rintro c (rfl | hc)
      · exact Int.le_refl _
      · exact h.2 c hc
    · rw [written_commits]; exact h

/-- When an iteration of the writer loop issues a commit, no byte written to any file is left without an fsync
    (`syncedEnd = writtenEnd`), and rotated-away files stay fully synced.  One iteration only (§6: `commit_monotone_le_fsynced`,
    at one commit); the statement for whole schedules, file by file, is `commit_covered_per_file`. -/
theorem commit_all_synced_partial (s : Sys) (t st : Bool) (h : OlderSynced s.l)
    (hc : (iter s t st).l.commits.length > s.l.commits.length) :
    syncedEnd (iter s t st).l = writtenEnd (iter s t st).l ∧ OlderSynced (iter s t st).l := by
  have ho := written_older s h
  simp only [iter] at hc ⊢
  split at hc
  · rename_i hs
    simp only [hs, if_true]
    exact ⟨syncCommit_synced _ _ _ ho, ho⟩
  · simp [written_commits] at hc

/-- §6: `commit_monotone_le_fsynced`, first half.  For every schedule of appends (any arguments, accepted or refused) and
    writer-loop iterations (any timer/stop flags) the sequence of `Engine.Commit` offsets is non-decreasing, and no commit is ahead of the append position. -/
theorem commit_monotone (cfg : Cfg) (ops : List WOp) (s : Sys) (h : CommitInv s) : CommitInv (run cfg s ops) :=
  run_ind cfg CommitInv (commitInv_step cfg) ops s h


/-- the invariant behind "commits never exceed the fsynced bytes"; `B` = global position of the first byte of the oldest file -/
structure FsInv (B : Nat) (s : Sys) : Prop where
  winv : Winv (B + writtenEnd s.l) s.w
  older : OlderSynced s.l
  sle : SyncedLe s.l
  commits : ∀ c ∈ s.l.commits, c.off ≤ ((B + syncedEnd s.l : Nat) : Int)

theorem written_fs (B : Nat) (s : Sys) (h : FsInv B s) :
    s.w.offG = B + writtenEnd (written s) ∧ OlderSynced (written s) ∧ SyncedLe (written s) ∧ syncedEnd s.l ≤ syncedEnd (written s) := by
  unfold written
  split
  · rename_i he
    have : s.w.buff.length = 0 := by simpa [List.isEmpty_iff] using he
    exact ⟨by have := h.winv.1; omega, h.older, h.sle, Nat.le_refl _⟩
  · have hw := writeBuffer_written s.w.buff s.w.rotPos s.l 0 h.winv.2
    have hs := writeBuffer_synced s.w.buff s.w.rotPos s.l 0 h.sle
    refine ⟨?_, writeBuffer_older _ _ _ _ h.older, hs.2, hs.1⟩
    have := h.winv.1
    have e : writtenEnd { writeBuffer s.l s.w.buff 0 s.w.rotPos with dirty := true } = writtenEnd (writeBuffer s.l s.w.buff 0 s.w.rotPos) := rfl
    rw [e, hw]; omega

theorem fsInv_step (cfg : Cfg) (B : Nat) (s : Sys) (op : WOp) (h : FsInv B s) : FsInv B (sysStep cfg s op) := by
  cases op with
  | put inOff body asap ts h1 h2 => exact ⟨putLev_winv cfg inOff body asap ts h1 h2 h.winv, h.older, h.sle, h.commits⟩
  | iter t st =>
    obtain ⟨ho, hold, hsle, hmono⟩ := written_fs B s h
    simp only [sysStep, iter]
    split
    · -- sync + commit
      have hse := syncCommit_synced (written s) s.w (lastRotTs s.w.buff s.w.rotPos s.w.lastTs) hold
      have hwe := syncCommit_writtenEnd (written s) s.w (lastRotTs s.w.buff s.w.rotPos s.w.lastTs)
      refine ⟨⟨?_, ?_⟩, ?_, ?_, ?_⟩
      · simp only [takeBuf, List.length_nil, hwe]; omega
      · simp [takeBuf, WF]
      · simpa [syncCommit, OlderSynced] using hold
      · simp [syncCommit, SyncedLe, FileS.sync]
      · intro c hc
        rw [hse]
        simp only [syncCommit, List.mem_cons] at hc
        rcases hc with rfl | hc
        · simp only; omega
        · have h1 := h.commits c (by rwa [written_commits] at hc)
          have h2 := syncedEnd_le_written hold hsle
          omega
    · refine ⟨⟨?_, ?_⟩, hold, hsle, ?_⟩
      · simp only [takeBuf, List.length_nil]; omega
      · simp [takeBuf, WF]
      · intro c hc
        have h1 := h.commits c (by rwa [written_commits] at hc)
        show c.off ≤ ((B + syncedEnd (written s) : Nat) : Int)
        omega

theorem fsInv_run (cfg : Cfg) (B : Nat) (ops : List WOp) (s : Sys) (h : FsInv B s) : FsInv B (run cfg s ops) :=
  run_ind cfg (FsInv B) (fsInv_step cfg B) ops s h

/-- §6: `commit_monotone_le_fsynced`, second half.  For every schedule of appends (any arguments) and writer-loop
    iterations (any timer/stop flags), every `Engine.Commit` offset ever issued is at most the number of bytes of the global
    stream that are in the files AND covered by an fsync (`B` + synced prefix), hence also at most the bytes written. -/
theorem commit_le_fsynced (cfg : Cfg) (B : Nat) (ops : List WOp) (s : Sys) (h : FsInv B s) :
    FsInv B (run cfg s ops) ∧
    (∀ c ∈ (run cfg s ops).l.commits, c.off ≤ ((B + syncedEnd (run cfg s ops).l : Nat) : Int)) ∧
    syncedEnd (run cfg s ops).l ≤ writtenEnd (run cfg s ops).l := by
  have hinv := fsInv_run cfg B ops s h
  exact ⟨hinv, hinv.commits, syncedEnd_le_written hinv.older hinv.sle⟩


/-- walking the files oldest first from global position `p`: of each file, the bytes below the committed offset `c` lie inside
    the prefix covered by that file's last fsync (`FileS.synced` is the ghost "synced" mark of the file) -/
def coveredFrom (c : Int) : Int → List FileS → Bool
  | _, [] => true
  | p, f :: fs => decide (min (c - p) (f.data.length : Int) ≤ (f.synced : Int)) && coveredFrom c (p + f.data.length) fs

def Covered (B : Nat) (l : LS) (c : Int) : Bool := coveredFrom c B (l.older.reverse ++ [l.cur])

theorem coveredFrom_all (c : Int) : ∀ (p : Int) (fs : List FileS), (∀ f ∈ fs, f.synced = f.data.length) → coveredFrom c p fs = true
  | _, [], _ => rfl
  | p, f :: fs, h => by
    have hf := h f (List.mem_cons_self ..)
    simp only [coveredFrom, Bool.and_eq_true, decide_eq_true_eq]
    exact ⟨by rw [hf]; omega, coveredFrom_all c _ fs (fun x hx => h x (List.mem_cons_of_mem _ hx))⟩

theorem coveredFrom_snoc (c : Int) (y : FileS) : ∀ (p : Int) (xs : List FileS),
    coveredFrom c p (xs ++ [y]) = (coveredFrom c p xs && decide (min (c - (p + ((xs.map (·.data.length)).sum : Nat))) (y.data.length : Int) ≤ (y.synced : Int)))
  | p, [] => by simp [coveredFrom]
  | p, x :: xs => by
    have e : (p + (x.data.length : Int)) + (((xs.map (·.data.length)).sum : Nat) : Int)
        = p + ((((x :: xs).map (·.data.length)).sum : Nat) : Int) := by
      simp only [List.map_cons, List.sum_cons]; push_cast; omega
    simp only [List.cons_append, coveredFrom, coveredFrom_snoc c y _ xs, e, Bool.and_assoc]

/-- For every schedule of appends and writer-loop iterations, for every offset ever announced
    through `Engine.Commit` and for EVERY file — the closed chunks with their ROTATE_TO record as well as the current one — the
    bytes of that file below the committed offset were covered by an fsync of that file. -/
theorem commit_covered_per_file (cfg : Cfg) (B : Nat) (ops : List WOp) (s : Sys) (h : FsInv B s) :
    ∀ c ∈ (run cfg s ops).l.commits, Covered B (run cfg s ops).l c.off = true := by
  obtain ⟨hinv, hc, _⟩ := commit_le_fsynced cfg B ops s h
  intro c hcm
  have hle := hc c hcm
  have hold := hinv.older
  simp only [Covered, coveredFrom_snoc, Bool.and_eq_true, decide_eq_true_eq]
  refine ⟨coveredFrom_all _ _ _ (fun f hf => hold f (List.mem_reverse.mp hf)), ?_⟩
  rw [syncedEnd_of_older hold] at hle
  have hsum : ((run cfg s ops).l.older.reverse.map (·.data.length)).sum = ((run cfg s ops).l.older.map (·.data.length)).sum := by
    rw [List.map_reverse, List.sum_reverse]
  rw [hsum]
  push_cast at hle ⊢
  omega


/-- when the writer loop is not dirty, nothing written is without an fsync -/
def CleanSynced (l : LS) : Prop := l.dirty = false → syncedEnd l = writtenEnd l

theorem clean_step (cfg : Cfg) (s : Sys) (op : WOp) (h : OlderSynced s.l) (hc : CleanSynced s.l) : CleanSynced (sysStep cfg s op).l := by
  cases op with
  | put inOff body asap ts h1 h2 => exact hc
  | iter t st =>
    have hold := written_older s h
    simp only [sysStep, iter]
    split
    · intro _
      rw [syncCommit_synced _ _ _ hold, syncCommit_writtenEnd]
    · intro hd
      have := written_dirty s hd
      rw [this] at hd ⊢
      exact hc hd

theorem clean_run (cfg : Cfg) (B : Nat) (ops : List WOp) (s : Sys) (h : FsInv B s) (hc : CleanSynced s.l) :
    CleanSynced (run cfg s ops).l :=
  (run_ind cfg (fun s => FsInv B s ∧ CleanSynced s.l) (fun s op h => ⟨fsInv_step cfg B s op h.1, clean_step cfg s op h.1.older h.2⟩)
    ops s ⟨h, hc⟩).2

theorem stop_durable (B : Nat) (s : Sys) (t : Bool) (h : FsInv B s) (hc : CleanSynced s.l) :
    (iter s t true).w.stopped = true ∧ (iter s t true).w.offG = B + syncedEnd (iter s t true).l := by
  obtain ⟨ho, hold, _, _⟩ := written_fs B s h
  refine ⟨by simp [iter, takeBuf], ?_⟩
  simp only [iter, takeBuf]
  split
  · rw [syncCommit_synced _ _ _ hold]; exact ho
  · rename_i hms
    have hd : (written s).dirty = false := by
      simpa [mustSync] using hms
    have hw := written_dirty s hd
    rw [hw] at hd ho ⊢
    rw [hc hd]; exact ho

theorem stopped_run (cfg : Cfg) (ops : List WOp) (s : Sys) (h : s.w.stopped = true) :
    (run cfg s ops).w.stopped = true ∧ (run cfg s ops).w.offG = s.w.offG :=
  run_ind cfg (fun s' => s'.w.stopped = true ∧ s'.w.offG = s.w.offG)
    (fun s' op h' => by
      cases op with
      | put inOff body asap ts h1 h2 =>
        simp only [sysStep, stopped_refuses cfg s'.w inOff body asap ts h1 h2 h'.1]
        exact h'
      | iter t st => exact ⟨by simp [sysStep, iter, takeBuf, h'.1], h'.2⟩)
    ops s ⟨h, rfl⟩

/-- Any schedule `ops1` of appends and writer iterations, then the iteration that
    sees the shutdown request, then any further schedule `ops2` (appends racing with the final write/fsync/commit included —
    they come after the `replaceBuff` of the stop iteration).  (a) At the end of the stop iteration every byte accepted by an
    Append so far is in the files and fsynced; (b) every later Append is refused (`stopped`): the append position never moves
    again.  So an Append is either refused or durably written — none is acknowledged and lost. -/
theorem append_after_stop_refused_or_durable (cfg : Cfg) (B : Nat) (ops1 ops2 : List WOp) (s0 : Sys) (t : Bool)
    (h : FsInv B s0) (hc : CleanSynced s0.l) :
    (iter (run cfg s0 ops1) t true).w.offG = B + syncedEnd (iter (run cfg s0 ops1) t true).l ∧
    (run cfg (iter (run cfg s0 ops1) t true) ops2).w.stopped = true ∧
    (run cfg (iter (run cfg s0 ops1) t true) ops2).w.offG = (iter (run cfg s0 ops1) t true).w.offG := by
  obtain ⟨hs, hd⟩ := stop_durable B (run cfg s0 ops1) t (fsInv_run cfg B ops1 s0 h) (clean_run cfg B ops1 s0 h hc)
  obtain ⟨a, b⟩ := stopped_run cfg ops2 _ hs
  exact ⟨hd, a, b⟩


/-- in the first file hashBuff2 covers everything beyond the hash boundary, and offsetLocal is the distance from the file start -/
def HashInv (cfg : Cfg) (w : WS) : Prop :=
  w.firstFile = true → w.offL ≤ w.hb2 + (cfg.chunk - hashDataSize) ∧ w.offL = w.offG - w.fileStart ∧ w.fileStart ≤ w.offG

theorem wsInit_hashInv (cfg : Cfg) (pos : Nat) (crc : UInt32) (last : Hdr) (ts : Nat) :
    HashInv cfg (wsInit cfg true pos crc last ts) := by
  intro h
  have h0 : last.pos = 0 := by simpa [wsInit] using h
  simp only [wsInit, h0, hashDataSize, Int.toNat_zero, Nat.sub_zero, decide_true, Bool.and_self, if_true]
  refine ⟨?_, trivial, Nat.zero_le _⟩
  omega

theorem appendLev_hashInv (cfg : Cfg) (w : WS) (d : Bytes) (h : HashInv cfg w) : HashInv cfg (appendLev cfg w d) := by
  intro hf
  obtain ⟨a, b, c⟩ := h hf
  simp only [hashDataSize] at a
  by_cases hb : ((cfg.chunk : Int) - (16384 : Nat) < (w.offL : Int) + ((padded d).length : Nat))
  · simp only [appendLev, beyondHashBoundary, hashDataSize, hb, decide_true, if_true]
    omega
  · simp only [appendLev, beyondHashBoundary, hashDataSize, hb, decide_false, Bool.false_eq_true, if_false]
    omega

theorem putCrc_hashInv (cfg : Cfg) (w : WS) (body : Bytes) (ts : Nat) (h : HashInv cfg w) : HashInv cfg (putCrc cfg w body ts) := by
  simp only [putCrc]
  split
  · exact appendLev_hashInv cfg _ _ (appendLev_hashInv cfg w body h)
  · exact appendLev_hashInv cfg w body h

theorem rotate_no_panic (cfg : Cfg) (w : WS) (h : HashInv cfg w) (hr : needRotate cfg w = true) : hashSlicePanics w = false := by
  by_cases hf : w.firstFile = true
  · obtain ⟨a, b, c⟩ := h hf
    simp only [needRotate, decide_eq_true_eq] at hr
    simp only [hashDataSize] at a
    by_cases h1 : 2 * hashDataSize - levRotateSize ≤ w.offL
    · have h2 : ¬ (w.hb2 < hashDataSize - levRotateSize) := by
        simp only [hashDataSize, levRotateSize] at *; omega
      simp [hashSlicePanics, h2]
    · simp [hashSlicePanics, h1]
  · simp [hashSlicePanics, hf]

/-- One `Append` in a state satisfying `HashInv` does not take the panicking slice and keeps `HashInv`.  A writer started by
    `wsInit … restoreTail := true` (WriteLoop re-reads the tail of the first chunk) satisfies it (`wsInit_hashInv`). -/
theorem putLev_no_panic (cfg : Cfg) (w : WS) (inOff : Int) (body : Bytes) (asap : Bool) (ts h1 h2 : Nat) (h : HashInv cfg w) :
    (putLev cfg w inOff body asap ts h1 h2).2.1 ≠ .panic ∧ HashInv cfg (putLev cfg w inOff body asap ts h1 h2).1 := by
  have h2' := putCrc_hashInv cfg w body ts h
  refine ⟨?_, putLev_inv cfg (HashInv cfg) w inOff body asap ts h1 h2 h h2' (fun _ hf => ?_) (fun _ h' => h')⟩
  · unfold putLev
    split
    · simp
    · split
      · simp
      · by_cases hr : needRotate cfg (putCrc cfg w body ts) = true
        · simp [hr, rotate_no_panic cfg _ h2' hr]
        · simp [hr]
  · -- after a rotation the writer is no longer in the first file
    simp [addRotate, appendLev] at hf


/-- a toy checksum with the streaming law (the theorems never use more about `upd`) -/
def updT (c : UInt32) (b : Bytes) : UInt32 := b.foldl (fun a x => a * 31 + x.toUInt32) c

/-- crc record every 16 bytes, no rotation -/
def cfgT : Cfg := { upd := updT, evMagic := 0x12345, chunk := 100000, crcEvery := 16, schema := 0 }

def wT : WS := { crc := 7, offG := 44, offL := 44, lastCrcPos := 44, fileStart := 0, firstFile := true, curHash := 0,
                 buff := [], rotPos := [], asap := false, lastTs := 0, stopped := false }

def evsT : List Ev := [⟨[1, 2, 3], false, 5⟩, ⟨[], true, 6⟩, ⟨[9, 9, 9, 9, 9], false, 7⟩]

def sT (rest : Bytes) : RS :=
  { pos := 44, crc := 7, rest := rest, slack := 0, dk := false, ts := 0, commitPos := 0, eng := { off := 44, evs := [], commits := [] } }

example : ∀ c a b, updT (updT c a) b = updT c (a ++ b) := by intro c a b; simp [updT, List.foldl_append]
example : ∀ c a b, crcUpdate (crcUpdate c a) b = crcUpdate c (a ++ b) := crcUpdate_append
example : cfgT.evMagic ∉ serviceMagics := by decide +kernel
-- the hypotheses of `replay_all` hold for this instance, a crc record IS produced (after the second event: 12 + 8 >= 16
-- bytes), and the conclusion is what evaluation gives: three events at 44, 56 and 84 (= 56 + 8 + the 20 byte crc record)
example : NoRotate cfgT wT evsT := ⟨by decide +kernel, by decide +kernel, by decide +kernel, trivial⟩
example : crcPart cfgT (wnext cfgT wT ⟨[1, 2, 3], false, 5⟩) ⟨[], true, 6⟩ ≠ [] := by decide +kernel
example : (offsets cfgT wT evsT).map (·.1) = [44, 56, 84] := by decide +kernel
set_option maxRecDepth 20000 in
example : ((readLoop cfgT 7 (sT (writeAll cfgT wT evsT).buff)).s.eng.evs.map (·.1)) = [84, 56, 44] := by decide +kernel
set_option maxRecDepth 20000 in
example : (readLoop cfgT 7 (sT (writeAll cfgT wT evsT).buff)).err = none := by decide +kernel

/-- flip one bit of the first event's body (2 -> 3): both events still parse, the crc record behind them is reached (the
    reader consumed the 20 bytes in front of it) and rejects — `crc_record_checked` with a checksum that distinguishes the
    two byte strings -/
def flipped : Bytes := (writeAll cfgT wT evsT).buff.set 9 3
def sF1 : RS := afterEvent cfgT (sT flipped) [1, 3, 3] (flipped.drop 12)
def sF2 : RS := afterEvent cfgT sF1 [] (flipped.drop 20)

set_option maxRecDepth 20000 in
example : (readLoop cfgT 7 (sT flipped)).err = some .crc := by decide +kernel
set_option maxRecDepth 20000 in
example : Reach cfgT (sT flipped) sF2 := .step (s' := sF1) (by decide +kernel) (.step (s' := sF2) (by decide +kernel) (.refl _))
set_option maxRecDepth 20000 in
example : atLeast sF2.rest levCrcSize = true ∧ rd32 sF2.rest = magicCrc := by decide +kernel

/-- writer loop: an ASAP batch, a batch that only the timer flushes, a rotation (chunk 40), stop -/
def cfgR : Cfg := { cfgT with chunk := 40, crcEvery := 65536 }
def sys0 : Sys :=
  { w := { wT with offG := 0, offL := 0, lastCrcPos := 0, crc := 0 },
    l := { cur := { data := [], synced := 0 }, older := [], lastFsync := 0, dirty := false, commits := [] } }
def opsT : List WOp :=
  [.put 0 (encEvent 0x12345 [1, 2, 3]) true 5 11 12, .iter false false, .put 12 (encEvent 0x12345 [4]) false 5 11 12,
   .iter false false, .iter true false, .put 24 (encEvent 0x12345 [5, 6, 7, 8, 9, 10, 11, 12, 13]) false 6 11 12,
   .put 7 [1] false 6 0 0, .iter false true]

example : CommitInv sys0 := ⟨List.Pairwise.nil, fun _ h => by cases h⟩
example : OlderSynced sys0.l := fun _ h => by cases h
set_option maxRecDepth 20000 in
example : ((run cfgR sys0 opsT).l.commits.map (·.off)) = [116, 24, 12] := by decide +kernel
set_option maxRecDepth 20000 in
example : (run cfgR sys0 opsT).l.older.length = 1 ∧ syncedEnd (run cfgR sys0 opsT).l = 116 := by decide +kernel


/-- chunk size 100, crc record every 16 bytes: the third append rotates, the last two live in the second chunk -/
def cfgX : Cfg := { cfgT with chunk := 100 }
def apsT : List Ap :=
  [⟨[1, 2, 3], false, 5, 11, 12⟩, ⟨[], true, 6, 13, 14⟩, ⟨[9, 9, 9, 9, 9], false, 7, 15, 16⟩, ⟨[4, 4], false, 8, 17, 18⟩, ⟨[5], true, 8, 19, 20⟩]

set_option maxRecDepth 40000 in
example : At (sT (layoutC cfgX wT apsT ([], [])).1) wT.offG wT.crc (layoutC cfgX wT apsT ([], [])).1 :=
  ⟨rfl, rfl, rfl, rfl, rfl, by decide +kernel⟩
set_option maxRecDepth 40000 in
example : (layoutC cfgX wT apsT ([], [])).2.map (·.length) = [80] := by decide +kernel
set_option maxRecDepth 40000 in
example : (offsR cfgX wT apsT).map (·.1) = [44, 56, 84, 192, 224] := by decide +kernel
set_option maxRecDepth 40000 in
example : (finish cfgX (readLoop cfgX 40 (sT (layoutC cfgX wT apsT ([], [])).1))
    ((layoutC cfgX wT apsT ([], [])).2.map hdrOf)).2.2.2.1.evs.map (·.1) = [224, 192, 84, 56, 44] := by decide +kernel
-- seek_meta: the second chunk of the instance above, resumed at the commit position 224 (behind ROTATE_FROM and the 32 bytes of
-- the append at 192) with the checksum the writer had there
def file1 : Bytes := (layoutC cfgX wT apsT ([], [])).2.headD []
set_option maxRecDepth 40000 in
example : seek cfgX (hdrOf file1) 224 (some ⟨224, (runAll cfgX wT (apsT.take 4)).crc, 0⟩) 0
    = .ok (224, (runAll cfgX wT (apsT.take 4)).crc, file1.drop 68, 0) :=
  (seek_meta cfgX (hdrOf file1) (file1.take 68) (file1.drop 68) ⟨224, (runAll cfgX wT (apsT.take 4)).crc, 0⟩ 224 0
    (List.take_append_drop 68 file1).symm (by decide +kernel) (by decide +kernel) (Int.le_refl _)).trans (seekFrom_here ..)
-- truncate_prefix: pre = the three appends up to the rotation, post = the two appends of the last chunk; cut 20 bytes after the
-- ROTATE_FROM header: the 12-byte event at 192 is complete, its 20-byte crc record is cut -> exactly one more event
set_option maxRecDepth 40000 in
example : NoRotR cfgX (runAll cfgX wT (apsT.take 3)) (apsT.drop 3) := ⟨by decide +kernel, by decide +kernel, trivial⟩
set_option maxRecDepth 40000 in
example : complete cfgX (runAll cfgX wT (apsT.take 3)) (apsT.drop 3) 20 = 1 := by decide +kernel
set_option maxRecDepth 40000 in
example : (finish cfgX (readLoop cfgX 40
      (sT (layoutC cfgX wT (apsT.take 3) ((layoutC cfgX (runAll cfgX wT (apsT.take 3)) (apsT.drop 3) ([], [])).1.take 20, [])).1))
    ((layoutC cfgX wT (apsT.take 3) ((layoutC cfgX (runAll cfgX wT (apsT.take 3)) (apsT.drop 3) ([], [])).1.take 20, [])).2.map hdrOf)).2.2.2.1.evs.map (·.1)
    = [192, 84, 56, 44] := by decide +kernel
-- the hypothesis "the last chunk keeps its complete ROTATE_FROM header" of `truncate_prefix` (built into the layout: the cut is
-- applied behind `apRF`) is NEEDED: see the `decide` witnesses of the known finding below (`chunk1.take 10`: scan error,
-- `chunk1.take 2`: panic, although every event of `chunk0` is complete).

example : FsInv 0 sys0 :=
  ⟨⟨by decide +kernel, Nat.zero_le _⟩, (fun _ h => by cases h), (Nat.le_refl _), (fun _ h => by cases h)⟩
set_option maxRecDepth 20000 in
example : ((run cfgR sys0 opsT).l.commits.map (·.off)) = [116, 24, 12] ∧ syncedEnd (run cfgR sys0 opsT).l = 116 := by decide +kernel


def syT : Bytes := List.replicate 16 1
def tyT : Bytes := List.replicate 16 2
/-- the writer of the instance above, started behind the 44-byte head of a fresh binlog -/
def wS : WS := { wT with crc := updT 0 (initBytes cfgX syT tyT) }

example : StartsAt cfgX wS syT tyT := ⟨rfl, rfl⟩
set_option maxRecDepth 60000 in
example : (allFiles cfgX wS apsT (initBytes cfgX syT tyT)).map (·.length) = [156, 80] := by decide +kernel
-- readAll_from_start: two files, LevStart + tag skipped, all five events through the rotation
set_option maxRecDepth 60000 in
example : (readAll cfgX (allFiles cfgX wS apsT (initBytes cfgX syT tyT)) 0 none 0 ⟨0, [], []⟩).eng.evs.map (·.1)
    = [224, 192, 84, 56, 44] := by decide +kernel
-- readAll_from_commit: resume at the commit behind the second append (offset 84, first file) with its meta: the remaining three
-- events, the last two from the second file
set_option maxRecDepth 60000 in
example : (readAll cfgX (allFiles cfgX wS apsT (initBytes cfgX syT tyT)) 84
      (some ⟨84, (runAll cfgX wS (apsT.take 2)).crc, 9⟩) 0 ⟨84, [], []⟩).eng.evs.map (·.1) = [224, 192, 84] := by decide +kernel
-- ... and a meta with a wrong checksum is refused by the seek (the hypothesis `wk.crc` of the theorem matters)
set_option maxRecDepth 60000 in
example : (readAll cfgX (allFiles cfgX wS apsT (initBytes cfgX syT tyT)) 84 (some ⟨84, 12345, 9⟩) 0 ⟨84, [], []⟩).err
    = some .seekCrc := by decide +kernel
-- truncate_tail_files: the second file is gone and the first chunk (112 bytes behind the head) is cut inside its ROTATE_TO
-- (t = 100): the three events of the chunk; cut at 20 bytes: the first two
set_option maxRecDepth 60000 in
example : [20, 100, 112].map (completeC cfgX wS apsT) = [2, 3, 3] := by decide +kernel
set_option maxRecDepth 60000 in
example : (finish cfgX (readLoop cfgX 40 { sT ((layoutC cfgX wS apsT ([], [])).1.take 100) with crc := wS.crc }) []).2.2.2.1.evs.map (·.1)
    = [84, 56, 44] := by decide +kernel
-- iter_files_layout: three appends (the third rotates at chunk size 40) into an empty first file, one stop iteration
def aps2 : List Ap := [⟨[1, 2, 3], true, 5, 11, 12⟩, ⟨[4], false, 5, 11, 12⟩, ⟨[5, 6, 7, 8, 9, 10, 11, 12, 13], false, 6, 11, 12⟩]
def sysA : Sys := { sys0 with w := runAll cfgR sys0.w aps2 }
set_option maxRecDepth 60000 in
example : ((iter sysA false true).l.older.reverse ++ [(iter sysA false true).l.cur]).map (·.data.length) = [80, 36] := by decide +kernel

example : CleanSynced sys0.l := fun _ => by decide +kernel
/-- a variant (stopAccept only after the loop): the stop iteration does not set `stopped`; an append made right
    after it is acknowledged although nothing will ever take the buffer — the property fails for that variant -/
def iterNoStop (s : Sys) (t : Bool) : Sys := { iter s t true with w := { (iter s t true).w with stopped := s.w.stopped } }
set_option maxRecDepth 20000 in
example : (putLev cfgR (iterNoStop (run cfgR sys0 (opsT.take 4)) false).w 24 (encEvent 0x12345 [7]) false 5 0 0).2.1 = .ok ∧
          (putLev cfgR (iter (run cfgR sys0 (opsT.take 4)) false true).w 24 (encEvent 0x12345 [7]) false 5 0 0).2.1 = .stopped := by decide +kernel


def w3 : WS := runAll cfgX wS (apsT.take 3)
def D3 : List Bytes := (splitC cfgX wS (apsT.take 3) (initCur cfgX syT tyT)).1
def c3 : Cur := (splitC cfgX wS (apsT.take 3) (initCur cfgX syT tyT)).2
/-- the writer rebuilt by a restart after the third append (position and checksum from the replay) -/
def wR : WS := wsInit cfgX true w3.offG w3.crc (hdrOf c3.bytes) 0
/-- first session: three appends (the third rotates); restart; second session: two appends into the second chunk -/
def filesR : List Bytes := D3 ++ allFiles cfgX wR (apsT.drop 3) c3.bytes

set_option maxRecDepth 60000 in
example : Sessions cfgX syT tyT ([] ++ D3) wR c3 :=
  .restart true (hdrOf c3.bytes) 0 (.append (apsT.take 3) (.start wS ⟨rfl, rfl⟩) (by decide +kernel))
set_option maxRecDepth 60000 in
example : (filesR.map (·.length), (offsR cfgX wR (apsT.drop 3)).map (·.1)) = ([156, 80], [192, 204]) := by decide +kernel
-- readAll_resume_sessions: resume at the restart position 192 without meta and with the meta of that commit
set_option maxRecDepth 60000 in
example : (readAll cfgX filesR 192 none 0 ⟨192, [], []⟩).eng.evs.map (·.1) = [204, 192] ∧
          (readAll cfgX filesR 192 (some ⟨192, wR.crc, 5⟩) 0 ⟨192, [], []⟩).eng.evs.map (·.1) = [204, 192] := by decide +kernel
-- readAll_truncated: the second chunk cut 20 bytes behind its header (the event at 192 is complete, the one at 204 is cut)
set_option maxRecDepth 60000 in
example : completeC cfgX wR (apsT.drop 3) 20 = 1 ∧
    (readAll cfgX (D3 ++ allFilesK cfgX wR [] c3.bytes ((layoutC cfgX wR (apsT.drop 3) ([], [])).1.take 20)) 192 none 0 ⟨192, [], []⟩).err = none ∧
    (readAll cfgX (D3 ++ allFilesK cfgX wR [] c3.bytes ((layoutC cfgX wR (apsT.drop 3) ([], [])).1.take 20)) 192 none 0
      ⟨192, [], []⟩).eng.evs.map (·.1) = [192] := by decide +kernel


-- readAll_resume_older_meta on the two-session instance: resume at 204 with the meta of the older commit at 192 (same chunk)
set_option maxRecDepth 60000 in
example : (readAll cfgX filesR 204 (some ⟨192, wR.crc, 5⟩) 0 ⟨204, [], []⟩).err = none ∧
          (readAll cfgX filesR 204 (some ⟨192, wR.crc, 5⟩) 0 ⟨204, [], []⟩).eng.evs.map (·.1) = [204] := by decide +kernel
-- the variant `seekBad`: position says 204 but the rest still starts with the 12 bytes of the event at 192, checksum is the old one
set_option maxRecDepth 60000 in
example : (seekBad cfgX (hdrOf (filesR.getLastD [])) 204 ⟨192, wR.crc, 5⟩).map (fun x => (x.1, x.2.2.length))
            = some (204, (filesR.getLastD []).length - 36) ∧
          (match seek cfgX (hdrOf (filesR.getLastD [])) 204 (some ⟨192, wR.crc, 5⟩) 0 with
           | .ok x => decide ((x.1, x.2.2.1.length) = (204, (filesR.getLastD []).length - 48)) | .error _ => false) = true := by decide +kernel


-- `ReachN` for the flipped stream: two steps to the crc record that rejects it (`(readLoop cfgT 7 (sT flipped)).err = some .crc` above)
set_option maxRecDepth 20000 in
example : ReachN cfgT 2 (sT flipped) sF2 := .step (s' := sF1) (by decide +kernel) (.step (s' := sF2) (by decide +kernel) (.refl _))

/-- a variant of the rotation: after ROTATE_TO was written to the old chunk, the final Sync goes to the NEW fd -/
def rotateFSBad (l : LS) (rotTo rotFrom : Bytes) : LS :=
  let old := l.cur.sync
  let new : FileS := { data := rotFrom, synced := rotFrom.length }
  { l with cur := new.sync, older := (old.write rotTo) :: l.older }

def writeBufferBad (l : LS) (buff : Bytes) : Nat → List Nat → LS
  | prev, [] => { l with cur := l.cur.write (buff.drop prev) }
  | prev, pos :: ps =>
    let to := pos - levRotateSize
    let l1 := { l with cur := l.cur.write (slice buff prev to) }
    let l2 := rotateFSBad l1 (slice buff to pos) (slice buff pos (pos + levRotateSize))
    writeBufferBad l2 buff (pos + levRotateSize) ps

def iterBad (s : Sys) (timer stop : Bool) : Sys :=
  let ts := lastRotTs s.w.buff s.w.rotPos s.w.lastTs
  let l1 : LS := if s.w.buff.isEmpty then s.l else { writeBufferBad s.l s.w.buff 0 s.w.rotPos with dirty := true }
  { w := takeBuf s.w stop ts, l := if mustSync l1 s.w.asap timer stop s.w.offG then syncCommit l1 s.w ts else l1 }

def sysStepBad (cfg : Cfg) (s : Sys) : WOp → Sys
  | .put inOff body asap ts h1 h2 => { s with w := (putLev cfg s.w inOff body asap ts h1 h2).1 }
  | .iter t st => iterBad s t st

-- the schedule `opsT` (rotation at 80, commit 116): with the code's order every commit is covered in every file; with the
-- mutated order Commit(116) is announced while the 36 bytes of ROTATE_TO in the closed chunk (bytes 44..80) are not fsynced
set_option maxRecDepth 60000 in
example : ((run cfgR sys0 opsT).l.commits.map (fun c => Covered 0 (run cfgR sys0 opsT).l c.off)) = [true, true, true] := by decide +kernel
set_option maxRecDepth 60000 in
example : ((opsT.foldl (sysStepBad cfgR) sys0).l.commits.map (·.off)) = [116, 24, 12] ∧
    Covered 0 (opsT.foldl (sysStepBad cfgR) sys0).l 116 = false ∧
    (opsT.foldl (sysStepBad cfgR) sys0).l.older.map (fun f => (f.data.length, f.synced)) = [(80, 44)] := by decide +kernel


/-! ### a restart inside a long first chunk (sig=append-panic)

  With `restoreTail := false` WriteLoop leaves hashBuff2 empty after a restart.  MaxChunkSize 40000, the first
  session wrote 39664 bytes of the first chunk, the restarted writer appends a 400 byte record: the chunk is due for rotation,
  offsetLocal = 40064 >= 2*16384-36 but hashBuff2 holds only the 400 bytes appended since the restart, so
  `hashBuff2[len-(16384-36):]` panics.  With `restoreTail := true` (theorem `putLev_no_panic`) the same append is accepted. -/

def cfgP : Cfg := { cfgT with chunk := 40000, crcEvery := 65536 }
def hdr0 : Hdr := { pos := 0, crc := 0, ts := 0, curHash := 0, data := [] }

set_option maxRecDepth 20000 in
example : (putLev cfgP (wsInit cfgP false 39664 0 hdr0 0) 39664 (List.replicate 400 0) false 0 0 0).2.1 = .panic := by decide +kernel
set_option maxRecDepth 20000 in
example : (putLev cfgP (wsInit cfgP true 39664 0 hdr0 0) 39664 (List.replicate 400 0) false 0 0 0).2.1 = .ok := by decide +kernel
example : HashInv cfgP (wsInit cfgP true 39664 0 hdr0 0) := wsInit_hashInv _ _ _ _ _

/-! ### known finding (sig=truncated-file-header): the full truncation statement is FALSE for the current code

  Full statement (not provable): "for every binlog and every truncation point of its last file, `readAll` ends without error
  and delivers exactly the complete events".  Witness: first chunk = LevStart + one event + ROTATE_TO (nothing missing), second
  chunk = the first 10 bytes of its ROTATE_FROM (what a crash inside `binlogWriter.rotate` before the fsync of the new file can
  leave).  `ScanForFilesFromPos` refuses the directory, so not even the complete event of the first chunk is replayed; with the
  torn file removed the same event is delivered. -/

def chunk0 : Bytes :=
  le32 magicStart ++ le32 0 ++ le32 0 ++ le32 0 ++ le32 0 ++ le32 1 ++ padded (encEvent 0x12345 [1, 2, 3]) ++ encRotTo 5 72 0 1 2
def chunk1 : Bytes := encRotFrom 5 72 0 1 2
def eng0 : Eng := { off := 0, evs := [], commits := [] }

set_option maxRecDepth 20000 in
example : (readAll cfgT [chunk0, chunk1.take 10] 0 none 0 eng0).err = some .scan := by decide +kernel
set_option maxRecDepth 20000 in
example : (readAll cfgT [chunk0, chunk1.take 2] 0 none 0 eng0).err = some .scanPanic := by decide +kernel
set_option maxRecDepth 20000 in
example : (readAll cfgT [chunk0] 0 none 0 eng0).err = none ∧
          (readAll cfgT [chunk0] 0 none 0 eng0).eng.evs = [(24, encEvent 0x12345 [1, 2, 3])] := by decide +kernel
set_option maxRecDepth 20000 in
example : (readAll cfgT [chunk0, chunk1] 0 none 0 eng0).err = none ∧
          (readAll cfgT [chunk0, chunk1] 0 none 0 eng0).eng.evs = [(24, encEvent 0x12345 [1, 2, 3])] := by decide +kernel

/-! ### md5 chain: the Go reader does NOT verify PrevLogHash/CurLogHash ("a ROTATE_FROM whose prev-hash does not match is
  rejected" is false of the code; the property text does not ask for it).  Witness: the second chunk's ROTATE_FROM
  carries prev-hash 999 instead of the 1 announced by ROTATE_TO, replay is unchanged.  (The exhaustive bit-flip slice of the
  correspondence flips these header bytes on the real reader with the same result.) -/
set_option maxRecDepth 20000 in
example : (readAll cfgT [chunk0, encRotFrom 5 72 0 999 2] 0 none 0 eng0).err = none ∧
          (readAll cfgT [chunk0, encRotFrom 5 72 0 999 2] 0 none 0 eng0).eng.evs = [(24, encEvent 0x12345 [1, 2, 3])] := by decide +kernel

/-
  Not proved (covered by the correspondence + oracle of go/C18):
  * `readAll_damaged_prefix_or_collision` carries the side condition `n + 1 ≤ fuel` (the loop's step budget reaches the crc
    record); that the budget `rest.length / 2 + 4` always suffices is not proved.
-/

end SH.C18
