/-
  SH.Props.C23 — the API series cache returns correctly placed, fresh data under concurrency.

  Property (properties.jsonl): "For any concurrent mix of requests (any ranges, steps, play modes), invalidations,
  trimming and memory limits, every successful non-play request returns, for each slot of the requested range,
  exactly the rows the storage produced for that slot's time, never rows of another query or slot, and never rows
  from a load that finished before an invalidation of that slot completed before the request began. Memory
  accounting returns to zero once the cache is emptied, and no request waits forever."

  Model: SH.Model.TsCache (one step = one scripted operation of the real cache2 observed at quiescence; clocks
  and the storage are inputs). Proved over whole traces (`accounting` for every sequence of operations; the others
  under the hypotheses they state: well-formed shard `WF`, fresh request ids `FreshIds`/`GoodOps`, clocks `Mono`):
    * `accounting`, `accounting_zero_when_emptied` — runtime-info size = bytes held by the chunks; zero once every
      chunk is detached (the second under `Mono`: "a detached chunk has size 0" rides in the freshness invariant `CF`);
    * `freshness` — the ghost monitor `St.bad` (a request that accepts no staleness is served from the cache a cell
      whose load finished before an invalidation that hit the chunk before the request began) never fires, provided
      the clock readings never run backwards (`delivered_cells_are_new`: what a load hands out is stamped with its tick);
    * `placement`, `placement_returned`, `placement_cache`, `returned_slot_time` — every filled slot of every request
      buffer and cached chunk holds the cell of exactly its slot time and of the owner's cache key (SH.Lemmas.TsCachePlace);
    * `no_orphan_awaiter`, `no_request_waits_forever` — message bookkeeping (SH.Lemmas.TsCacheWait): `waitN` of an
      unfinished request is [own load in flight] + its awaiters, a chunk with awaiters is covered by an in-flight load;
      with no load in flight every request has returned;
    * `request_complete`, `request_complete_le` — a request that returned without error has EVERY slot of `[ls, le)`
      filled with the right cell (SH.Lemmas.TsCacheFill; hypothesis `GoodOps`: fresh ids, `ReqFits`);
    * `invWalkF_exact` … `invalidate_marks_exactly_reachable_partial`, `invStarts_spec`, `buckets_disjoint` — `invalidate`
      marks exactly the chunks of a bucket in whose interval a second of the batch lies.  Still a hypothesis there (not
      a trace invariant): bucket chunk lists sorted by start and aligned to the chunk grid; correspondence and the
      `stale-after-invalidate` oracle cover the gap.
  Fragments and model variants with `decide` witnesses of the behaviour of the other variant:
  `trim_never_sleeps_with_work`, `empty_cache_wakes_inflight_loads`, `second_removal_is_harmless` (decision sites read
  from /repo's source on every run, SH.Gen.C23: on a tree without fixes/C23-cache2-trim-wakeups-and-double-remove.diff
  they do not build — the intended alarm); `trim_survives_reset`, `trim_no_deadlock`; `invStarts_is_le`,
  `boundary_second_opens_chunk`; `publish_overwrites_all_slots`; `no_parked_waiter_without_limit`,
  `no_parked_waiter_within_limit`; `invalidate_walk_complete`; single-step placement lemmas `stub_slot_time`,
  `awaiter_offset_partial`, `deliver_places_partial`, `copy_offset_partial`.
-/
import SH.Model.TsCache
import SH.Lemmas.TsCachePlace
import SH.Lemmas.TsCacheWait
import SH.Lemmas.TsCacheFill
import SH.Gen.C23
namespace SH.Props.C23
open SH.TsCache

/-- bytes held by the chunks -/
def total : List Chunk → Int
  | [] => 0
  | c :: cs => c.size + total cs

theorem total_modAt (f : Chunk → Chunk) (hd : (f noChunk).size = noChunk.size) (i : Nat) (cs : List Chunk) :
    total (modAt f i cs) = total cs + ((f (getChunk cs i)).size - (getChunk cs i).size) := by
  induction cs generalizing i with
  | nil => simp [modAt, total, Place.getChunk_nil, hd]
  | cons c cs ih =>
    cases i with
    | zero => simp [modAt, total, Place.getChunk_zero]; omega
    | succ i => simp [modAt, total, Place.getChunk_succ, ih]; omega

theorem total_zero (cs : List Chunk) (h : ∀ j, (getChunk cs j).size = 0) : total cs = 0 := by
  induction cs with
  | nil => rfl
  | cons c cs ih =>
    have h0 := h 0
    simp only [Place.getChunk_zero] at h0
    have := ih (fun j => by simpa [Place.getChunk_succ] using h (j + 1))
    simp [total, h0, this]

theorem total_congr (cs cs' : List Chunk) (h : ∀ j, (getChunk cs' j).size = (getChunk cs j).size) : total cs' = total cs := by
  induction cs generalizing cs' with
  | nil =>
    refine total_zero cs' (fun j => ?_)
    rw [h j, Place.getChunk_nil]
    rfl
  | cons c cs ih =>
    cases cs' with
    | nil =>
      refine (total_zero _ (fun j => ?_)).symm
      rw [← h j, Place.getChunk_nil]
      rfl
    | cons c' cs' =>
      have h0 := h 0
      simp only [Place.getChunk_zero] at h0
      simp only [total, h0, ih cs' (fun j => by simpa [Place.getChunk_succ] using h (j + 1))]

/-- `Acc s`: the runtime-info size is exactly the number of bytes held by the chunks -/
def Acc (s : St) : Prop := s.info.size = total s.chunks

theorem removeUnusedGo_total (t : Int) (skip run : Nat) (cids : List Nat) (cs : List Chunk) :
    total (removeUnusedGo t skip run cids cs).2.1 = total cs - (removeUnusedGo t skip run cids cs).2.2.1 := by
  induction cids generalizing skip run cs with
  | nil => simp [removeUnusedGo]
  | cons i is ih =>
    cases skip with
    | succ k => simp [removeUnusedGo, ih]
    | zero =>
      simp only [removeUnusedGo]
      split
      · simp only [ih]
        rw [total_modAt detach (by rfl)]
        simp [detach]; omega
      · simp [ih]

theorem pass_acc {s s' : St} (hp : Place.TrimPass s s') (h : Acc s) : Acc s' := by
  rcases hp with rfl | ⟨b, _, t, bs', info', rfl, hi, _⟩
  · exact h
  · simp only [Acc, removeUnusedGo_total] at *
    omega


theorem getPre_acc (s : St) (key : Nat) (play now : Int) (l0 : Loader) (n : Nat) (h : Acc s) :
    Acc (Place.getPre s key play now l0 n) :=
  h.trans (total_congr _ _ (fun j => ((Place.initLoader_walk ..).1.kept j).size)).symm

theorem finChunk_total (cfg : Cfg) (ok : Bool) (data cells : List Slot) (base : Nat) (n : Int) (s : FinSt) (v : LChunk)
    (h : n + s.dsize = total s.chunks) :
    n + (finChunk cfg ok data cells base s v).dsize = total (finChunk cfg ok data cells base s v).chunks := by
  simp only [finChunk]
  rw [total_modAt _ (by simp [publish, noChunk])]
  simp only [publish]
  cases hd : (getChunk s.chunks v.cid).detached <;> cases ok <;> simp <;> omega

theorem finPre_acc (s : St) (l : Loader) (first : LChunk) (ok : Bool) (ver : Nat) (h : Acc s) :
    Acc (Place.finPre s l first ok ver) :=
  Place.foldl_ind _ (fun (fs : FinSt) _ => s.info.size + fs.dsize = total fs.chunks)
    (fun fs v _ hfs => finChunk_total _ _ _ _ _ _ fs v hfs) _ _ (by rw [Int.add_zero]; exact h)


theorem opInv_acc (s : St) (secs : List Int) (now : Int) (h : Acc s) : Acc (opInv s secs now) :=
  h.trans (total_congr _ _ ((Place.opInv_marked s secs now).each (R := fun c c' => c'.size = c.size) (fun _ => rfl) (fun _ => rfl))).symm

theorem step_acc (s : St) (op : Op) (h : Acc s) : Acc (step s op) :=
  Place.step_closed (fun _ _ => pass_acc) s _ op rfl (fun _ _ _ _ _ _ h => h) (fun secs now _ => opInv_acc _ secs now)
    (fun _ key play _ _ _ now _ _ => getPre_acc _ key play now _ _) (fun l first _ ok ver _ _ _ => finPre_acc _ l first ok ver) h

/-- **Memory accounting** (C23, "memory accounting returns to zero once the cache is emptied", first half):
    after every sequence of operations — requests of any range/step/play mode, loads finishing in any order
    with success or failure, invalidations, chunk trimming, bucket eviction, reset, limit changes, shutdown —
    the runtime-info size equals the bytes held by the chunks. -/
theorem accounting (cfg : Cfg) (ops : List Op) : Acc (run (init cfg) ops) :=
  Place.foldl_ind step (fun s _ => Acc s) (fun s op _ h => step_acc s op h) ops _ rfl


/-- the chunk-level freshness invariant: a chunk that still caches a cell of a load which finished before the
    chunk's last invalidation is marked invalidated, with a timestamp that is not in the future.  The last clause (a detached
    chunk has size 0) is an accounting fact carried here; it is why `accounting_zero_when_emptied` has the hypothesis `Mono`. -/
def CF (now : Int) (tick : Nat) (c : Chunk) : Prop :=
  c.lastInv ≤ tick ∧ (hasStale c = true → c.invAt ≠ 0 ∧ c.invAt ≤ now) ∧ (c.detached = true → c.size = 0)

def AllCF (now : Int) (tick : Nat) (cs : List Chunk) : Prop := ∀ j, CF now tick (getChunk cs j)

theorem CF_noChunk (now : Int) (tick : Nat) : CF now tick noChunk := by
  simp [CF, noChunk, hasStale]

theorem AllCF_nil (now : Int) (tick : Nat) : AllCF now tick [] := by
  intro j; rw [Place.getChunk_nil]; exact CF_noChunk ..

theorem AllCF_modAt {now : Int} {tick : Nat} (f : Chunk → Chunk) (hf : ∀ c, CF now tick c → CF now tick (f c))
    (i : Nat) {cs : List Chunk} (h : AllCF now tick cs) : AllCF now tick (modAt f i cs) :=
  fun j => Place.Each_modAt (R := fun c c' => CF now tick c → CF now tick c') (fun _ hc => hc) f i cs (hf _) j (h j)

theorem AllCF_mono {now now' : Int} {tick tick' : Nat} {cs : List Chunk} (h : AllCF now tick cs)
    (h1 : now ≤ now') (h2 : tick ≤ tick') : AllCF now' tick' cs := by
  intro j
  obtain ⟨a, b, d⟩ := h j
  exact ⟨by omega, fun hs => ⟨(b hs).1, by have := (b hs).2; omega⟩, d⟩

theorem hasStale_congr {c c' : Chunk} (hd : c'.data = c.data) (hl : c'.lastInv = c.lastInv) : hasStale c' = hasStale c := by
  simp [hasStale, hd, hl]

/-- `CF` reads `data`, `size`, `invAt`, `lastInv` and `detached` only -/
theorem CF_congr {now : Int} {tick : Nat} {c c' : Chunk} (e1 : c'.data = c.data) (e2 : c'.size = c.size) (e3 : c'.invAt = c.invAt)
    (e4 : c'.lastInv = c.lastInv) (hd : c'.detached = true → c.detached = true) (h : CF now tick c) : CF now tick c' := by
  refine ⟨e4 ▸ h.1, fun hs => ?_, fun hd' => e2 ▸ h.2.2 (hd hd')⟩
  rw [e3]
  exact h.2.1 (by rwa [hasStale_congr e1 e4] at hs)

theorem hasStale_grows {cs cs' : List Chunk} (hg : Place.Grows cs cs') (j : Nat) : hasStale (getChunk cs' j) = hasStale (getChunk cs j) :=
  hasStale_congr (hg.kept j).data (hg.kept j).lastInv

/-- a chunk made by `init` stands where `noChunk` stood, and `noChunk` is detached -/
theorem AllCF_grows {now : Int} {tick : Nat} {cs cs' : List Chunk} (hg : Place.Grows cs cs') (h : AllCF now tick cs) : AllCF now tick cs' := by
  intro j
  obtain ⟨e1, e2, e3, e4, _⟩ := hg.kept j
  refine CF_congr e1 e2 e3 e4 (fun hd => ?_) (h j)
  by_cases hj : j < cs.length
  · exact (hg.old j hj).2.2 ▸ hd
  · rw [Place.getChunk_ge cs j (by omega)]
    rfl

/-- invariant of `init` from the store `cs0`: the store has grown (`gr`), monitor silent, and every chunk waiting for its
    copy/await decision with `wait = false` on behalf of a request that accepts no staleness held no stale cell in `cs0`
    (`hasStale_grows` carries that to the current store; a chunk made during `init` is `noChunk` in `cs0`) -/
structure J (cs0 : List Chunk) (s : InitSt) : Prop where
  gr : Place.Grows cs0 s.chunks
  bad : s.bad = false
  pend : ∀ v ∈ s.pend, v.wait = false → s.l.stale = 0 → hasStale (getChunk cs0 v.cid) = false

theorem wait_of_stale {now : Int} {tick : Nat} {c : Chunk} (h : CF now tick c) (force : Bool)
    (hs : hasStale c = true) : wantWait c force now 0 = true := by
  obtain ⟨h1, h2⟩ := h.2.1 hs
  simp only [wantWait, isInvalid, waitsInvalid, Bool.or_eq_true, Bool.and_eq_true, bne_iff_ne, ne_eq,
    decide_eq_true_eq]
  right
  exact ⟨h1, by omega⟩

theorem J_init {now : Int} {tick : Nat} {cs0 : List Chunk} (hcf : AllCF now tick cs0) (cfg : Cfg) (n : Nat) :
    Place.InitInv cfg now n (fun _ s => J cs0 s) where
  await := fun _ s v _ _ h => ⟨h.gr.trans (Place.awaitChunk_grow s v), h.bad, fun w hw => h.pend w (List.mem_cons_of_mem _ hw)⟩
  copy := by
    intro p s v rest hwait h
    have sub : ∀ w ∈ rest, w.wait = false → s.l.stale = 0 → hasStale (getChunk cs0 w.cid) = false :=
      fun w hw => h.pend w (List.mem_cons_of_mem _ hw)
    unfold copyChunk
    split
    · exact ⟨h.gr, h.bad, sub⟩
    · refine ⟨h.gr, ?_, sub⟩
      simp only [show s.bad = false from h.bad, Bool.false_or, Bool.and_eq_false_imp, beq_iff_eq]
      intro h0
      rw [hasStale_grows h.gr]
      exact h.pend v (List.mem_cons_self ..) hwait h0
  adopt := fun _ s v _ h => ⟨h.gr.trans (Place.Grows_startLoad now v.cid s.chunks), h.bad, fun w hw => h.pend w (List.mem_cons_of_mem _ hw)⟩
  self := by
    intro p s0 s cid lc _ _ _ _ hpend _ _ _ h
    refine ⟨h.gr.trans ((Place.Grows_startLoad now cid _).trans (Place.Grows_touch now cid _)), h.bad, ?_⟩
    intro v hv
    rw [show _ = s.pend from rfl, hpend] at hv
    cases hv
  defer := by
    intro p s cid _ _ _ h
    refine ⟨h.gr.trans (Place.Grows_touch now cid _), h.bad, ?_⟩
    intro v hv hw hst
    simp only [] at hv hst
    rcases Place.mem_snoc hv with hv | rfl
    · exact h.pend v hv hw hst
    · simp only [mkLChunk] at hw ⊢
      cases hs : hasStale (getChunk cs0 cid) with
      | false => rfl
      | true =>
        -- a stale chunk is marked invalidated, so a request that accepts no staleness waits for the reload
        rw [← hasStale_grows h.gr] at hs
        have := wait_of_stale (AllCF_grows h.gr hcf cid) s.l.force hs
        rw [hst] at hw
        rw [this] at hw
        cases hw
  make := fun _ _ h => ⟨h.gr.trans (Place.Grows_append ..), h.bad, h.pend⟩
  ins := fun _ _ _ _ _ h _ _ _ _ => ⟨h.gr, h.bad, h.pend⟩

/-- the state part of the freshness invariant: every chunk satisfies `CF`, the monitor has not fired -/
def G (now : Int) (tick : Nat) (s : St) : Prop := AllCF now tick s.chunks ∧ s.bad = false

theorem CF_detach {now : Int} {tick : Nat} (c : Chunk) (h : CF now tick c) : CF now tick (detach c) := by
  refine ⟨h.1, ?_, ?_⟩
  · simp [detach, hasStale]
  · simp [detach]

theorem pass_G {now : Int} {tick : Nat} {s s' : St} (hp : Place.TrimPass s s') (h : G now tick s) : G now tick s' := by
  obtain ⟨ht, _, _, hb⟩ := hp.frame
  exact ⟨fun j => ht.each (R := fun c c' => CF now tick c → CF now tick c') (fun _ hc => hc) CF_detach j (h.1 j), hb.trans h.2⟩

theorem getPre_G {now : Int} {tick : Nat} (s : St) (key : Nat) (play : Int) (l0 : Loader) (n : Nat) (h : G now tick s) :
    G now tick (Place.getPre s key play now l0 n) := by
  have hj := (J_init h.1 s.cfg n).run s.chunks (Place.bucketOf s key play).cids l0 ⟨Place.Grows.refl _, rfl, by intro v hv; cases hv⟩
  refine ⟨AllCF_grows hj.gr h.1, ?_⟩
  show (s.bad || _) = false
  rw [h.2, hj.bad]
  rfl

/-- every cell the storage stub produces for a finishing load is stamped with the tick it is given (`finApply` passes the
    tick of the finishing operation) -/
theorem delivered_cells_are_new (cfg : Cfg) (key ver load tick : Nat) (fromSec : Int) (n : Nat) (x : Slot)
    (h : x ∈ stubCells cfg key ver load tick fromSec n) : ∃ cell, x = some cell ∧ cell.fin = tick := by
  simp only [stubCells, List.mem_map] at h
  obtain ⟨i, _, rfl⟩ := h
  exact ⟨_, rfl, rfl⟩

theorem CF_publish {now : Int} {tick : Nat} (ok : Bool) (cd : List Slot) (bytes : Int) (c : Chunk)
    (hcd : ok = true → ∀ x ∈ cd, ∃ cell, x = some cell ∧ cell.fin = tick) (h : CF now tick c) :
    CF now tick (publish ok cd bytes c) := by
  unfold publish
  simp only []
  split
  · exact CF_congr rfl rfl rfl rfl id h
  · split
    · rename_i hdet hok
      refine ⟨h.1, ?_, fun hd => absurd hd (by simpa using hdet)⟩
      intro hs
      exfalso
      simp only [hasStale, List.any_eq_true] at hs
      obtain ⟨x, hx, hx2⟩ := hs
      obtain ⟨cell, rfl, hf⟩ := hcd hok x hx
      simp only [decide_eq_true_eq] at hx2
      have := h.1
      omega
    · exact CF_congr rfl rfl rfl rfl id h

theorem finPre_G {now : Int} (s : St) (l : Loader) (first : LChunk) (ok : Bool) (ver : Nat) (h : G now s.tick s) :
    G now s.tick (Place.finPre s l first ok ver) := by
  refine ⟨Place.foldl_ind _ (fun (fs : FinSt) _ => AllCF now s.tick fs.chunks) ?_ _ _ h.1, h.2⟩
  intro fs v _ hfs
  apply AllCF_modAt _ _ _ hfs
  intro c hc
  apply CF_publish _ _ _ _ _ hc
  intro hok x hx
  simp only [hok, if_true] at hx
  exact delivered_cells_are_new _ _ _ _ _ _ _ _ (Place.mem_slice _ _ _ _ hx)

theorem CF_invalidate {now : Int} {tick : Nat} (hpos : 0 < now) (c : Chunk) (h : CF now tick c) :
    CF now tick (invalidateChunk now tick c) := by
  refine ⟨Nat.le_refl _, fun _ => ⟨?_, ?_⟩, h.2.2⟩
  · simp only [invalidateChunk]; omega
  · simp only [invalidateChunk]; omega

theorem opInv_G (s : St) (secs : List Int) (now : Int) (hpos : 0 < now) (h : G now s.tick s) :
    G now s.tick (opInv s secs now) :=
  ⟨fun j => (Place.opInv_marked s secs now).each (R := fun c c' => CF now s.tick c → CF now s.tick c') (fun _ hc => hc)
    (CF_invalidate hpos) j (h.1 j), h.2⟩

/-- clocks handed to the operations never run backwards and are positive (UnixNano).  Positive, because `invAt = 0`
    encodes "not invalidated" (`isInvalid`): an invalidation at time 0 would be lost (`CF_invalidate`). -/
def Mono : Int → List Op → Prop
  | _, [] => True
  | c, op :: ops => c ≤ op.now ∧ 0 < op.now ∧ Mono op.now ops

/-- `G` at the state's own clock and tick: the invariant of `freshness` between operations -/
def Fresh (s : St) : Prop := G s.clock s.tick s

theorem step_fresh (s : St) (op : Op) (h1 : s.clock ≤ op.now) (hpos : 0 < op.now) (h : Fresh s) : Fresh (step s op) :=
  Place.step_closed (P := G op.now (s.tick + 1)) (fun _ _ => pass_G) s _ op rfl (fun _ _ _ _ _ _ h => h)
    (fun secs now e => by subst e; exact opInv_G _ secs now hpos)
    (fun _ key play _ _ _ now e _ => by subst e; exact getPre_G _ key play _ _)
    (fun l first _ ok ver _ _ _ => finPre_G _ l first ok ver) ⟨AllCF_mono h.1 h1 (Nat.le_succ _), h.2⟩

theorem run_fresh (ops : List Op) (s : St) (hm : Mono s.clock ops) (h : Fresh s) : Fresh (run s ops) :=
  (Place.foldl_ind step (fun s ops => Mono s.clock ops ∧ Fresh s)
    (fun s op _ ⟨⟨a, b, c⟩, h⟩ => ⟨c, step_fresh s op a b h⟩) ops s ⟨hm, h⟩).2


/-- **Freshness** (C23: "never rows from a load that finished before an invalidation of that slot completed
    before the request began"). For every configuration and every sequence of operations whose clock readings are
    positive and never run backwards, the monitor never fires: no request with `staleAcceptPeriod = 0` (every
    request except play interval 1 s) is ever served from the cache a cell whose load finished before an
    invalidation that hit the chunk before the request began. (Cells not served from the cache are written by a load
    that finishes after the request began, see `delivered_cells_are_new`.) -/
theorem freshness (cfg : Cfg) (ops : List Op) (hm : Mono 0 ops) : (run (init cfg) ops).bad = false :=
  (run_fresh ops (init cfg) hm ⟨AllCF_nil _ _, rfl⟩).2

/-- **Memory accounting returns to zero once the cache is emptied**: after any sequence of operations (clock
    readings positive and not running backwards), if every chunk has been detached — which is what `reset`,
    eviction of every bucket, or trimming of every chunk does — the runtime-info size is 0, whatever loads are still
    in flight or finished in between. -/
theorem accounting_zero_when_emptied (cfg : Cfg) (ops : List Op) (hm : Mono 0 ops)
    (he : ∀ j, (getChunk (run (init cfg) ops).chunks j).detached = true) : (run (init cfg) ops).info.size = 0 := by
  have hf := (run_fresh ops (init cfg) hm ⟨AllCF_nil _ _, rfl⟩).1
  rw [accounting cfg ops]
  exact total_zero _ (fun j => (hf j).2.2 (he j))

/-- the monitor is exactly "served from the cache although stale": `copyChunk` raises it iff the request accepts
    no staleness and the chunk it copies from holds a cell older than the chunk's last invalidation -/
theorem monitor_meaning (s : InitSt) (v : LChunk) (d : List Slot) (hd : (getChunk s.chunks v.cid).data = some d) :
    (copyChunk s v).bad = (s.bad || (s.l.stale == 0 && hasStale (getChunk s.chunks v.cid))) := by
  simp [copyChunk, hd]

/-! ## Placement

  `placement` is the whole-trace statement: after ANY sequence of operations, every slot that is filled in the
  buffer of ANY request (finished or not, successful or not, any play mode) holds the cell the storage produced for
  exactly that slot's time and for the request's cache key — whether the cell was copied from the cache, written by
  the request's own load, or handed over by another request's load through the awaiter's `chunkOffset`
  (invariant: SH.Lemmas.TsCachePlace, `PInv`).  Hypotheses: the shard is well formed (a chunk lasts `K` steps) and
  request ids are fresh (the model addresses a loader by id where Go holds a pointer).
  That a *successful* request has *every* slot of its range filled is `request_complete` below. -/

/-- **Placement** (C23: "returns, for each slot of the requested range, exactly the rows the storage produced for
    that slot's time, never rows of another query or slot"). Slot `i` of a request buffer stands for the time
    `timeStart + i·step` (`timeStart` = start of the first chunk the range touches; the request's own range is
    `[ls, le)`, see `request_slot_time`). -/
theorem placement (cfg : Cfg) (wf : SH.TsCache.Place.WF cfg) (ops : List Op)
    (hf : SH.TsCache.Place.FreshIds (init cfg) ops) :
    ∀ l ∈ (run (init cfg) ops).loaders, ∀ (i : Nat) (c : Cell), l.data[i]? = some (some c) →
      c.t = l.timeStart / nsec + (i : Int) * cfg.step ∧ c.key = l.key := by
  intro l hl i c hc
  have := (Wait.run_B ops (init cfg) wf hf (Wait.Both_init cfg)).place.pl l hl i (some c) hc c rfl
  rwa [SH.TsCache.Place.run_cfg] at this

/-- in particular for what `Get` returns (`l.data[ls:le]`): returned slot `i` is buffer slot `ls + i` -/
theorem placement_returned (cfg : Cfg) (wf : SH.TsCache.Place.WF cfg) (ops : List Op)
    (hf : SH.TsCache.Place.FreshIds (init cfg) ops) :
    ∀ l ∈ (run (init cfg) ops).loaders, ∀ (i : Nat) (c : Cell), (slice l.data l.ls l.le)[i]? = some (some c) →
      c.t = l.timeStart / nsec + ((l.ls + i : Nat) : Int) * cfg.step ∧ c.key = l.key := by
  intro l hl i c h
  exact placement cfg wf ops hf l hl (l.ls + i) c (SH.TsCache.Place.getElem?_slice_some _ _ _ _ _ h).2

/-- cached chunk data is placed as well: slot `j` of an attached or detached chunk holds the cell of time
    `chunk.start + j·step` of the chunk's cache key -/
theorem placement_cache (cfg : Cfg) (wf : SH.TsCache.Place.WF cfg) (ops : List Op)
    (hf : SH.TsCache.Place.FreshIds (init cfg) ops) (cid : Nat) (d : List Slot)
    (hd : (getChunk (run (init cfg) ops).chunks cid).data = some d) (j : Nat) (c : Cell) (hj : d[j]? = some (some c)) :
    c.t = (getChunk (run (init cfg) ops).chunks cid).start / nsec + (j : Int) * cfg.step ∧
      c.key = (getChunk (run (init cfg) ops).chunks cid).key := by
  have := (Wait.run_B ops (init cfg) wf hf (Wait.Both_init cfg)).place.ci.pc cid d hd j (some c) hj c rfl
  rwa [SH.TsCache.Place.run_cfg] at this

/-- the request's own range: for a request `[f, …)` whose start is a multiple of the step (`f = m·step`, as every
    caller passes), buffer slot `ls + i` — returned slot `i` — is the slot of time `f + i·step`.  Together with
    `placement_returned`: returned slot `i` holds only rows of time `from + i·step` of the request's cache key. -/
theorem returned_slot_time (cfg : Cfg) (wf : SH.TsCache.Place.WF cfg) (hs : 0 < cfg.step) (hK : 0 < cfg.K) (m : Int) (i : Nat)
    (hm : 0 ≤ m) :
    chunkStartOf cfg (m * cfg.step * nsec) / nsec +
        (((((m * cfg.step * nsec - chunkStartOf cfg (m * cfg.step * nsec)) / (cfg.step * nsec)).toNat + i : Nat)) : Int) * cfg.step
      = m * cfg.step + (i : Int) * cfg.step :=
  have _ := hm  -- not needed: `ls = m % K` holds for every `m`
  SH.TsCache.Place.request_slot_time cfg wf hs hK m i

/-- the storage answers slot `i` of a load with the rows of time `from + i·step` -/
theorem stub_slot_time (cfg : Cfg) (key ver load tick : Nat) (fromSec : Int) (n i : Nat) (h : i < n) :
    (stubCells cfg key ver load tick fromSec n)[i]? =
      some (some { t := fromSec + (i : Int) * cfg.step, key := key, ver := ver, load := load, fin := tick }) := by
  exact Place.getElem?_stubCells cfg key ver load tick fromSec n i h

/-- the arithmetic behind `chunkOffset = loadStart − chunkStart` (`awaitChunk` registers `off := ls - pos`): for the loader
    chunk `mkLChunk` makes, `pos + (ls − pos) = ls`, i.e. the subtraction does not underflow -/
theorem awaiter_offset_partial (cfg : Cfg) (l : Loader) (c : Chunk) (cid pos : Nat) (now : Int) :
    (mkLChunk cfg l c cid pos now).pos + ((mkLChunk cfg l c cid pos now).ls - (mkLChunk cfg l c cid pos now).pos)
      = (mkLChunk cfg l c cid pos now).ls := by
  simp only [mkLChunk]; omega

/-- delivery to an awaiter: loader slot `ls + k` receives chunk slot `off + k`; with `awaiter_offset_partial`
    (`off = ls − pos`) that is chunk slot `(ls + k) − pos`, the slot of the same time -/
theorem deliver_places_partial (src : List Slot) (a : Awaiter) (l : Loader) (k : Nat) (hid : l.id = a.req)
    (hk : k < a.le - a.ls) (hb : a.ls + k < l.data.length) (hs : a.off + k < src.length) :
    (deliver true src a l).data[a.ls + k]? = src[a.off + k]? := by
  have hlen : k < (slice src a.off (a.off + (a.le - a.ls))).length := by rw [Place.length_slice]; omega
  rw [Place.deliver_eq true src a l hid]
  exact (Place.getElem?_setRange _ _ _ _ hb hlen).trans (Place.getElem?_slice _ _ _ _ (by omega))

/-- a cache hit copies chunk slot `(ls + k) − pos` into loader slot `ls + k` -/
theorem copy_offset_partial (s : InitSt) (v : LChunk) (d : List Slot) (k : Nat)
    (hd : (getChunk s.chunks v.cid).data = some d) (hk : k < v.le - v.ls) (hpos : v.pos ≤ v.ls)
    (hb : v.ls + k < s.l.data.length) (hs : v.ls - v.pos + k < d.length) :
    (copyChunk s v).l.data[v.ls + k]? = d[v.ls - v.pos + k]? := by
  have hlen : k < (slice d (v.ls - v.pos) (v.le - v.pos)).length := by rw [Place.length_slice]; omega
  simp only [copyChunk, hd]
  exact (Place.getElem?_setRange _ _ _ _ hb hlen).trans (Place.getElem?_slice _ _ _ _ (by omega))

/-! ## The decision sites behind "no request waits forever" (facts read from /repo's source, SH.Gen.C23) -/

/-- `cache2.trim`: does the trim goroutine call `trimCond.Wait()`? (`eff` = effectiveSizeLocked, `size` = info.size) -/
def trimSleeps (v : SH.Gen.C23.TrimWait) (maxSize soft eff size : Int) : Bool :=
  match v with
  | .hardLimit => maxSize == 0 || decide (eff ≤ maxSize)
  | .softLimitOrEmpty => maxSize == 0 || decide (eff ≤ soft) || decide (size ≤ 0)
  | .unknown => true

/-- there is something the trim goroutine must do: a limit is set, the effective size is above the soft limit and
    the cache holds data it can evict (loads wait in `tryNotExceedMemorySoftLimitInflight` until it has done it) -/
def trimHasWork (maxSize soft eff size : Int) : Bool := maxSize != 0 && decide (soft < eff) && decide (0 < size)

/-- The trim goroutine never goes to sleep while it has work (signals sent while it is busy are lost, so the
    decision to sleep must not rely on them). -/
theorem trim_never_sleeps_with_work (maxSize soft eff size : Int)
    (h : trimSleeps SH.Gen.C23.trimWait maxSize soft eff size = true) : trimHasWork maxSize soft eff size = false := by
  simp only [trimSleeps, SH.Gen.C23.trimWait, trimHasWork, Bool.or_eq_true, beq_iff_eq, decide_eq_true_eq,
    Bool.and_eq_false_imp, Bool.and_eq_true, bne_iff_ne, ne_eq, decide_eq_false_iff_not] at *
  omega

/-- the variant `.hardLimit` (sleep while `size <= maxSize`): the state observed on the real cache when every load hung
    (size 4464, soft limit 3572, hard limit 4465): the trim goroutine sleeps although it has work -/
example : trimSleeps .hardLimit 4465 3572 4464 4464 = true ∧ trimHasWork 4465 3572 4464 4464 = true := by decide +kernel

/-- `updateRuntimeInfoUnlocked`: is `allocCond` broadcast after the runtime info changed? -/
def allocWakes (v : SH.Gen.C23.AllocWake) (maxSize eff size : Int) : Bool :=
  match v with
  | .whenBelow => decide (eff ≤ maxSize)
  | .whenBelowOrEmpty => decide (eff ≤ maxSize) || decide (size ≤ 0)
  | .unknown => false

/-- Once trimming has emptied the cache, the loads parked in `tryNotExceedMemoryHardLimitInflight` are woken, so
    that they can resolve "inflight bytes alone exceed the limit" (they cancel the largest inflight request). -/
theorem empty_cache_wakes_inflight_loads (maxSize eff size : Int) (h : size ≤ 0) :
    allocWakes SH.Gen.C23.allocWake maxSize eff size = true := by
  simp [allocWakes, SH.Gen.C23.allocWake, h]

example : allocWakes .whenBelow 64 5000 0 = false := by decide +kernel   -- `.whenBelow`: cache empty, nobody is woken

/-- removing a bucket that `reset` has already removed (the trim heap still points to it):
    `none` = the nil dereference in `cache2BucketList.remove` -/
def secondRemoval (guard : Bool) : Option Unit := if guard then some () else none

theorem second_removal_is_harmless : secondRemoval SH.Gen.C23.removeGuard = some () := by
  simp [secondRemoval, SH.Gen.C23.removeGuard]

example : secondRemoval false = none := by decide +kernel   -- without the guard

def cfg0 : Cfg := { step := 1, K := 2, dur := 2000000000, col := 24, row := 100 }

/-- request, load finishes, the slot is invalidated, a second request reloads, a third one is a pure cache hit -/
def ops0 : List Op :=
  [ .get 1 1 0 false 100 102 200000000000, .fin 1 true 1 200000000001, .inv [100] 200000000002,
    .get 2 1 0 false 100 102 200000000003, .fin 2 true 2 200000000004, .get 3 1 0 false 100 102 200000000005 ]

example : Mono 0 ops0 := by simp [Mono, ops0, Op.now]
example : (run (init cfg0) ops0).info.size = 196 := by decide +kernel
example : ((run (init cfg0) ops0).loaders.map (fun l => (l.id, l.finished, l.data.map (fun x => x.map (·.ver))))) =
    [(1, true, [some 1, some 1]), (2, true, [some 2, some 2]), (3, true, [some 2, some 2])] := by decide +kernel

/-- hypotheses of `placement` on the example run: well-formed shard, fresh ids; and its conclusion is not vacuous:
    request 3 (a pure cache hit) holds the cells of times 100 and 101 -/
example : SH.TsCache.Place.WF cfg0 := by decide +kernel
example : SH.TsCache.Place.FreshIds (init cfg0) ops0 := by decide +kernel
example : ((run (init cfg0) ops0).loaders.map (fun l => (l.id, l.timeStart / nsec, l.data.map (fun x => x.map (·.t))))) =
    [(1, 100, [some 100, some 101]), (2, 100, [some 100, some 101]), (3, 100, [some 100, some 101])] := by decide +kernel

/-- emptied: after a reset every chunk is detached (hypothesis of `accounting_zero_when_emptied`) while the size was 196 before -/
example : ((run (init cfg0) (ops0 ++ [.reset 200000000006])).chunks.all (·.detached)) = true ∧
    (run (init cfg0) (ops0 ++ [.reset 200000000006])).info.size = 0 := by decide +kernel

/-- the monitor does fire on a stale hit: a chunk whose only cell was loaded at tick 1 and invalidated at tick 2,
    served to a request that accepts no staleness -/
def staleChunk : Chunk :=
  { noChunk with data := some [some { t := 100, key := 1, ver := 1, load := 1, fin := 1 }], lastInv := 2, detached := false }
def staleInit : InitSt :=
  { chunks := [staleChunk], cids := [0], pend := [], fresh := 0,
    l := { id := 9, key := 1, play := 0, force := false, timeStart := 0, data := [none], ls := 0, le := 1, chunks := [],
           waitN := 0, gotErr := false, loadPending := false, finished := false, began := 0, stale := 0 } }
example : (copyChunk staleInit { cid := 0, pos := 0, ls := 0, le := 1, load := false, wait := false }).bad = true := by decide +kernel
/-- …and the invariant `CF` is what excludes that state: an un-invalidated chunk with such a cell violates it -/
example : ¬ CF 10 5 staleChunk := by
  intro h
  have := h.2.1 (by decide)
  exact this.1 (by decide)

/-! ## Two defects of the trim goroutine as model variants (with and without the guard / the sleep condition of /repo) -/

/-! ### A bucket removed twice: `reset` racing with `reduceMemoryUsage`

  `reduceMemoryUsage` first collects every bucket into its heap and then removes them one by one; `reset` (any
  goroutine) may remove the same buckets in between.  `held` is the heap (bucket keys = the pointers it holds). -/

/-- `removeBucketUnlocked` on a bucket pointer collected earlier. `guard` = it returns early when the bucket is no
    longer in `shard.bucketM`; without the guard the unlinked bucket's nil list links are dereferenced (`none`). -/
def removeHeld (guard : Bool) (s : St) (key : Nat) : Option St :=
  match findBucket key s.buckets with
  | some _ => some (removeBucket s key)
  | none => if guard then some s else none

/-- the eviction loop of `reduceMemoryUsage` over the heap collected earlier -/
def reduceHeld (guard : Bool) : List Nat → St → Option St
  | [], s => some s
  | k :: ks, s =>
    match removeHeld guard s k with
    | none => none
    | some s1 => if s1.info.size <= s1.soft then some s1 else reduceHeld guard ks s1

/-- the race: the trim goroutine collects its heap, `reset` runs, the trim goroutine goes on -/
def trimRace (guard : Bool) (s : St) : Option St := reduceHeld guard (s.buckets.map (·.key)) (resetAll s)

/-- with the guard the eviction loop survives any stale heap, and keeps the accounting exact -/
theorem reduceHeld_guarded (held : List Nat) (s : St) (h : Acc s) : ∃ s', reduceHeld true held s = some s' ∧ Acc s' := by
  induction held generalizing s with
  | nil => exact ⟨s, rfl, h⟩
  | cons k ks ih =>
    have step : ∀ s1 : St, Acc s1 →
        ∃ s', (if s1.info.size ≤ s1.soft then some s1 else reduceHeld true ks s1) = some s' ∧ Acc s' := by
      intro s1 h1
      by_cases hc : s1.info.size ≤ s1.soft
      · simp only [hc, if_true]; exact ⟨_, rfl, h1⟩
      · simp only [hc, if_false]; exact ih _ h1
    cases hfb : findBucket k s.buckets with
    | none => simp only [reduceHeld, removeHeld, hfb, if_true]; exact step s h
    | some b => simp only [reduceHeld, removeHeld, hfb]; exact step _ (pass_acc (Place.removeBucket_pass ..) h)

/-- the code in /repo (guard read from the source): a reset during trimming never crashes the trim goroutine -/
theorem trim_survives_reset (s : St) (h : Acc s) :
    ∃ s', trimRace SH.Gen.C23.removeGuard s = some s' ∧ Acc s' := by
  have : SH.Gen.C23.removeGuard = true := by decide +kernel
  rw [this]
  exact reduceHeld_guarded _ _ (Place.resetAll_closed (fun _ _ => pass_acc) _ h)

/-- without the guard: one cached bucket, `reset` between heap collection and removal ⇒ nil dereference -/
example : trimRace false (run (init cfg0) ops0) = none := by decide +kernel
example : (trimRace true (run (init cfg0) ops0)).isSome = true := by decide +kernel


/-! ### The trim goroutine against the loads parked at the soft limit (`TG`)

  A fragment with just the state the defect lives in: the cache size, the two limits, whether the trim goroutine is
  parked in `trimCond.Wait()`, and how many loads are parked in `tryNotExceedMemorySoftLimitInflight` (they wait
  for an `allocCond` broadcast while the size is above the soft limit).  `sync.Cond.Signal` wakes a parked
  goroutine and is lost on a busy one — both are `asleep := false`. -/

structure TG where
  size : Int
  maxSize : Int
  soft : Int
  asleep : Bool
  parked : Nat
deriving DecidableEq, Repr

inductive TEv
  | evict (to : Int)     -- busy trim goroutine: reduceMemoryUsage evicts down to `to ≤ soft`; its info update broadcasts allocCond
  | decide               -- busy trim goroutine at the bottom of its loop: `trimCond.Wait()` or go round again
  | publish (n : Nat)    -- a load publishes `n` bytes; updateRuntimeInfoUnlocked signals trimCond when above the soft limit
  | loadStart            -- updateInflightApprox(req, 0): signal trimCond, then park while above the soft limit
deriving DecidableEq, Repr

def tgSignal (t : TG) : TG := { t with asleep := false }

def tgStep (v : SH.Gen.C23.TrimWait) (t : TG) : TEv → TG
  | .evict to =>
    if !t.asleep && decide (t.soft < t.size) && decide (to ≤ t.soft) && decide (0 ≤ to) then { t with size := to, parked := 0 } else t
  | .decide => if t.asleep then t else { t with asleep := trimSleeps v t.maxSize t.soft t.size t.size }
  | .publish n =>
    if t.maxSize != 0 && decide (t.soft < t.size + n) then tgSignal { t with size := t.size + n } else { t with size := t.size + n }
  | .loadStart =>
    if decide (0 < t.soft) && decide (t.soft < t.size) then { (tgSignal t) with parked := t.parked + 1 } else t

def tgRun (v : SH.Gen.C23.TrimWait) (t : TG) (evs : List TEv) : TG := evs.foldl (tgStep v) t

/-- nobody is left to wake anybody: the trim goroutine sleeps and loads are parked waiting for it -/
def tgDeadlock (t : TG) : Bool := t.asleep && decide (0 < t.parked)

/-- limits as `setLimits` leaves them (no hard limit ⇒ no soft limit) and the two facts the fragment maintains -/
def TGInv (t : TG) : Prop :=
  (0 < t.soft → t.maxSize ≠ 0) ∧ (0 < t.parked → 0 < t.soft ∧ t.soft < t.size) ∧
  (t.asleep = true → trimHasWork t.maxSize t.soft t.size t.size = false)

theorem tgStep_inv (t : TG) (ev : TEv) (h : TGInv t) : TGInv (tgStep SH.Gen.C23.trimWait t ev) := by
  have hv : SH.Gen.C23.trimWait = .softLimitOrEmpty := by decide +kernel
  obtain ⟨h1, h2, h3⟩ := h
  rw [hv]
  cases ev with
  | evict to =>
    simp only [tgStep]
    split
    · rename_i hc
      simp only [Bool.and_eq_true, Bool.not_eq_true', decide_eq_true_eq] at hc
      -- eviction empties `parked`; the evicting goroutine is not asleep (`hc.1.1.1`)
      refine ⟨h1, fun hp => by simp at hp, fun ha => ?_⟩
      simp only [] at ha
      rw [hc.1.1.1] at ha
      cases ha
    · exact ⟨h1, h2, h3⟩
  | decide =>
    simp only [tgStep]
    split
    · exact ⟨h1, h2, h3⟩
    · refine ⟨h1, h2, ?_⟩
      intro ha
      simp only [trimSleeps, trimHasWork, Bool.or_eq_true, beq_iff_eq, decide_eq_true_eq, Bool.and_eq_false_imp,
        Bool.and_eq_true, bne_iff_ne, ne_eq, decide_eq_false_iff_not] at ha ⊢
      omega
  | publish n =>
    simp only [tgStep]
    split
    · -- a parked load stays above the soft limit when the size grows
      refine ⟨h1, fun hp => ?_, by intro ha; simp [tgSignal] at ha⟩
      have := h2 hp
      simp only [tgSignal]
      omega
    · rename_i hc
      refine ⟨h1, fun hp => ?_, ?_⟩
      · have := h2 hp
        simp only []
        omega
      · intro _
        simp only [Bool.and_eq_true, bne_iff_ne, ne_eq, decide_eq_true_eq, not_and, Int.not_lt] at hc
        simp only [trimHasWork, Bool.and_eq_false_imp, Bool.and_eq_true, bne_iff_ne, ne_eq, decide_eq_true_eq,
          decide_eq_false_iff_not]
        -- no signal was sent, so the size is within the soft limit: no work
        intro hm
        have := hc hm.1
        omega
  | loadStart =>
    simp only [tgStep]
    split
    · rename_i hc
      simp only [Bool.and_eq_true, decide_eq_true_eq] at hc
      exact ⟨h1, fun _ => hc, by intro ha; simp [tgSignal] at ha⟩
    · exact ⟨h1, h2, h3⟩

/-- **With the code in /repo** (sleep condition read from the source) the trim goroutine never sleeps while loads are
    parked waiting for it, whatever the order of evictions, sleep decisions, publishing loads and starting loads. -/
theorem trim_no_deadlock (t : TG) (evs : List TEv) (h : TGInv t) : tgDeadlock (tgRun SH.Gen.C23.trimWait t evs) = false := by
  have hrun : TGInv (tgRun SH.Gen.C23.trimWait t evs) :=
    Place.foldl_ind _ (fun t _ => TGInv t) (fun t ev _ h => tgStep_inv t ev h) evs t h
  obtain ⟨h1, h2, h3⟩ := hrun
  cases ha : (tgRun SH.Gen.C23.trimWait t evs).asleep with
  | false => simp [tgDeadlock, ha]
  | true =>
    by_cases hp : 0 < (tgRun SH.Gen.C23.trimWait t evs).parked
    · have w := h3 ha
      have := h2 hp
      have := h1 this.1
      simp only [trimHasWork, Bool.and_eq_false_imp, Bool.and_eq_true, bne_iff_ne, ne_eq, decide_eq_true_eq,
        decide_eq_false_iff_not] at w
      omega
    · simp [tgDeadlock, hp]

/-- the interleaving observed on the real cache (limits 10/8): the trim goroutine has just evicted down to 7 and is
    still busy; a load publishes 2 bytes (signal lost), a new load signals (lost) and parks; the goroutine reaches its
    sleep decision.  Under `.hardLimit` (sleep while `size <= maxSize`) it sleeps: deadlock.  Under `.softLimitOrEmpty`, the
    condition of /repo, it goes round again. -/
def tgWitness : List TEv := [.evict 7, .publish 2, .loadStart, .decide]
def tg0 : TG := { size := 9, maxSize := 10, soft := 8, asleep := false, parked := 0 }
example : tgDeadlock (tgRun .hardLimit tg0 tgWitness) = true := by decide +kernel
example : tgDeadlock (tgRun .softLimitOrEmpty tg0 tgWitness) = false := by decide +kernel
example : TGInv tg0 := by simp [TGInv, tg0, trimHasWork]


/-! ## No orphan awaiter: message bookkeeping over whole traces (SH.Lemmas.TsCacheWait)

  For every sequence of operations (fresh request ids, well-formed shard) — including invalidations, trimming,
  eviction, reset and limit changes between the start and the end of a load — the state satisfies:
    W1  an unfinished request's `waitN` is exactly the number of messages still owed to it: one for its own load in
        flight plus one per awaiter it has registered on any chunk (attached or detached); a finished request is
        owed nothing.  `loadChunks` empties the awaiter list of every chunk it publishes and sends one message per
        awaiter (ok or error), which is exactly what keeps W1 — every awaiter gets exactly one message;
    W2  a chunk that has awaiters is in the chunk list of a load that is in flight (so that message will be sent);
    W5  the `loading` counter of an attached chunk is the number of in-flight loads covering it (a chunk can be
        loaded by two requests at once — the adopt rule);
  hence `no_request_waits_forever`: whenever no load is in flight, every request has returned. -/

open SH.TsCache.Wait in
/-- **W1 / W2 / W5** after any sequence of operations -/
theorem no_orphan_awaiter (cfg : Cfg) (wf : SH.TsCache.Place.WF cfg) (ops : List Op)
    (hf : SH.TsCache.Place.FreshIds (init cfg) ops) :
    (∀ l ∈ (run (init cfg) ops).loaders,
      (l.finished = false → (l.waitN : Int) = (if l.loadPending then 1 else 0) + awCount l.id (run (init cfg) ops).chunks ∧ l.waitN ≠ 0) ∧
      (l.finished = true → awCount l.id (run (init cfg) ops).chunks = 0 ∧ l.loadPending = false)) ∧
    (∀ cid, (getChunk (run (init cfg) ops).chunks cid).awaiters ≠ [] →
      ∃ l ∈ (run (init cfg) ops).loaders, l.loadPending = true ∧ ∃ v ∈ l.chunks, v.cid = cid) ∧
    (∀ cid, (getChunk (run (init cfg) ops).chunks cid).detached = false →
      (getChunk (run (init cfg) ops).chunks cid).loading = cover cid (run (init cfg) ops).loaders) := by
  have h := (run_B ops (init cfg) wf hf (Both_init cfg)).wait
  exact ⟨h.w1, fun cid hne => cover_pos cid _ (h.w2 cid hne), h.w5⟩

open SH.TsCache.Wait in
/-- **No request waits forever** (provided loads finish): in any reachable state in which no load is in flight,
    every request has returned. -/
theorem no_request_waits_forever (cfg : Cfg) (wf : SH.TsCache.Place.WF cfg) (ops : List Op)
    (hf : SH.TsCache.Place.FreshIds (init cfg) ops)
    (hidle : ∀ l ∈ (run (init cfg) ops).loaders, l.loadPending = false) :
    ∀ l ∈ (run (init cfg) ops).loaders, l.finished = true :=
  idle_all_finished _ (run_B ops (init cfg) wf hf (Both_init cfg)).wait hidle

/-- non-vacuity: request 2 attaches to the load of request 1 (one awaiter, `waitN = 1`, no own load); the slot is
    invalidated and the bucket evicted while the load is in flight; when the load finishes both have returned -/
def ops1 : List Op :=
  [ .get 1 1 0 false 100 102 200000000000, .get 2 1 0 false 100 101 200000000001,
    .inv [100] 200000000002, .rmBucket 1 200000000003 ]
example : SH.TsCache.Place.FreshIds (init cfg0) (ops1 ++ [.fin 1 true 1 200000000004]) := by decide +kernel
example : ((run (init cfg0) ops1).loaders.map (fun l => (l.id, l.waitN, l.loadPending, l.finished,
      SH.TsCache.Wait.awCount l.id (run (init cfg0) ops1).chunks))) =
    [(1, 1, true, false, 0), (2, 1, false, false, 1)] := by decide +kernel
example : ((run (init cfg0) (ops1 ++ [.fin 1 true 1 200000000004])).loaders.map (fun l => (l.id, l.finished, l.gotErr,
      l.data.map (fun x => x.map (·.t))))) =
    [(1, true, false, [some 100, some 101]), (2, true, false, [some 100, none])] := by decide +kernel

/-! ## A successful request has every slot of its range filled (SH.Lemmas.TsCacheFill)

  Coverage invariant over whole traces: for a request that has seen no error, every index of `[ls, le)` is filled, or
  lies in a chunk the request is loading itself, or in the range of an awaiter it registered; cached chunk data always
  has `K` filled slots; buffers are long enough for what is written into them.  With `no_orphan_awaiter` (a finished
  request has no load in flight and no awaiter left) every slot of a successful request is filled, and with
  `placement` it is the right cell.  Hypotheses (`GoodOps`, decidable): request ids are fresh and every requested
  range fits the buffer `init` allocates (`ReqFits`: `ls + lodSize ≤ chunkCount·K`, a property of `(cfg, from, to)`
  alone); `request_complete_le` replaces it by `from ≤ to` (`reqFits_of_le`: the ceiling in `chunkCount`). -/

/-- **request_complete** (C23: "returns, for each slot of the requested range, exactly the rows the storage produced
    for that slot's time"): after any sequence of good operations, every slot `i ∈ [ls, le)` of a request that returned
    without error is filled, and holds the cell of its own slot time and of the request's cache key. -/
theorem request_complete (cfg : Cfg) (wf : SH.TsCache.Place.WF cfg) (ops : List Op)
    (hg : SH.TsCache.Fill.GoodOps (init cfg) ops) :
    ∀ l ∈ (run (init cfg) ops).loaders, l.finished = true → l.gotErr = false →
      ∀ i, l.ls ≤ i → i < l.le →
        ∃ c, l.data[i]? = some (some c) ∧ c.t = l.timeStart / nsec + (i : Int) * cfg.step ∧ c.key = l.key := by
  intro l hl hf he i h1 h2
  have h := SH.TsCache.Fill.run_T ops (init cfg) wf hg (SH.TsCache.Fill.Tri_init cfg)
  obtain ⟨c, hc⟩ := SH.TsCache.Fill.complete_of _ h.fill h.both.wait l hl hf he i h1 h2
  exact ⟨c, hc, placement cfg wf ops (SH.TsCache.Fill.goodOps_fresh ops _ hg) l hl i c hc⟩

/-- the same with the hypotheses one would state: fresh ids, `from ≤ to` for every request, a shard with positive
    step and chunk size (that the range then fits the buffer is `SH.TsCache.Fill.reqFits_of_le`) -/
theorem request_complete_le (cfg : Cfg) (wf : SH.TsCache.Place.WF cfg) (hs : 0 < cfg.step) (hK : 0 < cfg.K) (ops : List Op)
    (hn : SH.TsCache.Fill.NiceOps (init cfg) ops) :
    ∀ l ∈ (run (init cfg) ops).loaders, l.finished = true → l.gotErr = false →
      ∀ i, l.ls ≤ i → i < l.le →
        ∃ c, l.data[i]? = some (some c) ∧ c.t = l.timeStart / nsec + (i : Int) * cfg.step ∧ c.key = l.key :=
  request_complete cfg wf ops (SH.TsCache.Fill.nice_good ops (init cfg) wf hs hK hn)

example : SH.TsCache.Fill.NiceOps (init cfg0) ops0 := by decide +kernel
example : (0 : Int) < cfg0.step ∧ 0 < cfg0.K := by decide +kernel

/-- non-vacuity: both example traces are good, and their finished requests have their whole range filled -/
example : SH.TsCache.Fill.GoodOps (init cfg0) ops0 := by decide +kernel
example : SH.TsCache.Fill.GoodOps (init cfg0) (ops1 ++ [.fin 1 true 1 200000000004]) := by decide +kernel
example : ((run (init cfg0) (ops1 ++ [.fin 1 true 1 200000000004])).loaders.map (fun l => (l.id, l.finished, l.gotErr,
      (slice l.data l.ls l.le).map (fun x => x.map (·.t))))) =
    [(1, true, false, [some 100, some 101]), (2, true, false, [some 100])] := by decide +kernel

/-! ## Invalidation at chunk granularity: a second that is the first second of a chunk

  `cache2.invalidate` turns the sorted batch of seconds into chunk starts; it moves on to the next chunk when
  `end <= t` (chunks are half-open `[start, end)`).  `InvCmp.lt` is the mutation `end < t`:
  a second exactly on a chunk boundary that follows a second of the previous chunk is then attributed to the
  previous chunk and its own chunk is never marked. -/

inductive InvCmp | le | lt
deriving DecidableEq, Repr

def nextChunk (v : InvCmp) (stop t : Int) : Bool :=
  match v with
  | .le => decide (stop ≤ t)
  | .lt => decide (stop < t)

def invStartsV (v : InvCmp) (cfg : Cfg) : List Int → Option Int → List Int
  | [], _ => []
  | t :: ts, none => let st := chunkStartOf cfg (t * nsec); st :: invStartsV v cfg ts (some (st + cfg.dur))
  | t :: ts, some stop =>
    if nextChunk v stop (t * nsec) then
      let st := chunkStartOf cfg (t * nsec); st :: invStartsV v cfg ts (some (st + cfg.dur))
    else invStartsV v cfg ts (some stop)

/-- the model's `invStarts` is the `<=` variant (what /repo does; the correspondence pins it) -/
theorem invStarts_is_le (cfg : Cfg) (ts : List Int) (o : Option Int) : invStartsV .le cfg ts o = invStarts cfg ts o := by
  induction ts generalizing o with
  | nil => cases o <;> rfl
  | cons t ts ih =>
    cases o with
    | none => simp only [invStartsV, invStarts, ih]
    | some stop =>
      simp only [invStartsV, invStarts, nextChunk, decide_eq_true_eq]
      split <;> simp only [ih]

/-- a second that starts a chunk (`t·nsec = end` of the chunk being processed) opens that chunk -/
theorem boundary_second_opens_chunk (cfg : Cfg) (t : Int) (ts : List Int) (stop : Int) (h : stop = t * nsec) :
    chunkStartOf cfg (t * nsec) ∈ invStarts cfg (t :: ts) (some stop) := by
  simp [invStarts, h]

/-- cfg0: chunks of 2 s. Seconds 101 (chunk [100,102)) and 102 (first second of chunk [102,104)):
    the code marks both chunks, the mutation only the first -/
example : invStartsV .le cfg0 [101, 102] none = [100000000000, 102000000000] := by decide +kernel
example : invStartsV .lt cfg0 [101, 102] none = [100000000000] := by decide +kernel

/-- on whole states: both chunks cached, invalidate [101, 102], then a request for [102, 104):
    with the code the chunk is reloaded, under the mutation it would still be marked valid -/
def opsB : List Op :=
  [ .get 1 1 0 false 100 104 200000000000, .fin 1 true 1 200000000001, .inv [101, 102] 200000000002 ]
example : ((run (init cfg0) opsB).chunks.map (fun c => (c.start / nsec, c.invAt))) =
    [(100, 200000000002), (102, 200000000002)] := by decide +kernel


/-! ## Publishing a load overwrites every slot of the chunk, empty ones included

  The storage may hold no rows for a slot at some version (`rowsOf … = 0`): in Go that slot of the loader's buffer is
  an empty slice.  `loadChunks` stores `chunk.data[i] = append(chunk.data[i][:0], chunkData[i]...)` for EVERY `i`, so a
  slot that had rows at the previous load and has none now becomes empty.  `StoreV.skipEmpty` is the mutation "skip
  slots the load returned empty": the chunk keeps the rows of the earlier load. -/

inductive StoreV | all | skipEmpty
deriving DecidableEq, Repr

/-- the slot holds no rows (never written, or written by a load that got zero rows for it) -/
def emptySlot (cfg : Cfg) : Slot → Bool
  | none => true
  | some c => rowsOf cfg c.t c.ver == 0

/-- the per-slot store loop of `loadChunks` (`old` = the chunk's row buffers, `new` = the loader's buffer) -/
def storeSlots (v : StoreV) (cfg : Cfg) : List Slot → List Slot → List Slot
  | _, [] => []
  | old, n :: ns =>
    (match v with
      | .all => n
      | .skipEmpty => if emptySlot cfg n then old.head?.getD none else n) :: storeSlots v cfg old.tail ns

theorem storeSlots_all (cfg : Cfg) (old new : List Slot) : storeSlots .all cfg old new = new := by
  induction new generalizing old with
  | nil => rfl
  | cons n ns ih => simp only [storeSlots, ih]

/-- **publish_overwrites_all_slots**: after a successful load the cached data of an attached chunk is exactly what the
    load returned for every slot — whatever the chunk held before, and also where the load returned no rows -/
theorem publish_overwrites_all_slots (cfg : Cfg) (cd : List Slot) (bytes : Int) (c : Chunk) (h : c.detached = false) :
    (publish true cd bytes c).data = some (storeSlots .all cfg (c.data.getD []) cd) ∧
    (publish true cd bytes c).data = some cd := by
  rw [storeSlots_all]
  simp [publish, h]

/-- slot time 100 (cfg0): two rows at storage version 1, none at version 2.  The code stores the empty answer of the
    reload; the mutation keeps the rows of version 1, which a later cache hit would return as fresh -/
def cellV (ver load : Nat) : Slot := some { t := 100, key := 1, ver := ver, load := load, fin := load }
example : rowsOf cfg0 100 1 = 2 ∧ rowsOf cfg0 100 2 = 0 := by decide +kernel
example : storeSlots .all cfg0 [cellV 1 1] [cellV 2 2] = [cellV 2 2] := by decide +kernel
example : storeSlots .skipEmpty cfg0 [cellV 1 1] [cellV 2 2] = [cellV 1 1] := by decide +kernel

/-! ## Waiters parked at a memory limit and `setLimits` (`TL`)

  State: cache size, limits, whether the trim goroutine sleeps, loads parked in `tryNotExceedMemorySoftLimitInflight`
  and requests parked in `tryNotExceedMemoryHardLimit`.  A broadcast of `allocCond` makes every parked waiter
  re-evaluate its loop condition.  `SetLimV.both` is `setLimits` as in /repo (signal trim if over the soft limit AND
  broadcast if there is no hard limit or the size is below it); `SetLimV.elseBroadcast` is the mutation that
  broadcasts only in the `else` of the trim branch. -/

structure TL where
  size : Int
  maxSize : Int
  soft : Int
  asleep : Bool
  parkedSoft : Nat
  parkedHard : Nat
deriving DecidableEq, Repr

inductive SetLimV | both | elseBroadcast
deriving DecidableEq, Repr

inductive LEv
  | getStart                 -- a request reaches tryNotExceedMemoryHardLimit
  | loadStart                -- a load calls updateInflightApprox(id, 0)
  | setLimits (m so : Int)
  | evict (to : Int)         -- busy trim goroutine evicts down to `to`, then updateRuntimeInfoUnlocked
  | decide                   -- busy trim goroutine decides whether to sleep
deriving DecidableEq, Repr

/-- loop condition of tryNotExceedMemorySoftLimitInflight (no inflight bytes in this fragment) -/
def softBinds (t : TL) : Bool := t.maxSize != 0 && decide (t.soft < t.size)
/-- loop condition of tryNotExceedMemoryHardLimit -/
def hardBinds (t : TL) : Bool := t.maxSize != 0 && decide (0 < t.size) && decide (t.maxSize < t.size)

def tlBroadcast (t : TL) : TL :=
  { t with parkedSoft := if softBinds t then t.parkedSoft else 0, parkedHard := if hardBinds t then t.parkedHard else 0 }

def tlSignal (t : TL) : TL := { t with asleep := false }

def tlSetLimits (v : SetLimV) (t : TL) (m so : Int) : TL :=
  let t1 := { t with maxSize := normMax m, soft := normSoft m so }
  if t.maxSize == t1.maxSize && t.soft == t1.soft then t else
  match v with
  | .both =>
    let t2 := if t1.soft < t1.size then tlSignal t1 else t1
    if t2.maxSize == 0 || decide (t2.size ≤ t2.maxSize) then tlBroadcast t2 else t2
  | .elseBroadcast =>
    if t1.soft < t1.size then tlSignal t1
    else if t1.maxSize == 0 || decide (t1.size ≤ t1.maxSize) then tlBroadcast t1 else t1

def tlStep (v : SetLimV) (t : TL) : LEv → TL
  | .getStart => if hardBinds t then { t with parkedHard := t.parkedHard + 1 } else t
  | .loadStart =>
    if decide (0 < t.soft) && decide (t.soft < t.size) then
      let t1 := tlSignal t
      if softBinds t1 then { t1 with parkedSoft := t1.parkedSoft + 1 } else t1
    else t
  | .setLimits m so => tlSetLimits v t m so
  | .evict to =>
    if !t.asleep && decide (t.soft < t.size) && decide (to ≤ t.soft) && decide (0 ≤ to) then
      let t1 := { t with size := to }
      if t1.maxSize != 0 then
        let t2 := if t1.soft < t1.size then tlSignal t1 else t1
        if decide (t2.size ≤ t2.maxSize) || decide (t2.size ≤ 0) then tlBroadcast t2 else t2
      else t1
    else t
  | .decide => if t.asleep then t else { t with asleep := trimSleeps .softLimitOrEmpty t.maxSize t.soft t.size t.size }

def tlRun (v : SetLimV) (t : TL) (evs : List LEv) : TL := evs.foldl (tlStep v) t

/-- limits as `setLimits` leaves them, and: whoever is parked, its limit still binds -/
def TLInv (t : TL) : Prop :=
  (t.maxSize = 0 → t.soft = 0) ∧ (t.maxSize ≠ 0 → 0 < t.maxSize ∧ 0 ≤ t.soft ∧ t.soft ≤ t.maxSize) ∧
  (0 < t.parkedSoft → softBinds t = true) ∧ (0 < t.parkedHard → hardBinds t = true)

theorem tlBroadcast_inv (t : TL) (h1 : t.maxSize = 0 → t.soft = 0)
    (h2 : t.maxSize ≠ 0 → 0 < t.maxSize ∧ 0 ≤ t.soft ∧ t.soft ≤ t.maxSize) : TLInv (tlBroadcast t) := by
  refine ⟨h1, h2, ?_, ?_⟩
  · intro hp
    cases hb : softBinds t with
    | true => simpa [tlBroadcast, softBinds] using hb
    | false => simp [tlBroadcast, hb] at hp
  · intro hp
    cases hb : hardBinds t with
    | true => simpa [tlBroadcast, hardBinds] using hb
    | false => simp [tlBroadcast, hb] at hp


theorem norm_limits (m so : Int) :
    (normMax m = 0 → normSoft m so = 0) ∧ (normMax m ≠ 0 → 0 < normMax m ∧ 0 ≤ normSoft m so ∧ normSoft m so ≤ normMax m) := by
  unfold normMax normSoft
  by_cases hm : m ≤ 0
  · simp [hm]
  · simp only [hm, if_false]
    refine ⟨fun h => by omega, fun _ => ?_⟩
    split
    · omega
    · rename_i h; simp only [Bool.or_eq_true, decide_eq_true_eq, not_or, Int.not_le] at h; omega

theorem tlSetLimits_inv (t : TL) (m so : Int) (h : TLInv t) : TLInv (tlSetLimits .both t m so) := by
  obtain ⟨n1, n2⟩ := norm_limits m so
  simp -zeta only [tlSetLimits]
  extract_lets t1 t2
  split
  · exact h
  · have e : t2.maxSize = normMax m ∧ t2.soft = normSoft m so ∧ t2.size = t.size ∧ t2.parkedSoft = t.parkedSoft ∧
        t2.parkedHard = t.parkedHard := by
      simp only [t2]
      split <;> exact ⟨rfl, rfl, rfl, rfl, rfl⟩
    have l1 : t2.maxSize = 0 → t2.soft = 0 := by rw [e.1, e.2.1]; exact n1
    have l2 : t2.maxSize ≠ 0 → 0 < t2.maxSize ∧ 0 ≤ t2.soft ∧ t2.soft ≤ t2.maxSize := by rw [e.1, e.2.1]; exact n2
    split
    · exact tlBroadcast_inv t2 l1 l2
    · rename_i hc
      simp only [Bool.or_eq_true, beq_iff_eq, decide_eq_true_eq, not_or, Int.not_le] at hc
      obtain ⟨_, q2, q3⟩ := l2 hc.1
      refine ⟨l1, l2, fun _ => ?_, fun _ => ?_⟩
      · simp only [softBinds, Bool.and_eq_true, bne_iff_ne, ne_eq, decide_eq_true_eq]; exact ⟨hc.1, by omega⟩
      · simp only [hardBinds, Bool.and_eq_true, bne_iff_ne, ne_eq, decide_eq_true_eq]; exact ⟨⟨hc.1, by omega⟩, hc.2⟩

theorem tlStep_inv (t : TL) (ev : LEv) (h : TLInv t) : TLInv (tlStep .both t ev) := by
  obtain ⟨h1, h2, h3, h4⟩ := h
  cases ev with
  | getStart =>
    simp only [tlStep]
    split
    · rename_i hb
      exact ⟨h1, h2, h3, fun _ => hb⟩
    · exact ⟨h1, h2, h3, h4⟩
  | loadStart =>
    simp only [tlStep]
    split
    · split
      · rename_i hb
        exact ⟨h1, h2, fun _ => hb, h4⟩
      · exact ⟨h1, h2, h3, h4⟩
    · exact ⟨h1, h2, h3, h4⟩
  | setLimits m so => exact tlSetLimits_inv t m so ⟨h1, h2, h3, h4⟩
  | evict to =>
    simp -zeta only [tlStep]
    extract_lets t1 t2
    split
    · rename_i hc
      simp only [Bool.and_eq_true, Bool.not_eq_true', decide_eq_true_eq] at hc
      split
      · rename_i hm
        obtain ⟨_, _, q3⟩ := h2 (by simpa using hm)
        have e : t2.maxSize = t.maxSize ∧ t2.soft = t.soft ∧ t2.size = to := by
          simp only [t2]
          split <;> exact ⟨rfl, rfl, rfl⟩
        have : (decide (t2.size ≤ t2.maxSize) || decide (t2.size ≤ 0)) = true := by
          simp only [Bool.or_eq_true, decide_eq_true_eq]; left; rw [e.1, e.2.2]; omega
        simp only [this, if_true]
        exact tlBroadcast_inv t2 (by rw [e.1, e.2.1]; exact h1) (by rw [e.1, e.2.1]; exact h2)
      · rename_i hm
        have hm' : t.maxSize = 0 := by simpa using hm
        refine ⟨h1, h2, fun hp => ?_, fun hp => ?_⟩
        · have := h3 hp; simp [softBinds, hm'] at this
        · have := h4 hp; simp [hardBinds, hm'] at this
    · exact ⟨h1, h2, h3, h4⟩
  | decide =>
    simp only [tlStep]
    split <;> exact ⟨h1, h2, h3, h4⟩

/-- **no_parked_waiter_without_limit** (the code as it is): after any sequence of requests, loads, limit changes,
    evictions and sleep decisions nobody is parked at a limit that does not bind any more — in particular nobody is
    parked once the limits are switched off -/
theorem no_parked_waiter_without_limit (t : TL) (evs : List LEv) (h : TLInv t) :
    (0 < (tlRun .both t evs).parkedSoft → softBinds (tlRun .both t evs) = true) ∧
    (0 < (tlRun .both t evs).parkedHard → hardBinds (tlRun .both t evs) = true) ∧
    ((tlRun .both t evs).maxSize = 0 → (tlRun .both t evs).parkedSoft = 0 ∧ (tlRun .both t evs).parkedHard = 0) := by
  have hrun : TLInv (tlRun .both t evs) :=
    Place.foldl_ind _ (fun t _ => TLInv t) (fun t ev _ h => tlStep_inv t ev h) evs t h
  obtain ⟨_, _, h3, h4⟩ := hrun
  refine ⟨h3, h4, fun hm => ⟨?_, ?_⟩⟩
  · cases hp : (tlRun .both t evs).parkedSoft with
    | zero => rfl
    | succ k => have := h3 (by omega); simp [softBinds, hm] at this
  · cases hp : (tlRun .both t evs).parkedHard with
    | zero => rfl
    | succ k => have := h4 (by omega); simp [hardBinds, hm] at this

/-- an interleaving that tells the variants apart: hard limit 5 with 9 bytes cached, a request parks on it, the limits are
    switched off before the trim goroutine has released anything, then trimming empties the cache.  With the code the waiter is released by
    `setLimits`; under the mutation nobody ever wakes it -/
def tl0 : TL := { size := 9, maxSize := 0, soft := 0, asleep := false, parkedSoft := 0, parkedHard := 0 }
def tlWitness : List LEv := [.setLimits 5 0, .getStart, .setLimits 0 0, .evict 0, .decide]
example : TLInv tl0 := by simp [TLInv, tl0]
example : (tlRun .both tl0 tlWitness).parkedHard = 0 := by decide +kernel
example : (tlRun .elseBroadcast tl0 tlWitness).parkedHard = 1 ∧ (tlRun .elseBroadcast tl0 tlWitness).maxSize = 0 := by decide +kernel


/-! ## The shard's bucket list and the invalidate iterator against eviction (`BW`, the bucket walk)

  `cache2Shard.invalidate` walks the bucket list with `shard.invalidateIter` (the shard lock is released while a bucket
  is invalidated); the trim goroutine may evict any bucket in between (`removeBucketUnlocked`).  Buckets are their
  keys; `iter` is the bucket the walk visits next.  `UnlinkV.fixIterFirst` is the code (an iterator pointing at the
  evicted bucket is moved to its successor BEFORE the bucket is unlinked), `UnlinkV.unlinkFirst` the mutation (`remove`
  first, which sets `b.next = nil`, so the iterator becomes nil). -/

/-- `bucketL.next(b)` while `b` is linked -/
def nextOf (b : Nat) : List Nat → Option Nat
  | [] => none
  | x :: xs => if x = b then xs.head? else nextOf b xs

inductive UnlinkV | fixIterFirst | unlinkFirst
deriving DecidableEq, Repr

structure BW where
  list : List Nat
  iter : Option Nat
  visited : List Nat
deriving DecidableEq, Repr

inductive WEv | next | remove (b : Nat)
deriving DecidableEq, Repr

/-- `invalidateIteratorStart`: the first bucket is visited, the iterator points at the second -/
def bwStart : List Nat → BW
  | [] => ⟨[], none, []⟩
  | b :: bs => ⟨b :: bs, bs.head?, [b]⟩

def bwStep (v : UnlinkV) (w : BW) : WEv → BW
  | .next =>
    match w.iter with
    | none => w
    | some b => { w with iter := nextOf b w.list, visited := w.visited ++ [b] }
  | .remove x =>
    match v with
    | .fixIterFirst => { w with iter := if w.iter = some x then nextOf x w.list else w.iter, list := w.list.erase x }
    | .unlinkFirst => { w with iter := if w.iter = some x then none else w.iter, list := w.list.erase x }

def bwRun (v : UnlinkV) (w : BW) (evs : List WEv) : BW := evs.foldl (bwStep v) w

theorem nextOf_split (b : Nat) (pre post : List Nat) (h : (pre ++ b :: post).Nodup) :
    nextOf b (pre ++ b :: post) = post.head? := by
  induction pre with
  | nil => simp [nextOf]
  | cons x pre ih =>
    have hn := List.nodup_cons.mp h
    have hx : x ≠ b := by
      intro e; apply hn.1; rw [e]; simp
    simp only [List.cons_append, nextOf, hx, if_false]
    exact ih hn.2

/-- invariant of a walk in progress: everything before the iterator has been visited -/
def BWInv (w : BW) : Prop :=
  w.list.Nodup ∧ ∃ pre post, w.list = pre ++ post ∧ (∀ b ∈ pre, b ∈ w.visited) ∧ w.iter = post.head?

theorem bwStart_inv (l : List Nat) (h : l.Nodup) : BWInv (bwStart l) := by
  cases l with
  | nil => exact ⟨List.nodup_nil, [], [], rfl, (fun _ hb => by cases hb), rfl⟩
  | cons b bs => exact ⟨h, [b], bs, rfl, (fun x hx => by simpa [bwStart] using hx), rfl⟩

theorem bwStep_inv (w : BW) (ev : WEv) (h : BWInv w) : BWInv (bwStep .fixIterFirst w ev) := by
  obtain ⟨hn, pre, post, hl, hv, hi⟩ := h
  cases ev with
  | next =>
    simp only [bwStep]
    cases post with
    | nil =>
      simp only [List.head?_nil] at hi
      simp only [hi]
      exact ⟨hn, pre, [], hl, hv, hi⟩
    | cons b post' =>
      simp only [List.head?_cons] at hi
      simp only [hi]
      refine ⟨hn, pre ++ [b], post', by rw [hl]; simp, ?_, ?_⟩
      · intro x hx
        simp only [List.mem_append, List.mem_singleton] at hx ⊢
        rcases hx with hx | hx
        · exact Or.inl (hv x hx)
        · exact Or.inr hx
      · simp only []
        rw [hl] at hn ⊢
        exact nextOf_split b pre post' hn
  | remove x =>
    simp only [bwStep]
    refine ⟨hn.erase x, ?_⟩
    by_cases hx : x ∈ pre
    · refine ⟨pre.erase x, post, by rw [hl, List.erase_append_left _ hx], fun b hb => hv b (List.mem_of_mem_erase hb), ?_⟩
      have hne : w.iter ≠ some x := by
        intro e
        rw [e] at hi
        cases post with
        | nil => simp at hi
        | cons y post' =>
          simp only [List.head?_cons, Option.some.injEq] at hi
          subst hi
          rw [hl] at hn
          have := (List.nodup_append.mp hn).2.2 x hx x (by simp)
          exact this rfl
      simp only [hne, if_false]
      exact hi
    · cases post with
      | nil =>
        refine ⟨pre, [], by rw [hl, List.erase_append_right _ hx]; simp, hv, ?_⟩
        simp only [List.head?_nil] at hi
        simp [hi]
      | cons y post' =>
        simp only [List.head?_cons] at hi
        by_cases hy : y = x
        · subst hy
          refine ⟨pre, post', by rw [hl, List.erase_append_right _ hx]; simp, hv, ?_⟩
          simp only [hi, if_true]
          rw [hl] at hn ⊢
          exact nextOf_split y pre post' hn
        · refine ⟨pre, y :: post'.erase x, by rw [hl, List.erase_append_right _ hx]; simp [hy], hv, ?_⟩
          have : w.iter ≠ some x := by rw [hi]; simpa using hy
          simp only [this, if_false, List.head?_cons]
          exact hi

/-- **invalidate_walk_complete**: whatever buckets are evicted while an invalidation walk is in progress, when the walk
    ends (iterator nil) every bucket that is still in the shard's list has been visited — no cached bucket is skipped -/
theorem invalidate_walk_complete (l : List Nat) (hl : l.Nodup) (evs : List WEv)
    (hend : (bwRun .fixIterFirst (bwStart l) evs).iter = none) :
    ∀ b ∈ (bwRun .fixIterFirst (bwStart l) evs).list, b ∈ (bwRun .fixIterFirst (bwStart l) evs).visited := by
  obtain ⟨_, pre, post, e, hv, hi⟩ : BWInv (bwRun .fixIterFirst (bwStart l) evs) :=
    Place.foldl_ind _ (fun w _ => BWInv w) (fun w ev _ h => bwStep_inv w ev h) evs _ (bwStart_inv l hl)
  rw [hend] at hi
  have : post = [] := by cases post with
    | nil => rfl
    | cons _ _ => simp at hi
  intro b hb
  rw [e, this, List.append_nil] at hb
  exact hv b hb

/-- three buckets; the walk has visited bucket 1 and its iterator points at bucket 2 when bucket 2 is evicted.
    The code goes on with bucket 3; under the mutation the walk ends and bucket 3 is never invalidated -/
example : (bwRun .fixIterFirst (bwStart [1, 2, 3]) [.remove 2, .next]) = ⟨[1, 3], none, [1, 3]⟩ := by decide +kernel
example : (bwRun .unlinkFirst (bwStart [1, 2, 3]) [.remove 2, .next]) = ⟨[1, 3], none, [1]⟩ := by decide +kernel


/-! ## Loads parked at the soft limit, in-flight bytes, and the three places that compare with the soft limit (`TS`)

  `eff = size + inflight` (effectiveSizeLocked).  Three sites decide "within the soft limit": the gate in
  `updateInflightApprox` (park only if `eff > soft`), the loop of `reduceMemoryUsage` / the sleep decision of `trim`
  (stop when `eff <= soft`), and the wait loop of `tryNotExceedMemorySoftLimitInflight`.  In /repo all three agree on
  `withinSoft eff soft := eff <= soft`.  `WaitCmp.ge` is the mutation of the wait loop alone (`>=`): a load woken when
  trimming landed exactly on the soft limit goes back to sleep, and so does the trimmer. -/

/-- the shared predicate: the effective size is within the soft limit -/
def withinSoft (eff soft : Int) : Bool := decide (eff ≤ soft)

inductive WaitCmp | gt | ge
deriving DecidableEq, Repr

structure TS where
  size : Int
  inflight : Int
  maxSize : Int
  soft : Int
  asleep : Bool
  parked : Nat           -- loads in tryNotExceedMemorySoftLimitInflight
deriving DecidableEq, Repr

def TS.eff (t : TS) : Int := t.size + t.inflight

/-- loop condition of tryNotExceedMemorySoftLimitInflight -/
def softWaits (v : WaitCmp) (t : TS) : Bool :=
  t.maxSize != 0 && (match v with
    | .gt => !withinSoft t.eff t.soft
    | .ge => decide (t.eff ≥ t.soft))

def tsBroadcast (v : WaitCmp) (t : TS) : TS := { t with parked := if softWaits v t then t.parked else 0 }

inductive SEv
  | loadStart              -- NewInflightReq + updateInflightApprox(id, 0)
  | addBytes (n : Nat)     -- updateInflightApprox(id, n): a running load accounts more bytes
  | loadFinish (n : Nat)   -- afterInflightLoadFinished of a load holding n bytes (removeReqLocked)
  | evict (to : Int)       -- busy trim goroutine evicts a bucket, then updateRuntimeInfoUnlocked
  | decide                 -- busy trim goroutine decides whether to sleep
deriving DecidableEq, Repr

def tsStep (v : WaitCmp) (t : TS) : SEv → TS
  | .loadStart =>
    if decide (0 < t.soft) && !withinSoft t.eff t.soft then           -- the gate
      let t1 := { t with asleep := false }                               -- trimCond.Signal
      if softWaits v t1 then { t1 with parked := t1.parked + 1 } else t1
    else t
  | .addBytes n => { t with inflight := t.inflight + n }
  | .loadFinish n =>
    if decide ((n : Int) ≤ t.inflight) then
      let t1 := { t with inflight := t.inflight - n }
      let t2 := if t1.maxSize == 0 || decide (t1.eff ≤ t1.maxSize) then tsBroadcast v t1 else t1
      if decide (0 < t2.soft) && !withinSoft t2.eff t2.soft then { t2 with asleep := false } else t2
    else t
  | .evict to =>
    if !t.asleep && t.maxSize != 0 && !withinSoft t.eff t.soft && decide (0 ≤ to) && decide (to < t.size) then
      let t1 := { t with size := to }
      let t2 := if !withinSoft t1.eff t1.soft then { t1 with asleep := false } else t1
      if decide (t2.eff ≤ t2.maxSize) || decide (t2.size ≤ 0) then tsBroadcast v t2 else t2
    else t
  | .decide =>
    if t.asleep then t else { t with asleep := t.maxSize == 0 || withinSoft t.eff t.soft || decide (t.size ≤ 0) }

def tsRun (v : WaitCmp) (t : TS) (evs : List SEv) : TS := evs.foldl (tsStep v) t

/-- limits as `setLimits` leaves them, and: a parked load is not within the soft limit -/
def TSInv (t : TS) : Prop :=
  (t.maxSize ≠ 0 → 0 ≤ t.soft ∧ t.soft ≤ t.maxSize) ∧ (0 < t.parked → t.maxSize ≠ 0 ∧ withinSoft t.eff t.soft = false)

theorem tsBroadcast_inv (t : TS) (h1 : t.maxSize ≠ 0 → 0 ≤ t.soft ∧ t.soft ≤ t.maxSize) : TSInv (tsBroadcast .gt t) := by
  refine ⟨h1, fun hp => ?_⟩
  cases hb : softWaits .gt t with
  | true =>
    simp only [softWaits, Bool.and_eq_true, bne_iff_ne, ne_eq, Bool.not_eq_true'] at hb
    exact ⟨hb.1, hb.2⟩
  | false => simp [tsBroadcast, hb] at hp

/-- no broadcast by `updateRuntimeInfoUnlocked` means above the hard limit, hence above the soft limit -/
theorem TSInv_of_over (t : TS) (h1 : t.maxSize ≠ 0 → 0 ≤ t.soft ∧ t.soft ≤ t.maxSize) (hm : t.maxSize ≠ 0)
    (ho : t.maxSize < t.eff) : TSInv t := by
  refine ⟨h1, fun _ => ⟨hm, ?_⟩⟩
  have := h1 hm
  simp only [withinSoft, decide_eq_false_iff_not, Int.not_le]
  omega

theorem tsStep_inv (t : TS) (ev : SEv) (h : TSInv t) : TSInv (tsStep .gt t ev) := by
  obtain ⟨h1, h2⟩ := h
  cases ev with
  | loadStart =>
    simp only [tsStep]
    split
    · split
      · rename_i hb
        simp only [softWaits, Bool.and_eq_true, bne_iff_ne, ne_eq, Bool.not_eq_true'] at hb
        exact ⟨h1, fun _ => ⟨hb.1, hb.2⟩⟩
      · exact ⟨h1, h2⟩
    · exact ⟨h1, h2⟩
  | addBytes n =>
    simp only [tsStep]
    refine ⟨h1, fun hp => ?_⟩
    obtain ⟨a, b⟩ := h2 hp
    refine ⟨a, ?_⟩
    have hb : ¬ (t.size + t.inflight ≤ t.soft) := of_decide_eq_false b
    exact decide_eq_false (p := t.size + (t.inflight + (n : Int)) ≤ t.soft) (by omega)
  | loadFinish n =>
    simp -zeta only [tsStep]
    extract_lets t1 t2
    split
    · have l1 : t1.maxSize ≠ 0 → 0 ≤ t1.soft ∧ t1.soft ≤ t1.maxSize := h1
      have ht2 : TSInv t2 := by
        simp only [t2]
        split
        · exact tsBroadcast_inv _ l1
        · rename_i hc
          simp only [Bool.or_eq_true, beq_iff_eq, decide_eq_true_eq, not_or, Int.not_le] at hc
          exact TSInv_of_over t1 l1 hc.1 hc.2
      split <;> exact ht2
    · exact ⟨h1, h2⟩
  | evict to =>
    simp -zeta only [tsStep]
    extract_lets t1 t2
    split
    · rename_i hc
      simp only [Bool.and_eq_true, Bool.not_eq_true', bne_iff_ne, ne_eq, decide_eq_true_eq] at hc
      have hm := hc.1.1.1.2
      have e : t2.maxSize = t.maxSize ∧ t2.soft = t.soft ∧ t2.parked = t.parked := by
        simp only [t2]
        split <;> exact ⟨rfl, rfl, rfl⟩
      have l1 : t2.maxSize ≠ 0 → 0 ≤ t2.soft ∧ t2.soft ≤ t2.maxSize := by rw [e.1, e.2.1]; exact h1
      split
      · exact tsBroadcast_inv t2 l1
      · rename_i hn
        simp only [Bool.or_eq_true, decide_eq_true_eq, not_or, Int.not_le] at hn
        exact TSInv_of_over t2 l1 (by rw [e.1]; exact hm) hn.1
    · exact ⟨h1, h2⟩
  | decide =>
    simp only [tsStep]
    split <;> exact ⟨h1, h2⟩

/-- **no_parked_waiter_within_limit** (the code as it is): whatever loads start, account bytes and finish and whatever
    the trim goroutine evicts, a load parked at the soft limit is never within the soft limit — so a broadcast after
    trimming reached the limit (also exactly) releases it -/
theorem no_parked_waiter_within_limit (t : TS) (evs : List SEv) (h : TSInv t) :
    0 < (tsRun .gt t evs).parked → withinSoft (tsRun .gt t evs).eff (tsRun .gt t evs).soft = false := by
  have hrun : TSInv (tsRun .gt t evs) :=
    Place.foldl_ind _ (fun t _ => TSInv t) (fun t ev _ h => tsStep_inv t ev h) evs t h
  exact fun hp => (hrun.2 hp).2

/-- two buckets of 5 and 4 bytes, soft limit 4, hard limit 20: a load starts (over the soft limit: parks), the trim
    goroutine evicts the 5-byte bucket — the size lands exactly on the soft limit — and decides to sleep.
    With the code the load has been released; with `>=` in the wait loop it is parked for good while the trimmer sleeps -/
def ts0 : TS := { size := 9, inflight := 0, maxSize := 20, soft := 4, asleep := false, parked := 0 }
def tsWitness : List SEv := [.loadStart, .evict 4, .decide]
example : TSInv ts0 := by simp [TSInv, ts0]
example : tsRun .gt ts0 tsWitness = { size := 4, inflight := 0, maxSize := 20, soft := 4, asleep := true, parked := 0 } := by decide +kernel
example : tsRun .ge ts0 tsWitness = { size := 4, inflight := 0, maxSize := 20, soft := 4, asleep := true, parked := 1 } := by decide +kernel


/-! ## `invalidate` marks exactly the chunks whose start is in the batch's chunk starts -/

section InvExact
open SH.TsCache.Place

theorem start_modAt_inv (now : Int) (tick i k : Nat) (cs : List Chunk) :
    (getChunk (modAt (invalidateChunk now tick) i cs) k).start = (getChunk cs k).start :=
  Each_modAt (R := fun c c' => c'.start = c.start) (fun _ => rfl) (invalidateChunk now tick) i cs rfl k

/-- the merge walk of `cache2Bucket.invalidate`: over strictly increasing chunk starts `ts` and a bucket whose chunk
    list `is` is strictly increasing by start, exactly the chunks of the bucket whose start is in `ts` are marked -/
theorem invWalkF_exact (now : Int) (tick : Nat) (fuel : Nat) (ts : List Int) (is : List Nat) (cs : List Chunk)
    (hf : ts.length + is.length ≤ fuel) (hts : ts.Pairwise (· < ·))
    (his : is.Pairwise (fun a b => (getChunk cs a).start < (getChunk cs b).start)) (hv : ∀ i ∈ is, i < cs.length) (j : Nat) :
    getChunk (invWalkF now tick fuel ts is cs) j =
      if j ∈ is ∧ (getChunk cs j).start ∈ ts then invalidateChunk now tick (getChunk cs j) else getChunk cs j := by
  fun_induction invWalkF now tick fuel ts is cs with
  | case1 ts is cs =>
    have h1 : ts = [] := List.eq_nil_of_length_eq_zero (by omega)
    simp [h1]
  | case2 => simp
  | case3 => simp
  | case4 fuel t ts i is cs st hlt ih =>
    -- t < start i: t is the start of no chunk of the bucket
    have hts' := List.pairwise_cons.mp hts
    have his' := List.pairwise_cons.mp his
    rw [ih (by simp at hf ⊢; omega) hts'.2 his hv]
    have hne : j ∈ i :: is → (getChunk cs j).start ≠ t := by
      intro hk e
      rcases List.mem_cons.mp hk with rfl | hk
      · omega
      · have := his'.1 j hk; omega
    by_cases hj : j ∈ i :: is
    · simp only [hj, true_and, List.mem_cons, hne hj, false_or]
    · simp only [hj, false_and, if_false]
  | case5 fuel t ts i is cs st hnlt hlt ih =>
    -- start i < t: chunk i is not hit by any of the remaining starts
    have hts' := List.pairwise_cons.mp hts
    have his' := List.pairwise_cons.mp his
    rw [ih (by simp at hf ⊢; omega) hts his'.2 (fun k hk => hv k (List.mem_cons_of_mem _ hk))]
    have hni : (getChunk cs i).start ∉ t :: ts := by
      intro hm
      rcases List.mem_cons.mp hm with e | hm
      · omega
      · have := hts'.1 _ hm; omega
    by_cases hj : j = i
    · subst hj
      have hnot : j ∉ is := fun hm => by have := his'.1 j hm; omega
      simp only [hnot, false_and, if_false, List.mem_cons, true_or, true_and, hni]
    · simp only [List.mem_cons, hj, false_or]
  | case6 fuel t ts i is cs st hnlt hnlt' ih =>
    -- equal: chunk i is marked
    have hts' := List.pairwise_cons.mp hts
    have his' := List.pairwise_cons.mp his
    have he : (getChunk cs i).start = t := by omega
    rw [ih (by simp at hf ⊢; omega) hts'.2 (his'.2.imp (fun hab => by rw [start_modAt_inv, start_modAt_inv]; exact hab))
      (fun k hk => by rw [length_modAt]; exact hv k (List.mem_cons_of_mem _ hk))]
    have hni : i ∉ is := fun hm => by have := his'.1 i hm; omega
    by_cases hj : j = i
    · subst hj
      have hnot : ¬ (j ∈ is ∧ (getChunk (modAt (invalidateChunk now tick) j cs) j).start ∈ ts) := fun h => hni h.1
      simp only [hnot, if_false, List.mem_cons, true_or, true_and, he]
      rw [getChunk_modAt_eq]
      simp [hv j (List.mem_cons_self ..)]
    · rw [getChunk_modAt_ne _ _ _ _ hj]
      by_cases hm : j ∈ is
      · have hst : (getChunk cs j).start ≠ t := by have := his'.1 j hm; omega
        simp only [hm, true_and, List.mem_cons, hj, false_or, hst]
      · simp only [hm, false_and, if_false, List.mem_cons, hj, false_or]


theorem sorted_bounds {l : List Int} (hs : l.Pairwise (· < ·)) {x : Int} (hx : x ∈ l) :
    ∃ lo hi, l.head? = some lo ∧ l.getLast? = some hi ∧ lo ≤ x ∧ x ≤ hi := by
  induction l generalizing x with
  | nil => cases hx
  | cons a l ih =>
    have hp := List.pairwise_cons.mp hs
    cases l with
    | nil =>
      rw [List.mem_singleton.mp hx]
      exact ⟨a, a, rfl, rfl, Int.le_refl _, Int.le_refl _⟩
    | cons b l =>
      have hab := hp.1 b (List.mem_cons_self ..)
      rcases List.mem_cons.mp hx with rfl | hx
      · obtain ⟨lo, hi, e1, e2, _, h2⟩ := ih hp.2 (List.mem_cons_self (a := b))
        simp only [List.head?_cons, Option.some.injEq] at e1
        exact ⟨x, hi, rfl, by rw [List.getLast?_cons_cons]; exact e2, Int.le_refl _, by omega⟩
      · obtain ⟨lo, hi, e1, e2, h1, h2⟩ := ih hp.2 hx
        simp only [List.head?_cons, Option.some.injEq] at e1
        exact ⟨a, hi, rfl, by rw [List.getLast?_cons_cons]; exact e2, by omega, h2⟩

/-- `cache2Bucket.invalidate` (range pre-check + merge walk) on a bucket whose chunk list is strictly increasing by
    start, for strictly increasing chunk starts `ts`: exactly the bucket's chunks whose start is in `ts` are marked,
    every other chunk of the store is untouched -/
theorem invBucket_exact (now : Int) (tick : Nat) (ts : List Int) (cs : List Chunk) (b : Bucket)
    (hts : ts.Pairwise (· < ·))
    (his : b.cids.Pairwise (fun x y => (getChunk cs x).start < (getChunk cs y).start)) (hv : ∀ i ∈ b.cids, i < cs.length)
    (j : Nat) :
    getChunk (invBucket now tick ts cs b) j =
      if j ∈ b.cids ∧ (getChunk cs j).start ∈ ts then invalidateChunk now tick (getChunk cs j) else getChunk cs j := by
  unfold invBucket
  split
  · -- the pre-check says the ranges are disjoint: then no chunk start is in `ts`
    rename_i hd
    have hno : ¬ (j ∈ b.cids ∧ (getChunk cs j).start ∈ ts) := by
      intro ⟨h1, h2⟩
      obtain ⟨th, tl, e1, e2, a1, a2⟩ := sorted_bounds hts h2
      obtain ⟨lo, hi, e3, e4, a3, a4⟩ := sorted_bounds (List.pairwise_map.mpr his)
        (List.mem_map_of_mem (f := fun i => (getChunk cs i).start) h1)
      rw [List.head?_map] at e3
      rw [List.getLast?_map] at e4
      cases hch : b.cids.head? with
      | none => rw [hch] at e3; cases e3
      | some ch =>
        cases hcl : b.cids.getLast? with
        | none => rw [hcl] at e4; cases e4
        | some cl =>
          rw [hch] at e3
          rw [hcl] at e4
          simp only [Option.map_some, Option.some.injEq] at e3 e4
          simp only [disjointRange, e1, e2, hch, hcl, Bool.or_eq_true, decide_eq_true_eq] at hd
          omega
    simp only [hno, if_false]
  · exact invWalkF_exact now tick _ ts b.cids cs (Nat.le_refl _) hts his hv j


/-- a bucket's chunk list is strictly increasing by chunk start and names chunks of the store -/
def BucketSorted (cs : List Chunk) (b : Bucket) : Prop :=
  b.cids.Pairwise (fun x y => (getChunk cs x).start < (getChunk cs y).start) ∧ ∀ i ∈ b.cids, i < cs.length

theorem invBucket_start (now : Int) (tick : Nat) (ts : List Int) (cs : List Chunk) (b : Bucket) (j : Nat) :
    (getChunk (invBucket now tick ts cs b) j).start = (getChunk cs j).start :=
  (invBucket_marked now tick ts cs b).each (R := fun c c' => c'.start = c.start) (fun _ => rfl) (fun _ => rfl) j

/-- **the walk over all buckets of the shard** (`cache2Shard.invalidate` run to its end without interference): for
    strictly increasing chunk starts `ts`, buckets with sorted chunk lists that share no chunk, a chunk is marked iff it
    belongs to some bucket and its start is in `ts`; everything else is untouched -/
theorem foldl_invBucket_exact (now : Int) (tick : Nat) (ts : List Int) (hts : ts.Pairwise (· < ·)) (bs : List Bucket)
    (cs : List Chunk) (hs : ∀ b ∈ bs, BucketSorted cs b)
    (hdis : bs.Pairwise (fun a b => ∀ i, i ∈ a.cids → i ∉ b.cids)) (j : Nat) :
    getChunk (bs.foldl (invBucket now tick ts) cs) j =
      if (∃ b ∈ bs, j ∈ b.cids) ∧ (getChunk cs j).start ∈ ts then invalidateChunk now tick (getChunk cs j) else getChunk cs j := by
  induction bs generalizing cs with
  | nil => simp
  | cons b bs ih =>
    have hb := hs b (List.mem_cons_self ..)
    have hd := List.pairwise_cons.mp hdis
    have hs1 : ∀ b' ∈ bs, BucketSorted (invBucket now tick ts cs b) b' := by
      intro b' hb'
      obtain ⟨p1, p2⟩ := hs b' (List.mem_cons_of_mem _ hb')
      refine ⟨p1.imp ?_, fun i hi => by rw [(invBucket_marked ..).1]; exact p2 i hi⟩
      intro x y hxy
      rw [invBucket_start now tick ts cs b, invBucket_start now tick ts cs b]; exact hxy
    simp only [List.foldl_cons]
    rw [ih _ hs1 hd.2, invBucket_start now tick ts cs b, invBucket_exact now tick ts cs b hts hb.1 hb.2 j]
    by_cases h1 : j ∈ b.cids
    · have hno : ¬ ∃ b' ∈ bs, j ∈ b'.cids := by
        intro ⟨b', hb', hj⟩; exact hd.1 b' hb' j h1 hj
      by_cases h2 : (getChunk cs j).start ∈ ts
      · have : (∃ b' ∈ b :: bs, j ∈ b'.cids) := ⟨b, List.mem_cons_self .., h1⟩
        simp only [hno, false_and, if_false, h1, h2, and_self, if_true, this]
      · simp only [h2, and_false, if_false]
    · have hiff : (∃ b' ∈ b :: bs, j ∈ b'.cids) ↔ (∃ b' ∈ bs, j ∈ b'.cids) := by
        constructor
        · intro ⟨b', hb', hj⟩
          simp only [List.mem_cons] at hb'
          rcases hb' with rfl | hb'
          · exact absurd hj h1
          · exact ⟨b', hb', hj⟩
        · intro ⟨b', hb', hj⟩; exact ⟨b', List.mem_cons_of_mem _ hb', hj⟩
      simp only [h1, false_and, if_false, hiff]


/-- **invalidate_marks_exactly_partial**: `cache2.invalidate` of a batch of seconds marks exactly the cached chunks whose
    start is one of the chunk starts computed from the batch — every such chunk of every bucket, and no other chunk.
    Proved for the model under hypotheses on the state: the chunk starts of the batch are strictly increasing, every
    bucket's chunk list is strictly increasing by start, buckets share no chunk.
    For reachable states and sorted batches see `invalidate_marks_exactly_reachable_partial` below. -/
theorem invalidate_marks_exactly_partial (s : St) (secs : List Int) (now : Int)
    (hts : (invStarts s.cfg secs none).Pairwise (· < ·)) (hs : ∀ b ∈ s.buckets, BucketSorted s.chunks b)
    (hdis : s.buckets.Pairwise (fun a b => ∀ i, i ∈ a.cids → i ∉ b.cids)) (j : Nat) :
    getChunk (opInv s secs now).chunks j =
      if (∃ b ∈ s.buckets, j ∈ b.cids) ∧ (getChunk s.chunks j).start ∈ invStarts s.cfg secs none
      then invalidateChunk now s.tick (getChunk s.chunks j) else getChunk s.chunks j :=
  foldl_invBucket_exact now s.tick _ hts s.buckets s.chunks hs hdis j

/-- non-vacuity: the hypotheses hold in the example state (two chunks of one bucket, batch [101, 102]) -/
example : (invStarts cfg0 [101, 102] none).Pairwise (· < ·) := by decide +kernel
example : ∀ b ∈ (run (init cfg0) [.get 1 1 0 false 100 104 200000000000, .fin 1 true 1 200000000001]).buckets,
    BucketSorted (run (init cfg0) [.get 1 1 0 false 100 104 200000000000, .fin 1 true 1 200000000001]).chunks b := by
  unfold BucketSorted; decide

end InvExact

/-! ## `invStarts` of a sorted batch, and the invalidate clause on reachable states -/

/-- `invStarts` from the state "current chunk ends at `m·dur`": its output is strictly increasing, lies at or after `m·dur` and
    consists of chunk starts of the batch, and every second's chunk is the current one or in the output.  `hge` (no remaining
    second lies before the current chunk) is the loop invariant that makes the "same chunk" branch go through. -/
theorem invStarts_some_spec (cfg : Cfg) (hd : 0 < cfg.dur) (ts : List Int) (m : Int)
    (hs : ts.Pairwise (· ≤ ·)) (hge : ∀ t ∈ ts, m * cfg.dur - cfg.dur ≤ t * nsec) :
    (invStarts cfg ts (some (m * cfg.dur))).Pairwise (· < ·) ∧
    (∀ x ∈ invStarts cfg ts (some (m * cfg.dur)), m * cfg.dur ≤ x ∧ ∃ t ∈ ts, x = chunkStartOf cfg (t * nsec)) ∧
    (∀ t ∈ ts, chunkStartOf cfg (t * nsec) = m * cfg.dur - cfg.dur ∨
      chunkStartOf cfg (t * nsec) ∈ invStarts cfg ts (some (m * cfg.dur))) := by
  induction ts generalizing m with
  | nil => simp [invStarts]
  | cons t ts ih =>
    have hp := List.pairwise_cons.mp hs
    simp only [invStarts]
    split
    · -- next chunk
      rename_i hle
      have hq : chunkStartOf cfg (t * nsec) + cfg.dur = (t * nsec / cfg.dur + 1) * cfg.dur := by
        unfold chunkStartOf; rw [Int.add_mul, Int.one_mul]
      have hst : m * cfg.dur ≤ chunkStartOf cfg (t * nsec) := Place.cso_aligned_ge cfg hd _ m hle
      have hge' : ∀ u ∈ ts, (t * nsec / cfg.dur + 1) * cfg.dur - cfg.dur ≤ u * nsec := by
        intro u hu
        have h1 := hp.1 u hu
        have h2 := Place.cso_le cfg hd (t * nsec)
        have h3 : t * nsec ≤ u * nsec := Int.mul_le_mul_of_nonneg_right h1 (by decide)
        rw [← hq]; omega
      obtain ⟨r1, r2, r3⟩ := ih (t * nsec / cfg.dur + 1) hp.2 hge'
      rw [← hq] at r1 r2 r3
      refine ⟨List.pairwise_cons.mpr ⟨fun x hx => by have := (r2 x hx).1; omega, r1⟩, ?_, ?_⟩
      · intro x hx
        simp only [List.mem_cons] at hx
        rcases hx with rfl | hx
        · exact ⟨hst, t, List.mem_cons_self .., rfl⟩
        · obtain ⟨a, u, hu, e⟩ := r2 x hx
          exact ⟨by omega, u, List.mem_cons_of_mem _ hu, e⟩
      · intro u hu
        simp only [List.mem_cons] at hu
        rcases hu with rfl | hu
        · right; exact List.mem_cons_self ..
        · rcases r3 u hu with e | e
          · right; rw [e]; simp
          · right; exact List.mem_cons_of_mem _ e
    · -- same chunk
      rename_i hnle
      have hcur : chunkStartOf cfg (t * nsec) = m * cfg.dur - cfg.dur := by
        have := Place.cso_unique cfg hd (t * nsec) (m - 1) (by rw [Int.sub_mul, Int.one_mul]; exact hge t (List.mem_cons_self ..))
          (by rw [Int.sub_mul, Int.one_mul]; omega)
        rw [this, Int.sub_mul, Int.one_mul]
      obtain ⟨r1, r2, r3⟩ := ih m hp.2 (fun u hu => hge u (List.mem_cons_of_mem _ hu))
      refine ⟨r1, ?_, ?_⟩
      · intro x hx
        obtain ⟨a, u, hu, e⟩ := r2 x hx
        exact ⟨a, u, List.mem_cons_of_mem _ hu, e⟩
      · intro u hu
        simp only [List.mem_cons] at hu
        rcases hu with rfl | hu
        · exact Or.inl hcur
        · exact r3 u hu

/-- **invStarts_spec**: for a sorted batch of seconds the chunk starts handed to the shard are strictly increasing and
    are exactly the chunk starts of the seconds of the batch -/
theorem invStarts_spec (cfg : Cfg) (hd : 0 < cfg.dur) (secs : List Int) (hs : secs.Pairwise (· ≤ ·)) :
    (invStarts cfg secs none).Pairwise (· < ·) ∧
    ∀ x, x ∈ invStarts cfg secs none ↔ ∃ t ∈ secs, x = chunkStartOf cfg (t * nsec) := by
  cases secs with
  | nil => simp [invStarts]
  | cons t ts =>
    -- the first second opens its chunk: the same as being in the state "current chunk ends at its start"
    have hle : t * nsec / cfg.dur * cfg.dur ≤ t * nsec := Place.cso_le cfg hd (t * nsec)
    have hmono : ∀ u ∈ t :: ts, t * nsec ≤ u * nsec := by
      intro u hu
      rcases List.mem_cons.mp hu with rfl | hu
      · exact Int.le_refl _
      · exact Int.mul_le_mul_of_nonneg_right ((List.pairwise_cons.mp hs).1 u hu) (by decide)
    have e : invStarts cfg (t :: ts) none = invStarts cfg (t :: ts) (some (t * nsec / cfg.dur * cfg.dur)) := by
      simp only [invStarts, if_pos hle]
    obtain ⟨r1, r2, r3⟩ := invStarts_some_spec cfg hd (t :: ts) (t * nsec / cfg.dur) hs
      (fun u hu => by have := hmono u hu; omega)
    rw [e]
    refine ⟨r1, fun x => ⟨fun hx => (r2 x hx).2, ?_⟩⟩
    rintro ⟨u, hu, rfl⟩
    rcases r3 u hu with h | h
    · have := Place.cso_aligned_ge cfg hd (u * nsec) (t * nsec / cfg.dur) (Int.le_trans hle (hmono u hu))
      omega
    · exact h


section InvExact2
open SH.TsCache.Place SH.TsCache.Wait SH.TsCache.Fill

/-- buckets of a reachable state share no chunk (bucket keys are unique, a chunk carries its bucket's key) -/
theorem buckets_disjoint (s : St) (hp : PInv s) (hw : WInv s) :
    s.buckets.Pairwise (fun a b => ∀ i, i ∈ a.cids → i ∉ b.cids) := by
  exact (List.pairwise_map.mp hw.bkeys).imp_of_mem fun ha hb hne _ hia hib =>
    hne ((hp.bucket ha hia).2.symm.trans (hp.bucket hb hib).2)

/-- **invalidate_marks_exactly_reachable_partial** (for every reachable state and every sorted batch of seconds): a chunk of a
    bucket is marked by `invalidate` iff one of the seconds lies in its half-open interval `[start, start + dur)`, and it
    is otherwise untouched — PROVIDED the bucket chunk lists of that state are sorted by start and aligned to the chunk
    grid.  Discharged here: the batch's chunk starts are strictly increasing and are exactly the chunk starts of the
    seconds (`invStarts_spec`, uniqueness of `t / dur`), buckets are disjoint (`buckets_disjoint`, a trace invariant).
    STILL A HYPOTHESIS (not proved as a trace invariant): `BucketSorted` and grid alignment of the chunk starts through
    `insertCid`, eviction and reset — with it the theorem would be `invalidate_marks_exactly` for all op lists. -/
theorem invalidate_marks_exactly_reachable_partial (cfg : Cfg) (wf : WF cfg) (hd : 0 < cfg.dur) (ops : List Op)
    (hg : GoodOps (init cfg) ops) (secs : List Int) (hsecs : secs.Pairwise (· ≤ ·)) (now : Int)
    (hs : ∀ b ∈ (run (init cfg) ops).buckets, BucketSorted (run (init cfg) ops).chunks b)
    (hal : ∀ b ∈ (run (init cfg) ops).buckets, ∀ i ∈ b.cids, ∃ k : Int, (getChunk (run (init cfg) ops).chunks i).start = k * cfg.dur)
    (j : Nat) (hj : ∃ b ∈ (run (init cfg) ops).buckets, j ∈ b.cids) :
    getChunk (opInv (run (init cfg) ops) secs now).chunks j =
      if ∃ sec ∈ secs, (getChunk (run (init cfg) ops).chunks j).start ≤ sec * nsec ∧
          sec * nsec < (getChunk (run (init cfg) ops).chunks j).start + cfg.dur
      then invalidateChunk now (run (init cfg) ops).tick (getChunk (run (init cfg) ops).chunks j)
      else getChunk (run (init cfg) ops).chunks j := by
  have hT := run_T ops (init cfg) wf hg (Tri_init cfg)
  have hc : (run (init cfg) ops).cfg = cfg := run_cfg ops _
  obtain ⟨hsorted, hmem⟩ := invStarts_spec (run (init cfg) ops).cfg (by rw [hc]; exact hd) secs hsecs
  rw [invalidate_marks_exactly_partial _ secs now hsorted hs (buckets_disjoint _ hT.both.place hT.both.wait) j]
  obtain ⟨b, hb, hjb⟩ := hj
  obtain ⟨k, hk⟩ := hal b hb j hjb
  have hiff : ((∃ b ∈ (run (init cfg) ops).buckets, j ∈ b.cids) ∧
      (getChunk (run (init cfg) ops).chunks j).start ∈ invStarts (run (init cfg) ops).cfg secs none) ↔
      ∃ sec ∈ secs, (getChunk (run (init cfg) ops).chunks j).start ≤ sec * nsec ∧
          sec * nsec < (getChunk (run (init cfg) ops).chunks j).start + cfg.dur := by
    rw [hmem, hc]
    constructor
    · intro ⟨_, sec, hsec, e⟩
      exact ⟨sec, hsec, by rw [e]; exact Place.cso_le cfg hd _, by rw [e]; exact Place.cso_lt cfg hd _⟩
    · intro ⟨sec, hsec, h1, h2⟩
      refine ⟨⟨b, hb, hjb⟩, sec, hsec, ?_⟩
      rw [hk] at h1 h2 ⊢
      exact (Place.cso_unique cfg hd _ k h1 h2).symm
  by_cases h : ∃ sec ∈ secs, (getChunk (run (init cfg) ops).chunks j).start ≤ sec * nsec ∧
      sec * nsec < (getChunk (run (init cfg) ops).chunks j).start + cfg.dur
  · rw [if_pos (hiff.mpr h), if_pos h]
  · rw [if_neg (fun x => h (hiff.mp x)), if_neg h]

end InvExact2


end SH.Props.C23
