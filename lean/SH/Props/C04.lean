/-
  C04 — Aggregation results do not depend on merge order or grouping.

  "Merging the same multiset of contributions in any order and any grouping yields the same count, min, max and
   unique-value estimate, and the same sum and sum-of-squares up to floating-point rounding (exactly when all inputs are
   integers of moderate size). The reported min (max) host is always a host that contributed the min (max) value, and the
   max-count host is always one of the contributing hosts."
  Quantifier: all multisets of counter/value/unique contributions with host tags, all permutations and all binary merge
  trees, including unique sets large enough to trigger sketch thinning.

  Models: SH.Model.Agg (ItemValue/ItemCounter.Merge, AddValueCounterHost, tsValues.merge), SH.Model.Unique (ChUnique as a set),
  SH.Model.UniqueTable (ChUnique as the open-addressing table).
  Part 1: values and hosts, every binary merge tree with every stream of random draws (`Tree`).
  Part 2: API rows (`TsTree`).
  Part 3: the unique sketch: every program of inserts and merges ends in the canonical state of the set of inserted
          hashes, for any parameters with `PWF` (the limit is a power of two); `decide` witnesses on a toy instance show that the code before
          the fix (`MergeV.rhsGood`, `ReadV.stale`, `SdV.exact`) does not.
  Part 4: the concrete open-addressing table refines the set model of Part 3, one insertHash step.
  Part 5: MultiValue.ApplyUnique (event-level entry) is a Merge with one contribution plus a stream of inserts.
  Part 6: rehash/resize restore well-formedness; the real table realises the canonical sketch (insert programs).
  Part 7: the same for every program (inserts, Merge, MarshallAppend+MergeRead) and order/grouping independence at table level.
  Part 8: the agent-side apply glue (ApplyValues/ApplyValuesLegacy = Merge with one contribution) and API rows with any
          subset of selected columns.
  Part 9: the second pass of rehash is necessary.
  Arithmetic is exact (`Int`): this is the "integers of moderate size" clause; floating-point rounding is not decided.
-/
import SH.Model.Agg
import SH.Gen.C04
import SH.Lemmas.UniqueTrie
import SH.Lemmas.UniqueSketch
import SH.Lemmas.UniqueTable
import SH.Lemmas.UniqueTableWF
import SH.Lemmas.Lists
namespace SH.C04
open SH.Agg

/-- the size constants regenerated from /repo equal the fields of `Unique.real` (the toy instances and the general
    theorems do not use them; `Gen.C04.bitsForSkip` is not tied to `UTable.place` here) -/
theorem gen_params_match : SH.Gen.C04.maxSizeDegree = Unique.real.maxDeg ∧ SH.Gen.C04.initSizeDegree = Unique.real.initDeg ∧
    SH.Gen.C04.maxSize = Unique.limit Unique.real := by decide

/-! ## Part 1 — ItemValue / ItemCounter -/

/-- a merge program: any binary tree over contributions; every inner node carries the random draw it may consume -/
inductive Tree where
  | leaf (v : Value)
  | node (d : Nat) (l r : Tree)

def eval : Tree → Value
  | .leaf v => v
  | .node d l r => merge d (eval l) (eval r)

def leaves : Tree → List Value
  | .leaf v => [v]
  | .node _ l r => leaves l ++ leaves r

/-- a contribution: non-negative counter; an item without values carries zero sums -/
def Wf (v : Value) : Prop := 0 ≤ v.cnt ∧ (v.set = false → v.sum = 0 ∧ v.sumsq = 0)

theorem mergeCounter_vals (d : Nat) (s : Value) (c : Int) (h : Host) :
    (mergeCounter d s c h).vmin = s.vmin ∧ (mergeCounter d s c h).vmax = s.vmax ∧
    (mergeCounter d s c h).sum = s.sum ∧ (mergeCounter d s c h).sumsq = s.sumsq ∧
    (mergeCounter d s c h).minHost = s.minHost ∧ (mergeCounter d s c h).maxHost = s.maxHost ∧
    (mergeCounter d s c h).set = s.set := by
  simp only [mergeCounter, apply_ite Value.vmin, apply_ite Value.vmax, apply_ite Value.sum, apply_ite Value.sumsq,
    apply_ite Value.minHost, apply_ite Value.maxHost, apply_ite Value.set, ite_self, and_self]

theorem mergeCounter_cnt (d : Nat) (s : Value) (c : Int) (h : Host) (hs : 0 ≤ s.cnt) (hc : 0 ≤ c) :
    (mergeCounter d s c h).cnt = s.cnt + c := by
  simp only [mergeCounter, apply_ite Value.cnt, ite_self]
  split
  · omega
  · split <;> omega

theorem takesMin_iff (s : Value) (v : Int) : takesMin s v = true ↔ (s.set = true → v < s.vmin) := by
  cases h : s.set <;> simp [takesMin, h]

theorem takesMax_iff (s : Value) (v : Int) : takesMax s v = true ↔ (s.set = true → s.vmax < v) := by
  cases h : s.set <;> simp [takesMax, h]

/-- ItemValue.Merge field by field: the counter part is `mergeCounter`; an operand that carries values adds its sums and
    replaces min / max (with their hosts) when `takesMin` / `takesMax` say so -/
theorem merge_eq (d : Nat) (s o : Value) :
    merge d s o = if o.set = true then
      { mergeCounter d s o.cnt o.chost with
        sum := s.sum + o.sum, sumsq := s.sumsq + o.sumsq,
        vmin := if takesMin s o.vmin = true then o.vmin else s.vmin,
        minHost := if takesMin s o.vmin = true then o.minHost else s.minHost,
        vmax := if takesMax s o.vmax = true then o.vmax else s.vmax,
        maxHost := if takesMax s o.vmax = true then o.maxHost else s.maxHost,
        set := true }
    else mergeCounter d s o.cnt o.chost := by
  have hv := mergeCounter_vals d s o.cnt o.chost
  unfold merge mergeValuePart setMin setMax takesMin takesMax
  rw [hv.1, hv.2.1, hv.2.2.1, hv.2.2.2.1, hv.2.2.2.2.1, hv.2.2.2.2.2.1, hv.2.2.2.2.2.2]
  cases o.set
  · rfl
  · simp only [Bool.not_true, Bool.false_eq_true, if_false, if_true]
    split <;> split <;> rfl

theorem merge_counter (d : Nat) (s o : Value) :
    (merge d s o).cnt = (mergeCounter d s o.cnt o.chost).cnt ∧ (merge d s o).chost = (mergeCounter d s o.cnt o.chost).chost := by
  rw [merge_eq]
  split <;> exact ⟨rfl, rfl⟩

theorem merge_cnt (d : Nat) (s o : Value) (hs : 0 ≤ s.cnt) (ho : 0 ≤ o.cnt) : (merge d s o).cnt = s.cnt + o.cnt := by
  rw [(merge_counter d s o).1, mergeCounter_cnt d s o.cnt o.chost hs ho]

theorem merge_set (d : Nat) (s o : Value) : (merge d s o).set = (s.set || o.set) := by
  rw [merge_eq]
  by_cases ho : o.set = true
  · rw [if_pos ho, ho, Bool.or_true]
  · rw [if_neg ho, (Bool.not_eq_true _).mp ho, Bool.or_false]
    exact (mergeCounter_vals d s o.cnt o.chost).2.2.2.2.2.2

theorem merge_sum (d : Nat) (s o : Value) (ho : o.set = false → o.sum = 0 ∧ o.sumsq = 0) :
    (merge d s o).sum = s.sum + o.sum ∧ (merge d s o).sumsq = s.sumsq + o.sumsq := by
  rw [merge_eq]
  by_cases h : o.set = true
  · rw [if_pos h]
    exact ⟨rfl, rfl⟩
  · obtain ⟨a, b⟩ := ho ((Bool.not_eq_true _).mp h)
    have hv := mergeCounter_vals d s o.cnt o.chost
    rw [if_neg h, a, b, Int.add_zero, Int.add_zero]
    exact ⟨hv.2.2.1, hv.2.2.2.1⟩

theorem merge_wf (d : Nat) (s o : Value) (hs : Wf s) (ho : Wf o) : Wf (merge d s o) := by
  refine ⟨?_, ?_⟩
  · rw [merge_cnt d s o hs.1 ho.1]; have := hs.1; have := ho.1; omega
  · intro h
    rw [merge_set] at h
    simp at h
    have h1 := hs.2 h.1
    have h2 := ho.2 h.2
    have := merge_sum d s o ho.2
    rw [this.1, this.2, h1.1, h1.2, h2.1, h2.2]
    simp

def cntSum (ls : List Value) : Int := (ls.map (·.cnt)).sum
def sumSum (ls : List Value) : Int := (ls.map (·.sum)).sum
def sqSum (ls : List Value) : Int := (ls.map (·.sumsq)).sum

theorem eval_sums (t : Tree) (hw : ∀ l ∈ leaves t, Wf l) :
    Wf (eval t) ∧ (eval t).cnt = cntSum (leaves t) ∧ (eval t).sum = sumSum (leaves t) ∧
    (eval t).sumsq = sqSum (leaves t) := by
  induction t with
  | leaf v =>
    simp [eval, leaves, cntSum, sumSum, sqSum]
    exact hw v (by simp [leaves])
  | node d l r ihl ihr =>
    have hl := ihl (fun x hx => hw x (by simp [leaves, hx]))
    have hr := ihr (fun x hx => hw x (by simp [leaves, hx]))
    obtain ⟨wl, cl, sl, ql⟩ := hl
    obtain ⟨wr, cr, sr, qr⟩ := hr
    refine ⟨merge_wf d _ _ wl wr, ?_, ?_, ?_⟩
    · simp only [eval, leaves]; rw [merge_cnt d _ _ wl.1 wr.1, cl, cr]; simp [cntSum]
    · simp only [eval, leaves]; rw [(merge_sum d _ _ wr.2).1, sl, sr]; simp [sumSum]
    · simp only [eval, leaves]; rw [(merge_sum d _ _ wr.2).2, ql, qr]; simp [sqSum]

theorem merge_min (d : Nat) (s o : Value) :
    (o.set = false ∧ (merge d s o).vmin = s.vmin ∧ (merge d s o).minHost = s.minHost) ∨
    (o.set = true ∧ s.set = true ∧ s.vmin ≤ o.vmin ∧ (merge d s o).vmin = s.vmin ∧ (merge d s o).minHost = s.minHost) ∨
    (o.set = true ∧ (s.set = true → o.vmin < s.vmin) ∧ (merge d s o).vmin = o.vmin ∧ (merge d s o).minHost = o.minHost) := by
  have hv := mergeCounter_vals d s o.cnt o.chost
  rw [merge_eq]
  by_cases ho : o.set = true
  · rw [if_pos ho]
    by_cases hm : takesMin s o.vmin = true
    · exact Or.inr (Or.inr ⟨ho, (takesMin_iff s o.vmin).mp hm, if_pos hm, if_pos hm⟩)
    · have hn : s.set = true ∧ s.vmin ≤ o.vmin := by
        simpa [takesMin_iff] using hm
      exact Or.inr (Or.inl ⟨ho, hn.1, hn.2, if_neg hm, if_neg hm⟩)
  · rw [if_neg ho]
    exact Or.inl ⟨(Bool.not_eq_true _).mp ho, hv.1, hv.2.2.2.2.1⟩

theorem merge_max (d : Nat) (s o : Value) :
    (o.set = false ∧ (merge d s o).vmax = s.vmax ∧ (merge d s o).maxHost = s.maxHost) ∨
    (o.set = true ∧ s.set = true ∧ o.vmax ≤ s.vmax ∧ (merge d s o).vmax = s.vmax ∧ (merge d s o).maxHost = s.maxHost) ∨
    (o.set = true ∧ (s.set = true → s.vmax < o.vmax) ∧ (merge d s o).vmax = o.vmax ∧ (merge d s o).maxHost = o.maxHost) := by
  have hv := mergeCounter_vals d s o.cnt o.chost
  rw [merge_eq]
  by_cases ho : o.set = true
  · rw [if_pos ho]
    by_cases hm : takesMax s o.vmax = true
    · exact Or.inr (Or.inr ⟨ho, (takesMax_iff s o.vmax).mp hm, if_pos hm, if_pos hm⟩)
    · have hn : s.set = true ∧ o.vmax ≤ s.vmax := by
        simpa [takesMax_iff] using hm
      exact Or.inr (Or.inl ⟨ho, hn.1, hn.2, if_neg hm, if_neg hm⟩)
  · rw [if_neg ho]
    exact Or.inl ⟨(Bool.not_eq_true _).mp ho, hv.2.1, hv.2.2.2.2.2.1⟩

theorem eval_set (t : Tree) : (eval t).set = (leaves t).any (·.set) := by
  induction t with
  | leaf v => simp [eval, leaves]
  | node d l r ihl ihr => simp [eval, leaves, merge_set, ihl, ihr]

/-- An extreme `val` of a merge tree and its host `hst`, given what one merge step does to them (`merge_min`;
    for the maximum `β` is ordered dually): the least `val` over the leaves that carry values, with the host of a leaf
    attaining it. -/
theorem eval_pick {β : Type} [LinearOrder β] (val : Value → β) (hst : Value → Host)
    (hstep : ∀ d s o, (o.set = false ∧ val (merge d s o) = val s ∧ hst (merge d s o) = hst s) ∨
      (o.set = true ∧ s.set = true ∧ val s ≤ val o ∧ val (merge d s o) = val s ∧ hst (merge d s o) = hst s) ∨
      (o.set = true ∧ (s.set = true → val o < val s) ∧ val (merge d s o) = val o ∧ hst (merge d s o) = hst o))
    (t : Tree) (hs : (eval t).set = true) :
    (∀ l ∈ leaves t, l.set = true → val (eval t) ≤ val l) ∧
    ∃ l ∈ leaves t, l.set = true ∧ val l = val (eval t) ∧ hst l = hst (eval t) := by
  induction t with
  | leaf v =>
    exact ⟨fun l hl _ => by rw [List.mem_singleton.mp hl]; exact le_refl _, v, List.mem_singleton_self v, hs, rfl, rfl⟩
  | node d l r ihl ihr =>
    have hset : (eval (.node d l r)).set = ((eval l).set || (eval r).set) := merge_set d _ _
    have hany : ∀ (u : Tree), ∀ x ∈ leaves u, x.set = true → (eval u).set = true :=
      fun u x hx hxs => (eval_set u).trans (List.any_eq_true.mpr ⟨x, hx, hxs⟩)
    simp only [eval, leaves, List.mem_append] at hs hset ⊢
    rcases hstep d (eval l) (eval r) with ⟨ho, e1, e2⟩ | ⟨ho, hsl, hle, e1, e2⟩ | ⟨ho, hlt, e1, e2⟩
    · -- the operand carries no values
      rw [hset, ho, Bool.or_false] at hs
      obtain ⟨a, l0, hl0, b⟩ := ihl hs
      rw [e1, e2]
      exact ⟨fun x hx hxs => hx.elim (fun h => a x h hxs) (fun h => absurd (hany r x h hxs) (by rw [ho]; decide)),
        l0, Or.inl hl0, b⟩
    · obtain ⟨a, l0, hl0, b⟩ := ihl hsl
      rw [e1, e2]
      exact ⟨fun x hx hxs => hx.elim (fun h => a x h hxs) (fun h => le_trans hle ((ihr ho).1 x h hxs)), l0, Or.inl hl0, b⟩
    · obtain ⟨a', l0, hl0, b⟩ := ihr ho
      rw [e1, e2]
      refine ⟨fun x hx hxs => hx.elim (fun h => ?_) (fun h => a' x h hxs), l0, Or.inr hl0, b⟩
      have hl := hany l x h hxs
      exact le_trans (le_of_lt (hlt hl)) ((ihl hl).1 x h hxs)

theorem eval_pick_perm {β : Type} [LinearOrder β] (val : Value → β) (hst : Value → Host)
    (hstep : ∀ d s o, (o.set = false ∧ val (merge d s o) = val s ∧ hst (merge d s o) = hst s) ∨
      (o.set = true ∧ s.set = true ∧ val s ≤ val o ∧ val (merge d s o) = val s ∧ hst (merge d s o) = hst s) ∨
      (o.set = true ∧ (s.set = true → val o < val s) ∧ val (merge d s o) = val o ∧ hst (merge d s o) = hst o))
    (t u : Tree) (hp : (leaves t).Perm (leaves u)) (ht : (eval t).set = true) (hu : (eval u).set = true) :
    val (eval t) = val (eval u) := by
  obtain ⟨l1, x, hx, sx, ex, _⟩ := eval_pick val hst hstep t ht
  obtain ⟨l2, y, hy, sy, ey, _⟩ := eval_pick val hst hstep u hu
  exact le_antisymm (ey ▸ l1 y (hp.mem_iff.mpr hy) sy) (ex ▸ l2 x (hp.mem_iff.mp hx) sx)

theorem mergeCounter_host (d : Nat) (s : Value) (c : Int) (h : Host) :
    ((mergeCounter d s c h).chost = s.chost ∧ (mergeCounter d s c h).cnt = s.cnt ∧ c ≤ 0) ∨
    ((mergeCounter d s c h).chost = s.chost ∧ 0 < s.cnt ∧ 0 < c) ∨
    ((mergeCounter d s c h).chost = h ∧ 0 < c) := by
  unfold mergeCounter
  by_cases hc : c ≤ 0
  · rw [if_pos hc]
    exact Or.inl ⟨rfl, rfl, hc⟩
  · rw [if_neg hc]
    by_cases hs : s.cnt ≤ 0
    · rw [if_pos hs]
      exact Or.inr (Or.inr ⟨rfl, by omega⟩)
    · rw [if_neg hs]
      simp only [apply_ite Value.chost]
      split
      · exact Or.inr (Or.inl ⟨rfl, by omega, by omega⟩)
      · split
        · exact Or.inr (Or.inr ⟨rfl, by omega⟩)
        · exact Or.inr (Or.inl ⟨rfl, by omega, by omega⟩)

/-- C04, values: "Merging the same multiset of contributions in any order and any grouping yields the same count, min, max
    … and the same sum and sum-of-squares (exactly when all inputs are integers of moderate size)".
    Any two merge trees (any shapes, any random draws) whose leaves are the same multiset agree. -/
theorem value_order_independent (t u : Tree) (hp : (leaves t).Perm (leaves u)) (hw : ∀ l ∈ leaves t, Wf l) :
    (eval t).cnt = (eval u).cnt ∧ (eval t).sum = (eval u).sum ∧ (eval t).sumsq = (eval u).sumsq ∧
    (eval t).set = (eval u).set ∧
    ((eval t).set = true → (eval t).vmin = (eval u).vmin ∧ (eval t).vmax = (eval u).vmax) := by
  have hw' : ∀ l ∈ leaves u, Wf l := fun l hl => hw l (hp.mem_iff.mpr hl)
  obtain ⟨_, c1, s1, q1⟩ := eval_sums t hw
  obtain ⟨_, c2, s2, q2⟩ := eval_sums u hw'
  have hset : (eval t).set = (eval u).set := by rw [eval_set, eval_set]; exact hp.any_eq
  refine ⟨?_, ?_, ?_, hset, ?_⟩
  · rw [c1, c2]; exact Lists.sum_perm (hp.map _)
  · rw [s1, s2]; exact Lists.sum_perm (hp.map _)
  · rw [q1, q2]; exact Lists.sum_perm (hp.map _)
  · intro h
    have h' : (eval u).set = true := by rw [← hset]; exact h
    exact ⟨eval_pick_perm Value.vmin Value.minHost merge_min t u hp h h',
      eval_pick_perm (fun v => OrderDual.toDual v.vmax) Value.maxHost merge_max t u hp h h'⟩

/-- C04: "The reported min host is always a host that contributed the min value": the reported minimum is the least
    minimum over the leaves that carry values and the reported host is the min host of a leaf attaining it. -/
theorem min_host_contributed (t : Tree) (hs : (eval t).set = true) :
    (∀ l ∈ leaves t, l.set = true → (eval t).vmin ≤ l.vmin) ∧
    ∃ l ∈ leaves t, l.set = true ∧ l.vmin = (eval t).vmin ∧ l.minHost = (eval t).minHost :=
  eval_pick Value.vmin Value.minHost merge_min t hs

theorem max_host_contributed (t : Tree) (hs : (eval t).set = true) :
    (∀ l ∈ leaves t, l.set = true → l.vmax ≤ (eval t).vmax) ∧
    ∃ l ∈ leaves t, l.set = true ∧ l.vmax = (eval t).vmax ∧ l.maxHost = (eval t).maxHost :=
  eval_pick (fun v => OrderDual.toDual v.vmax) Value.maxHost merge_max t hs

/-- C04: "the max-count host is always one of the contributing hosts" — for every stream of random draws -/
theorem maxcount_host_contributed (t : Tree) :
    ∃ l ∈ leaves t, l.chost = (eval t).chost ∧ (0 < (eval t).cnt → 0 < l.cnt) := by
  induction t with
  | leaf v => exact ⟨v, by simp [leaves], rfl, by simp [eval]⟩
  | node d l r ihl ihr =>
    simp only [eval, leaves]
    rw [(merge_counter _ _ _).1, (merge_counter _ _ _).2]
    obtain ⟨a, ha, ea, pa⟩ := ihl
    obtain ⟨b, hb, eb, pb⟩ := ihr
    rcases mergeCounter_host d (eval l) (eval r).cnt (eval r).chost with ⟨e, ec, _⟩ | ⟨e, hp, _⟩ | ⟨e, hp⟩
    · exact ⟨a, by simp [ha], by rw [e, ea], by rw [ec]; exact pa⟩
    · exact ⟨a, by simp [ha], by rw [e, ea], fun _ => pa hp⟩
    · exact ⟨b, by simp [hb], by rw [e, eb], fun _ => pb hp⟩


/-- the two copies of the counter-host branches in the Go source agree -/
theorem addCounterHost_eq (d : Nat) (s : Value) (c : Int) (h : Host) : addCounterHost d s c h = mergeCounter d s c h :=
  rfl

/-- adding one event to an accumulator is merging the one-event item: streams of events are merge trees -/
theorem add_eq_merge (d : Nat) (s : Value) (v c : Int) (h : Host) :
    addValueCounterHost d s v c h = merge d s (simpleValue v c h) := by
  unfold addValueCounterHost merge
  rw [addCounterHost_eq]
  simp [simpleValue, simpleCounter, addOnlyValue, mergeValuePart, zero, setMin, setMax, takesMin, takesMax]

theorem simpleValue_wf (v c : Int) (h : Host) (hc : 0 ≤ c) : Wf (simpleValue v c h) := by
  refine ⟨?_, ?_⟩
  · simp [simpleValue, simpleCounter, addOnlyValue, zero, setMin, setMax]; split <;> split <;> simpa using hc
  · intro hh; simp [simpleValue, simpleCounter, addOnlyValue, zero, setMin, setMax] at hh

theorem simpleCounter_wf (c : Int) (h : Host) (hc : 0 ≤ c) : Wf (simpleCounter c h) := by
  refine ⟨by simpa [simpleCounter, zero] using hc, ?_⟩
  intro _; simp [simpleCounter, zero]

def w1 : Value := simpleValue 5 8 1
def w2 : Value := simpleValue 5 4 2
def w3 : Value := simpleValue (-3) 12 3
/-- non-vacuity: two groupings with different draws of three contributions (two tie for the minimum) -/
example : (eval (.node 0 (.node 7 (.leaf w1) (.leaf w2)) (.leaf w3))).cnt = 24 ∧
    (eval (.node 0 (.leaf w3) (.node 0 (.leaf w2) (.leaf w1)))).cnt = 24 ∧
    (eval (.node 0 (.node 7 (.leaf w1) (.leaf w2)) (.leaf w3))).chost = 2 ∧
    (eval (.node 0 (.leaf w3) (.node 0 (.leaf w2) (.leaf w1)))).chost = 3 ∧
    (eval (.node 0 (.leaf w3) (.node 0 (.leaf w2) (.leaf w1)))).minHost = 3 := by decide +kernel
example : ∀ l ∈ leaves (.node 0 (.node 7 (.leaf w1) (.leaf w2)) (.leaf w3)), Wf l := by
  intro l hl
  simp [leaves] at hl
  rcases hl with h | h | h <;> subst h <;> exact simpleValue_wf _ _ _ (by decide +kernel)

/-- why `Wf` asks for non-negative counters: ItemCounter.Merge ignores a non-positive operand and overwrites a non-positive
    receiver, so with negative counters (never produced by ingestion) the result depends on the order -/
example : (merge 0 (simpleCounter (-4) 1) (simpleCounter (-8) 2)).cnt ≠ (merge 0 (simpleCounter (-8) 2) (simpleCounter (-4) 1)).cnt := by decide +kernel

/-! ## Part 2 — API rows (tsValues.merge) -/

inductive TsTree where
  | leaf (r : Ts)
  | node (l r : TsTree)

def tsEval (mv : Unique.MergeV) (P : Unique.Params) : TsTree → Ts
  | .leaf r => r
  | .node l r => tsMerge mv P (tsEval mv P l) (tsEval mv P r)

def tsLeaves : TsTree → List Ts
  | .leaf r => [r]
  | .node l r => tsLeaves l ++ tsLeaves r

def tsum (f : Ts → Int) (ls : List Ts) : Int := (ls.map f).sum

theorem ts_sums (mv : Unique.MergeV) (P : Unique.Params) (t : TsTree) :
    (tsEval mv P t).sum = tsum (·.sum) (tsLeaves t) ∧ (tsEval mv P t).count = tsum (·.count) (tsLeaves t) ∧
    (tsEval mv P t).sumsq = tsum (·.sumsq) (tsLeaves t) ∧ (tsEval mv P t).card = tsum (·.card) (tsLeaves t) := by
  induction t with
  | leaf r => simp [tsEval, tsLeaves, tsum]
  | node l r ihl ihr =>
    obtain ⟨a1, a2, a3, a4⟩ := ihl
    obtain ⟨b1, b2, b3, b4⟩ := ihr
    simp only [tsEval, tsLeaves, tsMerge, tsum, List.map_append, List.sum_append] at *
    exact ⟨by rw [a1, b1], by rw [a2, b2], by rw [a3, b3], by rw [a4, b4]⟩

/-- `m` bounds `f` over the rows in the sense of `le` (`le m (f l)` for every row) and some row attains it -/
def Extremal (le : Int → Int → Prop) (f : Ts → Int) (ls : List Ts) (m : Int) : Prop :=
  (∀ l ∈ ls, le m (f l)) ∧ ∃ l ∈ ls, f l = m

/-- a column that every merge step takes from the operand with the smaller `key` (the receiver on a tie) as long as the
    receiver's column is `ok` (a string host that is set): least key over the leaves, column of a leaf. Maximum: order `β` dually. -/
theorem ts_pick_ok {α β : Type} [LinearOrder β] (mv : Unique.MergeV) (P : Unique.Params) (f : Ts → α) (key : α → β) (ok : α → Prop)
    (hstep : ∀ v r, ok (f v) → f (tsMerge mv P v r) = if key (f r) < key (f v) then f r else f v) (t : TsTree)
    (hl : ∀ l ∈ tsLeaves t, ok (f l)) :
    (∀ l ∈ tsLeaves t, key (f (tsEval mv P t)) ≤ key (f l)) ∧ ∃ l ∈ tsLeaves t, f l = f (tsEval mv P t) := by
  induction t with
  | leaf r => exact ⟨fun l hl => by rw [List.mem_singleton.mp hl]; rfl, r, List.mem_singleton_self r, rfl⟩
  | node l r ihl ihr =>
    simp only [tsLeaves, List.mem_append] at hl
    obtain ⟨la, l0, hl0, le0⟩ := ihl (fun x hx => hl x (Or.inl hx))
    obtain ⟨ra, r0, hr0, re0⟩ := ihr (fun x hx => hl x (Or.inr hx))
    simp only [tsEval, tsLeaves, hstep _ _ (le0 ▸ hl l0 (Or.inl hl0)), List.mem_append]
    split
    · rename_i hlt
      exact ⟨fun x hx => hx.elim (fun h => le_trans (le_of_lt hlt) (la x h)) (ra x), r0, Or.inr hr0, re0⟩
    · rename_i hlt
      exact ⟨fun x hx => hx.elim (la x) (fun h => le_trans (not_lt.mp hlt) (ra x h)), l0, Or.inl hl0, le0⟩

theorem ts_pick {α β : Type} [LinearOrder β] (mv : Unique.MergeV) (P : Unique.Params) (f : Ts → α) (key : α → β)
    (hstep : ∀ v r, f (tsMerge mv P v r) = if key (f r) < key (f v) then f r else f v) (t : TsTree) :
    (∀ l ∈ tsLeaves t, key (f (tsEval mv P t)) ≤ key (f l)) ∧ ∃ l ∈ tsLeaves t, f l = f (tsEval mv P t) :=
  ts_pick_ok mv P f key (fun _ => True) (fun v r _ => hstep v r) t (fun _ _ => trivial)

theorem ts_pick_perm {α β : Type} [LinearOrder β] (mv : Unique.MergeV) (P : Unique.Params) (f : Ts → α) (key : α → β)
    (hstep : ∀ v r, f (tsMerge mv P v r) = if key (f r) < key (f v) then f r else f v) (t u : TsTree)
    (hp : (tsLeaves t).Perm (tsLeaves u)) : key (f (tsEval mv P t)) = key (f (tsEval mv P u)) := by
  obtain ⟨l1, x, hx, ex⟩ := ts_pick mv P f key hstep t
  obtain ⟨l2, y, hy, ey⟩ := ts_pick mv P f key hstep u
  exact le_antisymm (ey ▸ l1 y (hp.mem_iff.mpr hy)) (ex ▸ l2 x (hp.mem_iff.mp hx))

theorem ts_min (mv : Unique.MergeV) (P : Unique.Params) (t : TsTree) :
    Extremal (· ≤ ·) (·.min) (tsLeaves t) (tsEval mv P t).min :=
  ts_pick mv P Ts.min id (fun _ _ => rfl) t

/-- the string min host, when every row carries a host (an empty receiver takes the operand whatever its value) -/
theorem ts_min_host_str (mv : Unique.MergeV) (P : Unique.Params) (t : TsTree) (hne : ∀ l ∈ tsLeaves t, l.minHostStr.arg ≠ 0) :
    (tsEval mv P t).minHostStr.arg ≠ 0 ∧
    (∀ l ∈ tsLeaves t, (tsEval mv P t).minHostStr.val ≤ l.minHostStr.val) ∧ ∃ l ∈ tsLeaves t, l.minHostStr = (tsEval mv P t).minHostStr := by
  obtain ⟨a, l, hl, e⟩ := ts_pick_ok mv P Ts.minHostStr Arg.val (fun a => a.arg ≠ 0)
    (fun v r h => by simp only [tsMerge, argMinStr, if_neg h]) t hne
  exact ⟨e ▸ hne l hl, a, l, hl, e⟩

/-- C04, API rows: any two merge trees over the same multiset of rows agree on min, max, sum, count, sum of squares,
    cardinality and on the value of the min/max host -/
theorem ts_order_independent (mv : Unique.MergeV) (P : Unique.Params) (t u : TsTree) (hp : (tsLeaves t).Perm (tsLeaves u)) :
    (tsEval mv P t).sum = (tsEval mv P u).sum ∧ (tsEval mv P t).count = (tsEval mv P u).count ∧
    (tsEval mv P t).sumsq = (tsEval mv P u).sumsq ∧ (tsEval mv P t).card = (tsEval mv P u).card ∧
    (tsEval mv P t).min = (tsEval mv P u).min ∧ (tsEval mv P t).max = (tsEval mv P u).max ∧
    (tsEval mv P t).minHost.val = (tsEval mv P u).minHost.val ∧ (tsEval mv P t).maxHost.val = (tsEval mv P u).maxHost.val := by
  obtain ⟨a1, a2, a3, a4⟩ := ts_sums mv P t
  obtain ⟨b1, b2, b3, b4⟩ := ts_sums mv P u
  exact ⟨by rw [a1, b1]; exact Lists.sum_perm (hp.map _), by rw [a2, b2]; exact Lists.sum_perm (hp.map _),
    by rw [a3, b3]; exact Lists.sum_perm (hp.map _), by rw [a4, b4]; exact Lists.sum_perm (hp.map _),
    ts_pick_perm mv P Ts.min id (fun _ _ => rfl) t u hp,
    ts_pick_perm mv P Ts.max OrderDual.toDual (fun _ _ => rfl) t u hp,
    ts_pick_perm mv P Ts.minHost Arg.val (fun _ _ => rfl) t u hp,
    ts_pick_perm mv P Ts.maxHost (fun a => OrderDual.toDual a.val) (fun _ _ => rfl) t u hp⟩

/-! ## Part 3 — the unique sketch (ChUnique); the invariant `Good` / `Rep` and its preservation are in SH.Lemmas.UniqueSketch -/
open SH.Unique

theorem fil_fil_succ (k : Nat) (U : Finset ℕ) : fil (k + 1) (fil k U) = fil (k + 1) U :=
  fil_fil_le (Nat.le_succ k) U

theorem rep_sub (P : Params) (s : Sk) (U W : Finset ℕ) (h : Rep P s U W) : U ⊆ W := by
  rcases h with h | ⟨_, b, _⟩
  · exact h.sub
  · rw [b]; exact Finset.empty_subset _

/-- any interleaving of inserts and merges: a binary tree whose leaves are insert streams -/
inductive Prog where
  | empty
  | ins (p : Prog) (x : Nat)
  | merge (a b : Prog)
  | mread (a b : Prog)     -- a.MergeRead(b.MarshallAppend()): the agent → aggregator path

def run (P : Params) : Prog → Sk
  | .empty => nilSk
  | .ins p x => insertHash P (ensure P (run P p)) x
  | .merge a b => Unique.merge .chGood P (run P a) (run P b)
  | .mread a b => mergeRead .adopt .clamp P (run P a) (marshal P (run P b))

def hashes : Prog → Finset ℕ
  | .empty => ∅
  | .ins p x => insert x (hashes p)
  | .merge a b => hashes a ∪ hashes b
  | .mread a b => hashes a ∪ hashes b

theorem run_rep (P : Params) (hP : PWF P) (W : Finset ℕ) (hW : ∀ x ∈ W, x < 2 ^ P.bits) :
    ∀ p : Prog, hashes p ⊆ W → Rep P (run P p) (hashes p) W := by
  intro p
  induction p with
  | empty => exact fun _ => Or.inr ⟨rfl, rfl, hW⟩
  | ins p x ih =>
    intro h
    obtain ⟨hx, hp⟩ := Finset.insert_subset_iff.mp h
    exact Or.inl (insertHash_good P _ _ _ x (ensure_good P hP _ _ _ (ih hp)) hx)
  | merge a b iha ihb =>
    intro h
    obtain ⟨ha, hb⟩ := Finset.union_subset_iff.mp h
    exact merge_good P hP _ _ _ _ _ (iha ha) (ihb hb)
  | mread a b iha ihb =>
    intro h
    obtain ⟨ha, hb⟩ := Finset.union_subset_iff.mp h
    exact mergeRead_rep P hP _ _ _ _ _ (iha ha) (ihb hb)

/-- C04, unique values: whatever the order and grouping of inserts and merges, the sketch represents exactly the set of
    inserted hashes `U`: it stores the values of `U` divisible by 2^skipDegree, and skipDegree is minimal. -/
theorem canonical_sketch (P : Params) (hP : PWF P) (p : Prog) (hb : ∀ x ∈ hashes p, x < 2 ^ P.bits) :
    Rep P (run P p) (hashes p) (hashes p) :=
  run_rep P hP _ hb p (Finset.Subset.refl _)

theorem rep_unique (P : Params) (s s' : Sk) (U : Finset ℕ) (h : Rep P s U U) (h' : Rep P s' U U) :
    s.k = s'.k ∧ s.cnt = s'.cnt := by
  obtain ⟨a1, a2, a3⟩ := rep_canonical P s U h
  obtain ⟨b1, b2, b3⟩ := rep_canonical P s' U h'
  -- a smaller skipDegree on one side would contradict minimality on the other
  have hk : s.k = s'.k := by
    rcases Nat.lt_trichotomy s.k s'.k with c | c | c
    · exact absurd (b2 s.k c) (Nat.not_lt.mpr a1)
    · exact c
    · exact absurd (a2 s'.k c) (Nat.not_lt.mpr b1)
  exact ⟨hk, by rw [a3, b3, hk]⟩

/-- C04: "… yields the same … unique-value estimate": two programs (any order, any grouping) that insert the same set of
    hashes end with the same skipDegree and itemsCount, hence the same Size() (a function of the two). -/
theorem estimate_order_independent (P : Params) (hP : PWF P) (p q : Prog) (h : hashes p = hashes q)
    (hb : ∀ x ∈ hashes p, x < 2 ^ P.bits) :
    (run P p).k = (run P q).k ∧ (run P p).cnt = (run P q).cnt ∧ sizeAsIs (run P p) = sizeAsIs (run P q) := by
  have r1 := canonical_sketch P hP p hb
  have r2 := canonical_sketch P hP q (by rw [← h]; exact hb)
  rw [← h] at r2
  obtain ⟨a, b⟩ := rep_unique P _ _ _ r1 r2
  exact ⟨a, b, by simp [sizeAsIs, a, b]⟩

/-- the tsValues.merge sketch path (fresh copy on the first merge, in place afterwards) is two/one `Merge` calls, so API rows
    inherit `merge_good`: the merged row's sketch represents the union of what both rows' sketches have seen -/
theorem tsUnique_good (P : Params) (hP : PWF P) (v r : Ts) (U1 U2 W : Finset ℕ) (hv : Rep P v.u U1 W) (hr : Rep P r.u U2 W) :
    Rep P (tsUnique .chGood P v r) (U1 ∪ U2) W := by
  unfold tsUnique
  split
  · have h0 : Rep P nilSk ∅ W := Or.inr ⟨rfl, rfl, rep_bound P _ _ _ hv⟩
    have h1 := merge_good P hP nilSk v.u ∅ U1 W h0 hv
    rw [Finset.empty_union] at h1
    exact merge_good P hP _ r.u U1 U2 W h1 hr
  · exact merge_good P hP v.u r.u U1 U2 W hv hr

theorem real_pwf : PWF Unique.real := ⟨by decide, by decide⟩

/-! ### the code before the fix: `decide` witnesses on a toy instance (4-bit hashes, limit 4) -/

def toy : Params := { bits := 4, maxDeg := 3, initDeg := 1 }
def ofList (P : Params) (xs : List Nat) : Sk := xs.foldl (insertHash P) (reset P)

/-- thinned once: skipDegree 1, holds 2, 4, 6 -/
def tA : Sk := ofList toy [1, 2, 3, 4, 6]
/-- holds 1 -/
def tB : Sk := ofList toy [1]

example : tA.k = 1 ∧ tA.cnt = 3 ∧ tB.k = 0 ∧ tB.cnt = 1 := by decide +kernel

/-- F2 — ChUnique.Merge filtered incoming values with `rhs.good`: merging the small sketch INTO the thinned one keeps the
    odd value 1 (estimate 8), the other order gives 6. After the fix both orders give 6. -/
example : sizeAsIs (Unique.merge .rhsGood toy tA tB) = 8 ∧ sizeAsIs (Unique.merge .rhsGood toy tB tA) = 6 := by decide +kernel
example : sizeAsIs (Unique.merge .chGood toy tA tB) = 6 ∧ sizeAsIs (Unique.merge .chGood toy tB tA) = 6 := by decide +kernel

/-- F3 — MergeRead did not adopt the incoming skipDegree: small ⇐ thinned keeps skipDegree 0 (estimate 4), thinned ⇐ small gives 6 -/
example : sizeAsIs (mergeRead .stale .clamp toy tB (marshal toy tA)) = 4 ∧
          sizeAsIs (mergeRead .stale .clamp toy tA (marshal toy tB)) = 6 := by decide +kernel
example : sizeAsIs (mergeRead .adopt .clamp toy tB (marshal toy tA)) = 6 ∧
          sizeAsIs (mergeRead .adopt .clamp toy tA (marshal toy tB)) = 6 := by decide +kernel

/-- a sketch holding exactly `limit` values -/
def tF : Sk := ofList toy [1, 2, 3, 4]
example : tF.cnt = limit toy ∧ tF.k = 0 := by decide +kernel

/-- `SdV.exact` — the readers sized the table with log2(ic)+2 unclamped: for exactly `limit` values maxFill is 2·limit, so the next
    values are stored without thinning and itemsCount exceeds the limit (such a sketch cannot even be read back).
    With the clamp the same program thins. -/
example : limit toy < (mergeRead .adopt .exact toy (mergeRead .adopt .exact toy nilSk (marshal toy tF)) (marshal toy (ofList toy [5]))).cnt := by decide +kernel
example : (mergeRead .adopt .clamp toy (mergeRead .adopt .clamp toy nilSk (marshal toy tF)) (marshal toy (ofList toy [5]))).cnt ≤ limit toy := by decide +kernel

def pg1 : Prog := .merge (.ins (.ins (.ins .empty 1) 2) 3) (.ins (.ins (.ins .empty 4) 6) 8)
def pg2 : Prog := .ins (.mread (.ins (.ins .empty 8) 6) (.merge (.ins .empty 3) (.ins (.ins .empty 2) 1))) 4
/-- non-vacuity of `canonical_sketch` / `estimate_order_independent`: two different programs over the same 6 hashes, with thinning -/
example : hashes pg1 = hashes pg2 ∧ (∀ x ∈ hashes pg1, x < 2 ^ toy.bits) ∧ PWF toy ∧ (run toy pg1).k = 1 ∧ (run toy pg1).cnt = 4 ∧
    (run toy pg2).k = 1 ∧ (run toy pg2).cnt = 4 := by
  refine ⟨by decide +kernel, by decide +kernel, ⟨by decide +kernel, by decide +kernel⟩, by decide +kernel, by decide +kernel, by decide +kernel, by decide +kernel⟩

/-! ## Part 4 — the open-addressing table refines the set model, one step

  SH.Model.UniqueTable is the table as the code has it; `Refines`, `WF` are in SH.Lemmas.UniqueTable. `WF` is decided by the
  executable `wfb` (`wfb_decides_WF`) which the driver evaluates after every replayed op.
  Hypotheses the loops need (and the code maintains: itemsCount ≤ maxFill = half the table before every insert, table
  size ≥ 4): one free slot for rehash/resize, new size ≥ 2 × old size for resize.
  The witness below (`ResizeV.oldOnly`, seeded/C03-2) shows the real loop bound is necessary: with `i < oldSize`
  every value-level theorem still holds, but a wrapped value is stranded, `WF` fails, and the next insert of that value
  is counted twice.
-/
open SH.UTable

/-- insertImpl on the table = insertImpl on the set, and the table stays well-formed (given one free slot) -/
theorem table_refines_insertImpl (P : Params) (t : Tb) (s : Sk) (w : WF P t) (r : Refines P t s) (x : Nat) (hx : x < 2 ^ P.bits)
    (j : Nat) (hj : j < size t) (hj0 : get t j = 0) :
    WF P (UTable.insertImpl P t x) ∧ Refines P (UTable.insertImpl P t x) (Unique.insertImpl P s x) :=
  insertImpl_refines P t s w r x hx j hj hj0

/-- in a well-formed table the probe finds every stored value at its slot (no stranded values) -/
theorem table_lookup_complete (P : Params) (t : Tb) (h : WF P t) (i : Nat) (hi : i < size t) (hx : get t i ≠ 0) :
    probe t (get t i) (size t) (place P t (get t i)) = some i := lookup_complete P t h i hi hx

/-- rehash (first pass + "process the first collision resolution chain once again") = thinning of the set -/
theorem table_rehash_values (P : Params) (t : Tb) (s : Sk) (h : Tidy t) (r : Refines P t s) (k' : Nat) :
    Tidy (UTable.rehash P { t with k := k' }) ∧
    Refines P (UTable.rehash P { t with k := k' }) (Unique.rehash P { s with k := k' }) := rehash_refines P t s h r k'

/-- resize = the set with a larger sizeDegree; true for the real loop bound and for the shortened one -/
theorem table_resize_values (v : ResizeV) (P : Params) (t : Tb) (s : Sk) (h : Tidy t) (r : Refines P t s) (n : Nat) (hn : t.sd ≤ n) :
    Tidy (resize v P t n) ∧ Refines P (resize v P t n) { s with sd := n } := resize_refines v P t s h r n hn

/-- one insertHash step (insertImpl + shrinkIfNeed: thinning loop or resize) from a well-formed table agrees with the set
    model on values, itemsCount, skipDegree, sizeDegree, for either bound of the resize loop; `WF` of the result is
    `table_refines_step` -/
theorem table_refines_step_partial (v : ResizeV) (P : Params) (t : Tb) (s : Sk) (w : WF P t) (r : Refines P t s) (x : Nat)
    (hx : x < 2 ^ P.bits) (j : Nat) (hj : j < size t) (hj0 : get t j = 0) :
    Tidy (UTable.insertHash v P t x) ∧ Refines P (UTable.insertHash v P t x) (Unique.insertHash P s x) :=
  insertHash_refines_values v P t s w r x hx j hj hj0

/-- the executable check (run by the driver after every op, and by `decide` in the witnesses) is the invariant -/
theorem wfb_decides_WF (P : Params) (t : Tb) (ha : t.alloc = true) : wfb P t = true ↔ WF P t := by
  have hsh : (t.buf.size == size t) = true ↔ Shape t := by
    unfold Shape slots; simp
  have hcn : (t.cnt == occupied t + (if t.zero then 1 else 0)) = true ↔ CntOk t := by
    unfold CntOk occupied items slots nz; simp
  unfold wfb
  simp only [ha, Bool.not_true, Bool.false_eq_true, if_false, Bool.and_eq_true]
  rw [hsh, hcn, findsAll_iff]
  constructor
  · rintro ⟨⟨a, b⟩, c⟩; exact wf_of_finds P t a b c
  · intro w; exact ⟨⟨w.shape, w.cnt⟩, fun i hi hn => lookup_complete P t w i hi hn⟩

/-! ### witnesses: 6-bit hashes, tables of 4 → 8 slots. 28 has home slot 3 (7 after the resize), 12 has home slot 3 in both
    tables and wraps to slot 0, 4 is the third value that triggers the resize. -/

def toyT : Params := { bits := 6, maxDeg := 4, initDeg := 2 }
def tabOf (v : ResizeV) (xs : List Nat) : Tb := xs.foldl (UTable.insertHash v toyT) (UTable.reset toyT)

/-- before the resize: [12, 0, 0, 28] — 12 wrapped around the end of the table; well-formed -/
example : (tabOf .full [28, 12]).buf = #[12, 0, 0, 28] ∧ wfb toyT (tabOf .full [28, 12]) = true := by decide +kernel

/-- the real loop (`i < oldSize || buf[i] != 0`): 12 is first moved past the old end (slot 4) and, after 28 has left slot 3,
    moved once more into its home slot: [0, 4, 0, 12, 0, 0, 0, 28], well-formed -/
example : (tabOf .full [28, 12, 4]).buf = #[0, 4, 0, 12, 0, 0, 0, 28] ∧ WF toyT (tabOf .full [28, 12, 4]) :=
  ⟨by decide +kernel, (wfb_decides_WF toyT _ (by decide +kernel)).mp (by decide +kernel)⟩

/-- seeded/C03-2 (`i < oldSize` only): 12 stays in slot 4 behind its empty home slot 3. Same values, same
    itemsCount — the set-level theorems above hold — but the table is not well-formed … -/
example : (tabOf .oldOnly [28, 12, 4]).buf = #[0, 4, 0, 0, 12, 0, 0, 28] ∧ (tabOf .oldOnly [28, 12, 4]).cnt = 3 ∧
    ¬ WF toyT (tabOf .oldOnly [28, 12, 4]) :=
  ⟨by decide +kernel, by decide +kernel, fun w => absurd ((wfb_decides_WF toyT _ (by decide +kernel)).mpr w) (by decide +kernel)⟩

/-- … the probe no longer finds 12, and inserting 12 again stores it a second time: itemsCount 4 for 3 distinct values,
    where the unchanged code answers 3 -/
example : probe (tabOf .oldOnly [28, 12, 4]) 12 8 (place toyT (tabOf .oldOnly [28, 12, 4]) 12) = some 3 ∧
    (UTable.insertImpl toyT (tabOf .oldOnly [28, 12, 4]) 12).cnt = 4 ∧
    (UTable.insertImpl toyT (tabOf .full [28, 12, 4]) 12).cnt = 3 := by decide +kernel

/-- non-vacuity of the hypotheses of `table_refines_insertImpl` / `table_refines_step_partial`: a well-formed table with a free
    slot and the set model built from the same inserts -/
example : WF toyT (tabOf .full [28, 12]) ∧ get (tabOf .full [28, 12]) 1 = 0 ∧
    (ofList toyT [28, 12]).cnt = (tabOf .full [28, 12]).cnt :=
  ⟨(wfb_decides_WF toyT _ (by decide +kernel)).mp (by decide +kernel), by decide +kernel, by decide +kernel⟩

example : Refines toyT (tabOf .full [28, 12]) (ofList toyT [28, 12]) :=
  { alloc := by decide +kernel, k := by decide +kernel, sd := by decide +kernel, cnt := by decide +kernel, vals := by decide +kernel, bound := by decide +kernel }


/-! ## Part 5 — ApplyUnique (the event-level entry) is a merge with one leaf plus a stream of inserts -/

theorem addOnlyValue_set (t : Value) (v c : Int) (h : Host) : (addOnlyValue t v c h).set = true ∧ (addOnlyValue t v c h).cnt = t.cnt := by
  simp [addOnlyValue, setMin, setMax]; split <;> split <;> rfl

/-- invariant of the temporary item while values are added: counter untouched, sums are zero as long as nothing was added -/
def TmpOk (c : Int) (t : Value) : Prop := t.cnt = c ∧ (t.set = false → t.sum = 0 ∧ t.sumsq = 0)

theorem tmpOk_add (c : Int) (t : Value) (v cc : Int) (h : Host) (ht : TmpOk c t) : TmpOk c (addOnlyValue t v cc h) := by
  obtain ⟨a, b⟩ := addOnlyValue_set t v cc h
  exact ⟨b.trans ht.1, fun hs => by rw [a] at hs; cases hs⟩

theorem tmpOk_fold1 (c : Int) (h : Host) : ∀ (vs : List Int) (t : Value), TmpOk c t → TmpOk c (vs.foldl (fun t v => addOnlyValue t v 4 h) t) := by
  intro vs; induction vs with
  | nil => intro t ht; exact ht
  | cons v vs ih => intro t ht; exact ih _ (tmpOk_add c t v 4 h ht)

theorem tmpOk_fold2 (c : Int) (h : Host) : ∀ (hs : List (Int × Int)) (t : Value), TmpOk c t →
    TmpOk c (hs.foldl (fun t kv => addOnlyValue t kv.1 kv.2 h) t) := by
  intro hs; induction hs with
  | nil => intro t ht; exact ht
  | cons kv hs ih => intro t ht; exact ih _ (tmpOk_add c t kv.1 kv.2 h ht)

theorem scale_wf (c total : Int) (t2 : Value) (h2 : TmpOk c t2) (hc : 0 ≤ c) :
    Wf (if c ≠ total then { t2 with sum := t2.sum * c / total, sumsq := t2.sumsq * c / total } else t2) := by
  split
  · refine ⟨by show t2.cnt ≥ 0; rw [h2.1]; exact hc, ?_⟩
    intro hs
    have := h2.2 hs
    show t2.sum * c / total = 0 ∧ t2.sumsq * c / total = 0
    rw [this.1, this.2]; simp
  · exact ⟨by rw [h2.1]; exact hc, h2.2⟩

theorem tmpOk_counter (c : Int) (h : Host) : TmpOk c (simpleCounter c h) :=
  ⟨rfl, fun _ => ⟨rfl, rfl⟩⟩

/-- the item ApplyUnique merges is a contribution in the sense of Part 1 (`Wf`) -/
theorem uniqueItem_wf (hashes : List Int) (c : Int) (h : Host) (hc : 0 ≤ c) (hne : hashes ≠ []) : Wf (uniqueItem hashes c h) :=
  scale_wf c _ _ (tmpOk_fold1 c h hashes _ (tmpOk_counter c h)) hc

/-- ApplyUnique = ItemValue.Merge with `uniqueItem` (so Part 1 applies to event streams that contain unique events) and a
    stream of Insert calls on the sketch (so Part 3 applies: `Prog.ins`) -/
theorem applyUnique_eq (P : Unique.Params) (d : Nat) (s : Multi) (hashes : List Int) (c : Int) (h : Host) (hne : hashes ≠ []) :
    (applyUnique P d s hashes c h).v = merge d s.v (uniqueItem hashes c h) ∧
    (applyUnique P d s hashes c h).u = hashes.foldl (fun u v => Unique.insertVal P u (hashKey v)) s.u := by
  unfold applyUnique
  have : hashes.isEmpty = false := by cases hashes with
    | nil => exact absurd rfl hne
    | cons a l => rfl
  simp [this]

/-- non-vacuity: unique [1 2 2 100] with count 20 (the comment in the Go source): sum = 105·20/4, in quarter units 2100 -/
example : (uniqueItem [1, 2, 2, 100] 80 7).sum = 2100 ∧ (uniqueItem [1, 2, 2, 100] 80 7).vmin = 1 ∧
    (uniqueItem [1, 2, 2, 100] 80 7).vmax = 100 ∧ (uniqueItem [1, 2, 2, 100] 80 7).cnt = 80 := by decide +kernel


/-! ## Part 6 — `table_refines`: the real data structure (open-addressing table) stays well-formed and equals the set model -/

/-- rehash — the pass over the table AND "process the first collision resolution chain once again" — restores reachability:
    a well-formed table with one free slot stays well-formed (any new skipDegree) -/
theorem table_rehash_restores_WF (P : Params) (t : Tb) (w : WF P t) (k' e0 : Nat) (he : e0 < UTable.size t) (h0 : UTable.get t e0 = 0) :
    WF P (UTable.rehash P { t with k := k' }) := rehash_wf P t w k' e0 he h0

/-- resize with the real loop bound `i < oldSize || buf[i] != 0` restores reachability in the larger table
    (hypothesis the code maintains: the table is not full; the new table is at least twice as large) -/
theorem table_resize_restores_WF (P : Params) (t : Tb) (w : WF P t) (newSd : Nat) (hge : t.sd + 1 ≤ newSd)
    (hroom : (items t).length + 1 ≤ UTable.size t) : WF P (UTable.resize .full P t newSd) := resize_wf P t w newSd hge hroom

/-- `WF` is an invariant of a whole insertHash step (insertImpl, thinning loop, growth), given two free slots before it -/
theorem table_refines_step (P : Params) (t : Tb) (s : Sk) (w : WF P t) (r : Refines P t s) (x : Nat) (hx : x < 2 ^ P.bits)
    (hroom : (items t).length + 2 ≤ UTable.size t) :
    WF P (UTable.insertHash .full P t x) ∧ Refines P (UTable.insertHash .full P t x) (Unique.insertHash P s x) := by
  obtain ⟨j, hj, hj0⟩ := free_slot_of_len t w.shape (by omega)
  exact ⟨insertHash_wf P t w x hroom, (insertHash_refines_values .full P t s w r x hx j hj hj0).2⟩

/-- the joint invariant: the table is well-formed, the set model is its abstraction, the set model represents `U`
    canonically (Part 3), and the table has at least 4 slots -/
structure TInv (P : Params) (t : Tb) (s : Sk) (U W : Finset ℕ) : Prop where
  wf : WF P t
  ref : Refines P t s
  good : Good P s U W
  sd2 : 2 ≤ s.sd

theorem TInv.alloc {P : Params} {t : Tb} {s : Sk} {U W : Finset ℕ} (h : TInv P t s U W) : t.alloc = true :=
  h.ref.alloc ▸ h.good.alloc

theorem TInv.fill {P : Params} {t : Tb} {s : Sk} {U W : Finset ℕ} (h : TInv P t s U W) : t.cnt ≤ UTable.maxFill t := by
  show t.cnt ≤ 2 ^ (t.sd - 1)
  rw [← h.ref.cnt, ← h.ref.sd]
  exact h.good.fill

theorem tinv_room (P : Params) (t : Tb) (s : Sk) (U W : Finset ℕ) (h : TInv P t s U W) : (items t).length + 2 ≤ size t := by
  have h1 : t.cnt = (items t).length + _ := h.wf.cnt
  have h2 : s.cnt ≤ 2 ^ (s.sd - 1) := h.good.fill
  have h3 := h.ref.cnt
  have h5 := h.sd2
  have e := Nat.two_pow_pred_mul_two (w := s.sd) (by omega)
  have e2 : 2 ^ 1 ≤ 2 ^ (s.sd - 1) := Nat.pow_le_pow_right (by omega) (by omega)
  unfold UTable.size
  rw [← h.ref.sd]
  omega

theorem tinv_step (P : Params) (t : Tb) (s : Sk) (U W : Finset ℕ) (h : TInv P t s U W) (x : Nat) (hx : x ∈ W) :
    TInv P (UTable.insertHash .full P t x) (Unique.insertHash P s x) (insert x U) W := by
  obtain ⟨w, r⟩ := table_refines_step P t s h.wf h.ref x (h.good.bound x hx) (tinv_room P t s U W h)
  exact { wf := w, ref := r, good := insertHash_good P s U W x h.good hx,
          sd2 := Nat.le_trans h.sd2 (insertHash_sd_ge P s x) }

theorem tinv_fold (P : Params) : ∀ (xs : List Nat) (t : Tb) (s : Sk) (U W : Finset ℕ), TInv P t s U W → (∀ x ∈ xs, x ∈ W) →
    TInv P (xs.foldl (UTable.insertHash .full P) t) (xs.foldl (Unique.insertHash P) s) (U ∪ xs.toFinset) W := by
  intro xs
  induction xs with
  | nil => intro t s U W h _; simpa using h
  | cons x xs ih =>
    intro t s U W h hx
    simp only [List.foldl_cons, List.toFinset_cons]
    rw [List.forall_mem_cons] at hx
    rw [Finset.union_insert, ← Finset.insert_union]
    exact ih _ _ _ W (tinv_step P t s U W h x hx.1) hx.2

theorem tinv_reset (P : Params) (hP : PWF P) (h2 : 2 ≤ P.initDeg) (W : Finset ℕ) (hW : ∀ x ∈ W, x < 2 ^ P.bits) :
    TInv P (UTable.reset P) (Unique.reset P) ∅ W := by
  obtain ⟨w, _, htv⟩ := blank_wf P (UTable.reset P) rfl rfl rfl
  refine { wf := w, ref := ?_, good := ?_, sd2 := h2 }
  · exact { alloc := rfl, k := rfl, sd := rfl, cnt := rfl,
            vals := by rw [htv]; exact keys_nil _,
            bound := by rw [htv]; exact fun x hx => absurd hx (Finset.notMem_empty x) }
  · exact reset_good P hP W hW

/-- `table_refines`, insert programs: for every stream of inserted hashes, the concrete open-addressing table (buf, probing,
    rehash, resize as in the code) is well-formed, its abstraction is the set model, and the set model is the canonical
    sketch of the inserted set — so `canonical_sketch` holds for the real data structure:
    skipDegree is the least one that fits and itemsCount is the number of inserted hashes divisible by 2^skipDegree. -/
theorem table_refines (P : Params) (hP : PWF P) (h2 : 2 ≤ P.initDeg) (xs : List Nat) (hb : ∀ x ∈ xs, x < 2 ^ P.bits) :
    WF P (xs.foldl (UTable.insertHash .full P) (UTable.reset P)) ∧
    Refines P (xs.foldl (UTable.insertHash .full P) (UTable.reset P)) (xs.foldl (Unique.insertHash P) (Unique.reset P)) ∧
    (fil (xs.foldl (UTable.insertHash .full P) (UTable.reset P)).k xs.toFinset).card ≤ limit P ∧
    (∀ j < (xs.foldl (UTable.insertHash .full P) (UTable.reset P)).k, limit P < (fil j xs.toFinset).card) ∧
    (xs.foldl (UTable.insertHash .full P) (UTable.reset P)).cnt =
      (fil (xs.foldl (UTable.insertHash .full P) (UTable.reset P)).k xs.toFinset).card := by
  have h0 := tinv_reset P hP h2 xs.toFinset (by intro x hx; exact hb x (List.mem_toFinset.mp hx))
  have h := tinv_fold P xs _ _ ∅ xs.toFinset h0 (by intro x hx; exact List.mem_toFinset.mpr hx)
  rw [Finset.empty_union] at h
  obtain ⟨a, b, c⟩ := rep_canonical P _ _ (Or.inl h.good)
  rw [h.ref.k] at a b c
  exact ⟨h.wf, h.ref, a, b, by rw [← h.ref.cnt]; exact c⟩

/-- non-vacuity: the real parameters satisfy the hypotheses; and a concrete run on the toy table -/
example : PWF Unique.real ∧ 2 ≤ Unique.real.initDeg := ⟨real_pwf, by decide +kernel⟩
set_option maxRecDepth 20000 in
example : PWF toyT ∧ 2 ≤ toyT.initDeg ∧ (∀ x ∈ [28, 12, 4, 33, 7, 52, 9, 61, 17], x < 2 ^ toyT.bits) ∧
    (tabOf .full [28, 12, 4, 33, 7, 52, 9, 61, 17]).k = 1 ∧ (tabOf .full [28, 12, 4, 33, 7, 52, 9, 61, 17]).cnt = 4 := by
  refine ⟨⟨by decide +kernel, by decide +kernel⟩, by decide +kernel, by decide +kernel, by decide +kernel, by decide +kernel⟩


/-! ## Part 7 — `table_refines` for every program: inserts, Merge, MarshallAppend + MergeRead -/

theorem tinv_tvals (P : Params) (t : Tb) (s : Sk) (U W : Finset ℕ) (h : TInv P t s U W) : tvals t = fil t.k U := by
  rw [← h.ref.vals, ← h.ref.k]; exact h.good.items

/-- adoption of the sender's skipDegree (`skipDegree = k'; rehash()`), table and set model together -/
theorem tinv_absorb (P : Params) (t : Tb) (s : Sk) (U1 U2 W : Finset ℕ) (h : TInv P t s U1 W) (k' : Nat) (hs : U2 ⊆ W)
    (hm : ∀ j < k', limit P < (fil j W).card) :
    TInv P (if t.k < k' then UTable.rehash P { t with k := k' } else t) (Unique.adopt P s k') (U1 ∪ (U2 \ fil k' U2)) W := by
  have g := adopt_absorb P s U1 U2 W k' h.good hs hm
  unfold Unique.adopt at g ⊢
  rw [h.ref.k] at g ⊢
  by_cases c : t.k < k'
  · rw [if_pos c] at g ⊢; rw [if_pos c]
    have hroom := tinv_room P t s U1 W h
    obtain ⟨e0, he, h0⟩ := free_slot_of_len t h.wf.shape (by omega)
    exact { wf := rehash_wf P t h.wf k' e0 he h0,
            ref := (rehash_refines P t s (wf_tidy P t h.wf) h.ref k').2,
            good := g, sd2 := h.sd2 }
  · rw [if_neg c] at g ⊢; rw [if_neg c]; exact { wf := h.wf, ref := h.ref, good := g, sd2 := h.sd2 }

/-- what MarshallAppend writes for a table that has seen `U` is an image of `U`, without repetitions -/
theorem tinv_image (P : Params) (t : Tb) (s : Sk) (U W : Finset ℕ) (h : TInv P t s U W) :
    Image P (UTable.marshal t) U W ∧ (UTable.marshal t).xs.Nodup := by
  obtain ⟨mk, mic, mxs, mfin⟩ := tmarshal_xs t h.alloc
  have htv := tinv_tvals P t s U W h
  have hnd := wf_nodup P t h.wf
  refine ⟨{ xs := by rw [mfin, mk]; exact htv, ic := by rw [mic, mk, ← htv]; exact tidy_cnt t (wf_tidy P t h.wf),
            lim := by rw [mic, ← h.ref.cnt]; exact good_cnt_le h.good, sub := h.good.sub, bound := h.good.bound,
            minimal := by rw [mk, ← h.ref.k]; exact h.good.minimal }, ?_⟩
  rw [mxs]
  cases hz : t.zero
  · simpa using hnd
  · simp only [if_true, List.singleton_append]
    exact List.nodup_cons.mpr ⟨zero_not_mem_items t, hnd⟩

/-- what Merge and MergeRead both do once the sender's skipDegree `m.k` is adopted: the values of its image are inserted
    one by one; table and set model together -/
theorem tinv_absorb_image (P : Params) (t : Tb) (s : Sk) (m : Wire) (U1 U2 W : Finset ℕ) (i : Image P m U2 W)
    (c : TInv P t s (U1 ∪ (U2 \ fil m.k U2)) W) : ∃ s', TInv P (m.xs.foldl (UTable.insertHash .full P) t) s' (U1 ∪ U2) W := by
  have c4 := tinv_fold P m.xs _ _ _ W c i.mem
  rw [i.xs, absorb_union] at c4
  exact ⟨_, c4⟩

/-- ChUnique.Merge on the real table: the image absorbed is the one MarshallAppend would write for the sender (the zero
    flag, then the slots in order) -/
theorem tinv_merge (P : Params) (ch rhs : Tb) (s1 s2 : Sk) (U1 U2 W : Finset ℕ) (h1 : TInv P ch s1 U1 W) (h2 : TInv P rhs s2 U2 W) :
    ∃ s, TInv P (UTable.merge .full P ch rhs) s (U1 ∪ U2) W := by
  have ha2 : rhs.alloc = true := h2.alloc
  obtain ⟨mk, _, mxs, _⟩ := tmarshal_xs rhs ha2
  have c2 := tinv_absorb P ch s1 U1 U2 W h1 rhs.k h2.good.sub (h2.ref.k ▸ h2.good.minimal)
  rw [← mk] at c2
  have c4 := tinv_absorb_image P _ _ _ U1 U2 W (tinv_image P rhs s2 U2 W h2).1 c2
  rw [mxs, List.foldl_append, ← zeroStep_fold P _ rhs c2.fill, mk] at c4
  unfold UTable.merge
  simp only [ha2, Bool.not_true, Bool.false_eq_true, if_false, ensure_alloc P ch h1.alloc, foldl_mergeSlot]
  exact c4


theorem tinv_resize (P : Params) (hP : PWF P) (t : Tb) (s : Sk) (U W : Finset ℕ) (h : TInv P t s U W) (ic : Nat) (hic : ic ≤ limit P) :
    TInv P (if 2 ^ t.sd < ic then UTable.resize .full P t (sdFor .clamp P ic) else t) (readResize .clamp P s ic) U W := by
  have g := readResize_good P hP s U W ic h.good hic
  unfold readResize at g ⊢
  rw [h.ref.sd] at g ⊢
  by_cases c : 2 ^ t.sd < ic
  · rw [if_pos c] at g ⊢; rw [if_pos c]
    have hgt := sdFor_gt P t.sd ic c hic
    have hroom := tinv_room P t s U W h
    exact { wf := resize_wf P t h.wf _ hgt (by omega),
            ref := (resize_refines .full P t s (wf_tidy P t h.wf) h.ref _ (by omega)).2,
            good := g,
            sd2 := by show 2 ≤ sdFor .clamp P ic; have := h.sd2; have := h.ref.sd; omega }
  · rw [if_neg c] at g ⊢; rw [if_neg c]; exact { wf := h.wf, ref := h.ref, good := g, sd2 := h.sd2 }

theorem tinv_mergeRead (P : Params) (hP : PWF P) (ch : Tb) (s1 : Sk) (m : Wire) (U1 U2 W : Finset ℕ)
    (h1 : TInv P ch s1 U1 W) (i : Image P m U2 W) :
    ∃ s, TInv P (UTable.mergeRead .full .clamp P ch m) s (U1 ∪ U2) W := by
  have ha1 : ch.alloc = true := h1.alloc
  unfold UTable.mergeRead
  have hna : ¬ ((!ch.alloc) = true) := by simp [ha1]
  rw [if_neg hna]
  exact tinv_absorb_image P _ _ m U1 U2 W i
    (tinv_resize P hP _ _ _ W (tinv_absorb P ch s1 U1 U2 W h1 m.k i.sub i.minimal) m.ic i.lim)


theorem tinv_unmarshal (P : Params) (hP : PWF P) (h2i : 2 ≤ P.initDeg) (m : Wire) (U W : Finset ℕ) (i : Image P m U W)
    (hnd : m.xs.Nodup) : TInv P (UTable.unmarshal .clamp P m) (Unique.unmarshal .clamp P m) U W := by
  obtain ⟨f1, f2, f3⟩ := sdFor_clamp P hP m.ic i.lim
  have hlen : m.xs.length = m.ic := by
    rw [← List.toFinset_card_of_nodup hnd, i.xs, i.ic]
  let T0 : Tb := { alloc := true, buf := Array.replicate (2 ^ sdFor .clamp P m.ic) 0, cnt := 0,
                   sd := sdFor .clamp P m.ic, k := m.k, zero := false }
  obtain ⟨w0, hitems0, htv0⟩ := blank_wf P T0 rfl rfl rfl
  have hpow := Nat.two_pow_pred_mul_two f1
  have h1p : 1 ≤ 2 ^ (sdFor .clamp P m.ic - 1) := Nat.one_le_two_pow
  obtain ⟨e1, wf, tvf, sdf, kf, af⟩ := foldl_readItem P m.ic m.xs T0 w0 hnd
    (by intro x _; rw [htv0]; simp) (by rw [hitems0, hlen]; show 0 + m.ic + 1 ≤ 2 ^ sdFor .clamp P m.ic; omega)
  rw [htv0, Finset.empty_union] at tvf
  have hcf : (m.xs.foldl (UTable.insertImpl P) T0).cnt = m.ic := by
    rw [tidy_cnt _ (wf_tidy P _ wf), tvf, i.xs, i.ic]
  -- UmMarshall sets itemsCount to `m.ic` first and then only fills slots; from the blank table that is insertImpl value by
  -- value, whose final count IS `m.ic`, so presetting it changes nothing
  have hU : UTable.unmarshal .clamp P m = m.xs.foldl (UTable.insertImpl P) T0 := by
    refine (show UTable.unmarshal .clamp P m = setCnt (m.xs.foldl (UTable.insertImpl P) T0) m.ic from e1).trans ?_
    unfold setCnt
    rw [← hcf]
  rw [hU]
  have hkeys : keys P.bits (Unique.unmarshal .clamp P m).items = m.xs.toFinset := by
    show keys P.bits (m.xs.foldl (fun t x => t.insert P.bits x) .nil) = _
    rw [keys_foldl_insert _ _ _ (fun x hx => i.bound x (i.mem x hx)), keys_nil, Finset.empty_union]
  exact { wf := wf,
          ref := { alloc := af.symm, k := kf.symm, sd := sdf.symm, cnt := hcf.symm, vals := by rw [tvf]; exact hkeys,
                   bound := by rw [tvf]; exact fun x hx => i.bound x (i.mem x (List.mem_toFinset.mp hx)) },
          good := unmarshal_good P hP m U W i,
          sd2 := Nat.le_trans h2i (sdFor_ge_init P hP m.ic) }


/-- the program of Part 3, executed on the concrete open-addressing table -/
def trun (P : Params) : Prog → Tb
  | .empty => nilTb
  | .ins p x => UTable.insertHash .full P (UTable.ensure P (trun P p)) x
  | .merge a b => UTable.merge .full P (trun P a) (trun P b)
  | .mread a b => UTable.mergeRead .full .clamp P (trun P a) (UTable.marshal (trun P b))

/-- the table is the zero value `ChUnique{}` (nothing seen), or well-formed and abstracted by a set-model state that
    represents `U` canonically -/
def TRep (P : Params) (t : Tb) (U W : Finset ℕ) : Prop :=
  (t = nilTb ∧ U = ∅ ∧ ∀ x ∈ W, x < 2 ^ P.bits) ∨ ∃ s, TInv P t s U W

theorem trep_bound (P : Params) (t : Tb) (U W : Finset ℕ) (h : TRep P t U W) : ∀ x ∈ W, x < 2 ^ P.bits := by
  rcases h with ⟨_, _, c⟩ | ⟨s, h⟩
  · exact c
  · exact h.good.bound

theorem trep_ensure (P : Params) (hP : PWF P) (h2 : 2 ≤ P.initDeg) (t : Tb) (U W : Finset ℕ) (h : TRep P t U W) :
    ∃ s, TInv P (UTable.ensure P t) s U W := by
  rcases h with ⟨a, b, c⟩ | ⟨s, h⟩
  · subst a; subst b
    exact ⟨_, tinv_reset P hP h2 W c⟩
  · have ha : t.alloc = true := h.alloc
    rw [ensure_alloc P t ha]; exact ⟨s, h⟩

theorem trep_merge (P : Params) (hP : PWF P) (h2 : 2 ≤ P.initDeg) (ch rhs : Tb) (U1 U2 W : Finset ℕ)
    (h1 : TRep P ch U1 W) (hr : TRep P rhs U2 W) : TRep P (UTable.merge .full P ch rhs) (U1 ∪ U2) W := by
  rcases hr with ⟨a, b, _⟩ | ⟨s2, hr⟩
  · subst a; subst b
    have : UTable.merge .full P ch nilTb = ch := by unfold UTable.merge; simp [nilTb]
    rw [this, Finset.union_empty]; exact h1
  · have ha : rhs.alloc = true := hr.alloc
    obtain ⟨s1, h1'⟩ := trep_ensure P hP h2 ch U1 W h1
    rw [merge_ensure P ch rhs ha]
    exact Or.inr (tinv_merge P _ rhs s1 s2 U1 U2 W h1' hr)

theorem trep_image (P : Params) (t : Tb) (U W : Finset ℕ) (h : TRep P t U W) :
    Image P (UTable.marshal t) U W ∧ (UTable.marshal t).xs.Nodup := by
  rcases h with ⟨a, b, c⟩ | ⟨s, h⟩
  · subst a
    subst b
    exact ⟨rep_image P nilSk ∅ W (Or.inr ⟨rfl, rfl, c⟩), List.nodup_nil⟩
  · exact tinv_image P t s U W h

theorem trep_mread (P : Params) (hP : PWF P) (h2 : 2 ≤ P.initDeg) (ch rhs : Tb) (U1 U2 W : Finset ℕ)
    (h1 : TRep P ch U1 W) (hr : TRep P rhs U2 W) :
    TRep P (UTable.mergeRead .full .clamp P ch (UTable.marshal rhs)) (U1 ∪ U2) W := by
  obtain ⟨i, hnd⟩ := trep_image P rhs U2 W hr
  rcases h1 with ⟨a1, b1, _⟩ | ⟨s1, h1⟩
  · subst a1
    subst b1
    rw [Finset.empty_union]
    exact Or.inr ⟨_, tinv_unmarshal P hP h2 _ U2 W i hnd⟩
  · exact Or.inr (tinv_mergeRead P hP ch s1 _ U1 U2 W h1 i)

theorem trun_rep (P : Params) (hP : PWF P) (h2 : 2 ≤ P.initDeg) (W : Finset ℕ) (hW : ∀ x ∈ W, x < 2 ^ P.bits) :
    ∀ p : Prog, hashes p ⊆ W → TRep P (trun P p) (hashes p) W := by
  intro p
  induction p with
  | empty => exact fun _ => Or.inl ⟨rfl, rfl, hW⟩
  | ins p x ih =>
    intro h
    obtain ⟨hx, hp⟩ := Finset.insert_subset_iff.mp h
    obtain ⟨s, hs⟩ := trep_ensure P hP h2 _ _ _ (ih hp)
    exact Or.inr ⟨_, tinv_step P _ s _ _ hs x hx⟩
  | merge a b iha ihb =>
    intro h
    obtain ⟨ha, hb⟩ := Finset.union_subset_iff.mp h
    exact trep_merge P hP h2 _ _ _ _ _ (iha ha) (ihb hb)
  | mread a b iha ihb =>
    intro h
    obtain ⟨ha, hb⟩ := Finset.union_subset_iff.mp h
    exact trep_mread P hP h2 _ _ _ _ _ (iha ha) (ihb hb)

/-- `table_refines`, every program: whatever the order and grouping of inserts, Merge calls and MarshallAppend + MergeRead
    round trips, the concrete open-addressing table is the zero value or well-formed, and it is abstracted by a set-model
    state that represents exactly the set of inserted hashes -/
theorem table_refines_programs (P : Params) (hP : PWF P) (h2 : 2 ≤ P.initDeg) (p : Prog) (hb : ∀ x ∈ hashes p, x < 2 ^ P.bits) :
    TRep P (trun P p) (hashes p) (hashes p) :=
  trun_rep P hP h2 _ hb p (Finset.Subset.refl _)

theorem trep_rep (P : Params) (t : Tb) (U : Finset ℕ) (h : TRep P t U U) :
    ∃ s, Rep P s U U ∧ s.k = t.k ∧ s.cnt = t.cnt ∧ tvals t = fil t.k U := by
  rcases h with ⟨a, b, c⟩ | ⟨s, h⟩
  · subst a; subst b
    refine ⟨nilSk, Or.inr ⟨rfl, rfl, c⟩, rfl, rfl, ?_⟩
    unfold tvals items slots; simp [nilTb, fil]
  · exact ⟨s, Or.inl h.good, h.ref.k, h.ref.cnt, tinv_tvals P t s U U h⟩

/-- C04 for the real data structure: after ANY program (inserts, Merge, MarshallAppend+MergeRead, any order and grouping)
    the open-addressing table is well-formed (or still the zero value), holds exactly the inserted hashes divisible by
    2^skipDegree, skipDegree is the least degree at which they fit, itemsCount is their number — and these agree with the
    set model of Part 3 (`canonical_sketch`). -/
theorem table_canonical (P : Params) (hP : PWF P) (h2 : 2 ≤ P.initDeg) (p : Prog) (hb : ∀ x ∈ hashes p, x < 2 ^ P.bits) :
    (trun P p = nilTb ∨ WF P (trun P p)) ∧
    tvals (trun P p) = fil (trun P p).k (hashes p) ∧
    (fil (trun P p).k (hashes p)).card ≤ limit P ∧
    (∀ j < (trun P p).k, limit P < (fil j (hashes p)).card) ∧
    (trun P p).cnt = (fil (trun P p).k (hashes p)).card ∧
    (trun P p).k = (run P p).k ∧ (trun P p).cnt = (run P p).cnt := by
  have h := table_refines_programs P hP h2 p hb
  obtain ⟨s, rs, ek, ec, etv⟩ := trep_rep P _ _ h
  have hrun := canonical_sketch P hP p hb
  obtain ⟨uk, uc⟩ := rep_unique P s (run P p) _ rs hrun
  have hwf : trun P p = nilTb ∨ WF P (trun P p) := by
    rcases h with ⟨a, _, _⟩ | ⟨s', h'⟩
    · exact Or.inl a
    · exact Or.inr h'.wf
  have hcan := rep_canonical P s _ rs
  rw [ek, ec] at hcan
  exact ⟨hwf, etv, hcan.1, hcan.2.1, hcan.2.2, by rw [← ek, uk], by rw [← ec, uc]⟩

/-- C04 at TABLE level: "Merging the same multiset of contributions in any order and any grouping yields the same …
    unique-value estimate": two programs that insert the same set of hashes end with tables that hold the same values,
    the same skipDegree and the same itemsCount (hence the same Size()), whatever their slot layouts. -/
theorem table_order_independent (P : Params) (hP : PWF P) (h2 : 2 ≤ P.initDeg) (p q : Prog) (h : hashes p = hashes q)
    (hb : ∀ x ∈ hashes p, x < 2 ^ P.bits) :
    (trun P p).k = (trun P q).k ∧ (trun P p).cnt = (trun P q).cnt ∧ tvals (trun P p) = tvals (trun P q) := by
  obtain ⟨_, tv1, _, _, _, k1, c1⟩ := table_canonical P hP h2 p hb
  obtain ⟨_, tv2, _, _, _, k2, c2⟩ := table_canonical P hP h2 q (by rw [← h]; exact hb)
  obtain ⟨ek, ec, _⟩ := estimate_order_independent P hP p q h hb
  have hk : (trun P p).k = (trun P q).k := by rw [k1, k2, ek]
  exact ⟨hk, by rw [c1, c2, ec], by rw [tv1, tv2, hk, h]⟩

def tp1 : Prog := .merge (.ins (.ins (.ins (.ins (.ins .empty 28) 12) 4) 33) 7) (.ins (.ins (.ins (.ins .empty 52) 9) 61) 17)
def tp2 : Prog := .ins (.mread (.ins (.ins (.ins .empty 17) 61) 9) (.merge (.ins (.ins .empty 52) 7) (.ins (.ins (.ins .empty 33) 4) 12))) 28
/- non-vacuity: two programs over the same hashes with Merge and MergeRead on the toy table (4 → 8 → 16 slots, limit 8);
    same skipDegree / itemsCount, both tables well-formed -/
set_option maxRecDepth 40000 in
example : hashes tp1 = hashes tp2 ∧ (∀ x ∈ hashes tp1, x < 2 ^ toyT.bits) ∧
    (trun toyT tp1).k = 1 ∧ (trun toyT tp1).cnt = 4 ∧ (trun toyT tp2).k = 1 ∧ (trun toyT tp2).cnt = 4 ∧
    wfb toyT (trun toyT tp1) = true ∧ wfb toyT (trun toyT tp2) = true := by
  decide +kernel


/-! ## Part 8 — the agent-side apply glue and API rows with unselected columns -/

/-- the item ApplyValues / ApplyValuesLegacy merge is a contribution in the sense of Part 1 -/
theorem valuesItem_wf (values : List Int) (hist : List (Int × Int)) (c total : Int) (h : Host) (hc : 0 ≤ c) :
    Wf (valuesItem values hist c total h) := by
  exact scale_wf c total _ (tmpOk_fold2 c h hist _ (tmpOk_fold1 c h values _ (tmpOk_counter c h))) hc

/-- ApplyValues / ApplyValuesLegacy = ItemValue.Merge with ONE contribution (`valuesItem`), whatever the accumulator holds:
    together with `add_eq_merge` and `applyUnique_eq` every stream of agent-side events is a merge tree of singleton
    contributions, so Part 1 (`value_order_independent`, hosts) covers every order, incl. a counter before the first value -/
theorem applyValues_eq (d : Nat) (s : Multi) (values : List Int) (hist : List (Int × Int)) (c total : Int) (h : Host) (ht : 0 < total) :
    (applyValues d s values hist c total h).v = merge d s.v (valuesItem values hist c total h) ∧
    (applyValues d s values hist c total h).u = s.u := by
  unfold applyValues; rw [if_neg (by omega)]; exact ⟨rfl, rfl⟩

/-- a counter-only contribution followed by a value event, and the other order: same count (6 events), as Part 1 demands -/
example : (applyValues 0 { Multi.zero with v := addCounterHost 0 zero 20 1 } [3] [] 4 4 2).v.cnt = 24 ∧
    (addCounterHost 0 (applyValues 0 Multi.zero [3] [] 4 4 2).v 20 1).cnt = 24 := by decide +kernel

/-- seeded/C04-r3-1 (assign the temporary when the accumulator has no values yet) as a model variant:
    the counter-only contribution is discarded, the count depends on the order (1 instead of 6 events) -/
def applyValuesAssign (d : Nat) (s : Multi) (values : List Int) (hist : List (Int × Int)) (c total : Int) (h : Host) : Multi :=
  if total ≤ 0 then s
  else if s.v.set then { s with v := merge d s.v (valuesItem values hist c total h) }
  else { s with v := valuesItem values hist c total h }

example : (applyValuesAssign 0 { Multi.zero with v := addCounterHost 0 zero 20 1 } [3] [] 4 4 2).v.cnt = 4 ∧
    (addCounterHost 0 (applyValuesAssign 0 Multi.zero [3] [] 4 4 2).v 20 1).cnt = 24 := by decide +kernel

/-! ### API rows when the query selects only some columns (the others are zero in every row) -/

def TsTree.map (f : Ts → Ts) : TsTree → TsTree
  | .leaf r => .leaf (f r)
  | .node l r => .node (TsTree.map f l) (TsTree.map f r)

theorem tsLeaves_map (f : Ts → Ts) (t : TsTree) : tsLeaves (t.map f) = (tsLeaves t).map f := by
  induction t with
  | leaf r => rfl
  | node l r ihl ihr => simp [TsTree.map, tsLeaves, ihl, ihr]

/-- a column selection: any function that zeroes the unselected columns of a row -/
def selectCols (min max sum count sumsq card hosts : Bool) (r : Ts) : Ts :=
  { r with min := if min then r.min else 0, max := if max then r.max else 0, sum := if sum then r.sum else 0,
           count := if count then r.count else 0, sumsq := if sumsq then r.sumsq else 0, card := if card then r.card else 0,
           minHost := if hosts then r.minHost else ⟨0, 0⟩, maxHost := if hosts then r.maxHost else ⟨0, 0⟩ }

/-- C04, API rows, EVERY subset of selected columns: two merge trees over the same multiset of rows agree on all numeric
    columns and host values, also when the rows carry zeros in the unselected columns (in particular when `count` is not
    selected and is 0 in every row) -/
theorem ts_selected_order_independent (mv : Unique.MergeV) (P : Unique.Params) (f : Ts → Ts) (t u : TsTree)
    (hp : (tsLeaves t).Perm (tsLeaves u)) :
    (tsEval mv P (t.map f)).sum = (tsEval mv P (u.map f)).sum ∧ (tsEval mv P (t.map f)).count = (tsEval mv P (u.map f)).count ∧
    (tsEval mv P (t.map f)).sumsq = (tsEval mv P (u.map f)).sumsq ∧ (tsEval mv P (t.map f)).card = (tsEval mv P (u.map f)).card ∧
    (tsEval mv P (t.map f)).min = (tsEval mv P (u.map f)).min ∧ (tsEval mv P (t.map f)).max = (tsEval mv P (u.map f)).max ∧
    (tsEval mv P (t.map f)).minHost.val = (tsEval mv P (u.map f)).minHost.val ∧
    (tsEval mv P (t.map f)).maxHost.val = (tsEval mv P (u.map f)).maxHost.val :=
  ts_order_independent mv P _ _ (by rw [tsLeaves_map, tsLeaves_map]; exact hp.map f)

/-- with `count` unselected the merged min/max are still the least/greatest over the rows -/
theorem ts_min_without_count (mv : Unique.MergeV) (P : Unique.Params) (t : TsTree) :
    Extremal (· ≤ ·) (·.min) (tsLeaves (t.map (selectCols true true false false false false false)))
      (tsEval mv P (t.map (selectCols true true false false false false false))).min := ts_min mv P _

/-- seeded/C04-r3-2 (min/max merged only when rhs.count ≠ 0) as a model variant -/
def tsMergeGuard (mv : Unique.MergeV) (P : Unique.Params) (v r : Ts) : Ts :=
  { tsMerge mv P v r with
    min := if r.count ≠ 0 then (if v.count = 0 ∨ r.min < v.min then r.min else v.min) else v.min,
    max := if r.count ≠ 0 then (if v.count = 0 ∨ v.max < r.max then r.max else v.max) else v.max }

def rowMin (m : Int) : Ts :=
  { min := m, max := m, sum := 0, count := 0, sumsq := 0, card := 0, mergeCount := 0, minHost := ⟨0, 0⟩, maxHost := ⟨0, 0⟩,
    minHostStr := ⟨0, 0⟩, maxHostStr := ⟨0, 0⟩, u := Unique.nilSk }

/-- … for a query that selects min/max but not count (count = 0 in every row) the guarded merge depends on the order; the code's
    merge does not -/
example : (tsMergeGuard .chGood Unique.real (rowMin 5) (rowMin 2)).min = 5 ∧ (tsMergeGuard .chGood Unique.real (rowMin 2) (rowMin 5)).min = 2 ∧
    (tsMerge .chGood Unique.real (rowMin 5) (rowMin 2)).min = 2 ∧ (tsMerge .chGood Unique.real (rowMin 2) (rowMin 5)).min = 2 := by decide +kernel


/-! ## Part 9 — the second pass of rehash is necessary whatever the last slot holds (seeded/C04-r6-1) -/

/-- [14, 0, 0, 13]: 13 and 14 both have home slot 3; 14 wrapped to slot 0; well-formed -/
example : (tabOf .full [13, 14]).buf = #[14, 0, 0, 13] ∧ WF toyT (tabOf .full [13, 14]) :=
  ⟨by decide +kernel, (wfb_decides_WF toyT _ (by decide +kernel)).mp (by decide +kernel)⟩

/-- thinning to skipDegree 1 drops the odd value 13 (the blocker in the last slot). The real rehash then moves 14 into its
    home slot (`table_rehash_restores_WF`): [0, 0, 0, 14], well-formed -/
example : (UTable.rehash toyT { tabOf .full [13, 14] with k := 1 }).buf = #[0, 0, 0, 14] ∧
    WF toyT (UTable.rehash toyT { tabOf .full [13, 14] with k := 1 }) :=
  ⟨by decide +kernel, (wfb_decides_WF toyT _ (by decide +kernel)).mp (by decide +kernel)⟩

/-- with the second pass guarded by "last slot occupied" the last slot is free exactly because the blocker was thinned away:
    14 stays in slot 0 behind its empty home slot — not well-formed, the probe misses it, and merging 14 again stores it twice -/
example : (rehashLastSlotGuard toyT { tabOf .full [13, 14] with k := 1 }).buf = #[14, 0, 0, 0] ∧
    ¬ WF toyT (rehashLastSlotGuard toyT { tabOf .full [13, 14] with k := 1 }) ∧
    (UTable.insertImpl toyT (rehashLastSlotGuard toyT { tabOf .full [13, 14] with k := 1 }) 14).cnt = 2 ∧
    (UTable.insertImpl toyT (UTable.rehash toyT { tabOf .full [13, 14] with k := 1 }) 14).cnt = 1 :=
  ⟨by decide +kernel, fun w => absurd ((wfb_decides_WF toyT _ (by decide +kernel)).mpr w) (by decide +kernel), by decide +kernel, by decide +kernel⟩


end SH.C04
