/-
  C08 — Agent places every accepted event in exactly one correct send second.

  "Every event an agent shard accepts is delivered to sending in exactly one bucket, never in a bucket earlier than the
   event's clamped timestamp, with timestamps of low-resolution metrics rounded down to a multiple of the resolution. All
   agents therefore place the same series in the same second regardless of mapping-cache contents or tag order: when the
   row is not late, its send second depends only on the metric, its original tag values and the timestamp. Events are
   dropped only while the receive queue has a gap, during shutdown, or on a secondary shard before its configured start
   time."
  Quantifier: all sequences of events (any timestamps, resolutions, tag orders, cached/uncached mappings) interleaved with
  flush iterations under any clock progression including pauses and jumps.

  Model: SH.Model.AgentQueue (state machine of one agent.Shard: CurrentTime, SendTime, the ring as a list of
  (cell, event) pairs, stop flag, the preprocess channel, ghost ids). A history is an arbitrary `List Op`
  (events through every entry point / ApplyMetric, `flush nowMs` with an ARBITRARY clock value per call — pauses, jumps
  ahead and back are just values —, consumer drains or not, stop, final FlushAllData). Constants come from SH.Gen.C08,
  regenerated from /repo on every run, so a changed superQueueLen / superQueueFutureSlots / gap literal / resolution table
  re-checks where they must fit together: `allowed_bounds`, `gap_ok`, `slot_in_window` (`K ≤ W`), `due_slot`,
  `statusRes_allowed`, `resolutionOf_allowed`.
  All theorems are over ℕ: the bound on timestamps (no uint32 wrap-around) is not a hypothesis of any of them, it lives
  only in the correspondence check.

  Reading:
    exactly one bucket        → `exactly_once` (always: ring cell or one pushed bucket, exactly once) and
                                `delivered_exactly_once` (after FlushAllData: ring empty, once in the pushed buckets)
    never earlier, rounded    → `slot_in_window` (one step, all inputs; `accepted_slot_within_ring` is its ring-capacity
                                half for an accepting shard) lifted to all histories in `delivered_not_early`
                                / `resident_not_early` through the invariant `TInv`
    same second on all agents → two halves, not composed: for a given hash `placement_deterministic`,
                                `same_second_on_all_agents`, `delivered_not_early` (bucket second = slot when no
                                jump-ahead lap in between); for the hash `resolution_hash_input_independent`
                                (`ov_cache_independent`, `ov_order_independent`); with the scratch buffer:
                                `resolution_hash_same_on_all_agents`, `resolution_hash_ignores_scratch_prefix`,
                                `resolution_hash_same_with_or_without_scratch`; `resolution_after_remote_config`
    drops                     → `drop_only_when`, `accepted_iff_placed`
    two shards (ApplyMetric)  → `am2Step` (primary always with dropIfBefore 0, secondary iff configured, with its start):
                                `run2_shard`, `two_shard_exactly_once`, `two_shard_delivered`, `primary_independent_of_secondary`,
                                `primary_drop_only_gap_or_stop`, `secondary_drop_only_when`, `unconfigured_shard_untouched`
  Assumptions (hypotheses `OpOk`, `hw ∈ allowedResolutions`; `Op2Ok` with `K1Ok` for two shards): resolutions are values of
  format.AllowedResolution — enforced in the code by MetricMetaValue.RestoreCachedInfo and Config validation; ShardFixedKey
  names one of the two shards. uint32 wrap-around is outside the model.
-/
import SH.Model.AgentQueue
import SH.Lemmas.Lists
namespace SH.C08
open SH.AgentQueue SH.Gen.C08

/-! ### slot arithmetic: the chosen slot lies in the ring window -/

theorem allowed_bounds : ∀ r ∈ allowedResolutions, 1 ≤ r ∧ 2 * r ≤ K := by decide

theorem shardNum_lt (hash res : Nat) (hr : 1 ≤ res) : shardNum hash res < res := by
  unfold shardNum
  apply Nat.div_lt_of_lt_mul
  have : hash % 4294967296 < 4294967296 := Nat.mod_lt _ (by decide)
  exact Nat.mul_lt_mul_of_lt_of_le this (Nat.le_refl _) hr

theorem roundTs_le (ts res : Nat) : roundTs ts res ≤ ts := Nat.div_mul_le_self ts res

theorem roundTs_gt (ts res : Nat) (hr : 1 ≤ res) : ts < roundTs ts res + res := Nat.lt_div_mul_add hr

theorem roundTs_dvd (ts res : Nat) : res ∣ roundTs ts res := Nat.dvd_mul_left res (ts / res)

/-- the `res = 1` branch of the stored timestamp is only a shortcut: rounding to 1 s changes nothing -/
theorem keyTs_eq (cts res : Nat) : keyTs cts res = roundTs cts res := by
  unfold keyTs roundTs
  split
  · rename_i h
    rw [h, Nat.div_one, Nat.mul_one]
  · rfl

theorem clampTs_le (ts cur : Nat) : clampTs ts cur ≤ cur + F := by
  unfold clampTs isFuture
  split
  · exact Nat.le_refl _
  · rename_i h
    exact Nat.not_lt.mp fun hh => h (decide_eq_true hh)

theorem discard_false {s : S} (h : AgentQueue.discard s = false) : s.stop = false ∧ gapPos s.cur s.send = false := by
  unfold AgentQueue.discard at h
  exact Bool.or_eq_false_iff.mp h

theorem gap_ok (cur send : Nat) (h : gapPos cur send = false) : cur + F + K ≤ send + W := by
  have hF : F ≤ W := Nat.le_of_ble_eq_true rfl
  have := of_decide_eq_false h
  unfold gap at this
  omega

/-- the late correction of `slotN`: the distance `d` to SendTime rounded up to a multiple of `res` overshoots by less than `res` -/
theorem late_fix (d res : Nat) (hr : 1 ≤ res) : d ≤ (d + res - 1) / res * res ∧ (d + res - 1) / res * res < d + res := by
  have h1 := Nat.div_mul_le_self (d + res - 1) res
  have h2 : d + res - 1 < (d + res - 1) / res * res + res := Nat.lt_div_mul_add hr
  omega

theorem slotOf_bounds (cts res hash send : Nat) (hr : 1 ≤ res) :
    send ≤ slotOf cts res hash send ∧ cts ≤ slotOf cts res hash send ∧
    (slotOf cts res hash send < send + res ∨ slotOf cts res hash send < cts + 2 * res) := by
  unfold slotOf
  split
  · unfold slot1
    split <;> omega
  · have h1 := roundTs_gt cts res hr
    have h2 := shardNum_lt hash res hr
    have h3 := roundTs_le cts res
    unfold slotN slotN0
    split
    · have := late_fix (send - (roundTs cts res + res + shardNum hash res)) res hr
      omega
    · omega

/-- Whenever the receive queue has no gap and the resolution is one of the allowed ones, the slot chosen
    by resolutionShardFromHashLocked lies in the window [SendTime, SendTime + superQueueLen) — so `slot % superQueueLen`
    names a ring cell that has not yet been flushed for that second and will not be flushed for an earlier one —
    and is never earlier than the clamped timestamp. -/
theorem slot_in_window (cur send ts res hash : Nat) (hg : gapPos cur send = false) (hr : res ∈ allowedResolutions) :
    send ≤ slotOf (clampTs ts cur) res hash send ∧ slotOf (clampTs ts cur) res hash send < send + W ∧
    clampTs ts cur ≤ slotOf (clampTs ts cur) res hash send := by
  have hb := allowed_bounds res hr
  have hc := clampTs_le ts cur
  have hgap := gap_ok cur send hg
  have hK : K ≤ W := Nat.le_of_ble_eq_true rfl
  have := slotOf_bounds (clampTs ts cur) res hash send hb.1
  -- late: slot < send + res ≤ send + W; on time: slot < cts + 2·res ≤ cur + F + K ≤ send + W (`gap_ok`); both use `2·res ≤ K`
  omega

/-- **Ring capacity.** `slot_in_window` for every event a shard accepts (shouldDiscardIncomingData false): the arithmetic that
    ties `superQueueLen`, `superQueueFutureSlots`, the literal in gapInReceivingQueueLocked and the largest allowed resolution
    together, all four as regenerated from /repo. -/
theorem accepted_slot_within_ring (s : S) (ts res hash : Nat) (ha : AgentQueue.discard s = false) (hr : res ∈ allowedResolutions) :
    slotOf (clampTs ts s.cur) res hash s.send < s.send + superQueueLen ∧ s.send ≤ slotOf (clampTs ts s.cur) res hash s.send := by
  have := slot_in_window s.cur s.send ts res hash (discard_false ha).2 hr
  exact ⟨this.2.1, this.1⟩

/-! ### what `accept` and `applyEv` return, case by case -/

theorem accept_cases (s : S) (id ts res hash drop : Nat) (aux : Bool) :
    (accept s id ts res hash drop aux = (s, none) ∧
      (s.stop = true ∨ gap s.cur s.send > 0 ∨ keyTs (clampTs ts s.cur) res < drop)) ∨
    (s.stop = false ∧ gapPos s.cur s.send = false ∧
      accept s id ts res hash drop aux =
        (insertEv s (slotOf (clampTs ts s.cur) res hash s.send % W) (mkEv s id ts res hash aux), some (mkPlaced s ts res hash))) := by
  cases hd : AgentQueue.discard s
  · cases hb : beforeStart s ts res drop
    · refine Or.inr ⟨(discard_false hd).1, (discard_false hd).2, ?_⟩
      simp only [accept, hd, hb, Bool.false_eq_true, if_false]
      rfl
    · refine Or.inl ⟨?_, Or.inr (Or.inr (of_decide_eq_true hb))⟩
      simp only [accept, hd, hb, Bool.false_eq_true, if_false, if_true]
  · refine Or.inl ⟨?_, ?_⟩
    · simp only [accept, hd, if_true]
    · rcases Bool.or_eq_true_iff.mp hd with h | h
      · exact Or.inl h
      · exact Or.inr (Or.inl (of_decide_eq_true h))

theorem applyEv_cases (s : S) (emits : Bool) (id ts res hash drop : Nat) :
    (applyEv s emits id ts res hash drop).1 = (accept s id ts res hash drop false).1 ∨
    ∃ kts, (applyEv s emits id ts res hash drop).1 =
      (accept (accept s id ts res hash drop false).1 (id + 1) kts statusResolution 0 drop true).1 := by
  unfold applyEv statusAfter
  split
  · rename_i s1 p heq
    rw [heq]
    split
    · exact Or.inr ⟨p.kts, rfl⟩
    · exact Or.inl rfl
  · rename_i s1 heq
    rw [heq]
    exact Or.inl rfl

theorem applyEv_snd (s : S) (emits : Bool) (id ts res hash drop : Nat) :
    (applyEv s emits id ts res hash drop).2 = (accept s id ts res hash drop false).2 := by
  unfold applyEv
  split <;> rename_i heq <;> rw [heq]

theorem applyEv_none (s : S) (emits : Bool) (id ts res hash drop : Nat) (h : (applyEv s emits id ts res hash drop).2 = none) :
    (applyEv s emits id ts res hash drop).1 = s ∧
    (s.stop = true ∨ gap s.cur s.send > 0 ∨ (0 < drop ∧ keyTs (clampTs ts s.cur) res < drop)) := by
  rcases accept_cases s id ts res hash drop false with ⟨e, hr⟩ | ⟨_, _, e⟩
  · refine ⟨?_, hr.imp_right (Or.imp_right fun h3 => ⟨Nat.lt_of_le_of_lt (Nat.zero_le _) h3, h3⟩)⟩
    simp only [applyEv, e]
  · rw [applyEv_snd, e] at h
    cases h

/-! ### invariants of the ring: every resident event is due at its slot (plus whole laps added by jump-ahead) -/

/-- the second at which ring cell `c` will next be flushed, seen from SendTime = `send` -/
def due (send c : Nat) : Nat := send + (c + W - send % W) % W

theorem due_slot (send sl : Nat) (h1 : send ≤ sl) (h2 : sl < send + W) : due send (sl % W) = sl := by
  unfold due
  simp only [W, superQueueLen] at h2 ⊢
  omega

theorem window_unique {w a b : Nat} (h1 : a ≤ b) (h2 : b < a + w) (h : b % w = a % w) : b = a := by
  have h0 := Nat.sub_mod_eq_zero_of_mod_eq h
  rw [Nat.mod_eq_of_lt (by omega)] at h0
  omega

/-- what is fixed when an event is created: stored timestamp = clamped timestamp rounded down to the resolution; slot not
    earlier than the clamped timestamp -/
def EvOk (e : Ev) : Prop := e.ts = roundTs e.cts e.res ∧ e.cts ≤ e.slot

/-- a resident event: it sits in the cell of its slot, was placed no later than now in laps, the second at which its cell is
    flushed next (slot + one lap per jump-ahead lap since placement) lies in [send, send + W), and `EvOk` -/
structure Resident (send laps : Nat) (p : Nat × Ev) : Prop where
  inCell : p.1 = p.2.slot % W
  placed : p.2.lap ≤ laps
  lo : send ≤ p.2.slot + (laps - p.2.lap) * W
  hi : p.2.slot + (laps - p.2.lap) * W < send + W
  ok : EvOk p.2

theorem Resident.cell {send laps : Nat} {p : Nat × Ev} (h : Resident send laps p) :
    p.1 = send % W ↔ p.2.slot + (laps - p.2.lap) * W = send := by
  obtain ⟨hc, _, h1, h2, _⟩ := h
  have hm : (p.2.slot + (laps - p.2.lap) * W) % W = p.1 := by rw [hc, Nat.add_mul_mod_self_right]
  constructor
  · intro e
    exact window_unique h1 h2 (by rw [hm, e])
  · intro e
    rw [← hm, e]

theorem Resident.new {send : Nat} {e : Ev} (h1 : send ≤ e.slot) (h2 : e.slot < send + W) (he : EvOk e) :
    Resident send e.lap (e.slot % W, e) := by
  refine ⟨rfl, Nat.le_refl _, ?_, ?_, he⟩
  · rw [Nat.sub_self, Nat.zero_mul]
    exact h1
  · rw [Nat.sub_self, Nat.zero_mul]
    exact h2

theorem Resident.step {send laps : Nat} {p : Nat × Ev} (h : Resident send laps p) (hne : p.1 ≠ send % W) :
    Resident (send + 1) laps p := by
  have hn := mt h.cell.mpr hne
  obtain ⟨hc, hl, h1, h2, he⟩ := h
  exact ⟨hc, hl, by omega, by omega, he⟩

theorem Resident.jump {send laps : Nat} {p : Nat × Ev} (h : Resident send laps p) (k : Nat) :
    Resident (send + k * W) (laps + k) p := by
  obtain ⟨hc, hl, h1, h2, he⟩ := h
  have e : (laps + k - p.2.lap) * W = (laps - p.2.lap) * W + k * W := by rw [← Nat.add_mul, Nat.sub_add_comm hl]
  refine ⟨hc, Nat.le_trans hl (Nat.le_add_right _ _), ?_, ?_, he⟩
  · rw [e, ← Nat.add_assoc]
    exact Nat.add_le_add_right h1 _
  · rw [e, ← Nat.add_assoc, Nat.add_right_comm send]
    exact Nat.add_lt_add_right h2 _

def RingOk (s : S) : Prop := ∀ p ∈ s.ring, Resident s.send s.laps p

def OutOk (s : S) : Prop :=
  ∀ b ∈ s.out, ∀ e ∈ b.items, e.lap ≤ b.lap ∧ b.time = e.slot + (b.lap - e.lap) * W ∧ EvOk e

def CfgOk (s : S) : Prop := s.hwRes ∈ allowedResolutions ∧ s.hwSlow ∈ allowedResolutions

/-- the timing invariant: what waits in the ring, what was pushed, the configured hardware resolutions -/
def TInv (s : S) : Prop := RingOk s ∧ OutOk s ∧ CfgOk s

/-- for record updates that touch no field read here.  Not `exact h`: to see that `bump X` has the fields of `X` the unifier
    unfolds `X` (dear for `applyEv …`, out of recursion depth for `iterStep W s`); so, like `Cons.frame` below,
    applied to a variable -/
theorem TInv.frame {s t : S} (h : TInv s) (hr : t.ring = s.ring) (hs : t.send = s.send) (hl : t.laps = s.laps)
    (ho : t.out = s.out) (h1 : t.hwRes = s.hwRes) (h2 : t.hwSlow = s.hwSlow) : TInv t := by
  unfold TInv RingOk OutOk CfgOk at *
  rw [hr, hs, hl, ho, h1, h2]
  exact h

theorem accept_TInv (s : S) (id ts res hash drop : Nat) (aux : Bool) (hr : res ∈ allowedResolutions) (h : TInv s) :
    TInv (accept s id ts res hash drop aux).1 := by
  rcases accept_cases s id ts res hash drop aux with ⟨e, _⟩ | ⟨_, hg, e⟩
  · rw [e]
    exact h
  · rw [e]
    have hw := slot_in_window s.cur s.send ts res hash hg hr
    refine ⟨?_, h.2.1, h.2.2⟩
    intro p hp
    rcases List.mem_cons.mp hp with hp | hp
    · rw [hp]
      exact Resident.new (e := mkEv s id ts res hash aux) hw.1 hw.2.1 ⟨keyTs_eq _ _, hw.2.2⟩
    · exact h.1 p hp

theorem statusRes_allowed : statusResolution ∈ allowedResolutions := by decide

theorem applyEv_TInv (s : S) (emits : Bool) (id ts res hash drop : Nat) (hr : res ∈ allowedResolutions) (h : TInv s) :
    TInv (applyEv s emits id ts res hash drop).1 := by
  have h1 := accept_TInv s id ts res hash drop false hr h
  rcases applyEv_cases s emits id ts res hash drop with e | ⟨kts, e⟩
  · rw [e]
    exact h1
  · rw [e]
    exact accept_TInv _ _ _ _ _ _ _ statusRes_allowed h1

/-- `t` is `s` after FlushAllDataSingleStep, either branch: SendTime moves on, the events of its cell leave the ring for one
    new bucket (left out only when empty), nothing else the invariants read changes -/
structure Sent (s t : S) : Prop where
  ring : t.ring = s.ring.filter (fun p => !(p.1 == s.send % W))
  out : t.out = s.out ∨ t.out = s.out ++ [{ time := s.send, items := cellItems s (s.send % W), lap := s.laps }]
  ids : outIds t = outIds s ++ (cellItems s (s.send % W)).map (·.id)
  send : t.send = s.send + 1
  laps : t.laps = s.laps
  acc : t.acc = s.acc
  next : t.next = s.next
  hwRes : t.hwRes = s.hwRes
  hwSlow : t.hwSlow = s.hwSlow

theorem singleStep_sent (s : S) (se : Bool) : Sent s (singleStep s se) := by
  unfold singleStep
  split
  · rename_i hk
    have he : cellItems s (s.send % W) = [] := List.isEmpty_iff.mp (Bool.and_eq_true_iff.mp hk).1
    refine ⟨?_, Or.inl rfl, by rw [he, List.map_nil, List.append_nil]; rfl, rfl, rfl, rfl, rfl, rfl, rfl⟩
    -- the cell is empty: taking its events out of the ring changes nothing
    exact (List.filter_eq_self.mpr fun p hp => by
      have := List.filter_eq_nil_iff.mp (List.map_eq_nil_iff.mp he) p hp
      simpa using this).symm
  · refine ⟨rfl, Or.inr rfl, ?_, rfl, rfl, rfl, rfl, rfl, rfl⟩
    simp only [outIds, List.flatMap_append, List.flatMap_cons, List.flatMap_nil, List.append_nil]

theorem Sent.TInv {s t : S} (h : Sent s t) (hT : TInv s) : TInv t := by
  obtain ⟨hr, ho, hc⟩ := hT
  refine ⟨fun p hp => ?_, fun b hb e he => ?_, by unfold CfgOk; rw [h.hwRes, h.hwSlow]; exact hc⟩
  · rw [h.ring, List.mem_filter] at hp
    rw [h.send, h.laps]
    exact (hr p hp.1).step (by simpa using hp.2)
  · rcases h.out with e1 | e1 <;> rw [e1] at hb
    · exact ho b hb e he
    · rcases List.mem_append.mp hb with hb | hb
      · exact ho b hb e he
      · rw [List.mem_singleton.mp hb] at he ⊢
        simp only [cellItems, List.mem_map, List.mem_filter] at he
        obtain ⟨p, ⟨hp, hpc⟩, rfl⟩ := he
        exact ⟨(hr p hp).placed, ((hr p hp).cell.mp (by simpa using hpc)).symm, (hr p hp).ok⟩

theorem singleStep_TInv (s : S) (se : Bool) (h : TInv s) : TInv (singleStep s se) := (singleStep_sent s se).TInv h

theorem iterStep_ind {P : S → Prop} (hstep : ∀ s se, P s → P (singleStep s se)) (n : Nat) (s : S) (h : P s) :
    P (iterStep n s) := by
  induction n generalizing s with
  | zero => exact h
  | succ n ih => exact ih _ (hstep _ _ h)

theorem flush_ind {P : S → Prop} (hstep : ∀ s se, P s → P (singleStep s se))
    (hjump : ∀ s k, P s → P { s with send := s.send + k * W, laps := s.laps + k })
    (hcur : ∀ s n, P s → P { s with cur := n }) (s : S) (nowMs : Nat) (h : P s) : P (flush s nowMs) := by
  have h1 : P (advanceCur s (nowMs / 1000)) := by
    unfold advanceCur
    split
    · exact hcur _ _ h
    · exact h
  have h2 : P (jump (advanceCur s (nowMs / 1000))) := by
    unfold jump
    split
    · exact hjump _ _ h1
    · exact h1
  unfold flush
  generalize jump (advanceCur s (nowMs / 1000)) = t at h2 ⊢
  generalize t.cur - t.send = fuel
  induction fuel generalizing t with
  | zero => exact h2
  | succ n ih =>
    unfold flushLoop
    split
    · exact h2
    · exact ih _ (hstep _ _ h2)

theorem flushAll_ind {P : S → Prop} (hstep : ∀ s se, P s → P (singleStep s se))
    (hchan : ∀ s, P s → P { s with chanLen := 0 }) (s : S) (h : P s) : P (flushAll s) :=
  hchan _ (iterStep_ind hstep W s h)

/-- resolutions come from `format.AllowedResolution` (MetricMetaValue.RestoreCachedInfo, Config.ValidateConfigSource) -/
def OpOk : Op → Prop
  | .ev _ mk _ res _ _ => mk = .normal → res ∈ allowedResolutions
  | .am _ res _ _ => res ∈ allowedResolutions
  | .amSec _ res _ _ => res ∈ allowedResolutions
  | .rc hw hwSlow => hw ∈ allowedResolutions ∧ hwSlow ∈ allowedResolutions
  | _ => True

theorem resolutionOf_allowed (s : S) (mk : MK) (res : Nat) (hc : CfgOk s) (h : mk = .normal → res ∈ allowedResolutions) :
    resolutionOf s mk res ∈ allowedResolutions := by
  cases mk
  · show 1 ∈ allowedResolutions; decide
  · exact h rfl
  · exact hc.1
  · exact hc.2

theorem flushAll_TInv (s : S) (h : TInv s) : TInv (flushAll s) :=
  flushAll_ind singleStep_TInv (fun _ h => h.frame rfl rfl rfl rfl rfl rfl) s h

theorem bump_TInv {s : S} (h : TInv s) : TInv (bump s) := h.frame rfl rfl rfl rfl rfl rfl

theorem step_TInv (s : S) (op : Op) (hop : OpOk op) (h : TInv s) : TInv (step s op) := by
  cases op with
  | ev e mk ts res hash drop =>
    exact bump_TInv (applyEv_TInv _ _ _ _ _ _ _ (resolutionOf_allowed s mk res h.2.2 hop) h)
  | rc hw hwSlow => exact ⟨h.1, h.2.1, hop⟩
  | am ts res hash | amSec ts res hash =>
    exact bump_TInv (applyEv_TInv _ _ _ _ _ _ _ hop (accept_TInv _ _ _ _ _ _ _ statusRes_allowed h))
  | skip => exact bump_TInv h
  | flush nowMs =>
    exact flush_ind singleStep_TInv (fun _ k h => ⟨fun p hp => (h.1 p hp).jump k, h.2.1, h.2.2⟩)
      (fun _ _ h => h.frame rfl rfl rfl rfl rfl rfl) s nowMs h
  | drain | stop => exact h.frame rfl rfl rfl rfl rfl rfl
  | flushAll => exact flushAll_TInv _ h

theorem run_TInv (ops : List Op) (s : S) (hops : ∀ op ∈ ops, OpOk op) (h : TInv s) : TInv (run s ops) := by
  induction ops generalizing s with
  | nil => exact h
  | cons op ops ih =>
    exact ih _ (fun o ho => hops o (List.mem_cons_of_mem _ ho)) (step_TInv _ _ (hops op List.mem_cons_self) h)

theorem init_TInv (t0 hw hws : Nat) (h1 : hw ∈ allowedResolutions) (h2 : hws ∈ allowedResolutions) : TInv (init t0 hw hws) := by
  refine ⟨?_, ?_, h1, h2⟩
  · intro p hp; cases hp
  · intro b hb; cases hb

/-! ### exactly once -/

/-- the ids in the ring and in the pushed buckets are the accepted ids, each once -/
def PN (s : S) : Prop := (locations s).Perm s.acc ∧ s.acc.Nodup

/-- exactly-once invariant: `PN`, and every accepted id lies below the block of four ghost ids of the next call -/
def Cons (s : S) : Prop := PN s ∧ ∀ id ∈ s.acc, id < 4 * s.next

theorem Cons.frame {s t : S} (h : Cons s) (hr : t.ring = s.ring) (ho : t.out = s.out) (ha : t.acc = s.acc)
    (hn : t.next = s.next) : Cons t := by
  unfold Cons PN locations ringIds outIds at *
  rw [hr, ho, ha, hn]
  exact h

/-- `t` is `s` after a call that took the events with ghost ids `ids` (newest first): they are in the ring and recorded as
    accepted, and nothing else that the exactly-once argument or the drop conditions read has changed -/
structure Took (s t : S) (ids : List Nat) : Prop where
  locs : locations t = ids ++ locations s
  acc : t.acc = ids ++ s.acc
  next : t.next = s.next
  stop : t.stop = s.stop
  cur : t.cur = s.cur
  send : t.send = s.send

theorem Took.refl (s : S) : Took s s [] := ⟨rfl, rfl, rfl, rfl, rfl, rfl⟩

theorem Took.trans {s t u : S} {l m : List Nat} (h1 : Took s t l) (h2 : Took t u m) : Took s u (m ++ l) :=
  ⟨by rw [h2.locs, h1.locs, List.append_assoc], by rw [h2.acc, h1.acc, List.append_assoc], h2.next.trans h1.next,
    h2.stop.trans h1.stop, h2.cur.trans h1.cur, h2.send.trans h1.send⟩

theorem accept_took (s : S) (id ts res hash drop : Nat) (aux : Bool) :
    ∃ ids, Took s (accept s id ts res hash drop aux).1 ids ∧ ids.Sublist [id] ∧
      ((accept s id ts res hash drop aux).2 ≠ none → id ∈ ids) := by
  rcases accept_cases s id ts res hash drop aux with ⟨e, _⟩ | ⟨_, _, e⟩ <;> rw [e]
  · exact ⟨[], Took.refl s, List.nil_sublist _, fun h => absurd rfl h⟩
  · exact ⟨[id], ⟨rfl, rfl, rfl, rfl, rfl, rfl⟩, List.Sublist.refl _, fun _ => List.mem_cons_self⟩

theorem applyEv_took (s : S) (emits : Bool) (id ts res hash drop : Nat) :
    ∃ ids, Took s (applyEv s emits id ts res hash drop).1 ids ∧ ids.Sublist [id + 1, id] ∧
      ((applyEv s emits id ts res hash drop).2 ≠ none → id ∈ ids) := by
  obtain ⟨l, h1, hl, hm⟩ := accept_took s id ts res hash drop false
  rw [applyEv_snd]
  rcases applyEv_cases s emits id ts res hash drop with e | ⟨kts, e⟩ <;> rw [e]
  · exact ⟨l, h1, hl.trans (List.sublist_cons_self _ _), hm⟩
  · obtain ⟨m, h2, hm2, _⟩ := accept_took (accept s id ts res hash drop false).1 (id + 1) kts statusResolution 0 drop true
    exact ⟨m ++ l, h1.trans h2, hm2.append hl, fun h => List.mem_append_right _ (hm h)⟩

/-- one critical section takes its ids from its own block `4·next … 4·next + 3`, each at most once -/
theorem Took.bump_Cons {s t : S} {ids : List Nat} (h : Took s t ids) (hc : Cons s)
    (hs : ids.Sublist [4 * s.next + 1, 4 * s.next, 4 * s.next + 2]) : Cons (bump t) := by
  obtain ⟨⟨hp, hd⟩, hb⟩ := hc
  have hi : ∀ x ∈ ids, 4 * s.next ≤ x ∧ x < 4 * (s.next + 1) := fun x hx => by
    have := hs.subset hx
    simp only [List.mem_cons, List.not_mem_nil, or_false] at this
    omega
  refine ⟨⟨?_, ?_⟩, ?_⟩
  · show (locations t).Perm t.acc
    rw [h.locs, h.acc]
    exact hp.append_left _
  · show t.acc.Nodup
    rw [h.acc]
    exact List.nodup_append.mpr ⟨hs.nodup (by simp), hd,
      fun a ha b hb' e => Nat.lt_irrefl _ (Nat.lt_of_le_of_lt (hi a ha).1 (e ▸ hb b hb'))⟩
  · show ∀ x ∈ t.acc, x < 4 * (t.next + 1)
    rw [h.acc, h.next]
    intro x hx
    rcases List.mem_append.mp hx with hx | hx
    · exact (hi x hx).2
    · exact Nat.lt_of_lt_of_le (hb x hx) (Nat.mul_le_mul_left 4 (Nat.le_succ _))

theorem evStep_Cons (s : S) (e : Entry) (mk : MK) (ts res hash drop : Nat) (h : Cons s) :
    Cons (evStep s e mk ts res hash drop).1 := by
  obtain ⟨ids, ht, hl, _⟩ := applyEv_took s e.emits (4 * s.next) ts (resolutionOf s mk res) hash drop
  exact ht.bump_Cons h (hl.trans (List.sublist_append_left _ [_]))

/-- the primary-shard step is the general one with dropIfBeforeTimestamp = 0 (the model writes it out a second time) -/
theorem amStep_eq (s : S) (ts res hash : Nat) : amStep s ts res hash = amStepD s ts res hash 0 := rfl

/-- ApplyMetric's OKCached status takes id 4·next + 2, the event and its own status 4·next and 4·next + 1 -/
theorem amStepD_Cons (s : S) (ts res hash drop : Nat) (h : Cons s) : Cons (amStepD s ts res hash drop).1 := by
  obtain ⟨l0, h0, hl0, _⟩ := accept_took s (4 * s.next + 2) 0 statusResolution 0 drop true
  obtain ⟨l1, h1, hl1, _⟩ :=
    applyEv_took (accept s (4 * s.next + 2) 0 statusResolution 0 drop true).1 true (4 * s.next) ts res hash drop
  exact (h0.trans h1).bump_Cons h (hl1.append hl0)

theorem Sent.Cons {s t : S} (h : Sent s t) (hC : Cons s) : Cons t := by
  obtain ⟨⟨hp, hn⟩, hb⟩ := hC
  refine ⟨⟨?_, by rw [h.acc]; exact hn⟩, by rw [h.acc, h.next]; exact hb⟩
  rw [h.acc]
  refine List.Perm.trans ?_ hp
  have hf := (List.filter_append_perm (fun p => p.1 == s.send % W) s.ring).map (·.2.id)
  unfold locations ringIds
  rw [h.ring, h.ids]
  simp only [cellItems, List.map_map, List.map_append] at hf ⊢
  -- A ++ (O ++ B) ~ R ++ O  from  B ++ A ~ R
  exact (List.perm_append_comm.trans (List.append_assoc _ _ _ ▸ hf.append_left _)).trans List.perm_append_comm

theorem singleStep_Cons (s : S) (se : Bool) (h : Cons s) : Cons (singleStep s se) := (singleStep_sent s se).Cons h

theorem flushAll_Cons (s : S) (h : Cons s) : Cons (flushAll s) :=
  flushAll_ind singleStep_Cons (fun _ h => h.frame rfl rfl rfl rfl) s h

theorem step_Cons (s : S) (op : Op) (h : Cons s) : Cons (step s op) := by
  cases op with
  | ev e mk ts res hash drop => exact evStep_Cons _ _ _ _ _ _ _ h
  | am | amSec => exact amStepD_Cons _ _ _ _ _ h
  | skip => exact (Took.refl s).bump_Cons h (List.nil_sublist _)
  | flush nowMs =>
    exact flush_ind singleStep_Cons (fun _ _ h => h.frame rfl rfl rfl rfl) (fun _ _ h => h.frame rfl rfl rfl rfl) s nowMs h
  | rc | drain | stop => exact h.frame rfl rfl rfl rfl
  | flushAll => exact flushAll_Cons _ h

theorem run_Cons (ops : List Op) (s : S) (h : Cons s) : Cons (run s ops) := by
  induction ops generalizing s with
  | nil => exact h
  | cons op ops ih => exact ih _ (step_Cons _ _ h)

theorem init_Cons (t0 hw hws : Nat) : Cons (init t0 hw hws) := by
  refine ⟨⟨List.Perm.refl _, List.nodup_nil⟩, ?_⟩
  intro id hid; cases hid

/-! ### FlushAllData empties the ring: SendTime passes every due second -/

theorem iterStep_frame (n : Nat) (s : S) :
    (iterStep n s).send = s.send + n ∧ (iterStep n s).laps = s.laps ∧ ∀ p ∈ (iterStep n s).ring, p ∈ s.ring := by
  induction n generalizing s with
  | zero => exact ⟨rfl, rfl, fun _ hp => hp⟩
  | succ n ih =>
    obtain ⟨h1, h2, h3⟩ := ih (singleStep s false)
    have f := singleStep_sent s false
    refine ⟨?_, h2.trans f.laps, fun p hp => (List.mem_filter.mp (f.ring ▸ h3 p hp)).1⟩
    show (iterStep n (singleStep s false)).send = s.send + (n + 1)
    rw [h1, f.send, Nat.add_assoc, Nat.add_comm 1 n]

theorem flushAll_ring_empty (s : S) (h : TInv s) : (flushAll s).ring = [] := by
  obtain ⟨h1, h2, h3⟩ := iterStep_frame W s
  have hT := (iterStep_ind singleStep_TInv W s h).1
  unfold flushAll
  generalize iterStep W s = t at *
  apply List.eq_nil_iff_forall_not_mem.mpr
  intro p hp
  have hd := hT p hp
  rw [h1, h2] at hd
  exact Nat.lt_irrefl _ (Nat.lt_of_lt_of_le (h.1 p (h3 p hp)).hi hd.lo)

theorem Cons.count {s : S} (h : Cons s) :
    (∀ id ∈ s.acc, (locations s).count id = 1) ∧ (∀ id, id ∉ s.acc → (locations s).count id = 0) := by
  obtain ⟨⟨hp, hn⟩, _⟩ := h
  constructor
  · intro id hid
    rw [hp.count_eq, hn.count, if_pos hid]
  · intro id hid
    rw [hp.count_eq]
    exact List.count_eq_zero_of_not_mem hid

theorem flushAll_delivered {s : S} (hT : TInv s) (hC : Cons s) :
    (flushAll s).ring = [] ∧ ∀ id ∈ (flushAll s).acc, (outIds (flushAll s)).count id = 1 := by
  have hr := flushAll_ring_empty s hT
  refine ⟨hr, fun id hid => ?_⟩
  have := (flushAll_Cons s hC).count.1 id hid
  unfold locations ringIds at this
  rw [hr] at this
  simpa using this

theorem run_snoc (s : S) (ops : List Op) (op : Op) : run s (ops ++ [op]) = step (run s ops) op := by
  unfold run
  rw [List.foldl_append]
  rfl

/-! ### over all histories -/

/-- **Exactly once.** After ANY sequence of events, flushes under any clock (pauses, jumps ahead and back), consumer stalls,
    stop and final flush, every accepted event id is in exactly one place — a ring cell or one pushed bucket — exactly once,
    and nothing that was not accepted is anywhere. -/
theorem exactly_once (t0 hw hws : Nat) (ops : List Op) :
    (∀ id ∈ (run (init t0 hw hws) ops).acc, (locations (run (init t0 hw hws) ops)).count id = 1) ∧
    (∀ id, id ∉ (run (init t0 hw hws) ops).acc → (locations (run (init t0 hw hws) ops)).count id = 0) :=
  (run_Cons ops _ (init_Cons t0 hw hws)).count

/-- **Delivered exactly once.** When the script ends with Agent.FlushAllData, the ring is empty and every accepted event id
    occurs exactly once in the buckets pushed to BucketsToPreprocess (hence in exactly one bucket). -/
theorem delivered_exactly_once (t0 hw hws : Nat) (ops : List Op) (h1 : hw ∈ allowedResolutions) (h2 : hws ∈ allowedResolutions)
    (hops : ∀ op ∈ ops, OpOk op) :
    (run (init t0 hw hws) (ops ++ [.flushAll])).ring = [] ∧
    ∀ id ∈ (run (init t0 hw hws) (ops ++ [.flushAll])).acc, (outIds (run (init t0 hw hws) (ops ++ [.flushAll]))).count id = 1 := by
  rw [run_snoc]
  exact flushAll_delivered (run_TInv ops _ hops (init_TInv t0 hw hws h1 h2)) (run_Cons ops _ (init_Cons t0 hw hws))

/-- **Never early, rounded.** Every event of every pushed bucket: the bucket's second is not earlier than the event's
    clamped timestamp; the stored timestamp is the clamped one rounded down to a multiple of the resolution; the
    bucket's second is the slot chosen at placement plus one whole lap of the ring per jump-ahead lap in between
    (so exactly the slot when no jump-ahead happened meanwhile). -/
theorem delivered_not_early (t0 hw hws : Nat) (ops : List Op) (h1 : hw ∈ allowedResolutions) (h2 : hws ∈ allowedResolutions)
    (hops : ∀ op ∈ ops, OpOk op) :
    ∀ b ∈ (run (init t0 hw hws) ops).out, ∀ e ∈ b.items,
      e.cts ≤ b.time ∧ e.ts ≤ e.cts ∧ e.ts = e.cts / e.res * e.res ∧ e.res ∣ e.ts ∧
      b.time = e.slot + (b.lap - e.lap) * W ∧ (b.lap = e.lap → b.time = e.slot) := by
  have hT := run_TInv ops _ hops (init_TInv t0 hw hws h1 h2)
  intro b hb e he
  obtain ⟨hl, ht, hts, hsl⟩ := hT.2.1 b hb e he
  refine ⟨?_, ?_, hts, ?_, ht, ?_⟩
  · rw [ht]; exact Nat.le_trans hsl (Nat.le_add_right _ _)
  · rw [hts]; exact roundTs_le _ _
  · rw [hts]; exact roundTs_dvd _ _
  · intro hbl
    rw [ht, hbl, Nat.sub_self, Nat.zero_mul, Nat.add_zero]

/-- the same for events still waiting in the ring: their cell will be flushed at a second ≥ their clamped timestamp -/
theorem resident_not_early (t0 hw hws : Nat) (ops : List Op) (h1 : hw ∈ allowedResolutions) (h2 : hws ∈ allowedResolutions)
    (hops : ∀ op ∈ ops, OpOk op) :
    ∀ p ∈ (run (init t0 hw hws) ops).ring, p.1 < W ∧ p.2.cts ≤ due (run (init t0 hw hws) ops).send p.1 ∧
      p.2.ts = p.2.cts / p.2.res * p.2.res := by
  have hT := run_TInv ops _ hops (init_TInv t0 hw hws h1 h2)
  intro p hp
  have hr := hT.1 p hp
  refine ⟨by rw [hr.inCell]; exact Nat.mod_lt _ (by decide), ?_, hr.ok.1⟩
  rw [hr.inCell, ← Nat.add_mul_mod_self_right _ ((run (init t0 hw hws) ops).laps - p.2.lap) W, due_slot _ _ hr.lo hr.hi]
  exact Nat.le_trans hr.ok.2 (Nat.le_add_right _ _)

/-! ### placement is a function of (resolution, hash of original tag values, timestamp) when not late and not clamped -/

def canonSlot (ts res hash : Nat) : Nat := if res = 1 then ts else roundTs ts res + res + shardNum hash res

/-- **Deterministic placement.** For an explicit timestamp that is not clamped to the future (ts ≤ CurrentTime + future slots)
    and a row that is not late (its canonical second has not been sent yet), the chosen slot and the stored timestamp do not
    depend on CurrentTime or SendTime at all: they are `canonSlot ts res hash` and `ts` rounded down. -/
theorem placement_deterministic (cur send ts res hash : Nat) (h0 : ts ≠ 0) (hf : ts ≤ cur + F)
    (hl : send ≤ canonSlot ts res hash) :
    slotOf (clampTs ts cur) res hash send = canonSlot ts res hash ∧ keyTs (clampTs ts cur) res = roundTs ts res := by
  have hc : clampTs ts cur = ts := by
    rw [clampTs, tsOrCur, if_neg h0]
    exact if_neg fun h => Nat.not_lt.mpr hf (of_decide_eq_true h)
  rw [hc, keyTs_eq]
  refine ⟨?_, rfl⟩
  unfold slotOf canonSlot at *
  split
  · rename_i h1
    rw [if_pos h1] at hl
    exact if_neg (Nat.not_lt.mpr hl)
  · rename_i h1
    rw [if_neg h1] at hl
    exact if_neg (Nat.not_lt.mpr hl)

/-- two agents (or one agent at two moments) with different clocks and send cursors place a row of the same resolution,
    resolution hash and timestamp in the same second (that the hash agrees is `resolution_hash_same_on_all_agents`) -/
theorem same_second_on_all_agents (cur₁ send₁ cur₂ send₂ ts res hash : Nat) (h0 : ts ≠ 0)
    (hf₁ : ts ≤ cur₁ + F) (hf₂ : ts ≤ cur₂ + F)
    (hl₁ : send₁ ≤ canonSlot ts res hash) (hl₂ : send₂ ≤ canonSlot ts res hash) :
    slotOf (clampTs ts cur₁) res hash send₁ = slotOf (clampTs ts cur₂) res hash send₂ ∧
    keyTs (clampTs ts cur₁) res = keyTs (clampTs ts cur₂) res := by
  have a := placement_deterministic cur₁ send₁ ts res hash h0 hf₁ hl₁
  have b := placement_deterministic cur₂ send₂ ts res hash h0 hf₂ hl₂
  exact ⟨a.1.trans b.1.symm, a.2.trans b.2.symm⟩

/-! ### drops -/

/-- **Drops.** An event handed to any Shard entry point is dropped only during shutdown, while the receive queue has a gap
    (CurrentTime too far ahead of SendTime), or — `dropIfBeforeTimestamp` is non-zero only on a secondary shard — because its
    clamped, rounded timestamp is before that shard's configured start time. A dropped event leaves no trace. -/
theorem drop_only_when (s : S) (e : Entry) (mk : MK) (ts res hash drop : Nat)
    (h : (evStep s e mk ts res hash drop).2 = none) :
    (evStep s e mk ts res hash drop).1 = bump s ∧
    (s.stop = true ∨ gap s.cur s.send > 0 ∨ (0 < drop ∧ keyTs (clampTs ts s.cur) (resolutionOf s mk res) < drop)) := by
  unfold evStep at h ⊢
  obtain ⟨h1, h2⟩ := applyEv_none s e.emits (4 * s.next) ts (resolutionOf s mk res) hash drop h
  exact ⟨by rw [h1], h2⟩

/-- an event is accepted iff its ghost id enters the accepted set (what `exactly_once` quantifies over) -/
theorem accepted_iff_placed (s : S) (e : Entry) (mk : MK) (ts res hash drop : Nat) (hc : Cons s) :
    (evStep s e mk ts res hash drop).2 ≠ none ↔ 4 * s.next ∈ (evStep s e mk ts res hash drop).1.acc := by
  constructor
  · intro h
    obtain ⟨ids, ht, _, hm⟩ := applyEv_took s e.emits (4 * s.next) ts (resolutionOf s mk res) hash drop
    show 4 * s.next ∈ (applyEv s e.emits (4 * s.next) ts (resolutionOf s mk res) hash drop).1.acc
    rw [ht.acc]
    exact List.mem_append_left _ (hm h)
  · intro h hn
    rw [(drop_only_when s e mk ts res hash drop hn).1] at h
    exact Nat.lt_irrefl _ (hc.2 _ h)

theorem amStepD_none (s : S) (ts res hash drop : Nat) (h : (amStepD s ts res hash drop).2 = none) :
    s.stop = true ∨ gap s.cur s.send > 0 ∨ (0 < drop ∧ keyTs (clampTs ts s.cur) res < drop) := by
  unfold amStepD at h
  obtain ⟨_, ht, _⟩ := accept_took s (4 * s.next + 2) 0 statusResolution 0 drop true
  have h2 := (applyEv_none _ _ _ _ _ _ _ h).2
  rwa [ht.stop, ht.cur, ht.send] at h2

/-! ### the resolution hash input does not depend on tag order or on the mapping cache -/

theorem mapTag_ov (cache : List (Bytes × Int)) (h : Hdr) (t : Nat × Bytes) : (mapTag cache h t).ov = h.ov.set t.1 t.2 := by
  unfold mapTag
  split
  · rfl
  · split <;> rfl

theorem foldl_mapTag_ov (cache : List (Bytes × Int)) (tags : List (Nat × Bytes)) (h : Hdr) :
    (tags.foldl (mapTag cache) h).ov = tags.foldl (fun ov t => ov.set t.1 t.2) h.ov := by
  induction tags generalizing h with
  | nil => rfl
  | cons t tags ih => simp only [List.foldl_cons]; rw [ih, mapTag_ov]

/-- **Mapping-cache independence.** OriginalTagValues (the only input of the resolution hash besides the metric id) is the
    same whatever the mappings cache contains — although the Key tags themselves differ (mapped int vs. string). -/
theorem ov_cache_independent (c₁ c₂ : List (Bytes × Int)) (tags : List (Nat × Bytes)) :
    (mapAll c₁ tags).ov = (mapAll c₂ tags).ov := by
  unfold mapAll; rw [foldl_mapTag_ov, foldl_mapTag_ov]

/-- **Tag-order independence.** For tags with pairwise distinct names (indices), any reordering of the tags in the incoming
    event gives the same OriginalTagValues. -/
theorem ov_order_independent (c : List (Bytes × Int)) (tags₁ tags₂ : List (Nat × Bytes)) (hp : tags₁.Perm tags₂)
    (hn : (tags₁.map (·.1)).Nodup) : (mapAll c tags₁).ov = (mapAll c tags₂).ov := by
  unfold mapAll; rw [foldl_mapTag_ov, foldl_mapTag_ov]
  apply hp.foldl_eq'
  intro x hx y hy z
  by_cases hxy : x.1 = y.1
  · rw [Lists.nodup_map_inj _ hn x hx y hy hxy]
  · exact List.set_comm _ _ hxy

/-- hence the marshalled bytes that are hashed (and so the hash, whatever function it is) agree between any two agents -/
theorem resolution_hash_input_independent (metric : Nat) (c₁ c₂ : List (Bytes × Int)) (tags₁ tags₂ : List (Nat × Bytes))
    (hp : tags₁.Perm tags₂) (hn : (tags₁.map (·.1)).Nodup) (H : Bytes → Nat) :
    H (marshal metric (mapAll c₁ tags₁).ov) = H (marshal metric (mapAll c₂ tags₂).ov) := by
  rw [ov_cache_independent c₁ c₂ tags₁, ov_order_independent c₂ tags₁ tags₂ hp hn]

/-- `scratch[:0]`: the content of the caller's buffer never reaches the hash -/
theorem originalHash_eq (H : Bytes → Nat) (scratch : Bytes) (metric : Nat) (ov : List Bytes) :
    originalHash H scratch metric ov = (marshal metric ov, H (marshal metric ov)) := by
  simp [originalHash, marshalAppend]

/-- **Scratch independence.** OriginalHash is handed the receiver's long-living scratch buffer (left non-empty by
    sharding.Shard → Key.XXHash with the MAPPED key, or by earlier events). Whatever it contains, the returned buffer and the
    hash are those of the marshalled original tag values alone. -/
theorem resolution_hash_ignores_scratch_prefix (H : Bytes → Nat) (scratch₁ scratch₂ : Bytes) (metric : Nat) (ov : List Bytes) :
    originalHash H scratch₁ metric ov = originalHash H scratch₂ metric ov ∧
    (originalHash H scratch₁ metric ov).2 = H (marshal metric ov) ∧ (originalHash H scratch₁ metric ov).1 = marshal metric ov := by
  rw [originalHash_eq, originalHash_eq]
  exact ⟨rfl, rfl, rfl⟩

/-- **Ingestion-path independence.** ApplyMetric computes the same resolution hash for a caller that supplies a scratch buffer
    (receivers) and for one that does not (internal/stats system metrics writer): the hash is never skipped. -/
theorem resolution_hash_same_with_or_without_scratch (H : Bytes → Nat) (res : Nat) (scratch : Bytes) (metric : Nat) (ov : List Bytes) :
    applyMetricHash H res none metric ov = applyMetricHash H res (some scratch) metric ov ∧
    (res ≠ 1 → applyMetricHash H res none metric ov = H (marshal metric ov)) := by
  unfold applyMetricHash
  constructor
  · split
    · rfl
    · rw [originalHash_eq, originalHash_eq]
  · intro h
    rw [if_neg h, originalHash_eq]

/-- the resolution hash as Agent.ApplyMetric computes it (mapAllTags, then OriginalHash on the shared scratch) is the same for
    any two agents: any mapping caches, any order of (distinctly named) tags, any leftover scratch content -/
theorem resolution_hash_same_on_all_agents (metric : Nat) (c₁ c₂ : List (Bytes × Int)) (tags₁ tags₂ : List (Nat × Bytes))
    (hp : tags₁.Perm tags₂) (hn : (tags₁.map (·.1)).Nodup) (H : Bytes → Nat) (scratch₁ scratch₂ : Bytes) :
    (originalHash H scratch₁ metric (mapAll c₁ tags₁).ov).2 = (originalHash H scratch₂ metric (mapAll c₂ tags₂).ov).2 := by
  rw [(resolution_hash_ignores_scratch_prefix H scratch₁ scratch₂ metric _).1,
    ov_cache_independent c₁ c₂ tags₁, ov_order_independent c₂ tags₁ tags₂ hp hn]

/-- the effective resolution of hardware metrics follows the applied (remote) config: fast metrics use its
    hardware-metric-resolution, slow ones its hardware-slow-metric-resolution -/
theorem resolution_after_remote_config (s : S) (hw hwSlow res : Nat) :
    resolutionOf (remoteConfig s hw hwSlow) .hw res = hw ∧ resolutionOf (remoteConfig s hw hwSlow) .hwslow res = hwSlow ∧
    resolutionOf (remoteConfig s hw hwSlow) .normal res = res ∧ resolutionOf (remoteConfig s hw hwSlow) .none res = 1 :=
  ⟨rfl, rfl, rfl, rfl⟩

/-! ## Two shards: the routing of Agent.ApplyMetric (primary always with dropIfBeforeTimestamp = 0, secondary iff configured,
    with its start timestamp) -/

/-- ShardFixedKey names one of the two shards (otherwise ApplyMetric reports a sharding error and applies nothing) -/
def K1Ok (k1 : Nat) : Prop := k1 = 1 ∨ k1 = 2

def Op2Ok : Op2 → Prop
  | .am2 _ k1 _ _ _ res _ => K1Ok k1 ∧ res ∈ allowedResolutions
  | _ => True

theorem amPrimary_eq (s : S) (kind : Kind) (ts res hash : Nat) : amPrimary s kind ts res hash = amStepD s ts res hash 0 := by
  cases kind <;> rfl

theorem amSecondary_eq (s : S) (kind : Kind) (ts res hash start : Nat) :
    amSecondary s kind ts res hash start = amStepD s ts res hash start := by
  cases kind <;> rfl

theorem A2.get_set (a : A2) (i j : Nat) (s : S) : (a.set i s).get j = if (i = 0 ↔ j = 0) then s else a.get j := by
  unfold A2.set A2.get
  by_cases hi : i = 0 <;> by_cases hj : j = 0 <;> simp only [hi, hj, if_true, if_false, iff_self, iff_false, false_iff, not_true_eq_false]

theorem am2Step_get (a : A2) (kind : Kind) (k1 k2 start ts res hash : Nat) (hk : K1Ok k1) :
    ((am2Step a kind k1 k2 start ts res hash).1).get (k1 - 1) = (amStepD (a.get (k1 - 1)) ts res hash 0).1 ∧
    ((am2Step a kind k1 k2 start ts res hash).1).get (1 - (k1 - 1)) =
      (match secondaryOf 2 k1 k2 with
      | some _ => (amStepD (a.get (1 - (k1 - 1))) (carryTs (a.get (k1 - 1)) ts res) res hash start).1
      | none => bump (a.get (1 - (k1 - 1)))) ∧
    (am2Step a kind k1 k2 start ts res hash).2.1 = (amStepD (a.get (k1 - 1)) ts res hash 0).2 := by
  have hne : ¬ (1 - (k1 - 1) = 0 ↔ k1 - 1 = 0) := by rcases hk with rfl | rfl <;> decide
  unfold am2Step
  cases secondaryOf 2 k1 k2 <;>
    simp only [amPrimary_eq, amSecondary_eq, A2.get_set, hne, iff_self, if_true, if_false, and_self]

theorem opFor_am2 (a : A2) (i : Nat) (kind : Kind) (k1 k2 start ts res hash : Nat) :
    opFor a i (.am2 kind k1 k2 start ts res hash) = if i = k1 - 1 then Op.am ts res hash true
      else match secondaryOf 2 k1 k2 with
        | some _ => Op.amSec (carryTs (a.get (k1 - 1)) ts res) res hash start
        | none => Op.skip := rfl

theorem am2_shard_step (a : A2) (kind : Kind) (k1 k2 start ts res hash : Nat) (hk : K1Ok k1) (i : Nat) (hi : i < 2) :
    ((am2Step a kind k1 k2 start ts res hash).1).get i = step (a.get i) (opFor a i (.am2 kind k1 k2 start ts res hash)) := by
  have hi' : i = k1 - 1 ∨ (i ≠ k1 - 1 ∧ i = 1 - (k1 - 1)) := by rcases hk with rfl | rfl <;> omega
  obtain ⟨h1, h2, _⟩ := am2Step_get a kind k1 k2 start ts res hash hk
  rw [opFor_am2]
  rcases hi' with rfl | ⟨hne, rfl⟩
  · rw [if_pos rfl]
    show _ = (amStep _ ts res hash).1
    rw [amStep_eq]
    exact h1
  · rw [if_neg hne, h2]
    cases secondaryOf 2 k1 k2 <;> rfl

theorem step2_shard (a : A2) (op : Op2) (hop : Op2Ok op) (i : Nat) (hi : i < 2) :
    (step2 a op).get i = step (a.get i) (opFor a i op) := by
  have hi' : i = 0 ∨ i = 1 := by omega
  cases op with
  | am2 kind k1 k2 start ts res hash => exact am2_shard_step a kind k1 k2 start ts res hash hop.1 i hi
  | flush | drain | flushAll => rcases hi' with rfl | rfl <;> simp [step2, opFor, A2.get, step]

theorem opFor_ok (a : A2) (i : Nat) (op : Op2) (hop : Op2Ok op) : OpOk (opFor a i op) := by
  cases op with
  | am2 kind k1 k2 start ts res hash =>
    rw [opFor_am2]
    split
    · exact hop.2
    · cases secondaryOf 2 k1 k2 with
      | some q => exact hop.2
      | none => trivial
  | flush | drain | flushAll => trivial

/-- **Projection.** Whatever two-shard history the agent goes through, each shard goes through a single-shard history — so
    every single-shard theorem above (exactly once, never early, rounded) holds for each shard of the two-shard agent. -/
theorem run2_shard (ops : List Op2) (a : A2) (hops : ∀ op ∈ ops, Op2Ok op) (i : Nat) (hi : i < 2) :
    ∃ l : List Op, (run2 a ops).get i = run (a.get i) l ∧ ∀ o ∈ l, OpOk o := by
  induction ops generalizing a with
  | nil => exact ⟨[], rfl, fun o ho => by cases ho⟩
  | cons op ops ih =>
    obtain ⟨l, hl, hok⟩ := ih (step2 a op) (fun o ho => hops o (List.mem_cons_of_mem _ ho))
    refine ⟨opFor a i op :: l, ?_, ?_⟩
    · show (run2 (step2 a op) ops).get i = run (step (a.get i) (opFor a i op)) l
      rw [hl, step2_shard a op (hops op List.mem_cons_self) i hi]
    · intro o ho
      rcases List.mem_cons.mp ho with rfl | ho
      · exact opFor_ok a i op (hops op List.mem_cons_self)
      · exact hok o ho

theorem run2_snoc (a : A2) (ops : List Op2) (op : Op2) : run2 a (ops ++ [op]) = step2 (run2 a ops) op := by
  unfold run2
  rw [List.foldl_append]
  rfl

theorem init2_get (t0 hw hws i : Nat) : (init2 t0 hw hws).get i = init t0 hw hws := by
  unfold init2 A2.get; split <;> rfl

/-- **Exactly once, per shard.** On an agent with two shards, after any history of ApplyMetric calls (any event kind, any
    primary shard, secondary shard configured or not, start time before or after the event), flushes, drains and the final
    flush, on EACH shard every accepted id is in exactly one place exactly once and nothing else is anywhere. -/
theorem two_shard_exactly_once (t0 hw hws : Nat) (ops : List Op2) (hops : ∀ op ∈ ops, Op2Ok op) (i : Nat) (hi : i < 2) :
    (∀ id ∈ ((run2 (init2 t0 hw hws) ops).get i).acc, (locations ((run2 (init2 t0 hw hws) ops).get i)).count id = 1) ∧
    (∀ id, id ∉ ((run2 (init2 t0 hw hws) ops).get i).acc → (locations ((run2 (init2 t0 hw hws) ops).get i)).count id = 0) := by
  obtain ⟨l, hl, _⟩ := run2_shard ops (init2 t0 hw hws) hops i hi
  rw [hl, init2_get]
  exact exactly_once t0 hw hws l

/-- … and after Agent.FlushAllData each shard's ring is empty and every id it accepted is in its pushed buckets exactly once;
    every delivered event sits in a bucket not earlier than its clamped timestamp, with the rounded timestamp -/
theorem two_shard_delivered (t0 hw hws : Nat) (ops : List Op2) (h1 : hw ∈ allowedResolutions) (h2 : hws ∈ allowedResolutions)
    (hops : ∀ op ∈ ops, Op2Ok op) (i : Nat) (hi : i < 2) :
    ((run2 (init2 t0 hw hws) (ops ++ [.flushAll])).get i).ring = [] ∧
    (∀ id ∈ ((run2 (init2 t0 hw hws) (ops ++ [.flushAll])).get i).acc,
      (outIds ((run2 (init2 t0 hw hws) (ops ++ [.flushAll])).get i)).count id = 1) ∧
    (∀ b ∈ ((run2 (init2 t0 hw hws) (ops ++ [.flushAll])).get i).out, ∀ e ∈ b.items,
      e.cts ≤ b.time ∧ e.ts = e.cts / e.res * e.res) := by
  obtain ⟨l, hl, hok⟩ := run2_shard ops (init2 t0 hw hws) hops i hi
  have hT := run_TInv l _ hok (init_TInv t0 hw hws h1 h2)
  have hC := run_Cons l _ (init_Cons t0 hw hws)
  rw [run2_snoc, step2_shard _ Op2.flushAll trivial i hi, hl, init2_get]
  generalize run (init t0 hw hws) l = s at hT hC ⊢
  show (flushAll s).ring = [] ∧ (∀ id ∈ (flushAll s).acc, (outIds (flushAll s)).count id = 1) ∧ _
  refine ⟨(flushAll_delivered hT hC).1, (flushAll_delivered hT hC).2, fun b hb e he => ?_⟩
  obtain ⟨_, ht, hts, hsl⟩ := (flushAll_TInv s hT).2.1 b hb e he
  exact ⟨by rw [ht]; exact Nat.le_trans hsl (Nat.le_add_right _ _), hts⟩

/-- **The primary shard ignores the secondary's configuration.** What ApplyMetric does on the primary shard — the state it
    leaves and whether the event is accepted — is the single-shard `amStep` (dropIfBeforeTimestamp = 0) whatever
    ShardFixedKey2 / ShardFixedKey2Timestamp are and whatever the event kind is. -/
theorem primary_independent_of_secondary (a : A2) (kind kind' : Kind) (k1 k2 k2' start start' ts res hash : Nat) (hk : K1Ok k1) :
    ((am2Step a kind k1 k2 start ts res hash).1).get (k1 - 1) = (amStep (a.get (k1 - 1)) ts res hash).1 ∧
    (am2Step a kind k1 k2 start ts res hash).2.1 = (amStep (a.get (k1 - 1)) ts res hash).2 ∧
    ((am2Step a kind k1 k2 start ts res hash).1).get (k1 - 1) = ((am2Step a kind' k1 k2' start' ts res hash).1).get (k1 - 1) ∧
    (am2Step a kind k1 k2 start ts res hash).2.1 = (am2Step a kind' k1 k2' start' ts res hash).2.1 := by
  rw [amStep_eq]
  obtain ⟨h1, _, h2⟩ := am2Step_get a kind k1 k2 start ts res hash hk
  obtain ⟨h3, _, h4⟩ := am2Step_get a kind' k1 k2' start' ts res hash hk
  exact ⟨h1, h2, h1.trans h3.symm, h2.trans h4.symm⟩

/-- **Drops on the primary shard.** Through ApplyMetric an event is dropped on its primary shard only during shutdown or
    while that shard's receive queue has a gap — never because of the secondary shard's start time. -/
theorem primary_drop_only_gap_or_stop (a : A2) (kind : Kind) (k1 k2 start ts res hash : Nat) (hk : K1Ok k1)
    (h : (am2Step a kind k1 k2 start ts res hash).2.1 = none) :
    (a.get (k1 - 1)).stop = true ∨ gap (a.get (k1 - 1)).cur (a.get (k1 - 1)).send > 0 := by
  rw [(am2Step_get a kind k1 k2 start ts res hash hk).2.2] at h
  rcases amStepD_none (a.get (k1 - 1)) ts res hash 0 h with h1 | h1 | h1
  · exact Or.inl h1
  · exact Or.inr h1
  · omega

/-- **Drops on the secondary shard**: shutdown, gap, or the (carried, clamped, rounded) timestamp is before its start time -/
theorem secondary_drop_only_when (a : A2) (kind : Kind) (k1 k2 start ts res hash : Nat)
    (hs : secondaryOf 2 k1 k2 ≠ none) (h : (am2Step a kind k1 k2 start ts res hash).2.2 = none) :
    (a.get (1 - (k1 - 1))).stop = true ∨ gap (a.get (1 - (k1 - 1))).cur (a.get (1 - (k1 - 1))).send > 0 ∨
    (0 < start ∧ keyTs (clampTs (carryTs (a.get (k1 - 1)) ts res) (a.get (1 - (k1 - 1))).cur) res < start) := by
  unfold am2Step at h
  cases hq : secondaryOf 2 k1 k2 with
  | none => exact absurd hq hs
  | some q =>
    rw [hq] at h
    simp only [amSecondary_eq] at h
    exact amStepD_none _ _ _ _ _ h

/-- a shard that is neither primary nor (effective) secondary is not touched -/
theorem unconfigured_shard_untouched (a : A2) (kind : Kind) (k1 k2 start ts res hash : Nat) (hk : K1Ok k1)
    (hs : secondaryOf 2 k1 k2 = none) :
    ((am2Step a kind k1 k2 start ts res hash).1).get (1 - (k1 - 1)) = bump (a.get (1 - (k1 - 1))) := by
  rw [(am2Step_get a kind k1 k2 start ts res hash hk).2.1, hs]

/-! ## Non-vacuity and sharpness witnesses

  The witnesses use concrete numbers, so they are stated under `Pinned`: W, F, K, statusResolution and maxTags as they are in
  the pinned tree; if one of these changes, the theorems above are re-proved against the new value and these examples become
  vacuous instead of failing the build. `allowedResolutions` and `agentWindowMs` are not part of `Pinned`. -/

/-- the regenerated constants have the values the witnesses below were written for -/
def Pinned : Prop := (W, F, K, statusResolution, maxTags) = (128, 3, 120, 1, 48)
instance : Decidable Pinned := by unfold Pinned; infer_instance

/-- gapInReceivingQueueLocked with another literal in place of the 120 (to state what a changed literal would do) -/
def gapWith (k cur send : Nat) : Int := (cur : Int) - ((send : Int) + ((W : Int) - (F : Int)) - (k : Int))

theorem gapWith_K (cur send : Nat) : gapWith K cur send = gap cur send := rfl

-- hypotheses of `slot_in_window` are satisfiable at the boundary gap = 0 with the largest resolution
example : Pinned → gapPos 1005 1000 = false ∧ 60 ∈ allowedResolutions := by decide +kernel
-- … and the gap bound is sharp: one more second of gap (gap = 1) and a 60 s row would wrap around the ring,
-- i.e. land in a cell that is flushed `superQueueLen` seconds too early
example : Pinned → gapPos 1197 1191 = true ∧ ¬ (slotOf (clampTs 1200 1197) 60 4294967295 1191 < 1191 + W) := by decide +kernel
-- the same with the literal itself changed: with 119 in place of 120 the shard still accepts at CurrentTime - SendTime = 6
-- (gap = 0), and a 60 s row with timestamp >= CurrentTime + 3 and a resolution hash in the last sub-slot gets slot =
-- SendTime + superQueueLen, i.e. the cell that is flushed NEXT (at second SendTime, 128 s before the row's second)
example : Pinned → gapWith 119 1197 1191 = 0 ∧ gapWith K 1197 1191 = 1 ∧
    slotOf (clampTs 1200 1197) 60 4294967295 1191 = 1191 + superQueueLen ∧
    slotOf (clampTs 1200 1197) 60 4294967295 1191 % superQueueLen = 1191 % superQueueLen := by decide +kernel
-- … and so is the future clamp: without it (cts = ts = cur + 4) the same happens at gap = 0
example : Pinned → gapPos 1196 1191 = false ∧ ¬ (slotOf 1200 60 4294967295 1191 < 1191 + W) := by decide +kernel

-- hypotheses of `placement_deterministic`: an on-time 5 s row
example : Pinned → (1000003 : Nat) ≠ 0 ∧ 1000003 ≤ 1000000 + F ∧ 999998 ≤ canonSlot 1000003 5 4294967295 := by decide +kernel
-- a late row is NOT placed at its canonical second (the hypothesis is needed)
example : Pinned → slotOf (clampTs 999000 1000000) 5 0 999998 ≠ canonSlot 999000 5 0 := by decide +kernel

example : Pinned → OpOk (.ev .counter .normal 1000003 5 4294967295 0) := by intro _ _; decide
example : Pinned → OpOk (.am 1000003 60 7 false) := by intro _; show 60 ∈ allowedResolutions; decide

/-- a small history with an on-time low-resolution row, a late row, a future-clamped row (which also emits its ingestion
    status), a back-pressure stall, a pause that opens a gap (a dropped event), a long sleep (jump-ahead of 3 laps), an
    event dropped because it is before the secondary shard's start, and an accepted one still waiting in the ring -/
def demo : List Op :=
  [ .ev .counter .normal 1000003 5 4294967295 0, .ev .addCounterHost .normal 999000 1 0 0, .ev .values .normal 1000100 1 0 0,
    .flush 1000002500, .flush 1000003500, .drain, .flush 1000012000, .ev .counter .normal 1000012 1 0 0, .drain,
    .flush 1000400000, .drain, .flush 1000400100, .drain,
    .ev .unique .normal 1000399 2 123456789 1000500, .ev .unique .normal 1000399 2 123456789 0 ]

set_option maxRecDepth 20000 in
example : Pinned ∧ agentWindowMs = 1300 →
    (run (init 1000000 5 15) demo).laps = 3 ∧ (run (init 1000000 5 15) demo).ring.map (fun p => (p.1, p.2.id)) = [(80, 20)] ∧
    (run (init 1000000 5 15) demo).acc = [20, 9, 8, 4, 0] ∧
    (run (init 1000000 5 15) demo).out.map (fun b => (b.time, b.items.map (·.id))) =
      [(999998, [4]), (1000003, [9, 8]), (1000393, [0]), (1000395, [])] := by decide +kernel

-- the buggy variant "append after the caller's content, hash the whole buffer" is NOT prefix independent (for an injective-enough H)
example : marshalAppend [1] 7 [] ≠ marshalAppend [] 7 [] := by decide +kernel

-- the Key tags do depend on the mapping cache, OriginalTagValues do not (`ov_cache_independent` is not trivial)
example : Pinned → (mapAll [([97], 5)] [(1, [97])]).tagsI ≠ (mapAll [] [(1, [97])]).tagsI := by decide +kernel
-- hypotheses of `ov_order_independent`
example : [((3 : Nat), ([97, 98] : Bytes)), (1, [120])].Perm [(1, [120]), (3, [97, 98])] ∧
    ([((3 : Nat), ([97, 98] : Bytes)), (1, [120])].map (·.1)).Nodup := ⟨List.Perm.swap _ _ _, by decide⟩
-- a tag sent twice makes the result order dependent (the distinct-names hypothesis is needed)
example : Pinned → (mapAll [] [(1, [97]), (1, [98])]).ov ≠ (mapAll [] [(1, [98]), (1, [97])]).ov := by decide +kernel

-- two shards: a unique-values event whose metric has a secondary shard starting in the future is accepted on the primary and
-- dropped on the secondary; once the start time has passed both accept it; without a (valid) secondary the other shard is skipped
example : Pinned → Op2Ok (.am2 .unique 1 2 2000000 1000000 5 7) := by intro _; exact ⟨Or.inl rfl, by decide⟩
example : Pinned → (am2Step (init2 1000000 5 15) .unique 1 2 2000000 1000000 5 7).2.1 ≠ none ∧
    (am2Step (init2 1000000 5 15) .unique 1 2 2000000 1000000 5 7).2.2 = none ∧ secondaryOf 2 1 2 ≠ none := by decide +kernel
example : Pinned → (am2Step (init2 1000000 5 15) .values 2 1 999000 1000000 5 7).2.1 ≠ none ∧
    (am2Step (init2 1000000 5 15) .values 2 1 999000 1000000 5 7).2.2 ≠ none := by decide +kernel
example : secondaryOf 2 1 1 = none ∧ secondaryOf 2 1 3 = none ∧ secondaryOf 2 1 0 = none ∧ secondaryOf 2 2 1 = some 0 := by decide +kernel
-- handing the secondary's start time to the PRIMARY call would drop the event there too (so `primary_drop_only_gap_or_stop`
-- is a statement about the 0 in `shard.ApplyUnique(…, 0)`, not a triviality)
example : Pinned → (amStepD (init 1000000 5 15) 1000000 5 7 2000000).2 = none ∧ (amStep (init 1000000 5 15) 1000000 5 7).2 ≠ none := by decide +kernel

end SH.C08
