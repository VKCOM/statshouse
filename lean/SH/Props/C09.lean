/-
  C09 — Agent disk cache survives restarts and crashes without corruption.

  "After any sequence of put, get and erase operations and any restart, including a crash that tears the last write at
   any byte, the cache re-reads exactly the seconds that were put and not erased, in write order, with identical bytes;
   it never returns erased seconds or corrupted data, and only a second whose write was torn may be missing. Reported
   total and unsent sizes match the files on disk, and a file whose seconds were all erased is deleted once the cache
   no longer writes to it."

  Model: SH.Model.DiskCache (disk_cache.go, branch for branch; crc32c is the parameter `Cfg.crc`, assumed < 2^32).

  HISTORY LEVEL (this file; all for EVERY `ops : List Op` of put/get/erase/readNext/restart started on an empty directory,
  any number of files and rotations, puts with 32-bit time and body ≤ maxChunkSize):
   * `history_refines`        the reached model state satisfies the refinement invariant `Inv` (SH.Lemmas.DiskCacheInv: every
                              file = encoding of a record list, known buckets ↔ records with ids, ref counts = known seconds +
                              read head + write head, cursors on record boundaries, total/knownSize/waitingSize) and its live
                              sequence is `spec ops` — put appends, erase removes that id, nothing else changes membership
   * `reread_after_restart`   restart + drain returns exactly those seconds, in write order, GetBucket returns identical bytes;
                              `readFuel` always suffices (`mu_le_readFuel`, `readNext_spec`)
   * `torn_tail`              the last put torn at ANY byte: the result equals that of the history without the put
   * `erased_never_returned`  GetBucket / ReadNextTailSecond only ever return live (put, not erased) seconds
   * `size_accounting`        total = Σ file sizes on disk; knownSize / waitingSize / unsent formula
   * `file_removed`           a file is on disk only while a known second, the read head, the write head or the waiting list
                              refers to it; every open file object has a positive ref count
  The step lemmas are in SH/Lemmas/DiskCache{Inv,Read,Erase,Put,Run}.lean (invariant; ReadNextTailSecond; GetBucket and
  EraseBucket; PutBucket; histories, restart and torn writes). SH/Lemmas/DiskCacheBytes.lean holds the record format and,
  for ONE file of records without ids (`Rec`, `encAll`, `scan`), the single-file forms of the statements below
  (`scan_records`, `reread_after_restart_partial`, `torn_tail_partial`, `erase_encAll`, `readLoop_head`) and `get_ok_checked`.

   * `torn_erase`, `torn_erase_is_erase_or_noop`  (reader of disk_cache.go, `tornEraseOk = true`) the 4-byte magic write of an erase
                              torn after k = 0..4 bytes: k ≤ 2 → everything is re-read, k = 3, 4 → everything but that second;
                              never another second lost (proved in SH/Lemmas/DiskCacheRun.lean);
                              `torn_erase3_prefix_loses_later_second_history` (below) = what a reader with
                              `tornEraseOk = false` loses, as a concrete witness
   * `getP_eq_get`, `getP_pad_independent` (SH/Lemmas/DiskCachePad.lean) GetBucket reads into the caller's REUSED scratch pad:
                              for every previous contents of the pad the result is the value `get` returns (so every theorem
                              above about `get` holds for the call as the agent makes it); `emptyFastPath_returns_stale_bytes`
                              = the seeded variant returning the previous second's bytes for an empty second (`decide`)
   * `accepted_size_readable`, `accepted_size_readable_P`, `max_chunk_boundary` (SH/Lemmas/DiskCacheLimits.lean) the size check of
                              the writer (`len > maxChunkSize` rejected) implies the size check of the tail reader for ALL sizes,
                              stated also for arbitrary limits maxPut ≤ maxRead; the boundary body of exactly maxChunkSize fills a
                              file to exactly fileRotateSize and is accepted by both; seeded reader (`>=`) as `decide` witness
   * `acct_of_inv`, `acct_vanish`, `acct_skipMissing`, `vanish_then_read_accounts`  fault "a waiting tail file vanishes before the
                              tail reader opens it" (model: `vanish`, `hasFile`, `skipMissing` = the OpenFile-error branch):
                              total = bytes on disk + sizes of vanished files not yet reached; the reader's missing-file iteration
                              subtracts exactly that (stated per step; the whole run only as the concrete witness)
   * `writing_file_is_records`, `failed_put_leaves_no_garbage`, `keepFile_resurrects_phantom` (SH/Lemmas/DiskCachePutFail.lean)
                              fault "the body write of a put fails after k bytes" (model: `putFail`): the file that can still be
                              appended to is always exactly the concatenation of its records, and after a failed put NO file can be
                              appended to (the writing file is dropped); what the partial bytes do later is not stated; seeded variant
                              (keep writing to the same file) brings back a never-put second — `decide` witness.
                              (`putFail` is not an `Op` of the history-level theorems: histories there contain no failed writes.)
  Outside the theorems (assumptions, see checks/C09.py): I/O error
  branches, crc strength (parameter), prefix-preserving file system, increasing file names, flock, size rotation on real files.
-/
import SH.Lemmas.DiskCacheRun
import SH.Lemmas.DiskCachePad
import SH.Lemmas.DiskCacheLimits
import SH.Lemmas.DiskCachePutFail
import SH.Gen.C09

namespace SH.C09
open SH.DiskCache

/-- the constants of the model are the constants of disk_cache.go as the Go compiler evaluates them -/
theorem gen_constants_match :
    Gen.C09.magicGoodBucket = magicGood ∧ Gen.C09.magicDeletedBucket = magicDeleted ∧
    Gen.C09.headerSize = headerSize ∧ Gen.C09.fileRotateSize = fileRotateSize ∧
    Gen.C09.maxChunkSize = maxChunkSize := by decide

/-- the model state after a history started on an empty directory, and the history-level specification of what it holds -/
def reach (cfg : Cfg) (ops : List Op) : Shard := run cfg {} ops
def spec (ops : List Op) : AbsH := absRun {} ops

instance (op : Op) : Decidable (OpOk op) := by cases op <;> simp only [OpOk] <;> infer_instance

/-- `history_refines`: for EVERY history whose puts satisfy `OpOk` the reached model state satisfies the refinement invariant `Inv` (layout of every
    file as records, known buckets ↔ records with ids, ref counts, cursors, sizes) and its live sequence — the seconds on
    disk that are not erased, in write order, with the ids currently handed out — is exactly `spec ops`. -/
theorem history_refines (cfg : Cfg) (hcrc : ∀ b, cfg.crc b < 2 ^ 32) (ops : List Op) (hok : ∀ op ∈ ops, OpOk op) :
    ∃ a, Inv cfg (reach cfg ops) a ∧ a.live cfg = (spec ops).live ∧ a.lastID = (spec ops).lastID :=
  run_refines_init cfg hcrc ops hok

/-- C09 `reread_after_restart`: after ANY history of put/get/erase/readNext/restart (puts satisfying `OpOk`) over any
    number of files and rotations, a restart followed by draining ReadNextTailSecond returns exactly the seconds that were
    put and not erased (`spec ops`), in write order (`outs 0 L` = their times with ids 1,2,…), never runs out of fuel, and
    GetBucket then returns the identical bytes for every one of them. -/
theorem reread_after_restart (cfg : Cfg) (hcrc : ∀ b, cfg.crc b < 2 ^ 32) (ops : List Op) (hok : ∀ op ∈ ops, OpOk op) :
    (drain cfg ((spec ops).live.length + 1) (restart (reach cfg ops))).2 = outs 0 (clearLive (spec ops).live) ∧
    ∀ k t d, (some k, t, d) ∈ stamp 0 (clearLive (spec ops).live) →
      DiskCache.get cfg (drain cfg ((spec ops).live.length + 1) (restart (reach cfg ops))).1 k t =
        ((drain cfg ((spec ops).live.length + 1) (restart (reach cfg ops))).1, .ok d) := by
  obtain ⟨a, inv, hl, _⟩ := history_refines cfg hcrc ops hok
  obtain ⟨h1, a', inv', h2⟩ := drain_layout cfg a.files a.clock _ inv.names inv.namesLt inv.wf inv.disk inv.clock
    ((spec ops).live.length + 1) (hl ▸ Nat.lt_succ_self _)
  rw [show a.files.flatMap (fLive cfg) = (spec ops).live from hl] at h1 h2
  exact ⟨h1, fun k t d hmem => get_live cfg _ a' inv' k t d (h2 ▸ hmem)⟩

/-- C09 `torn_tail`: for EVERY history (puts satisfying `OpOk`) and EVERY cut — the crash tears the last put `n` bytes
    before its end, 1 ≤ n ≤ header+body, i.e. at any byte offset of the final write — restart + drain returns exactly the
    seconds of the history without that put: only the torn second is missing, nothing else, nothing spurious. -/
theorem torn_tail (cfg : Cfg) (hcrc : ∀ b, cfg.crc b < 2 ^ 32) (ops : List Op) (hok : ∀ op ∈ ops, OpOk op)
    (t : Nat) (d : Bytes) (r : Bool) (hput : OpOk (.put t d r)) (n : Nat) (hn0 : 0 < n) (hn : n ≤ headerSize + d.length) :
    (drain cfg ((spec ops).live.length + 1) (restart (tearNewest (reach cfg (ops ++ [.put t d r])) n))).2 =
      (drain cfg ((spec ops).live.length + 1) (restart (reach cfg ops))).2 := by
  rw [(reread_after_restart cfg hcrc ops hok).1]
  exact torn_tail_history cfg hcrc ops hok t d r hput n hn0 hn

example : OpOk (.put 17 [9] false) ∧ 0 < 5 ∧ 5 ≤ headerSize + [9].length := by decide

/-- C09 torn ERASE (reader of disk_cache.go, `tornEraseOk = true`): for EVERY history (puts satisfying `OpOk`), EVERY
    id and EVERY tear of the 4-byte magic write of `EraseBucket id` after k = 0..4 bytes, restart + drain returns
      k = 0, 1, 2  (bytes EC 07 are common to both magics: the magic on disk is still the good one, `torn_erase_magic`)
                   → all live seconds of the history, the one being erased included (the erase did not happen);
      k = 3        (magic 0x590007EC, which that reader skips like a deleted record)
      k = 4        (magic 0x000007EC, the erase is complete)
                   → all live seconds except that one;
    never is any OTHER second lost, never a spurious one returned; an unknown id writes nothing. -/
theorem torn_erase (cfg : Cfg) (hfix : cfg.tornEraseOk = true) (hcrc : ∀ b, cfg.crc b < 2 ^ 32) (ops : List Op)
    (hok : ∀ op ∈ ops, OpOk op) (id k : Nat) (hk : k ≤ 4) :
    (drain cfg ((spec ops).live.length + 1) (restart (tornErase (reach cfg ops) id k))).2 =
      outs 0 (clearLive (if k ≤ 2 then (spec ops).live else liveErase id (spec ops).live)) :=
  torn_erase_history cfg hfix hcrc ops hok id k hk

/-- hence a torn erase is always one of the two legal outcomes of the history: as if the erase had not been
    issued (`ops`), or as if it had completed (`ops ++ [erase id]`) -/
theorem torn_erase_is_erase_or_noop (cfg : Cfg) (hfix : cfg.tornEraseOk = true) (hcrc : ∀ b, cfg.crc b < 2 ^ 32) (ops : List Op)
    (hok : ∀ op ∈ ops, OpOk op) (id k : Nat) (hk : k ≤ 4) :
    (drain cfg ((spec ops).live.length + 1) (restart (tornErase (reach cfg ops) id k))).2 = outs 0 (clearLive (spec ops).live) ∨
    (drain cfg ((spec ops).live.length + 1) (restart (tornErase (reach cfg ops) id k))).2 =
      outs 0 (clearLive (spec (ops ++ [.erase id])).live) := by
  rw [torn_erase cfg hfix hcrc ops hok id k hk]
  by_cases h : k ≤ 2
  · left; rw [if_pos h]
  · right; rw [if_neg h]
    simp [spec, absRun, List.foldl_append, absStep]

def opsT : List Op := [.put 15 [1, 2] false, .put 17 [9] false]
/-- A reader that does not know `magicDeletedTorn` (`cfg0.tornEraseOk = false`), on a concrete history: two puts into one file, the
    erase of the first torn after 3 bytes, restart, drain: NOTHING comes back — the second put (time 17, never erased, its
    write not torn) is lost; the same history with the reader of disk_cache.go (`cfgFixed`) returns it. -/
theorem torn_erase3_prefix_loses_later_second_history :
    (spec opsT).live = [(some 1, 15, [1, 2]), (some 2, 17, [9])] ∧
    (drain cfg0 3 (restart (tornErase (reach cfg0 opsT) 1 3))).2 = [] ∧
    (drain cfgFixed 3 (restart (tornErase (reach cfgFixed opsT) 1 3))).2 = [(17, 1)] := by decide +kernel

example : cfgFixed.tornEraseOk = true ∧ (∀ op ∈ opsT, OpOk op) ∧ 3 ≤ 4 := by decide +kernel
/-- the hypothesis on the checksum parameter is satisfiable (as it is by crc32c): a 32-bit valued function, `tornEraseOk = true` -/
def cfgB : Cfg := { crc := fun b => b.length % 4294967296, tornEraseOk := true }
example : (∀ b, cfgB.crc b < 2 ^ 32) ∧ cfgB.tornEraseOk = true := ⟨fun b => Nat.mod_lt _ (by decide), rfl⟩
example : outs 0 (clearLive (liveErase 1 (spec opsT).live)) = [(17, 1)] := by decide +kernel

/-- C09 `erased_never_returned` (every history): whatever GetBucket returns in any reachable state is a second of the live
    sequence with that id and time (so it was put and not erased, and the bytes are the bytes put); whatever
    ReadNextTailSecond hands out is a live second not handed out before; and an erase removes its id from the live sequence. -/
theorem erased_never_returned (cfg : Cfg) (hcrc : ∀ b, cfg.crc b < 2 ^ 32) (ops : List Op) (hok : ∀ op ∈ ops, OpOk op) :
    (∀ k t d s', DiskCache.get cfg (reach cfg ops) k t = (s', .ok d) → (some k, t, d) ∈ (spec ops).live) ∧
    (∀ t id, (readNext cfg (reach cfg ops)).2 = .got t id → ∃ d, (none, t, d) ∈ (spec ops).live) ∧
    (readNext cfg (reach cfg ops)).2 ≠ .fuel ∧
    (∀ id t d, (some id, t, d) ∉ (spec (ops ++ [.erase id])).live) := by
  obtain ⟨a, inv, hl, _⟩ := history_refines cfg hcrc ops hok
  refine ⟨?_, ?_, ?_, ?_⟩
  · intro k t d s' h
    rw [← hl]; exact get_ok_live cfg _ s' a inv k t d h
  · intro t id h
    obtain ⟨hp, _⟩ := readNext_spec cfg _ a inv
    rw [h] at hp
    obtain ⟨_, l1, b, l2, _, _, _, hsplit, _, _⟩ := hp
    exact ⟨b, by rw [← hl, hsplit]; simp⟩
  · exact (readNext_spec cfg _ a inv).2
  · intro id t d hmem
    simp only [spec, absRun, List.foldl_append, List.foldl_cons, List.foldl_nil, absStep, liveErase, List.mem_filter] at hmem
    simp at hmem

/-- C09 `size_accounting` (every history): TotalFileSize's total is the sum of the file sizes on disk; the unsent parts are
    the header+body bytes of the live seconds that currently have an id, plus the sizes of the files not yet opened (each
    equal to the length of that file on disk); `unsent` is their sum with the unread rest of the reading file, capped by total. -/
theorem size_accounting (cfg : Cfg) (hcrc : ∀ b, cfg.crc b < 2 ^ 32) (ops : List Op) (hok : ∀ op ∈ ops, OpOk op) :
    (reach cfg ops).total = sumSizes (reach cfg ops).disk ∧
    (reach cfg ops).knownSize = knownBytes (spec ops).live ∧
    (reach cfg ops).waitingSize = (((reach cfg ops).waiting.map (fun w => (w.size : Int))).sum) ∧
    (∀ w ∈ (reach cfg ops).waiting, w.size = (DiskCache.fileBytes (reach cfg ops).disk w.name).length) ∧
    unsent (reach cfg ops) = min ((reach cfg ops).knownSize + (reach cfg ops).waitingSize + readingRest (reach cfg ops)) (reach cfg ops).total := by
  obtain ⟨a, inv, hl, _⟩ := history_refines cfg hcrc ops hok
  obtain ⟨h1, h2, h3, h4⟩ := inv.size_accounting
  exact ⟨h1, hl ▸ h2, h3, h4, unsent_eq_min _⟩

/-- C09 `file_removed` (every history): a file is on disk only while something refers to it — a known second lives in it,
    or it is the read head, the write head, or still waiting to be re-read; every open file object has a positive ref count
    and its file is on disk; so a file whose seconds were all erased and that is neither read nor written is gone. -/
theorem file_removed (cfg : Cfg) (hcrc : ∀ b, cfg.crc b < 2 ^ 32) (ops : List Op) (hok : ∀ op ∈ ops, OpOk op) :
    (∀ d ∈ (reach cfg ops).disk,
      (∃ b ∈ (reach cfg ops).known, b.file = d.name) ∨ (reach cfg ops).reading = some d.name ∨
      (reach cfg ops).writing = some d.name ∨ (∃ w ∈ (reach cfg ops).waiting, w.name = d.name)) ∧
    (∀ name o, findO (reach cfg ops).ofiles name = some o → 0 < o.refCount ∧ ∃ d ∈ (reach cfg ops).disk, d.name = name) := by
  obtain ⟨a, inv, _, _⟩ := history_refines cfg hcrc ops hok
  exact inv.file_refs

/-! non-vacuity: a concrete history with rotation, an erase, a restart and a re-read -/
def ops0 : List Op := [.put 15 [1, 2] false, .put 16 [3] true, .erase 1, .restart, .readNext]
example : ∀ op ∈ ops0, OpOk op := by decide +kernel
example : spec ops0 = { live := [(some 1, 16, [3])], lastID := 1 } := by decide +kernel
example : ∀ b, cfg0.crc b < 2 ^ 32 → True := fun _ _ => trivial
example : outs 0 (clearLive (spec ops0).live) = [(16, 1)] := by decide +kernel

end SH.C09
