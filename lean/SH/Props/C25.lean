/-
  C25 — Table queries assemble aligned, unique, ordered rows.

  "For any split of a query into levels of detail and any storage output, every table row has exactly one
   column per requested function (missing values are NaN), rows are unique by time and tags and sorted in the
   requested direction, the requested row window and limit are respected, and the has-more flag is set exactly
   when rows beyond the limit exist."

  Model: SH.Model.Table. `Variant.fixed` is internal/api/table.go after /verif/fixes/C25-table-window-limit-columns.diff,
  `Variant.old` the code before it (kept to exhibit the defects by `decide`: the sections and examples marked "old code").
  Storage (`loadPoints`) is an arbitrary input: per handler-what and per LOD an error or any list of time groups.

  The window of a request: rows strictly after the `from` marker and strictly before the `to` marker in the requested
  direction (`inRange`, both markers exclusive as in Test_limitQueries; a marker with time 0 is absent).
  The row key is what the code indexes by: time, all tags, skey. A handler-what is one storage query; it serves one or
  more requested functions, its columns (`getHandlerWhat`); pages, windows and storage answers are per handler-what.
  The bold label in a theorem's docstring names the clause of the sentence it stands for.
-/
import SH.Lemmas.TableCells
import SH.Lemmas.TableOrder
import SH.Lemmas.TablePage
import SH.Lemmas.TableWhats

namespace SH.C25
open SH.Table

/-- **window_respected / has_more_iff (one storage answer).** For every window, every storage answer and every limit
    the fixed limitQueries returns exactly the first `limit` rows of the window in visiting order, and reports
    has-more iff the window holds more than `limit` rows. (`limit ≤ 0` counts as 0.) -/
theorem limitQueries_window_limit (w : Win) (groups : List (List Row)) (limit : Int) :
    (limitQueries .fixed w groups limit).1 = (windowRows w groups).take limit.toNat ∧
    ((limitQueries .fixed w groups limit).2 = true ↔ limit.toNat < (windowRows w groups).length) := by
  simp [limitQueries_fixed]

/-! ### old code: the same statement is false (DESIGN.md finding F9 and the limit-0 shortcut) -/

def wMid : Win := { frm := ⟨10, [(0, 3)], 0⟩, to := ⟨10, [(0, 7)], 0⟩, fromEnd := false }
def wTo : Win := { frm := ⟨0, [], 0⟩, to := ⟨10, [(0, 5)], 0⟩, fromEnd := false }
def wAll : Win := { frm := ⟨0, [], 0⟩, to := ⟨0, [], 0⟩, fromEnd := false }
def rowT (t : Int) (tag0 : Int) : Row := ⟨⟨t, [tag0], 0⟩, [1]⟩

/-- first and last row of the group are outside the window, the middle one is inside: the old code drops it -/
example : limitQueries .old wMid [[rowT 10 1, rowT 10 5, rowT 10 9]] 10 = ([], false) := by decide +kernel
example : windowRows wMid [[rowT 10 1, rowT 10 5, rowT 10 9]] = [rowT 10 5] := by decide +kernel
example : limitQueries .fixed wMid [[rowT 10 1, rowT 10 5, rowT 10 9]] 10 = ([rowT 10 5], false) := by decide +kernel
/-- the row met after the limit is beyond the `to` marker: the old code reports has-more -/
example : limitQueries .old wTo [[rowT 10 3, rowT 10 7]] 1 = ([rowT 10 3], true) := by decide +kernel
example : (windowRows wTo [[rowT 10 3, rowT 10 7]]).length = 1 := by decide +kernel
example : limitQueries .fixed wTo [[rowT 10 3, rowT 10 7]] 1 = ([rowT 10 3], false) := by decide +kernel
/-- limit 0 (page filled by the previous LOD), the next answer has two empty time groups: the old code reports has-more -/
example : limitQueries .old wAll [[], []] 0 = ([], true) := by decide +kernel
example : limitQueries .fixed wAll [[], []] 0 = ([], false) := by decide +kernel
/-- hence `limitQueries_window_limit` does not hold of the old variant -/
example : ¬ ((limitQueries .old wMid [[rowT 10 1, rowT 10 5, rowT 10 9]] 10).1
            = (windowRows wMid [[rowT 10 1, rowT 10 5, rowT 10 9]]).take (10 : Int).toNat) := by decide +kernel
example : ¬ ((limitQueries .old wTo [[rowT 10 3, rowT 10 7]] 1).2 = true ↔
            (1 : Int).toNat < (windowRows wTo [[rowT 10 3, rowT 10 7]]).length) := by decide +kernel

/-- the per-handler-what work list getTable builds: columns, and the (LOD, answer) pairs in visiting order -/
def todoOf (q : Req) (lods : List Lod) (store : List (List (Option (List (List Row))))) :
    List (List Nat × List (Lod × Option (List (List Row)))) :=
  (q.cols.zip store).map (fun p => (p.1, dir q.win.fromEnd (lods.zip p.2)))

theorem getTable_spec (v : Variant) (q : Req) (lods : List Lod) (store : List (List (Option (List (List Row)))))
    (rows : List ORow) (more : Bool) (h : getTable v q lods store = some (rows, more)) :
    ∃ r, whatLoop v q [] (todoOf q lods store) [] false = some r ∧ rows.Perm r.1 ∧
      rows.Pairwise (fun a b => ¬ keyBefore q b.key a.key) ∧ more = r.2 := by
  simp only [getTable, todoOf] at h ⊢
  split at h
  · simp at h
  · rename_i r hr
    simp only [Option.some.injEq, Prod.mk.injEq] at h
    exact ⟨r, hr, h.1 ▸ (sortRows_spec q r.1).1, h.1 ▸ (sortRows_spec q r.1).2, h.2.symm⟩

/-- a key is acceptable for the request: in the row window and in the marker time range (`inRange` and `timeSkipped`
    read only the key of the row they are given) -/
def KeyOk (q : Req) (k : Key) : Prop := inRange q.win ⟨k, []⟩ = true ∧ timeSkipped q ⟨k, []⟩ = false

/-- **window_respected (table).** For every variant, LOD split, storage output, markers, direction and limit: every row
    of the table lies strictly between the two row markers and inside the marker time range. -/
theorem rows_in_window (v : Variant) (q : Req) (lods : List Lod) (store : List (List (Option (List (List Row)))))
    (rows : List ORow) (more : Bool) (h : getTable v q lods store = some (rows, more)) :
    ∀ o ∈ rows, KeyOk q o.key := by
  obtain ⟨r, hr, hp, _⟩ := getTable_spec v q lods store rows more h
  intro o ho
  have hk : o.key ∈ keysOf r.1 := List.mem_map.2 ⟨o, hp.mem_iff.1 ho, rfl⟩
  obtain ⟨t, _, hk⟩ := ((whatLoop_keys v q _ r hr).2 _).1 hk
  obtain ⟨x, hx, e⟩ := List.mem_map.1 hk
  rw [← e]
  -- `KeyOk q x.key` is this by definition: `inRange` and `timeSkipped` read only the key of the row
  exact passRows_in_window v q t.2 0 x hx

/-- **rows_unique_by_time_tags.** For every variant and every input no two rows of the table have the same
    (time, tags, string-top value). -/
theorem rows_unique_by_time_tags (v : Variant) (q : Req) (lods : List Lod) (store : List (List (Option (List (List Row)))))
    (rows : List ORow) (more : Bool) (h : getTable v q lods store = some (rows, more)) :
    (rows.map (·.key)).Nodup := by
  obtain ⟨r, hr, hp, _⟩ := getTable_spec v q lods store rows more h
  exact (hp.map (fun o : ORow => o.key)).nodup_iff.2 (whatLoop_keys v q _ r hr).1

/-- **sorted.** For every variant and every input the table is ordered by the visible row key (time, grouped tags,
    string-top value — queryTableRows.Less) in the requested direction: no later row is strictly less than an
    earlier one (ascending), resp. strictly greater (fromEnd). -/
theorem rows_sorted (v : Variant) (q : Req) (lods : List Lod) (store : List (List (Option (List (List Row)))))
    (rows : List ORow) (more : Bool) (h : getTable v q lods store = some (rows, more)) :
    rows.Pairwise (fun a b =>
      if q.win.fromEnd then ¬ less (reprOf q a.key) (reprOf q b.key) = true
      else ¬ less (reprOf q b.key) (reprOf q a.key) = true) := by
  obtain ⟨_, _, _, hs, _⟩ := getTable_spec v q lods store rows more h
  refine hs.imp ?_
  intro a b hab
  unfold keyBefore at hab
  split
  · rename_i hf
    rwa [if_pos hf] at hab
  · rename_i hf
    rwa [if_neg hf] at hab

/-- **cell_content.** For every LOD split, storage output, markers, direction and limit (storage answers of one
    handler-what without duplicate keys): the data of every table row is, handler-what by handler-what in request
    order, `cellBlock`: the value fields (one per column of that handler-what) of the storage row with the table row's
    key that the pass of that handler-what handed to the row loop — whichever LOD produced it —, and one NaN per
    column if that pass handed over no row with that key. `cellBlock_value` / `cellBlock_nan_iff` spell the two cases
    out; `cell_content_page` identifies the rows handed over with the page of the handler-what. -/
theorem cell_content (q : Req) (lods : List Lod) (store : List (List (Option (List (List Row)))))
    (rows : List ORow) (more : Bool)
    (hnd : ∀ t ∈ todoOf q lods store, ((storedRows t.2).map (·.key)).Nodup)
    (h : getTable .fixed q lods store = some (rows, more)) :
    ∀ o ∈ rows, o.data = (todoOf q lods store).flatMap (fun t => cellBlock t.1 (passRows .fixed q t.2 0) o.key) := by
  obtain ⟨r, hr, hp, _⟩ := getTable_spec .fixed q lods store rows more h
  intro o ho
  exact ((whatLoop_betweenPasses q _ r (noRepeat_of_nodup .fixed q _ hnd) hr).1 o (hp.mem_iff.1 ho)).2

/-- **one_column_per_function.** For every LOD split, storage output, markers, direction and limit: if every
    requested handler-what has a storage answer list (`hs`; `zip` would drop the others, the code always has one) and
    the storage answers of one handler-what (over all its LODs) contain no key twice (what GROUP BY over disjoint LODs
    returns; otherwise the values are appended twice), every row of the table has exactly one column for each column
    listed in `q.cols` — for each requested function, once `q.cols` is what getHandlerWhat derives from the request
    (`one_column_per_requested_function`). Answers of different handler-whats may differ freely. -/
theorem one_column_per_function (q : Req) (lods : List Lod) (store : List (List (Option (List (List Row)))))
    (rows : List ORow) (more : Bool) (hs : q.cols.length ≤ store.length)
    (hnd : ∀ t ∈ todoOf q lods store, ((storedRows t.2).map (·.key)).Nodup)
    (h : getTable .fixed q lods store = some (rows, more)) :
    ∀ o ∈ rows, o.data.length = (q.cols.map List.length).sum := by
  intro o ho
  have hcols : (todoOf q lods store).map (·.1) = q.cols := by
    rw [todoOf, List.map_map]
    exact List.map_fst_zip hs
  rw [cell_content q lods store rows more hnd h o ho, List.length_flatMap, ← hcols, List.map_map]
  simp only [cellBlock_length, Function.comp_def]

/-- old code: two handler-whats with 2 and 1 columns; a row that only the second answer contains gets
    1 NaN + 1 value = 2 columns for 3 requested functions -/
def reqPad : Req := { win := wAll, limit := 10, gby := [0], bySkey := false, cols := [[0, 1], [2]] }
def storePad : List (List (Option (List (List Row)))) :=
  [[some [[⟨⟨10, [1], 0⟩, [5, 6, 7]⟩]]], [some [[⟨⟨10, [2], 0⟩, [8, 9, 4]⟩]]]]

example : (getTable .old reqPad [⟨10, 11⟩] storePad).map (fun r => r.1.map (fun o => o.data.length)) = some [3, 2] := by decide +kernel
example : (getTable .fixed reqPad [⟨10, 11⟩] storePad).map (fun r => r.1.map (fun o => o.data)) =
    some [[some 5, some 6, none], [none, none, some 4]] := by decide +kernel
/-- non-vacuity of `rows_in_window`, `rows_unique_by_time_tags`, `rows_sorted` (hypothesis `getTable … = some …`): the
    same request descending — the row created by the second handler-what is moved in front by the final sort -/
example : (getTable .fixed { reqPad with win := { wAll with fromEnd := true } } [⟨10, 11⟩] storePad).map
    (fun r => r.1.map (fun o => o.key.tags)) = some [[2], [1]] := by decide +kernel
/-- non-vacuity of `one_column_per_function`: its hypotheses hold on this input -/
example : reqPad.cols.length ≤ storePad.length ∧
    ∀ t ∈ todoOf reqPad [⟨10, 11⟩] storePad, ((storedRows t.2).map (·.key)).Nodup := by decide +kernel

/-- **window_respected / has_more_iff (whole table).** For every LOD split, storage output without error, markers,
    direction and limit (row times not negative: a marker time 0 means "no bound"): the table holds exactly the keys of
    the pages of the handler-whats — per handler-what the first `limit` rows of the window over the visited LODs in
    visiting order — and the has-more flag is set iff for some handler-what the window holds more than `limit` rows.
    With answers that agree across handler-whats this is: exactly the first `limit` window rows, has-more iff rows
    beyond the limit exist. -/
theorem table_page (q : Req) (lods : List Lod) (store : List (List (Option (List (List Row)))))
    (rows : List ORow) (more : Bool)
    (hpos : ∀ t ∈ todoOf q lods store, ∀ r ∈ candRows q t.2, 0 ≤ r.key.time)
    (h : getTable .fixed q lods store = some (rows, more)) :
    (more = true ↔ ∃ t ∈ todoOf q lods store, q.limit.toNat < (candRows q t.2).length) ∧
    (∀ k, k ∈ rows.map (·.key) ↔ ∃ t ∈ todoOf q lods store, k ∈ (pageRows q t.2).map (·.key)) := by
  obtain ⟨r, hr, hp, _, rfl⟩ := getTable_spec .fixed q lods store rows more h
  obtain ⟨h1, h2⟩ := whatLoop_page q (todoOf q lods store) r hpos hr
  refine ⟨h1, fun k => ?_⟩
  rw [(hp.map (·.key)).mem_iff]
  exact ((whatLoop_keys .fixed q _ r hr).2 k).trans (exists_congr fun t => and_congr_right fun ht => by rw [h2 t ht])

/-- a two-LOD request: limit 2, three window rows spread over both LODs -/
def reqPage : Req := { win := wAll, limit := 2, gby := [0], bySkey := false, cols := [[0]] }
def storePage : List (List (Option (List (List Row)))) :=
  [[some [[rowT 10 1, rowT 10 2]], some [[rowT 11 1], []]]]
def lodsPage : List Lod := [⟨10, 11⟩, ⟨11, 13⟩]

example : (getTable .fixed reqPage lodsPage storePage).map (fun r => (r.1.map (fun o => o.key), r.2)) =
    some ([⟨10, [1], 0⟩, ⟨10, [2], 0⟩], true) := by decide +kernel
/-- old code on the same request with limit 2 reached at the end of the first LOD and an empty second answer -/
example : (getTable .old reqPage lodsPage [[some [[rowT 10 1, rowT 10 2]], some [[], []]]]).map (·.2) = some true := by decide +kernel
example : (getTable .fixed reqPage lodsPage [[some [[rowT 10 1, rowT 10 2]], some [[], []]]]).map (·.2) = some false := by decide +kernel
/-- non-vacuity of `table_page` -/
example : ∀ t ∈ todoOf reqPage lodsPage storePage, ∀ r ∈ candRows reqPage t.2, 0 ≤ r.key.time := by decide +kernel

/-- **cell_content (pages).** With row times ≥ 0 (`hne`, no storage errors, is not used: a run that returns a table met
    none on the LODs it visited): a cell block of the table row with key `k` shows the storage values of the row with
    key `k` on the page of that handler-what (the first `limit` rows of its window over the visited LODs), and is NaN
    in every column iff that page holds no row with key `k` — i.e. iff the storage returned no row for that key and
    handler-what inside the requested window and limit. -/
theorem cell_content_page (q : Req) (lods : List Lod) (store : List (List (Option (List (List Row)))))
    (rows : List ORow) (more : Bool)
    (hnd : ∀ t ∈ todoOf q lods store, ((storedRows t.2).map (·.key)).Nodup)
    (hne : ∀ t ∈ todoOf q lods store, ∀ a ∈ t.2, a.2 ≠ none)
    (hpos : ∀ t ∈ todoOf q lods store, ∀ r ∈ candRows q t.2, 0 ≤ r.key.time)
    (h : getTable .fixed q lods store = some (rows, more)) :
    ∀ o ∈ rows, o.data = (todoOf q lods store).flatMap (fun t => cellBlock t.1 (pageRows q t.2) o.key) := by
  obtain ⟨r, hr, _⟩ := getTable_spec .fixed q lods store rows more h
  have hpage := (whatLoop_page q (todoOf q lods store) r hpos hr).2
  intro o ho
  rw [cell_content q lods store rows more hnd h o ho, List.flatMap_def, List.flatMap_def]
  exact congrArg _ (List.map_congr_left (fun t ht => by rw [hpage t ht]))

/-- non-vacuity of `cell_content` / `cell_content_page` (the request of `one_column_per_function`'s example) and the
    two cases of a cell on it: values of the key's row, NaN for the handler-what that has no row for the key -/
example : (∀ t ∈ todoOf reqPad [⟨10, 11⟩] storePad, ((storedRows t.2).map (·.key)).Nodup) ∧
    (∀ t ∈ todoOf reqPad [⟨10, 11⟩] storePad, ∀ a ∈ t.2, a.2 ≠ none) ∧
    (∀ t ∈ todoOf reqPad [⟨10, 11⟩] storePad, ∀ r ∈ candRows reqPad t.2, 0 ≤ r.key.time) := by decide +kernel
example : (todoOf reqPad [⟨10, 11⟩] storePad).map (fun t => cellBlock t.1 (pageRows reqPad t.2) ⟨10, [1], 0⟩) =
    [[some 5, some 6], [none]] := by decide +kernel

/-- the fixed handleGetTable passes the ascending LOD list on unchanged: every theorem above about `getTable` is a
    theorem about `handleGetTable .keeps`; for `fromEnd` the LODs are then visited from the newest one
    (`todoOf … = … dir true (lods.zip answers)`), for ascending requests from the oldest -/
theorem handleGetTable_keeps (v : Variant) (q : Req) (lods : List Lod) (store : List (List (Option (List (List Row))))) :
    handleGetTable .keeps v q lods store = getTable v q lods store := by
  -- `callerOrder .keeps` is the identity by definition
  show getTable v q lods (store.map id) = getTable v q lods store
  rw [List.map_id]

/-- the code before the fix reversed the list only to have it reversed again: a descending request got the visiting
    order of an ascending one -/
theorem handleGetTable_reverses_visits_ascending (q : Req) (lods : List Lod)
    (store : List (List (Option (List (List Row))))) (hfe : q.win.fromEnd = true)
    (hlen : ∀ s ∈ store, s.length = lods.length) :
    (todoOf q (callerOrder .reversesFromEnd true lods) (store.map (callerOrder .reversesFromEnd true))).map (·.2) =
      (q.cols.zip store).map (fun p => lods.zip p.2) := by
  simp only [todoOf, callerOrder, if_true, hfe, dir, List.map_map]
  rw [List.zip_map_right]
  simp only [List.map_map]
  apply List.map_congr_left
  intro p hp
  have hl := hlen p.2 (List.of_mem_zip hp).2
  simp only [Function.comp, Prod.map]
  have hc : callerOrder .reversesFromEnd true p.2 = p.2.reverse := by simp [callerOrder]
  rw [hc]
  simp only [List.zip]
  -- zipping the two reversed lists gives the reversed zip only for equal lengths (`hlen`)
  rw [← List.reverse_zipWith (by simp [hl])]
  simp

/-- descending request, limit 1, two LODs with one row each -/
def reqDesc : Req := { win := { wAll with fromEnd := true }, limit := 1, gby := [], bySkey := false, cols := [[0]] }
def storeDesc : List (List (Option (List (List Row)))) := [[some [[⟨⟨10, [], 0⟩, [1]⟩]], some [[⟨⟨11, [], 0⟩, [1]⟩]]]]

/-- old handleGetTable: the page of the descending request is the row of the OLDEST LOD -/
example : (handleGetTable .reversesFromEnd .fixed reqDesc [⟨10, 11⟩, ⟨11, 12⟩] storeDesc).map
    (fun r => (r.1.map (fun o => o.key.time), r.2)) = some ([10], true) := by decide +kernel
/-- fixed: the newest row -/
example : (handleGetTable .keeps .fixed reqDesc [⟨10, 11⟩, ⟨11, 12⟩] storeDesc).map
    (fun r => (r.1.map (fun o => o.key.time), r.2)) = some ([11], true) := by decide +kernel
/-- non-vacuity of `handleGetTable_reverses_visits_ascending` -/
example : reqDesc.win.fromEnd = true ∧ ∀ s ∈ storeDesc, s.length = [(⟨10, 11⟩ : Lod), ⟨11, 12⟩].length := by decide +kernel

/-- **limit respected, in the requested direction.** For every request, LOD split and storage output that is ordered in
    time (`TimeOrdered`: answers in ascending LOD order as handleGetTable passes them, ascending time groups): the rows
    on the page of a handler-what precede, in the requested time direction, every window row of it that did not
    fit the limit — ascending: no later than; fromEnd: no earlier than. (Order among the rows of one second is the
    storage's: see fixes/C25-order-by-desc-every-key.) -/
theorem page_leads_in_time (q : Req) (answers : List (Lod × Option (List (List Row)))) (h : TimeOrdered answers) :
    ∀ a ∈ pageRows q (dir q.win.fromEnd answers),
      ∀ b ∈ (candRows q (dir q.win.fromEnd answers)).drop q.limit.toNat, timeDir q.win.fromEnd a b :=
  fun _ ha _ hb => (window_time_sorted q answers h).rel_of_mem_take_of_mem_drop ha hb

/-- non-vacuity: the two-LOD descending request; its page is the newest row and leads the older one -/
example : TimeOrdered ([(⟨10, 11⟩ : Lod), ⟨11, 12⟩].zip (storeDesc.headD [])) := by
  unfold TimeOrdered; decide +kernel
example : (pageRows reqDesc (dir true ([(⟨10, 11⟩ : Lod), ⟨11, 12⟩].zip (storeDesc.headD [])))).map (·.key.time) = [11] ∧
    ((candRows reqDesc (dir true ([(⟨10, 11⟩ : Lod), ⟨11, 12⟩].zip (storeDesc.headD [])))).drop 1).map (·.key.time) = [10] := by
  decide +kernel

/-- totality of `less` on row markers: two different markers are ordered one way or the other (with `less_asymm` and
    `less_negtrans` of SH.Lemmas.TablePage: a strict total order) -/
theorem less_total (a b : RowRepr) (h : a ≠ b) : less a b = true ∨ less b a = true := by
  rw [less_full, less_full]
  by_cases hab : fullKey a < fullKey b
  · exact Or.inl hab
  · exact Or.inr ((List.le_iff_lt_or_eq.1 (List.not_lt.1 hab)).resolve_right (fun e => h (fullKey_inj _ _ e.symm)))

/-- `less_lex` (SH.Lemmas.TablePage) on values more than 2^63 apart: ordered as integers (a comparator that subtracts
    would wrap) -/
example : less ⟨10, [-6000000000000000000], 0⟩ ⟨10, [6000000000000000000], 0⟩ = true ∧
    less ⟨10, [6000000000000000000], 0⟩ ⟨10, [-6000000000000000000], 0⟩ = false ∧
    less ⟨10, [-9223372036854775808], 0⟩ ⟨10, [9223372036854775807], 0⟩ = true := by decide +kernel

/-- **page_is_first_limit_rows_in_requested_order (one handler-what, all its LODs).** Under the storage-order
    contract (`VisitSorted`: the answers, passed in ascending LOD order, come sorted by (time, group-by keys) in the
    requested direction — the order the generated ORDER BY text asks the storage for), with rows inside their LODs and
    times ≥ 0, for every request, LOD split, markers, direction and limit:
    (1) the rows the pass considers are exactly ALL stored rows, over all LODs, that lie in the requested window;
    (2) they are considered in the requested order (strictly increasing in `rowBefore`: there is one such enumeration);
    (3) the page is its first `limit` elements (the definition of `pageRows`; that the row loop is handed exactly
    `pageRows` is `whatLoop_page`), so (4) every row on the page precedes every window row that is not. -/
theorem page_is_first_limit_rows_in_requested_order (q : Req) (answers : List (Lod × Option (List (List Row))))
    (hs : VisitSorted q answers) (hl : InLod answers) (h0 : ∀ r ∈ storedRows answers, 0 ≤ r.key.time) :
    (∀ r, r ∈ candRows q (dir q.win.fromEnd answers) ↔ r ∈ storedRows answers ∧ inRange q.win r = true) ∧
    (candRows q (dir q.win.fromEnd answers)).Pairwise (rowBefore q) ∧
    pageRows q (dir q.win.fromEnd answers) = (candRows q (dir q.win.fromEnd answers)).take q.limit.toNat ∧
    (∀ a ∈ pageRows q (dir q.win.fromEnd answers),
      ∀ b ∈ (candRows q (dir q.win.fromEnd answers)).drop q.limit.toNat, rowBefore q a b) :=
  ⟨window_complete q answers hl h0, window_sorted q answers hs, rfl,
    fun _ ha _ hb => (window_sorted q answers hs).rel_of_mem_take_of_mem_drop ha hb⟩

/-- **the table is the page, in the requested order (the property's sentence).** For every request, LOD split, markers,
    direction and limit, under the storage-order contract for every handler-what: if the pages of all handler-whats
    hold the same keys `P` (always so for one handler-what; for several it is what a GROUP BY storage returns, the
    answers differing in values only), then after the final sort the table rows are exactly `P`, in that order —
    i.e. the first `limit` rows of the window over all LODs in the requested order — and has-more is set iff the
    window of some handler-what holds more than `limit` rows. (`InLod` in `hs` is not used.) -/
theorem table_is_first_limit_rows_in_requested_order (q : Req) (lods : List Lod)
    (store : List (List (Option (List (List Row))))) (rows : List ORow) (more : Bool) (P : List Key)
    (hne : todoOf q lods store ≠ [])
    (hs : ∀ p ∈ q.cols.zip store, VisitSorted q (lods.zip p.2) ∧ InLod (lods.zip p.2) ∧
      ∀ r ∈ storedRows (lods.zip p.2), 0 ≤ r.key.time)
    (hP : ∀ t ∈ todoOf q lods store, (pageRows q t.2).map (·.key) = P)
    (h : getTable .fixed q lods store = some (rows, more)) :
    rows.map (·.key) = P ∧
    (more = true ↔ ∃ t ∈ todoOf q lods store, q.limit.toNat < (candRows q t.2).length) := by
  have htodo : ∀ t ∈ todoOf q lods store, ∃ p ∈ q.cols.zip store, t.2 = dir q.win.fromEnd (lods.zip p.2) := by
    intro t ht
    obtain ⟨p, hp, rfl⟩ := List.mem_map.1 ht
    exact ⟨p, hp, rfl⟩
  have hpos : ∀ t ∈ todoOf q lods store, ∀ r ∈ candRows q t.2, 0 ≤ r.key.time := by
    intro t ht r hr
    obtain ⟨p, hp, e⟩ := htodo t ht
    rw [e] at hr
    exact (hs p hp).2.2 r (candRows_sub_stored q _ r hr).1
  have htp := table_page q lods store rows more hpos h
  refine ⟨?_, htp.1⟩
  obtain ⟨t0, ht0⟩ := List.exists_mem_of_ne_nil _ hne
  have hPs : P.Pairwise (keyBefore q) := by
    obtain ⟨p, hp, e⟩ := htodo t0 ht0
    have hw := window_sorted q _ (hs p hp).1
    rw [← e] at hw
    rw [← hP t0 ht0, List.pairwise_map]
    exact hw.sublist (List.take_sublist _ _)
  have hu := rows_unique_by_time_tags .fixed q lods store rows more h
  obtain ⟨_, _, _, hsorted, _⟩ := getTable_spec .fixed q lods store rows more h
  refine eq_of_sorted_of_mem_iff (keyBefore q) (keyBefore_asymm q) _ P (List.pairwise_map.2 hsorted) hu hPs
    (fun k => ?_)
  rw [htp.2 k]
  exact ⟨fun ⟨t, ht, hk⟩ => hP t ht ▸ hk, fun hk => ⟨t0, ht0, (hP t0 ht0).symm ▸ hk⟩⟩

/-- non-vacuity: a descending request over two LODs, two grouped-tag values per second, limit 3 of 4 window rows; the
    storage answers follow the contract (each second's rows descending); the table is rows (11,tag 2), (11,tag 1), (10,tag 2) -/
def reqOrd : Req := { win := { wAll with fromEnd := true }, limit := 3, gby := [0], bySkey := false, cols := [[0]] }
def storeOrd : List (List (Option (List (List Row)))) :=
  [[some [[rowT 10 2, rowT 10 1]], some [[rowT 11 2, rowT 11 1]]]]
def lodsOrd : List Lod := [⟨10, 11⟩, ⟨11, 12⟩]

example : todoOf reqOrd lodsOrd storeOrd ≠ [] ∧
    (∀ p ∈ reqOrd.cols.zip storeOrd, VisitSorted reqOrd (lodsOrd.zip p.2) ∧ InLod (lodsOrd.zip p.2) ∧
      ∀ r ∈ storedRows (lodsOrd.zip p.2), 0 ≤ r.key.time) ∧
    (∀ t ∈ todoOf reqOrd lodsOrd storeOrd, (pageRows reqOrd t.2).map (·.key) = [⟨11, [2], 0⟩, ⟨11, [1], 0⟩, ⟨10, [2], 0⟩]) := by
  unfold VisitSorted InLod; decide +kernel
example : (getTable .fixed reqOrd lodsOrd storeOrd).map (fun r => (r.1.map (fun o => o.key), r.2)) =
    some ([⟨11, [2], 0⟩, ⟨11, [1], 0⟩, ⟨10, [2], 0⟩], true) := by decide +kernel

/-- the storage-order contract stated on the answers themselves (ascending LODs, ascending time groups, the rows of one
    time group in the requested order) implies the visiting-order form used above -/
theorem storage_contract_suffices (q : Req) (answers : List (Lod × Option (List (List Row))))
    (h : StorageContract q answers) : VisitSorted q answers :=
  pairwise_visit _ _ (fun x y => x < y) (rowBefore_of_time q) answers h.1 h.2.1 h.2.2

example : ∀ p ∈ reqOrd.cols.zip storeOrd, StorageContract reqOrd (lodsOrd.zip p.2) := by
  unfold StorageContract; decide +kernel
/-- the contract is needed: with the rows of a second in ascending order (what the ORDER BY text asked for before
    fixes/C25-order-by-desc-every-key.diff) the page of the same request is cut wrongly — (10, tag 1) instead of (10, tag 2) -/
example : (getTable .fixed reqOrd lodsOrd [[some [[rowT 10 1, rowT 10 2]], some [[rowT 11 1, rowT 11 2]]]]).map
    (fun r => r.1.map (fun o => o.key)) = some [⟨11, [2], 0⟩, ⟨11, [1], 0⟩, ⟨10, [1], 0⟩] := by decide +kernel
example : ¬ VisitSorted reqOrd (lodsOrd.zip [some [[rowT 10 1, rowT 10 2]], some [[rowT 11 1, rowT 11 2]]]) := by
  unfold VisitSorted; decide +kernel

/-- **nothing dropped, order kept.** For every list of requested functions (any function codes, duplicates, runs of
    functions that share a storage selector): the function lists of the storage queries getHandlerWhat builds,
    concatenated, are the request sorted by function code (the order in which the response lists the functions);
    the sorted request is a permutation of the request; every storage query uses between 1 and 7 selectors. -/
theorem getHandlerWhat_keeps_every_function (request : List Fn) :
    (getHandlerWhat request).flatMap (·.sel) = sortFns request ∧
    (sortFns request).Perm request ∧
    (sortFns request).Pairwise (fun a b => a.digest ≤ b.digest) ∧
    (∀ g ∈ getHandlerWhat request, 1 ≤ g.qry.length ∧ g.qry.length ≤ tsValueCount) :=
  ⟨groupSorted_concat _, (sortFns_spec _).1, (sortFns_spec _).2, groupSorted_qryOk _⟩

/-- **one column per requested function (over the modelled grouping).** For every request whose columns are the ones
    getHandlerWhat derives from the requested functions (`q.cols = colsOf request`),
    every LOD split, storage output without duplicate keys per storage query, markers, direction and limit: every table
    row has exactly as many columns as functions were requested, and column `i` shows the value field of the `i`-th
    function of the (sorted) request: the row's data is, block by block, `cellBlock` of the query's columns
    (`cell_content`), and the blocks' columns concatenated are the fields of the sorted request in order. -/
theorem one_column_per_requested_function (request : List Fn) (q : Req) (hq : q.cols = colsOf request)
    (lods : List Lod) (store : List (List (Option (List (List Row)))))
    (rows : List ORow) (more : Bool) (hs : q.cols.length ≤ store.length)
    (hnd : ∀ t ∈ todoOf q lods store, ((storedRows t.2).map (·.key)).Nodup)
    (h : getTable .fixed q lods store = some (rows, more)) :
    (∀ o ∈ rows, o.data.length = request.length) ∧
    q.cols.flatten = (sortFns request).map (·.field) ∧
    (∀ o ∈ rows, o.data = (todoOf q lods store).flatMap (fun t => cellBlock t.1 (passRows .fixed q t.2 0) o.key)) := by
  refine ⟨?_, by rw [hq]; exact colsOf_flatten request, cell_content q lods store rows more hnd h⟩
  intro o ho
  rw [one_column_per_function q lods store rows more hs hnd h o ho, hq]
  exact colsOf_total request

/-- count, count_sec, count_raw, max: two storage selectors, one query, four columns in request order; a request with
    eight selectors is split after the seventh -/
example : (getHandlerWhat [⟨9, 3⟩, ⟨2, 0⟩, ⟨1, 0⟩, ⟨3, 0⟩]).map (fun g => (g.sel.map (·.digest), g.qry)) =
    [([1, 2, 3, 9], [(2, 0), (3, 0)])] := by decide +kernel
example : (getHandlerWhat ((List.range 8).map (fun i => ⟨10 + i, 5⟩))).map (fun g => g.sel.length) = [7, 1] := by decide +kernel
/-- non-vacuity of `one_column_per_requested_function`: a request (count_raw, count, max) whose columns are computed by
    the modelled getHandlerWhat -/
example : colsOf [⟨3, 0⟩, ⟨1, 0⟩, ⟨9, 3⟩] = [[0, 0, 3]] ∧ ([⟨3, 0⟩, ⟨1, 0⟩, ⟨9, 3⟩] : List Fn).length = 3 := by decide +kernel
/-- what is at stake: a grouping that appended to `sel` only when a new selector slot is taken would list 2 functions
    (written out by hand here; no such grouping is modelled) for these 4 requested ones -/
example : ([([⟨1, 0⟩, ⟨9, 3⟩] : List Fn)].flatMap id).length = 2 ∧ (sortFns [⟨9, 3⟩, ⟨2, 0⟩, ⟨1, 0⟩, ⟨3, 0⟩]).length = 4 := by decide +kernel

/-- `rows_unique_by_time_tags` and `one_column_per_function` are stated over `Key`, whose `tags` carry the integer value
    AND the unmapped string value of every tag: there is no hypothesis that string values are empty. Two rows of one
    second whose group-by tag 0 is unmapped (integer 0) with string values "a" (code 1) and "ab" (code 2): -/
def reqStr : Req := { win := wAll, limit := 10, gby := [0], bySkey := false, cols := [[0]] }
def storeStr : List (List (Option (List (List Row)))) :=
  [[some [[⟨⟨10, [0, 1], 0⟩, [5]⟩, ⟨⟨10, [0, 2], 0⟩, [7]⟩]]]]

/-- the code: two table rows, one column each -/
example : (getTable .fixed reqStr [⟨10, 11⟩] storeStr).map (fun r => r.1.map (fun o => (o.key.tags, o.data))) =
    some [([0, 1], [some 5]), ([0, 2], [some 7])] := by decide +kernel
/-- a key made of the integer tag values and the string-top key only (C25-r4-2): the rows collide — one row survives
    and gets both rows' values, i.e. two columns for one requested function -/
example : (getTable .fixed reqStr [⟨10, 11⟩] (slimStore 1 storeStr)).map (fun r => r.1.map (fun o => o.data)) =
    some [[some 5, some 7]] := by decide +kernel
/-- and the hypothesis of `one_column_per_function` (no key twice in one answer) holds for the real key, fails for the
    slim one -/
example : (∀ t ∈ todoOf reqStr [⟨10, 11⟩] storeStr, ((storedRows t.2).map (·.key)).Nodup) ∧
    ¬ (∀ t ∈ todoOf reqStr [⟨10, 11⟩] (slimStore 1 storeStr), ((storedRows t.2).map (·.key)).Nodup) := by decide +kernel

/-! ## old code (before fixes/C25-table-window-limit-columns.diff): the shared backing array of rowRepr.Tags -/

/-- two handler-whats; the first answer holds the rows with tag 1 and 3, the second answer only a row with tag 2 -/
def reqAlias : Req := { win := wAll, limit := 10, gby := [0], bySkey := false, cols := [[0], [1]] }
def storeAlias : List (List (Option (List (List Row)))) :=
  [[some [[rowT 10 1, rowT 10 3]]], [some [[rowT 10 2]]]]

/-- markers in output order: both rows created from the first answer carry the tags of its last row (3), so the
    row with tag 1 no longer knows its own tag … -/
example : (getTableAliased reqAlias [⟨10, 11⟩] storeAlias).map (fun l => l.map (·.2)) = some [[2], [3], [3]] := by decide +kernel
/-- … and the final sort, which compares these markers, puts the row with tag 2 in front of the row with tag 1 -/
example : (getTableAliased reqAlias [⟨10, 11⟩] storeAlias).map (fun l => (l.map (·.1.tags)).head?) = some (some [2]) := by decide +kernel
example : (getTableAliased reqAlias [⟨10, 11⟩] storeAlias).map (fun l => l.any (fun p => p.1.tags == [1])) = some true := by decide +kernel
/-- the fixed code on the same input: sorted, and (by `reprOf`) every row's marker is made of its own tags -/
example : (getTable .fixed reqAlias [⟨10, 11⟩] storeAlias).map (fun r => r.1.map (fun o => o.key.tags)) =
    some [[1], [2], [3]] := by decide +kernel

/-! ## old code (before the same fix): appendRowValues indexed `qry` with the column index -/

/-- `qry` holds at most 7 distinct selectors; the old `w.qry[i].Argument` with `i` ranging over the columns of the
    handler-what panicked (index out of range) as soon as a handler-what with more than 7 columns got a row -/
def oldPanics (q : Req) (todo : List (List Nat × List (Lod × Option (List (List Row))))) : Bool :=
  todo.any (fun t => decide (7 < t.1.length) && !(passRows .old q t.2 0).isEmpty)

/-- count, count_sec, count_raw, sum, sum_sec, sum_raw, min, max: 4 selectors, 8 columns in one handler-what -/
example : oldPanics { reqPage with cols := [[0, 0, 0, 1, 1, 1, 2, 3]] }
    (todoOf { reqPage with cols := [[0, 0, 0, 1, 1, 1, 2, 3]] } lodsPage storePage) = true := by decide +kernel

end SH.C25
