/-
  SH.Props.C01 — accepted metric data is never silently lost between agent and storage.

  Property (properties.jsonl C01): an agent forgets a buffered second (in memory or on disk) only after an aggregator
  acknowledged it, and an aggregator acknowledges a second only after an insert containing that second's rows succeeded
  or after it deliberately rejected the second (outside the historic window, too far in the future, wrong shard,
  undecodable). Under any sequence of insert failures, lost responses, aggregator restarts and replica failover, every
  second that stays inside the historic window is eventually inserted at least once.

  Model: SH.Model.Delivery (tied to /repo by the op-by-op correspondence of bin/check C01; constants and decision-site
  facts regenerated into SH.Gen.C01). What is proved here, for ALL inputs of the modelled functions:
    * ack_after_insert_or_reject  — handler level (aggDecide) and inserter level (insertOne)
    * erase_after_ack             — agent level (agentContinue, the only place a sender gives a second up)
    * routing facts that make the two halves meet (a joined bucket is one this replica inserts; windows)
    * the memory limit of the historic queue (`appendHist_exact`, `appendHist_drop_legit`), the wake-up discipline (`wake_invariant`),
      the sampling budget (`sampleBudget_fits`), the delayed inserter (`delayed_inserter_stale_only_older`), the eraser pass (`eraser_keeps`)
  and, for ALL operation sequences of the composed model, `no_silent_loss`, `ack_after_insert_or_reject`, `erase_after_ack`,
  `erase_trace`, `answer_matches_sender`, `restart_erases_nothing` (invariant `SInv`, SH.Lemmas.Delivery*). Liveness is proved only in
  the form `can_always_finish_partial`; the full statement (described in words at the end of the file) is exercised by the direct
  oracle on the real code on every run.
-/
import SH.Model.Delivery
import SH.Lemmas.Delivery
import SH.Lemmas.DeliveryMain
import SH.Lemmas.DeliveryEraser
import SH.Lemmas.DeliveryLive

namespace SH.Props.C01
open SH.Delivery SH.Gen.C01

/-! ### generated decision-site facts the model relies on (a change in /repo fails these, not the theorems silently) -/

example : insertSetDiscardArgs = ["true", "sendErr == nil"] := rfl
example : tickerSetDiscardArgs = [] := rfl
example : recentLoopShape = "if s.sendRecent(cancelCtx, cbd, sendMoreBytes) {diskCacheEraseWithLog} else {diskCachePutWithLog;appendHistoricBucketsToSend}" := rfl
example : sendRecentFalseConds = ["cbd.time+data_model.MaxShortWindow+data_model.FutureWindow < nowUnix", "shardReplica == nil", "err != nil", "!respV3.IsSetDiscard()"] := rfl
example : sendRecentFinalReturn = "true" := rfl
example : sendHistoricRetryConds = ["shardReplica == nil", "err != nil", "!respV3.IsSetDiscard()"] := rfl
example : sendHistoricEraseAfterDiscardGuard = true := rfl
example : condSignalSites = ["flushBuckets", "appendHistoricBucketsToSend", "DisableNewSends"] := rfl
example : eraserDiskUsedSource = "s.HistoricBucketsDataSizeDisk()" := rfl

theorem roundUp_bounds (t k : Nat) : t ≤ roundUp t k ∧ roundUp t k ≤ t + 2 := by
  unfold roundUp
  split
  · omega
  · split <;> omega

/-- the rounded second belongs to replica k (k = replicaKey-1 < 3): the bucket it selects is one goTicker hands to this
replica's inserters (`aggBucket.time%3 == replicaKey-1`), never one it skips -/
theorem roundUp_mod (t k : Nat) (hk : k < 3) : roundUp t k % 3 = k := by
  unfold roundUp
  split
  · next h => exact eq_of_beq h
  · split
    · next h => exact eq_of_beq h
    · next h1 h2 =>
      rcases three_consecutive t k hk with h | h | h
      · exact absurd (beq_iff_eq.2 h) h1
      · exact absurd (beq_iff_eq.2 h) h2
      · exact h

/-- ack_after_insert_or_reject, handler half: an immediate `discard` answer is given only for a second whose replica
bucket lies beyond the newest recent bucket (too far in the future) or, for the historic conveyor, before
`oldest - historicWindow`. A late recent second is answered WITHOUT discard (the agent resends it as historic). -/
theorem aggDecide_discard_sound (historic : Bool) (t oldest newest w k : Nat) (why : Why)
    (h : aggDecide historic t oldest newest w k = .answer true why) :
    (why = .futureHistoric ∧ historic = true ∧ roundUp t k > newest) ∨
    (why = .futureRecent ∧ historic = false ∧ roundUp t k > newest) ∨
    (why = .beyondWindow ∧ historic = true ∧ w ≤ oldest ∧ roundUp t k < oldest - w) := by
  unfold aggDecide at h
  cases historic <;> simp only [Bool.false_eq_true, if_false, if_true] at h
  · by_cases h1 : roundUp t k > newest
    · simp [h1] at h; simp [h.symm, h1]
    · by_cases h2 : roundUp t k < oldest <;> simp [h1, h2] at h
  · by_cases h1 : roundUp t k > newest
    · simp [h1] at h; simp [h.symm, h1]
    · by_cases h2 : (decide (oldest ≥ w) && decide (roundUp t k < oldest - w)) = true
      · simp [h1, h2] at h
        simp only [Bool.and_eq_true, decide_eq_true_eq] at h2
        simp [h.symm, h2.1, h2.2]
      · by_cases h3 : roundUp t k < oldest <;> simp [h1, h2, h3] at h

/-- a historic request whose replica bucket is inside [oldest - w, newest] is never rejected: it is parked in a bucket -/
theorem aggDecide_inside_window_joins (t oldest newest w k : Nat)
    (hnew : roundUp t k ≤ newest) (hold : oldest ≤ roundUp t k + w) :
    aggDecide true t oldest newest w k = .joinHistoric ∨
    aggDecide true t oldest newest w k = .joinRecent (roundUp t k - oldest) := by
  have h1 : ¬ roundUp t k > newest := by omega
  have h2 : ¬ ((decide (oldest ≥ w) && decide (roundUp t k < oldest - w)) = true) := by
    simp only [Bool.and_eq_true, decide_eq_true_eq]; omega
  unfold aggDecide
  rw [if_pos rfl, if_neg h1, if_neg h2]
  split
  · exact Or.inl rfl
  · exact Or.inr rfl

example : aggDecide true 100 103 111 50 1 = .joinHistoric := by decide +kernel
example : aggDecide true 105 103 111 50 1 = .joinRecent 3 := by decide +kernel

/-- a joined recent bucket is inside the window and belongs to this replica -/
theorem aggDecide_join_recent_ours (historic : Bool) (t oldest newest w k i : Nat) (hk : k < 3)
    (h : aggDecide historic t oldest newest w k = .joinRecent i) :
    oldest + i ≤ newest ∧ (oldest + i) % 3 = k ∧ t ≤ oldest + i ∧ oldest + i ≤ t + 2 := by
  have hb := roundUp_bounds t k
  have hmod := roundUp_mod t k hk
  unfold aggDecide at h
  cases historic <;> simp only [Bool.false_eq_true, if_false, if_true] at h
  · by_cases h1 : roundUp t k > newest
    · simp [h1] at h
    · by_cases h2 : roundUp t k < oldest
      · simp [h1, h2] at h
      · simp [h1, h2] at h
        have : oldest + i = roundUp t k := by omega
        rw [this]; omega
  · by_cases h1 : roundUp t k > newest
    · simp [h1] at h
    · by_cases h2 : (decide (oldest ≥ w) && decide (roundUp t k < oldest - w)) = true
      · simp [h1, h2] at h
      · by_cases h3 : roundUp t k < oldest
        · simp [h1, h2, h3] at h
        · simp [h1, h2, h3] at h
          have : oldest + i = roundUp t k := by omega
          rw [this]; omega

example : aggDecide false 105 103 111 50 1 = .joinRecent 3 := by decide +kernel

theorem aggDecide_late_recent_keeps (t oldest newest w k : Nat) (d : Bool) (why : Why)
    (hlate : roundUp t k < oldest) (hnew : oldest ≤ newest)
    (h : aggDecide false t oldest newest w k = .answer d why) : d = false ∧ why = .lateRecent := by
  unfold aggDecide at h
  have h1 : ¬ roundUp t k > newest := by omega
  simp [h1, hlate] at h
  exact ⟨h.1, h.2.symm⟩

example : aggDecide false 90 103 111 50 1 = .answer false .lateRecent := by decide +kernel

/-- ack_after_insert_or_reject, inserter half: every answer goInsert sends with `discard` belongs either to a stale
historic bucket (deliberate rejection: older than the historic window) or to a bucket whose rows are in the body of an
INSERT that succeeded; after a failed INSERT no answer carries discard. -/
theorem insertOne_discard_sound (b : Bucket) (historic : List Bucket) (oldest w : Nat) (ok : Bool) (r : Resp)
    (hr : r ∈ (insertOne b historic oldest w ok).resps) (hd : r.discard = true) :
    r.why = .stale ∨ (ok = true ∧ r.why = .inserted ∧ r.err = false) := by
  rw [insertOne_eq] at hr
  rcases mem_insertOneW_resps.1 hr with ⟨x, _, ha⟩ | ⟨x, _, ha⟩
  · exact Or.inl (mem_answersOf ha).2.2.1
  · obtain ⟨h1, h2, h3, _⟩ := mem_answersOf ha
    obtain rfl : ok = true := h1.symm.trans hd
    exact Or.inr ⟨rfl, h3, h2⟩

/-- the buckets goInsert classes as stale are older than the historic window (popOldestHistoricBucket's test) -/
theorem takeHistoric_stale_old (fuel : Nat) (h : List Bucket) (oldest w rc hc : Nat) (s : Bucket)
    (hs : s ∈ (takeHistoric fuel h oldest w rc hc).stale) : w ≤ oldest ∧ s.time < oldest - w :=
  by simpa [isStale] using ((takeHistoric_spec fuel h oldest w rc hc).2.2 s hs).2

/-- progress of one successful insert: every second merged into the ready bucket is in the INSERT body and every parked
contributor of it is answered with discard -/
theorem insertOne_ok_covers (b : Bucket) (historic : List Bucket) (oldest w : Nat) :
    (∀ s ∈ b.secs, s ∈ (insertOne b historic oldest w true).body) ∧
    (∀ q ∈ b.reqs, ∃ r ∈ (insertOne b historic oldest w true).resps, r.rid = q.1 ∧ r.sec = q.2 ∧ r.discard = true ∧ r.err = false) := by
  rw [insertOne_eq]
  constructor
  · exact fun s hs => List.mem_flatten.2 ⟨b.secs, List.mem_map.2 ⟨b, List.mem_cons_self .., rfl⟩, hs⟩
  · intro q hq
    refine ⟨{ rid := q.1, sec := q.2, discard := true, err := false, why := .inserted }, ?_, rfl, rfl, rfl, rfl⟩
    exact mem_insertOneW_resps.2 (Or.inr ⟨b, List.mem_cons_self .., List.mem_map.2 ⟨q, hq, rfl⟩⟩)

/-- a failed insert acknowledges nothing -/
theorem insertOne_fail_no_ack (b : Bucket) (historic : List Bucket) (oldest w : Nat) (r : Resp)
    (hr : r ∈ (insertOne b historic oldest w false).resps) (hd : r.discard = true) : r.why = .stale := by
  rcases insertOne_discard_sound b historic oldest w false r hr hd with h | h
  · exact h
  · simp at h

example : ((insertOne { time := 9, reqs := [(1, 9)], secs := [9], joined := 1 } [] 10 100 false).resps.map (·.discard)) = [false] := by decide +kernel
example : ((insertOne { time := 9, reqs := [(1, 9)], secs := [9], joined := 1 } [{ time := 5, reqs := [(2, 5)], secs := [5], joined := 1 }] 10 100 true).body) = [9, 5] := by decide +kernel

theorem diskPut_keeps (a : Agent) (c : Cbd) :
    (diskPut a c).1.dropped = a.dropped ∧ (diskPut a c).1.memSize = a.memSize ∧ (diskPut a c).1.hist = a.hist ∧
    (diskPut a c).1.flights = a.flights ∧ (diskPut a c).1.disk = a.disk := by
  unfold diskPut; split <;> simp

/-- the `else` branch of goSendRecent (disk put + historic queue) keeps the second or records a deliberate drop
(memory limit reached and nothing on disk) -/
theorem toHistoric_holds (a : Agent) (c : Cbd) :
    c.sec ∈ (toHistoric a c).hist.map (·.sec) ∨ c.sec ∈ (toHistoric a c).dropped := by
  obtain ⟨_, _, _, _, hs⟩ := diskPut_frame a c
  rw [toHistoric]
  rcases appendHist_cases (diskPut a c).1 (diskPut a c).2 with ⟨_, _, he⟩ | ⟨_, _, he⟩ | ⟨_, he⟩ <;> rw [he, ← hs]
  · exact Or.inr (List.mem_append_right _ (List.mem_singleton_self _))
  · exact Or.inl (List.mem_map.2 ⟨_, List.mem_append_right _ (List.mem_singleton_self _), rfl⟩)
  · exact Or.inl (List.mem_map.2 ⟨_, List.mem_append_right _ (List.mem_singleton_self _), rfl⟩)

/-- with a disk cache the memory limit never loses a second: it is dropped only from memory -/
theorem toHistoric_disk_holds (a : Agent) (c : Cbd) (hd : a.disk = true) (hok : a.diskOk = true) :
    c.sec ∈ (toHistoric a c).hist.map (·.sec) := by
  obtain ⟨_, _, _, _, hs⟩ := diskPut_frame a c
  have hid : (diskPut a c).2.id ≠ 0 := by
    unfold diskPut canPut
    by_cases h : c.id = 0 <;> simp [hd, hok, h]
  rw [toHistoric]
  rcases appendHist_cases (diskPut a c).1 (diskPut a c).2 with ⟨_, hz, _⟩ | ⟨_, _, he⟩ | ⟨_, he⟩
  · exact absurd hz hid
  · rw [he, ← hs]
    exact List.mem_map.2 ⟨_, List.mem_append_right _ (List.mem_singleton_self _), rfl⟩
  · rw [he, ← hs]
    exact List.mem_map.2 ⟨_, List.mem_append_right _ (List.mem_singleton_self _), rfl⟩

/-- erase_after_ack (the agent half of C01). Whatever SendSourceBucket3 returned — an error, or an answer without
`discard` — the sender does not give the second up: after the step it is in the historic queue, or in a new request
of the historic sender, or it was dropped for one of the two deliberate reasons (out of the historic window; memory
limit without disk cache). Hypotheses: the bucket data is available (in memory or on disk); `hrep` (some replica is believed
alive) is not used: without one the model still sends, to replica 3, which stands for the sender's 10 s retry timer. -/
theorem agentContinue_keeps_unless_ack (s : State) (f : Flight) (err discard : Bool)
    (hnoack : (!err && discard) = false)
    (hdata : f.cbd.mem = true ∨ s.ag.disk = true)
    (hrep : ∀ a : Agent, a.live = (removeFlight s.ag f.rid).live → chooseReplica a f.cbd.sec ≠ none) :
    f.cbd.sec ∈ heldSecs (agentContinue s f err discard).1.ag ∨
    f.cbd.sec ∈ (agentContinue s f err discard).1.ag.dropped := by
  have _ := hrep
  rcases agentContinue_cases s f err discard with ⟨ha, _⟩ | ⟨_, _, he⟩ | ⟨_, _, he⟩
  · rw [hnoack] at ha
    cases ha
  · rw [he, stepHistoricAttempt]
    rcases historicAttempt_cases (removeFlight s.ag f.rid) f.cbd s.nextRid with ⟨_, he'⟩ | ⟨_, hm, hd, _⟩ | ⟨_, _, g, he', _, hc⟩
    · rw [he']
      exact Or.inr (List.mem_append_right _ (List.mem_singleton_self _))
    · rcases hdata with h | h
      · rw [hm] at h
        cases h
      · rw [show s.ag.disk = (removeFlight s.ag f.rid).disk from rfl, hd] at h
        cases h
    · rw [he']
      exact Or.inl (mem_heldSecs.2 (Or.inr (Or.inl ⟨g, List.mem_append_right _ (List.mem_singleton_self _), by rw [hc]⟩)))
  · rw [he]
    exact (toHistoric_holds _ f.cbd).imp_left fun h => List.mem_append_left _ (List.mem_append_left _ h)

/-- without an acknowledgement the sender's continuation removes no record of the disk cache, except the
record of its own second when that second has left the historic window (checkOutOfWindow's deliberate erase) -/
theorem agentContinue_keeps_disk_records (s : State) (f : Flight) (err discard : Bool)
    (hnoack : (!err && discard) = false) (r : Rec) (hr : r ∈ s.ag.recs)
    (hne : r.id ≠ f.cbd.id ∨ outOfWindow s.ag.now f.cbd.sec s.ag.window = false ∨ f.historic = false) :
    r ∈ (agentContinue s f err discard).1.ag.recs := by
  rcases agentContinue_cases s f err discard with ⟨ha, _⟩ | ⟨_, hh, he⟩ | ⟨_, _, he⟩
  · rw [hnoack] at ha
    cases ha
  · rw [he, stepHistoricAttempt]
    rcases historicAttempt_cases (removeFlight s.ag f.rid) f.cbd s.nextRid with ⟨ho, he'⟩ | ⟨_, _, _, he'⟩ | ⟨_, _, g, he', _⟩ <;> rw [he']
    · refine (dropErase_recs_mem (a := removeFlight s.ag f.rid) (c := f.cbd) _ hr).resolve_right fun h1 => ?_
      rcases hne with h | h | h
      · exact h h1.1
      · rw [show s.ag.now = (removeFlight s.ag f.rid).now from rfl, show s.ag.window = (removeFlight s.ag f.rid).window from rfl, ho] at h
        cases h
      · rw [hh] at h
        cases h
    · exact hr
    · exact hr
  · rw [he]
    exact toHistoric_recs_mem ((afterRpc_frame s.ag f err).1 ▸ hr)

/-- the acknowledged case does erase (so the disk cache drains) -/
example :
    let s := init true true 100 1000 5 200
    let s1 := (step s (.recent 203)).1
    (s1.ag.recs.map (·.sec), ((agentContinue s1 ⟨1, ⟨203, 1, true⟩, false, 2, false⟩ false true).1.ag.recs.map (·.sec)),
     ((agentContinue s1 ⟨1, ⟨203, 1, true⟩, false, 2, false⟩ false false).1.ag.hist.map (·.sec))) = ([203], [], [203]) := by decide +kernel

/-- bytes (units) of bucket data held by the queue -/
def memCount (l : List Cbd) : Nat := (l.map sz).sum

/-- historicBucketsDataSize equals what the queue really holds (plus the ballast input) -/
def memExact (a : Agent) : Prop := a.memSize = a.ballast + memCount a.hist

theorem memCount_append (l : List Cbd) (c : Cbd) : memCount (l ++ [c]) = memCount l + sz c := by
  simp [memCount]

/-- appendHistoricBucketsToSend keeps the counter exact: a second queued without its data adds nothing -/
theorem appendHist_exact (a : Agent) (c : Cbd) (h : memExact a) : memExact (appendHist a c) := by
  unfold memExact at *
  rcases appendHist_cases a c with ⟨_, _, he⟩ | ⟨_, _, he⟩ | ⟨_, he⟩ <;> rw [he]
  · exact h
  · simp [h, memCount_append, sz]
  · simp only [memCount_append, h]
    omega

/-- with an exact counter a second is thrown away as "memory limit" only when the data really queued (plus ballast) plus its own size
exceeds the limit — the only memory drop the property allows -/
theorem appendHist_drop_legit (a : Agent) (c : Cbd) (h : memExact a)
    (hd : (appendHist a c).dropped ≠ a.dropped) : a.ballast + memCount a.hist + sz c > memLimit ∧ c.id = 0 := by
  rcases appendHist_cases a c with ⟨ho, hz, _⟩ | ⟨_, _, he⟩ | ⟨_, he⟩
  · unfold overflows at ho
    unfold memExact at h
    have := of_decide_eq_true ho
    exact ⟨by omega, hz⟩
  · exact absurd (by rw [he]) hd
  · exact absurd (by rw [he]) hd

example : (appendHist { initAgent false false 0 0 with memSize := memLimit, ballast := memLimit } ⟨7, 0, true⟩).dropped = [7] := by decide +kernel
example : (appendHist { initAgent false false 0 0 with memSize := memLimit - dataSize 7, ballast := memLimit - dataSize 7 } ⟨7, 0, true⟩).dropped = [] := by decide +kernel

/-- a counter that also counts data dropped from memory is not exact -/
example : ¬ memExact (let a := appendHist { initAgent true false 0 0 with memSize := memLimit, ballast := memLimit } ⟨7, 3, true⟩
                      { a with memSize := a.memSize + 1 }) := by
  unfold memExact; decide +kernel

open Wake in
/-- some consumer exists, and whenever the head of the queue can be popped one of them is runnable -/
def wakeInv (s : W) : Bool := decide (0 < s.awake + s.asleep) && (!poppable s || decide (0 < s.awake))

open Wake in
theorem signal_awake (s : W) (h : 0 < s.awake + s.asleep) : 0 < (signal s).awake ∧ 0 < (signal s).awake + (signal s).asleep := by
  unfold signal
  split
  · constructor <;> (dsimp only; omega)
  · constructor <;> omega

open Wake in
/-- with the signalling sites of the current code (flushBuckets on every new second, appendHistoricBucketsToSend on every
append) the invariant is preserved by every step, i.e. holds for every interleaving of clock, appends and consumers -/
theorem wake_step (s : W) (op : WOp) (h : wakeInv s = true) : wakeInv (step true s op) = true := by
  unfold wakeInv at h ⊢
  simp only [Bool.and_eq_true, decide_eq_true_eq, Bool.or_eq_true, Bool.not_eq_true'] at h ⊢
  obtain ⟨htot, hp⟩ := h
  cases op with
  | second =>
    have := signal_awake { s with clock := s.clock + 1 } htot
    simp only [Wake.step, if_true]
    exact ⟨this.2, Or.inr this.1⟩
  | append t =>
    have := signal_awake { s with hist := s.hist ++ [t] } htot
    simp only [Wake.step]
    exact ⟨this.2, Or.inr this.1⟩
  | consumer =>
    simp only [Wake.step]
    by_cases h0 : s.awake = 0
    · rw [if_pos h0]; exact ⟨htot, hp⟩
    · rw [if_neg h0]
      cases hm : minOf s.hist with
      | none => exact ⟨by dsimp only; omega, Or.inl (by simp [poppable, hm])⟩
      | some m =>
        simp only []
        by_cases hf : future s.clock m = true
        · simp only [hf, if_true]; exact ⟨by omega, Or.inl (by simp [poppable, hm, hf])⟩
        · simp only [hf, Bool.false_eq_true, if_false]; exact ⟨htot, Or.inr (by omega)⟩

open Wake in
theorem wake_invariant (s : W) (h : wakeInv s = true) (ops : List WOp) : wakeInv (run true s ops) = true := by
  induction ops generalizing s with
  | nil => exact h
  | cons o os ih => exact ih _ (wake_step s o h)

/-- the tie: the current source does signal from flushBuckets and appendHistoricBucketsToSend (regenerated fact) -/
theorem wake_sites_now : Wake.flushSignalsNow = true ∧ Wake.appendSignalsNow = true := by decide +kernel

open Wake in
/-- a second saved while still in the future (shutdown flush), read back after restart, both consumers asleep: -/
example : wakeInv ⟨10, [12], 0, 2⟩ = true := by decide +kernel
open Wake in
/-- without the signal in flushBuckets nobody re-checks once it stops being in the future: the invariant breaks -/
example : wakeInv (run false ⟨10, [12], 0, 2⟩ [.second, .second, .second]) = false := by decide +kernel
open Wake in
example : wakeInv (run true ⟨10, [12], 0, 2⟩ [.second, .second, .second]) = true := by decide +kernel

/-- checkOutOfWindow drops exactly the seconds older than now - window -/
theorem outOfWindow_iff (now t w : Nat) : outOfWindow now t w = true ↔ (w ≤ now ∧ t < now - w) := by
  unfold outOfWindow; simp; omega

/-- getShardReplicaForSecond never returns a replica believed dead, and the spare differs from the primary -/
theorem chooseReplica_alive (a : Agent) (t r : Nat) (sp : Bool) (h : chooseReplica a t = some (r, sp)) :
    isAlive a r = true ∧ r < 3 ∧ (sp = false → r = t % 3) ∧ (sp = true → r ≠ t % 3) :=
  chooseReplica_spec h

/-- fault-free delivery of one second through the recent conveyor -/
example :
    let s := run (init true false 100 1000 3 200) [.recent 201, .recv 1, .tick 0 205 true, .resp 1]
    (s.inserted, heldSecs s.ag, s.resps.length) = ([201], [], 0) := by decide +kernel

/-- insert failure, then the answer is lost, then the aggregator restarts: the second stays held and is finally
inserted through the historic conveyor -/
example :
    let s := run (init true false 50 1000 3 200)
      [.recent 201, .recv 1, .tick 0 205 false, .resp 1, .pop 50, .recv 2, .tick 0 208 true, .drop 2,
       .down 0, .up 0 215, .recv 3, .tick 0 219 true, .tick 0 222 true, .resp 3]
    (s.inserted.contains 201, heldSecs s.ag) = (true, []) := by decide +kernel

/-- what the property forbids, shown on a variant the code does NOT have: if the inserter acknowledged after a failed
INSERT (`SetDiscard(true)`), the agent would erase a second that is in no INSERT -/
example :
    let s1 := run (init true false 100 1000 3 200) [.recent 201, .recv 1]
    let bad : Resp := { rid := 1, sec := 201, discard := true, err := false, why := .inserted }
    let s2 := run { s1 with resps := [bad] } [.resp 1]
    (s2.inserted, heldSecs s2.ag) = ([], []) := by decide +kernel

/-- the state reached from any initial configuration by any list of operations (sends, deliveries, insert failures,
lost answers, aggregator down/up, agent stop/crash, replica failover, jumps of the aggregators' clocks, memory and disk
limits). No operation changes `ag.now` or `ag.window`: the agent's window tests use one clock value for the whole run, while
`pop` and `erase` bring their own `now` for the in-future test. -/
def reach (disk saveFirst : Bool) (agentNow window shortWindow aggNow : Nat) (ops : List Op) : State :=
  run (init disk saveFirst agentNow window shortWindow aggNow) ops

theorem safe_nil {s : State} {t : Nat} (h : safeX (P s) s.ag [] t) :
    t ∈ heldSecs s.ag ∨ t ∈ s.inserted ∨ t ∈ s.rejected ∨ t ∈ s.ag.dropped ∨ t ∈ s.ag.lostMem := by
  simp only [safeX, heldX, accA, P, List.map_nil, List.not_mem_nil, false_or, or_assoc] at h
  exact h

/-- **no_silent_loss** (C01, safety). After ANY sequence of operations, every second that was handed to the send path is
still held by the agent (historic queue, a blocked sender, or a live disk record), or is in the body of an INSERT that
succeeded, or was deliberately rejected by an aggregator (outside the window / too far in the future / stale), or is in
one of the agent's deliberate-drop sets (out of historic window, memory limit without disk copy; memory-only at process
death). Induction over the op list with the invariant `SInv` (SH.Lemmas.Delivery). -/
theorem no_silent_loss (disk saveFirst : Bool) (agentNow window shortWindow aggNow : Nat) (ops : List Op) :
    ∀ t ∈ (reach disk saveFirst agentNow window shortWindow aggNow ops).flushed,
      t ∈ heldSecs (reach disk saveFirst agentNow window shortWindow aggNow ops).ag ∨
      t ∈ (reach disk saveFirst agentNow window shortWindow aggNow ops).inserted ∨
      t ∈ (reach disk saveFirst agentNow window shortWindow aggNow ops).rejected ∨
      t ∈ (reach disk saveFirst agentNow window shortWindow aggNow ops).ag.dropped ∨
      t ∈ (reach disk saveFirst agentNow window shortWindow aggNow ops).ag.lostMem :=
  fun t ht => safe_nil ((sinv_run (sinv_init disk saveFirst agentNow window shortWindow aggNow) ops).safe t ht)

/-- non-vacuity of the hypothesis `t ∈ flushed` -/
example : (reach true false 50 1000 3 200 [.recent 201, .recv 1, .tick 0 205 false, .resp 1]).flushed = [201] := by decide +kernel

/-- **ack_after_insert_or_reject**, trace level: at every point of every run, every answer on the wire that tells the
agent to discard (and is not an rpc error) carries a second that is ALREADY in the body of a successful INSERT or was
deliberately rejected. (An answer is on the wire from the step that produced it, so this is "every discard answer is
preceded by a successful insert containing the second or by an enumerated rejection".) -/
theorem ack_after_insert_or_reject (disk saveFirst : Bool) (agentNow window shortWindow aggNow : Nat) (ops : List Op) :
    ∀ a ∈ (reach disk saveFirst agentNow window shortWindow aggNow ops).resps, a.discard = true → a.err = false →
      a.sec ∈ (reach disk saveFirst agentNow window shortWindow aggNow ops).inserted ∨
      a.sec ∈ (reach disk saveFirst agentNow window shortWindow aggNow ops).rejected :=
  fun a ha hd he => (sinv_run (sinv_init disk saveFirst agentNow window shortWindow aggNow) ops).resp a ha hd he

example : ((reach true false 50 1000 3 200 [.recent 201, .recv 1, .tick 0 205 true]).resps.map (fun a => (a.sec, a.discard)),
           (reach true false 50 1000 3 200 [.recent 201, .recv 1, .tick 0 205 true]).inserted) = ([(201, true)], [201]) := by decide +kernel

/-- an answer names the second of the sender that waits for it: request ids are never reused for another second -/
theorem answer_matches_sender (disk saveFirst : Bool) (agentNow window shortWindow aggNow : Nat) (ops : List Op) :
    ∀ a ∈ (reach disk saveFirst agentNow window shortWindow aggNow ops).resps,
    ∀ f ∈ (reach disk saveFirst agentNow window shortWindow aggNow ops).ag.flights, a.rid = f.rid → a.sec = f.cbd.sec :=
  fun _ ha _ hf he => (sinv_run (sinv_init disk saveFirst agentNow window shortWindow aggNow) ops).resp_sec ha hf he

/-- **erase_after_ack**, trace level: in every run, if a flushed second is held before an operation and no longer held
after it, then after that operation it is in a successful INSERT, rejected by an aggregator, or in a deliberate-drop set —
the agent never forgets a second for any other reason, whatever the operation (lost answer, error, restart, …). Together
with `agentContinue_keeps_unless_ack` (a sender gives a second up only on an answer with discard) and
`ack_after_insert_or_reject` this is "an erase is preceded by a discard answer for that second or is a deliberate drop". -/
theorem erase_after_ack (disk saveFirst : Bool) (agentNow window shortWindow aggNow : Nat) (ops : List Op) (op : Op) (t : Nat)
    (hfl : t ∈ (reach disk saveFirst agentNow window shortWindow aggNow ops).flushed)
    (hgone : t ∉ heldSecs (step (reach disk saveFirst agentNow window shortWindow aggNow ops) op).1.ag) :
    t ∈ (step (reach disk saveFirst agentNow window shortWindow aggNow ops) op).1.inserted ∨
    t ∈ (step (reach disk saveFirst agentNow window shortWindow aggNow ops) op).1.rejected ∨
    t ∈ (step (reach disk saveFirst agentNow window shortWindow aggNow ops) op).1.ag.dropped ∨
    t ∈ (step (reach disk saveFirst agentNow window shortWindow aggNow ops) op).1.ag.lostMem :=
  have h := sinv_run (sinv_init disk saveFirst agentNow window shortWindow aggNow) ops
  (safe_nil ((sinv_step op h).safe t (flushed_step h op t hfl))).resolve_left hgone

/-- non-vacuity: the acknowledged second leaves the agent at `resp` and is in storage -/
example :
    let s := reach true false 50 1000 3 200 [.recent 201, .recv 1, .tick 0 205 true]
    (s.flushed, heldSecs s.ag, heldSecs (step s (.resp 1)).1.ag, (step s (.resp 1)).1.inserted) = ([201], [201], [], [201]) := by decide +kernel

/-- **erase_after_ack, literal trace form.** In every run, for every operation other than a process restart, a disk record
of the agent that is gone after the operation was erased because THAT operation delivered an answer with discard (no rpc
error) to the sender blocked on the request that carried the record's second — or its second is, after the operation, in the
agent's deliberate-drop set `dropped` (left the historic window; eraser pass with the shard over its disk share). Uses the
invariant: request id ↔ second (`ridFun`) and disk id ↔ second (`cbdRec`). -/
theorem erase_trace (disk saveFirst : Bool) (agentNow window shortWindow aggNow : Nat) (ops : List Op) (op : Op)
    (hop : ∀ c, op ≠ .agentRestart c) (r : Rec)
    (hr : r ∈ (reach disk saveFirst agentNow window shortWindow aggNow ops).ag.recs) (hid : r.id ≠ 0) :
    r ∈ (step (reach disk saveFirst agentNow window shortWindow aggNow ops) op).1.ag.recs ∨
    AckDelivered (reach disk saveFirst agentNow window shortWindow aggNow ops) op r.sec ∨
    r.sec ∈ (step (reach disk saveFirst agentNow window shortWindow aggNow ops) op).1.ag.dropped :=
  erase_step (sinv_run (sinv_init disk saveFirst agentNow window shortWindow aggNow) ops) op hop hr hid

/-- a process restart (graceful or crash) erases nothing: the second of every record is still on disk afterwards (the first
`startupReads` records read back under new ids, the others unread) -/
theorem restart_erases_nothing (disk saveFirst : Bool) (agentNow window shortWindow aggNow : Nat) (ops : List Op) (crash : Bool)
    (r : Rec) (hr : r ∈ (reach disk saveFirst agentNow window shortWindow aggNow ops).ag.recs) :
    ∃ r' ∈ (step (reach disk saveFirst agentNow window shortWindow aggNow ops) (.agentRestart crash)).1.ag.recs, r'.sec = r.sec :=
  restart_secs _ crash hr

/-- non-vacuity: the record of second 201 (id 1) is erased exactly by the delivery of the discard answer to request 1 -/
example :
    (reach true true 50 1000 3 200 [.recent 201, .recv 1, .tick 0 205 true]).ag.recs.map (fun r => (r.sec, r.id)) = [(201, 1)] ∧
    (step (reach true true 50 1000 3 200 [.recent 201, .recv 1, .tick 0 205 true]) (.resp 1)).1.ag.recs = [] ∧
    (reach true true 50 1000 3 200 [.recent 201, .recv 1, .tick 0 205 true]).resps.map (fun a => (a.rid, a.sec, a.discard)) = [(1, 201, true)] ∧
    (reach true true 50 1000 3 200 [.recent 201, .recv 1, .tick 0 205 true]).ag.flights.map (fun f => (f.rid, f.cbd.sec)) = [(1, 201)] := by
  decide +kernel

/-- the per-second sampling budget of sampleBucket: an explicit `--shard-sample-budget` override or the derived budget,
clamped to half of the aggregator's uncompressed-bucket limit — for every source iff `clampAll` -/
def sampleBudget (override : Option Nat) (derived limit : Nat) (clampAll : Bool) : Nat :=
  match override with
  | some b => if clampAll then min b (limit / 2) else b
  | none => min derived (limit / 2)

/-- with the clamp applied to every budget source the sampler is never allowed more than half of what the aggregator's
`compress.Decompress` accepts (an oversize bucket is answered "discard" and the agent would erase the second) -/
theorem sampleBudget_fits (override : Option Nat) (derived limit : Nat) : sampleBudget override derived limit true ≤ limit / 2 := by
  unfold sampleBudget; split
  · simp only [if_true]; exact Nat.min_le_right _ _
  · exact Nat.min_le_right _ _

/-- the current source clamps at the top level of sampleBucket's body, i.e. after both sources (regenerated fact) -/
theorem sampleBudget_clamp_now : sampleBudgetClampTopLevel = true := by decide

/-- the variant that clamps only the derived budget lets an override of 64 MiB through -/
example : ¬ (sampleBudget (some (64 * 2 ^ 20)) 0 maxUncompressedBucketSize false ≤ maxUncompressedBucketSize / 2) := by decide +kernel
example : sampleBudget (some (64 * 2 ^ 20)) 0 maxUncompressedBucketSize true = maxUncompressedBucketSize / 2 := by decide +kernel

/-- An inserter delayed between its `oldestTime` snapshot and its pop classes a historic bucket as stale (answers its
contributors "discard" without inserting) only if the bucket is older than the SNAPSHOT minus the historic window — in
particular never a bucket newer than the snapshot, which is what arrives when the window advanced meanwhile. -/
theorem delayed_inserter_stale_only_older (will : Bool) (b : Bucket) (h : List Bucket) (snap w : Nat) (ok : Bool) (a : Resp)
    (ha : a ∈ (insertOneW will b h snap w ok).resps) (hs : a.why = .stale) :
    ∃ x ∈ h, (a.rid, a.sec) ∈ x.reqs ∧ w ≤ snap ∧ x.time < snap - w ∧ x.time < snap := by
  rcases mem_insertOneW_resps.1 ha with ⟨x, hx, ha⟩ | ⟨x, _, ha⟩
  · obtain ⟨hxh, hst⟩ := (batchOf_sub will b h snap w).2.2 x hx
    simp only [isStale, Bool.and_eq_true, decide_eq_true_eq] at hst
    exact ⟨x, hxh, (mem_answersOf ha).2.2.2, hst.1, hst.2, by omega⟩
  · rw [(mem_answersOf ha).2.2.1] at hs
    split at hs <;> cases hs

/-- the unsigned rewrite `oldestTime - v.time > historicWindow` (uint32) agrees with the test only for buckets not newer
than the snapshot: for one that is newer the subtraction wraps and the bucket is classed stale -/
def isStaleWrapped (snap w t : Nat) : Bool := decide ((snap + 2 ^ 32 - t) % 2 ^ 32 > w)
example : isStale 3000021 1000 { time := 3000024, reqs := [(7, 3000024)], secs := [3000024], joined := 1 } = false ∧
          isStaleWrapped 3000021 1000 3000024 = true := by decide +kernel
example : isStale 3000021 1000 { time := 2998000, reqs := [], secs := [], joined := 0 } = true ∧ isStaleWrapped 3000021 1000 2998000 = true := by decide +kernel

/-- the interleaving as an operation sequence of the model: second 207 sits in a sender's hands, replica 0 already holds a
historic bucket (198); its inserter takes the snapshot 201 at now1 = 204, the ticker fires again at now2 = 211 (window now
starts at 208), the historic request for 207 (> snapshot, < new oldest) arrives and is parked as a historic bucket; the
delayed inserter takes it along and INSERTS it — it is not classed stale -/
example :
    let s := run (init true false 50 1000 3 200) [.overflow 198, .pop 50, .recv 1, .overflow 207, .pop 50, .tickRace 0 204 211 2 true]
    (s.inserted.contains 207, s.rejected, s.resps.map (fun a => (a.sec, a.discard, a.why))) =
      (true, [], [(198, true, .inserted), (207, true, .inserted)]) := by decide +kernel

/-- the eraser pass keeps the agent invariant and every second accounted for (a second it removes is recorded in `dropped`) -/
theorem eraser_keeps (Q : Nat → Prop) (a : Agent) (now : Nat) (over : Bool) (h : AInv Q a []) :
    AInv Q (eraserStep a now over) [] ∧ ∀ t, safeX Q a [] t → safeX Q (eraserStep a now over) [] t :=
  (keepsT_eraserStep (A := fun _ => True) now over h).1

/-- **eraser_drops_only_over_share.** If the shard is not over its own share, the eraser does not erase the second it
popped (unless it left the historic window): it hands it back to the historic queue exactly as a failed send does. -/
theorem eraser_drops_only_over_share (a a' : Agent) (c : Cbd) (now : Nat) (hp : pop a now = (a', some c))
    (hin : outOfWindow a'.now c.sec a'.window = false) : eraserStep a now false = appendHist a' c := by
  unfold eraserStep; simp [hp, hin]

/-- `over` is about THIS shard: three shards at 60% of a share each are not over their share, although together they
hold more than one share (what the variant that sums all shards compares) -/
example : overShare [60, 60, 60] 0 300 = false ∧ decide (([60, 60, 60] : List Nat).sum > 300 / 3) = true := by decide +kernel
example : overShare [60, 120, 60] 1 300 = true := by decide +kernel

/-- non-vacuity: an in-window second with a disk copy survives the pass of an eraser whose shard is under its share, and is
dropped (recorded) when the shard is over it -/
example :
    let a := toHistoric (initAgent true false 50 1000) ⟨150, 0, true⟩
    ((eraserStep a 10 false).hist.map (·.sec), (eraserStep a 10 false).recs.map (·.sec), (eraserStep a 10 true).recs.map (·.sec),
     (eraserStep a 10 true).dropped) = ([150], [150], [], [150]) := by decide +kernel

/-- the eraser pass is an operation of the composed system (`Op.erase now over`): `no_silent_loss`, `erase_after_ack` and
`erase_trace` range over it, with the disk-limit drop recorded in `dropped` as a deliberate loss -/
example :
    let s := reach true false 50 1000 3 200 [.overflow 150, .erase 10 false, .erase 10 true]
    (s.flushed, heldSecs s.ag, s.ag.dropped) = ([150], [], [150]) := by decide +kernel
example :
    let s := reach true false 50 1000 3 200 [.overflow 150, .erase 10 false]
    (heldSecs s.ag, s.ag.dropped) = ([150, 150], []) := by decide +kernel

/-- **can_always_finish_partial.** From every reachable state in which a second is the (first) oldest entry of the agent's
historic queue, is inside the agent's historic window, its primary or spare replica is believed alive and is up, that
replica accepts it into its historic window (`aggDecide … = joinHistoric`, still valid 3 s later) and has no other
historic bucket waiting: the explicit fault-free schedule `finishOps s` — pop, deliver the request, let the replica's clock
reach `oldest + shortWindow + 3` — has length ≤ 3 and ends with the second in the body of a successful INSERT.
PARTIAL with respect to the full statement (described at the end of the file): other ways of being held (blocked sender, unread disk record,
not the oldest queue entry → iterate), a historic backlog at the replica (several inserter rounds), seconds still inside
the replica's RECENT window, and replicas that first have to come up are not covered. -/
theorem can_always_finish_partial (disk saveFirst : Bool) (agentNow window shortWindow aggNow : Nat) (ops : List Op)
    (c : Cbd) (r : Nat) (g : Agg) (b0 nb : Bucket)
    (hf : FinishReady (reach disk saveFirst agentNow window shortWindow aggNow ops) c r g b0 nb) :
    (finishOps (reach disk saveFirst agentNow window shortWindow aggNow ops)).length ≤ 3 ∧
    c.sec ∈ (run (reach disk saveFirst agentNow window shortWindow aggNow ops)
                 (finishOps (reach disk saveFirst agentNow window shortWindow aggNow ops))).inserted :=
  ⟨finishOps_length _, can_finish_oldest (sinv_run (sinv_init disk saveFirst agentNow window shortWindow aggNow) ops) hf⟩

/-- non-vacuity: second 150 went to the historic queue while the replicas' recent windows start at 197; the hypotheses hold
(`FinishReady`), the schedule is the 3-op list, and it inserts 150 -/
example : FinishReady (reach true false 50 1000 3 200 [.overflow 150]) ⟨150, 1, true⟩ 0
    { up := true, recent := (advance [] 200 3).2, historic := [] } (mkBucket 197) (mkBucket 203) :=
  { hist := ⟨[], by decide, by decide⟩, inAgent := by decide, data := Or.inl rfl, replica := ⟨false, by decide⟩, agg := by decide,
    up := rfl, noBacklog := rfl,
    window := ⟨mkBucket 198, mkBucket 199, mkBucket 200, [mkBucket 201, mkBucket 202, mkBucket 203], by decide, rfl, rfl, rfl, by decide⟩,
    accept := by decide, slack := by decide }

example :
    let s := reach true false 50 1000 3 200 [.overflow 150]
    (finishOps s, (run s (finishOps s)).inserted) = ([.pop 151, .recv 1, .tick 0 203 true], [150]) := by decide +kernel

/-
  Not proved: the full liveness statement, that from every reachable state every held second inside the agent's and the
  aggregators' windows can be brought into a successful INSERT by a fault-free continuation of bounded length. The general
  schedule (alive/up everything; recv, tick, resp, pop until the queue is empty; repeat) is what the harness's `finish` phase
  executes on the real code after every generated case (oracle sig=not-delivered-after-recovery). Needed beyond
  `can_always_finish_partial`: contiguity of the recent window over all ops, a measure over the historic backlog, iteration
  of the pop step over older queue entries and unread disk records, and the resend path of blocked senders.
-/

end SH.Props.C01
