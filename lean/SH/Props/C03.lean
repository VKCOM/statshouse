/-
  C03 — Inserted rows equal the merge of all contributions and read back intact.

  "When the insert budget does not bind, the body an aggregator inserts contains each (time, metric, tags, string-top) key
   exactly once with count, min, max, sum and sum-of-squares equal to the merge of every contribution received for that
   key. The unique-value state, percentile centroids and min/max host arguments it writes are decoded by the API's column
   readers into the same values, and unique-count estimates are exact while a row holds fewer distinct values than the
   sketch's exact-mode limit."
  Quantifier: all sets of agent buckets (any keys, top entries, value kinds) merged into aggregator buckets, and all column
  values written by the insert encoder.

  Model: SH.Model.Insert (byte-level encoders of aggregator_insert.go / rowbinary, the chutil column readers, MergeWithTL2,
  the shard map, FinishStringTop), SH.Model.Unique (the sketch). Arithmetic is exact (Int, quarter units): float rounding is
  not decided.

  Part 1  round trips decode (encode x) = x: uvarint, argMin/argMax(String, Float32) (single state and a column read into
          reused slots; `decide` witnesses for the reader before the fix), t-digest centroids, uniq state; percentile / uniq
          result columns decoded block by block through one column object: rows the reader kept from earlier blocks are
          never changed by later blocks (`refcol_roundtrip`, `refcol_stable`; `decide` witness for a Reset that keeps slots).
  Part 2  one (key, string-top) value: count / sum / sum of squares / min / max after any list of valid contributions; the
          hosts: ONE restoration function for the max / min / max-count blocks of MergeWithTL2 (`restoreHost_*`, `hosts_spec`),
          the min (max) host of a merged value is the host a contribution holding that min (max) names (`fold_hosts`), the
          max-count host is named by a counted contribution (`fold_cnt_hosts`); `decide` witness for a slip between the blocks.
  Part 3  the shard map: a received row changes exactly the values it addresses (`valueAt_contribute`; all rows: `row_is_merge`),
          every (key, top) is written at most once per aggregator bucket (`one_row_per_key`), the key columns read back (injective).
  Part 4  the aggregator's sketch (MergeRead of the agents' images) is exact below the limit: a corollary of the sketch invariant
          of SH.Lemmas.UniqueSketch (`Rep`, `mergeRead_rep`, `rep_canonical`); the byte path MarshallAppend -> ReadFrom is a witness.
-/
import SH.Model.Insert
import SH.Lemmas.UniqueTrie
import SH.Lemmas.UniqueSketch
import SH.Lemmas.Lists
import Mathlib.Tactic.Ring
import Mathlib.Data.List.Nodup
namespace SH.C03
open SH.Insert

/-! ## Part 1 — round trips -/

theorem byte_toNat (n : Nat) : (byte n).toNat = n % 256 := by
  simp [byte, UInt8.toNat_ofNat']

theorem readU32_u32le (n : Nat) (h : n < 4294967296) (rest : Bytes) :
    readU32 (u32le n ++ rest) = some (n, rest) := by
  simp only [u32le, List.cons_append, List.nil_append, readU32, byte_toNat]
  rw [← Nat.mod_mul, ← Nat.mod_mul, ← Nat.mod_mul, Nat.mod_eq_of_lt h]

/-- `7 * f - 6`: with `f` bytes still allowed the last one may only hold 0 or 1 (the `f = 0 ∧ 1 < b` test of `readUvarintAux`) -/
theorem uvarintF_read : ∀ (f n s x : Nat) (rest : Bytes), 0 < f → n < 2 ^ (7 * f - 6) →
    readUvarintAux f s x (uvarintF f n ++ rest) = some (x + n * 2 ^ s, rest) := by
  intro f
  induction f with
  | zero => intro n s x rest h; omega
  | succ f ih =>
    intro n s x rest _ hn
    by_cases h128 : n < 128
    · have hb : n % 256 = n := by omega
      have h1 : ¬ (f = 0 ∧ 1 < n) := by
        rintro ⟨rfl, h⟩
        exact absurd hn (by omega)
      simp only [uvarintF, h128, if_true, List.cons_append, List.nil_append, readUvarintAux, byte_toNat, hb, h1, if_false]
    · have hb : (n % 128 + 128) % 256 = n % 128 + 128 := by omega
      have hge : ¬ (n % 128 + 128 < 128) := by omega
      have hf : 0 < f := by
        rcases Nat.eq_zero_or_pos f with rfl | h0
        · exact absurd hn (by omega)
        · exact h0
      have hn' : n / 128 < 2 ^ (7 * f - 6) := by
        rw [show 7 * (f + 1) - 6 = (7 * f - 6) + 7 by omega, Nat.pow_add] at hn
        exact Nat.div_lt_of_lt_mul (by rw [Nat.mul_comm]; exact hn)
      simp only [uvarintF, h128, if_false, List.cons_append, readUvarintAux, byte_toNat, hb, hge]
      rw [ih (n / 128) (s + 7) _ rest hf hn', Nat.add_sub_cancel, Nat.pow_add, Nat.add_assoc, ← Nat.mul_assoc,
        Nat.mul_right_comm, ← Nat.add_mul, Nat.mul_comm (n / 128)]
      exact congrArg (fun m => some (x + m * 2 ^ s, rest)) (Nat.mod_add_div n 128)

theorem readUvarint_uvarint (n : Nat) (h : n < 2 ^ 64) (rest : Bytes) :
    readUvarint (uvarint n ++ rest) = some (n, rest) := by
  have := uvarintF_read 10 n 0 0 rest (by omega) (by simpa using h)
  simpa [readUvarint, uvarint] using this

theorem u32le_length (n : Nat) : (u32le n).length = 4 := rfl

/-- a host tag as the code can hold it: int32 id, string shorter than 2^32 - 3 (length + 2 = 0xffffffff is the "empty" marker) -/
def WfTag (t : Tag) : Prop := -2147483648 ≤ t.i ∧ t.i < 2147483648 ∧ t.s.length + 2 < 4294967295

theorem i32_lt (x : Int) : i32 x < 4294967296 := by
  unfold i32; omega

theorem toI32_i32 (x : Int) (h1 : -2147483648 ≤ x) (h2 : x < 2147483648) : toI32 (i32 x) = x := by
  unfold toI32 i32
  split <;> omega

theorem splitAt_append (s rest : Bytes) : splitAt? s.length (s ++ rest) = some (s, rest) := by
  simp [splitAt?]

theorem readArgValue_enc (a : ArgVal) (v : Nat) (hv : v < 4294967296) (rest : Bytes) :
    readArgValue a (1 :: (u32le v ++ rest)) = some ({ a with v := v }, rest) := by
  simp [readArgValue, readU32_u32le v hv]

/-- C03 "min/max host arguments it writes are decoded by the API's column readers into the same values":
    whatever the slot held before, the fixed reader returns exactly the written host (int id or string) and value bits;
    an empty host reads back as the zero value. -/
theorem arg_roundtrip (t : Tag) (v : Nat) (prev : ArgVal) (rest : Bytes) (ht : WfTag t) (hv : v < 4294967296) :
    readArg .reset prev (encArg t v ++ rest) = some (argOfTag t v, rest) := by
  obtain ⟨h1, h2, h3⟩ := ht
  unfold encArg argOfTag
  by_cases he : t.empty = true
  · simp [he, encArgEmpty, readArg, readU32, readArgBody, hasArg, readArgValue]
  · simp only [he, Bool.false_eq_true, if_false]
    by_cases hi : t.i = 0
    · -- string host
      have hs : (t.i != 0) = false := by simp [hi]
      simp only [argPayload, hs, Bool.false_eq_true, if_false, List.length_cons]
      have hl : t.s.length + 1 + 1 < 4294967296 := by omega
      simp only [readArg, List.append_assoc, readU32_u32le _ hl]
      have hh : hasArg (t.s.length + 1 + 1) = true := by
        unfold hasArg
        rw [Bool.and_eq_true]
        constructor
        · simp only [bne_iff_ne, ne_eq]; omega
        · simp
      simp only [readArgBody, hh, if_true, List.cons_append]
      simp only [readArgString]
      have : ¬ (t.s.length + 1 + 1 < 2) := by omega
      simp only [this, if_false]
      have e : t.s.length + 1 + 1 - 2 = t.s.length := by omega
      rw [e, splitAt_append]
      simp only [List.nil_append, if_true]
      rw [readArgValue_enc _ v hv]
      simp [ArgVal.zero]
    · -- int host
      have hs : (t.i != 0) = true := by simp [hi]
      simp only [argPayload, hs, if_true, List.length_cons, u32le_length]
      simp only [readArg, List.append_assoc, readU32_u32le 6 (by omega)]
      have hh : hasArg 6 = true := by decide
      simp only [readArgBody, hh, if_true, List.cons_append]
      have : ¬ ((0 : UInt8) = 1) := by decide
      simp only [this, if_false, readArgInt, readU32_u32le _ (i32_lt t.i)]
      simp only [List.nil_append, List.drop_succ_cons, List.drop_zero]
      rw [readArgValue_enc _ v hv]
      simp [ArgVal.zero, toI32_i32 t.i h1 h2]

/-- a whole column (one result block) read into slots that held arbitrary earlier values -/
theorem argcol_roundtrip : ∀ (l : List (Tag × Nat)) (prev : List ArgVal) (rest : Bytes),
    (∀ p ∈ l, WfTag p.1 ∧ p.2 < 4294967296) →
    readArgCol .reset l.length prev (l.flatMap (fun p => encArg p.1 p.2) ++ rest) =
      some (l.map (fun p => argOfTag p.1 p.2), rest) := by
  intro l
  induction l with
  | nil => intro prev rest _; simp [readArgCol]
  | cons p l ih =>
    intro prev rest h
    have hp := h p (List.mem_cons_self ..)
    simp only [List.flatMap_cons, List.length_cons, readArgCol, List.append_assoc]
    rw [arg_roundtrip p.1 p.2 _ _ hp.1 hp.2]
    simp only
    rw [ih prev.tail rest (fun q hq => h q (List.mem_cons_of_mem _ hq))]
    simp

/-- the reader before the fix: a second block whose row has no host keeps the host of the first block's row -/
example : readArgCol .stale 1 [argOfTag ⟨0, [104, 65]⟩ 7] (encArg Tag.none 0) = some ([⟨[104, 65], 0, 7⟩], []) := by decide +kernel
example : readArgCol .reset 1 [argOfTag ⟨0, [104, 65]⟩ 7] (encArg Tag.none 0) = some ([ArgVal.zero], []) := by decide +kernel
/-- … and a string host read into a slot that held an int host keeps the int id -/
example : (readArg .stale (argOfTag ⟨5, []⟩ 1) (encArg ⟨0, [104]⟩ 2)).map (·.1) = some ⟨[104], 5, 2⟩ := by decide +kernel

example : WfTag ⟨-7, []⟩ ∧ WfTag ⟨0, [104, 65]⟩ ∧ argOfTag ⟨-7, []⟩ 9 = ⟨[], -7, 9⟩ := by
  refine ⟨by unfold WfTag; simp, by unfold WfTag; simp, by decide +kernel⟩


theorem readWords_enc : ∀ (xs : List Nat) (rest : Bytes), (∀ x ∈ xs, x < 4294967296) →
    readWords xs.length (xs.flatMap u32le ++ rest) = some (xs, rest) := by
  intro xs
  induction xs with
  | nil => intro rest _; simp [readWords]
  | cons x xs ih =>
    intro rest h
    simp only [List.flatMap_cons, List.length_cons, readWords, List.append_assoc]
    rw [readU32_u32le x (h x (List.mem_cons_self ..))]
    simp only
    rw [ih rest (fun y hy => h y (List.mem_cons_of_mem _ hy))]

theorem readPairs_enc : ∀ (l : List (Nat × Nat)) (rest : Bytes), (∀ c ∈ l, c.1 < 4294967296 ∧ c.2 < 4294967296) →
    readPairs l.length (l.flatMap (fun c => u32le c.1 ++ u32le c.2) ++ rest) = some (l, rest) := by
  intro l
  induction l with
  | nil => intro rest _; simp [readPairs]
  | cons c l ih =>
    intro rest h
    have hc := h c (List.mem_cons_self ..)
    simp only [List.flatMap_cons, List.length_cons, readPairs, List.append_assoc]
    rw [readU32_u32le c.1 hc.1]
    simp only
    rw [readU32_u32le c.2 hc.2]
    simp only
    rw [ih rest (fun y hy => h y (List.mem_cons_of_mem _ hy))]

/-- C03 "percentile centroids … are decoded by the API's column readers into the same values": the reader hands
    AddCentroid exactly the (float32 mean, float32 weight) pairs that were written, in order -/
theorem centroids_roundtrip (l : List (Nat × Nat)) (rest : Bytes) (hl : l.length < 2 ^ 64)
    (h : ∀ c ∈ l, c.1 < 4294967296 ∧ c.2 < 4294967296) :
    readCentroids (encCentroids32 l ++ rest) = some (l, rest) := by
  simp only [readCentroids, encCentroids32, List.append_assoc, readUvarint_uvarint _ hl]
  exact readPairs_enc l rest h

/-- the empty digest (`ValueTDigest == nil`, AppendEmptyCentroids) reads back as no centroids -/
theorem centroids_empty (rest : Bytes) : readCentroids (0 :: rest) = some ([], rest) := by
  simp [readCentroids, readUvarint, readUvarintAux, readPairs]

/-- the wire-relevant state of an allocated sketch as the code can hold it -/
structure WfU (u : USt) : Prop where
  alloc : u.alloc = true
  k : u.k < 256
  cnt : u.cnt = u.vals.length + (if u.hasZero then 1 else 0)
  max : u.cnt ≤ Gen.C03.uniqMaxSize
  vals : ∀ x ∈ u.vals, 0 < x ∧ x < 4294967296

/-- C03 "the unique-value state … is decoded by the API's column readers into the same values": skipDegree, itemsCount,
    the zero flag and the stored values (in the order written) are what ChUnique.ReadFrom re-inserts -/
theorem unique_roundtrip (u : USt) (rest : Bytes) (h : WfU u) : readUnique (encUnique u ++ rest) = some (u, rest) := by
  obtain ⟨ha, hk, hc, hm, hv⟩ := h
  rcases u with ⟨alloc, k, cnt, hz, vals⟩
  simp only at ha hk hc hm hv
  subst ha
  have hcnt : cnt < 2 ^ 64 := by
    have : Gen.C03.uniqMaxSize = 65536 := rfl
    omega
  simp only [encUnique, if_true, List.append_assoc, List.cons_append, List.nil_append, readUnique,
    readUvarint_uvarint _ hcnt]
  have : ¬ (Gen.C03.uniqMaxSize < cnt) := by omega
  simp only [this, if_false]
  have hnz : ∀ x ∈ vals, (x != 0) = true := fun x hx => by
    have := (hv x hx).1
    simp only [bne_iff_ne, ne_eq]; omega
  have hany : vals.any (· == 0) = false := by
    rw [List.any_eq_false]; intro x hx; have := (hv x hx).1
    simp only [beq_iff_eq]; omega
  have hfil : vals.filter (· != 0) = vals := List.filter_eq_self.mpr hnz
  have hkk : k % 256 = k := by omega
  cases hz
  · simp only [Bool.false_eq_true, if_false, Nat.add_zero, List.nil_append] at hc ⊢
    subst hc
    rw [readWords_enc vals rest (fun x hx => (hv x hx).2)]
    simp only [hany, hfil, byte_toNat, hkk]
  · simp only [if_true] at hc ⊢
    subst hc
    have e : u32le 0 ++ (vals.flatMap u32le ++ rest) = (0 :: vals).flatMap u32le ++ rest := by simp
    have hl : vals.length + 1 = (0 :: vals).length := by simp
    rw [e, hl, readWords_enc (0 :: vals) rest]
    · simp only [List.any_cons, beq_self_eq_true, Bool.true_or, List.filter_cons, bne_self_eq_false,
        Bool.false_eq_true, if_false, hfil, byte_toNat, hkk, List.length_cons]
    · intro x hx
      rcases List.mem_cons.mp hx with rfl | hx
      · omega
      · exact (hv x hx).2

/-- the zero value `ChUnique{}` is written as (0, 0) and reads back as an allocated empty sketch -/
theorem unique_nil_roundtrip (u : USt) (rest : Bytes) (h : u.alloc = false) :
    readUnique (encUnique u ++ rest) = some ({ alloc := true, k := 0, cnt := 0, hasZero := false, vals := [] }, rest) := by
  simp [encUnique, h, readUnique, readUvarint, readUvarintAux, readWords]

example : WfU { alloc := true, k := 1, cnt := 3, hasZero := true, vals := [32768, 6] } :=
  ⟨rfl, by decide +kernel, by decide +kernel, by decide +kernel, by decide +kernel⟩

theorem decodeBlock_fresh {α : Type} (reuse : α → α → Bool) : ∀ (vs heap : List α),
    decodeBlock reuse heap [] vs = (heap ++ vs, (List.range vs.length).map (heap.length + ·)) := by
  intro vs
  induction vs with
  | nil => intro heap; simp [decodeBlock]
  | cons v vs ih =>
    intro heap
    simp only [decodeBlock, List.head?_nil, Option.join_none, storeSlot, List.tail_nil, ih, List.length_append,
      List.length_cons, List.length_nil, List.append_assoc, List.cons_append, List.nil_append]
    refine Prod.ext rfl ?_
    simp only [List.range_succ_eq_map, List.map_cons, Nat.add_zero, List.map_map]
    congr 1
    apply List.map_congr_left
    intro i _
    simp only [Function.comp_apply]; omega

/-- with `Reset` dropping the backing array, every block allocates fresh objects: the heap only grows and the reader's
    references are exactly the objects in allocation order -/
theorem colBlock_drop {α : Type} (reuse : α → α → Bool) (st : ColState α) (vs : List α)
    (h : st.retained = List.range st.heap.length) :
    (colBlock .drop reuse st vs).heap = st.heap ++ vs ∧
    (colBlock .drop reuse st vs).retained = List.range (st.heap ++ vs).length := by
  unfold colBlock
  simp only [offered, decodeBlock_fresh, h, List.length_append, true_and]
  rw [List.range_add]

theorem colBlocks_drop_gen {α : Type} (reuse : α → α → Bool) : ∀ (blocks : List (List α)) (st : ColState α),
    st.retained = List.range st.heap.length →
    (blocks.foldl (colBlock .drop reuse) st).heap = st.heap ++ blocks.flatten ∧
    (blocks.foldl (colBlock .drop reuse) st).retained = List.range (st.heap ++ blocks.flatten).length := by
  intro blocks
  induction blocks with
  | nil => intro st h; simpa using h
  | cons b blocks ih =>
    intro st h
    obtain ⟨h1, h2⟩ := colBlock_drop reuse st b h
    have := ih (colBlock .drop reuse st b) (by rw [h2, h1])
    simp only [List.foldl_cons, List.flatten_cons]
    rw [this.1, this.2, h1, List.append_assoc]
    exact ⟨rfl, rfl⟩

theorem range_lookup {α : Type} (L : List α) : (List.range L.length).map (fun r => L[r]?) = L.map some := by
  apply List.ext_getElem
  · simp
  · intro i hi1 hi2
    simp only [List.length_map, List.length_range] at hi1
    simp [List.getElem?_eq_getElem hi1]

/-- C03, result columns read block by block (ColTDigest, ColUnique with `Reset` = `*col = nil`): after ANY number of blocks
    through one column object, every row the reader kept — from whichever block — still reads as the value decoded for it. -/
theorem refcol_roundtrip {α : Type} (reuse : α → α → Bool) (blocks : List (List α)) :
    readBack (colBlocks .drop reuse blocks) = blocks.flatten.map some := by
  obtain ⟨h1, h2⟩ := colBlocks_drop_gen reuse blocks ColState.init rfl
  unfold readBack colBlocks
  rw [h2, h1]
  simp only [ColState.init, List.nil_append]
  exact range_lookup _

/-- … in particular decoding one more block never changes what was handed out for the blocks before it -/
theorem refcol_stable {α : Type} (reuse : α → α → Bool) (blocks : List (List α)) (b : List α) :
    (readBack (colBlocks .drop reuse (blocks ++ [b]))).take blocks.flatten.length = readBack (colBlocks .drop reuse blocks) := by
  rw [refcol_roundtrip, refcol_roundtrip, List.flatten_append]
  simp only [List.flatten_cons, List.flatten_nil, List.append_nil]
  generalize blocks.flatten = L
  rw [List.map_append]
  have : L.length = (L.map some).length := by simp
  rw [this, List.take_left']
  rfl

/-- a `Reset` that keeps the backing array (what the ArgMin/ArgMax columns do) breaks it for digests: the slot of block 1 is
    refilled in place by block 2, and the row the reader kept from block 1 now shows block 2's centroids -/
example : readBack (colBlocks .keep tdReuse [[[(1, 1)], [(5, 5)]], [[(2, 2)]]]) = [some [(2, 2)], some [(5, 5)], some [(2, 2)]] := by decide +kernel
example : readBack (colBlocks .drop tdReuse [[[(1, 1)], [(5, 5)]], [[(2, 2)]]]) = [some [(1, 1)], some [(5, 5)], some [(2, 2)]] := by decide +kernel

theorem readCentroidsCol_enc : ∀ (l : List (List (Nat × Nat))) (rest : Bytes),
    (∀ cs ∈ l, cs.length < 2 ^ 64 ∧ ∀ c ∈ cs, c.1 < 4294967296 ∧ c.2 < 4294967296) →
    readCentroidsCol l.length (l.flatMap encCentroids32 ++ rest) = some (l, rest) := by
  intro l
  induction l with
  | nil => intro rest _; simp [readCentroidsCol]
  | cons cs l ih =>
    intro rest h
    have hc := h cs (List.mem_cons_self ..)
    simp only [List.flatMap_cons, List.length_cons, readCentroidsCol, List.append_assoc]
    rw [centroids_roundtrip cs _ hc.1 hc.2]
    simp only
    rw [ih rest (fun x hx => h x (List.mem_cons_of_mem _ hx))]

theorem readUniqueCol_enc : ∀ (l : List USt) (rest : Bytes), (∀ u ∈ l, WfU u) →
    readUniqueCol l.length (l.flatMap encUnique ++ rest) = some (l, rest) := by
  intro l
  induction l with
  | nil => intro rest _; simp [readUniqueCol]
  | cons u l ih =>
    intro rest h
    simp only [List.flatMap_cons, List.length_cons, readUniqueCol, List.append_assoc]
    rw [unique_roundtrip u _ (h u (List.mem_cons_self ..))]
    simp only
    rw [ih rest (fun x hx => h x (List.mem_cons_of_mem _ hx))]

theorem mapM_id_of_forall {α : Type} (f : α → Option α) : ∀ (l : List α), (∀ a ∈ l, f a = some a) → l.mapM f = some l := by
  intro l
  induction l with
  | nil => intro _; rfl
  | cons a l ih =>
    intro h
    rw [List.forall_mem_cons] at h
    rw [List.mapM_cons, h.1, ih h.2]
    rfl

/-- blocks that each decode to themselves, read through one column object -/
theorem blocks_roundtrip {α : Type} (reuse : α → α → Bool) (rd : List α → Option (List α × Bytes)) (blocks : List (List α))
    (h : ∀ b ∈ blocks, rd b = some (b, [])) :
    (blocks.mapM (fun b => (rd b).map (·.1))).map (fun vals => readBack (colBlocks .drop reuse vals)) =
      some (blocks.flatten.map some) := by
  rw [mapM_id_of_forall _ blocks (fun b hb => by rw [h b hb]; rfl), Option.map_some, refcol_roundtrip]

/-- bytes of a percentile result, block by block → what the reader holds after the last block: all inserted centroid lists -/
theorem tdcol_roundtrip (blocks : List (List (List (Nat × Nat))))
    (h : ∀ b ∈ blocks, ∀ cs ∈ b, cs.length < 2 ^ 64 ∧ ∀ c ∈ cs, c.1 < 4294967296 ∧ c.2 < 4294967296) :
    (blocks.mapM (fun b => (readCentroidsCol b.length (b.flatMap encCentroids32)).map (·.1))).map
        (fun vals => readBack (colBlocks .drop tdReuse vals)) = some (blocks.flatten.map some) :=
  blocks_roundtrip tdReuse _ blocks (fun b hb => by simpa using readCentroidsCol_enc b [] (h b hb))

theorem uniqcol_roundtrip (reuse : USt → USt → Bool) (blocks : List (List USt)) (h : ∀ b ∈ blocks, ∀ u ∈ b, WfU u) :
    (blocks.mapM (fun b => (readUniqueCol b.length (b.flatMap encUnique)).map (·.1))).map
        (fun vals => readBack (colBlocks .drop reuse vals)) = some (blocks.flatten.map some) :=
  blocks_roundtrip reuse _ blocks (fun b hb => by simpa using readUniqueCol_enc b [] (h b hb))

/-! ## Part 2 — one value: the fold of its contributions -/

/-- the value passes validation: counter not negative, no negative centroid count -/
def OkTLV (t : TLV) : Prop := 0 ≤ tlCounter t ∧ ∀ c ∈ t.cents, 0 ≤ c.2

theorem addCentroids_ok : ∀ (cs adds : List (Int × Int)), (∀ c ∈ cs, 0 ≤ c.2) → (addCentroids adds cs).2 = false := by
  intro cs
  induction cs with
  | nil => intro adds _; rfl
  | cons c cs ih =>
    intro adds h
    obtain ⟨x, w⟩ := c
    have hw : 0 ≤ w := h (x, w) (List.mem_cons_self ..)
    have ht := fun adds => ih adds (fun c hc => h c (List.mem_cons_of_mem _ hc))
    unfold addCentroids
    by_cases h0 : w = 0
    · simp [h0, ht]
    · have : ¬ w < 0 := by omega
      simp [h0, this, ht]

theorem mergeTL2_ok (m : MV) (t : TLV) (host : Tag) (h : OkTLV t) : (mergeTL2 m t host).2 = 0 := by
  have hn : ¬ tlCounter t < 0 := Int.not_lt.mpr h.1
  unfold mergeTL2
  simp only [hn, if_false, addCentroids_ok _ _ h.2, Bool.and_false, Bool.false_eq_true, apply_ite Prod.snd, ite_self]

/-- this value carries aggregates: positive counter and value_set -/
def hasValue (t : TLV) : Bool := decide (0 < tlCounter t) && bit t.mask Gen.C03.bitValueSet
def cSum (t : TLV) : Int := if hasValue t then tlSum t else 0
def cSumSq (t : TLV) : Int := if hasValue t then tlSumSq t else 0

theorem mergeTL2_iv (m : MV) (t : TLV) (host : Tag) (h : OkTLV t) :
    (mergeTL2 m t host).1.v =
      (if hasValue t then mergeAgg (addCounterHost m.v (tlCounter t) (tlCntHost t host)) t.vmin (tlMax t) (tlSum t) (tlSumSq t)
          (tlMinHost t host) (tlMaxHost t host)
       else addCounterHost m.v (tlCounter t) (tlCntHost t host)) := by
  have hn : ¬ tlCounter t < 0 := Int.not_lt.mpr h.1
  unfold mergeTL2 hasValue
  simp only [hn, if_false, addCentroids_ok _ _ h.2, Bool.and_false, Bool.false_eq_true, apply_ite Prod.fst, apply_ite MV.v,
    ite_self]
  by_cases h0 : tlCounter t = 0
  · simp [h0, addCounterHost]
  · have hpos : 0 < tlCounter t := by have := h.1; omega
    by_cases hv : bit t.mask Gen.C03.bitValueSet = true
    · simp [h0, hpos, hv]
    · simp [h0, hpos, hv]

def foldTL (m : MV) (cs : List (TLV × Tag)) : MV := cs.foldl (fun m c => (mergeTL2 m c.1 c.2).1) m

theorem foldTL_cons (m : MV) (c : TLV × Tag) (cs : List (TLV × Tag)) : foldTL m (c :: cs) = foldTL (mergeTL2 m c.1 c.2).1 cs := rfl

def sumOf (f : TLV → Int) (cs : List (TLV × Tag)) : Int := (cs.map (fun c => f c.1)).sum

theorem addCounterHost_cnt (s : IV) (c : Int) (h : Tag) (hs : 0 ≤ s.cnt) (hc : 0 ≤ c) :
    (addCounterHost s c h).cnt = s.cnt + c := by
  unfold addCounterHost
  split
  · omega
  · split
    · simp only; omega
    · rfl

theorem addCounterHost_agg (s : IV) (c : Int) (h : Tag) :
    addCounterHost s c h = { s with cnt := (addCounterHost s c h).cnt, chosts := (addCounterHost s c h).chosts } := by
  unfold addCounterHost
  split
  · rfl
  · split <;> rfl

theorem step_sums (m : MV) (t : TLV) (host : Tag) (h : OkTLV t) (hm : 0 ≤ m.v.cnt) :
    (mergeTL2 m t host).1.v.cnt = m.v.cnt + tlCounter t ∧
    (mergeTL2 m t host).1.v.sum = m.v.sum + cSum t ∧
    (mergeTL2 m t host).1.v.sumsq = m.v.sumsq + cSumSq t ∧
    (mergeTL2 m t host).1.v.set = (m.v.set || hasValue t) := by
  rw [mergeTL2_iv m t host h, addCounterHost_agg]
  have hcnt := addCounterHost_cnt m.v (tlCounter t) (tlCntHost t host) hm h.1
  unfold cSum cSumSq
  by_cases hv : hasValue t = true
  · simp only [hv, if_true, mergeAgg, hcnt, Bool.or_true, and_self]
  · simp only [hv, Bool.false_eq_true, if_false, hcnt, Int.add_zero, Bool.or_false, and_self]

/-- C03 "count, … sum and sum-of-squares equal to the merge of every contribution received for that key":
    after any list of valid contributions to one (key, string-top) value -/
theorem fold_sums : ∀ (cs : List (TLV × Tag)) (m : MV), (∀ c ∈ cs, OkTLV c.1) → 0 ≤ m.v.cnt →
    (foldTL m cs).v.cnt = m.v.cnt + sumOf tlCounter cs ∧
    (foldTL m cs).v.sum = m.v.sum + sumOf cSum cs ∧
    (foldTL m cs).v.sumsq = m.v.sumsq + sumOf cSumSq cs ∧
    (foldTL m cs).v.set = (m.v.set || cs.any (fun c => hasValue c.1)) := by
  intro cs
  induction cs with
  | nil => intro m _ _; simp [foldTL, sumOf]
  | cons c cs ih =>
    intro m h hm
    have hc := h c (List.mem_cons_self ..)
    obtain ⟨s1, s2, s3, s4⟩ := step_sums m c.1 c.2 hc hm
    have hm' : 0 ≤ (mergeTL2 m c.1 c.2).1.v.cnt := by rw [s1]; have := hc.1; omega
    obtain ⟨i1, i2, i3, i4⟩ := ih (mergeTL2 m c.1 c.2).1 (fun x hx => h x (List.mem_cons_of_mem _ hx)) hm'
    simp only [foldTL, List.foldl_cons] at i1 i2 i3 i4 ⊢
    simp only [sumOf, List.map_cons, List.sum_cons, List.any_cons] at i1 i2 i3 i4 ⊢
    refine ⟨by rw [i1, s1]; ring, by rw [i2, s2]; ring, by rw [i3, s3]; ring, by rw [i4, s4, Bool.or_assoc]⟩

theorem step_extremes (m : MV) (t : TLV) (host : Tag) (h : OkTLV t) :
    ((mergeTL2 m t host).1.v.vmin = (if hasValue t = true ∧ takesMin m.v t.vmin = true then t.vmin else m.v.vmin) ∧
      (mergeTL2 m t host).1.v.minHost =
        (if hasValue t = true ∧ takesMin m.v t.vmin = true then tlMinHost t host else m.v.minHost)) ∧
    ((mergeTL2 m t host).1.v.vmax = (if hasValue t = true ∧ takesMax m.v (tlMax t) = true then tlMax t else m.v.vmax) ∧
      (mergeTL2 m t host).1.v.maxHost =
        (if hasValue t = true ∧ takesMax m.v (tlMax t) = true then tlMaxHost t host else m.v.maxHost)) := by
  rw [mergeTL2_iv m t host h, addCounterHost_agg]
  by_cases hv : hasValue t = true
  · simp only [hv, if_true, mergeAgg, true_and]
    exact ⟨⟨rfl, rfl⟩, rfl, rfl⟩
  · simp only [hv]
    exact ⟨⟨rfl, rfl⟩, rfl, rfl⟩

/-- `lo`/`hi` are the minimum / maximum over the values that carry aggregates -/
def IsMinOf (cs : List (TLV × Tag)) (lo : Int) : Prop :=
  (∀ c ∈ cs, hasValue c.1 = true → lo ≤ c.1.vmin) ∧ ∃ c ∈ cs, hasValue c.1 = true ∧ lo = c.1.vmin
def IsMaxOf (cs : List (TLV × Tag)) (hi : Int) : Prop :=
  (∀ c ∈ cs, hasValue c.1 = true → tlMax c.1 ≤ hi) ∧ ∃ c ∈ cs, hasValue c.1 = true ∧ hi = tlMax c.1

/-- The fold of one extreme `val` and its host `hst` over the contributions, from any starting value: `α` is `Int` for the
    minimum and its order dual for the maximum; `takes` is `takesMin` / `takesMax`. -/
theorem fold_pick {α : Type} [Preorder α] (val : IV → α) (hst : IV → Tag) (x : TLV → α) (hx : TLV → Tag → Tag)
    (takes : IV → TLV → Bool) (htk : ∀ s t, takes s t = true → s.set = true → x t < val s)
    (hnt : ∀ s t, ¬ takes s t = true → s.set = true ∧ val s ≤ x t)
    (hstep : ∀ (m : MV) (t : TLV) (host : Tag), OkTLV t →
      val (mergeTL2 m t host).1.v = (if hasValue t = true ∧ takes m.v t = true then x t else val m.v) ∧
      hst (mergeTL2 m t host).1.v = (if hasValue t = true ∧ takes m.v t = true then hx t host else hst m.v)) :
    ∀ (cs : List (TLV × Tag)) (m : MV), (∀ c ∈ cs, OkTLV c.1) → 0 ≤ m.v.cnt → (foldTL m cs).v.set = true →
    (∀ c ∈ cs, hasValue c.1 = true → val (foldTL m cs).v ≤ x c.1) ∧
    (m.v.set = true → val (foldTL m cs).v ≤ val m.v) ∧
    ((m.v.set = true ∧ val (foldTL m cs).v = val m.v ∧ hst (foldTL m cs).v = hst m.v) ∨
      ∃ c ∈ cs, hasValue c.1 = true ∧ val (foldTL m cs).v = x c.1 ∧ hst (foldTL m cs).v = hx c.1 c.2) := by
  intro cs
  induction cs with
  | nil => intro m _ _ hs; exact ⟨fun _ h => (nomatch h), fun _ => le_refl _, Or.inl ⟨hs, rfl, rfl⟩⟩
  | cons c cs ih =>
    intro m h hm hs
    rw [List.forall_mem_cons] at h
    obtain ⟨s1, _, _, s4⟩ := step_sums m c.1 c.2 h.1 hm
    obtain ⟨e1, e2⟩ := hstep m c.1 c.2 h.1
    obtain ⟨a1, a2, a3⟩ := ih (mergeTL2 m c.1 c.2).1 h.2 (by rw [s1]; have := h.1.1; omega) hs
    rw [s4, e1] at a2
    rw [s4, e1, e2] at a3
    rw [List.forall_mem_cons, foldTL_cons]
    simp only [List.exists_mem_cons_iff]
    by_cases hv : hasValue c.1 = true
    · have a2 := a2 (by rw [hv, Bool.or_true])
      by_cases ht : takes m.v c.1 = true
      · -- `c` replaces the extreme: it is the witness unless a later contribution is
        simp only [if_pos (And.intro hv ht)] at a2 a3
        refine ⟨⟨fun _ => a2, a1⟩, fun hms => le_of_lt (lt_of_le_of_lt a2 (htk _ _ ht hms)), ?_⟩
        exact a3.elim (fun l => Or.inr (Or.inl ⟨hv, l.2⟩)) (fun r => Or.inr (Or.inr r))
      · simp only [if_neg (fun x : _ ∧ _ => ht x.2)] at a2 a3
        obtain ⟨hms, hle⟩ := hnt _ _ ht
        refine ⟨⟨fun _ => le_trans a2 hle, a1⟩, fun _ => a2, ?_⟩
        exact a3.elim (fun l => Or.inl ⟨hms, l.2⟩) (fun r => Or.inr (Or.inr r))
    · simp only [(Bool.not_eq_true _).mp hv, Bool.or_false] at a2 a3
      exact ⟨⟨fun x => absurd x hv, a1⟩, a2, a3.elim Or.inl (fun r => Or.inr (Or.inr r))⟩

theorem fold_lo (cs : List (TLV × Tag)) (h : ∀ c ∈ cs, OkTLV c.1) (hs : (foldTL MV.zero cs).v.set = true) :
    (∀ c ∈ cs, hasValue c.1 = true → (foldTL MV.zero cs).v.vmin ≤ c.1.vmin) ∧
    ∃ c ∈ cs, hasValue c.1 = true ∧ (foldTL MV.zero cs).v.vmin = c.1.vmin ∧ (foldTL MV.zero cs).v.minHost = tlMinHost c.1 c.2 := by
  obtain ⟨a1, _, a3⟩ := fold_pick IV.vmin IV.minHost TLV.vmin tlMinHost (fun s t => takesMin s t.vmin)
    (fun s t ht hs => by simpa [takesMin, hs] using ht) (fun s t ht => by cases hs : s.set <;> simp_all [takesMin])
    (fun m t host h => (step_extremes m t host h).1) cs MV.zero h (by decide) hs
  exact ⟨a1, a3.resolve_left (fun l => absurd l.1 (by decide))⟩

theorem fold_hi (cs : List (TLV × Tag)) (h : ∀ c ∈ cs, OkTLV c.1) (hs : (foldTL MV.zero cs).v.set = true) :
    (∀ c ∈ cs, hasValue c.1 = true → tlMax c.1 ≤ (foldTL MV.zero cs).v.vmax) ∧
    ∃ c ∈ cs, hasValue c.1 = true ∧ (foldTL MV.zero cs).v.vmax = tlMax c.1 ∧ (foldTL MV.zero cs).v.maxHost = tlMaxHost c.1 c.2 := by
  obtain ⟨a1, _, a3⟩ := fold_pick (fun v => OrderDual.toDual v.vmax) IV.maxHost (fun t => OrderDual.toDual (tlMax t)) tlMaxHost
    (fun s t => takesMax s (tlMax t))
    (fun s t ht hs => by simpa [takesMax, hs] using ht) (fun s t ht => by cases hs : s.set <;> simp_all [takesMax])
    (fun m t host h => (step_extremes m t host h).2) cs MV.zero h (by decide) hs
  exact ⟨a1, a3.resolve_left (fun l => absurd l.1 (by decide))⟩

/-- C03 "min, max … equal to the merge of every contribution": starting from an empty value, the written min (max) is the
    least min (greatest max) over the contributions that carry values -/
theorem fold_minmax (cs : List (TLV × Tag)) (h : ∀ c ∈ cs, OkTLV c.1) (hs : (foldTL MV.zero cs).v.set = true) :
    IsMinOf cs (foldTL MV.zero cs).v.vmin ∧ IsMaxOf cs (foldTL MV.zero cs).v.vmax := by
  obtain ⟨a1, c, hc, hv, e, _⟩ := fold_lo cs h hs
  obtain ⟨b1, d, hd, hw, e', _⟩ := fold_hi cs h hs
  exact ⟨⟨a1, c, hc, hv, e⟩, ⟨b1, d, hd, hw, e'⟩⟩

/-- neither field present: the default (agent host for max; the restored max host for min / max-count) -/
theorem restoreHost_absent (subst : Bool) (i : Int) (s probe : Bytes) (dflt host : Tag) :
    restoreHost subst false false i s probe dflt host = dflt := by simp [restoreHost]

/-- a field present and the host not empty: the host as sent (the emptiness test reads the block's OWN string) -/
theorem restoreHost_explicit (subst setI setS : Bool) (i : Int) (s : Bytes) (dflt host : Tag)
    (hset : (setI || setS) = true) (hne : (Tag.mk i s).empty = false) :
    restoreHost subst setI setS i s s dflt host = ⟨i, s⟩ := by
  unfold restoreHost
  have h1 : (!setI && !setS) = false := by cases setI <;> cases setS <;> simp_all
  have h2 : (i == 0 && s.isEmpty) = false := by simpa [Tag.empty] using hne
  simp [h1, Bool.and_assoc, h2]

/-- a field present, the host empty: the sending agent's own host (min / max-count blocks) -/
theorem restoreHost_own (setI setS : Bool) (i : Int) (s : Bytes) (dflt host : Tag)
    (hset : (setI || setS) = true) (he : (Tag.mk i s).empty = true) :
    restoreHost true setI setS i s s dflt host = host := by
  unfold restoreHost
  have h1 : (!setI && !setS) = false := by cases setI <;> cases setS <;> simp_all
  have h2 : (i == 0 && s.isEmpty) = true := by simpa [Tag.empty] using he
  simp [h1, h2]

/-- … hence a restored min / max-count host is never empty when the agent's host and the restored max host are not:
    one statement for both blocks (and for any further block built from `restoreHost true … s s`) -/
theorem restoreHost_not_empty (setI setS : Bool) (i : Int) (s : Bytes) (dflt host : Tag)
    (hd : dflt.empty = false) (hh : host.empty = false) :
    (restoreHost true setI setS i s s dflt host).empty = false := by
  by_cases hset : (setI || setS) = true
  · by_cases he : (Tag.mk i s).empty = true
    · rw [restoreHost_own setI setS i s dflt host hset he]; exact hh
    · have hf : (Tag.mk i s).empty = false := by simpa using he
      rw [restoreHost_explicit true setI setS i s dflt host hset hf]; exact hf
  · have : setI = false ∧ setS = false := by cases setI <;> cases setS <;> simp_all
    rw [this.1, this.2, restoreHost_absent]; exact hd

/-- the three blocks of MergeWithTL2 in protocol terms (statshouse.multiValue): max host absent = the sending agent's host;
    min host / max-count host absent = the max host, present but empty = the sending agent's own host, else as sent -/
theorem hosts_spec (t : TLV) (host : Tag) :
    tlMaxHost t host = (if !bit t.mask Gen.C03.bitMaxHostTag && !bit t.mask Gen.C03.bitMaxHostStag then host
                        else ⟨t.maxHostTag, t.maxHostStag⟩) ∧
    tlMinHost t host = (if !bit t.mask Gen.C03.bitMinHostTag && !bit t.mask Gen.C03.bitMinHostStag then tlMaxHost t host
                        else if (Tag.mk t.minHostTag t.minHostStag).empty then host else ⟨t.minHostTag, t.minHostStag⟩) ∧
    tlCntHost t host = (if !bit t.mask Gen.C03.bitCntHostTag && !bit t.mask Gen.C03.bitCntHostStag then tlMaxHost t host
                        else if (Tag.mk t.cntHostTag t.cntHostStag).empty then host else ⟨t.cntHostTag, t.cntHostStag⟩) := by
  refine ⟨?_, ?_, ?_⟩
  · simp [tlMaxHost, restoreHost]
  · simp [tlMinHost, tlMinHostV, restoreHost, Tag.empty]
  · simp [tlCntHost, restoreHost, Tag.empty]

theorem min_cnt_host_not_empty (t : TLV) (host : Tag) (hh : host.empty = false) (hm : (tlMaxHost t host).empty = false) :
    (tlMinHost t host).empty = false ∧ (tlCntHost t host).empty = false :=
  ⟨restoreHost_not_empty _ _ _ _ _ _ hm hh, restoreHost_not_empty _ _ _ _ _ _ hm hh⟩

/-- C03 "min, max … equal to the merge of every contribution", the hosts: the host written next to the minimum (maximum) of
    a row is the host that a contribution holding exactly that minimum (maximum) names for it — restored by `restoreHost`
    from what the agent sent (own host / max host / explicit id or string). -/
theorem fold_hosts (cs : List (TLV × Tag)) (h : ∀ c ∈ cs, OkTLV c.1) (hs : (foldTL MV.zero cs).v.set = true) :
    (∃ c ∈ cs, hasValue c.1 = true ∧ (foldTL MV.zero cs).v.vmin = c.1.vmin ∧ (foldTL MV.zero cs).v.minHost = tlMinHost c.1 c.2) ∧
    (∃ c ∈ cs, hasValue c.1 = true ∧ (foldTL MV.zero cs).v.vmax = tlMax c.1 ∧ (foldTL MV.zero cs).v.maxHost = tlMaxHost c.1 c.2) := by
  exact ⟨(fold_lo cs h hs).2, (fold_hi cs h hs).2⟩

/-- the max-count host is a host named by a counted contribution (whatever the random draws) -/
theorem fold_cnt_hosts : ∀ (cs : List (TLV × Tag)) (m : MV), (∀ c ∈ cs, OkTLV c.1) →
    ∀ x ∈ (foldTL m cs).v.chosts, x ∈ m.v.chosts ∨ ∃ c ∈ cs, 0 < tlCounter c.1 ∧ x = tlCntHost c.1 c.2 := by
  intro cs
  induction cs with
  | nil => intro m _ x hx; exact Or.inl hx
  | cons c cs ih =>
    intro m h x hx
    have hc := h c (List.mem_cons_self ..)
    rw [foldTL_cons] at hx
    rcases ih _ (fun y hy => h y (List.mem_cons_of_mem _ hy)) x hx with h1 | ⟨y, hy, hp, e⟩
    · -- x came out of this step
      have hiv := mergeTL2_iv m c.1 c.2 hc
      have hch : (mergeTL2 m c.1 c.2).1.v.chosts = (addCounterHost m.v (tlCounter c.1) (tlCntHost c.1 c.2)).chosts := by
        rw [hiv]; split <;> simp [mergeAgg]
      rw [hch] at h1
      unfold addCounterHost at h1
      split at h1
      · exact Or.inl h1
      · rename_i hpos
        split at h1
        · simp only [List.mem_singleton] at h1
          exact Or.inr ⟨c, List.mem_cons_self .., by omega, h1⟩
        · simp only [addHost] at h1
          split at h1
          · exact Or.inl h1
          · rcases List.mem_append.mp h1 with h1 | h1
            · exact Or.inl h1
            · simp only [List.mem_singleton] at h1
              exact Or.inr ⟨c, List.mem_cons_self .., by omega, h1⟩
    · exact Or.inr ⟨y, List.mem_cons_of_mem _ hy, hp, e⟩

/-! the seeded slip seeded/C03-r4-2 (`HostV.minSlip`: the emptiness test of the min block reads MaxHostStag) -/

/-- max host an unmapped string "hB", min host present and empty (measured on the agent's own host, id 7) -/
def slipA : TLV :=
  { mask := 2 ^ Gen.C03.bitMaxHostStag + 2 ^ Gen.C03.bitMinHostTag, counter := 4, vmin := 0, vmax := 0, sum := 0, sumsq := 0, uniques := [],
    cents := [], maxHostTag := 0, minHostTag := 0, cntHostTag := 0, maxHostStag := [104, 66], minHostStag := [], cntHostStag := [] }
/-- min host an unmapped string "hA", max host absent -/
def slipB : TLV := { slipA with mask := 2 ^ Gen.C03.bitMinHostStag, maxHostStag := [], minHostStag := [104, 65] }

/-- the code: the agent's host is substituted / the string host is kept -/
example : tlMinHostV .repo slipA ⟨7, []⟩ = ⟨7, []⟩ ∧ tlMinHostV .repo slipB ⟨7, []⟩ = ⟨0, [104, 65]⟩ := by decide +kernel
/-- the slip: (a) the min host is lost (empty), (b) the string min host is replaced by the sending agent's host -/
example : tlMinHostV .minSlip slipA ⟨7, []⟩ = Tag.none ∧ tlMinHostV .minSlip slipB ⟨7, []⟩ = ⟨7, []⟩ := by decide +kernel
/-- `min_cnt_host_not_empty` is not vacuous on that input and fails for the slip -/
example : (Tag.mk 7 []).empty = false ∧ (tlMaxHost slipA ⟨7, []⟩).empty = false ∧ (tlMinHostV .minSlip slipA ⟨7, []⟩).empty = true := by decide +kernel

/-! ## Part 3 — the shard map -/

/-- one received TL row after key construction -/
structure RowIn where
  k : Key
  tops : List (Tag × TLV)
  tail : TLV
  host : Tag

def OkRow (r : RowIn) : Prop := OkTLV r.tail ∧ ∀ p ∈ r.tops, OkTLV p.2

/-- the string-top a top element of a TL row is merged into (`Tag.none` = the tail): MapStringTopBytes -/
def target (tag : Tag) : Tag := if tag.empty then Tag.none else tag.normalize

/-- the MultiValue an item holds for string top `tag` (`Tag.none` = the tail); absent = the zero value -/
def itemAt (it : Item) (tag : Tag) : MV := if tag.empty then it.tail else (topFind it.top tag).getD MV.zero

/-- the MultiValue a bucket holds for (key, string top) -/
def valueAt (sh : Shards) (k : Key) (tag : Tag) : MV := itemAt ((findItem sh k).getD Item.zero) tag

/-- all received rows merged into one aggregator bucket, in the order received -/
def applyRows (sh : Shards) (rs : List RowIn) : Shards :=
  rs.foldl (fun sh r => (contribute sh r.k r.tops r.tail r.host).1) sh

/-- the values of one received row addressed to string top `tag`, in merge order: matching top elements, then the tail -/
def valuesFor (r : RowIn) (tag : Tag) : List (TLV × Tag) :=
  ((r.tops.filter (fun p => target p.1 == tag)).map (fun p => (p.2, r.host))) ++
    (if tag == Tag.none then [(r.tail, r.host)] else [])

/-- every contribution received for (key, string top), in the order received -/
def contribsFor (rs : List RowIn) (k : Key) (tag : Tag) : List (TLV × Tag) :=
  (rs.filter (fun r => r.k == k)).flatMap (fun r => valuesFor r tag)

section Assoc
variable {α β : Type} [DecidableEq α]

/-- lookup in an association list (the shape of `topFind` and `findItem`) -/
def afind (l : List (α × β)) (a : α) : Option β := (l.find? (·.1 == a)).map (·.2)
/-- replace or append (the shape of `topSet` and `setItem`) -/
def aset (l : List (α × β)) (a : α) (b : β) : List (α × β) :=
  if l.any (·.1 == a) then l.map (fun p => if p.1 == a then (a, b) else p) else l ++ [(a, b)]

theorem afind_cons (p : α × β) (top : List (α × β)) (t' : α) :
    afind (p :: top) t' = if p.1 = t' then some p.2 else afind top t' := by
  unfold afind
  by_cases h : p.1 = t'
  · simp [h]
  · simp [h]

theorem afind_map (t t' : α) (m : β) : ∀ (top : List (α × β)),
    afind (top.map (fun p => if p.1 == t then (t, m) else p)) t' =
      if t = t' then (if top.any (·.1 == t) then some m else none) else afind top t' := by
  intro top
  induction top with
  | nil => by_cases h : t = t' <;> simp [afind, h]
  | cons p top ih =>
    rw [List.map_cons, afind_cons, ih, afind_cons]
    by_cases h1 : p.1 = t
    · by_cases h2 : t = t'
      · simp [h1, h2]
      · have : ¬ p.1 = t' := by rw [h1]; exact h2
        simp [h1, h2]
    · by_cases h2 : t = t'
      · subst h2
        have hb : (p.1 == t) = false := by simpa using h1
        simp only [h1, if_false, if_true, List.any_cons, hb, Bool.false_or, Bool.false_eq_true]
      · simp [h1, h2]

theorem afind_append_single (top : List (α × β)) (t t' : α) (m : β) :
    afind (top ++ [(t, m)]) t' = match afind top t' with
      | some x => some x
      | none => if t = t' then some m else none := by
  induction top with
  | nil => simp [afind]
  | cons p top ih =>
    rw [List.cons_append, afind_cons, afind_cons]
    by_cases h : p.1 = t'
    · simp [h]
    · simp only [h, if_false]; exact ih

theorem afind_none_of_not_any (top : List (α × β)) (t : α) (h : top.any (·.1 == t) = false) : afind top t = none := by
  induction top with
  | nil => rfl
  | cons p top ih =>
    simp only [List.any_cons, Bool.or_eq_false_iff, beq_eq_false_iff_ne, ne_eq] at h
    rw [afind_cons]
    simp [h.1, ih h.2]

theorem afind_aset (top : List (α × β)) (t t' : α) (m : β) :
    afind (aset top t m) t' = if t = t' then some m else afind top t' := by
  unfold aset
  by_cases hany : top.any (·.1 == t) = true
  · simp only [hany, if_true]
    rw [afind_map]
    simp [hany]
  · have hf : top.any (·.1 == t) = false := by
      cases hq : top.any (·.1 == t)
      · rfl
      · exact absurd hq hany
    simp only [hf, Bool.false_eq_true, if_false]
    rw [afind_append_single]
    by_cases ht : t = t'
    · subst ht
      rw [afind_none_of_not_any top t hf]
    · cases hx : afind top t' <;> simp [ht]

theorem aset_keys_nodup (l : List (α × β)) (a : α) (b : β) (h : (l.map (·.1)).Nodup) : ((aset l a b).map (·.1)).Nodup := by
  unfold aset
  by_cases hany : l.any (·.1 == a) = true
  · simp only [hany, if_true, List.map_map]
    have : (l.map ((fun x => x.1) ∘ fun p => if p.1 == a then (a, b) else p)) = l.map (·.1) := by
      apply List.map_congr_left
      intro p _
      by_cases hp : p.1 = a <;> simp [hp]
    rw [this]; exact h
  · have hf : ∀ p ∈ l, ¬ p.1 = a := by
      intro p hp hpa; apply hany; rw [List.any_eq_true]; exact ⟨p, hp, by simp [hpa]⟩
    simp only [hany, Bool.false_eq_true, if_false, List.map_append, List.map_cons, List.map_nil]
    rw [List.nodup_append]
    refine ⟨h, by simp, ?_⟩
    intro x hx y hy
    simp only [List.mem_singleton] at hy
    subst hy
    obtain ⟨p, hp, rfl⟩ := List.mem_map.mp hx
    exact hf p hp

theorem aset_mem (l : List (α × β)) (a : α) (b : β) (p : α × β) (h : p ∈ aset l a b) : p ∈ l ∨ p = (a, b) := by
  unfold aset at h
  split at h
  · obtain ⟨q, hq, e⟩ := List.mem_map.mp h
    by_cases hqa : q.1 = a
    · simp [hqa] at e; exact Or.inr e.symm
    · simp [hqa] at e; subst e; exact Or.inl hq
  · rcases List.mem_append.mp h with h | h
    · exact Or.inl h
    · exact Or.inr (by simpa using h)

theorem afind_mem (l : List (α × β)) (a : α) (b : β) (h : afind l a = some b) : ∃ p ∈ l, p.2 = b := by
  unfold afind at h
  cases hf : l.find? (·.1 == a) with
  | none => simp [hf] at h
  | some p =>
    simp [hf] at h
    exact ⟨p, List.mem_of_find?_eq_some hf, h⟩
end Assoc

theorem topFind_eq (top : List (Tag × MV)) (t : Tag) : topFind top t = afind top t := rfl
theorem topSet_eq (top : List (Tag × MV)) (t : Tag) (m : MV) : topSet top t m = aset top t m := rfl
theorem findItem_eq (sh : Shards) (k : Key) : findItem sh k = afind sh k := rfl
theorem setItem_eq (sh : Shards) (k : Key) (it : Item) : setItem sh k it = aset sh k it := rfl

theorem empty_iff (t : Tag) : t.empty = true ↔ t = Tag.none := by
  rcases t with ⟨i, s⟩
  simp only [Tag.empty, Tag.none, Bool.and_eq_true, beq_iff_eq, List.isEmpty_iff, Tag.mk.injEq]

theorem normalize_not_empty (t : Tag) (h : t.empty = false) : t.normalize.empty = false := by
  rcases t with ⟨i, s⟩
  unfold Tag.normalize
  by_cases hi : i = 0
  · simp only [hi, bne_self_eq_false, Bool.false_eq_true, if_false]; simpa [hi] using h
  · simp [hi, Tag.empty]

theorem target_none_iff (tag : Tag) : target tag = Tag.none ↔ tag.empty = true := by
  unfold target
  by_cases h : tag.empty = true
  · simp [h]
  · have hf : tag.empty = false := by simpa using h
    simp only [hf, Bool.false_eq_true, if_false, iff_false]
    intro e
    have := normalize_not_empty tag hf
    rw [e] at this
    exact absurd this (by decide)

theorem mergeTop_ok (it : Item) (tag : Tag) (t : TLV) (host : Tag) (h : OkTLV t) : (mergeTop it tag t host).2 = 0 := by
  unfold mergeTop
  split <;> exact mergeTL2_ok _ t host h

theorem itemAt_mergeTop (it : Item) (tag : Tag) (t : TLV) (host : Tag) (tag' : Tag) :
    itemAt (mergeTop it tag t host).1 tag' =
      if target tag = tag' then (mergeTL2 (itemAt it tag') t host).1 else itemAt it tag' := by
  by_cases he' : tag'.empty = true
  · have e' := (empty_iff tag').mp he'
    subst e'
    unfold mergeTop itemAt
    by_cases he : tag.empty = true
    · have := (target_none_iff tag).mpr he
      simp [he, this, he']
    · have : ¬ target tag = Tag.none := fun e => he ((target_none_iff tag).mp e)
      simp [he, this, he']
  · have hf' : tag'.empty = false := by simpa using he'
    unfold mergeTop itemAt
    by_cases he : tag.empty = true
    · have : ¬ target tag = tag' := by
        rw [(target_none_iff tag).mpr he]; intro e; rw [← e] at hf'; exact absurd hf' (by decide)
      simp [he, hf', this]
    · have hf : tag.empty = false := by simpa using he
      have ht : target tag = tag.normalize := by unfold target; simp [hf]
      simp only [hf, Bool.false_eq_true, if_false, hf', ht, topFind_eq, topSet_eq, afind_aset]
      by_cases hq : tag.normalize = tag'
      · subst hq; simp
      · simp [hq]

theorem mergeTops_ok (host : Tag) : ∀ (tops : List (Tag × TLV)) (it : Item), (∀ p ∈ tops, OkTLV p.2) →
    mergeTops it host tops = (tops.foldl (fun it p => (mergeTop it p.1 p.2 host).1) it, 0) := by
  intro tops
  induction tops with
  | nil => intro it _; rfl
  | cons p tops ih =>
    intro it h
    obtain ⟨tag, t⟩ := p
    have hp : OkTLV t := h (tag, t) (List.mem_cons_self ..)
    simp only [mergeTops, mergeTop_ok it tag t host hp, bne_self_eq_false, Bool.false_eq_true, if_false, List.foldl_cons]
    exact ih _ (fun q hq => h q (List.mem_cons_of_mem _ hq))

theorem foldTL_append (m : MV) (a b : List (TLV × Tag)) : foldTL m (a ++ b) = foldTL (foldTL m a) b := by
  simp [foldTL, List.foldl_append]

theorem itemAt_foldTops (host : Tag) (tag' : Tag) : ∀ (tops : List (Tag × TLV)) (it : Item),
    itemAt (tops.foldl (fun it p => (mergeTop it p.1 p.2 host).1) it) tag' =
      foldTL (itemAt it tag') ((tops.filter (fun p => target p.1 == tag')).map (fun p => (p.2, host))) := by
  intro tops
  induction tops with
  | nil => intro it; rfl
  | cons p tops ih =>
    intro it
    rw [List.foldl_cons, ih, itemAt_mergeTop]
    by_cases hq : target p.1 = tag'
    · simp [hq, foldTL]
    · simp [hq]

/-- MergeWithTLMultiItem for a valid row: the value at every string top is the fold of the row's values addressed to it -/
theorem itemAt_mergeItem (it : Item) (r : RowIn) (h : OkRow r) (tag' : Tag) :
    itemAt (mergeItem it r.tops r.tail r.host).1 tag' = foldTL (itemAt it tag') (valuesFor r tag') ∧
    (mergeItem it r.tops r.tail r.host).2 = 0 := by
  obtain ⟨htail, htops⟩ := h
  unfold mergeItem
  simp only [mergeTops_ok r.host r.tops it htops, bne_self_eq_false, Bool.false_eq_true, if_false]
  refine ⟨?_, mergeTL2_ok _ _ _ htail⟩
  unfold valuesFor
  rw [foldTL_append, ← itemAt_foldTops]
  by_cases he' : tag'.empty = true
  · have e' := (empty_iff tag').mp he'
    subst e'
    simp [itemAt, Tag.empty, Tag.none, foldTL]
  · have hf' : tag'.empty = false := by simpa using he'
    have : (tag' == Tag.none) = false := by
      rw [beq_eq_false_iff_ne]; intro e; rw [e] at hf'; exact absurd hf' (by decide)
    simp [itemAt, hf', this, foldTL]

/-- GetOrCreateMultiItem + MergeWithTLMultiItem: a received row changes the values of its own key only -/
theorem valueAt_contribute (sh : Shards) (r : RowIn) (h : OkRow r) (k' : Key) (tag' : Tag) :
    valueAt (contribute sh r.k r.tops r.tail r.host).1 k' tag' =
      if r.k = k' then foldTL (valueAt sh k' tag') (valuesFor r tag') else valueAt sh k' tag' := by
  unfold contribute valueAt
  simp only [findItem_eq, setItem_eq, afind_aset]
  by_cases hk : r.k = k'
  · subst hk
    simp only [if_true, Option.getD_some]
    exact (itemAt_mergeItem _ r h tag').1
  · simp [hk]

theorem valueAt_applyRows : ∀ (rs : List RowIn) (sh : Shards), (∀ r ∈ rs, OkRow r) → ∀ (k : Key) (tag : Tag),
    valueAt (applyRows sh rs) k tag = foldTL (valueAt sh k tag) (contribsFor rs k tag) := by
  intro rs
  induction rs with
  | nil => intro sh _ k tag; rfl
  | cons r rs ih =>
    intro sh h k tag
    have hr := h r (List.mem_cons_self ..)
    have : applyRows sh (r :: rs) = applyRows (contribute sh r.k r.tops r.tail r.host).1 rs := rfl
    rw [this, ih _ (fun x hx => h x (List.mem_cons_of_mem _ hx)), valueAt_contribute sh r hr]
    unfold contribsFor
    by_cases hk : r.k = k
    · simp [hk, foldTL_append]
    · simp [hk]

/-- C03 `row_is_merge`: after any list of valid rows received by an aggregator bucket, the value held for every
    (time, metric, tags) key and every string top is the fold, in the order received, of exactly the contributions
    addressed to that key and top — nothing is lost, duplicated or credited to another key. -/
theorem row_is_merge (rs : List RowIn) (h : ∀ r ∈ rs, OkRow r) (k : Key) (tag : Tag) :
    valueAt (applyRows [] rs) k tag = foldTL MV.zero (contribsFor rs k tag) := by
  rw [valueAt_applyRows rs [] h k tag]
  congr 1
  unfold valueAt itemAt
  by_cases he : tag.empty = true <;> simp [he, findItem, Item.zero, topFind]

/-- string tops of one item: pairwise different, never the empty tag (that one is the tail) -/
def ItInv (it : Item) : Prop := (it.top.map (·.1)).Nodup ∧ ∀ p ∈ it.top, p.1.empty = false
/-- the shards of one bucket: keys pairwise different, every item well formed -/
def ShInv (sh : Shards) : Prop := (sh.map (·.1)).Nodup ∧ ∀ p ∈ sh, ItInv p.2

theorem mergeTop_inv (it : Item) (tag : Tag) (t : TLV) (host : Tag) (h : ItInv it) : ItInv (mergeTop it tag t host).1 := by
  unfold mergeTop
  by_cases he : tag.empty = true
  · simp only [he, if_true]; exact h
  · have hf : tag.empty = false := by simpa using he
    simp only [hf, Bool.false_eq_true, if_false, topSet_eq]
    refine ⟨aset_keys_nodup _ _ _ h.1, ?_⟩
    intro p hp
    rcases aset_mem _ _ _ _ hp with hp | hp
    · exact h.2 p hp
    · rw [hp]; exact normalize_not_empty tag hf

theorem mergeTops_inv (host : Tag) : ∀ (tops : List (Tag × TLV)) (it : Item), ItInv it → ItInv (mergeTops it host tops).1 := by
  intro tops
  induction tops with
  | nil => intro it h; exact h
  | cons p tops ih =>
    intro it h
    obtain ⟨tag, t⟩ := p
    unfold mergeTops
    have := mergeTop_inv it tag t host h
    simp only
    split
    · exact this
    · exact ih _ this

theorem mergeItem_inv (it : Item) (tops : List (Tag × TLV)) (tail : TLV) (host : Tag) (h : ItInv it) :
    ItInv (mergeItem it tops tail host).1 := by
  unfold mergeItem
  have := mergeTops_inv host tops it h
  simp only
  split <;> exact this

theorem zero_inv : ItInv Item.zero := ⟨by simp [Item.zero], by simp [Item.zero]⟩

theorem contribute_inv (sh : Shards) (k : Key) (tops : List (Tag × TLV)) (tail : TLV) (host : Tag) (h : ShInv sh) :
    ShInv (contribute sh k tops tail host).1 := by
  unfold contribute
  simp only [setItem_eq]
  refine ⟨aset_keys_nodup _ _ _ h.1, ?_⟩
  intro p hp
  rcases aset_mem _ _ _ _ hp with hp | hp
  · exact h.2 p hp
  · rw [hp]
    apply mergeItem_inv
    cases hf : findItem sh k with
    | none => exact zero_inv
    | some it =>
      obtain ⟨q, hq, e⟩ := afind_mem sh k it (by rw [← findItem_eq]; exact hf)
      simp only [Option.getD_some]
      rw [← e]; exact h.2 q hq

theorem applyRows_inv : ∀ (rs : List RowIn) (sh : Shards), ShInv sh → ShInv (applyRows sh rs) := by
  intro rs
  induction rs with
  | nil => intro sh h; exact h
  | cons r rs ih => intro sh h; exact ih _ (contribute_inv sh r.k r.tops r.tail r.host h)

theorem sortDesc_perm_aux : ∀ (top acc : List (Tag × MV)), (top.foldl (fun acc p => insertDesc p acc) acc).Perm (top ++ acc) := by
  intro top
  induction top with
  | nil => intro acc; exact List.Perm.refl _
  | cons p top ih =>
    intro acc
    rw [List.foldl_cons]
    refine (ih _).trans ?_
    refine (List.Perm.append_left top (Lists.ins_perm (fun x y : Tag × MV => y.2.v.cnt < x.2.v.cnt) insertDesc (fun _ => rfl) (fun _ _ _ => rfl) p acc)).trans ?_
    simp

theorem sortDesc_perm (top : List (Tag × MV)) : (sortDesc top).Perm top := by
  have := sortDesc_perm_aux top []
  simpa [sortDesc] using this

/-- the (key, string top) pairs of the rows written for one bucket -/
def rowKeys (cap : Nat) (sh : Shards) : List (Key × Tag) := (bucketRows cap sh).map (fun r => (r.1, r.2.1))

theorem finishTop_tags (cap : Nat) (it : Item) (h : ItInv it) : ItInv (finishTop cap it) := by
  unfold finishTop
  simp only
  have hp := sortDesc_perm it.top
  have hn : ((sortDesc it.top).map (·.1)).Nodup := (hp.map _).nodup_iff.mpr h.1
  refine ⟨List.Nodup.sublist ((List.take_sublist _ _).map _) hn, ?_⟩
  intro p hp'
  exact h.2 p (hp.mem_iff.mp (List.mem_of_mem_take hp'))

theorem itemRows_keys (k : Key) (it : Item) (h : ItInv it) :
    ((itemRows k it).map (fun r => (r.1, r.2.1))).Nodup ∧ ∀ x ∈ (itemRows k it).map (fun r => (r.1, r.2.1)), x.1 = k := by
  obtain ⟨h1, h2⟩ := h
  unfold itemRows
  constructor
  · simp only [List.map_append, List.map_map]
    rw [List.nodup_append]
    refine ⟨by split <;> simp, ?_, ?_⟩
    · have hs : ((it.top.filter (fun p => !p.2.isEmpty)).map (·.1)).Nodup :=
        List.Nodup.sublist (List.filter_sublist.map _) h1
      have : (List.map ((fun r : Key × Tag × MV => (r.1, r.2.1)) ∘ fun p : Tag × MV => (k, p.1, p.2)) (it.top.filter (fun p => !p.2.isEmpty))) =
          ((it.top.filter (fun p => !p.2.isEmpty)).map (·.1)).map (fun t => (k, t)) := by
        simp [List.map_map, Function.comp_def]
      rw [this]
      exact hs.map (fun a b e => by simpa using e)
    · intro x hx y hy
      split at hx
      · simp at hx
      · simp only [List.map_cons, List.map_nil, List.mem_singleton] at hx
        subst hx
        obtain ⟨p, hp, rfl⟩ := List.mem_map.mp hy
        have := h2 p (List.mem_of_mem_filter hp)
        intro e
        simp only [Function.comp_apply, Prod.mk.injEq, true_and] at e
        rw [← e] at this
        exact absurd this (by decide)
  · intro x hx
    simp only [List.map_append, List.map_map, List.mem_append, List.mem_map, Function.comp_apply] at hx
    rcases hx with ⟨r, hr, rfl⟩ | ⟨p, _, rfl⟩
    · split at hr
      · simp at hr
      · simp only [List.mem_singleton] at hr; subst hr; rfl
    · rfl

/-- C03 `one_row_per_key`: whatever rows an aggregator bucket received (valid or not, any order), the insert writes every
    (time, metric, tags, string-top) key of that bucket at most once -/
theorem one_row_per_key (rs : List RowIn) (cap : Nat) : (rowKeys cap (applyRows [] rs)).Nodup := by
  have hinv : ShInv (applyRows [] rs) := applyRows_inv rs [] ⟨by simp, by simp⟩
  generalize applyRows [] rs = sh at hinv
  unfold rowKeys bucketRows
  rw [List.map_flatMap, List.nodup_flatMap]
  constructor
  · intro p hp
    exact (itemRows_keys p.1 _ (finishTop_tags cap p.2 (hinv.2 p hp))).1
  · have hk : List.Pairwise (fun a b : Key × Item => a.1 ≠ b.1) sh := by
      have := hinv.1
      rwa [List.Nodup, List.pairwise_map] at this
    refine List.Pairwise.imp_of_mem ?_ hk
    intro a b ha hb hab
    simp only [Function.onFun]
    rw [List.disjoint_left]
    intro x hxa hxb
    have fa := finishTop_tags cap a.2 (hinv.2 a ha)
    have fb := finishTop_tags cap b.2 (hinv.2 b hb)
    have e1 := (itemRows_keys a.1 _ fa).2 x hxa
    have e2 := (itemRows_keys b.1 _ fb).2 x hxb
    exact hab (e1.symm.trans e2)


/-- one (tagN, stagN) column pair as the table stores it -/
def colOf (t : Tag) : Nat × Bytes := if prefersInt t then (i32 t.i, []) else (0, t.s)

/-- RowBinary reader of one (Int32, String) column pair. `readCol`, `readCols`, `readKeys` are a specification-side decoder:
    ClickHouse reads these columns, nothing in the repository does, and the correspondence check does not compare them -/
def readCol (bs : Bytes) : Option ((Nat × Bytes) × Bytes) :=
  match readU32 bs with
  | none => none
  | some (i, r1) =>
    match readUvarint r1 with
    | none => none
    | some (n, r2) =>
      match splitAt? n r2 with
      | none => none
      | some (s, r3) => some ((i, s), r3)

def readCols : Nat → Bytes → Option (List (Nat × Bytes) × Bytes)
  | 0, bs => some ([], bs)
  | n + 1, bs =>
    match readCol bs with
    | none => none
    | some (c, r1) =>
      match readCols n r1 with
      | none => none
      | some (l, r2) => some (c :: l, r2)

/-- reader of the key part of a row: index_type, metric, time, then MaxTags column pairs -/
def readKeys (bs : Bytes) : Option ((Nat × Nat × List (Nat × Bytes)) × Bytes) :=
  match bs with
  | [] => none
  | _ :: r0 =>
    match readU32 r0 with
    | none => none
    | some (m, r1) =>
      match readU32 r1 with
      | none => none
      | some (t, r2) =>
        match readCols Gen.C03.maxTags r2 with
        | none => none
        | some (cols, r3) => some ((m, t, cols), r3)

theorem readCol_encTag (t : Tag) (rest : Bytes) (h : t.s.length < 2 ^ 64) : readCol (encTag t ++ rest) = some (colOf t, rest) := by
  unfold encTag colOf readCol
  by_cases hp : prefersInt t = true
  · simp only [hp, if_true, List.append_assoc, readU32_u32le _ (i32_lt t.i)]
    simp [readUvarint, readUvarintAux, splitAt?]
  · simp only [hp, Bool.false_eq_true, if_false, List.append_assoc, readU32_u32le 0 (by omega), rbString,
      readUvarint_uvarint _ h, splitAt_append]

theorem readCols_enc : ∀ (ts : List Tag) (rest : Bytes), (∀ t ∈ ts, t.s.length < 2 ^ 64) →
    readCols ts.length (ts.flatMap encTag ++ rest) = some (ts.map colOf, rest) := by
  intro ts
  induction ts with
  | nil => intro rest _; simp [readCols]
  | cons t ts ih =>
    intro rest h
    simp only [List.flatMap_cons, List.length_cons, readCols, List.append_assoc]
    rw [readCol_encTag t _ (h t (List.mem_cons_self ..))]
    simp only
    rw [ih rest (fun x hx => h x (List.mem_cons_of_mem _ hx))]
    simp

theorem slot_len (k : Key) (i : Nat) (hs : ∀ s ∈ k.stags, s.length < 2 ^ 64) : (slot k i).s.length < 2 ^ 64 := by
  unfold slot
  simp only [List.getD_eq_getElem?_getD]
  cases hq : k.stags[i]? with
  | none => simp
  | some s => simp only [Option.getD_some]; exact hs s (List.mem_of_getElem? hq)

/-- C03, key part of a row: time, metric and the 47 tag columns + the string-top column read back as written
    (an int tag as (id, ""), a string tag as (0, string)) -/
theorem keys_roundtrip (k : Key) (top : Tag) (rest : Bytes) (hts : k.ts < 4294967296)
    (hs : ∀ s ∈ k.stags, s.length < 2 ^ 64) (htop : top.s.length < 2 ^ 64) :
    readKeys (encKeys k top ++ rest) =
      some ((i32 k.metric, k.ts, keySlots.map (fun i => colOf (slot k i)) ++ [colOf top]), rest) := by
  have e : encKeys k top = [0] ++ u32le (i32 k.metric) ++ u32le k.ts ++ (keySlots.map (slot k) ++ [top]).flatMap encTag := by
    simp [encKeys, List.flatMap_map, List.flatMap_append]
  have hks : keySlots.length + 1 = Gen.C03.maxTags := by decide
  have hl : (keySlots.map (slot k) ++ [top]).length = Gen.C03.maxTags := by simp [hks]
  rw [e]
  simp only [readKeys, List.append_assoc, List.cons_append, List.nil_append, readU32_u32le _ (i32_lt _), readU32_u32le _ hts]
  rw [← hl, readCols_enc]
  · simp [List.map_map, Function.comp_def]
  · intro t ht
    rcases List.mem_append.mp ht with ht | ht
    · obtain ⟨i, _, rfl⟩ := List.mem_map.mp ht
      exact slot_len k i hs
    · simp only [List.mem_singleton] at ht; subst ht; exact htop

/-- … hence two rows with the same key bytes have the same time, metric and columns: distinct column tuples are distinct rows -/
theorem key_columns_injective (k k' : Key) (top top' : Tag) (hts : k.ts < 4294967296) (hts' : k'.ts < 4294967296)
    (hs : ∀ s ∈ k.stags, s.length < 2 ^ 64) (hs' : ∀ s ∈ k'.stags, s.length < 2 ^ 64)
    (htop : top.s.length < 2 ^ 64) (htop' : top'.s.length < 2 ^ 64) (h : encKeys k top = encKeys k' top') :
    i32 k.metric = i32 k'.metric ∧ k.ts = k'.ts ∧
    keySlots.map (fun i => colOf (slot k i)) = keySlots.map (fun i => colOf (slot k' i)) ∧ colOf top = colOf top' := by
  have a := keys_roundtrip k top [] hts hs htop
  have b := keys_roundtrip k' top' [] hts' hs' htop'
  rw [h] at a
  rw [a] at b
  simp only [Option.some.injEq, Prod.mk.injEq, and_true] at b
  obtain ⟨b1, b2, b3⟩ := b
  have hlen : (keySlots.map (fun i => colOf (slot k i))).length = (keySlots.map (fun i => colOf (slot k' i))).length := by simp
  have := List.append_inj b3 hlen
  exact ⟨b1, b2, this.1, by simpa using this.2⟩

example : readCol (encTag ⟨0, [104]⟩ ++ [9]) = some ((0, [104]), [9]) ∧ readCol (encTag ⟨-2, [104]⟩) = some ((4294967294, []), []) := by
  constructor <;> rfl

section Sketch
open SH.Unique SH.C04

/-! ## Part 4 — the sketch is exact below the limit -/

/-- an agent's sketch: hashes inserted one by one -/
def agentSk (P : Params) (xs : List Nat) : Sk := xs.foldl (insertHash P) (reset P)
/-- the aggregator's sketch for one (key, top): MergeRead of every agent's image, in the order received -/
def aggSk (P : Params) (agents : List (List Nat)) : Sk :=
  agents.foldl (fun s xs => mergeRead .adopt .clamp P s (marshal P (agentSk P xs))) nilSk
def allHashes (agents : List (List Nat)) : Finset ℕ := agents.foldl (fun U xs => U ∪ xs.toFinset) ∅

theorem mem_foldl_union (x : Nat) : ∀ (l : List (List Nat)) (V : Finset ℕ),
    x ∈ l.foldl (fun U xs => U ∪ xs.toFinset) V ↔ x ∈ V ∨ ∃ xs ∈ l, x ∈ xs := by
  intro l
  induction l with
  | nil => intro V; simp
  | cons ys l ih =>
    intro V
    rw [List.foldl_cons, ih, Finset.mem_union, List.mem_toFinset, List.exists_mem_cons_iff, or_assoc]

/-- the aggregator's sketch represents (`Rep`) the union of what the agents inserted -/
theorem aggSk_rep (P : Params) (hP : PWF P) (W : Finset ℕ) (hW : ∀ x ∈ W, x < 2 ^ P.bits) :
    ∀ (agents : List (List Nat)) (s : Sk) (U : Finset ℕ), Rep P s U W → (∀ xs ∈ agents, ∀ x ∈ xs, x ∈ W) →
    Rep P (agents.foldl (fun s xs => mergeRead .adopt .clamp P s (marshal P (agentSk P xs))) s)
      (agents.foldl (fun U xs => U ∪ xs.toFinset) U) W := by
  intro agents
  induction agents with
  | nil => intro s U h _; exact h
  | cons xs agents ih =>
    intro s U h hin
    rw [List.forall_mem_cons] at hin
    have ha := foldl_insertHash_good P xs (reset P) ∅ W (reset_good P hP W hW) hin.1
    rw [Finset.empty_union] at ha
    exact ih _ _ (mergeRead_rep P hP s (agentSk P xs) U xs.toFinset W h (Or.inl ha)) hin.2

/-- `unique_exact_below_limit` for any parameters and any list of agents -/
theorem exact_below_limit (P : Params) (hP : PWF P) (agents : List (List Nat)) (hb : ∀ ys ∈ agents, ∀ x ∈ ys, x < 2 ^ P.bits)
    (hl : (allHashes agents).card ≤ limit P) :
    (aggSk P agents).k = 0 ∧ (aggSk P agents).cnt = (allHashes agents).card ∧
    sizeAsIs (aggSk P agents) = (allHashes agents).card := by
  have hW : ∀ x ∈ allHashes agents, x < 2 ^ P.bits := by
    intro x hx
    rcases (mem_foldl_union x _ ∅).mp hx with h | ⟨ys, hys, hxy⟩
    · exact absurd h (Finset.notMem_empty x)
    · exact hb ys hys x hxy
  have hr : Rep P (aggSk P agents) (allHashes agents) (allHashes agents) :=
    aggSk_rep P hP _ hW agents nilSk ∅ (Or.inr ⟨rfl, rfl, hW⟩)
      (fun ys hys x hxy => (mem_foldl_union x _ ∅).mpr (Or.inr ⟨ys, hys, hxy⟩))
  obtain ⟨_, hmin, hcnt⟩ := rep_canonical P _ _ hr
  -- at most `limit` values: skipDegree 0 is the least degree at which they fit
  have hk0 : (aggSk P agents).k = 0 := by
    by_contra hne
    have := hmin 0 (Nat.pos_of_ne_zero hne)
    rw [fil_zero] at this
    omega
  rw [hk0, fil_zero] at hcnt
  refine ⟨hk0, hcnt, ?_⟩
  unfold sizeAsIs
  rw [hk0, hcnt, Nat.pow_zero, Nat.mul_one]

/-- C03 "unique-count estimates are exact while a row holds fewer distinct values than the sketch's exact-mode limit":
    whatever sketches the agents sent for a row (any number, any overlap, any order), as long as the number of distinct
    hashes does not exceed uniquesHashMaxSize the aggregator's sketch is unthinned and its itemsCount — the value
    MarshallAppend writes and Size() returns after ReadFrom — is exactly the number of distinct hashes. -/
theorem unique_exact_below_limit (xs : List Nat) (rest : List (List Nat)) (hb : ∀ ys ∈ xs :: rest, ∀ x ∈ ys, x < 2 ^ 32)
    (hl : (allHashes (xs :: rest)).card ≤ Gen.C03.uniqMaxSize) :
    (aggSk UP (xs :: rest)).k = 0 ∧ (aggSk UP (xs :: rest)).cnt = (allHashes (xs :: rest)).card ∧
    sizeAsIs (aggSk UP (xs :: rest)) = (allHashes (xs :: rest)).card :=
  exact_below_limit UP ⟨by decide, by decide⟩ (xs :: rest) hb hl

/-- non-vacuity: three agents, overlapping hashes (0 included), 5 distinct values -/
example : (aggSk UP [[1, 2, 0], [2, 7], [0, 4294967295]]).cnt = 5 ∧ (aggSk UP [[1, 2, 0], [2, 7], [0, 4294967295]]).k = 0 := by decide +kernel

/-- the whole path in bytes: what the aggregator writes for that sketch reads back with the same itemsCount -/
example : (readUnique (encUnique (ustOf (aggSk UP [[1, 2, 0], [2, 7]]) (nonZero UP (aggSk UP [[1, 2, 0], [2, 7]]))))).map (·.1.cnt) = some 4 := by
  decide +kernel

end Sketch

/-! ## witnesses (non-vacuity) and the limits of the statements -/

section Witness

instance (t : TLV) : Decidable (OkTLV t) := by unfold OkTLV; infer_instance
instance (r : RowIn) : Decidable (OkRow r) := by unfold OkRow; infer_instance

def bitsOf (l : List Nat) : Nat := (l.map (2 ^ ·)).sum

/-- counter 2.5 (quarters: 10), value_set, min 7, compact form (max, sum, sum of squares restored), explicit max host 3 -/
def w1 : TLV :=
  { mask := bitsOf [Gen.C03.bitCounter, Gen.C03.bitValueSet, Gen.C03.bitValueMin, Gen.C03.bitMaxHostTag], counter := 10, vmin := 7, vmax := 0,
    sum := 0, sumsq := 0, uniques := [], cents := [], maxHostTag := 3, minHostTag := 0, cntHostTag := 0,
    maxHostStag := [], minHostStag := [], cntHostStag := [] }
/-- counter_eq_1, full form min 2 max 9 sum 11/4 sumsq 85/4, a sketch with the hashes 0 and 5 -/
def w2 : TLV :=
  { mask := bitsOf [Gen.C03.bitCounterEq1, Gen.C03.bitValueSet, Gen.C03.bitValueMin, Gen.C03.bitValueMax, Gen.C03.bitUniques], counter := 0,
    vmin := 2, vmax := 9, sum := 11, sumsq := 85, uniques := [0, 2, 0, 0, 0, 0, 5, 0, 0, 0], cents := [], maxHostTag := 0, minHostTag := 0,
    cntHostTag := 0, maxHostStag := [], minHostStag := [], cntHostStag := [] }
/-- a pure counter 1/4 -/
def w3 : TLV := { w1 with mask := bitsOf [Gen.C03.bitCounter], counter := 1, vmin := 0, maxHostTag := 0 }

def kA : Key := mkKey 1700000000 5 [0, 4, 0] [[], [], [104]]
def kB : Key := mkKey 1700000000 5 [0, 4] []
def hostA : Tag := ⟨1, []⟩
def hostB : Tag := ⟨0, [104, 66]⟩
def topX : Tag := ⟨0, [120]⟩

/-- three received rows: two for key A (one with a string top), one for key B -/
def rowsW : List RowIn :=
  [ ⟨kA, [(topX, w1)], w2, hostA⟩, ⟨kB, [], w1, hostB⟩, ⟨kA, [(topX, w3), (Tag.none, w3)], w1, hostB⟩ ]

example : ∀ r ∈ rowsW, OkRow r := by decide +kernel

/-- `row_is_merge` / `fold_sums` on the witness: the tail of key A got w2, w3 (empty top tag), w1 — count 1 + 1/4 + 5/2,
    sum 11/4 + 7·5/2, min 2, max 9, hosts of the extreme values; the top "x" got w1 then w3 -/
example : (valueAt (applyRows [] rowsW) kA Tag.none).v.cnt = 15 ∧ (valueAt (applyRows [] rowsW) kA Tag.none).v.sum = 81 ∧
    (valueAt (applyRows [] rowsW) kA Tag.none).v.vmin = 2 ∧ (valueAt (applyRows [] rowsW) kA Tag.none).v.vmax = 9 ∧
    (valueAt (applyRows [] rowsW) kA Tag.none).v.minHost = hostA ∧
    (valueAt (applyRows [] rowsW) kA topX).v.cnt = 11 ∧ (valueAt (applyRows [] rowsW) kA topX).v.maxHost = ⟨3, []⟩ ∧
    (valueAt (applyRows [] rowsW) kB Tag.none).v.cnt = 10 ∧
    (contribsFor rowsW kA Tag.none).length = 3 := by decide +kernel

/-- the written body of that bucket: three rows, pairwise different (key, top) -/
example : rowKeys 20 (applyRows [] rowsW) = [(kA, Tag.none), (kA, topX), (kB, Tag.none)] := by decide +kernel

/-- with StringTopCountInsert = 0 the top is folded into the tail by FinishStringTop: count 15/4 + 11/4 -/
example : (bucketRows 0 (applyRows [] rowsW)).map (fun r => (r.1, r.2.1, r.2.2.v.cnt)) = [(kA, Tag.none, 26), (kB, Tag.none, 10)] := by decide +kernel

/-- a negative counter is an ingestion error: the value is not merged and the rest of the row is skipped -/
example : (mergeItem Item.zero [(topX, { w3 with counter := -4 })] w1 hostA) = (⟨MV.zero, [(topX, MV.zero)]⟩, 1) := by decide +kernel

/-- Limit of `one_row_per_key`: it is per aggregator bucket. A body built from two buckets repeats a (time, key) when a row of
    the recent bucket carries an explicit timestamp equal to the second of the historic bucket (both are inside the believe
    window); ClickHouse merges the two rows. -/
example : keyTime (some 1699999000) 1700000000 = keyTime Option.none 1699999000 := by decide +kernel

/-- Limit of the key columns: a tag slot that holds an int AND a string is written as the int only (appendTag prefers I),
    and slot 47 (the string-top index) of the key is never written — such keys are distinct map keys with equal columns. -/
example : encTag ⟨5, [97]⟩ = encTag ⟨5, []⟩ := by decide +kernel

/-- one row, byte for byte: key B of the witness bucket (host value bits are inputs) -/
example : (encValue (valueAt (applyRows [] rowsW) kB Tag.none) ⟨hostB, [], 1, 2, 3, []⟩).take 16 =
    [0, 0, 0, 0, 0, 0, 4, 64, 0, 0, 0, 0, 0, 0, 4, 64] := by decide +kernel

def hostsW : List (TLV × Tag) :=
  [ ({ slipA with mask := slipA.mask + 2 ^ Gen.C03.bitValueSet + 2 ^ Gen.C03.bitValueMin, vmin := -3 }, ⟨7, []⟩),
    ({ slipB with mask := slipB.mask + 2 ^ Gen.C03.bitValueSet + 2 ^ Gen.C03.bitValueMin, vmin := 5 }, ⟨8, []⟩) ]
/-- `fold_hosts` on a witness: two agents (hosts 7 and 8); the first holds the minimum -3 measured on its own host while
    its maximum was measured on the unmapped string host "hB"; the second names the string host "hA" for its minimum 5 -/
example : (∀ c ∈ hostsW, OkTLV c.1) ∧ (foldTL MV.zero hostsW).v.set = true ∧ (foldTL MV.zero hostsW).v.vmin = -3 ∧
    (foldTL MV.zero hostsW).v.minHost = ⟨7, []⟩ ∧ (foldTL MV.zero hostsW).v.vmax = 5 ∧ (foldTL MV.zero hostsW).v.maxHost = ⟨8, []⟩ ∧
    (foldTL MV.zero hostsW).v.chosts = [⟨0, [104, 66]⟩, ⟨8, []⟩] := by decide +kernel

end Witness
end SH.C03
