/-
  C13 — All client wire formats decode the same batch identically and safely.

  "A metrics batch encoded as TL, JSON, MessagePack or Protobuf is decoded into the same sequence of metrics
   (name, tags, counter, timestamp, values, uniques, histogram), and the format is detected from the first bytes as
   documented. Decoding arbitrary bytes never panics or hangs; it either yields metrics or reports a parse error."
  Quantifier: all batches of metrics with arbitrary field combinations, and all byte strings.

  Model: SH.Model.Wire (parser.parse, the TL / MessagePack / Protobuf readers, the canonical client encoders).
  `Variant.fixed` = the tree with fixes/C13-msgpack-alloc.diff and fixes/C13-protobuf-unique.diff applied,
  `Variant.orig`  = the pinned tree. The model's decoders AND encoders are tied to the real code by the
  correspondence run of checks/C13.py (ops `dec` and `enc`).

  Proved: the TL, MessagePack and Protobuf round trips through parser.parse for all well-formed batches, hence
  all_formats_agree; detection from the first bytes (both directions for TL and JSON; the encoder outputs; MessagePack
  only from a map header); safety (every function of the model is total by
  Lean's termination check; parse_terminates; allocation bounds for the three decoders — the MessagePack one is false on
  the pinned tree, orig_alloc_unbounded); TCP framing independent of the chunking when the read buffer holds header +
  largest body; the defects of the pinned tree as evaluated witnesses; the unpacked Protobuf layouts; decoding into a
  reused destination (each reset is needed). JSON is outside the model (correspondence / oracle only).
-/
import SH.Lemmas.Wire
import SH.Lemmas.WireMP
import SH.Lemmas.WirePB3
import SH.Lemmas.WireFuel
import SH.Lemmas.WirePBFuel
import SH.Lemmas.WireAlloc
import SH.Gen.C13

namespace SH.Props.C13
open SH.Wire

theorem tl_roundtrip (ms : List Metric) (hn : ms.length < 2 ^ 32) (hw : ∀ m ∈ ms, m.WF) (rest : Bytes) :
    tlBatch (tlEncBatch ms ++ rest) = .ok (ms, rest) :=
  tlBatch_enc ms hn hw rest

theorem parse_tl (v : Variant) (ms : List Metric) (hn : ms.length < 2 ^ 32) (hw : ∀ m ∈ ms, m.WF) :
    parse v (tlEncBatch ms) = { fmt := .tl, delivered := ms } := by
  obtain ⟨_, e⟩ := (tlEncBatch_stretch ms hn hw).whole ([], 0)
  unfold parse
  rw [detect_tlEnc ms]
  exact e.trans rfl

/-- Several TL batches in one packet (UDP clients do that): all metrics of all batches are delivered, in order. -/
theorem parse_tl_two (v : Variant) (ms ms' : List Metric) (hn : ms.length < 2 ^ 32) (hw : ∀ m ∈ ms, m.WF)
    (hn' : ms'.length < 2 ^ 32) (hw' : ∀ m ∈ ms', m.WF) :
    (parse v (tlEncBatch ms ++ tlEncBatch ms')).delivered = ms ++ ms' ∧
    (parse v (tlEncBatch ms ++ tlEncBatch ms')).err = none := by
  -- two stretches of the batch loop, then the empty rest
  obtain ⟨_, e⟩ := ((tlEncBatch_stretch ms hn hw).append (tlEncBatch_stretch ms' hn' hw')).whole ([], 0)
  unfold parse
  rw [detect_of_tlPrefix (tlEncBatch_take4 ms _)]
  exact ⟨congrArg Parsed.delivered e, congrArg Parsed.err e⟩

/-- non-vacuity of `Metric.WF`: a metric with every optional field, and one with none -/
def mFull : Metric :=
  { mask := 31, name := [109, 49], tags := [([101, 110, 118], [112, 114, 111, 100]), ([49], [])],
    counter := 0x4008000000000000, ts := 1700000000, value := [0x3ff0000000000000, 0xfff8000000000001],
    unique := [5, 2 ^ 64 - 1, 2 ^ 63], hist := [(0x4000000000000000, 0x3ff0000000000000)] }
def mBare : Metric := { name := [120] }

theorem mFull_wf : mFull.WF := by
  constructor <;> decide +kernel
theorem mBare_wf : mBare.WF := by
  constructor <;> decide +kernel

theorem witness_wf : ∀ m ∈ [mFull, mBare], m.WF ∧ (pbEncMetric m).length < 2 ^ 32 := by
  intro m hm
  simp at hm
  rcases hm with rfl | rfl
  · exact ⟨mFull_wf, by decide⟩
  · exact ⟨mBare_wf, by decide⟩

example : parse .fixed (tlEncBatch [mFull, mBare]) = { fmt := .tl, delivered := [mFull, mBare] } :=
  parse_tl _ _ (by decide) fun m hm => (witness_wf m hm).1

/-- a TL batch (first bytes 39 02 58 56) is handled as TL -/
theorem detect_tl (ms : List Metric) : detect (tlEncBatch ms) = .tl := detect_tlEnc ms

/-- an empty Protobuf batch is the empty packet: counted as "empty", nothing delivered (proto3 has no other encoding) -/
theorem detect_pb_empty (v : Variant) : parse v (pbEncBatch []) = { fmt := .empty } := rfl

/-- converse direction: which first bytes select which decoder (the comment block at the top of receiver.go) -/
theorem detect_json_iff (pkt : Bytes) : detect pkt = .json ↔ pkt.take 1 = [0x7b] := by
  constructor
  · intro h
    have hd := detect_spec pkt
    rw [h] at hd
    cases hd
    assumption
  · intro h
    have hne : pkt ≠ [] := by
      rintro rfl
      cases h
    -- the first byte of the TL prefix is 0x39, not `{`
    have h1 : pkt.take 4 ≠ tlPrefix := fun h4 => by
      have : (pkt.take 4).take 1 = [0x7b] := by rw [List.take_take]; exact h
      rw [h4] at this
      cases this
    unfold detect
    rw [if_neg hne, if_neg h1, if_pos h]

theorem detect_tl_iff (pkt : Bytes) : detect pkt = .tl ↔ pkt.take 4 = tlPrefix := by
  refine ⟨fun h => ?_, detect_of_tlPrefix⟩
  have hd := detect_spec pkt
  rw [h] at hd
  cases hd
  assumption

/-- MessagePack is chosen only for a packet that starts with a map header: fixmap 0x80–0x8f, map16 0xde, map32 0xdf -/
theorem detect_msgpack_first_byte (pkt : Bytes) (h : detect pkt = .msgpack) :
    ∃ lead r, pkt = lead :: r ∧ (lead / 16 = 8 ∨ lead = 0xde ∨ lead = 0xdf) := by
  have hd := detect_spec pkt
  rw [h] at hd
  cases hd with
  | msgpack _ _ _ hm =>
    obtain _ | ⟨lead, r⟩ := pkt
    · cases hm
    · refine ⟨lead, r, rfl, ?_⟩
      simp only [mpLooksLikeMap, mpMapHdr] at hm
      by_cases a : lead / 16 = 8
      · exact Or.inl a
      · by_cases b : lead = 0xde
        · exact Or.inr (Or.inl b)
        · by_cases c : lead = 0xdf
          · exact Or.inr (Or.inr c)
          · simp [a, b, c] at hm

/-- for every variant: also without the length check a MessagePack read consumes its header byte -/
theorem parse_safe (v : Variant) (pkt : Bytes) :
    (parse v pkt).err ≠ some .fuel ∧ (v.boundAlloc = true → (parse v pkt).alloc ≤ pkt.length) := by
  unfold parse
  split
  · exact ⟨nofun, fun _ => Nat.zero_le _⟩
  · exact ⟨nofun, fun _ => Nat.zero_le _⟩
  · exact ⟨nofun, fun _ => Nat.zero_le _⟩
  · exact batchLoop_parse .tl (fun b => .pure (tlBatch_reads b)) pkt
  · exact batchLoop_parse .msgpack (mpBatch_good v) pkt
  · cases hb : pbBatch v (pkt.length + 1) [] pkt with
    | ok ms => exact ⟨nofun, fun _ => Nat.zero_le _⟩
    | error p =>
      refine ⟨fun he => ?_, fun _ => Nat.zero_le _⟩
      exact pbBatch_ne_fuel v _ _ _ (Nat.lt_succ_self _) p.2 (by rw [hb, ← Option.some.inj he])

/-- For every byte string, every element count the (fixed) MessagePack decoder passes to `make` is at most the packet
    length: the allocation is linear in the input, a short packet cannot ask for gigabytes. -/
theorem msgpack_alloc_bounded (pkt : Bytes) : (parse .fixed pkt).alloc ≤ pkt.length :=
  (parse_safe .fixed pkt).2 rfl

/-- The pinned tree violates it: the 14-byte packet  81 a7 "metrics" dd ff ff ff ff  makes the decoder call
    make([]MetricBytes, 4294967295) (≈ 700 GB) — `fatal error: out of memory`, reproduced by the harness. -/
def bomb14 : Bytes := [0x81, 0xa7, 109, 101, 116, 114, 105, 99, 115, 0xdd, 0xff, 0xff, 0xff, 0xff]

theorem orig_alloc_unbounded : bomb14.length = 14 ∧ (parse .orig bomb14).alloc = 2 ^ 32 - 1 := by decide +kernel

/-- the same packet after the fix: rejected as too short, nothing allocated -/
example : parse .fixed bomb14 = { fmt := .msgpack, err := some .short, perr := true, alloc := 0 } := by decide +kernel

/-- msgp.Skip (the only fuel-driven part of the MessagePack decoder) terminates on every input -/
theorem msgpack_skip_terminates (b : Bytes) : mpSkip b ≠ .error .fuel :=
  (mpSkip_skips b).ne_fuel trivial

theorem msgpack_loop_terminates (v : Variant) (pkt : Bytes) (acc : List Metric) (a : Nat) :
    (batchLoop (mpBatch v) .msgpack (pkt.length + 1) pkt acc a).err ≠ some .fuel :=
  (batchLoop_spec _ .msgpack _ (mpBatch_good v) _ _ _ _ (Nat.lt_succ_self _)).1

/-- the oversize-header packet takes the MessagePack path of `parse` -/
example : detect bomb14 ≠ .pb ∧ Variant.fixed.boundAlloc = true := by decide +kernel

theorem parse_never_fuel (v : Variant) (pkt : Bytes) : (parse v pkt).err ≠ some .fuel :=
  (parse_safe v pkt).1

/-- PARSE TERMINATES, for ALL packets (empty, TL, JSON-detected, legacy, MessagePack, Protobuf): the model never reports
    its own `fuel` exhaustion — with the fuel bounds it gives itself (`len+1` for every loop, `len+1` for msgp.Skip,
    `2·len+2` for protowire's group skipper) every loop of the decoders ends by consuming input or by a real error.
    Together with Lean's totality check this is the "never hangs" half of the property for the modelled code. -/
theorem parse_terminates (v : Variant) (hv : v.boundAlloc = true) (pkt : Bytes) : (parse v pkt).err ≠ some .fuel :=
  parse_never_fuel v pkt

/-- `hv` holds for the current code (`parse_never_fuel` does not need it) -/
example : Variant.fixed.boundAlloc = true := rfl
/-- a packet of nested Protobuf groups is handled -/
example : (parse .fixed [0x4b, 0x4b, 0x4b, 0x4c, 0x4c]).err = some .eof := by decide +kernel

/-- the hypothesis `h` is refutable (`msgpack_loop_terminates`) -/
theorem parse_terminates_partial (v : Variant) (hv : v.boundAlloc = true) (pkt : Bytes) (acc : List Metric) (a : Nat)
    (h : (batchLoop (mpBatch v) .msgpack (pkt.length + 1) pkt acc a).err = some .fuel) :
    ∃ b, (mpBatch v b).res = .error .fuel :=
  absurd h (msgpack_loop_terminates v pkt acc a)

/-- its `hv` holds for the current code -/
example : Variant.fixed.boundAlloc = true := rfl
/-- the loop does run several times on real input -/
example : (batchLoop (mpBatch .fixed) .msgpack 100 ([0x80, 0x80, 0x81, 0xa1, 120, 0xc0]) [] 0).err = none := by decide +kernel

/-- the constant the compiler sees (regenerated from /repo on every run): a silent change fails here -/
example : SH.Gen.C13.maxTCPFrameBody = 65535 := by decide +kernel

/-- Arbitrary chunking of the stream does not matter: with a read buffer of at least 4 + maxBody bytes the receive loop,
    fed ANY byte stream in ANY write/read chunks, hands to parse exactly the frames of the whole stream, ends with a
    framing error iff the stream contains a length header above the bound — and never stalls. -/
theorem tcp_chunking_irrelevant (maxBody bufSize : Nat) (hb : maxBody + 4 ≤ bufSize) (chunks : List Bytes) :
    (runConn maxBody bufSize chunks).frames = (deframe maxBody chunks.flatten).1 ∧
    (runConn maxBody bufSize chunks).ending =
      some (if (deframe maxBody chunks.flatten).2.2 then ConnEnd.framing else ConnEnd.eof) := by
  have h := After.of_chunks maxBody bufSize hb chunks {} [] (After.init maxBody)
  rw [List.nil_append] at h
  obtain ⟨hfr, hend, _⟩ := h
  unfold runConn
  simp only []
  cases hflag : (deframe maxBody chunks.flatten).2.2 <;> rw [hflag] at hend <;> simp [hend, hfr]

/-- Every valid frame is delivered, in order, whatever the chunking — in particular frames of exactly the largest
    allowed size (65533..65535 bytes with the real constant) — and the connection ends normally (no hang). -/
theorem tcp_frames_delivered (bodies : List Bytes) (hm : ∀ b ∈ bodies, b.length ≤ SH.Gen.C13.maxTCPFrameBody)
    (chunks : List Bytes) (hc : chunks.flatten = catMap frame bodies) :
    (runConn SH.Gen.C13.maxTCPFrameBody (4 + SH.Gen.C13.maxTCPFrameBody) chunks).frames = bodies ∧
    (runConn SH.Gen.C13.maxTCPFrameBody (4 + SH.Gen.C13.maxTCPFrameBody) chunks).ending = some .eof := by
  have h := tcp_chunking_irrelevant SH.Gen.C13.maxTCPFrameBody (4 + SH.Gen.C13.maxTCPFrameBody) (by omega) chunks
  have hd := deframe_frames SH.Gen.C13.maxTCPFrameBody bodies hm
    (fun b hb => by
      have h1 := hm b hb
      have h2 : SH.Gen.C13.maxTCPFrameBody = 65535 := (by decide)
      omega)
  rw [hc, hd] at h
  simpa using h

/-- An oversize length header closes the connection — it never hangs — for every chunking: after any number of valid
    frames, a header announcing more than `maxBody` bytes (followed by anything) makes the receive loop deliver exactly
    the frames before it and end with a framing error, however the stream is cut into reads. -/
theorem tcp_oversize_closes (maxBody bufSize : Nat) (hb : maxBody + 4 ≤ bufSize) (bodies : List Bytes)
    (hm : ∀ b ∈ bodies, b.length ≤ maxBody) (h32 : ∀ b ∈ bodies, b.length < 2 ^ 32)
    (n : Nat) (hn : maxBody < n) (hn32 : n < 2 ^ 32) (junk : Bytes) (chunks : List Bytes)
    (hc : chunks.flatten = catMap frame bodies ++ (le 4 n ++ junk)) :
    (runConn maxBody bufSize chunks).frames = bodies ∧ (runConn maxBody bufSize chunks).ending = some .framing := by
  have h := tcp_chunking_irrelevant maxBody bufSize hb chunks
  have hv : rdLE (le 4 n) = n := rdLE_le_of_lt (by simpa using hn32)
  have hd : deframe maxBody chunks.flatten = (bodies ++ [], le 4 n ++ junk, true) := by
    rw [hc, deframe_append, deframe_frames maxBody bodies hm h32, if_neg (by nofun), List.nil_append,
      deframe_over maxBody (le_length 4 n) (by rw [hv]; exact hn)]
  rw [hd, List.append_nil] at h
  exact h

/-- non-vacuity: 2 valid frames, then a header of maxBody+1, written byte-wise and in one piece -/
example : (runConn 7 11 [frame [1, 2] ++ frame [3] ++ le 4 8 ++ [9, 9]]).ending = some .framing ∧
    (runConn 7 11 ((frame [1, 2] ++ frame [3] ++ le 4 8 ++ [9, 9]).map (fun b => [b]))).frames = [[1, 2], [3]] := by decide +kernel

/-- non-vacuity, and the failure mode of a read buffer that is smaller than header + largest body (seeded bug C13-3,
    scaled down: bound 7, buffer 8 instead of 11): a 5-byte body within the bound never fits, Read is called with an
    empty slice forever — the model reports `stall`, nothing is delivered, later frames are lost. -/
theorem tcp_small_buffer_stalls :
    (runConn 7 8 [frame [1, 2, 3, 4, 5], frame [9]]).ending = some .stall ∧
    (runConn 7 8 [frame [1, 2, 3, 4, 5], frame [9]]).frames = [] ∧
    (runConn 7 11 [frame [1, 2, 3, 4, 5], frame [9]]).frames = [[1, 2, 3, 4, 5], [9]] ∧
    (runConn 7 11 [[5, 0], [0, 0, 1, 2], [3, 4, 5, 1, 0, 0], [0, 9]]).frames = [[1, 2, 3, 4, 5], [9]] ∧
    (runConn 7 11 [frame [1], le 4 8 ++ [0, 0], frame [2]]).ending = some .framing := by decide +kernel

/-- a metric "u" with unique = [5, 300] sent UNPACKED (two records `30 05`, `30 ac 02`), as proto2-style encoders do -/
def pbUnpacked : Bytes := [0xca, 0xc1, 0x06, 0x08, 0x0a, 0x01, 117, 0x30, 0x05, 0x30, 0xac, 0x02]
/-- the same metric with the packed layout proto3 encoders use -/
def pbPacked : Bytes := [0xca, 0xc1, 0x06, 0x08, 0x0a, 0x01, 117, 0x32, 0x03, 0x05, 0xac, 0x02]

/-- after the fix both layouts decode to the same metric (F11) -/
theorem pb_unpacked_unique_fixed :
    (parse .fixed pbUnpacked).delivered = (parse .fixed pbPacked).delivered ∧
    (parse .fixed pbUnpacked).delivered = [{ name := [117], unique := [5, 300], mask := 4 }] := by decide +kernel

/-- the pinned tree silently drops the unpacked uniques (wire type 0 falls through to the skip branch) -/
theorem pb_unpacked_unique_orig :
    (parse .orig pbUnpacked).delivered = [{ name := [117] }] ∧ (parse .orig pbUnpacked).err = none ∧
    (parse .orig pbPacked).delivered = [{ name := [117], unique := [5, 300], mask := 4 }] := by decide +kernel

/-- a metric whose packed `unique` run (10 bytes) ends in a truncated varint -/
def pbBadPacked : Bytes := [0xca, 0xc1, 0x06, 0x0c, 0x32, 0x0a, 0x09, 97, 97, 97, 97, 97, 97, 97, 97, 0x80]

/-- the pinned tree swallows the malformed varint (`return buf, nil`), keeps the values read so far and goes on parsing
    the payload as fields — it delivers a metric named "aaaaaaaa\x80" out of a malformed packet; the fixed tree
    reports the error (both reproduced on the real code) -/
theorem pb_packed_error :
    (parse .orig pbBadPacked).delivered =
      [{ mask := 4, name := [97, 97, 97, 97, 97, 97, 97, 97, 128], unique := [9, 97, 97, 97, 97, 97, 97, 97, 97] }] ∧
    (parse .orig pbBadPacked).err = none ∧
    (parse .fixed pbBadPacked).delivered = [] ∧ (parse .fixed pbBadPacked).err = some .eof := by decide +kernel

/-- TL allocation bound. `tlBatchA` is the TL reader instrumented with the sizes the Go code passes to `make`
    (element counts of the five vectors after CheckLengthSanity, byte counts in StringReadBytes); its result component is
    exactly the model reader `tlBatch` (which the correspondence ties to ReadTL1Boxed), and on every byte string — also
    on the error paths — the largest such size is at most the number of input bytes. -/
theorem tl_alloc_bounded (b : Bytes) : (tlBatchA b).res = tlBatch b ∧ (tlBatchA b).alloc ≤ b.length :=
  ⟨tlBatchA_res b, (tlBatchA_good b).1 trivial⟩

/-- Protobuf allocation bound. protobuf.go never calls `make` with a decoded length: slices grow by `append`.
    `pbBatchA` is the reader instrumented with the size of every growth step (copied payload of name / map entry /
    centroid, elements of one packed run, one element per unpacked value/unique/tag/centroid/metric record); its result
    component is exactly the model reader `pbBatch`, and the largest step is at most the number of input bytes. -/
theorem pb_alloc_bounded (v : Variant) (pkt : Bytes) :
    (pbBatchA v (pkt.length + 1) [] pkt).2 = pbBatch v (pkt.length + 1) [] pkt ∧
    (pbBatchA v (pkt.length + 1) [] pkt).1 ≤ pkt.length :=
  pbBatchA_spec v _ _ _

/-- the instrumentation is not vacuous: a packed run of 2 uniques grows the slice by 2 (more than the 1-byte name that
    is copied); a TL vector header of 2 elements allocates 2 -/
example : (pbBatchA .fixed 100 [] pbPacked).1 = 2 ∧ (pbBatchA .fixed 100 [] pbPacked).2 = .ok [{ name := [117], unique := [5, 300], mask := 4 }] := by
  decide +kernel
example : (tlBatchA (tlEncBatch [mBare, mBare])).alloc = 2 := by decide +kernel

/-- DECODE IS TOTAL AND SAFE on every byte string: parse is a total function (Lean's termination check: it returns
    metrics and/or an error class for every packet), it never ends by exhausting the model's fuel (no loop of the
    decoders can spin), and every allocation request of the MessagePack, TL and Protobuf decoders is bounded by the
    packet length (fixed tree; false for MessagePack on the pinned tree — `orig_alloc_unbounded`). -/
theorem decode_total (pkt : Bytes) :
    (parse .fixed pkt).err ≠ some .fuel ∧ (parse .fixed pkt).alloc ≤ pkt.length ∧
    (batchLoop tlBatchA .tl (pkt.length + 1) pkt [] 0).alloc ≤ pkt.length ∧
    (pbBatchA .fixed (pkt.length + 1) [] pkt).1 ≤ pkt.length :=
  ⟨parse_never_fuel .fixed pkt, msgpack_alloc_bounded pkt,
   (batchLoop_parse .tl (fun b => (tlBatchA_tracks b).good) pkt).2 trivial,
   pbBatchA_le .fixed _ _ _⟩

/-! ## decoding is a function of the packet alone (reused parser + batch)

  The receivers push every packet of a socket through ONE parser and ONE AddMetricsBatchBytes whose slices keep their
  capacity and old elements. The model's `parse` has no state argument at all: every accumulator of the model starts from
  a constant — `[]` for the batch (`mb.Reset()`), `{}` for a metric (`m.Reset()` at the top of both
  …UnmarshalStatshouseMetric), `([], [])` for a map entry (`m.Key = m.Key[:0]; m.Value = m.Value[:0]`), `(0, 0)` for a
  centroid (`*m = [2]float64{}`), and overwritten collections for MessagePack. That "the real decoder fed a SEQUENCE of
  packets through one reused destination behaves like the stateless model on each packet" is therefore a correspondence
  obligation: the harness decodes packet sequences (all formats interleaved, large packets first, zero / empty / omitted
  fields later) through one reused parser+batch, diffs each result against the model's decode of that packet alone, and
  re-decodes it with a fresh parser (oracle `stale-state-across-packets`).
  Below the reused slot is made explicit for the Protobuf and MessagePack element readers: with the reset the result
  does not depend on what the slot held; without it the previous packet leaks (so each reset line is necessary). -/

/-- protobufUnmarshalCentroid writing into a slot that still holds `slot`; `reset` is the line `*m = [2]float64{}` -/
def pbCentroidInto (reset : Bool) (slot : Nat × Nat) (d : Bytes) : Except Err (Nat × Nat) :=
  pbCentroid (d.length + 1) (if reset then (0, 0) else slot) d

/-- protobufUnmarshalFieldEntry into a reused tag slot; `reset` is `m.Key = m.Key[:0]; m.Value = m.Value[:0]` -/
def pbEntryInto (reset : Bool) (slot : Bytes × Bytes) (d : Bytes) : Except Err (Bytes × Bytes) :=
  pbEntry (d.length + 1) (if reset then ([], []) else slot) d

/-- protobufUnmarshalStatshouseMetric / msgpackUnmarshalStatshouseMetric into a reused metric; `reset` is `m.Reset()` -/
def pbMetricInto (v : Variant) (reset : Bool) (slot : Metric) (d : Bytes) : Except Err Metric :=
  pbMetric v (d.length + 1) (if reset then {} else slot) d
def mpFieldsInto (v : Variant) (reset : Bool) (slot : Metric) (n : Nat) (b : Bytes) : R Metric :=
  (mpFields v n (if reset then {} else slot) b).res

/-- With `reset = true` the wrappers above start, by their definition, from the model's initial accumulator: what is
    decoded into a reused slot is the model's decode of the bytes alone. The content is in `each_reset_is_needed`. -/
theorem decode_ignores_destination (v : Variant) (d : Bytes) (n : Nat) :
    (∀ s, pbCentroidInto true s d = pbCentroid (d.length + 1) (0, 0) d) ∧
    (∀ s, pbEntryInto true s d = pbEntry (d.length + 1) ([], []) d) ∧
    (∀ s, pbMetricInto v true s d = pbMetric v (d.length + 1) {} d) ∧
    (∀ s, mpFieldsInto v true s n d = (mpFields v n {} d).res) :=
  ⟨fun _ => rfl, fun _ => rfl, fun _ => rfl, fun _ => rfl⟩

/-- Each reset is necessary (seeded bug C13-r3-2 is the first line): a proto3 centroid (3.0, count 0 — the count is not
    on the wire) decoded into a slot that held (5, 7) keeps the stale count 7; a map entry without a value keeps the old
    value; a metric without a name keeps the old name, in Protobuf and in MessagePack. -/
theorem each_reset_is_needed :
    pbCentroidInto false (5, 7) (pbEncCentroid (3, 0)) = .ok (3, 7) ∧
    pbCentroidInto true (5, 7) (pbEncCentroid (3, 0)) = .ok (3, 0) ∧
    pbEntryInto false ([1], [2]) (pbEncLen 1 [9]) = .ok ([9], [2]) ∧
    pbEntryInto true ([1], [2]) (pbEncLen 1 [9]) = .ok ([9], []) ∧
    pbMetricInto .fixed false { name := [111] } (pbEncTag 4 0 ++ pbEncV 5) = .ok { name := [111], ts := 5, mask := 16 } ∧
    pbMetricInto .fixed true { name := [111] } (pbEncTag 4 0 ++ pbEncV 5) = .ok { ts := 5, mask := 16 } ∧
    mpFieldsInto .fixed false { name := [111] } 1 (mpEncStr kTs ++ mpEncUint 5) = .ok ({ name := [111], ts := 5, mask := 16 }, []) ∧
    mpFieldsInto .fixed true { name := [111] } 1 (mpEncStr kTs ++ mpEncUint 5) = .ok ({ ts := 5, mask := 16 }, []) := by
  decide +kernel

/-- MessagePack: the canonical client encoding (msgp.Append*; tied to the real encoder by the `enc` op) of any batch of
    well-formed metrics, followed by anything, is decoded — by the pinned and by the fixed decoder — into metrics with
    exactly the content of the batch (`mpDecoded m` = `m` with the fields mask rebuilt from the fields present). -/
theorem msgpack_roundtrip (v : Variant) (ms : List Metric) (hn : ms.length < 2 ^ 32) (hw : ∀ m ∈ ms, m.WF) (rest : Bytes) :
    (mpBatch v (mpEncBatch ms ++ rest)).res = .ok (ms.map mpDecoded, rest) ∧ (ms.map mpDecoded).map sem = ms.map sem := by
  refine ⟨mpBatch_enc v ms hn hw rest, ?_⟩
  rw [List.map_map]
  apply List.map_congr_left
  intro m hm
  exact sem_mpDecoded m (hw m hm)

/-- Protobuf: proto3 encoding as proto.Marshal produces it (packed `value`/`unique`, zero scalars omitted; tied to the
    real encoder by the `enc` op) of any batch of well-formed metrics whose encodings fit 32-bit lengths decodes into
    metrics with exactly the content of the batch. -/
theorem pb_roundtrip (v : Variant) (ms : List Metric) (h : ∀ m ∈ ms, m.WF ∧ (pbEncMetric m).length < 2 ^ 32) :
    pbBatch v ((pbEncBatch ms).length + 1) [] (pbEncBatch ms) = .ok (ms.map pbDecoded) ∧
    (ms.map pbDecoded).map sem = ms.map sem := by
  refine ⟨pbBatch_enc v ms h, ?_⟩
  rw [List.map_map]
  apply List.map_congr_left
  intro m _
  exact sem_pbDecoded m

/-- varint round trip (protowire.AppendVarint / ConsumeVarint), every uint64 -/
theorem pb_varint_roundtrip (x : Nat) (hx : x < 2 ^ 64) (rest : Bytes) : pbVarint (pbEncV x ++ rest) = .ok (x, rest) :=
  pbVarint_enc x rest hx

/-- Unpacked layouts: `value` sent as one fixed64 record per element and `unique` as one varint record per element put the
    same elements into the metric as the packed records do (only the mask bookkeeping term differs in shape).
    The `unique` half needs the fix (wire type 0); on the pinned tree it is false — `pb_unpacked_unique_orig`. -/
theorem pb_unpacked_forms (v : Variant) (hv : v.uniqueWt0 = true) (m : Metric) (vs us : List Nat) (k : Nat) (t : Bytes)
    (hvs : ∀ x ∈ vs, x < 2 ^ 64) (hus : ∀ x ∈ us, x < 2 ^ 64) (hvn : vs.length < 2 ^ 32) (hun : us.length < 2 ^ 32) :
    (pbMetric v (k + vs.length) m (catMap pbValueRec vs ++ t)
        = pbMetric v k { m with value := m.value ++ vs, mask := maskN 1 vs.length m.mask } t) ∧
    (pbMetric v (k + 1) m (pbEncLen 5 (catMap (le 8) vs) ++ t)
        = pbMetric v k { m with value := m.value ++ vs, mask := setBit m.mask 1 } t) ∧
    (pbMetric v (k + us.length) m (catMap pbUniqueRec us ++ t)
        = pbMetric v k { m with unique := m.unique ++ us, mask := maskN 2 us.length m.mask } t) ∧
    (pbMetric v (k + 1) m (pbEncLen 6 (catMap pbEncV us) ++ t)
        = pbMetric v k { m with unique := m.unique ++ us, mask := setBit m.mask 2 } t) :=
  ⟨loop_catMap (pbMetric v) pbValueRec (fun m xs => { m with value := m.value ++ xs, mask := maskN 1 xs.length m.mask }) _
     (fun m => by simp [maskN]) (fun m x xs => by simp [maskN]) (fun f m x t hx => pbTurn_valueUnpacked v f m x t hx) vs m k t hvs,
   pbTurn_valuePacked v k m vs t hvn hvs,
   loop_catMap (pbMetric v) pbUniqueRec (fun m xs => { m with unique := m.unique ++ xs, mask := maskN 2 xs.length m.mask }) _
     (fun m => by simp [maskN]) (fun m x xs => by simp [maskN]) (fun f m x t hx => pbTurn_uniqueUnpacked v hv f m x t hx) us m k t hus,
   pbTurn_uniquePacked v k m us t hun hus⟩

/-- ALL FORMATS AGREE (TL, MessagePack, Protobuf; JSON is outside the model): for every batch of well-formed metrics,
    parser.parse detects each encoding as its format, reports no error, and delivers — in order — metrics with the same
    name, tags, counter, timestamp, values, uniques and histogram as the batch, hence the same as each other. -/
theorem all_formats_agree (v : Variant) (ms : List Metric) (hn : ms.length < 2 ^ 32)
    (hw : ∀ m ∈ ms, m.WF ∧ (pbEncMetric m).length < 2 ^ 32) :
    (parse v (tlEncBatch ms)).delivered.map sem = ms.map sem ∧ (parse v (tlEncBatch ms)).err = none ∧
    (parse v (mpEncBatch ms)).delivered.map sem = ms.map sem ∧ (parse v (mpEncBatch ms)).err = none ∧
    (parse v (pbEncBatch ms)).delivered.map sem = ms.map sem ∧ (parse v (pbEncBatch ms)).err = none ∧
    (parse v (tlEncBatch ms)).fmt = .tl ∧ (parse v (mpEncBatch ms)).fmt = .msgpack ∧
    (ms ≠ [] → (parse v (pbEncBatch ms)).fmt = .pb) := by
  have hw' : ∀ m ∈ ms, m.WF := fun m hm => (hw m hm).1
  have htl := parse_tl v ms hn hw'
  obtain ⟨m1, m2, m3, _⟩ := parse_mpEnc v ms hn hw'
  have hmp := (msgpack_roundtrip v ms hn hw' []).2
  have hpb := (pb_roundtrip v ms hw).2
  obtain ⟨p1, p2, p3⟩ := parse_pbEnc v ms hw
  exact ⟨by rw [htl], by rw [htl], by rw [m2]; exact hmp, m3, by rw [p1]; exact hpb, p2, by rw [htl], m1, p3⟩

/-- the part of `all_formats_agree` that needs no bound on the Protobuf encodings -/
theorem all_formats_agree_partial (v : Variant) (ms : List Metric) (hn : ms.length < 2 ^ 32) (hw : ∀ m ∈ ms, m.WF) :
    (parse v (tlEncBatch ms)).delivered.map sem = ms.map sem ∧ (parse v (tlEncBatch ms)).err = none ∧
    (parse v (tlEncBatch ms)).fmt = .tl ∧ (parse v (mpEncBatch ms)).fmt = .msgpack ∧
    (∀ m ms', ms = m :: ms' → (parse v (pbEncBatch ms)).fmt = .pb) := by
  rw [parse_tl v ms hn hw]
  refine ⟨rfl, rfl, rfl, ?_, ?_⟩
  · exact (parse_mpEnc v ms hn hw).1
  · intro m ms' h
    subst h
    have := detect_pbEnc m ms'
    unfold parse
    rw [this]
    simp only []
    split <;> rfl

/-- non-vacuity: the witness batch satisfies every hypothesis of `all_formats_agree` -/
example : ∀ m ∈ [mFull, mBare], m.WF ∧ (pbEncMetric m).length < 2 ^ 32 := witness_wf

/-- The three binary encodings of the witness batch (every optional field present / none present) are detected as three
    different formats and deliver the same metrics (TL mask aside: proto3 cannot express "present but zero"): the instance
    `[mFull, mBare]` of `all_formats_agree`. -/
theorem formats_agree_witness :
    ((parse .fixed (tlEncBatch [mFull, mBare])).delivered.map sem = [sem mFull, sem mBare]) ∧
    ((parse .fixed (mpEncBatch [mFull, mBare])).delivered.map sem = [sem mFull, sem mBare]) ∧
    ((parse .fixed (pbEncBatch [mFull, mBare])).delivered.map sem = [sem mFull, sem mBare]) ∧
    (parse .fixed (mpEncBatch [mFull, mBare])).fmt = .msgpack ∧ (parse .fixed (pbEncBatch [mFull, mBare])).fmt = .pb ∧
    (parse .fixed (mpEncBatch [mFull, mBare])).err = none ∧ (parse .fixed (pbEncBatch [mFull, mBare])).err = none := by
  obtain ⟨t1, _, m1, m2, p1, p2, _, m3, p3⟩ := all_formats_agree .fixed [mFull, mBare] (by decide) witness_wf
  exact ⟨t1, m1, p1, m3, p3 nofun, m2, p2⟩

end SH.Props.C13
