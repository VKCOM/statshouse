/-
  C17 — Binlog-backed SQLite engine stays consistent with its binlog across crashes.

  "At every moment the database reflects exactly the application of a prefix of the binlog, and its stored binlog
   offset marks the end of that prefix; after a crash at any point and a restart, the state equals the application of
   every event in the durable binlog, so every write acknowledged in wait-for-commit mode is present. A write whose
   callback fails leaves neither a database change nor a binlog record, and readers never observe effects of events
   not yet in the binlog."

  Model: SH/Model/Engine.lean (one step = one critical section of internal/sqlite's Engine; SQLite = committed value
  `com` + value inside the open write transaction `tx`; the binlog = records with end offsets; `dur` = the prefix the
  binlog has announced through Commit, i.e. fsynced; `crash d torn` keeps `com` and the binlog records ending at or
  before `d` for any record boundary `d` with `dur ≤ d ≤ len` (`crashOK`); `torn` = the kill hit the binlog writer inside write(2), the file ends with a
  partial record: the CURRENT code then refuses to reopen the file and a master does not come up, field `down`,
  known finding restart-failed-torn-tail).

  A history is an arbitrary `List Op` (writes ok / failing, must-commit-now writes, binlog commits at any offset up to the written length,
  commit-timer ticks, reader deliveries, replica appends, clock knob, close, crash at any record boundary, ready),
  so every theorem below holds for every interleaving of critical sections, every crash point and both commit modes
  (`wait`) and roles (`repl`), which are parameters of the initial state.
-/
import SH.Lemmas.Engine
import SH.Lemmas.EngineChain
import SH.Lemmas.EngineWaitQ

namespace SH.Engine

/-- **db_is_prefix** — at every moment (after every history) both what readers / a crash see (`com`) and what the
    write transaction holds (`tx`) are exactly the events of the records ending at or before their stored offset (`evsUpTo`: a prefix, the binlog being
    sorted by end offset, `binlog_contiguous` + `chain_split`); the committed offset never passes the fsynced prefix of
    the binlog ("COMMIT only after the binlog commit"). -/
theorem db_is_prefix (w r : Bool) (l : List (Bool × Nat × Nat)) (hl : ∀ x ∈ l, 0 < x.2.2) (ops : List Op) :
    let s := run (fresh w r l) ops
    s.com.rows = evsUpTo (allRecs s) s.com.off ∧ s.tx.rows = evsUpTo (allRecs s) s.tx.off ∧
    s.com.off ≤ s.tx.off ∧ s.tx.off ≤ s.dbo ∧ s.com.off ≤ s.dur ∧ s.dur ≤ s.len := by
  intro s
  have h : Inv s := (reach w r l hl ops).1
  have h0 := h.1
  refine ⟨?_, ?_, h0.i6a, h0.i6b, h0.i7a, h0.dl⟩
  · rw [evsUpTo_allRecs h0 _ (Nat.le_trans h0.i6a h0.i6b)]; exact h0.i1
  · rw [evsUpTo_allRecs h0 _ h0.i6b, evsUpTo_eq_evIds _ _ h0.i3]; exact h0.i2

/-- **readers never ahead of the binlog** — every row a reader (RO connection = `com`) can see belongs to an event
    that lies inside the durable (fsynced, announced by Commit) prefix of the binlog. -/
theorem view_never_ahead_of_binlog (w r : Bool) (l : List (Bool × Nat × Nat)) (hl : ∀ x ∈ l, 0 < x.2.2) (ops : List Op) :
    let s := run (fresh w r l) ops
    ∀ id ∈ s.com.rows, ∃ rec ∈ allRecs s, rec.isEv = true ∧ rec.id = id ∧ rec.eo ≤ s.dur := by
  intro s id hid
  have h : Inv s := (reach w r l hl ops).1
  rw [h.1.i1, evsUpTo, mem_evIds] at hid
  obtain ⟨rec, hr, h1, h2⟩ := hid
  have := mem_upTo.1 hr
  exact ⟨rec, mem_allR.2 (Or.inl this.1), h1, h2, Nat.le_trans this.2 h.1.i7a⟩

def failing (s : St) : Op → Bool
  | .doOp _ _ _ .cbfail | .doOp _ _ _ .cbfail0 | .doOp _ _ _ .sqlfail | .doOp _ _ _ .appfail | .doOp _ _ _ .ctxfail => true
  | .doOp _ _ _ .ok => !canWrite s      -- write refused: replica, or the binlog rejects the offset
  | _ => false

theorem failed_do_state (s : St) (op : Op) (h : failing s op = true) : (step s op).1 = s := by
  cases op with
  | doOp id ln extra k =>
    show (doOp s id ln extra k).1 = s
    unfold doOp
    refine fst_ite (P := fun t => t = s) (fun _ => rfl) fun _ => ?_
    cases k with
    | ok =>
      show (doWrite s id ln extra).1 = s
      unfold doWrite
      exact fst_ite (P := fun t => t = s) (fun _ => rfl) fun hc => absurd h hc
    | read => exact absurd h Bool.false_ne_true
    | _ => rfl
  | _ => exact absurd h Bool.false_ne_true

/-- **failed_do_leaves_nothing** — a write whose callback fails (before or after its SQL ran), whose SQL fails, whose
    binlog append fails, or which is refused, leaves the state exactly as it was: no database change, no binlog
    record, no offset change, nobody parked. Hence it can be erased from any history without changing any later state. -/
theorem failed_do_leaves_nothing (s0 : St) (before after : List Op) (op : Op) (h : failing (run s0 before) op = true) :
    run s0 (before ++ op :: after) = run s0 (before ++ after) := by
  rw [run_append, run_append]
  show run (step (run s0 before) op).1 after = _
  rw [failed_do_state _ _ h]

/-- **acked_is_durable** — a write is acknowledged (its Do returns in wait-for-commit mode, or a must-commit-now write
    returns) only when its event lies inside the durable prefix of the binlog. -/
theorem acked_is_durable (w r : Bool) (l : List (Bool × Nat × Nat)) (hl : ∀ x ∈ l, 0 < x.2.2) (ops : List Op) :
    let s := run (fresh w r l) ops
    ∀ id ∈ s.ackedW, ∃ rec ∈ allRecs s, rec.isEv = true ∧ rec.id = id ∧ rec.eo ≤ s.dur :=
  fun id hid => (reach w r l hl ops).1.1.ack id hid

theorem acked_survives_crash (w r : Bool) (l : List (Bool × Nat × Nat)) (hl : ∀ x ∈ l, 0 < x.2.2) (ops : List Op) (d : Nat) :
    let s := run (fresh w r l) ops
    s.dur ≤ d → ∀ id ∈ s.ackedW, id ∈ evIds (allRecs (crashStep s d)) := by
  intro s hd
  obtain ⟨hi, hc, _⟩ := reach w r l hl ops
  rw [allRecs_crash hc d (Nat.le_trans hi.1.i7a hd)]
  exact acked_mem_evsUpTo hi hd

/-- **the engine comes up after every crash that left no partial record** — in a history whose crashes never tore the
    last binlog write, OpenEngine never fails (`down` stays false). -/
theorem engine_up_partial (w r : Bool) (l : List (Bool × Nat × Nat)) (ops : List Op) (hn : noTorn ops = true) :
    (run (fresh w r l) ops).down = false :=
  (run_ghost ops _).down hn rfl

theorem crash_keeps_durable_events (w r : Bool) (l : List (Bool × Nat × Nat)) (hl : ∀ x ∈ l, 0 < x.2.2) (ops : List Op) (d : Nat) :
    let s := run (fresh w r l) ops
    s.dur ≤ d → ∀ id, id ∈ evIds (allRecs (crashStep s d)) ↔ id ∈ evsUpTo (allRecs s) d := by
  intro s hd id
  obtain ⟨hi, hc, _⟩ := reach w r l hl ops
  rw [allRecs_crash hc d (Nat.le_trans hi.1.i7a hd)]
  exact Iff.rfl

/-- **restart_catches_up (partial)** — after any history whose crashes left no partial record after the last complete
    event (in particular: any such crash followed by a restart), the engine is up, and once the binlog reader has
    delivered every record and the apply queue has been flushed, the write transaction holds exactly the events of the
    whole binlog this process was given, in order, and its offset row covers all of them. (With a torn tail the
    current code does not restart at all: `torn_tail_restart_fails`.) Trace level; the closed form for one crash is
    `restart_catches_up`, which excludes a torn tail too (`Op.crash d false`); neither is derived from the other. -/
theorem restart_catches_up_partial (w r : Bool) (l : List (Bool × Nat × Nat)) (hl : ∀ x ∈ l, 0 < x.2.2) (ops : List Op)
    (hn : noTorn ops = true) :
    let s := run (fresh w r l) ops
    s.down = false ∧
    (s.rest = [] → flat s.aq = [] → s.tx.rows = evIds (allRecs s) ∧ ∀ rec ∈ allRecs s, rec.isEv = true → rec.eo ≤ s.tx.off) := by
  intro s
  refine ⟨engine_up_partial w r l ops hn, ?_⟩
  intro hrest hq
  have h : Inv s := (reach w r l hl ops).1
  have e : allRecs s = s.done := by simp [allRecs, hrest, hq]
  rw [e]
  exact ⟨h.1.i2, h.1.i3⟩

/-- **a torn binlog tail makes the restart fail (current code)** — write 1 is acknowledged in wait-for-commit mode, the
    process is killed inside its next binlog write (the last file ends with a partial record): OpenEngine fails
    (`open-error`, `down`), so the acknowledged write is not available although its event is durable in the binlog;
    the same kill without the partial record restarts and holds the write. This is why `engine_up_partial` carries the
    hypothesis `noTorn`. -/
theorem torn_tail_restart_fails :
    let s := run (fresh true false [(false, 0, 24)]) [.dSkip 24, .commit 24, .ready, .doOp 1 12 0 .ok, .commit 36, .doOp 2 12 0 .ok]
    s.ackedW = [1] ∧ s.down = false ∧
    (step s (.crash 36 true)).2 = "open-error" ∧ (step s (.crash 36 true)).1.down = true ∧
    (step s (.crash 36 true)).1.closed = true ∧
    (run s [.crash 36 false, .dSkip 24, .dApply 1, .commit 36, .ready]).tx = ⟨[1], 36⟩ ∧
    (run s [.crash 36 false, .dSkip 24, .dApply 1, .commit 36, .ready]).down = false := by decide +kernel

/-
  The statement below without `noTorn`, i.e. for EVERY history including crashes that tear the last binlog write, is FALSE
  for the current code (`torn_tail_restart_fails`, known finding restart-failed-torn-tail): a torn tail makes OpenEngine
  fail, so the acknowledged write is not available until the file is repaired by hand.
-/
/-- **acked writes are present after any crash + restart (partial: no torn binlog tail)** — take any history `h1`
    after which write `id` is acknowledged, continue it with any history `h2` (crashes at any point keeping any binlog
    length ≥ the fsynced one, restarts, re-deliveries, further writes…), none of whose crashes tore the last binlog
    write: the engine is never left down by a failed restart, and whenever the binlog reader has delivered everything
    and the apply queue is flushed (the engine has caught up), the row of `id` is in the database. -/
theorem acked_present_after_restart_partial (w r : Bool) (l : List (Bool × Nat × Nat)) (hl : ∀ x ∈ l, 0 < x.2.2)
    (h1 h2 : List Op) (id : Nat) (hack : id ∈ (run (fresh w r l) h1).ackedW) (hn : noTorn (h1 ++ h2) = true) :
    let s := run (fresh w r l) (h1 ++ h2)
    s.down = false ∧ (s.rest = [] → flat s.aq = [] → id ∈ s.tx.rows) := by
  intro s
  have hr := restart_catches_up_partial w r l hl (h1 ++ h2) hn
  refine ⟨hr.1, fun hrest hq => ?_⟩
  have hid : id ∈ s.ackedW := by
    show id ∈ (run (fresh w r l) (h1 ++ h2)).ackedW
    rw [run_append]
    exact (run_ghost h2 _).acked id hack
  obtain ⟨rec, hrec, e1, e2, _⟩ := (reach w r l hl (h1 ++ h2)).1.1.ack id hid
  rw [(hr.2 hrest hq).1]
  exact mem_evIds.2 ⟨rec, hrec, e1, e2⟩

/-- **the model's binlog is contiguous** — after every history the records the process knows (consumed, queued and not yet
    delivered) lie back to back from offset 0 to `len`, every one with positive length, and the committed offset, the
    offset row of the write transaction and the in-memory offset are record boundaries. This holds for the model's own
    writer (`writeOK`, replica `append`) and is kept by deliveries, queue flushes and crashes; that the REAL fsbinlog files
    are laid out like this is fsbinlog's contract (C18), checked here only by the correspondence runs. -/
theorem binlog_contiguous (w r : Bool) (l : List (Bool × Nat × Nat)) (hl : ∀ x ∈ l, 0 < x.2.2) (ops : List Op) :
    let s := run (fresh w r l) ops
    Chain 0 (allRecs s) ∧ total (allRecs s) = s.len ∧
    total (upTo s.com.off s.done) = s.com.off ∧ total (upTo s.tx.off s.done) = s.tx.off ∧ total s.done = s.dbo := by
  intro s
  have hc : Ch s := (reach w r l hl ops).2.1
  exact ⟨hc.all.1, hc.all.2, hc.c6, hc.c5, hc.c2⟩

theorem crash_rd {s : St} (hi : Inv s) (hc : Ch s) (d : Nat) (hok : crashOK s d = true) :
    (step s (Op.crash d false)).1 = crashStep s d ∧ Rd (upTo d (allRecs s)) d (crashStep s d) := by
  have hstep : (step s (Op.crash d false)).1 = crashStep s d := by simp [step, hok]
  have hg := step_good hi hc (Op.crash d false)
  rw [hstep] at hg
  exact ⟨hstep, hg.1, hg.2, rfl, ⟨rfl, rfl, rfl⟩, allRecs_crash hc d (Nat.le_trans hi.1.i7a (crashOK_iff.1 hok).1), rfl⟩

/-- what the restart theorems rest on: from ANY state with the loop invariant `Rd A L`, not only one a crash has produced -/
theorem catch_up_from_rd {A : List Rec} {L : Nat} {s1 : St} (h : Rd A L s1) :
    let s' := run s1 (replayOps s1.rest ++ [Op.commit L, Op.ready])
    s'.tx.rows = evIds A ∧ s'.tx.off = L ∧ s'.dbo = L ∧ s'.rest = [] ∧ s'.aq = [] ∧ s'.closed = false ∧ s'.down = false := by
  intro s'
  obtain ⟨hrd2, hrest2⟩ := replay_all s1.rest _ _ s1 h rfl
  have hfin := replay_finish hrd2 hrest2
  have hs' : s' = run (run s1 (replayOps s1.rest)) [Op.commit L, Op.ready] := run_append ..
  rw [← hs'] at hfin
  obtain ⟨⟨fi, fc, foff, ⟨fcl, _, fdown⟩, fall, flen⟩, frest, faq⟩ := hfin
  have hdbo : s'.dbo = L := by
    have := fc.c7
    rw [frest, faq] at this
    simp [rpos, flat_nil, total_nil] at this
    rw [this, flen]
  refine ⟨?_, by rw [foff, hdbo], hdbo, frest, faq, fcl, fdown⟩
  have e : allRecs s' = s'.done := by simp [allRecs, frest, faq, flat_nil]
  rw [fi.1.i2, ← e, fall]

/-- **restart_catches_up** — after ANY history kill the process at any moment, keeping the binlog up to any record
    boundary `d` between the fsynced offset and the written length (`crashOK`; with a partial record after it the current
    code does not restart, `torn_tail_restart_fails`), restart, let the reader re-deliver every record the database has
    not consumed (one per call), announce Commit(d) and become ready: the engine is up, nothing is left to deliver or
    queued, the write transaction holds exactly the events of the durable binlog (those ending at or before `d`, in
    binlog order), and the stored offset row and the in-memory offset both equal `d`. -/
theorem restart_catches_up (w r : Bool) (l : List (Bool × Nat × Nat)) (hl : ∀ x ∈ l, 0 < x.2.2) (ops : List Op) (d : Nat) :
    let s := run (fresh w r l) ops
    crashOK s d = true →
    let s' := run s (Op.crash d false :: (replayOps (keptRest s d) ++ [Op.commit d, Op.ready]))
    s'.tx.rows = evsUpTo (allRecs s) d ∧ s'.tx.off = d ∧ s'.dbo = d ∧
    s'.rest = [] ∧ s'.aq = [] ∧ s'.closed = false ∧ s'.down = false := by
  intro s hok s'
  obtain ⟨hi, hc, _⟩ := reach w r l hl ops
  obtain ⟨hstep, hrd⟩ := crash_rd hi hc d hok
  have hs' : s' = run (crashStep s d) (replayOps (crashStep s d).rest ++ [Op.commit d, Op.ready]) := by
    show run s (Op.crash d false :: (replayOps (keptRest s d) ++ [Op.commit d, Op.ready])) = _
    rw [run, hstep]
    rfl
  rw [hs']
  exact catch_up_from_rd hrd

theorem acked_present_after_restart (w r : Bool) (l : List (Bool × Nat × Nat)) (hl : ∀ x ∈ l, 0 < x.2.2) (ops : List Op) (d : Nat) :
    let s := run (fresh w r l) ops
    crashOK s d = true →
    ∀ id ∈ s.ackedW, id ∈ (run s (Op.crash d false :: (replayOps (keptRest s d) ++ [Op.commit d, Op.ready]))).tx.rows := by
  intro s hok
  rw [(restart_catches_up w r l hl ops d hok).1]
  exact acked_mem_evsUpTo (reach w r l hl ops).1 (crashOK_iff.1 hok).1

/-- **restart_catches_up, any chunking** — as `restart_catches_up`, but the reader may first hand the byte stream over in
    ANY way: `del` is an arbitrary sequence of payloads cut anywhere (`dApplyBuf m`: the engine consumes the complete
    leading events and answers NotEnoughData / UnknownMagic for what follows; also payloads with no complete event),
    whole-record payloads, skips of service records and Commits of any offset. The engine stays consistent (`Rd`: no
    record lost, duplicated or reordered), and once the remaining records are handed over and Commit(d)/ready arrive, the
    write transaction holds exactly the events of the durable binlog in order and both offsets equal `d`: the result
    does not depend on how the fsbinlog reader fills its buffer. -/
theorem restart_catches_up_any_chunking (w r : Bool) (l : List (Bool × Nat × Nat)) (hl : ∀ x ∈ l, 0 < x.2.2)
    (ops : List Op) (d : Nat) (del : List Op) (hdel : del.all isDelivery = true) :
    let s := run (fresh w r l) ops
    crashOK s d = true →
    let s1 := run s (Op.crash d false :: del)
    let s' := run s1 (replayOps s1.rest ++ [Op.commit d, Op.ready])
    Rd (upTo d (allRecs s)) d s1 ∧
    s'.tx.rows = evsUpTo (allRecs s) d ∧ s'.tx.off = d ∧ s'.dbo = d ∧
    s'.rest = [] ∧ s'.aq = [] ∧ s'.closed = false ∧ s'.down = false := by
  intro s hok s1 s'
  obtain ⟨hi, hc, _⟩ := reach w r l hl ops
  obtain ⟨hstep, hrd⟩ := crash_rd hi hc d hok
  have hs1 : s1 = run (crashStep s d) del := by
    show run s (Op.crash d false :: del) = _
    rw [run, hstep]
  have hrd1 : Rd (upTo d (allRecs s)) d s1 := by rw [hs1]; exact deliveries_rd del _ _ _ hrd hdel
  exact ⟨hrd1, catch_up_from_rd hrd1⟩

theorem chunk_makes_progress (s : St) (m : Nat) (r : Rec) (t : List Rec) (hrest : s.rest = r :: t)
    (hev : r.isEv = true) (hm : r.ln ≤ m) : 0 < fitCount m s.rest := by
  rw [hrest]
  simp [fitCount, hev, hm]

/-- every `commitStep` appends its offset to `ann` (`commitStep_fields`), also inside `doNow` and `closeStep`; here the `commit` op -/
theorem ann_records_commits (s : St) (k : Nat) (h : (s.closed || decide (s.len < k)) = false) :
    (step s (.commit k)).1.ann = s.ann ++ [k] := by
  rw [← (commitStep_fields s k).2.2.2.2]
  simp only [step, h, Bool.false_eq_true, if_false]

theorem com_off_announced (w r : Bool) (l : List (Bool × Nat × Nat)) (hl : ∀ x ∈ l, 0 < x.2.2) (ops : List Op) :
    let s := run (fresh w r l) ops
    s.com.off = 0 ∨ ∃ k ∈ s.ann, s.com.off ≤ k := by
  intro s
  have h : s.com.off ≤ s.dur := (reach w r l hl ops).1.1.i7a
  exact ((run_ghost ops _).durAnn (Or.inl rfl)).elim (fun e => Or.inl (Nat.le_zero.1 (e ▸ h))) fun e => Or.inr ⟨_, e, h⟩

/-- **what readers observe, at any point of any schedule** — split any history at any `view` op: `before` is everything
    up to the moment the View callback runs (any interleaving of writes, commits, crashes, restarts, other views), `after`
    whatever follows. The value the callback observes (`s.com`) is the application of the binlog prefix, as it is at that
    moment, that ends at the observed offset; that offset is 0 or at most an offset the binlog had ALREADY announced
    through Commit (fsync done) during `before` (`s.ann`); and the View changes nothing (it can be erased). -/
theorem readers_observe_announced_prefix (w r : Bool) (l : List (Bool × Nat × Nat)) (hl : ∀ x ∈ l, 0 < x.2.2)
    (before after : List Op) :
    let s := run (fresh w r l) before
    (step s .view).2 = fmtDB s.com ∧
    s.com.rows = evsUpTo (allRecs s) s.com.off ∧
    (s.com.off = 0 ∨ ∃ k ∈ s.ann, s.com.off ≤ k) ∧
    run (fresh w r l) (before ++ .view :: after) = run (fresh w r l) (before ++ after) := by
  intro s
  refine ⟨rfl, (db_is_prefix w r l hl before).1, com_off_announced w r l hl before, ?_⟩
  rw [run_append, run_append]
  rfl

/-- **released_only_when_covered** — after every history, whatever offset `k` (≥ the committed one) the binlog announces
    next: every call `binlogNotifyWaited(k)` releases is covered by `k` — a write's own end offset is ≤ k, and a READ
    (a Do that returned no event, parked behind the writes it found) has read the write transaction only up to an offset
    row ≤ k, so it returns no effect of an event that is not yet in the durable binlog. The calls that stay parked stay
    covered by the bookkeeping (`covered`). -/
theorem released_only_when_covered (w r : Bool) (l : List (Bool × Nat × Nat)) (hl : ∀ x ∈ l, 0 < x.2.2) (ops : List Op) (k : Nat) :
    let s := run (fresh w r l) ops
    s.ci ≤ k → (∀ wt ∈ released k s.waitQ, wt.off ≤ k) ∧ covered k (remaining k s.waitQ) := by
  intro s hk
  have hq : WQ s := (reach w r l hl ops).2.2
  obtain ⟨h1, h2, _⟩ := released_covered s.waitQ s.ci k hk hq.w1
  exact ⟨h1, h2⟩

theorem read_parks_with_seen_offset (s : St) (id : Nat) (hb : busy s = false) (hw : s.wait = true) (hq : s.waitQ ≠ []) :
    (step s (.doOp id 0 0 .read)).1.waitQ = s.waitQ ++ [⟨id, s.tx.off, true⟩] := by
  simp [step, doOp, hb, doRead, hw, List.isEmpty_eq_false_iff.2 hq, park]

theorem parked_calls_context (w r : Bool) (l : List (Bool × Nat × Nat)) (hl : ∀ x ∈ l, 0 < x.2.2) (ops : List Op) :
    let s := run (fresh w r l) ops
    s.waitQ ≠ [] → s.wait = true ∧ s.repl = false ∧ s.q = false ∧ s.rest = [] ∧ s.tx.off ≤ bound s.ci s.waitQ := by
  intro s hne
  have hq : WQ s := (reach w r l hl ops).2.2
  obtain ⟨a, b, c, d⟩ := hq.w2 hne
  exact ⟨wq_wait hq hne, c, a, b, d⟩

/-- **seeded change C17-r5-1 (release by compaction) breaks it** — WaitCommit master, writes 1 (ends at 36) and 2 (ends at 52)
    and then a read are parked; the read has seen the transaction up to 52. The binlog announces 36: the code releases
    write 1 only; the compacting variant also releases the read, which returns data of event 2 although the durable binlog
    ends at 36. -/
theorem release_by_compaction_uncovers_a_read :
    let s := run (fresh true false [(false, 0, 24)])
      [.dSkip 24, .commit 24, .ready, .doOp 1 12 0 .ok, .doOp 2 13 0 .ok, .doOp 3 0 0 .read]
    s.waitQ = [⟨1, 36, false⟩, ⟨2, 52, false⟩, ⟨3, 52, true⟩] ∧
    released 36 s.waitQ = [⟨1, 36, false⟩] ∧
    releasedCompacting 36 s.waitQ = [⟨1, 36, false⟩, ⟨3, 52, true⟩] ∧
    ¬ (∀ wt ∈ releasedCompacting 36 s.waitQ, wt.off ≤ 36) := by decide +kernel

/-- **the offset row is written strictly before the binlog append** — if the caller's context dies after the callback's
    own statements (so that the engine's `UPDATE __binlog_offset` fails), the write fails BEFORE anything reached the
    binlog: state unchanged, in particular the binlog (`allRecs`, `len`) and the in-memory offset. (General form: `failed_do_leaves_nothing` with `failing … .ctxfail`.) -/
theorem offset_update_precedes_append (s : St) (id ln extra : Nat) :
    (step s (.doOp id ln extra .ctxfail)).1 = s ∧ failing s (.doOp id ln extra .ctxfail) = true :=
  ⟨failed_do_state s _ rfl, rfl⟩

/-- **seeded change C17-r5-2 (append first, offset row afterwards) breaks it** — the failed write's record stays in the
    binlog: the binlog is longer than the engine's offset, so every later write is refused ("append get wrong offset"),
    and a restart replays the event of the write that had reported an error. -/
theorem append_before_offset_update_leaves_record :
    let s := run (fresh true false [(false, 0, 24)]) [.dSkip 24, .commit 24, .ready, .doOp 1 12 0 .ok, .commit 36, .tx]
    let t := doWriteAppendFirstCtxFail s 2 12 0          -- Do(2) returned an error
    t.tx = s.tx ∧ t.dbo = s.dbo ∧ evIds (allRecs t) = [1, 2] ∧ evIds (allRecs s) = [1] ∧
    canWrite s = true ∧ canWrite t = false ∧ (step t (.doOp 3 12 0 .ok)).2 = "err dbo=36 asap=1" ∧
    (run t (Op.crash 48 false :: (replayOps (keptRest t 48) ++ [Op.commit 48, Op.ready]))).tx = ⟨[1, 2], 48⟩ := by decide +kernel

/-- **a failing callback leaves nothing, whatever its statements look like** — the model has no statement shape: the
    engine opens the savepoint before the first modifying statement of any kind, so every failing write kind (callback
    error before or after its SQL, failing SQL, failing append, dead context) is the identity on the state. -/
theorem failed_callback_any_statement_shape (s : St) (id ln extra : Nat) (k : Kind) (hk : k ≠ .ok) (hr : k ≠ .read) :
    (step s (.doOp id ln extra k)).1 = s := by
  cases k with
  | ok => exact absurd rfl hk
  | read => exact absurd rfl hr
  | _ => exact failed_do_state s _ rfl

/-- **seeded change C17-r6-1 (savepoint only for plain writes) breaks it** — a callback whose first statement is a
    CTE-prefixed INSERT (or DDL) and which then fails keeps its row: the write transaction holds row 2 although no event 2
    is in the binlog and the offset row did not move, so the database is no longer the application of a binlog prefix; the
    next commit shows it to readers and it survives a restart. With a plain first statement nothing is left. -/
theorem savepoint_only_for_plain_writes_keeps_failed_write :
    let s := run (fresh true false [(false, 0, 24)]) [.dSkip 24, .commit 24, .ready, .doOp 1 12 0 .ok, .commit 36]
    let t := failedCallbackSavepointOnlyForPlainWrites s 2 false
    (step s (.doOp 2 12 0 .cbfail)).1 = s ∧ failedCallbackSavepointOnlyForPlainWrites s 2 true = s ∧
    t.tx = ⟨[1, 2], 36⟩ ∧ evsUpTo (allRecs t) t.tx.off = [1] ∧ t.tx.rows ≠ evsUpTo (allRecs t) t.tx.off ∧
    (step t .tx).1.com = ⟨[1, 2], 36⟩ := by decide +kernel

/-- **dbCommittedOffset ≤ binlogDurableOffset in every mode that has a binlog** — in both commit modes and roles, after
    every history, the offset stored in the COMMITted database (what a reader and a crash image see) is at most the offset
    the binlog has fsynced, and is covered by a Commit already delivered. SQLite is committed only by: the WaitCommit timer
    (after `binlogWaitDBSync`), a must-commit-now write in NoWaitCommit (parked until the binlog announces its offset),
    the delayed commit of `Engine.Commit` and Close — never by a timer in NoWaitCommit mode (`nowait_has_no_timer`). -/
theorem committed_offset_le_durable (w r : Bool) (l : List (Bool × Nat × Nat)) (hl : ∀ x ∈ l, 0 < x.2.2) (ops : List Op) :
    let s := run (fresh w r l) ops
    s.com.off ≤ s.dur ∧ s.dur ≤ s.len ∧ (s.com.off = 0 ∨ ∃ k ∈ s.ann, s.com.off ≤ k) := by
  intro s
  have hp := db_is_prefix w r l hl ops
  exact ⟨hp.2.2.2.2.1, hp.2.2.2.2.2, com_off_announced w r l hl ops⟩

/-- in NoWaitCommit mode a tick of the CommitEvery timer changes nothing (OpenEngine does not start txLoop there) -/
theorem nowait_has_no_timer (s : St) (h : s.wait = false) : (step s .tx).1 = s := by
  show (txStep s).1 = s
  unfold txStep
  refine fst_ite (P := fun t => t = s) (fun _ => rfl) fun _ =>
    fst_ite (P := fun t => t = s) (fun _ => rfl) fun hn => absurd ?_ hn
  rw [h, Bool.not_false, Bool.or_true]

/-- **a timer that commits without waiting breaks the invariant** (seeded change C17-r3-2, `txStepNoWaitTimer`) — a
    NoWaitCommit master, one write whose event is still only in the binlog's buffer (announced prefix 24, event ends at
    36): the real code's tick does nothing; the seeded timer COMMITs, readers and a crash image then hold event 1 with
    offset 36 > 24 = everything the binlog has made durable. -/
theorem timer_without_wait_breaks_invariant :
    let s := run (fresh false false [(false, 0, 24)]) [.dSkip 24, .commit 24, .ready, .doOp 1 12 0 .ok]
    s.dur = 24 ∧ s.tx = ⟨[1], 36⟩ ∧ (step s .tx).1.com = ⟨[], 0⟩ ∧
    (txStepNoWaitTimer s).1.com = ⟨[1], 36⟩ ∧ ¬ ((txStepNoWaitTimer s).1.com.off ≤ (txStepNoWaitTimer s).1.dur) := by decide +kernel

/-- **apply_skip_branch_unreachable** — `impl.apply` reads the offset row inside the write transaction (`tx.off`) and takes
    its skip branch only if that value is larger than the in-memory offset (`dbOffset > offset`). In every reachable
    state the offset row is at most the in-memory offset, so the guard is false whenever the binlog calls Apply: the
    branch is dead under the engine's own invariants. -/
theorem apply_skip_branch_unreachable (w r : Bool) (l : List (Bool × Nat × Nat)) (hl : ∀ x ∈ l, 0 < x.2.2) (ops : List Op) :
    let s := run (fresh w r l) ops
    ¬ (s.dbo < s.tx.off) := by
  intro s
  exact Nat.not_lt.2 (reach w r l hl ops).1.1.i6b

/-- **replica: db_is_prefix / readers never ahead, trace level** — an engine opened as a replica, after every history:
    it stays a replica and never appends to the binlog itself (a write callback that returns bytes is refused and changes
    nothing); what readers see and what the write transaction holds are the binlog prefixes their offset rows mark and
    the committed offset is inside the prefix the binlog announced through Commit; the queueing state is on
    only while a binlog commit is awaited (`q = true → ci < dbo`), and parked events are in neither database state (they end
    beyond both offset rows). -/
theorem replica_db_is_prefix (w : Bool) (l : List (Bool × Nat × Nat)) (hl : ∀ x ∈ l, 0 < x.2.2) (ops : List Op) :
    let s := run (fresh w true l) ops
    s.repl = true ∧ (∀ id ln extra, failing s (.doOp id ln extra .ok) = true) ∧
    s.com.rows = evsUpTo (allRecs s) s.com.off ∧ s.tx.rows = evsUpTo (allRecs s) s.tx.off ∧ s.com.off ≤ s.dur ∧
    (∀ id ∈ s.com.rows, ∃ rec ∈ allRecs s, rec.isEv = true ∧ rec.id = id ∧ rec.eo ≤ s.dur) ∧
    (s.q = true → s.ci < s.dbo) ∧ (∀ rec ∈ flat s.aq, s.tx.off < rec.eo ∧ s.com.off < rec.eo) := by
  intro s
  have hr : s.repl = true := (run_ghost ops _).repl
  have h : Inv s := (reach w true l hl ops).1
  have hp := db_is_prefix w true l hl ops
  refine ⟨hr, ?_, hp.1, hp.2.1, hp.2.2.2.2.1, view_never_ahead_of_binlog w true l hl ops, h.2, ?_⟩
  · intro id ln extra
    simp [failing, canWrite, hr]
  · intro rec hrec
    have hto : s.tx.off < rec.eo := Nat.lt_of_le_of_lt h.1.i6b (h.1.ql rec hrec).1
    exact ⟨hto, Nat.lt_of_le_of_lt h.1.i6a hto⟩

/-- one Apply while a commit is awaited (replica, or master re-reading after a restart: no hypothesis on `repl`): the payload
    is parked, neither database state changes -/
theorem replica_apply_is_parked (s : St) (n : Nat) (hb : badApply s n = false) (hr : readerOK s n = true)
    (hq : queueCond s = true) :
    (deliverApply s n).1.tx = s.tx ∧ (deliverApply s n).1.com = s.com ∧ (deliverApply s n).1.dbo = s.dbo ∧
    (deliverApply s n).1.q = true ∧ (deliverApply s n).1.aq = s.aq ++ [.body (s.rest.take n)] := by
  rw [deliverApply_eq hb hr, if_pos hq]
  exact ⟨rfl, rfl, rfl, rfl, rfl⟩

/-- `Commit(k)` while events are parked (replica or re-reading master): if `k` covers the engine offset the transaction is COMMITted exactly as
    it was before the parked events (so readers see the state at offset ≤ k), then all parked payloads and skips are
    applied in order; otherwise nothing is committed or applied and the queue stays. -/
theorem replica_commit_flushes (s : St) (hi : Inv s) (k : Nat) (hq : s.q = true) :
    (s.dbo ≤ k → (commitStep s k).com = s.tx ∧ (commitStep s k).q = false ∧ (commitStep s k).aq = [] ∧
        (commitStep s k).tx.rows = s.tx.rows ++ evIds (flat s.aq) ∧ (commitStep s k).done = s.done ++ flat s.aq ∧
        (commitStep s k).dbo = s.dbo + total (flat s.aq)) ∧
    (k < s.dbo → (commitStep s k).com = s.com ∧ (commitStep s k).tx = s.tx ∧ (commitStep s k).q = true ∧
        (commitStep s k).aq = s.aq) := by
  have hci := hi.2 hq
  constructor
  · intro hk
    refine commitStep_cases (P := fun t => t.com = s.tx ∧ t.q = false ∧ t.aq = [] ∧
        t.tx.rows = s.tx.rows ++ evIds (flat s.aq) ∧ t.done = s.done ++ flat s.aq ∧ t.dbo = s.dbo + total (flat s.aq)) s k
      (fun hlt => absurd (Nat.lt_trans hlt hci) (Nat.not_lt.2 hk)) (fun _ _ _ => ?_)
      (fun _ hf => absurd (hf ▸ hq) Bool.false_ne_true) (fun _ h => absurd (h hq) (Nat.not_lt.2 hk))
    rw [flushQ_eq]
    unfold notify announce
    exact ⟨rfl, rfl, rfl, congrArg _ (itemsIds_eq _ hi.1.qs), rfl, rfl⟩
  · intro hk
    refine commitStep_cases (P := fun t => t.com = s.com ∧ t.tx = s.tx ∧ t.q = true ∧ t.aq = s.aq) s k
      (fun _ => ?_) (fun _ _ hle => absurd hk (Nat.not_lt.2 hle))
      (fun _ hf => absurd (hf ▸ hq) Bool.false_ne_true) (fun _ _ => ?_)
    · unfold announce
      exact ⟨rfl, rfl, hq, rfl⟩
    · unfold notify announce
      exact ⟨rfl, rfl, hq, rfl⟩

/-- wait-for-commit master: LevStart skipped, two writes (the second followed by a 20-byte crc record), binlog commit
    of the first only, a commit timer tick that must park, the commit that releases it, a write whose callback fails, a third
    write, then a crash that keeps the binlog up to 72 (third write lost), replay (`.dApply 1` is refused, only the crc
    record is left: `.dSkip 20`), final commit, ready -/
def demoOps : List Op :=
  [.dSkip 24, .commit 24, .ready, .doOp 1 12 0 .ok, .doOp 2 13 20 .ok, .commit 36, .tx, .commit 72,
   .doOp 3 12 0 .cbfail, .doOp 4 12 0 .ok, .crash 72 false, .dApply 1, .dSkip 20, .commit 72, .ready]

example : noTorn demoOps = true := by decide +kernel
example : (run (fresh true false [(false, 0, 24)]) (demoOps.take 7)).ptx = true := by decide +kernel
example : (run (fresh true false [(false, 0, 24)]) (demoOps.take 7)).ackedW = [1] := by decide +kernel
example : (run (fresh true false [(false, 0, 24)]) (demoOps.take 8)).com = ⟨[1, 2], 52⟩ := by decide +kernel
example : (run (fresh true false [(false, 0, 24)]) (demoOps.take 8)).ackedW = [1, 2] := by decide +kernel
example : (run (fresh true false [(false, 0, 24)]) (demoOps.take 10)).tx = ⟨[1, 2, 4], 84⟩ := by decide +kernel
-- the crash image is the committed state; the replay starts at the stored offset 52 and re-delivers the crc record
example : (run (fresh true false [(false, 0, 24)]) (demoOps.take 11)).rest.map (·.eo) = [72] := by decide +kernel
example : let s := run (fresh true false [(false, 0, 24)]) demoOps
    s.rest = [] ∧ flat s.aq = [] ∧ s.tx = ⟨[1, 2], 72⟩ ∧ s.ackedW = [1, 2] ∧ s.dbo = 72 := by decide +kernel
example : failing (run (fresh true false [(false, 0, 24)]) (demoOps.take 8)) (.doOp 3 12 0 .cbfail) = true := by decide +kernel
-- a restart with a non-empty database queues the replayed payloads until the binlog's Commit, then flushes them
def demoOps2 : List Op :=
  [.dSkip 24, .commit 24, .ready, .doOp 1 12 0 .ok, .commit 36, .tx, .doOp 2 12 0 .ok, .crash 48 false, .dApply 1]
example : let s := run (fresh true false [(false, 0, 24)]) demoOps2
    s.q = true ∧ s.tx = ⟨[1], 36⟩ ∧ s.aqOff = 48 := by decide +kernel

-- closed-form restart on the demo history: crash keeping the binlog up to 72, canonical replay, Commit(72), ready
example : crashOK (run (fresh true false [(false, 0, 24)]) (demoOps.take 10)) 72 = true := by decide +kernel
example : crashOK (run (fresh true false [(false, 0, 24)]) (demoOps.take 10)) 70 = false := by decide +kernel   -- not a record boundary
example : replayOps (keptRest (run (fresh true false [(false, 0, 24)]) (demoOps.take 10)) 72) = [.dSkip 20] := by decide +kernel
-- a kill while the commit timer is parked behind the binlog (ptx) is a legal crash point
example : let s := run (fresh true false [(false, 0, 24)]) (demoOps.take 7)
    s.ptx = true ∧ crashOK s 36 = true ∧ crashOK s 72 = true := by decide +kernel
-- arbitrary chunking: three unsynced-to-SQLite writes, kill, then the reader cuts the stream at 20 bytes (event 1 + 8 bytes
-- of event 2), then hands over 8 bytes that hold no complete event, commits its position, then the rest in one payload
def chunkOps : List Op :=
  [.dSkip 24, .commit 24, .ready, .doOp 1 12 0 .ok, .doOp 2 13 0 .ok, .doOp 3 12 0 .ok, .commit 64]
def chunkDel : List Op := [.dSkip 24, .dApplyBuf 20, .dApplyBuf 8, .commit 36, .dApplyBuf 28]
example : chunkDel.all isDelivery = true := by decide +kernel
example : crashOK (run (fresh true false [(false, 0, 24)]) chunkOps) 64 = true := by decide +kernel
example : let s := run (fresh true false [(false, 0, 24)]) (chunkOps ++ [.crash 64 false, .dSkip 24, .dApplyBuf 20])
    s.q = true ∧ s.rest.map (·.id) = [2, 3] ∧ (step s (.dApplyBuf 8)).2 = "ret=36 e=short" := by decide +kernel
example : let s := run (fresh true false [(false, 0, 24)]) (chunkOps ++ Op.crash 64 false :: chunkDel)
    s.rest = [] ∧ s.tx = ⟨[1, 2, 3], 64⟩ ∧ s.com = ⟨[], 24⟩ := by decide +kernel
-- a reader looking at that moment sees the state committed at offset 24, announced by Commit(24) (and 36, 64)
example : let s := run (fresh true false [(false, 0, 24)]) (chunkOps ++ Op.crash 64 false :: chunkDel)
    (step s .view).2 = "-@24" ∧ s.ann = [24, 64, 36] := by decide +kernel

-- replica: payloads parked while a commit is awaited, flushed by the Commit that covers the engine offset
def replOps : List Op :=
  [.ready, .append [(true, 1, 12), (true, 2, 16)], .dApply 2, .append [(true, 3, 12)], .dApply 1, .append [(false, 0, 20)], .dSkip 20]
example : let s := run (fresh false true []) replOps
    s.q = true ∧ s.tx = ⟨[1, 2], 28⟩ ∧ s.com = ⟨[], 0⟩ ∧ s.dbo = 28 ∧ s.aqOff = 60 ∧ queueCond s = true := by decide +kernel
example : let s := run (fresh false true []) (replOps ++ [.commit 28])
    s.com = ⟨[1, 2], 28⟩ ∧ s.tx = ⟨[1, 2, 3], 60⟩ ∧ s.q = false ∧ s.dbo = 60 := by decide +kernel
example : let s := run (fresh false true []) (replOps ++ [.commit 20])
    s.com = ⟨[], 0⟩ ∧ s.tx = ⟨[1, 2], 28⟩ ∧ s.q = true := by decide +kernel
example : failing (run (fresh false true []) replOps) (.doOp 9 12 0 .ok) = true := by decide +kernel

/-! #### the other side of the torn-tail design space: accepting the longer file (seeded change C17-r2-2)

  If `initChunk` merely accepted a file that is longer than the reader's position, the writer (O_APPEND) would put every
  new record physically BEHIND the torn bytes while all logical offsets (buffer, Commit, `__binlog_offset`) continue
  from the reader's position. The engine would look healthy (logically it behaves like `stepFixed`), acknowledge the new
  writes after their fsync — and the next re-read of the file would parse the torn header, take the following bytes as
  its body and never deliver the acknowledged event. `reread` below is that physical re-read. -/

/-- bytes a torn header still wants are taken from the records written behind it; `none` = the stream ends inside a
    record (the rest is garbage / NotEnoughData: the reader stops there) -/
def swallow : Nat → List Rec → Option (List Rec)
  | 0, l => some l
  | _, [] => none
  | n + 1, r :: t => if r.ln ≤ n + 1 then swallow (n + 1 - r.ln) t else none

/-- physical re-read of a file = complete records `pre`, then a record `p` of which only `k < p.ln` bytes reached the
    disk, then the records `behind` appended after it -/
def reread (pre : List Rec) (p : Rec) (k : Nat) (behind : List Rec) : List Nat :=
  evIds pre ++ (match swallow (p.ln - k) behind with
    | some rest => evIds [p] ++ evIds rest
    | none => [])

/-- **why accepting the longer file is wrong** — write 1 is acknowledged and committed; write 2 (28 bytes) is cut by a
    kill after its 12-byte header; the engine restarts as if the tail were not there (`stepFixed` logic = accept),
    write 3 (16 bytes) is appended, fsynced, announced and ACKNOWLEDGED, and logically everything is fine
    (`tx = [1, 3]`). But the file now holds record 1, the 12 torn bytes of 2, then 3: re-reading it delivers event 1 and
    a phantom event 2 whose body is record 3 — the acknowledged write 3 is swallowed, a never-acknowledged write appears.
    Refusing to start (current code, known finding) or cutting the tail off before writing (unapplied patch) are the
    only sound choices; appending behind the tail is not. -/
theorem append_behind_torn_tail_loses_acked :
    let s0 := run (fresh true false [(false, 0, 24)])
      [.dSkip 24, .commit 24, .ready, .doOp 1 12 0 .ok, .commit 36, .tx, .doOp 2 28 0 .ok]
    let s1 := (stepFixed s0 (.crash 36 true)).1                    -- the kill tore write 2; the longer file is accepted
    let s2 := run s1 [.commit 36, .ready, .doOp 3 16 0 .ok, .commit 52]   -- write 3 appended behind the torn bytes
    s2.ackedW = [1, 3] ∧ s2.tx = ⟨[1, 3], 52⟩ ∧ s2.down = false ∧
    reread [⟨false, 0, 24, 24⟩, ⟨true, 1, 12, 36⟩] ⟨true, 2, 28, 64⟩ 12 [⟨true, 3, 16, 52⟩] = [1, 2] ∧
    3 ∉ reread [⟨false, 0, 24, 24⟩, ⟨true, 1, 12, 36⟩] ⟨true, 2, 28, 64⟩ 12 [⟨true, 3, 16, 52⟩] := by decide +kernel

/-- a replica opens no binlog writer: a torn tail does not stop it -/
example : (step (run (fresh false true []) [.ready]) (.crash 0 true)).1.down = false := by decide +kernel

/-- documented alternative, NOT the code (`stepFixed` = fixes/C17-binlog-torn-tail.diff, not applied): if the writer cut
    the torn tail off, a torn tail would make no difference to the restart -/
theorem torn_tail_cut_by_unapplied_patch (s : St) (d : Nat) : stepFixed s (.crash d true) = stepFixed s (.crash d false) := rfl

end SH.Engine
