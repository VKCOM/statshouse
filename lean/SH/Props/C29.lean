/-
  C29 — Query admission never exceeds capacity, loses wakeups or starves users.

  "For any schedule of acquisitions, cancellations, releases and capacity changes, the per-user round-robin
   queue never has more active queries than its capacity, grants a waiting query whenever capacity frees,
   never leaks capacity through cancellations, and never grants a user twice while another user that was
   already waiting is still waiting. The weighted semaphore never admits more than its size, serves waiters
   in FIFO order, and a cancelled waiter leaves it unchanged."

  Model: SH.Model.RRQueue (variant `.loop` is the code; `.eqOnce` is a comparison variant, not the code),
  SH.Model.Semaphore. The one-step theorems are for every op (one critical section) and every state that meets the
  hypotheses they name (`WF`, `WC`, `Inv`, the shape of the waiter list). A schedule is an arbitrary `List Op`; `no_leak`, `work_conserving` and `step_inv` are also lifted to every schedule (`no_leak_run`,
  `work_conserving_run`, `inv_run` and from it `no_overtake`); the semaphore model has no `run`, its theorems are one-step.

  Reading of "never more active than capacity": capacity can be lowered below the number of running queries
  by AdjustCapacity (they are not killed), so the claim is about *grants*: a critical section that grants
  anything ends with active ≤ capacity (`grants_below_capacity`), and inside the grant loop every single grant is
  made at active < capacity (the loop test of `drain`).
-/
import SH.Model.RRQueue
import SH.Model.Semaphore

namespace SH.C29
open SH.RRQueue

/-- stored users always have at least one parked query -/
def WF (s : Q) : Prop := ∀ u ∈ s.users, u.qs ≠ []

/-- work conservation: somebody waits only if the queue is full -/
def WC (s : Q) : Prop := s.users = [] ∨ s.cap ≤ s.active

theorem minUser_spec (us : List User) :
    match minUser us with
    | none => us = []
    | some m => m ∈ us ∧ ∀ u ∈ us, m.order ≤ u.order := by
  fun_induction minUser us with
  | case1 => rfl
  | case2 u us hn ih =>
    rw [hn] at ih
    subst ih
    exact ⟨List.mem_cons_self .., List.forall_mem_cons.mpr ⟨Nat.le_refl _, fun _ h => nomatch h⟩⟩
  | case3 u us m hm hc ih =>
    rw [hm] at ih
    exact ⟨List.mem_cons_self .., List.forall_mem_cons.mpr ⟨Nat.le_refl _, fun v hv => Nat.le_trans hc (ih.2 v hv)⟩⟩
  | case4 u us m hm hc ih =>
    rw [hm] at ih
    exact ⟨List.mem_cons_of_mem _ ih.1, List.forall_mem_cons.mpr ⟨Nat.le_of_not_le hc, ih.2⟩⟩

theorem minUser_none (us : List User) (h : minUser us = none) : us = [] := by
  have := minUser_spec us
  rwa [h] at this

theorem minUser_some (us : List User) (m : User) (h : minUser us = some m) : m ∈ us ∧ ∀ u ∈ us, m.order ≤ u.order := by
  have := minUser_spec us
  rwa [h] at this

/-- the waiting users after a grant to `u` whose remaining queries are `rest` -/
def usersAfter (s : Q) (u : User) (rest : List Nat) : List User :=
  if rest.isEmpty then removeUser u.token s.users
  else { u with order := s.order, qs := rest } :: removeUser u.token s.users

theorem grantOne_some {s s' : Q} {q : Nat} (h : grantOne s = some (s', q)) :
    ∃ u rest, minUser s.users = some u ∧ u.qs = q :: rest ∧
      s' = { noteGrant s u.token with active := s.active + 1, order := s.order + 1, users := usersAfter s u rest } := by
  unfold grantOne at h
  split at h
  · cases h
  · next u hu =>
    split at h
    · cases h
    · next q0 rest hq =>
      cases h
      exact ⟨u, rest, hu, hq, rfl⟩

theorem grantOne_none (s : Q) (hw : WF s) (h : grantOne s = none) : s.users = [] := by
  unfold grantOne at h
  split at h
  · exact minUser_none _ ‹_›
  · next u hu =>
    split at h
    · next hq => exact absurd hq (hw u (minUser_some _ _ hu).1)
    · cases h

theorem mem_removeUser {tok : Nat} {us : List User} {w : User} (h : w ∈ removeUser tok us) : w ∈ us ∧ w.token ≠ tok := by
  simpa [removeUser] using h

theorem mem_usersAfter {s : Q} {u w : User} {rest : List Nat} (h : w ∈ usersAfter s u rest) :
    (w = { u with order := s.order, qs := rest } ∧ rest ≠ []) ∨ (w ∈ s.users ∧ w.token ≠ u.token) := by
  unfold usersAfter at h
  split at h
  · exact .inr (mem_removeUser h)
  · next hne =>
    rcases List.mem_cons.mp h with h | h
    · exact .inl ⟨h, by simpa using hne⟩
    · exact .inr (mem_removeUser h)

theorem grantOne_WF {s s' : Q} {q : Nat} (hw : WF s) (h : grantOne s = some (s', q)) : WF s' := by
  obtain ⟨u, rest, _, _, rfl⟩ := grantOne_some h
  intro w hv
  rcases mem_usersAfter hv with ⟨rfl, hr⟩ | ⟨hin, _⟩
  · exact hr
  · exact hw w hin

theorem grantOne_active_cap {s s' : Q} {q : Nat} (h : grantOne s = some (s', q)) : s'.active = s.active + 1 ∧ s'.cap = s.cap := by
  obtain ⟨u, rest, _, _, rfl⟩ := grantOne_some h
  exact ⟨rfl, rfl⟩

/-! `drain_count`, `drain_wc` and (further down) `drain_inv` follow the recursion of `drain`. Its cases, in the order of
    `fun_induction`: fuel used up; loop test passes, no user stored; loop test passes (`s.active < s.cap`), one query granted,
    loop goes on from `s'`; loop test fails. -/

theorem drain_count (fuel : Nat) (s : Q) :
    (drain fuel s).1.active = s.active + (drain fuel s).2.length ∧
    (drain fuel s).1.cap = s.cap ∧
    ((drain fuel s).2 ≠ [] → (drain fuel s).1.active ≤ s.cap) := by
  fun_induction drain fuel s with
  | case3 n s hlt s' q hg s'' gs h ih =>
    -- one grant at `active < cap`: if it was the last one, `active + 1 ≤ cap`
    obtain ⟨ha, hc⟩ := grantOne_active_cap hg
    rw [h] at ih
    obtain ⟨i1, i2, i3⟩ : s''.active = s'.active + gs.length ∧ s''.cap = s'.cap ∧ (gs ≠ [] → s''.active ≤ s'.cap) := ih
    refine ⟨?_, i2.trans hc, fun _ => ?_⟩
    · simp only [List.length_cons]
      omega
    · by_cases hnil : gs = []
      · subst hnil
        simp only [List.length_nil] at i1 ⊢
        omega
      · exact hc ▸ i3 hnil
  | _ => exact ⟨(Int.add_zero _).symm, rfl, fun h => absurd rfl h⟩

theorem sum_filter_add_le {α : Type} (p : α → Bool) (f : α → Nat) (us : List α) (u : α) (hu : u ∈ us) (hp : p u = false) :
    ((us.filter p).map f).sum + f u ≤ (us.map f).sum := by
  -- `us` splits into what `p` keeps and the rest, and `u` is in the rest
  have hsplit := ((List.filter_append_perm p us).map f).sum_nat
  have hmem : f u ∈ (us.filter (fun x => !p x)).map f :=
    List.mem_map_of_mem (List.mem_filter.mpr ⟨hu, by simp [hp]⟩)
  rw [List.map_append, List.sum_append_nat, (List.perm_cons_erase hmem).sum_nat, List.sum_cons] at hsplit
  omega

theorem grantOne_count {s s' : Q} {q : Nat} (h : grantOne s = some (s', q)) :
    waitingCount s' + 1 ≤ waitingCount s := by
  obtain ⟨u, rest, hu, hq, rfl⟩ := grantOne_some h
  have := sum_filter_add_le (fun v => decide (v.token ≠ u.token)) (·.qs.length) s.users u (minUser_some _ _ hu).1 (by simp)
  rw [hq, List.length_cons] at this
  simp only [waitingCount, usersAfter, removeUser]
  split
  · omega
  · simp only [List.map_cons, List.sum_cons]
    omega

theorem count_zero_users (s : Q) (hw : WF s) (h : waitingCount s = 0) : s.users = [] := by
  cases hu : s.users with
  | nil => rfl
  | cons a us =>
    have := hw a (by simp [hu])
    simp [waitingCount, hu] at h
    exact absurd h.1 this

theorem drain_wc (fuel : Nat) (s : Q) (hw : WF s) (hc : waitingCount s ≤ fuel) :
    WC (drain fuel s).1 ∧ WF (drain fuel s).1 := by
  fun_induction drain fuel s with
  | case1 s => exact ⟨.inl (count_zero_users s hw (by omega)), hw⟩
  | case2 n s _ hg => exact ⟨.inl (grantOne_none s hw hg), hw⟩
  | case3 n s _ s' q hg s'' gs h ih =>
    -- a grant parks one query fewer, so the fuel lasts
    have := grantOne_count hg
    rw [h] at ih
    exact ih (grantOne_WF hw hg) (by omega)
  | case4 n s hlt => exact ⟨.inr (by simpa using hlt), hw⟩

theorem mem_pushQuery (tok q : Nat) (us : List User) (u' : User) (h : u' ∈ pushQuery tok q us) :
    ∃ u ∈ us, u'.token = u.token ∧ u'.order = u.order ∧ (u.qs ≠ [] → u'.qs ≠ []) := by
  simp only [pushQuery, List.mem_map] at h
  obtain ⟨u, hu, rfl⟩ := h
  refine ⟨u, hu, ?_⟩
  split <;> simp

theorem mem_dropQuery (q : Nat) (us : List User) (u' : User) (h : u' ∈ dropQuery q us) :
    (∃ u ∈ us, u'.token = u.token ∧ u'.order = u.order) ∧ u'.qs ≠ [] := by
  simp only [dropQuery, List.mem_filter, List.mem_map, Bool.not_eq_eq_eq_not, Bool.not_true,
    List.isEmpty_eq_false_iff] at h
  obtain ⟨⟨u, hu, rfl⟩, hne⟩ := h
  exact ⟨⟨u, hu, rfl, rfl⟩, hne⟩

/-- the state an op that ends in the grant loop hands to the loop -/
inductive Pre (s : Q) : Op → Q → Prop
  | push (tok q : Nat) : hasUser tok s.users = true → Pre s (.acquire tok q) { s with users := pushQuery tok q s.users }
  | park (tok q : Nat) : hasUser tok s.users = false → ¬ s.active < s.cap →
      Pre s (.acquire tok q) { s with order := s.order + 1, users := { token := tok, order := s.order, qs := [q] } :: s.users,
                                      passed := s.passed.filter (fun p => p.1 != tok) }
  | release : Pre s .release { s with active := s.active - 1 }
  | adjust (c : Int) : Pre s (.adjust c) { s with cap := c }

theorem step_loop_cases (s : Q) (op : Op) :
    (∃ s0, Pre s op s0 ∧ step .loop s op = next .loop s0) ∨
    (∃ tok q, op = .acquire tok q ∧ s.active < s.cap ∧
      step .loop s op = ({ noteGrant { s with order := s.order + 1 } tok with active := s.active + 1 }, [q])) ∨
    (∃ q, op = .cancel q ∧ step .loop s op = ({ s with users := dropQuery q s.users }, [])) := by
  cases op with
  | acquire tok q =>
    by_cases hu : hasUser tok s.users = true
    · exact .inl ⟨_, .push tok q hu, by simp [step, hu]⟩
    · by_cases hlt : s.active < s.cap
      · exact .inr (.inl ⟨tok, q, rfl, hlt, by simp [step, hu, hlt]⟩)
      · exact .inl ⟨_, .park tok q (Bool.eq_false_iff.mpr hu) hlt, by simp [step, hu, hlt]⟩
  | cancel q => exact .inr (.inr ⟨q, rfl, rfl⟩)
  | release => exact .inl ⟨_, .release, rfl⟩
  | adjust c => exact .inl ⟨_, .adjust c, rfl⟩

theorem pre_active {s s0 : Q} {op : Op} (h : Pre s op s0) : s0.active = s.active - (if op = .release then 1 else 0) := by
  cases h <;> simp

theorem pre_WF {s s0 : Q} {op : Op} (h : Pre s op s0) (hw : WF s) : WF s0 := by
  cases h with
  | push tok q _ =>
    intro u hu
    obtain ⟨v, hv, _, _, hq⟩ := mem_pushQuery tok q s.users u hu
    exact hq (hw v hv)
  | park tok q _ _ => exact List.forall_mem_cons.mpr ⟨List.cons_ne_nil q [], hw⟩
  | release => exact hw
  | adjust c => exact hw

/-- C29 (queue, 1): a critical section that grants anything ends with `active ≤ cap`. (With `no_leak`,
    `active = before + #grants − #releases`, so no grant of it was made at or above capacity.) -/
theorem grants_below_capacity (s : Q) (op : Op) :
    (step .loop s op).2 ≠ [] → (step .loop s op).1.active ≤ (step .loop s op).1.cap := by
  intro hg
  rcases step_loop_cases s op with ⟨s0, _, h⟩ | ⟨tok, q, _, hlt, h⟩ | ⟨q, _, h⟩
  · rw [h] at hg ⊢
    obtain ⟨_, i2, i3⟩ := drain_count (waitingCount s0) s0
    exact i2 ▸ i3 hg
  · rw [h]
    exact Int.add_one_le_of_lt hlt
  · rw [h] at hg
    exact absurd rfl hg

/-- C29 (queue, 3): capacity is never leaked — `active` moves by exactly (#grants − #releases), whatever the
    op, in particular a cancellation changes nothing. -/
theorem no_leak (s : Q) (op : Op) :
    (step .loop s op).1.active = s.active + (step .loop s op).2.length - (if op = .release then 1 else 0) := by
  rcases step_loop_cases s op with ⟨s0, hp, h⟩ | ⟨tok, q, rfl, _, h⟩ | ⟨q, rfl, h⟩
  · have i1 : (next .loop s0).1.active = s0.active + (next .loop s0).2.length := (drain_count _ s0).1
    rw [h, i1, pre_active hp]
    omega
  · rw [h]
    simp
  · rw [h]
    simp

theorem no_leak_run : ∀ (ops : List Op) (s : Q),
    (run .loop s ops).1.active =
      s.active + ((run .loop s ops).2.map List.length).sum - (ops.filter (· = Op.release)).length := by
  intro ops
  induction ops with
  | nil =>
    intro s
    simp [run]
  | cons op ops ih =>
    intro s
    simp only [run, List.map_cons, List.sum_cons, List.filter_cons, decide_eq_true_eq]
    rw [ih (step .loop s op).1, no_leak s op]
    split
    · rw [List.length_cons]
      omega
    · omega

/-- C29 (queue, 2): work conservation. After every critical section either nobody is parked or the queue is
    full (cap ≤ active): a parked query is granted whenever Release or AdjustCapacity frees capacity (a cancellation
    frees none, it only removes a waiter). Well-formedness is preserved. -/
theorem work_conserving (s : Q) (op : Op) (hw : WF s) (hc : WC s) :
    WC (step .loop s op).1 ∧ WF (step .loop s op).1 := by
  rcases step_loop_cases s op with ⟨s0, hp, h⟩ | ⟨tok, q, _, hlt, h⟩ | ⟨q, _, h⟩
  · rw [h]
    exact drain_wc _ s0 (pre_WF hp hw) (Nat.le_refl _)
  · rw [h]
    exact ⟨.inl (hc.resolve_right (by omega)), hw⟩
  · rw [h]
    refine ⟨hc.imp (fun h => by simp [h, dropQuery]) id, fun u hu => (mem_dropQuery q s.users u hu).2⟩

theorem run_preserves {P : Q → Prop} (hstep : ∀ s op, P s → P (step .loop s op).1) :
    ∀ (ops : List Op) (s : Q), P s → P (run .loop s ops).1
  | [], _, h => h
  | op :: ops, s, h => run_preserves hstep ops _ (hstep s op h)

theorem work_conserving_run : ∀ (ops : List Op) (s : Q), WF s → WC s →
    WC (run .loop s ops).1 ∧ WF (run .loop s ops).1 :=
  fun ops s hw hc => run_preserves (P := fun s => WC s ∧ WF s) (fun s op h => work_conserving s op h.2 h.1) ops s ⟨hc, hw⟩

example (c : Int) : WF (init c) ∧ WC (init c) := ⟨fun _ h => (nomatch h), Or.inl rfl⟩

/-- ghost invariant: stamps of waiting users are below the global counter, and whenever `(v,t) ∈ passed`
    (t was granted while v waits) every waiting user with token t carries a later stamp than v -/
structure Inv (s : Q) : Prop where
  stamp_lt_counter : ∀ u ∈ s.users, u.order < s.order
  passed_later : ∀ v ∈ s.users, ∀ t, (v.token, t) ∈ s.passed → ∀ w ∈ s.users, w.token = t → v.order < w.order
  not_bad : s.bad = false

theorem Inv.of_users {s : Q} {us : List User} (hi : Inv s)
    (hu : ∀ u' ∈ us, ∃ u ∈ s.users, u'.token = u.token ∧ u'.order = u.order) : Inv { s with users := us } := by
  refine ⟨?_, ?_, hi.not_bad⟩
  · intro w hw'
    obtain ⟨u, hu', _, ho'⟩ := hu w hw'
    exact ho' ▸ hi.stamp_lt_counter u hu'
  · intro v hv t hp' w hw' hwt
    obtain ⟨v0, hv0, hvt, hvo⟩ := hu v hv
    obtain ⟨w0, hw0, hwt0, hwo⟩ := hu w hw'
    rw [hvt] at hp'
    have := hi.passed_later v0 hv0 t hp' w0 hw0 (hwt0.symm.trans hwt)
    omega

/-- the preservation step shared by a grant to `t` and by the first parked query of `t`: afterwards a stored user with
    token `t` carries the old counter as stamp, the counter has moved on, no pair `(t, _)` is left in `passed` and the
    only new pairs are `(_, t)` -/
theorem Inv.restamp {s s' : Q} {t : Nat} (hi : Inv s) (ho : s'.order = s.order + 1) (hb : s'.bad = false)
    (hu : ∀ w ∈ s'.users, (w.token = t ∧ w.order = s.order) ∨ (w ∈ s.users ∧ w.token ≠ t))
    (hp : ∀ a b, (a, b) ∈ s'.passed → a ≠ t ∧ ((a, b) ∈ s.passed ∨ b = t)) : Inv s' := by
  refine ⟨?_, ?_, hb⟩
  · intro w hw
    rw [ho]
    rcases hu w hw with ⟨_, ho⟩ | ⟨hin, _⟩
    · exact ho ▸ Nat.lt_succ_self _
    · exact Nat.lt_succ_of_lt (hi.stamp_lt_counter w hin)
  · intro v hv b hp' w hw hwt
    obtain ⟨hne, hold⟩ := hp _ _ hp'
    rcases hu v hv with ⟨hvt, _⟩ | ⟨hvin, _⟩
    · exact absurd hvt hne
    · rcases hu w hw with ⟨_, hwo⟩ | ⟨hwin, hwne⟩
      · exact hwo ▸ hi.stamp_lt_counter v hvin
      · exact hi.passed_later v hvin b (hold.resolve_right fun h => hwne (hwt.trans h)) w hwin hwt

theorem Inv.of_nil {s : Q} (hu : s.users = []) (hb : s.bad = false) : Inv s := by
  have hno : ∀ u, u ∈ s.users → False := by
    rw [hu]
    exact fun u h => nomatch h
  exact ⟨fun u h => (hno u h).elim, fun v h => (hno v h).elim, hb⟩

theorem mem_passedAfter {s : Q} {tok a t : Nat} (h : (a, t) ∈ passedAfter s tok) :
    a ≠ tok ∧ ((a, t) ∈ s.passed ∨ t = tok) := by
  simp only [passedAfter, List.mem_append, List.mem_filter, List.mem_map, bne_iff_ne, ne_eq, Prod.mk.injEq] at h
  rcases h with ⟨h1, h2⟩ | ⟨x, ⟨_, hx⟩, rfl, rfl⟩
  · exact ⟨h2, .inl h1⟩
  · exact ⟨hx, .inr rfl⟩

/-- the loop grants to the user `u` with the least stamp; had `u` passed some `v` that still waits, `passed_later` would
    give `v` a smaller one -/
theorem overtakes_false (s : Q) (u : User) (hi : Inv s) (hm : minUser s.users = some u) :
    overtakes s u.token = false := by
  obtain ⟨hmem, hle⟩ := minUser_some _ _ hm
  simp only [overtakes, Bool.eq_false_iff, ne_eq, List.any_eq_true, not_exists, not_and]
  intro v hv hc
  simp only [Bool.and_eq_true, bne_iff_ne, ne_eq, List.contains_iff_mem] at hc
  have h1 := hi.passed_later v hv u.token hc.2 u hmem rfl
  have h2 := hle v hv
  omega

theorem grantOne_inv {s s' : Q} {q : Nat} (hi : Inv s) (h : grantOne s = some (s', q)) : Inv s' := by
  obtain ⟨u, rest, hu, _, rfl⟩ := grantOne_some h
  exact hi.restamp rfl (by simp [noteGrant, overtakes_false s u hi hu, hi.not_bad])
    (fun w hw => (mem_usersAfter hw).imp_left fun ⟨h, _⟩ => h ▸ ⟨rfl, rfl⟩) (fun _ _ => mem_passedAfter)

theorem drain_inv (fuel : Nat) (s : Q) (hi : Inv s) : Inv (drain fuel s).1 := by
  fun_induction drain fuel s with
  | case3 n s _ s' q hg s'' gs h ih =>
    rw [h] at ih
    exact ih (grantOne_inv hi hg)
  | _ => exact hi

theorem hasUser_false {tok : Nat} {us : List User} (h : hasUser tok us = false) : ∀ u ∈ us, u.token ≠ tok := by
  intro u hu he
  exact absurd (List.any_eq_true.mpr ⟨u, hu, decide_eq_true he⟩) (Bool.eq_false_iff.mp h)

theorem pre_inv {s s0 : Q} {op : Op} (h : Pre s op s0) (hi : Inv s) : Inv s0 := by
  cases h with
  | push tok q _ =>
    refine hi.of_users fun u' hu' => ?_
    obtain ⟨u, hu, ht, ho, _⟩ := mem_pushQuery tok q s.users u' hu'
    exact ⟨u, hu, ht, ho⟩
  | park tok q hno _ =>
    -- pairs `(tok, _)` can be left in `passed` although `tok` is not stored (`cancel` drops a user without touching
    -- `passed`): the park branch of `step` filters them out
    refine hi.restamp (t := tok) rfl hi.not_bad (fun w hw => ?_) (fun a b hp => ?_)
    · rcases List.mem_cons.mp hw with rfl | h
      · exact .inl ⟨rfl, rfl⟩
      · exact .inr ⟨h, hasUser_false hno w h⟩
    · simp only [List.mem_filter, bne_iff_ne, ne_eq] at hp
      exact ⟨hp.2, .inl hp.1⟩
  | release => exact ⟨hi.stamp_lt_counter, hi.passed_later, hi.not_bad⟩
  | adjust c => exact ⟨hi.stamp_lt_counter, hi.passed_later, hi.not_bad⟩

theorem step_inv (s : Q) (op : Op) (hi : Inv s) (hc : WC s) : Inv (step .loop s op).1 := by
  rcases step_loop_cases s op with ⟨s0, hp, h⟩ | ⟨tok, q, _, hlt, h⟩ | ⟨q, _, h⟩
  · rw [h]
    exact drain_inv _ s0 (pre_inv hp hi)
  · -- fast path: nobody can be waiting (work conservation)
    have hempty : s.users = [] := hc.resolve_right (by omega)
    rw [h]
    exact .of_nil hempty (by simp [noteGrant, overtakes, hempty, hi.not_bad])
  · rw [h]
    exact hi.of_users fun u hu => (mem_dropQuery q s.users u hu).1

theorem inv_run (ops : List Op) (s : Q) (hi : Inv s) (hc : WC s) (hw : WF s) : Inv (run .loop s ops).1 :=
  (run_preserves (P := fun s => Inv s ∧ WC s ∧ WF s)
    (fun s op h => ⟨step_inv s op h.1 h.2.1, work_conserving s op h.2.2 h.2.1⟩) ops s ⟨hi, hc, hw⟩).1

/-- C29 (queue, 4): no overtaking, proved of the ghost monitor `Q.passed`, `Q.bad` that `noteGrant` updates at every grant
    (in `grantOne` and on the fast path of `step`): `(v, u) ∈ passed` when `u` was granted while `v` waited and `v` has not
    been granted since; a grant to `u` raises `bad` if such a `v` still waits. From the empty queue `bad` stays false on
    every schedule. No theorem reads `bad` back over the grant trace: that it means "no user is granted twice while
    another user that was already waiting is still waiting" rests on reading `noteGrant`. -/
theorem no_overtake (c : Int) (ops : List Op) : (run .loop (init c) ops).1.bad = false :=
  (inv_run ops (init c) (.of_nil rfl rfl) (.inl rfl) (fun _ h => nomatch h)).not_bad

/-- the ghost monitor is not vacuous: the variant `.eqOnce` raises it (capacity raised, nobody woken, then a fresh
    user takes the fast path past one parked user and is granted again while it still waits) -/
example :
    (run .eqOnce (init 1) [.acquire 1 1, .acquire 2 2, .adjust 3, .acquire 3 3, .acquire 3 4]).1.bad = true := by decide +kernel


/-! `Variant.eqOnce` (test `active == max`, one grant, AdjustCapacity wakes nobody) violates (1) and "grants a waiting
    query whenever capacity frees": -/

/-- three running, capacity lowered to 1, one release: `.eqOnce` grants again at active = 2 ≥ cap = 1 -/
example :
    let ops := [Op.acquire 1 1, .acquire 1 2, .acquire 1 3, .acquire 2 4, .adjust 1, .release]
    (run .eqOnce (init 3) ops).1.active = 3 ∧ (run .eqOnce (init 3) ops).1.cap = 1 := by decide +kernel

/-- the same schedule on `.loop` stays at 2 running and grants nothing -/
example :
    let ops := [Op.acquire 1 1, .acquire 1 2, .acquire 1 3, .acquire 2 4, .adjust 1, .release]
    (run .loop (init 3) ops).1.active = 2 ∧ (run .loop (init 3) ops).2.getLast? = some [] := by decide +kernel

/-- capacity raised from 1 to 3 with two waiters: `.eqOnce` wakes nobody -/
example :
    let ops := [Op.acquire 1 1, .acquire 1 2, .acquire 2 3, .adjust 3]
    (run .eqOnce (init 1) ops).1.active = 1 ∧ waitingCount (run .eqOnce (init 1) ops).1 = 2 := by decide +kernel

example :
    let ops := [Op.acquire 1 1, .acquire 1 2, .acquire 2 3, .adjust 3]
    (run .loop (init 1) ops).1.active = 3 ∧ waitingCount (run .loop (init 1) ops).1 = 0 := by decide +kernel

-- `SH.RRQueue` stays open: `step`, `Op`, `init` are ambiguous below, hence `Sem.step`, `Sem.Op`
open SH.Sem

/-- `notifyWaiters` admits a prefix of the FIFO list and stops at the first waiter that does not fit -/
theorem notify_spec : ∀ (ws : List (Nat × Int)) (size cur : Int),
    ∃ pre : List (Nat × Int),
      ws = pre ++ (notify ws size cur).1 ∧
      (notify ws size cur).2.2 = pre.map (·.1) ∧
      (notify ws size cur).2.1 = cur + (pre.map (·.2)).sum ∧
      (pre ≠ [] → (notify ws size cur).2.1 ≤ size) ∧
      (∀ w rest, (notify ws size cur).1 = w :: rest → size - (notify ws size cur).2.1 < w.2)
  | [], size, cur => ⟨[], rfl, rfl, (Int.add_zero _).symm, fun h => absurd rfl h, fun _ _ h => nomatch h⟩
  | (id, n) :: ws, size, cur => by
    rw [notify]
    split
    · next hlt =>
      refine ⟨[], rfl, rfl, (Int.add_zero _).symm, fun h => absurd rfl h, ?_⟩
      intro w rest h
      cases h
      exact hlt
    · next hge =>
      obtain ⟨pre, h1, h2, h3, h4, h5⟩ := notify_spec ws size (cur + n)
      refine ⟨(id, n) :: pre, congrArg _ h1, congrArg _ h2, ?_, fun _ => ?_, h5⟩
      · rw [h3, List.map_cons, List.sum_cons, Int.add_assoc]
      · cases pre with
        | nil =>
          rw [h3]
          simp only [List.map_nil, List.sum_nil]
          omega
        | cons a b => exact h4 (List.cons_ne_nil _ _)

theorem doNotify_spec (s0 : S) :
    ∃ pre : List (Nat × Int),
      s0.waiters = pre ++ (doNotify s0).1.waiters ∧ (doNotify s0).2 = pre.map (·.1) ∧
      (doNotify s0).1.cur = s0.cur + (pre.map (·.2)).sum ∧ (doNotify s0).1.size = s0.size ∧
      (pre ≠ [] → (doNotify s0).1.cur ≤ s0.size) := by
  obtain ⟨pre, h1, h2, h3, h4, _⟩ := notify_spec s0.waiters s0.size s0.cur
  exact ⟨pre, h1, h2, h3, rfl, h4⟩

theorem doNotify_le (s0 : S) (h : (doNotify s0).2 ≠ []) : (doNotify s0).1.cur ≤ (doNotify s0).1.size := by
  obtain ⟨pre, _, e2, _, e4, e5⟩ := doNotify_spec s0
  rw [e4]
  exact e5 fun hp => h (e2.trans (hp ▸ rfl))

/-- C29 (semaphore, 1): whenever a step admits anybody, it ends with cur ≤ size (so each admission fitted).
    `force` admits nobody, so `hop` excludes no case. -/
theorem never_over_size (s : S) (op : Sem.Op) (hop : ∀ n, op ≠ .force n) :
    (Sem.step s op).2.1 ≠ [] → (Sem.step s op).1.cur ≤ (Sem.step s op).1.size := by
  -- admission happens on the fast path, where `fits` says `n ≤ size - cur`, or in `doNotify` (`doNotify_le`);
  -- every other branch returns the grant list `[]`, against `hg`
  intro hg
  cases op with
  | acquire id n =>
    by_cases h : fits s n = true
    · simp only [Sem.step, h, if_true]
      simp [fits] at h
      omega
    · by_cases h2 : tooBig s n = true <;> simp [Sem.step, h, h2] at hg
  | tryAcquire id n =>
    by_cases h : fits s n = true
    · simp only [Sem.step, h, if_true]
      simp [fits] at h
      omega
    · simp [Sem.step, h] at hg
  | cancel id =>
    by_cases hd : isDoomed s id = true
    · simp [Sem.step, hd] at hg
    · cases hw : s.waiters with
      | nil => simp [Sem.step, hd, hw] at hg
      | cons w rest =>
        obtain ⟨h, hn⟩ := w
        by_cases hid : h = id
        · by_cases hlt : room s = true
          · simp only [Sem.step, hd, hw, hid, hlt, if_true] at hg ⊢
            exact doNotify_le _ hg
          · simp [Sem.step, hd, hw, hid, hlt] at hg
        · by_cases ha : parkedIn rest id = true <;> simp [Sem.step, hd, hw, hid, ha] at hg
  | release n => exact doNotify_le _ hg
  | setSize n => exact doNotify_le _ hg
  | force n => exact absurd rfl (hop n)

/-- C29 (semaphore, 2): FIFO — the parked acquires admitted by `release`/`setSize` are a prefix of the
    waiter list, in list order, and the rest stays parked in the same order -/
theorem fifo_release (s : S) (n : Int) :
    ∃ pre, s.waiters = pre ++ (Sem.step s (.release n)).1.waiters ∧ (Sem.step s (.release n)).2.1 = pre.map (·.1) := by
  obtain ⟨pre, h1, h2, _⟩ := doNotify_spec { s with cur := s.cur - n }
  exact ⟨pre, h1, h2⟩

theorem fifo_setSize (s : S) (n : Int) :
    ∃ pre, s.waiters = pre ++ (Sem.step s (.setSize n)).1.waiters ∧ (Sem.step s (.setSize n)).2.1 = pre.map (·.1) := by
  obtain ⟨pre, h1, h2, _⟩ := doNotify_spec { s with size := n }
  exact ⟨pre, h1, h2⟩

/-- C29 (semaphore, 2), new arrivals: an acquire is admitted immediately only when nobody is parked -/
theorem acquire_no_overtake (s : S) (id : Nat) (n : Int) (h : s.waiters ≠ []) :
    (Sem.step s (.acquire id n)).2.1 = [] ∧ (Sem.step s (.tryAcquire id n)).2.1 = [] := by
  have : fits s n = false := by
    simp [fits, h]
  simp only [Sem.step, this]
  cases tooBig s n <;> exact ⟨rfl, rfl⟩

/-- C29 (semaphore, 3): cancelling a parked acquire that is not at the front changes nothing but the list -/
theorem cancel_unchanged (s : S) (id h : Nat) (hn : Int) (rest : List (Nat × Int))
    (hw : s.waiters = (h, hn) :: rest) (hne : h ≠ id) (hd : isDoomed s id = false) :
    (Sem.step s (.cancel id)).1.cur = s.cur ∧ (Sem.step s (.cancel id)).1.size = s.size ∧
    (Sem.step s (.cancel id)).2.1 = [] ∧
    (Sem.step s (.cancel id)).1.waiters = (h, hn) :: rest.filter (·.1 ≠ id) := by
  by_cases ha : parkedIn rest id = true
  · simp [Sem.step, hd, hw, hne, ha]
  · simp only [Sem.step, hd, hw, hne, ha]
    refine ⟨rfl, rfl, rfl, ?_⟩
    simp only [Bool.false_eq_true, ↓reduceIte, hw]
    congr 1
    symm
    apply List.filter_eq_self.mpr
    intro a hmem
    simp only [parkedIn, List.any_eq_true, not_exists, not_and] at ha
    have := ha a hmem
    simpa using this

/-- C29 (semaphore, 3), cancelling the front waiter: it is never admitted itself, and `cur` grows by exactly the weights
    admitted behind it -/
theorem cancel_front (s : S) (id : Nat) (hn : Int) (rest : List (Nat × Int))
    (hw : s.waiters = (id, hn) :: rest) (hd : isDoomed s id = false) :
    ∃ pre, rest = pre ++ (Sem.step s (.cancel id)).1.waiters ∧
      (Sem.step s (.cancel id)).2.1 = pre.map (·.1) ∧
      (Sem.step s (.cancel id)).1.cur = s.cur + (pre.map (·.2)).sum ∧
      (Sem.step s (.cancel id)).1.size = s.size := by
  have e : Sem.step s (.cancel id) = if room s then ((doNotify { s with waiters := rest }).1, (doNotify { s with waiters := rest }).2, [id])
      else ({ s with waiters := rest }, [], [id]) := by
    simp [Sem.step, hd, hw]
  rw [e]
  cases room s with
  | true =>
    obtain ⟨pre, h1, h2, h3, h4, _⟩ := doNotify_spec { s with waiters := rest }
    exact ⟨pre, h1, h2, h3, h4⟩
  | false => exact ⟨[], rfl, rfl, (Int.add_zero _).symm, rfl⟩

/-- no lost wake-up: the front waiter, if any, does not fit. Proved of the state after `release` and `setSize` (the ops that
    free room); the other ops have no such theorem, and a front `cancel` at a full semaphore keeps it only for positive weights. -/
def NLW (s : S) : Prop := ∀ w rest, s.waiters = w :: rest → s.size - s.cur < w.2

theorem doNotify_nlw (s0 : S) : NLW (doNotify s0).1 := by
  obtain ⟨_, _, _, _, _, h⟩ := notify_spec s0.waiters s0.size s0.cur
  exact h

theorem nlw_release (s : S) (n : Int) : NLW (Sem.step s (.release n)).1 :=
  doNotify_nlw { s with cur := s.cur - n }

theorem nlw_setSize (s : S) (n : Int) : NLW (Sem.step s (.setSize n)).1 :=
  doNotify_nlw { s with size := n }

/-- non-vacuity: a concrete schedule in which two waiters are parked, the size is raised and both are admitted
    in FIFO order with cur = size -/
example :
    let s0 := Sem.init 2
    let s1 := (Sem.step s0 (.acquire 1 2)).1
    let s2 := (Sem.step s1 (.acquire 2 1)).1
    let s3 := (Sem.step s2 (.acquire 3 1)).1
    s3.waiters = [(2, 1), (3, 1)] ∧ (Sem.step s3 (.setSize 4)).2.1 = [2, 3] ∧ (Sem.step s3 (.setSize 4)).1.cur = 4 := by
  decide +kernel

end SH.C29
