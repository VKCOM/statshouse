/-
  C20 — Metadata replicas converge and name lookups stay correct.

  "For any history of metric, group and namespace edits (including renames and reuse of freed names), delivered to a
   replica in any batching, with journal compaction, partial deliveries and save/reload of possibly truncated journal
   files, every replica ends with the source's latest version of each entity (in compacted form for compact journals),
   replicas of the same journal end with identical state hashes, each metric's group is the enabled user group with the
   longest matching name prefix, and looking a metric up by name always returns the metric that currently holds that
   name."

  Models: SH.Model.Journal (JournalFast: addEventLocked / applyUpdate / compaction / diff / save / load),
          SH.Model.MetaIndex (MetricsStorage.ApplyEvent, calcGroupForMetricLocked), `Variant.fixed` = the code after
          fixes/C20-name-index.diff, `Variant.orig` = the code before it (modelled for the defect witness in section I),
          SH.Model.CompactMetric (MakeCompactMetric, compactJournalEvent).

  The clauses of the sentence (no Mathlib); what the theorems rest on is in SH/Lemmas/MetaIndex.lean (indexes, groups) and
  SH/Lemmas/Journal.lean → JournalConv.lean → JournalChain.lean (journals). The headings keep the letters I, K, N under
  which known_findings.txt, DESIGN.md and the check cite them.
   groups: `calcGroup_longest_prefix`, `group_assignment`, `groups_ordered_every_batch`
   name lookups: `lookup_by_name_current` (fixed variant; FALSE for `Variant.orig`: section I), `lookup_by_name_checked_source`
   hashes, delivery, reload: `same_contents_same_hash`, `load_any_cut` (a file cut anywhere, also exactly at a chunk
        boundary); proved in SH/Lemmas/Journal.lean: `delivery_never_skips`, `truncate_keeps_prefix`, `load_inv`
   convergence: one hop `converges`, `replicas_same_hash` (invariant: SH/Lemmas/JournalConv.lean); two hops relative to the
        source with aggregator rollbacks (section K; invariant: SH/Lemmas/JournalChain.lean) `two_hop_converges_no_skip`,
        `two_hop_agents_same_hash` (non-compact chain), `two_hop_compact_rollback_counterexample` (FINDING: false for a
        compact aggregator restarted from an older file); section N `two_hop_converges_compact_no_rollback`
   compacted form: modelled in SH.Model.CompactMetric; `compactForm_idem`, `converges_modelled_compact`
   Partial: a replica whose upstream itself is rolled back (agent behind a restarting aggregator) is outside `converges`;
   the statement with roll-backs of a compact aggregator under a no-return hypothesis is a comment in section N; of it
   only facts about one stored entry are proved (`two_hop_converges_compact_no_return_partial`).
-/
import SH.Model.Journal
import SH.Model.MetaIndex
import SH.Lemmas.Journal
import SH.Lemmas.JournalConv
import SH.Lemmas.JournalChain
import SH.Lemmas.MetaIndex
import SH.Model.CompactMetric

namespace SH.C20
open SH.MetaIndex
open SH.Journal
open SH.CompactMetric

/-- C20 (groups): on a name-descending list, `calcGroupForMetricLocked` returns a group whose name is a prefix of the
    metric name and at least as long as every other matching group's name; the default group iff nothing matches. -/
theorem calcGroup_longest_prefix (ordered : List Ent) (hd : Desc ordered) (name : Name) :
    (∃ g ∈ ordered, calcGroup ordered name = g.id ∧ g.name <+: name ∧
        ∀ g' ∈ ordered, g'.name <+: name → g'.name.length ≤ g.name.length) ∨
    (calcGroup ordered name = SH.Gen.C20.builtinGroupIDDefault ∧ ∀ g' ∈ ordered, ¬ g'.name <+: name) := by
  unfold calcGroup
  cases hf : ordered.find? (fun g => g.name.isPrefixOf name) with
  | none =>
    right
    refine ⟨rfl, ?_⟩
    intro g' hg' hp
    have := List.find?_eq_none.mp hf g' hg'
    exact this (by simpa [List.isPrefixOf_iff_prefix] using hp)
  | some g =>
    left
    obtain ⟨hpg, as, bs, hl, has⟩ := List.find?_eq_some_iff_append.mp hf
    have hgp : g.name <+: name := by simpa [List.isPrefixOf_iff_prefix] using hpg
    refine ⟨g, by rw [hl]; simp, rfl, hgp, ?_⟩
    intro g' hg' hp'
    rw [hl] at hg' hd
    rcases List.mem_append.mp hg' with h | h
    · exfalso
      have := has g' h
      rw [List.isPrefixOf_iff_prefix.mpr hp'] at this
      simp at this
    · rcases List.mem_cons.mp h with rfl | h
      · exact Nat.le_refl _
      · -- g' comes after g: its name is not greater; if it is not shorter, `g.name` is a prefix of it, hence not greater either
        have hle : lexLe g'.name g.name = true :=
          (List.pairwise_cons.mp (List.pairwise_append.mp hd).2.1).1 g' h
        rcases Nat.le_total g'.name.length g.name.length with hlen | hlen
        · exact hlen
        · have hpp : g.name <+: g'.name := List.prefix_of_prefix_length_le hgp hp' hlen
          rw [List.le_antisymm ((lexLe_iff _ _).mp hle) hpp.le]
          exact Nat.le_refl _

/-- C20 (groups): after any sequence of ApplyEvent calls (either variant, any tie orders) groupsOrdered is
    name-descending and every metric's GroupID is what `calcGroupForMetricLocked` gives on it — by
    `calcGroup_longest_prefix` the group in that list with the longest name that is a prefix of the metric name,
    or the default group when none matches. -/
theorem group_assignment (v : Variant) (bs : List (List Int × List IEv)) :
    let st := applyTied v MetaIndex.init bs
    Desc st.ordered ∧ ∀ id m, aget st.metrics.byId id = some m → m.grp = calcGroup st.ordered m.name :=
  ⟨(groupsOK_applyTied v bs _ groupsOK_init).desc, (groupsOK_applyTied v bs _ groupsOK_init).grouped⟩

/-- C20 (groups, every batch): after ANY sequence of ApplyEvent calls — also those that end without a regrouping pass —
    groupsOrdered is name-descending and is exactly the set of enabled user groups of groupsByID (same ids and names;
    the stored copies can be older versions of the same group, which is all `calcGroupForMetricLocked` reads), at
    every batch boundary, for both code variants. -/
theorem groups_ordered_every_batch (v : Variant) (bs : List (List Int × List IEv)) :
    let st := applyTied v MetaIndex.init bs
    Desc st.ordered ∧ GOrd st :=
  ⟨(groupsOK_applyTied v bs _ groupsOK_init).desc, (groupsOK_applyTied v bs _ groupsOK_init).gord rfl⟩

/-- non-vacuity, and the case `groupsOK_rebuild` does not cover: the second batch edits group 7 without changing its
    name or its disable flag, so no regrouping pass runs, and groupsOrdered still lists exactly the enabled user group -/
example :
    let st := applyTied .fixed MetaIndex.init
      [([], [{ typ := 2, id := 7, name := [97], ver := 1, ok := true, dis := false }]),
       ([], [{ typ := 2, id := 7, name := [97], ver := 2, ok := true, dis := false },
             { typ := 0, id := 1, name := [97, 98], ver := 3, ok := true, dis := false }])]
    st.ordered.map (fun g => (g.id, g.ver)) = [(7, 1)] ∧ (aget st.groups.byId 7).map (·.ver) = some 2 ∧
    (aget st.metrics.byId 1).map (·.grp) = some 7 := by decide +kernel

/-- C20 (name lookups). Source history `H`: all versions of all entities, with the source's guarantee that two
    entities of one type never hold the same name at the same source version. A MetricsStorage object (fresh, i.e.
    after any restart) is fed ANY sequence of batches whose events are source events with strictly increasing versions
    — what latest-version-only diffs, item/byte limits, cuts, compaction skips and chunk-wise reloads produce (per call:
    `applyUpdate_inv`, `load_inv`; that the batches of successive calls fit together is not a theorem). Then at every
    moment: every metric / group / namespace the replica holds whose
    name has been its source name ever since the replica's version of it (in particular: everything the replica has
    in the source's latest version) is returned by the lookup of that name; and whatever a name lookup returns is the
    id-index entry carrying that name. -/
theorem lookup_by_name_current (H : List SEv) (hU : UniqueNames H) (bs : List (List Int × List IEv))
    (hsub : ∀ e ∈ allEvents bs, srcOf e ∈ H) (hpos : ∀ e ∈ allEvents bs, 0 < e.ver)
    (hinc : (allEvents bs).Pairwise (fun a b => a.ver < b.ver)) :
    let st := applyTied .fixed MetaIndex.init bs
    (∀ m, aget st.metrics.byId m.id = some m → 0 < m.ver → Stable H SH.Gen.C20.metricEvent m.id m.name m.ver →
        aget st.metrics.byName m.name = some m) ∧
    (∀ g, aget st.groups.byId g.id = some g → 0 < g.ver → Stable H SH.Gen.C20.metricsGroupEvent g.id g.name g.ver →
        aget st.groups.byName g.name = some g) ∧
    (∀ n, aget st.nss.byId n.id = some n → 0 < n.ver → Stable H SH.Gen.C20.namespaceEvent n.id n.name n.ver →
        aget st.nss.byName n.name = some n) ∧
    I1 st.metrics ∧ I1 st.groups ∧ I1 st.nss := by
  intro st
  obtain ⟨L, hs⟩ := storeInv_applyTied H hU bs MetaIndex.init
    ⟨0, storeInv_init H, fun e he => ⟨hsub e he, hpos e he⟩, hinc⟩
  exact ⟨fun m h => hs.m.reach m.id m h, fun g h => hs.g.reach g.id g h, fun n h => hs.n.reach n.id n h,
    hs.m.i1, hs.g.i1, hs.n.i1⟩

/-- C20 (name lookups, stated for every history a name-checking source can produce — renames and reuse of freed names
    included): same conclusion as `lookup_by_name_current`. -/
theorem lookup_by_name_checked_source (H : List SEv) (hV : Valid H) (bs : List (List Int × List IEv))
    (hsub : ∀ e ∈ allEvents bs, srcOf e ∈ H) (hpos : ∀ e ∈ allEvents bs, 0 < e.ver)
    (hinc : (allEvents bs).Pairwise (fun a b => a.ver < b.ver)) :
    let st := applyTied .fixed MetaIndex.init bs
    (∀ m, aget st.metrics.byId m.id = some m → 0 < m.ver → Stable H SH.Gen.C20.metricEvent m.id m.name m.ver →
        aget st.metrics.byName m.name = some m) ∧
    (∀ g, aget st.groups.byId g.id = some g → 0 < g.ver → Stable H SH.Gen.C20.metricsGroupEvent g.id g.name g.ver →
        aget st.groups.byName g.name = some g) ∧
    (∀ n, aget st.nss.byId n.id = some n → 0 < n.ver → Stable H SH.Gen.C20.namespaceEvent n.id n.name n.ver →
        aget st.nss.byName n.name = some n) ∧
    I1 st.metrics ∧ I1 st.groups ∧ I1 st.nss :=
  lookup_by_name_current H (valid_unique H hV) bs hsub hpos hinc

/-! ## I. non-vacuity, and the defect of the code before fixes/C20-name-index.diff -/

/-- turns `∃ w, run = some w ∧ p w` into one closed Boolean, so that the run is evaluated once -/
theorem exists_of_any {α} {o : Option α} {p : α → Prop} [DecidablePred p]
    (h : o.any (fun a => decide (p a)) = true) : ∃ a, o = some a ∧ p a := by
  cases o with
  | none => cases h
  | some a => exact ⟨a, rfl, of_decide_eq_true h⟩

def x_ : Name := [120]
def y_ : Name := [121]
def sA1 : SEv := { typ := 0, id := 1, name := x_, ver := 1 }   -- create A "x"
def sA2 : SEv := { typ := 0, id := 1, name := y_, ver := 2 }   -- rename A -> "y"
def sB3 : SEv := { typ := 0, id := 2, name := x_, ver := 3 }   -- create B "x" (reuse of the freed name)
def sA4 : SEv := { typ := 0, id := 1, name := y_, ver := 4 }   -- edit A
def wH : List SEv := [sA1, sA2, sB3, sA4]

def iev (s : SEv) : IEv := { typ := s.typ, id := s.id, name := s.name, ver := s.ver, ok := true, dis := false }

/-- the replica saw A as "x", then receives the latest-only diff [B@3, A@4] -/
def wBatches : List (List Int × List IEv) := [([], [iev sA1]), ([], [iev sB3, iev sA4])]

/-- the reuse history of the defect (A "x", A → "y", B takes the freed "x", A edited) is one a name-checking source produces -/
theorem wH_valid : Valid wH := by
  have e0 : wH = ((([] ++ [sA1]) ++ [sA2]) ++ [sB3]) ++ [sA4] := rfl
  rw [e0]
  refine Valid.snoc _ _ (Valid.snoc _ _ (Valid.snoc _ _ (Valid.snoc _ _ Valid.nil ?_ ?_) ?_ ?_) ?_ ?_) ?_ ?_
  · intro e' he'; simp at he'
  · intro e2 l; exact absurd l.1 (by simp)
  · decide
  · intro e2 l _ hn
    have := l.1; simp at this; subst this; revert hn; decide
  · decide
  · intro e2 l _ hn
    have hm := l.1
    simp at hm
    rcases hm with rfl | rfl
    · exfalso
      have := l.2.2 sA2 (by simp) rfl rfl (by decide)
      revert this; decide
    · revert hn; decide
  · decide
  · intro e2 l _ hn
    have hm := l.1
    simp at hm
    rcases hm with rfl | rfl | rfl
    · revert hn; decide
    · rfl
    · revert hn; decide

/-- the witness history satisfies the source guarantee (hypothesis `hU` of `lookup_by_name_current` is satisfiable
    by a history with a rename and a reuse of the freed name) -/
theorem wH_unique : UniqueNames wH :=
  valid_unique wH wH_valid

example : (∀ e ∈ allEvents wBatches, srcOf e ∈ wH) ∧ (∀ e ∈ allEvents wBatches, 0 < e.ver) ∧
    (allEvents wBatches).Pairwise (fun a b => a.ver < b.ver) := by decide +kernel

/-- B holds "x" at the source from version 3 on -/
theorem wH_stable : Stable wH 0 2 x_ 3 := by
  intro e he _ hid _
  simp only [wH, List.mem_cons, List.not_mem_nil, or_false] at he
  rcases he with rfl | rfl | rfl | rfl <;> first | rfl | (exfalso; revert hid; decide)

example : Stable wH 0 2 x_ 3 := wH_stable

/-- fixed code: B is found under "x", A under "y" -/
example : aget (applyTied .fixed MetaIndex.init wBatches).metrics.byName x_ = some { id := 2, name := x_, ver := 3, grp := -4 } := by decide +kernel
example : aget (applyTied .fixed MetaIndex.init wBatches).metrics.byName y_ = some { id := 1, name := y_, ver := 4, grp := -4 } := by decide +kernel

/-- the theorem applies to the witness history: on the fixed code the replica that saw A as "x" and then receives
    [B@3, A@4] finds B under "x" (derived from the theorem, not by evaluation) -/
theorem lookup_after_reuse :
    aget (applyTied .fixed MetaIndex.init wBatches).metrics.byName x_ = some { id := 2, name := x_, ver := 3, grp := -4 } := by
  have h := (lookup_by_name_checked_source wH wH_valid wBatches (by decide) (by decide) (by decide)).1
    { id := 2, name := x_, ver := 3, grp := -4 } (by decide) (by decide)
  exact h wH_stable

/-- DEFECT of the code before fixes/C20-name-index.diff (`Variant.orig`): the replica holds B in its latest version
    under the name B holds at the source, yet the lookup of that name finds nothing — the conclusion of
    `lookup_by_name_current` is false for `.orig` on a history that satisfies all its hypotheses. -/
example : aget (applyTied .orig MetaIndex.init wBatches).metrics.byId 2 = some { id := 2, name := x_, ver := 3, grp := -4 } ∧
    aget (applyTied .orig MetaIndex.init wBatches).metrics.byName x_ = none := by decide +kernel

def tabW : Nat → Content := fun k =>
  { typ := 0, id := if k < 2 then 1 else 2, name := [], dlen := 0, sz := 40, hash := 1000 + k, ok := true, dis := false, t := k, c := some k }

/-- non-vacuity for the journal theorems: a reachable journal with a replaced entry -/
example : ∃ j, addAll {} [mkEntry tabW 1 0, mkEntry tabW 2 2, mkEntry tabW 5 1] = some j ∧
    j.entries.map (·.ver) = [2, 5] ∧ j.hash = 1002 ^^^ 1001 ∧ j.cur = 5 := by
  exact exists_of_any (by decide +kernel)

example : (diff { entries := [mkEntry tabW 2 2, mkEntry tabW 5 1], cur := 5 } 0 1 1000).map (·.ver) = [2] := by decide +kernel

/-- non-vacuity for the group theorem: "ab" wins over "a" for metric "abc", order of arrival irrelevant -/
example : calcGroup (sortGroups [] [{ id := 7, name := [97], ver := 1 }, { id := 8, name := [97, 98], ver := 2 }]) [97, 98, 99] = 8 := by decide +kernel

/-- C20 (hashes): two journals reached by any op sequences that hold the same contents (as multisets of content
    hashes — versions and order do not matter) have the same state hash. -/
theorem same_contents_same_hash (j1 j2 : J) (h1 : JInv j1) (h2 : JInv j2)
    (hp : (j1.entries.map (·.hash)).Perm (j2.entries.map (·.hash))) : j1.hash = j2.hash := by
  rw [h1.hash, h2.hash]; exact xorAll_perm _ _ hp

/-- one delivery to a non-compact journal: every delivered event is handed to the ApplyEvent callbacks (`applied = src`),
    the loaderVersion becomes the last delivered version, no delivered version is above the new currentVersion, and the
    journal invariant is kept -/
theorem converges_step_partial (tab : Nat → Content) (j j' : J) (src applied : List Entry) (lk : Int)
    (hi : JInv j) (hc : j.compact = false) (hne : src ≠ [])
    (h : applyUpdate tab j src lk = some (j', applied)) :
    applied = src ∧ j'.lv = lastVer src 0 ∧ (∀ e ∈ src, e.ver ≤ j'.cur) ∧ JInv j' := by
  have hinv := applyUpdate_inv tab j j' src applied lk hi h
  rcases (applyUpdate_eq_some tab j j' src applied lk).mp h with ⟨h0, _⟩ | ⟨_, rfl, j1, h1, rfl⟩
  · exact absurd h0 hne
  · rw [keptOf_of_not_compact tab j src hc] at h1 ⊢
    obtain ⟨_, _, a1, _⟩ := addAll_inv _ j j1 hi h1
    exact ⟨rfl, rfl, fun e he => (a1 e he).2, hinv.1⟩

/-- C20 (replicas converge). One hop of the chain: an upstream journal that only grows (the source — or any journal
    that is never rolled back) and a replica of either kind with its journal file. For EVERY schedule of upstream
    edits, deliveries (any item / byte limits, cut anywhere), `Save()` and restarts from the file truncated at any byte
    offset, that the Go code survives without panic (`runW … = some w`; an upstream edit with a version that is not
    new gives `none`):
      * both journals keep one entry per entity, ascending, state hash = xor of entry hashes (`WInv.jU/jR`),
      * the replica is complete up to its loaderVersion and holds nothing foreign (`WInv.conv`),
      * and whenever the replica's loaderVersion has reached the upstream version: the replica holds exactly the
        upstream's entities that compaction does not discard, each with the content `storedAs` gives for the upstream's
        latest version (transported; compacted for compact journals), with the upstream's version when the replica is
        not compact (a compact replica may keep the older version whose compact form is identical). -/
theorem converges (tab : Nat → Content) (c : Bool) (hT : TabOK tab c) (ops : List Op) (w : W)
    (h : runW tab { R := { compact := c } } ops = some w) :
    WInv tab w ∧ w.R.compact = c ∧
    (w.U.cur ≤ w.R.lv →
      (∀ u ∈ w.U.entries, ∀ f, storedAs tab c u.k = some f →
          ∃ r ∈ w.R.entries, sameKey r u = true ∧ r.k = f ∧ r.ver ≤ u.ver ∧ (c = false → r.ver = u.ver)) ∧
      (∀ r ∈ w.R.entries, ∃ u ∈ w.U.entries, sameKey r u = true ∧ storedAs tab c u.k = some r.k)) := by
  obtain ⟨hi, hc⟩ := runW_inv tab ops _ w hT (winv_init tab false c) h
  simp only at hc
  refine ⟨hi, hc, ?_⟩
  intro hs
  have := synced_contents tab w.R w.U hi.conv hi.jR hi.jU hs
  rw [hc] at this
  exact this

/-- C20 (replicas of the same journal end with identical state hashes). Two replicas of the same kind, each with its
    own schedule of deliveries, saves and truncated restarts, ending with the same upstream journal (`hU`): whenever
    both have caught up with it their state hashes are equal. -/
theorem replicas_same_hash (tab : Nat → Content) (c : Bool) (hT : TabOK tab c) (ops1 ops2 : List Op) (w1 w2 : W)
    (h1 : runW tab { R := { compact := c } } ops1 = some w1) (h2 : runW tab { R := { compact := c } } ops2 = some w2)
    (hU : w1.U = w2.U) (s1 : w1.U.cur ≤ w1.R.lv) (s2 : w2.U.cur ≤ w2.R.lv) : w1.R.hash = w2.R.hash := by
  obtain ⟨i1, c1⟩ := runW_inv tab ops1 _ w1 hT (winv_init tab false c) h1
  obtain ⟨i2, c2⟩ := runW_inv tab ops2 _ w2 hT (winv_init tab false c) h2
  have conv2 := i2.conv
  rw [← hU] at conv2 s2
  exact synced_same_hash tab w1.R w2.R w1.U i1.conv conv2 i1.jR i2.jR i1.jU (c1.trans c2.symm) s1 s2

/-- the observed functions of the witness table satisfy `TabOK` for both kinds (hypothesis of `converges` is satisfiable) -/
theorem tabW_ok (c : Bool) : TabOK tabW c := by
  refine ⟨?_, ?_, ?_, ?_⟩
  · -- transport and compaction are the identity in `tabW`: the stored form of `k` is `k` for either kind
    intro k f h
    have hf : k = f := by cases c <;> simpa [storedAs, tabW] using h
    subst hf
    exact ⟨rfl, rfl⟩
  · intro k; exact ⟨rfl, rfl⟩
  · intro k k' _ _; cases c <;> simp [storedAs, tabW]
  · intro k; simp [tabW]

/-- a schedule with a limited delivery, a save, a later edit of a delivered entity, a restart from a file cut inside
    its only chunk (everything is lost) and re-delivery: the replica catches up and `converges` applies -/
def wOps : List Op :=
  [.upAdd 1 0, .upAdd 2 2, .deliver 1 1000 5, .save, .upAdd 5 1, .restart 30, .deliver 1000 100000 100]

example : ∃ w, runW tabW { R := { compact := true } } wOps = some w ∧ w.U.cur ≤ w.R.lv ∧
    w.R.entries.map (fun e => (e.ver, e.k)) = [(2, 2), (5, 1)] ∧ w.R.hash = w.U.hash := by
  exact exists_of_any (by decide +kernel)

/-- the same upstream history, another schedule (no restart, one-item deliveries): same hash, as `replicas_same_hash` says -/
example : ∃ w, runW tabW { R := { compact := true } }
      [.upAdd 1 0, .deliver 1 1 1, .upAdd 2 2, .upAdd 5 1, .deliver 1 1 1, .save, .restart 1000, .deliver 1 1 1] = some w ∧
    w.U.cur ≤ w.R.lv ∧ w.R.hash = 1002 ^^^ 1001 := by
  exact exists_of_any (by decide +kernel)

/-! ## K. two hops, the aggregator may be rolled back (SH/Lemmas/JournalChain.lean) -/

/-- C20 (two hops, relative to the SOURCE, aggregator restarts allowed) — for chains without the compaction skip.
    Source S → aggregator A → agent G, both replicas non-compact. EVERY schedule of source edits, deliveries on either hop
    (any limits, any cut), saves and restarts of EITHER replica from an old and / or truncated file — so the agent can be
    ahead of a rolled-back aggregator, and `getJournalDiffLocked3` is then asked for a version above the aggregator's own
    (it answers with nothing and the agent waits; nothing is skipped later). Whenever the agent's loaderVersion has
    reached the source's version, the agent holds exactly the source's current entities, each transported twice, with the
    source's version (and the same for the aggregator with one transport). -/
theorem two_hop_converges_no_skip (tab : Nat → Content)
    (hkey : ∀ k, (tab (tab k).t).typ = (tab k).typ ∧ (tab (tab k).t).id = (tab k).id) (hsz : ∀ k, 0 < (tab k).sz)
    (ops : List Op2) (w : W2) (h : run2 tab {} ops = some w) :
    (w.S.cur ≤ w.G.lv → ∀ r, r ∈ w.G.entries ↔ ∃ s ∈ w.S.entries, r = img tab 2 s) ∧
    (w.S.cur ≤ w.A.lv → ∀ r, r ∈ w.A.entries ↔ ∃ s ∈ w.S.entries, r = img tab 1 s) ∧
    JInv w.G ∧ JInv w.A := by
  obtain ⟨H, hS, hA, _, hG, _⟩ := run2_inv tab hkey hsz ops {} w (chainInv_init tab) h
  exact ⟨fun hs => chain_synced tab hkey 2 _ _ H hS hG hs, fun hs => chain_synced tab hkey 1 _ _ H hS hA hs,
    hG.jx.inv, hA.jx.inv⟩

/-- …and two agents (of possibly different aggregators, with different rollback histories) over the same source
    journal have equal state hashes whenever both have caught up with the source -/
theorem two_hop_agents_same_hash (tab : Nat → Content)
    (hkey : ∀ k, (tab (tab k).t).typ = (tab k).typ ∧ (tab (tab k).t).id = (tab k).id) (hsz : ∀ k, 0 < (tab k).sz)
    (ops1 ops2 : List Op2) (w1 w2 : W2) (h1 : run2 tab {} ops1 = some w1) (h2 : run2 tab {} ops2 = some w2)
    (hS : w1.S = w2.S) (s1 : w1.S.cur ≤ w1.G.lv) (s2 : w2.S.cur ≤ w2.G.lv) : w1.G.hash = w2.G.hash := by
  obtain ⟨c1, _, j1, _⟩ := two_hop_converges_no_skip tab hkey hsz ops1 w1 h1
  obtain ⟨c2, _, j2, _⟩ := two_hop_converges_no_skip tab hkey hsz ops2 w2 h2
  have e1 := c1 s1
  have e2 := c2 s2
  rw [← hS] at e2
  rw [j1.hash, j2.hash]
  apply xorAll_match _ _ j1.keys j2.keys
  · intro x hx; exact ⟨x, (e2 x).mpr ((e1 x).mp hx), sameKey_refl x, rfl⟩
  · intro y hy; exact ⟨y, (e1 y).mpr ((e2 y).mp hy), sameKey_refl y, rfl⟩

/-- The witness table: entity X (contents 0, 1, 2 — three source versions; 0 and 2 have the SAME compact form 10, 1 has
    compact form 11) and entity Y (content 3, compact form 13). Transport is the identity. -/
def tabK : Nat → Content := fun k =>
  { typ := 0, id := if k = 3 ∨ k = 13 then 2 else 1, name := [], dlen := 0, sz := 40, hash := 1000 + k, ok := true, dis := false,
    t := k, c := some (if k = 0 ∨ k = 2 then 10 else if k = 1 then 11 else if k = 3 then 13 else k) }

/-- the schedule of the finding: X@1 reaches the aggregator, which saves; X@2 (different compact form) reaches aggregator and
    agent; X@3 returns to the first form; the aggregator restarts from its (old) file, receives X@3; Y@4 lifts all versions -/
def rollbackOps : List Op2 :=
  [.src 1 0, .deliverA 1000 100000 100, .saveA, .src 2 1, .deliverA 1000 100000 100, .deliverG 1000 100000 100,
   .src 3 2, .restartA 100000, .deliverA 1000 100000 100, .src 4 3, .deliverA 1000 100000 100, .deliverG 1000 100000 100]

/-- non-vacuity of `two_hop_converges_no_skip` on exactly that schedule: with a non-compact aggregator the agent is
    transiently ahead of the rolled-back aggregator (checked: after `restartA`, A.cur = 1 < G.lv = 2) and ends with X@3 -/
example : ∃ w, run2 tabK {} rollbackOps = some w ∧ w.S.cur ≤ w.G.lv ∧
    w.G.entries.map (fun e => (e.ver, e.k)) = [(3, 2), (4, 3)] := exists_of_any (by decide +kernel)

example : ∃ w, run2 tabK {} (rollbackOps.take 8) = some w ∧ w.A.cur = 1 ∧ w.G.lv = 2 := exists_of_any (by decide +kernel)

/-- FINDING (the code as it is, compact aggregator): the same schedule. The restarted aggregator holds X@1 (compact form
    10) again; X@3 has compact form 10 too, so `applyUpdate` skips it as unchanged and keeps version 1, which is below the
    agent's loaderVersion 2: the agent is never sent it. At the end everybody is synced (G.lv = S.cur = 4 = A.cur) and
    the aggregator holds the stored form of the source's latest X (10), but the agent still holds the intermediate form 11
    and its hash differs from the aggregator's: the two-hop convergence statement is FALSE for compact aggregators that
    restart from an older file. (Replayed on the real chain by `verif-c20 -mode=witness`, case 5; known_findings.txt:
    sig=agent-ahead-of-rolled-back-compact-upstream.) -/
theorem two_hop_compact_rollback_counterexample :
    ∃ w, run2 tabK { A := { compact := true } } rollbackOps = some w ∧
      w.S.cur ≤ w.G.lv ∧ w.S.cur ≤ w.A.lv ∧ w.A.cur ≤ w.G.lv ∧
      w.S.entries.map (fun e => (e.ver, e.k)) = [(3, 2), (4, 3)] ∧
      w.A.entries.map (fun e => (e.ver, e.k)) = [(1, 10), (4, 13)] ∧
      w.G.entries.map (fun e => (e.ver, e.k)) = [(2, 11), (4, 13)] ∧
      w.G.hash ≠ w.A.hash :=
  exists_of_any (by decide +kernel)

/-- the compact aggregator alone is fine in that run (one hop, `converges`): it holds storedAs of the source's latest -/
example : storedAs tabK true 2 = some 10 ∧ storedAs tabK true 3 = some 13 := by decide +kernel

/-! ## reload of a saved file cut anywhere -/

/-- C20 (reload at chunk granularity, for a non-compact chain replica: `load false`, `Rep`; the compact one-hop
    counterpart is `conv_load`). A file written by `save` and cut at ANY byte offset — in particular exactly at a chunk
    boundary, where `load` sees no error (`load_err_iff_tail`) — is reloaded into a journal that (1) is `Faithful` up to the loaderVersion it reports, and
    (2) whenever events of the saved journal are missing from what was read, reports as loaderVersion the version of the
    last event read, not the header's. -/
theorem load_any_cut (tab : Nat → Content) (hsz : ∀ k, 0 < (tab k).sz) (d : Nat) (Rs S R' : J) (H : List Entry) (keep : Nat)
    (bs : List (List Entry)) (err : Bool) (hRs : Rep tab d Rs S H)
    (hl : load false (truncate (saveFile Rs) keep) = some (R', bs, err)) :
    Rep tab d R' S H ∧ err = decide ((truncate (saveFile Rs) keep).tail ≠ 0) ∧
    ((((truncate (saveFile Rs) keep).chunks.map (·.evs)).flatten ≠ Rs.entries) → R'.lv = R'.cur) := by
  have hf := filesf_truncate tab d _ S H keep (filesf_save tab hsz d Rs S H hRs)
  refine ⟨sf_load tab d _ S R' H bs err hf hl, load_err_iff_tail _ _ _ _ _ hl, ?_⟩
  intro hstrict
  obtain ⟨hpre, _, hcur⟩ := truncate_flatten (saveFile Rs) keep
  rw [rep_flatten tab hsz d Rs S H hRs] at hpre
  exact load_strict_prefix_lv false _ Rs R' bs err hRs.jx hpre hstrict hcur hl

def tabBig : Nat → Content := fun k =>
  { typ := 0, id := k, name := [], dlen := 0, sz := 300000, hash := 1000 + k, ok := true, dis := false, t := k, c := some k }
def jBig : J :=
  { entries := [mkEntry tabBig 1 1, mkEntry tabBig 2 2, mkEntry tabBig 3 3], hash := 1001 ^^^ 1002 ^^^ 1003, cur := 3, lv := 7 }

/-- non-vacuity: a journal of three 300000-byte entries is saved as two chunks (ends 600040 and 900064) -/
example : (saveFile jBig).chunks.map (·.size) = [600040, 300024] := by decide +kernel
/-- cut exactly at the first boundary it reads back without error, holds the first two entries, and reports
    loaderVersion 2 (the last event read), not the header's 7 -/
example : ∃ R bs, load false (truncate (saveFile jBig) 600040) = some (R, bs, false) ∧
    R.entries.map (·.ver) = [1, 2] ∧ R.cur = 2 ∧ R.lv = 2 := ⟨_, _, rfl, by decide, by decide, by decide⟩
/-- uncut, the header is believed -/
example : ∃ R bs, load false (saveFile jBig) = some (R, bs, false) ∧ R.cur = 3 ∧ R.lv = 7 := ⟨_, _, rfl, by decide, by decide⟩

/-! ## the compact form of a metric as a model (SH.Model.CompactMetric); `converges` itself takes it as a table column -/

theorem clearTag_idem (t : Tag) : clearTag (clearTag t) = clearTag t := rfl
theorem tagKept_clear (t : Tag) : tagKept (clearTag t) = tagKept t := rfl

theorem cutTags_cons_of_nil (t : Tag) {r : List Tag} (h : cutTags r = []) :
    cutTags (t :: r) = if tagKept t then [t] else [] := by
  simp only [cutTags, h]

theorem cutTags_cons_of_ne (t : Tag) {r : List Tag} (h : cutTags r ≠ []) : cutTags (t :: r) = t :: cutTags r := by
  simp only [cutTags]

theorem cutTags_map_clear : ∀ l : List Tag, cutTags (l.map clearTag) = (cutTags l).map clearTag := by
  intro l
  induction l with
  | nil => rfl
  | cons t r ih =>
    rw [List.map_cons]
    by_cases h : cutTags r = []
    · rw [cutTags_cons_of_nil _ h, cutTags_cons_of_nil _ (by rw [ih, h]; rfl), tagKept_clear]
      split <;> rfl
    · rw [cutTags_cons_of_ne _ h, cutTags_cons_of_ne _ (by rw [ih]; simpa using h), ih]
      rfl

theorem cutTags_idem : ∀ l : List Tag, cutTags (cutTags l) = cutTags l := by
  intro l
  induction l with
  | nil => rfl
  | cons t r ih =>
    by_cases h : cutTags r = []
    · rw [cutTags_cons_of_nil _ h]
      split
      · rename_i hk
        simp [cutTags, hk]
      · rfl
    · rw [cutTags_cons_of_ne _ h, cutTags_cons_of_ne _ (by rw [ih]; exact h), ih]

theorem ite_keep_idem {α} (f : α → Bool) (a z : α) :
    (if f (if f a then a else z) then (if f a then a else z) else z) = if f a then a else z := by
  by_cases h : f a <;> simp [h]

theorem ite_drop_idem {α β} [DecidableEq β] (g : α → β) (c : β) (a z : α) :
    (if g (if g a = c then z else a) = c then z else (if g a = c then z else a)) = if g a = c then z else a := by
  by_cases h : g a = c <;> simp [h]

/-- C20 (compact form): compacting a compact metric changes nothing — the compact journal of a compact journal, or a
    re-compaction after a restart, stores the same metric fields (the statement is about the Data fields `MF`; the event
    head, `compactHead`, is in no theorem) -/
theorem compactForm_idem (name : Str) (m : MF) :
    compactForm .orig name (compactForm .orig name m) = compactForm .orig name m := by
  have hc : (cutTags (m.tags.map clearTag)).map clearTag = cutTags (m.tags.map clearTag) := by
    rw [cutTags_map_clear, List.map_map]
    rfl
  have hdr : (m.drafts.map clearDraft).map clearDraft = m.drafts.map clearDraft := by
    rw [List.map_map]
    rfl
  dsimp only [compactForm, descOf]
  simp only [MF.mk.injEq, and_true, hc, hdr, cutTags_idem]
  have hdesc := ite_keep_idem (keepDesc name) m.desc []
  have hkind := ite_keep_idem hasPercentiles m.kind []
  have hw := ite_drop_idem normWeight 1 m.weight 0
  have hres := ite_drop_idem allowedRes 1 m.res 0
  -- at default transparency the unifier evaluates the `Decidable` instances inside the goals (`keepDesc` on the
  -- string tables) instead of matching them
  with_reducible exact ⟨hdesc, hkind, hw, hres⟩

/-- the description survives exactly for the remote-config / dump metrics and for marked descriptions -/
theorem compactForm_desc (name : Str) (m : MF) :
    (compactForm .orig name m).desc = if keepDesc name m.desc then m.desc else [] := by
  -- not `rfl`: the unifier would evaluate the `Decidable` instance of `keepDesc name m.desc` (string tables, free `name`)
  simp only [compactForm, descOf]

theorem compactForm_desc_special (name : Str) (m : MF) (h : remoteConfigMetric name = true) :
    (compactForm .orig name m).desc = m.desc := by
  rw [compactForm_desc]
  simp [keepDesc, h]

/-- the compact form is determined by the kept fields: texts of tags, value comments, string-top description, pre-key
    settings, skip flags, metric type and the event-restored ids never reach it -/
theorem compactForm_ignores (v : KeepRule) (name : Str) (m : MF) (std pkt mtype vname : Str) (pkf : Nat) (a b c d : Bool) (mid ns ver : Int) :
    compactForm v name { m with std := std, pkt := pkt, pkf := pkf, skipMax := a, skipMin := b, skipSq := c, pkOnly := d, mtype := mtype, mid := mid, ns := ns, vname := vname, ver := ver } = compactForm v name m := by
  cases v <;> rfl

/-- a remote-config metric with an unmarked description (its payload) -/
def mfCfg : MF :=
  { desc := str "limit=5", kind := str "counter", weight := 1, res := 1, dis := false, stn := [], std := str "t", pkt := [], pkf := 0,
    skipMax := true, skipMin := false, skipSq := false, pkOnly := false, mtype := str "byte",
    tags := [{ name := [], desc := str "environment", raw := [], ncomm := 0 }, { name := str "k1", desc := str "c", raw := [], ncomm := 2 },
             { name := [], desc := [], raw := [], ncomm := 0 }],
    drafts := [{ key := str "d1", name := str "d1", desc := str "x", raw := [] }], mid := 7, ns := 0, vname := str "statshouse_api_remote_config", ver := 3 }

example : (compactForm .orig (str "statshouse_api_remote_config") mfCfg).desc = str "limit=5" ∧
    (compactForm .orig (str "statshouse_api_remote_config") mfCfg).tags = [{ name := [], desc := [], raw := [], ncomm := 0 }, { name := str "k1", desc := [], raw := [], ncomm := 0 }] ∧
    (compactForm .orig (str "abc") mfCfg).desc = [] ∧
    (compactForm .orig (str "abc") { mfCfg with desc := str "x __whales_off" }).desc = str "x __whales_off" := by decide +kernel

/-- SEEDED VARIANT (value.Name cleared before keepCompactMetricDescription is asked): the payload of a remote-config
    metric is lost, and two successive config edits compact to the same form (so a compact journal also skips the update) -/
example : (compactForm .seeded (str "statshouse_api_remote_config") mfCfg).desc = [] ∧
    compactForm .seeded (str "statshouse_api_remote_config") mfCfg =
      compactForm .seeded (str "statshouse_api_remote_config") { mfCfg with desc := str "limit=9" } ∧
    compactForm .orig (str "statshouse_api_remote_config") mfCfg ≠
      compactForm .orig (str "statshouse_api_remote_config") { mfCfg with desc := str "limit=9" } := by decide +kernel

/-- C20 (convergence "in compacted form", with the MODELLED compact function). `fld k` = (event name, metric fields) of
    content `k`. Hypothesis `hcf` — what a compact journal stores for `k` has the fields `compactForm` gives — is what the
    `cf` correspondence of cmd/verif-c20 checks on the real `compactJournalEvent` for every generated metric content.
    Then, for every schedule of the hop (`converges`), a caught-up compact replica holds for every entity of the upstream
    exactly `compactForm` of the upstream's latest version. -/
theorem converges_modelled_compact (tab : Nat → Content) (hT : TabOK tab true) (fld : Nat → Str × MF)
    (hcf : ∀ k f, storedAs tab true k = some f → fld f = ((fld k).1, compactForm .orig (fld k).1 (fld k).2))
    (ops : List Op) (w : W) (h : runW tab { R := { compact := true } } ops = some w) (hs : w.U.cur ≤ w.R.lv) :
    ∀ u ∈ w.U.entries, ∀ f, storedAs tab true u.k = some f →
      ∃ r ∈ w.R.entries, sameKey r u = true ∧ fld r.k = ((fld u.k).1, compactForm .orig (fld u.k).1 (fld u.k).2) := by
  intro u hu f hf
  obtain ⟨r, hr, hk, hrk, _⟩ := (converges tab true hT ops w h).2.2 hs |>.1 u hu f hf
  exact ⟨r, hr, hk, by rw [hrk]; exact hcf u.k f hf⟩

/-! ## N. two hops with a compact aggregator -/

/-- C20 (two hops, COMPACT aggregator allowed, aggregator never rolled back). Source S → aggregator A (kind `cA`) → agent G
    (kind `cG`). Every schedule of source edits, limited / cut deliveries on both hops, saves of both, restarts of the AGENT
    from an old or truncated file — but no restart of the aggregator. Whenever the aggregator has caught up with the source
    and the agent with the aggregator, the agent holds exactly the source's non-discarded entities, each in the doubly
    stored form `storedAs cG (storedAs cA ·)` of the source's latest version, and nothing else. -/
theorem two_hop_converges_compact_no_rollback (tab : Nat → Content) (cA cG : Bool) (hA : TabOK tab cA) (hG : TabOK tab cG)
    (ops : List Op2) (hno : NoRestartA ops) (w : W2)
    (h : run2 tab { A := { compact := cA }, G := { compact := cG } } ops = some w)
    (s1 : w.S.cur ≤ w.A.lv) (s2 : w.A.cur ≤ w.G.lv) :
    (∀ s ∈ w.S.entries, ∀ f1 f2, storedAs tab cA s.k = some f1 → storedAs tab cG f1 = some f2 →
        ∃ g ∈ w.G.entries, sameKey g s = true ∧ g.k = f2) ∧
    (∀ g ∈ w.G.entries, ∃ s ∈ w.S.entries, sameKey g s = true ∧
        ∃ f1, storedAs tab cA s.k = some f1 ∧ storedAs tab cG f1 = some g.k) := by
  have init : HopsInv tab { A := { compact := cA }, G := { compact := cG } } :=
    ⟨winv_init tab false cA, winv_init tab cA cG⟩
  obtain ⟨hi, cA', cG'⟩ := run2c_inv tab ops _ w hA hG hno init h
  simp only at cA' cG'
  obtain ⟨a1, b1⟩ := synced_contents tab w.A w.S hi.hop1.conv hi.hop1.jR hi.hop1.jU s1
  obtain ⟨a2, b2⟩ := synced_contents tab w.G w.A hi.hop2.conv hi.hop2.jR hi.hop1.jR s2
  rw [cA'] at a1 b1
  rw [cG'] at a2 b2
  refine ⟨?_, ?_⟩
  · intro s hs f1 f2 h1 h2
    obtain ⟨a, ha, ka, hak, _⟩ := a1 s hs f1 h1
    obtain ⟨g, hg, kg, hgk, _⟩ := a2 a ha f2 (by rw [hak]; exact h2)
    exact ⟨g, hg, sameKey_trans kg ka, hgk⟩
  · intro g hg
    obtain ⟨a, ha, kg, hga⟩ := b2 g hg
    obtain ⟨s, hs, ka, has⟩ := b1 a ha
    exact ⟨s, hs, sameKey_trans kg ka, a.k, has, hga⟩

/-- non-vacuity: the finding's schedule WITHOUT the aggregator restart, compact aggregator: the agent ends with the
    compact form 10 of X@3 (and the hypothesis `NoRestartA` holds) -/
example : NoRestartA (rollbackOps.filter (fun o => o ≠ .restartA 100000)) := by
  intro op hop k heq
  subst heq
  simp [rollbackOps] at hop
example : ∃ w, run2 tabK { A := { compact := true } } (rollbackOps.filter (fun o => o ≠ .restartA 100000)) = some w ∧
    w.S.cur ≤ w.A.lv ∧ w.A.cur ≤ w.G.lv ∧ w.G.entries.map (fun e => (e.ver, e.k)) = [(3, 10), (4, 13)] :=
  exists_of_any (by decide +kernel)

/-
  NOT PROVED (kept as the statement of the remaining partial; `two_hop_converges_compact_no_rollback` above is the part
  of it that is proved, `two_hop_converges_no_skip` covers roll-backs for skip-free chains, and
  `two_hop_compact_rollback_counterexample` shows the hypothesis `NoReturn` cannot be dropped):

    theorem two_hop_converges_compact_no_return (tab) (cA cG) (hA : TabOK tab cA) (hG : TabOK tab cG)
        (ops : List Op2)                       -- restarts of the aggregator from old / truncated files INCLUDED
        (w : W2) (h : run2 tab { A := { compact := cA }, G := { compact := cG } } ops = some w)
        (hnr : NoReturn tab cA (history of w.S))
        (s1 : w.S.cur ≤ w.A.lv) (s2 : w.A.cur ≤ w.G.lv) :
        (same conclusion as two_hop_converges_compact_no_rollback)

  Missing: the run-compressed invariant relative to the source — "an entry (v, f) of a journal at depth d stands for a run
  of source versions [v, v'] of its entity whose stored forms all equal f, v' being the entity's latest version not above
  the journal's loaderVersion" — lifted through `applyUpdate` and deliveries to an agent that is ahead of the aggregator.
-/

/-- C20 (two hops, compact aggregator WITH roll-backs, under `NoReturn`) — PARTIAL: not a statement about journals.
    For one stored entry `a` of a compact journal read as a run of source versions with identical stored form (`Covers`):
    a restart only shortens the run (`covers_shrink`); the skip of a later source version `he` with the same stored form
    — with unseen versions in between or not — extends it to `he.ver` (`covers_skip`, needs `NoReturn`), so an agent that
    received any version in between from the pre-restart aggregator holds that same form (the third conjunct unfolds
    the second). -/
theorem two_hop_converges_compact_no_return_partial (tab : Nat → Content) (c : Bool) (H : List Entry)
    (hnr : NoReturn tab c H) (a he : Entry) (L L' : Int) (hc : Covers tab c H a L) (hl : L' ≤ L)
    (heH : he ∈ H) (hk : sameKey he a = true) (hv : a.ver ≤ he.ver) (hf : storedAs tab c he.k = some a.k) :
    Covers tab c H a L' ∧ Covers tab c H a he.ver ∧
    ∀ h' ∈ H, sameKey h' a = true → a.ver ≤ h'.ver → h'.ver ≤ he.ver → storedAs tab c h'.k = some a.k :=
  ⟨covers_shrink tab c H a L L' hc hl, covers_restart_then_skip tab c H hnr a he L L' hc hl heH hk hv hf,
   (covers_restart_then_skip tab c H hnr a he L L' hc hl heH hk hv hf).2⟩

/-- non-vacuity: the history X@1 (form 10), X@3 (form 10) satisfies `NoReturn`; the finding's history X@1, X@2 (form 11),
    X@3 does not — and there the conclusion fails: the stale entry (1, 10) does not cover X@2 -/
example : NoReturn tabK true [mkEntry tabK 1 0, mkEntry tabK 3 2] := by unfold NoReturn; decide +kernel
example : ¬ NoReturn tabK true [mkEntry tabK 1 0, mkEntry tabK 2 1, mkEntry tabK 3 2] := by unfold NoReturn; decide +kernel
example : Covers tabK true [mkEntry tabK 1 0, mkEntry tabK 3 2] (mkEntry tabK 1 10) 1 := by unfold Covers; decide +kernel
example : storedAs tabK true (mkEntry tabK 2 1).k ≠ some (mkEntry tabK 1 10).k := by decide +kernel

end SH.C20
