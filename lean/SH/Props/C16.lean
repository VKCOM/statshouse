/-
  C16 — Replaying the metadata binlog reproduces the primary's state.

  "Reopening the metadata database from its binlog, either into a fresh database file or from an older snapshot, yields exactly
   the same observable state as the primary had for every committed operation: journal entries (names, versions, data,
   namespaces), entity history, tag mappings, flood-limit budgets and the bootstrap mapping set. This holds for every history
   of operations, including renames, deletions of mappings and predefined entities."
  Quantifier: all operation histories and all snapshot points from which replay starts.

  Model: SH.Model.Replay (`emit` = what each primary operation appends, `applyEvent` = binlog_event.go apply*) over the durable
  state of SH.Model.Meta (`Meta.step` = the primary's SaveEntity / GetOrCreateMapping / PutMapping / deleteMappingsByIdBatched /
  ResetFlood; `pstep` adds the bootstrap write).  A history is an arbitrary `List Replay.Op`; a snapshot point is a number `n` of
  operations after which the database file was copied (`snapshotOf`), the replica then applies the binlog from the position the
  snapshot carries, i.e. `binlog.drop (length of what the first n operations appended)`.
  "Observable state" = `view`: the whole durable state except the two things no reader can see (the upper 32 bits of
  metrics_v5.updated_at, which every reader casts away, and the process-local last-created mapping id); `journal_of_view` /
  `readers_of_view` show that JournalEvents, GetEntityVersioned, GetHistoryShort, GetMappingByValue/ByID, GetNewMappings, the
  flood-limit table and the bootstrap are functions of the view.

  FULL STATEMENT (false on the code as it is, see `reset_flood_is_not_replayed`):
      ∀ c ops n, (applyAll .fixed (snapshotOf (prun c ∅ (ops.take n))) ((eventsOf c ∅ ops).drop …)).map view = some (view (prun c ∅ ops))
  PROVED: (1) `replay_from_snapshot_partial` / `replay_into_fresh_db_partial`: the same with the hypothesis
  `noReset (ops.drop n)` — no ResetFlood AFTER the snapshot point (resets before it are in the snapshot); (2) WITHOUT any
  hypothesis, `replay_from_snapshot_all_but_flood` / `replay_into_fresh_db_all_but_flood`: for every history and every snapshot
  point the replay never fails and reproduces everything except the flood-limit table (`viewNF`), i.e. journal, history, tag
  mappings and bootstrap are covered at the full strength of the property; only "flood-limit budgets" carries the hypothesis.
  Both rest on `Blind π` (replay does not read what the projection `π` erases), proved once for `viewF F` — `view` with the flood table
  sent through any `F` with `FloodProj F` — and consumed by the simulation `replay_run_of`.
  ResetFlood writes flood_limits without appending any event; a fix needs a new TL event type (known finding
  `reset-flood-not-replayed`).  `RVariant.fixed` is applyEditEntityEvent with fixes/C16-replay-rename.diff; the pinned tree
  (`RVariant.old`) loses every rename on replay and can even fail to open (`old_replay_loses_rename`, `old_replay_can_fail`).
-/
import SH.Model.Replay
import SH.Props.C15
import SH.Props.C19

namespace SH.C16
open SH.Meta SH.Replay

theorem view_eq_iff (s r : State) :
    view s = view r ↔
      s.ents.map normEnt = r.ents.map normEnt ∧ s.entSeq = r.entSeq ∧ s.hist = r.hist ∧ s.maps = r.maps ∧
      s.mapSeq = r.mapSeq ∧ s.flood = r.flood ∧ s.bootstrap = r.bootstrap := by
  cases s; cases r
  simp only [view, State.mk.injEq, true_and]

theorem normEnt_idem (e : Entity) : normEnt (normEnt e) = normEnt e := by
  simp [normEnt]

theorem map_normEnt_idem (l : List Entity) : (l.map normEnt).map normEnt = l.map normEnt := by
  rw [List.map_map]
  exact List.map_congr_left (fun e _ => normEnt_idem e)

theorem insertById_norm (x : Entity) : ∀ l : List Entity, (insertById x l).map normEnt = insertById (normEnt x) (l.map normEnt) := by
  intro l
  induction l with
  | nil => rfl
  | cons y ys ih =>
    simp only [insertById, List.map_cons]
    by_cases h : x.id < y.id
    · have h' : (normEnt x).id < (normEnt y).id := h
      simp [h, h']
    · have h' : ¬ (normEnt x).id < (normEnt y).id := h
      simp [h, h', ih]

theorem replaceRow_norm (x : Entity) (l : List Entity) : (replaceRow x l).map normEnt = replaceRow (normEnt x) (l.map normEnt) := by
  unfold replaceRow
  simp only [List.map_map]
  apply List.map_congr_left
  intro e _
  simp only [Function.comp]
  by_cases h : e.id = x.id
  · have h' : (normEnt e).id = (normEnt x).id := h
    simp [h, h']
  · have h' : ¬ (normEnt e).id = (normEnt x).id := h
    simp [h, h']

theorem insertBlocked_norm (l : List Entity) (x : Entity) : insertBlocked (l.map normEnt) x = insertBlocked l x := by
  unfold insertBlocked
  rw [List.any_map]
  rfl

theorem updateBlocked_norm (l : List Entity) (x : Entity) : updateBlocked (l.map normEnt) x = updateBlocked l x := by
  unfold updateBlocked
  rw [List.any_map]
  rfl

theorem rowOf_norm (l : List Entity) (id : Int) : rowOf (l.map normEnt) id = (rowOf l id).map normEnt := by
  unfold rowOf
  rw [List.find?_map]
  rfl

/-- replay does not read what `π` erases: applied to `π s` instead of `s`, an event fails or succeeds alike, and `π` cannot tell the
    two results apart -/
def Blind (π : State → State) : Prop :=
  ∀ (var : RVariant) (s : State) (e : BEvent), (applyEvent var s e).map π = (applyEvent var (π s) e).map π

theorem Blind.congr {π : State → State} (hπ : Blind π) {r s : State} (h : π r = π s) (var : RVariant) (e : BEvent) :
    (applyEvent var r e).map π = (applyEvent var s e).map π := by
  rw [hπ var r, hπ var s, h]

theorem Blind.applyAll {π : State → State} (hπ : Blind π) (var : RVariant) :
    ∀ (es : List BEvent) {r s : State}, π r = π s → (applyAll var r es).map π = (applyAll var s es).map π := by
  intro es
  induction es with
  | nil => intro r s h; exact congrArg some h
  | cons e rest ih =>
    intro r s h
    have he := hπ.congr h var e
    simp only [Replay.applyAll]
    cases h1 : applyEvent var r e with
    | none =>
      cases h2 : applyEvent var s e with
      | none => rfl
      | some s' => rw [h1, h2] at he; cases he
    | some r' =>
      cases h2 : applyEvent var s e with
      | none => rw [h1, h2] at he; cases he
      | some s' => rw [h1, h2] at he; exact ih (Option.some.inj he)

/-- `view` with the flood table sent through `F`: the identity gives `view` (`viewF_id`), the constant `[]` gives `viewNF`, the view
    without the flood-limit table (`viewF_nil`) -/
def viewF (F : List Flood → List Flood) (s : State) : State :=
  { s with ents := s.ents.map normEnt, lastCreated := 0, flood := F s.flood }

theorem viewF_id : viewF id = view := rfl

/-- what `viewF F` needs of `F` to be blind: replay never reads the flood table and writes it by `setFlood` only -/
structure FloodProj (F : List Flood → List Flood) : Prop where
  idem : ∀ fl, F (F fl) = F fl
  set : ∀ fl f, F (setFlood (F fl) f) = F (setFlood fl f)

theorem editTarget_norm (F) (var : RVariant) (s : State) (ev : Event) (old : Nat) :
    editTarget var (viewF F s) ev old = (editTarget var s ev old).map normEnt := by
  unfold editTarget
  -- each `show` only reduces the goal, so that the `rw` / `split` after it finds its term
  show (match rowOf (s.ents.map normEnt) ev.id with | none => none | some r => _) = _
  rw [rowOf_norm]
  cases rowOf s.ents ev.id with
  | none => rfl
  | some r =>
    have hm : nameMatches var (normEnt r) ev = nameMatches var r ev := by cases var <;> rfl
    show (if ((normEnt r).version == old && nameMatches var (normEnt r) ev) = true then some (normEnt r) else none) = _
    rw [hm]
    show (if (r.version == old && nameMatches var r ev) = true then some (normEnt r) else none) =
      Option.map normEnt (if (r.version == old && nameMatches var r ev) = true then some r else none)
    split <;> rfl

/-- the UPDATE overwrites `updated_at`, the one column `normEnt` changes -/
theorem replayedRow_norm (var : RVariant) (r : Entity) (ev : Event) : replayedRow var (normEnt r) ev = replayedRow var r ev := by
  cases var <;> rfl

theorem viewF_ents (F) (s : State) : (viewF F s).ents = s.ents.map normEnt := rfl

theorem viewF_idem {F} (hF : FloodProj F) (s : State) : viewF F (viewF F s) = viewF F s := by
  simp only [viewF, map_normEnt_idem, hF.idem]

theorem viewF_addHistory {F} (hF : FloodProj F) (s : State) (ev : Event) :
    (addHistory s ev).map (viewF F) = (addHistory (viewF F s) ev).map (viewF F) := by
  unfold addHistory
  by_cases hb : histBlocked s.hist ev = true
  · simp only [viewF, hb, if_true, Option.map_none]
  · simp only [viewF, hb, Bool.false_eq_true, if_false, Option.map_some, map_normEnt_idem, hF.idem]

theorem putMany_viewF (F) : ∀ (kvs : List (Nat × Int)) (s : State), putMany (viewF F s) kvs = viewF F (putMany s kvs) := by
  intro kvs
  induction kvs with
  | nil => intro s; rfl
  | cons kv rest ih => intro s; exact ih (putOne s kv.1 kv.2)

/-- binlog_event.go apply* never read the upper bits of `updated_at` (the checks compare ids, versions, names; the UPDATE overwrites the
    column), the last created id or the flood table -/
theorem viewF_blind {F} (hF : FloodProj F) : Blind (viewF F) := by
  intro var s e
  cases e with
  | createEntity ev =>
    simp only [applyEvent, applyCreateEntity, viewF_ents, insertBlocked_norm]
    by_cases hb : insertBlocked s.ents (rowOfEvent ev) = true
    · simp only [hb, if_true, Option.map_none]
    · simp only [hb, Bool.false_eq_true, if_false]
      rw [viewF_addHistory hF, viewF_addHistory hF { viewF F s with ents := _, entSeq := _ }]
      simp only [viewF, insertById_norm, map_normEnt_idem, hF.idem]
  | editEntity ev old =>
    simp only [applyEvent, applyEditEntity, editTarget_norm]
    cases editTarget var s ev old with
    | none => exact viewF_addHistory hF s ev
    | some r =>
      simp only [Option.map_some, replayedRow_norm, viewF_ents, updateBlocked_norm]
      by_cases hb : updateBlocked s.ents (replayedRow var r ev) = true
      · simp only [hb, if_true, Option.map_none]
      · simp only [hb, Bool.false_eq_true, if_false]
        rw [viewF_addHistory hF, viewF_addHistory hF { viewF F s with ents := _ }]
        simp only [viewF, replaceRow_norm, map_normEnt_idem, hF.idem]
  | createMapping id key metric updatedAt budget create =>
    simp only [applyEvent, applyCreateMapping]
    by_cases hb : mapBlocked s.maps id key = true
    · simp only [viewF, hb, if_true, Option.map_none]
    · simp only [viewF, hb, Bool.false_eq_true, if_false, Option.map_some, map_normEnt_idem, hF.set]
  | putMapping kvs => simp only [applyEvent, Option.map_some, putMany_viewF, viewF_idem hF]
  | deleteMappings ids => simp only [applyEvent, applyDelete, Option.map_some, viewF, map_normEnt_idem, hF.idem]
  | putBootstrap ms => simp only [applyEvent, Option.map_some, viewF, map_normEnt_idem, hF.idem]

theorem view_blind : Blind view := viewF_id ▸ viewF_blind (F := id) ⟨fun _ => rfl, fun _ _ => rfl⟩

/-- binlog_event.go apply* respect the observable projection: replicas that look alike still look alike after any event -/
theorem view_applyEvent {r s : State} (h : view r = view s) (var : RVariant) (e : BEvent) :
    (applyEvent var r e).map view = (applyEvent var s e).map view :=
  view_blind.congr h var e

def isReset : Replay.Op → Bool
  | .base (.reset _ _ _) => true
  | _ => false

/-- no ResetFlood at all among `ops` (`C19.noReset m` is about one operation and one metric) -/
def noReset (ops : List Replay.Op) : Bool := ops.all (fun o => !isReset o)

theorem applyAll_append (var : RVariant) : ∀ (a b : List BEvent) (s : State),
    applyAll var s (a ++ b) = (applyAll var s a).bind (fun s' => applyAll var s' b) := by
  intro a
  induction a with
  | nil => intro b s; rfl
  | cons e rest ih =>
    intro b s
    simp only [List.cons_append, applyAll]
    cases applyEvent var s e with
    | none => rfl
    | some s' => exact ih b s'

/-- an AUTOINCREMENT insert, replayed as an insert with the explicit rowid `seq + 1`, leaves the same sqlite_sequence -/
theorem bumpSeq_succ (n : Nat) : bumpSeq n ((n + 1 : Nat) : Int) = n + 1 := by
  have : (n : Int) < ((n + 1 : Nat) : Int) := by push_cast; omega
  simp only [bumpSeq, this, if_true]
  simp

theorem bumpSeq_newSeq (s : State) (a : SaveReq) : bumpSeq s.entSeq (newId s a) = newSeq s a := by
  unfold newId newSeq
  split
  · have : ¬ ((s.entSeq : Int) < a.id) := by omega
    simp only [bumpSeq, this, if_false]
  · exact bumpSeq_succ _

theorem normEnt_created (a : SaveReq) (id : Int) (v : Nat) (nsId : Int) :
    normEnt (rowOfEvent (mkEvent a id v nsId)) = normEnt (createdRow a id v nsId) := by
  simp only [normEnt, rowOfEvent, mkEvent, createdRow, Nat.mod_mod]

theorem normEnt_edited (r : Entity) (a : SaveReq) (v : Nat) (nsId : Int) :
    normEnt (replayedRow .fixed r (mkEvent a r.id v nsId)) = normEnt (editedRow r a v nsId) := by
  simp only [normEnt, replayedRow, replayedName, mkEvent, editedRow, Nat.mod_mod]

theorem histBlocked_fresh {s : State} (hi : SH.C15.Inv s) (a : SaveReq) (id nsId : Int) :
    histBlocked s.hist (mkEvent a id (maxVer s.ents + 1) nsId) = false := by
  unfold histBlocked
  apply List.any_eq_false.mpr
  intro h hh
  have := SH.C15.hist_lt_new hi h hh
  simp only [mkEvent, beq_iff_eq]
  omega

/-- SaveEntity: the appended Create/EditEntityEvent, applied to the state the request ran in, gives the state it left -/
theorem save_replays (s : State) (a : SaveReq) (hi : SH.C15.Inv s) :
    (applyAll .fixed s (emitSave s a)).map view = some (view (save s a).1) := by
  have hs := SH.C15.save_shape .fixed s a
  unfold emitSave
  show (applyAll .fixed s (match (saveV .fixed s a).2 with
      | .ok ev true => [.createEntity ev] | .ok ev false => [.editEntity ev a.oldVersion] | .err _ => [])).map view =
      some (view (saveV .fixed s a).1)
  generalize saveV .fixed s a = p at hs
  cases hs with
  | err e => rfl
  | created nsId hns hc hb he =>
    have hfresh := SH.C15.newId_fresh s a hi he
    have hnb : insertBlocked s.ents (rowOfEvent (mkEvent a (newId s a) (maxVer s.ents + 1) nsId)) = false := by
      unfold insertBlocked
      apply List.any_eq_false.mpr
      intro e he'
      have h1 := hfresh e he'
      have h2 := SH.C15.le_maxVer s.ents e he'
      have h3 := SH.C15.conflict_false hc e he' h1
      have h2' : ¬ e.version = maxVer s.ents + 1 := by omega
      simp only [rowOfEvent, mkEvent, Bool.or_eq_true, beq_iff_eq, Bool.and_eq_true, not_or, not_and]
      exact ⟨⟨h1, h2'⟩, fun x y => h3 ⟨x.1, x.2, y⟩⟩
    have hnh := histBlocked_fresh hi a (newId s a) nsId
    simp only [applyAll, applyEvent, applyCreateEntity, hnb, Bool.false_eq_true, if_false, addHistory, hnh, Option.map_some,
      Option.some.injEq]
    rw [view_eq_iff]
    simp only [SH.C15.createdState, insertById_norm, normEnt_created]
    simp only [mkEvent, bumpSeq_newSeq, and_self]
  | edited nsId r hns hr hv hc hck hlate hb he =>
    obtain ⟨hrm, hrid⟩ := SH.C15.rowOf_some hr
    have htar : editTarget .fixed s (mkEvent a r.id (maxVer s.ents + 1) nsId) a.oldVersion = some r := by
      unfold editTarget
      simp only [mkEvent, hrid, hr, nameMatches, Bool.and_true, beq_iff_eq, hv, if_true]
    have hnb : updateBlocked s.ents (replayedRow .fixed r (mkEvent a r.id (maxVer s.ents + 1) nsId)) = false := by
      unfold updateBlocked
      apply List.any_eq_false.mpr
      intro e he'
      have h2 := SH.C15.le_maxVer s.ents e he'
      have h2' : ¬ e.version = maxVer s.ents + 1 := by omega
      simp only [replayedRow, replayedName, mkEvent, Bool.and_eq_true, bne_iff_ne, ne_eq, Bool.or_eq_true, beq_iff_eq, not_and, not_or]
      intro h1
      have h3 := SH.C15.conflict_false hc e he' h1
      exact ⟨h2', fun x y => h3 ⟨x.1, x.2, y⟩⟩
    have hnh := histBlocked_fresh hi a r.id nsId
    simp only [applyAll, applyEvent, applyEditEntity, htar, hnb, Bool.false_eq_true, if_false, addHistory, hnh, Option.map_some,
      Option.some.injEq]
    rw [view_eq_iff]
    simp only [SH.C15.editedState, replaceRow_norm, normEnt_edited, and_self]

/-- `Replay.newFloodRow`, the row the emitted event carries, read off the cases of `goc_shape` -/
theorem newFloodRow_created {c : Cfg} {s : State} {m now : Nat} {free : Int} (h : SH.MetaFlood.NewFree c s m now free) :
    newFloodRow c s m now = some { metric := m, last := roundTime now c.step, free := free } := by
  unfold newFloodRow
  rcases h with ⟨f, hf, hh, rfl⟩ | ⟨hf, rfl⟩
  · rw [hf]
    simp only [hh, Bool.false_eq_true, if_false]
  · rw [hf]

theorem newFloodRow_flood {c : Cfg} {s : State} {m now : Nat} {f : Flood} (hf : lookupFlood s.flood m = some f)
    (hh : floodHit c s f (roundTime now c.step) = true) : newFloodRow c s m now = none := by
  unfold newFloodRow
  rw [hf]
  simp only [hh, if_true]

/-- GetOrCreateMapping: replaying the CreateMappingEvent (if one was appended) gives the mapping row and the flood-limit row -/
theorem getOrCreate_replays (c : Cfg) (s : State) (m k now : Nat) (hm : SH.C19.MInv s) :
    (applyAll .fixed s (emitGetOrCreate c s m k now)).map view = some (view (getOrCreate c s m k now).1) := by
  have hs := SH.MetaFlood.goc_shape c s m k now
  unfold emitGetOrCreate
  generalize getOrCreate c s m k now = p at hs
  cases hs with
  | got id hk => simp only [hk]; rfl
  | flood f hk hf hh => simp only [hk, newFloodRow_flood hf hh]; rfl
  | created free hk hfree =>
    have hnb : mapBlocked s.maps ((s.mapSeq + 1 : Nat) : Int) k = false := by
      unfold mapBlocked
      apply List.any_eq_false.mpr
      intro p hp
      have h1 := hm.seqBound p hp
      have h2 := SH.C19.lookupKey_none hk p hp
      simp only [Bool.or_eq_true, beq_iff_eq, not_or]
      exact ⟨by push_cast; omega, h2⟩
    simp only [hk, newFloodRow_created hfree, applyAll, applyEvent, applyCreateMapping, hnb, Bool.false_eq_true, if_false,
      Option.map_some, Option.some.injEq, bumpSeq_succ]
    rw [view_eq_iff]
    simp only [and_self]

theorem present_contains (s : State) (ids : List Int) : ∀ p ∈ s.maps, (presentIds s ids).contains p.1 = ids.contains p.1 := by
  intro p hp
  unfold presentIds
  by_cases h : ids.contains p.1 = true
  · rw [h]
    apply List.contains_iff_mem.mpr
    exact List.mem_map.mpr ⟨p, List.mem_filter.mpr ⟨hp, h⟩, rfl⟩
  · have h' : ids.contains p.1 = false := by simpa using h
    rw [h']
    apply Bool.eq_false_iff.mpr
    intro hc
    obtain ⟨q, hq, hqp⟩ := List.mem_map.mp (List.contains_iff_mem.mp hc)
    have := (List.mem_filter.mp hq).2
    rw [hqp] at this
    exact h this

/-- deleteMappingsByIdBatched: the event carries the present ids only (or is not written at all) and deletes the same rows -/
theorem delete_replays (s : State) (ids : List Int) :
    (applyAll .fixed s (emitDelete s ids)).map view = some (view (deleteIds s ids).1) := by
  have hcongr : s.maps.filter (fun p => !(presentIds s ids).contains p.1) = s.maps.filter (fun p => !ids.contains p.1) := by
    apply List.filter_congr
    intro p hp
    rw [present_contains s ids p hp]
  unfold emitDelete deleteIds
  by_cases he : (presentIds s ids).isEmpty = true
  · simp only [he, if_true, applyAll, Option.map_some, Option.some.injEq]
    have hnil : presentIds s ids = [] := List.isEmpty_iff.mp he
    rw [hnil] at hcongr
    rw [view_eq_iff]
    simp only [← hcongr, List.contains_nil, Bool.not_false, true_and, and_true]
    exact (List.filter_eq_self.mpr (fun _ _ => rfl)).symm
  · simp only [he, Bool.false_eq_true, if_false, applyAll, applyEvent, applyDelete, Option.map_some, Option.some.injEq]
    rw [view_eq_iff]
    simp only [hcongr, and_self]

/-- every operation except ResetFlood: applying the events it appended to the state it ran in yields the state it produced -/
theorem emit_replays (c : Cfg) (s : State) (o : Replay.Op) (hi : SH.C15.Inv s) (hm : SH.C19.MInv s) (hr : isReset o = false) :
    (applyAll .fixed s (emit c s o)).map view = some (view (pstep c s o)) := by
  cases o with
  | bootstrap ms => rfl
  | base b =>
    cases b with
    | save a => exact save_replays s a hi
    | getOrCreate m k now => exact getOrCreate_replays c s m k now hm
    | put kvs => rfl
    | delete ids => exact delete_replays s ids
    | reset m l now => simp [isReset] at hr

theorem pstep_inv (c : Cfg) (s : State) (o : Replay.Op) (hi : SH.C15.Inv s) : SH.C15.Inv (pstep c s o) := by
  cases o with
  | base b => exact SH.C15.step_inv c s b hi
  | bootstrap ms => exact SH.C15.inv_congr (s := s) rfl rfl rfl hi

theorem pstep_minv (c : Cfg) (s : State) (o : Replay.Op) (hm : SH.C19.MInv s) : SH.C19.MInv (pstep c s o) := by
  cases o with
  | base b => exact SH.C19.minv_step c s b hm
  | bootstrap ms => exact ⟨hm.keyUniq, hm.idUniq, hm.seqBound⟩

theorem prun_inv (c : Cfg) (ops : List Replay.Op) (s : State) (hi : SH.C15.Inv s) (hm : SH.C19.MInv s) :
    SH.C15.Inv (prun c s ops) ∧ SH.C19.MInv (prun c s ops) :=
  List.foldlRecOn (motive := fun t => SH.C15.Inv t ∧ SH.C19.MInv t) ops (pstep c) ⟨hi, hm⟩
    (fun t ht o _ => ⟨pstep_inv c t o ht.1, pstep_minv c t o ht.2⟩)

/-- the simulation, for any projection `f` that replay respects: if replaying what an operation (one satisfying `P`) appended
    reproduces `f` of what it did, then a replica that agrees with the primary under `f` and applies everything the primary
    appended since still agrees with it -/
theorem replay_run_of (f : State → State) (c : Cfg) (P : Replay.Op → Prop) (hf : Blind f)
    (hemit : ∀ (s : State) (o : Replay.Op), SH.C15.Inv s → SH.C19.MInv s → P o →
      (applyAll .fixed s (emit c s o)).map f = some (f (pstep c s o))) :
    ∀ (ops : List Replay.Op) (s r : State), SH.C15.Inv s → SH.C19.MInv s → (∀ o ∈ ops, P o) → f r = f s →
      (applyAll .fixed r (eventsOf c s ops)).map f = some (f (prun c s ops)) := by
  intro ops
  induction ops with
  | nil => intro s r _ _ _ hv; simp [eventsOf, applyAll, prun, hv]
  | cons o rest ih =>
    intro s r hi hm hP hv
    have hstep : (applyAll .fixed r (emit c s o)).map f = some (f (pstep c s o)) := by
      rw [hf.applyAll .fixed (emit c s o) hv]
      exact hemit s o hi hm (hP o List.mem_cons_self)
    simp only [eventsOf, applyAll_append]
    cases h1 : applyAll .fixed r (emit c s o) with
    | none => simp [h1] at hstep
    | some r1 =>
      simp only [h1, Option.map_some, Option.some.injEq] at hstep
      simp only [Option.bind_some]
      exact ih (pstep c s o) r1 (pstep_inv c s o hi) (pstep_minv c s o hm) (fun o' h => hP o' (List.mem_cons_of_mem _ h)) hstep

/-- a replica that looks like the primary did at some point (same view; e.g. an older replica that has applied a prefix) and
    applies everything the primary appended since ends up looking like the primary: simulation over a whole suffix -/
theorem replay_run (c : Cfg) : ∀ (ops : List Replay.Op) (s r : State), SH.C15.Inv s → SH.C19.MInv s → noReset ops = true →
    view r = view s → (applyAll .fixed r (eventsOf c s ops)).map view = some (view (prun c s ops)) := by
  intro ops s r hi hm hn hv
  refine replay_run_of view c (fun o => isReset o = false) view_blind (emit_replays c) ops s r hi hm ?_ hv
  simpa [noReset] using hn

theorem prun_append (c : Cfg) (a b : List Replay.Op) (s : State) : prun c s (a ++ b) = prun c (prun c s a) b := by
  simp [prun, List.foldl_append]

theorem eventsOf_append (c : Cfg) : ∀ (a b : List Replay.Op) (s : State),
    eventsOf c s (a ++ b) = eventsOf c s a ++ eventsOf c (prun c s a) b := by
  intro a
  induction a with
  | nil => intro b s; rfl
  | cons o rest ih =>
    intro b s
    simp only [List.cons_append, eventsOf, ih, List.append_assoc]
    rfl

theorem reachable (c : Cfg) (ops : List Replay.Op) :
    SH.C15.Inv (prun c State.empty ops) ∧ SH.C19.MInv (prun c State.empty ops) :=
  prun_inv c ops _ SH.C15.inv_empty SH.C19.minv_empty

theorem snapshot_split (c : Cfg) (ops : List Replay.Op) (n : Nat) :
    (eventsOf c State.empty ops).drop (eventsOf c State.empty (ops.take n)).length
      = eventsOf c (prun c State.empty (ops.take n)) (ops.drop n) ∧
    prun c State.empty ops = prun c (prun c State.empty (ops.take n)) (ops.drop n) := by
  constructor
  · have : eventsOf c State.empty ops
        = eventsOf c State.empty (ops.take n) ++ eventsOf c (prun c State.empty (ops.take n)) (ops.drop n) := by
      rw [← eventsOf_append, List.take_append_drop]
    rw [this, List.drop_left]
  · rw [← prun_append, List.take_append_drop]

/-- C16, snapshot + suffix (PARTIAL: `noReset` on the replayed suffix).  For every history `ops` and every snapshot point `n`:
    a copy of the primary's database taken after the first `n` operations, replaying the binlog from the snapshot's position,
    never fails and ends with exactly the primary's observable state. -/
theorem replay_from_snapshot_partial (c : Cfg) (ops : List Replay.Op) (n : Nat) (h : noReset (ops.drop n) = true) :
    (applyAll .fixed (snapshotOf (prun c State.empty (ops.take n)))
        ((eventsOf c State.empty ops).drop (eventsOf c State.empty (ops.take n)).length)).map view
      = some (view (prun c State.empty ops)) := by
  rw [(snapshot_split c ops n).1, (snapshot_split c ops n).2]
  obtain ⟨hi, hm⟩ := reachable c (ops.take n)
  exact replay_run c (ops.drop n) _ _ hi hm h rfl

/-- C16, fresh database file (PARTIAL: no ResetFlood in the history): replaying the whole binlog into an empty database never
    fails and ends with the primary's observable state. -/
theorem replay_into_fresh_db_partial (c : Cfg) (ops : List Replay.Op) (h : noReset ops = true) :
    (applyAll .fixed State.empty (eventsOf c State.empty ops)).map view = some (view (prun c State.empty ops)) :=
  replay_run c ops _ _ SH.C15.inv_empty SH.C19.minv_empty h rfl

/-- error path: a rejected SaveEntity appends nothing and changes nothing -/
theorem failed_save_appends_nothing (s : State) (a : SaveReq) (e : Err) (h : (save s a).2 = .err e) :
    emitSave s a = [] ∧ (save s a).1 = s := by
  refine ⟨?_, SH.C15.failed_save_unchanged s a e h⟩
  unfold emitSave
  rw [h]

theorem insertByVer_norm (x : Entity) : ∀ l : List Entity, (insertByVer x l).map normEnt = insertByVer (normEnt x) (l.map normEnt) := by
  intro l
  induction l with
  | nil => rfl
  | cons y ys ih =>
    simp only [insertByVer, List.map_cons]
    by_cases h : x.version < y.version
    · have h' : (normEnt x).version < (normEnt y).version := h
      simp [h, h']
    · have h' : ¬ (normEnt x).version < (normEnt y).version := h
      simp [h, h', ih]

theorem sortByVer_norm : ∀ l : List Entity, (sortByVer l).map normEnt = sortByVer (l.map normEnt) := by
  intro l
  induction l with
  | nil => rfl
  | cons y ys ih =>
    simp only [sortByVer, List.foldr_cons, List.map_cons] at ih ⊢
    rw [insertByVer_norm, ih]

theorem takeJournal_norm (limit : Int) : ∀ (l : List Entity) (n b : Nat),
    (takeJournal limit n b l).map normEnt = takeJournal limit n b (l.map normEnt) := by
  intro l
  induction l with
  | nil => intro n b; rfl
  | cons y ys ih =>
    intro n b
    simp only [takeJournal, List.map_cons]
    have hd : (normEnt y).dataLen = y.dataLen := rfl
    rw [hd]
    by_cases h1 : metricBytesReadLimit < b + y.dataLen + 20
    · simp [h1]
    · by_cases h2 : limit ≤ (n : Int) + 1
      · simp [h1, h2]
      · simp [h1, h2, ih]

/-- JournalEvents answers from the view (it casts updated_at to uint32 = `normEnt`) -/
theorem journal_of_view (s : State) (since : Nat) (page : Int) :
    (journal s since page).map normEnt = journal (view s) since page := by
  unfold journal journalRows
  rw [takeJournal_norm, sortByVer_norm]
  congr 2
  show _ = List.filter _ (List.map normEnt s.ents)
  rw [List.filter_map]
  rfl

/-- the other readers do not look at anything `view` changes -/
theorem readers_of_view (s : State) :
    (∀ id v, getVersioned (view s) id v = getVersioned s id v) ∧ (∀ id, historyShort (view s) id = historyShort s id) ∧
    (∀ k, lookupKey (view s).maps k = lookupKey s.maps k) ∧ (∀ id, lookupId (view s).maps id = lookupId s.maps id) ∧
    (∀ f p, newMappings (view s) f p = newMappings s f p) ∧ (view s).flood = s.flood ∧ (view s).bootstrap = s.bootstrap :=
  ⟨fun _ _ => rfl, fun _ => rfl, fun _ => rfl, fun _ => rfl, fun _ _ => rfl, rfl, rfl⟩

def c0 : Cfg := { maxBudget := 2, step := 60, bonus := 1, globalBudget := 0 }

def req (loc : Nat) (id : Int) (oldVersion : Nat) (create : Bool) (now : Nat) (typ : Nat := tMetric) (ns : Nat := 0) : SaveReq :=
  { name := ⟨ns, loc⟩, id := id, oldVersion := oldVersion, data := 7, dataLen := 2, create := create, deleteTime := 0, typ := typ,
    mdata := 1, now := now }

/-- create metric w1 · rename it to w2 · create another metric w1 (the freed name) · create mapping · put · delete · bootstrap ·
    builtin entity -3 · rename it; the clock passes 2^32 -/
def h1 : List Replay.Op :=
  [.base (.save (req 1 0 0 true 1000)), .base (.save (req 2 1 1 false 1060)), .base (.save (req 1 0 0 true 4294967400)),
   .base (.getOrCreate 1 5 4294967400), .base (.put [(6, 9), (5, 3)]), .base (.delete [9, 4]), .bootstrap [(5, 3)],
   .base (.save (req 4 (-3) 0 false 4294967500)), .base (.save (req 5 (-3) 4 false 4294967500))]

/-- non-vacuity: the hypotheses of the partial theorems hold for a history with a rename, a reused name, builtin entities, mapping
    creation / put / deletion, bootstrap and a clock beyond 2^32, at a snapshot point in the middle … -/
example : noReset (h1.drop 2) = true ∧ noReset h1 = true := by decide +kernel
/-- … and (independently of the theorem) the model really ends in the same view, from the snapshot and from scratch, while the raw
    states differ (updated_at, last created id) -/
example : (applyAll .fixed (snapshotOf (prun c0 State.empty (h1.take 2)))
            ((eventsOf c0 State.empty h1).drop (eventsOf c0 State.empty (h1.take 2)).length)).map view
          = some (view (prun c0 State.empty h1)) := by decide +kernel
example : applyAll .fixed State.empty (eventsOf c0 State.empty h1) ≠ some (prun c0 State.empty h1) := by decide +kernel

/-- ResetFlood after creating a mapping: the primary holds budget 7 stamped 200, the binlog knows nothing about it -/
def hReset : List Replay.Op := [.base (.getOrCreate 1 5 100), .base (.reset 1 7 200)]

/-- the FULL statement is false on the code as it is: ResetFlood changes flood_limits and appends nothing -/
theorem reset_flood_is_not_replayed :
    (applyAll .fixed State.empty (eventsOf c0 State.empty hReset)).map view ≠ some (view (prun c0 State.empty hReset)) ∧
    (applyAll .fixed State.empty (eventsOf c0 State.empty hReset)).map (·.flood) = some [{ metric := 1, last := 60, free := 1 }] ∧
    (prun c0 State.empty hReset).flood = [{ metric := 1, last := 200, free := 7 }] := by decide +kernel

/-- the pinned tree (`RVariant.old`): create w1, rename to w2 — the replica still shows w1 at version 1 (and has a history row
    for version 2 of an entity it lists at version 1) -/
theorem old_replay_loses_rename :
    (applyAll .old State.empty (eventsOf c0 State.empty (h1.take 2))).map (fun r => r.ents.map (fun e => (e.name, e.version)))
      = some [(⟨0, 1⟩, 1)] ∧
    (prun c0 State.empty (h1.take 2)).ents.map (fun e => (e.name, e.version)) = [(⟨0, 2⟩, 2)] ∧
    (applyAll .old State.empty (eventsOf c0 State.empty (h1.take 2))).map view ≠ some (view (prun c0 State.empty (h1.take 2))) := by
  decide +kernel

/-- … and once another entity takes the freed name the replayed create hits UNIQUE(namespace_id, type, name): OpenDB fails -/
theorem old_replay_can_fail : applyAll .old State.empty (eventsOf c0 State.empty (h1.take 3)) = none := by decide +kernel

/-- with the fix the same histories replay exactly -/
example : (applyAll .fixed State.empty (eventsOf c0 State.empty (h1.take 3))).map view = some (view (prun c0 State.empty (h1.take 3))) := by
  decide +kernel

/-- forget the flood-limit table -/
def nf (s : State) : State := { s with flood := [] }

def viewNF (s : State) : State := nf (view s)

theorem viewF_nil : viewF (fun _ => []) = viewNF := rfl

theorem viewNF_blind : Blind viewNF := viewF_nil ▸ viewF_blind (F := fun _ => []) ⟨fun _ => rfl, fun _ _ => rfl⟩

/-- EVERY operation (ResetFlood included): replaying what it appended reproduces everything but the flood-limit table -/
theorem emit_replays_nf (c : Cfg) (s : State) (o : Replay.Op) (hi : SH.C15.Inv s) (hm : SH.C19.MInv s) :
    (applyAll .fixed s (emit c s o)).map viewNF = some (viewNF (pstep c s o)) := by
  have hother : ∀ o, isReset o = false → (applyAll .fixed s (emit c s o)).map viewNF = some (viewNF (pstep c s o)) := by
    intro o hr
    have : viewNF = nf ∘ view := rfl
    rw [this, ← Option.map_map, emit_replays c s o hi hm hr]
    rfl
  cases o with
  | bootstrap ms => exact hother _ rfl
  | base b =>
    cases b with
    | reset m l now =>
      simp only [emit, applyAll, Option.map_some, Option.some.injEq, pstep, Meta.step, SH.MetaFlood.resetFlood_eq]
      rfl
    | _ => exact hother _ rfl

theorem replay_run_nf (c : Cfg) (ops : List Replay.Op) (s r : State) (hi : SH.C15.Inv s) (hm : SH.C19.MInv s)
    (hv : viewNF r = viewNF s) : (applyAll .fixed r (eventsOf c s ops)).map viewNF = some (viewNF (prun c s ops)) :=
  replay_run_of viewNF c (fun _ => True) viewNF_blind (fun s o hi hm _ => emit_replays_nf c s o hi hm)
    ops s r hi hm (fun _ _ => trivial) hv

/-- C16 at full strength for everything EXCEPT the flood-limit budgets: for EVERY history (ResetFlood anywhere) and EVERY
    snapshot point the replay never fails and reproduces journal entries, entity history, tag mappings (with both AUTOINCREMENT
    marks) and the bootstrap set exactly. -/
theorem replay_from_snapshot_all_but_flood (c : Cfg) (ops : List Replay.Op) (n : Nat) :
    (applyAll .fixed (snapshotOf (prun c State.empty (ops.take n)))
        ((eventsOf c State.empty ops).drop (eventsOf c State.empty (ops.take n)).length)).map viewNF
      = some (viewNF (prun c State.empty ops)) := by
  rw [(snapshot_split c ops n).1, (snapshot_split c ops n).2]
  obtain ⟨hi, hm⟩ := reachable c (ops.take n)
  exact replay_run_nf c (ops.drop n) _ _ hi hm rfl

theorem replay_into_fresh_db_all_but_flood (c : Cfg) (ops : List Replay.Op) :
    (applyAll .fixed State.empty (eventsOf c State.empty ops)).map viewNF = some (viewNF (prun c State.empty ops)) :=
  replay_run_nf c ops _ _ SH.C15.inv_empty SH.C19.minv_empty rfl

/-- the conclusion is not empty: on the history with a ResetFlood the mapping table is reproduced although the flood table is not -/
example : (applyAll .fixed State.empty (eventsOf c0 State.empty hReset)).map (·.maps) = some [(1, 5)] ∧
    (viewNF (prun c0 State.empty hReset)).maps = [(1, 5)] := by decide +kernel

end SH.C16
