/-
  C26 — User-supplied filter values cannot change the structure of storage queries.

  "For any tag filter values and regular expressions, the generated storage query is well-formed, each user-supplied
   string appears only inside a single correctly escaped string literal that decodes back to the original string, and
   the where-clause selects exactly the rows matching the requested inclusion and exclusion filters."
  Quantifier: all filter value strings and regexes (including quotes, backslashes and control characters),
  mapped/unmapped/empty values, raw tags and both filter polarities.

  Model: SH.Model.Sql (escape = escapeReplacer, whereFrags/whereBytes = writeWhere, tagAtoms = the clauses writeTagFilter
  writes for one tag, queryFrags = the three complete query texts, lexLit/scan = ClickHouse's quoted-literal lexer,
  evalWhere = row semantics of the condition, getTagFilter = requestHandler.GetTagFilter). The definitions the statements
  use and the lemmas are in SH/Lemmas/Sql.lean. The where text has theorems of its own beside the whole-query ones because
  the Go harness compares the output of writeWhere separately.

  Hypotheses of the theorems, all shown necessary by a witness below unless said otherwise:
   `unlit_escape`: what follows the literal does not start with a quote (`''` is a doubled quote for ClickHouse; the builder
       never writes one there: field `wf` of `Frs_whereFrags` / `Frs_queryFrags`, on which `where_scans` /
       `query_wellformed` rest);
   `RegexCovers`: with a regular expression the builder drops the string values, right only if the expression matches them
       (the promql engine adds only such values); `regex_invariant_needed`;
   `QOK`: configuration, not filter values — the time-zone name is written between quotes unescaped (witness `badQ`), the
       SETTINGS text has no quote or parenthesis (no witness);
   `r.n ≠ -2`: rows do not hold TagValueIDDoesNotExist, the id GetTagFilter gives a string without mapping.
  Parentheses are balanced at the level the model has; the Go oracle additionally parses the real text with a grammar.
  ClickHouse's integer typing used by `raw64_reassembles` is trusted (rules listed in checks/C26.py); `TagRow.n` is the value
  of the where-clause's integer expression by definition, no theorem links it to `IExpr.eval` (the harness compares them).
-/
import SH.Lemmas.Sql

namespace SH.C26
open SH.Sql

theorem unlit_escape (s r : Bytes) (hr : r.head? ≠ some q) :
    unlit (q :: (escape s ++ q :: r)) = some (s, r) := by
  simp [unlit, lexLit_escape s r hr]

/-- **Positive filter.** The condition written for a tag selects a row iff the row's tag matches a requested value
    (mapped id, string, or the empty value) or the regular expression — including `0!=0` when nothing is mapped, the
    empty-value clause and raw tags (no string clauses). -/
theorem in_selects_exactly (re : Bytes → Bytes → Bool) (raw : Bool) (f : TagFilter) (r : TagRow)
    (hinv : RegexCovers re raw f) :
    evalAtoms re true r (tagAtoms true raw f) = requested re raw f r := by
  simp only [evalAtoms_tagAtoms, beq_true, requested, any_valMatches]
  -- the two sides differ only when a regular expression is present: the builder then writes `match` instead of the
  -- string list, and `RegexCovers` says the expression matches whatever the list would have matched
  cases raw
  · by_cases hre : f.re2.isEmpty = true
    · simp [hre]
    · have hre' : f.re2.isEmpty = false := by simpa using hre
      simp only [hre', Bool.not_false, Bool.true_and, if_false, Bool.false_eq_true]
      cases hS : (strVals f).contains r.s
      · simp; ac_rfl
      · simp [strVals_covered hinv hre' hS]
  · simp

/-- **Negative filter.** The condition selects a row iff the row's tag matches no requested value and not the regular
    expression (`0=0` when nothing is mapped). -/
theorem notin_selects_exactly (re : Bytes → Bytes → Bool) (raw : Bool) (f : TagFilter) (r : TagRow)
    (hinv : RegexCovers re raw f) :
    evalAtoms re false r (tagAtoms false raw f) = !requested re raw f r := by
  have := in_selects_exactly re raw f r hinv
  simp only [evalAtoms_tagAtoms, beq_true] at this
  simp only [evalAtoms_tagAtoms, beq_false, this]

/-- **Each user string sits in exactly one literal that decodes back to it.** For every configuration and all filters,
    ClickHouse's literal scanner splits the where text written by the builder into exactly the expected user strings and
    a skeleton. -/
theorem where_scans (c : Cfg) (fin fnotin : Filters) :
    scanAll (whereBytes c fin fnotin) = some (whereStrings c fin fnotin, skel (whereFrags c fin fnotin)) :=
  (Frs_whereFrags c fin fnotin).scans.1

theorem where_skeleton_no_quote (c : Cfg) (fin fnotin : Filters) : NoQ (skel (whereFrags c fin fnotin)) :=
  (Frs_whereFrags c fin fnotin).scans.2.1

theorem where_skeleton_balanced (c : Cfg) (fin fnotin : Filters) : bal 0 (skel (whereFrags c fin fnotin)) = some 0 :=
  (Frs_whereFrags c fin fnotin).depth 0

/-- **User strings cannot change the structure of the query.** -/
theorem where_skeleton_independent {g : Bytes → Bytes} (hg : KeepsEmpty g) (c : Cfg) (fin fnotin : Filters) :
    skel (whereFrags c (mapFilters g fin) (mapFilters g fnotin)) = skel (whereFrags c fin fnotin) := by
  simp only [whereFrags, skel_append, skel_tagFilterFrags_map hg]

/-- **The where-clause selects exactly the requested rows**: the fixed conditions, the metric condition, every positive
    filter matched, no negative filter matched. -/
theorem where_selects_exactly (re : Bytes → Bytes → Bool) (c : Cfg) (fin fnotin : Filters) (r : Row)
    (hin : ∀ x, RegexCovers re (isRaw c x) (fin.get x)) (hnot : ∀ x, RegexCovers re (isRaw c x) (fnotin.get x)) :
    evalWhere re c fin fnotin r = true ↔
      baseSel c r = true ∧ metricSel c r.metric = true ∧
      (∀ x, x < maxTags → (fin.get x).isEmpty = false → requested re (isRaw c x) (fin.get x) (r.tag x) = true) ∧
      (∀ x, x < maxTags → (fnotin.get x).isEmpty = false → requested re (isRaw c x) (fnotin.get x) (r.tag x) = false) := by
  simp only [evalWhere, Bool.and_eq_true, List.all_eq_true, List.mem_range, tagSel, Bool.or_eq_true,
    in_selects_exactly re _ _ _ (hin _), notin_selects_exactly re _ _ _ (hnot _), Bool.not_eq_true', and_assoc,
    Decidable.or_iff_not_imp_left, Bool.not_eq_true]

/-! ### the complete query text (buildSeriesQuery / buildTagValuesQuery / buildTagValueIDsQuery) -/

/-- **The whole query is well-formed and user strings occur only inside their own literals.** For every builder
    configuration, digest selection, group-by list, sort direction, mode and all filters: ClickHouse's literal scanner splits
    the complete query text into exactly `queryStrings` (each filter string once, decoded back to the original) and a
    skeleton; the skeleton contains no quote and its parentheses balance without ever closing below zero.
    `QOK` constrains configuration only (time-zone name, SETTINGS text), never filter values. -/
theorem query_wellformed (c : Cfg) (e : QCfg) (h : QOK e) (fin fnotin : Filters) (fs : List Frag)
    (hf : queryFrags c e fin fnotin = some fs) :
    scanAll (flatten fs) = some (queryStrings c e fin fnotin, skel fs) ∧ NoQ (skel fs) ∧ bal 0 (skel fs) = some 0 := by
  have hs := (Frs_queryFrags c h fin fnotin fs hf).scans
  exact ⟨hs.1, hs.2.1, hs.2.2 0⟩

theorem query_wellformed_bytes (c : Cfg) (e : QCfg) (h : QOK e) (fin fnotin : Filters) (t : Bytes)
    (ht : queryBytes c e fin fnotin = some t) :
    ∃ sk, scanAll t = some (queryStrings c e fin fnotin, sk) ∧ NoQ sk ∧ bal 0 sk = some 0 := by
  simp only [queryBytes] at ht
  split at ht
  · cases ht
  · rename_i fs hf
    cases ht
    exact ⟨skel fs, query_wellformed c e h fin fnotin fs hf⟩

/-- **User strings cannot change the structure of the whole query**: applying one substitution that keeps emptiness to every
    filter string (equal strings are replaced by equal strings) leaves the skeleton of the complete text, and whether the
    builder fails, unchanged. -/
theorem query_skeleton_independent {g : Bytes → Bytes} (hg : KeepsEmpty g) (c : Cfg) (e : QCfg) (fin fnotin : Filters) :
    (queryFrags c e (mapFilters g fin) (mapFilters g fnotin)).map skel = (queryFrags c e fin fnotin).map skel := by
  have hw := where_skeleton_independent hg c fin fnotin
  simp only [queryFrags]
  split
  · simp only [seriesFrags]
    split
    · rfl
    · simp only [Option.map_some, skel_raw, skel_append, hw]
  · simp only [tagValuesFrags, Option.map_some, skel_raw, skel_append, hw]

/-- the text of a `match` clause: the pattern is written once, as `'` ++ escape re ++ `'`, in both polarities -/
theorem match_clause_text (neg : Bool) (intE strE re : Bytes) :
    flatten ((Atom.reMatch neg re).frags intE strE) =
      (notText neg ++ str "match(" ++ strE ++ str ",") ++ q :: (escape re ++ q :: str ")") := by
  simp [Atom.frags, flatten, Frag.bytes]

/-- `unlit_escape` at the text that follows the pattern in `match_clause_text`: the lexer applied at the pattern's opening
    quote returns exactly `re` and continues at the `)` of `match(…)`, whatever follows the clause. That a written clause
    scans into its pattern is `regex_decodes_in_tag`. -/
theorem regex_literal_decodes (re rest : Bytes) :
    unlit (q :: (escape re ++ q :: (str ")" ++ rest))) = some (re, str ")" ++ rest) :=
  unlit_escape re _ (by simp [str]; decide)

/-- where a regular expression is written: for a non-raw tag with a regular expression, in the positive as well as in the
    negative filter, the condition of the tag scans into exactly the pattern (then `''` of the empty-value clause if an
    empty value is present) … -/
theorem regex_decodes_in_tag (c : Cfg) (isIn : Bool) (x : Nat) (f : TagFilter)
    (hraw : isRaw c x = false) (hre : f.re2.isEmpty = false) :
    scanAll (flatten (tagFrags c isIn x f)) =
      some (f.re2 :: (if hasEmpty f then [[]] else []), skel (tagFrags c isIn x f)) := by
  rw [(Frs_tagFrags c isIn x f).scans.1]
  have hne : f.isEmpty = false := by simp [TagFilter.isEmpty, hre]
  simp [tagStrings, hraw, hre, hne]

/-- … and for a raw tag no pattern (and no other string) is written at all. -/
theorem regex_not_written_for_raw (c : Cfg) (isIn : Bool) (x : Nat) (f : TagFilter) (hraw : isRaw c x = true) :
    lits (tagFrags c isIn x f) = [] := by
  rw [lits_tagFrags]
  simp [tagStrings, hraw]

/-! ### witnesses for the theorems above (non-vacuity, necessity of the hypotheses) -/

/-- a `)` below depth zero is rejected, an unclosed `(` leaves depth 1: `bal` is not trivially `some 0` -/
example : bal 0 (str "a)(") = none := by decide +kernel
example : bal 0 (str "(a") = some 1 := by decide +kernel

/-- hostile string `\' OR 1=1 --` : escaped, lexed, recovered; the rest of the query is untouched -/
example : unlit (q :: (escape (str "\\' OR 1=1 --") ++ q :: str ")")) = some (str "\\' OR 1=1 --", str ")") := by
  repeat rw [str_ofList]
  decide +kernel

/-- the hypothesis of `unlit_escape` is needed: a quote right after the literal is read as a doubled quote -/
example : unlit (q :: (escape (str "a") ++ q :: [q])) = none := by decide +kernel

/-- an escaper that forgets the backslash (the classic mistake) is rejected by the same lexer:
    the value `\' OR 1=1 --` ends its literal early and ` OR 1=1 --` becomes query text … -/
def escapeQuoteOnly : Bytes → Bytes
  | [] => []
  | c :: s => if c = q then bs :: q :: escapeQuoteOnly s else c :: escapeQuoteOnly s
example : unlit (q :: (escapeQuoteOnly (str "\\' OR 1=1 --") ++ q :: str ")")) = some (str "\\", str " OR 1=1 --')") := by
  repeat rw [str_ofList]
  decide +kernel
/-- … and a trailing backslash swallows the closing quote -/
example : unlit (q :: (escapeQuoteOnly (str "a\\") ++ [q])) = none := by decide +kernel

/-- the where text of the repo's own test TestLoadPointsQueryV6_1h, produced by the model -/
def testCfg : Cfg :=
  { mode := 0, fromSec := 86397, toSec := 2001597, hasPreKey := false, hasMetric := true, metricId := 1000, metricPk := -1,
    raw := [], raw64 := [], groupBy := [], fim := [], fnm := [] }
def testIn : Filters := [(1, { values := [⟨true, true, str "one", 1⟩, ⟨true, true, str "two", 2⟩], re2 := [] })]
def testNotIn : Filters := [(0, { values := [⟨true, false, str "staging", 0⟩], re2 := [] })]
set_option maxRecDepth 100000 in
example : whereBytes testCfg testIn testNotIn =
    str " WHERE time>=86397 AND time<2001597" ++ str " AND index_type=0 AND pre_tag=0" ++ str " AND pre_stag='' AND metric=1000" ++
    str " AND (tag1 IN (1,2) OR stag1 IN" ++ str " ('one','two')) AND (0=0 AND" ++ str " stag0 NOT IN ('staging'))" := by
  repeat rw [str_ofList]
  decide +kernel

/-- a hostile filter: the scanner recovers the strings; the skeleton is the same as for benign strings -/
def hostileIn : Filters :=
  [(1, { values := [⟨true, true, str "') OR (''='", 1⟩, ⟨true, false, str "a\\", 0⟩, ⟨true, true, [], 0⟩], re2 := [] })]
def benignIn : Filters :=
  [(1, { values := [⟨true, true, str "x", 1⟩, ⟨true, false, str "y", 0⟩, ⟨true, true, [], 0⟩], re2 := [] })]
set_option maxRecDepth 100000 in
example : scanAll (whereBytes testCfg hostileIn []) =
    some ([[], str "') OR (''='", str "a\\", []], skel (whereFrags testCfg benignIn [])) := by decide +kernel

/-- `RegexCovers` is satisfiable with a regular expression present, and the positive filter then selects by it -/
def toyRe (p s : Bytes) : Bool := p.isPrefixOf s
def reFilter : TagFilter := { values := [⟨true, true, str "abc", 7⟩], re2 := str "ab" }
example : RegexCovers toyRe false reFilter := by
  intro _ _ v hv _ _
  simp [reFilter] at hv
  subst hv
  decide +kernel
example : evalAtoms toyRe true ⟨0, str "abd"⟩ (tagAtoms true false reFilter) = true := by decide +kernel

/-- without the caller invariant the statement is false: the code drops the string value `x` when a regular expression is
    present, so the row with string `x` is not selected although `x` was requested -/
theorem regex_invariant_needed :
    ∃ re f r, evalAtoms re true r (tagAtoms true false f) ≠ requested re false f r :=
  ⟨toyRe, { values := [⟨true, false, str "x", 0⟩], re2 := str "ab" }, ⟨0, str "x"⟩, by decide +kernel⟩

/-- empty-set conventions: a positive filter without mapped values writes `0!=0`, a negative one `0=0` -/
example : tagAtoms true false { values := [⟨true, false, str "a", 0⟩], re2 := [] } = [.constF, .strIn false [str "a"]] := by decide +kernel
example : tagAtoms false false { values := [⟨true, false, str "a", 0⟩], re2 := [] } = [.constT, .strIn true [str "a"]] := by decide +kernel
/-- raw tag: string clauses are not written, the empty value compares the integer only -/
example : tagAtoms true true { values := [⟨true, true, str "a", 5⟩, ⟨true, true, [], 0⟩], re2 := str "r" } =
    [.intIn false [5], .isEmpty false true] := by decide +kernel

/-- the complete text of the repo's TestLoadPointsQueryV6_1h (cardinality + max, no group-by, no sort), produced by the model -/
def testQ : QCfg :=
  { step := 14400, utcOffset := 10800, loc := str "MSK", sharded := true, whats := [8, 3], minHost := false, maxHost := false,
    sort := 0, settings := str " SETTINGS optimize_aggregation_in_order=1", tagIndex := 1, tagRaw := false, tagRaw64 := false,
    numResults := 5 }
example : QOK testQ :=
  have h : Plain testQ.loc ∧ NoQ testQ.settings ∧ NoP testQ.settings := by
    unfold testQ
    repeat rw [str_ofList]
    decide +kernel
  ⟨fun _ => h.1, h.2.1, h.2.2⟩
set_option maxRecDepth 100000 in
example : queryBytes testCfg testQ testIn testNotIn = some (
    str "SELECT toInt64(toStartOfInterval(time+10800," ++ str "INTERVAL 14400 second))-10800 AS _time," ++
    str "toFloat64(sum(1)) AS _val0,toFloat64(max(max))" ++ str " AS _val1 FROM statshouse_v6_1h" ++
    str " WHERE time>=86397 AND time<2001597" ++ str " AND index_type=0 AND pre_tag=0" ++ str " AND pre_stag='' AND metric=1000" ++
    str " AND (tag1 IN (1,2) OR stag1 IN" ++ str " ('one','two')) AND (0=0 AND" ++ str " stag0 NOT IN ('staging'))" ++
    str " GROUP BY _time LIMIT 10000000" ++ str " SETTINGS optimize_aggregation_in_order=1") := by
  unfold testQ testIn testNotIn
  repeat rw [str_ofList]
  decide +kernel

set_option maxRecDepth 100000 in
/-- tag-values query (mode 1); a tag-value-IDs query (mode 2) selects and groups by the integer column only -/
example : queryBytes { testCfg with mode := 1 } testQ [] [] = some (
    str "SELECT tag1,stag1,toFloat64(sum(count)) AS _count" ++ str " FROM statshouse_v6_1h WHERE time>=86397" ++
    str " AND time<2001597 AND index_type=0 AND pre_tag=0" ++ str " AND pre_stag='' AND metric=1000" ++
    str " GROUP BY tag1,stag1 HAVING _count>0" ++ str " ORDER BY _count DESC,tag1,stag1 LIMIT 6" ++
    str " SETTINGS optimize_aggregation_in_order=1") := by
  unfold testQ
  repeat rw [str_ofList]
  decide +kernel
example : tvByTags { testCfg with mode := 2 } testQ = str "tag1" := by decide +kernel

/-- a descending table query over the 1-month step, grouped by a tag and the shard, with hostile filter values:
    `QOK` holds, the builder succeeds, the literals are the time-zone name twice and the filter strings -/
def descQ : QCfg :=
  { testQ with step := stepMonth, loc := str "Europe/Moscow", sort := 2, whats := [1, 7, 2], minHost := true, maxHost := true }
def descCfg : Cfg := { testCfg with groupBy := [1, -3] }
example : QOK descQ :=
  have h : Plain descQ.loc ∧ NoQ descQ.settings ∧ NoP descQ.settings := by
    unfold descQ testQ
    repeat rw [str_ofList]
    decide +kernel
  ⟨fun _ => h.1, h.2.1, h.2.2⟩
example : queryStrings descCfg descQ hostileIn [] =
    [str "Europe/Moscow", str "Europe/Moscow", [], str "') OR (''='", str "a\\", []] := by
  unfold descQ testQ hostileIn
  repeat rw [str_ofList]
  decide +kernel
set_option maxRecDepth 100000 in
/-- the direction is written after every ORDER BY key (writeByTagsDir) -/
example : seriesTail descCfg descQ =
    str " GROUP BY _time,tag1,stag1,_shard_num" ++ str " ORDER BY _time DESC,tag1 DESC,stag1 DESC,_shard_num DESC" ++
    str " LIMIT 100000" ++ str " SETTINGS optimize_aggregation_in_order=1" := by
  unfold descQ testQ
  repeat rw [str_ofList]
  decide +kernel
/-- avg, stddev and count share their sum/count columns: sum, count, sumsquare — three value columns -/
example : (selLoop (specified descQ.whats) { has := [], j := 0, cols := [] }).map (·.cols.length) = some 3 := by decide +kernel
/-- `QOK.loc` is needed: the time-zone name is written between quotes without escaping (a configuration value) -/
def badQ : QCfg := { descQ with loc := str "a'b" }
example : (scanAll (flatten (timeFrags badQ))).map (·.1) ≠ some (lits (timeFrags badQ)) := by decide +kernel
example : (scanAll (flatten (timeFrags descQ))).map (·.1) = some (lits (timeFrags descQ)) := by decide +kernel
/-- a regular expression with quote and backslash, negative filter of a non-raw tag: the clause's literal is the pattern -/
example : lits (tagFrags testCfg false 3 { values := [], re2 := str "^a'\\.*$" }) = [str "^a'\\.*$"] := by decide +kernel
/-- the hypotheses of `regex_decodes_in_tag` hold here (non-raw tag, non-empty pattern) -/
example : isRaw testCfg 3 = false ∧ (str "^a'\\.*$").isEmpty = false := by decide +kernel
/-- raw tag: `regex_not_written_for_raw` applies, no literal at all -/
example : lits (tagFrags { testCfg with raw := [3] } true 3 { values := [⟨true, true, str "x", 4⟩], re2 := str "^a" }) = [] := by decide +kernel

/-! ### integer expressions: the raw64 reassembly -/

/-- links the two theorems below (about the tree `raw64AST hi lo`) to the builder: `whereIntAST c x`, which is
    `raw64AST (colInt c (x+1)) (colInt c x)` for a 64-bit raw tag not grouped by, renders to the text writeTagFilter writes -/
theorem whereIntAST_render (c : Cfg) (x : Nat) : (whereIntAST c x).render = whereIntExpr c x := by
  unfold whereIntAST whereIntExpr
  split
  · rfl
  · split
    · split
      · rfl
      · exact raw64AST_render _ _
    · rfl

/-- **raw64 reassembly.** For every pair of Int32 column values the expression tree `raw64AST hi lo` (the form the builder
    emits for a 64-bit raw tag, see `whereIntAST_render`) evaluates (under ClickHouse's typing of toUInt32 / toInt64 / bitShiftLeft / bitOr) to the signed 64-bit value whose high half
    is the hi column and whose low half is the lo column — no sign extension of a negative low half leaks into the high half. -/
theorem raw64_reassembles (e32 : Bytes → BitVec 32) (e64 : Bytes → BitVec 64) (hi lo : Bytes) :
    (raw64AST hi lo).eval e32 e64 = ⟨true, true, e32 hi ++ e32 lo⟩ := by
  simp [raw64AST, IExpr.eval, ext32, setWidth_signExtend_32]
  exact (BitVec.setWidth_append_eq_shiftLeft_setWidth_or (w'' := 64)).symm.trans (BitVec.setWidth_eq _)

/-- the row that stores exactly the requested 64-bit value `v` (hi = upper half, lo = lower half) makes the expression equal `v` -/
theorem raw64_hits_value (e32 : Bytes → BitVec 32) (e64 : Bytes → BitVec 64) (hi lo : Bytes) (v : BitVec 64)
    (hh : e32 hi = v.extractLsb' 32 32) (hl : e32 lo = v.extractLsb' 0 32) :
    ((raw64AST hi lo).eval e32 e64).bits = v := by
  rw [raw64_reassembles, hh, hl]
  exact BitVec.extractLsb'_append_extractLsb' (w := 32) (len := 32)

/-- the expression without the toUInt32 casts is wrong when bit 31 of the low half is set:
    hi = 0, lo = 0x80000000 encode 2147483648, the cast-free form gives -2147483648 -/
def raw64NoCast (hi lo : Bytes) : IExpr := .bor (.shl (.toInt64 (.col32 hi)) 32) (.col32 lo)
example : ((raw64NoCast [104] [108]).eval (fun n => if n = [108] then 0x80000000#32 else 0#32) (fun _ => 0)).bits.toInt
    = -2147483648 := by decide +kernel
example : ((raw64AST [104] [108]).eval (fun n => if n = [108] then 0x80000000#32 else 0#32) (fun _ => 0)).bits.toInt
    = 2147483648 := by decide +kernel

/-! ### from the user's filter strings to the condition of one tag -/

/-- **From filter strings to the selection by one tag's condition** (a filter of values only, no regular expression; not
    lifted to `evalWhere`). If GetTagFilter accepts every string of a filter, the condition the builder writes for the
    resulting values selects a row's tag exactly when it has the meaning of one of the strings (inclusion) / of none of them
    (exclusion) — in particular the EMPTY value `" 0"` selects integer 0 WITHOUT a string value
    and does not select rows holding an unmapped string. -/
theorem filter_strings_select_exactly (re : Bytes → Bytes → Bool) (lookup leOf : Bytes → Option Int) (t : TagCtx)
    (ss : List Bytes) (vs : List TagValue) (r : TagRow) (h : convertAll lookup leOf t ss = some vs) (hr : r.n ≠ -2) :
    evalAtoms re true r (tagAtoms true t.isRaw ⟨vs, []⟩) = ss.any (fun s => userWants lookup (leOf s) t s r) ∧
    evalAtoms re false r (tagAtoms false t.isRaw ⟨vs, []⟩) = !ss.any (fun s => userWants lookup (leOf s) t s r) := by
  have hc : RegexCovers re t.isRaw ⟨vs, []⟩ := by intro _ h2; simp at h2
  rw [in_selects_exactly re _ _ _ hc, notin_selects_exactly re _ _ _ hc]
  have : requested re t.isRaw ⟨vs, []⟩ r = ss.any (fun s => userWants lookup (leOf s) t s r) := by
    simp [requested, any_valMatches_convertAll lookup leOf t r hr ss vs h]
  simp [this]

def toyLookup (s : Bytes) : Option Int := if s == str "prod" then some 17 else none
def plainTag : TagCtx := { inTags := true, raw := false, isLe := false, comments := [] }
def rawTag : TagCtx := { inTags := true, raw := true, isLe := false, comments := [(str " 7", str "seven"), (str " 8", str "dup"), (str " 9", str "dup")] }
/-- `""` and `" 0"` (TagValueCodeZero) are the empty value; raw codes; a mapped and an unmapped string; errors -/
example : getTagFilter toyLookup none plainTag [] = some tvEmpty := by decide +kernel
example : getTagFilter toyLookup none plainTag (str " 0") = some tvEmpty := by decide +kernel
example : getTagFilter toyLookup none plainTag (str " -3") = some (tvM (-3)) := by decide +kernel
example : getTagFilter toyLookup none plainTag (str "prod") = some (tvBoth (str "prod") 17) := by decide +kernel
example : getTagFilter toyLookup none plainTag (str "it's") = some (tvBoth (str "it's") (-2)) := by decide +kernel
example : getTagFilter toyLookup none plainTag (str " 1x") = none := by decide +kernel
example : getTagFilter toyLookup none plainTag (str " 9223372036854775808") = none := by
  repeat rw [str_ofList]
  decide +kernel
example : getTagFilter toyLookup none rawTag (str "seven") = some (tvM 7) := by decide +kernel
example : getTagFilter toyLookup none rawTag (str "dup") = none := by decide +kernel
/-- the hypothesis of `filter_strings_select_exactly` is satisfiable; the empty value does not select an unmapped-string row -/
example : convertAll toyLookup (fun _ => none) plainTag [str " 0", str "prod"] = some [tvEmpty, tvBoth (str "prod") 17] := by decide +kernel
example : evalAtoms (fun _ _ => false) true ⟨0, str "x"⟩ (tagAtoms true false ⟨[tvEmpty, tvBoth (str "prod") 17], []⟩) = false := by decide +kernel
example : evalAtoms (fun _ _ => false) true ⟨0, []⟩ (tagAtoms true false ⟨[tvEmpty, tvBoth (str "prod") 17], []⟩) = true := by decide +kernel
/-- without the code-zero special case (`" 0"` becomes NewTagValueM(0)) the statement fails: the row
    (0, "x") holding an unmapped string is matched although only the empty value was requested -/
example : valMatches false ⟨0, str "x"⟩ (tvM 0) = true ∧ userWants toyLookup none plainTag (str " 0") ⟨0, str "x"⟩ = false := by decide +kernel
/-- `r.n ≠ -2` is needed: a string without mapping is given the id -2, which would match a row holding -2 -/
example : valMatches false ⟨-2, []⟩ (tvBoth (str "it's") (-2)) = true ∧
    userWants toyLookup none plainTag (str "it's") ⟨-2, []⟩ = false := by decide +kernel

/-! ### no length hypothesis -/

/-- **Well-formedness does not depend on lengths**: `query_wellformed` and `query_skeleton_independent` at `g := padTo n pad`
    (every filter value and regular expression of both polarities lengthened by `n` bytes, beyond format.MaxStringLen = 128);
    nothing new is proved beyond `padTo_keepsEmpty`. -/
theorem wellformed_any_length (c : Cfg) (e : QCfg) (h : QOK e) (fin fnotin : Filters) (n : Nat) (pad : UInt8) (fs : List Frag)
    (hf : queryFrags c e (mapFilters (padTo n pad) fin) (mapFilters (padTo n pad) fnotin) = some fs) :
    scanAll (flatten fs) =
      some (queryStrings c e (mapFilters (padTo n pad) fin) (mapFilters (padTo n pad) fnotin), skel fs) ∧
    NoQ (skel fs) ∧ bal 0 (skel fs) = some 0 ∧
    (queryFrags c e fin fnotin).map skel = some (skel fs) := by
  obtain ⟨h1, h2, h3⟩ := query_wellformed c e h _ _ fs hf
  refine ⟨h1, h2, h3, ?_⟩
  rw [← query_skeleton_independent (padTo_keepsEmpty n pad) c e fin fnotin, hf]
  rfl

set_option maxRecDepth 100000 in
/-- a 129-byte value (one byte more than format.MaxStringLen) in the real writer's model: one literal, decoded back -/
example : (scanAll (flatten (tagFrags testCfg true 1 ⟨[⟨true, false, List.replicate 129 97, 0⟩], []⟩))).map (·.1) =
    some [List.replicate 129 97] := by decide +kernel

/-- A hypothetical variant of the writer, not the code under /repo: the second pass of writeTagFilter skips values longer
    than 128 bytes, the first pass still counts them and the closing `')` is written unconditionally. With only long values
    the list is never opened but closed. -/
def strInSkipLong (strE : Bytes) (neg : Bool) (vals : List Bytes) : List Frag :=
  match vals.filter (fun v => v.length ≤ 128) with
  | [] => [.raw (str "')")]
  | a :: rest => .raw (str " OR " ++ strE ++ opText neg ++ str "(") :: (commaLits (a :: rest) ++ [.raw (str ")")])
set_option maxRecDepth 100000 in
/-- … the query text `… AND (0!=0')) GROUP BY _time` does not lex: unterminated literal -/
example : scanAll (flatten (.raw (str " AND (0!=0") ::
    (strInSkipLong (colStr 1) false [List.replicate 129 97] ++ [.raw (str ") GROUP BY _time")]))) = none := by
  repeat rw [str_ofList]
  decide +kernel
set_option maxRecDepth 100000 in
/-- … and with a short value next to it the long value silently disappears from the literals -/
example : (scanAll (flatten (.raw (str " AND (0!=0") ::
    (strInSkipLong (colStr 1) false [List.replicate 129 97, str "b"] ++ [.raw (str ") GROUP BY _time")])))).map (·.1) =
    some [str "b"] := by
  repeat rw [str_ofList]
  decide +kernel

end SH.C26
