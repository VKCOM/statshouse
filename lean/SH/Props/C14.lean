/-
  C14 — Every protocol message and frame round-trips through its encodings.

  "For every generated TL type used by StatsHouse components (statshouse, metadata, engine, barsic, binlog and sqlite
   checkpoint schemas), writing a value in bare or boxed TL1, TL2 or JSON form and reading it back yields an equal
   value, and the byte-slice and string variants of a type produce identical encodings. Compressed bucket frames
   decompress to the original bytes, and undersized or oversized frames are rejected rather than misread."

  What is proved here:
    * `tl1_roundtrip`: one theorem for every TL1 descriptor, environment of nat arguments, well-typed value and trailing
      bytes, by structural recursion on Desc / Flds / Alts; `tl1_boxed_roundtrip`, `tl1_prefix_free`, `tl1_injective` (why the
      Go oracle may compare values through their canonical TL1 bytes).
    * `schema_roundtrip`, `schema_result_roundtrip`: `tl1_roundtrip` phrased for the entries of SH.Gen.C14.table / results
      (regenerated from /repo's .tl files on every run; true of every descriptor, the membership is not used);
      `schema_tags_ok` re-checks by evaluation that every union of the schema has pairwise distinct 32-bit tags, without
      which some alternatives would have no well-typed value.
    * TL2: `tl2_size_roundtrip`, `tl2_size_length`, `tl2_string_roundtrip` (the size codec that frames every string, object,
      vector and dictionary; tied to basictl2.go at every form boundary); `tl2_roundtrip` (not for a Bool on its own:
      `headIsBool`), `tl2_field_roundtrip`, `tl2_absent_is_default` for the second codec over the same descriptors and
      values; `schema_tl2_supported` (by evaluation: every entry of SH.Gen.C14.tl2table lies in the modelled fragment) and
      `schema_tl2_roundtrip`.
    * frames: `frame_roundtrip` (lz4 abstract: any pair with unlz (lz x) |x| = x), `undersized_rejected`,
      `oversized_rejected`, `never_misread`; `oversized_compressible_not_roundtrip`: the size bound is necessary.
  Partial: JSON is not modelled (Go-side round-trip oracle for every type only: number and string *text* formatting); the "bytes and string
  variants encode identically" clause is a fact about two copies of generated Go code — in the model both are the one
  `Desc.str`, so it is checked by the Go oracle, not stated as a theorem.
  Outside the model: `dec`, `frameOf` and `encE` are functions of their arguments. That a generated reader does not depend
  on the previous content of a reused destination, that a frame handed out stays what it was under later CompressAndFrame
  calls, and that a shared TL2WriteContext does not influence the bytes written are obligations on the correspondence
  harness and the Go oracle (assumptions of checks/C14.py), not theorems.
-/
import SH.Lemmas.TL
import SH.Lemmas.TL2
import SH.Gen.C14

namespace SH.C14
open SH.TL

/-- **TL1 round trip, every descriptor.** -/
theorem tl1_roundtrip (d : Desc) (env : Env) (v : Val) (rest : Bytes) (hv : wt d env v = true) :
    dec d env (enc d env v ++ rest) = some (v, rest) :=
  rt_all d env v rest hv

/-- boxed form (ReadTL1Boxed ∘ WriteTL1Boxed) of any constructor with a 32-bit tag -/
theorem tl1_boxed_roundtrip (tag : Nat) (ht : tag < 4294967296) (d : Desc) (env : Env) (v : Val) (rest : Bytes)
    (hv : wt d env v = true) :
    dec (.boxed tag d) env (enc (.boxed tag d) env v ++ rest) = some (v, rest) := by
  apply tl1_roundtrip
  simp [wt, ht, hv]

/-- no encoding of a well-typed value is a proper prefix of another's -/
theorem tl1_prefix_free (d : Desc) (env : Env) (v1 v2 : Val) (r1 r2 : Bytes)
    (h1 : wt d env v1 = true) (h2 : wt d env v2 = true) (he : enc d env v1 ++ r1 = enc d env v2 ++ r2) :
    v1 = v2 ∧ r1 = r2 := by
  have a := tl1_roundtrip d env v1 r1 h1
  have b := tl1_roundtrip d env v2 r2 h2
  rw [he, b] at a
  simpa using a.symm

theorem tl1_injective (d : Desc) (env : Env) (v1 v2 : Val)
    (h1 : wt d env v1 = true) (h2 : wt d env v2 = true) (he : enc d env v1 = enc d env v2) : v1 = v2 := by
  have := tl1_prefix_free d env v1 v2 [] [] h1 h2 (by rw [he])
  exact this.1

/-- `tl1_roundtrip` and `tl1_boxed_roundtrip` at `env = []`, phrased for the entries of the schema table as translated from
    /repo's .tl files on this run; the membership premise is not used (what is proved ABOUT the table is `schema_tags_ok`) -/
theorem schema_roundtrip (name : String) (tag : Nat) (isU : Bool) (d : Desc)
    (_hm : (name, tag, isU, d) ∈ SH.Gen.C14.table) (v : Val) (rest : Bytes) (hv : wt d [] v = true) :
    dec d [] (enc d [] v ++ rest) = some (v, rest) ∧
    (tag < 4294967296 → dec (.boxed tag d) [] (enc (.boxed tag d) [] v ++ rest) = some (v, rest)) :=
  ⟨tl1_roundtrip d [] v rest hv, fun ht => tl1_boxed_roundtrip tag ht d [] v rest hv⟩

/-- the same for the function result types, in any environment (the function's `#` fields) -/
theorem schema_result_roundtrip (name : String) (d : Desc) (_hm : (name, d) ∈ SH.Gen.C14.results)
    (env : Env) (v : Val) (rest : Bytes) (hv : wt d env v = true) :
    dec d env (enc d env v ++ rest) = some (v, rest) :=
  tl1_roundtrip d env v rest hv

def altTags : Alts → List Nat
  | .nil => []
  | .cons tag _ rest => tag :: altTags rest

mutual
/-- every boxed / union tag fits 32 bits and the tags of one union are pairwise distinct: what `wt` / `wtAlt` ask of the
    tags of a descriptor (the connection is not stated as a lemma) -/
def tagsOk : Desc → Bool
  | .vec t => tagsOk t
  | .tup _ t => tagsOk t
  | .struct _ fs => tagsOkF fs
  | .boxed tag t => tag < 4294967296 && tagsOk t
  | .union alts => (altTags alts).Nodup && tagsOkA alts
  | _ => true
def tagsOkF : Flds → Bool
  | .nil => true
  | .natF rest => tagsOkF rest
  | .fld t rest => tagsOk t && tagsOkF rest
  | .opt _ _ t rest => tagsOk t && tagsOkF rest
def tagsOkA : Alts → Bool
  | .nil => true
  | .cons tag t rest => tag < 4294967296 && tagsOk t && tagsOkA rest
end

/-- evaluated on the regenerated schema: a schema edit that makes two constructors of a union share a tag fails here -/
theorem schema_tags_ok :
    SH.Gen.C14.table.all (fun e => tagsOk e.2.2.2 && e.2.1 < 4294967296) = true ∧
    SH.Gen.C14.results.all (fun e => tagsOk e.2) = true := by
  constructor <;> decide +kernel

/-! non-vacuity: a small value of the *generated* statshouse.multiItem descriptor (skeys: bit 12, t: bit 10, a multiValue
    tail that takes the mask as its nat argument: counter, bit 0) is well-typed and round-trips by evaluation. -/
def exItem : Val :=
  .recd (.cons (.nat 0x1401) (.cons (.raw [1, 0, 0, 0]) (.cons (.list (.cons (.raw [2, 0, 0, 0]) .nil))
    (.cons (.list (.cons (.str [0x61, 0x62]) .nil)) (.cons .none (.cons (.nat 7)
    (.cons (.recd (.cons (.raw [0, 0, 0, 0, 0, 0, 0xf0, 0x3f]) (.cons .none (.cons .none (.cons .none (.cons .none
      (.cons .none (.cons .none (.cons .none (.cons .none (.cons .none (.cons .none (.cons .none (.cons .none
      (.cons .none (.cons .none (.cons .none .nil)))))))))))))))))
    (.cons .none .nil))))))))

example : wt SH.Gen.C14.d_data_model_statshouse_multiItem [] exItem = true := by decide +kernel
example : enc SH.Gen.C14.d_data_model_statshouse_multiItem [] exItem =
    [1, 0x14, 0, 0,  1, 0, 0, 0,  1, 0, 0, 0, 2, 0, 0, 0,  1, 0, 0, 0, 2, 0x61, 0x62, 0,  7, 0, 0, 0,
     0, 0, 0, 0, 0, 0, 0xf0, 0x3f] := by decide +kernel
example : dec SH.Gen.C14.d_data_model_statshouse_multiItem []
    (enc SH.Gen.C14.d_data_model_statshouse_multiItem [] exItem ++ [9]) = some (exItem, [9]) := by decide +kernel
/-! a union (the tag selects the alternative), and strings in and out of canonical form -/
example : dec (.union (.cons 5 (.struct [] .nil) (.cons 7 .nat .nil))) [] [7, 0, 0, 0, 9, 0, 0, 0] =
    some (.alt 1 (.nat 9), []) := by decide +kernel
example : dec .str [] [254, 3, 0, 0, 1, 2, 3, 0] = none := by decide +kernel        -- medium form for a short length
example : dec .str [] [3, 1, 2, 3] = some (.str [1, 2, 3], []) := by decide +kernel
example : dec .str [] [2, 1, 2, 1] = none := by decide +kernel                       -- non-zero padding

/-! ### TL2: the size codec and strings (basictl2.go); the three forms switch at 254 and 254 + 2^16 -/

/-- TL2ParseSize (TL2WriteSize n ++ rest) = (n, rest) for every size an `int` can hold -/
theorem tl2_size_roundtrip (n : Nat) (hn : n ≤ maxInt) (r : Bytes) :
    tl2ParseSize (tl2WriteSize n ++ r) = some (n, r) := tl2_size_rt n hn r

/-- TL2CalculateSize is the number of bytes TL2WriteSize / TL2PutSize produce -/
theorem tl2_size_length (n : Nat) : (tl2WriteSize n).length = tl2CalculateSize n := tl2_size_len n

/-- StringReadTL2 (StringWriteTL2 b ++ rest) = (b, rest) -/
theorem tl2_string_roundtrip (b r : Bytes) (hn : b.length ≤ maxInt) :
    tl2ReadStr (tl2WriteStr b ++ r) = some (b, r) := tl2_string_rt b r hn

example : tl2WriteSize 65789 = [254, 255, 255] := by decide +kernel
example : tl2WriteSize 65790 = [255, 254, 0, 1, 0, 0, 0, 0, 0] := by decide +kernel
example : tl2ParseSize [254, 0, 0, 7] = some (254, [7]) := by decide +kernel
example : tl2ParseSize [255, 3, 0, 0, 0, 0, 0, 0, 0] = some (3, []) := by decide +kernel          -- non-canonical huge form accepted
example : tl2ParseSize [255, 0, 0, 0, 0, 0, 0, 0, 128] = none := by decide +kernel                -- > MaxInt
example : tl2ParseSize [254, 1] = none := by decide +kernel

/-! ### TL2 of the generated types; `wt2` is defined in SH.Lemmas.TL2 -/

/-- **TL2 round trip, every descriptor of the fragment but Bool** (`hb`: a Bool is only ever a plain field,
    `tl2_field_roundtrip`; `encE` of one is not what `decE` reads), for what WriteTL2 writes in full: top level, vector
    element, payload of a conditional field. -/
theorem tl2_roundtrip (d : Desc) (v : Val) (rest : Bytes) (hs : tl2Supported d = true) (hb : headIsBool d = false)
    (hv : wt2 d v = true) : decE d (encE d v ++ rest) = some (v, rest) :=
  (rt2_all d hs v hv).elem hb rest

/-- a plain field that is written (non-empty bytes) reads back as the value … -/
theorem tl2_field_roundtrip (d : Desc) (v : Val) (rest : Bytes) (hs : tl2Supported d = true) (hv : wt2 d v = true)
    (hp : encF d v ≠ []) : decE d (encF d v ++ rest) = some (v, rest) :=
  (rt2_all d hs v hv).fld hp rest

/-- … and a plain field that is omitted is exactly the default value the reader fills in for a clear presence bit. -/
theorem tl2_absent_is_default (d : Desc) (v : Val) (hs : tl2Supported d = true) (hv : wt2 d v = true)
    (ha : encF d v = []) : v = defaultV d :=
  (rt2_all d hs v hv).fdef ha

/-- every entry of the table of types with generated TL2 code (regenerated from /repo on this run; tools/tl2lean.py
    leaves out a type with a direct float/double field, which `Desc.fixed` cannot tell from int/long) lies in the fragment -/
theorem schema_tl2_supported :
    SH.Gen.C14.tl2table.all (fun e => tl2Supported e.2 && !headIsBool e.2) = true := by decide +kernel

/-- the table also lists the constructors of the two enums on their own (`.struct [] .nil`, written `[0]` here): Go
    serialises these singletons to nothing and the correspondence skips them -/
theorem schema_tl2_roundtrip (name : String) (d : Desc) (hm : (name, d) ∈ SH.Gen.C14.tl2table)
    (v : Val) (rest : Bytes) (hv : wt2 d v = true) : decE d (encE d v ++ rest) = some (v, rest) := by
  have h := List.all_eq_true.1 schema_tl2_supported (name, d) hm
  simp only [Bool.and_eq_true, Bool.not_eq_true'] at h
  exact tl2_roundtrip d v rest h.1 h.2 hv

/-! non-vacuity on generated descriptors: a statshouseApi.tagValue (mask, Bool, string, non-zero enum), and a
    statshouseApi.query whose only non-default fields sit in the second and third block of slots (the first block
    byte is 0, the body is cut right after the last presence byte) -/
def exTagValue : Val :=
  .recd (.cons (.nat 5) (.cons (.alt 1 (.recd .nil)) (.cons (.str [0x61]) (.cons (.alt 2 (.recd .nil)) .nil))))

example : wt2 SH.Gen.C14.d_data_model_statshouseApi_tagValue exTagValue = true := by decide +kernel
example : encE SH.Gen.C14.d_data_model_statshouseApi_tagValue exTagValue =
    [11, 0x1e, 5, 0, 0, 0, 1, 1, 0x61, 2, 1, 2] := by decide +kernel
example : decE SH.Gen.C14.d_data_model_statshouseApi_tagValue
    (encE SH.Gen.C14.d_data_model_statshouseApi_tagValue exTagValue ++ [9]) = some (exTagValue, [9]) := by decide +kernel
example : wt SH.Gen.C14.d_data_model_statshouseApi_tagValue [] exTagValue = true := by decide +kernel   -- the same value is TL1 well-typed

def exQuery : Val :=
  .recd (.cons (.nat 0) (.cons (.raw [0, 0, 0, 0]) (.cons (.raw [0, 0, 0, 0]) (.cons (.str [])
    (.cons (.raw [0, 0, 0, 0, 0, 0, 0, 0]) (.cons (.raw [0, 0, 0, 0, 0, 0, 0, 0]) (.cons (.str [])
    (.cons (.alt 0 (.recd .nil)) (.cons (.list (.cons (.str [0x61]) .nil)) (.cons (.list .nil) (.cons (.list .nil)
    (.cons .none (.cons .none (.cons .none (.cons .none (.cons .none (.cons .none (.cons .none
    (.cons (.recd .nil) .nil)))))))))))))))))))

example : wt2 SH.Gen.C14.d_data_model_statshouseApi_query exQuery = true := by decide +kernel
/-- size 7; block 0 empty; block 1: group_by (slot 9); the vector (size 3, one element "a"); block 2: max_host_flag (slot 19) -/
example : encE SH.Gen.C14.d_data_model_statshouseApi_query exQuery = [7, 0, 2, 3, 1, 1, 0x61, 8] := by decide +kernel
example : decE SH.Gen.C14.d_data_model_statshouseApi_query
    (encE SH.Gen.C14.d_data_model_statshouseApi_query exQuery ++ [9]) = some (exQuery, [9]) := by decide +kernel

/-! ### bucket frames (internal/compress/lz4.go; modelled in SH.Model.TL) -/

theorem deFrame_le32 (n : Nat) (hn : n < 4294967296) (body : Bytes) : deFrame (le32 n ++ body) = some (n, body) := by
  unfold deFrame
  have hl : ¬ (le32 n ++ body).length < 4 := by simp [le32]
  simp only [hl, if_false, readNat_le32 n hn]

theorem unframe_frameOf {x : Bytes} (h32 : x.length < 4294967296) (maxU : Nat) (unlz : Bytes → Nat → Option Bytes)
    (lz : Bytes) :
    unframe maxU unlz (frameOf lz x) = decompress maxU unlz x.length (if lz.length ≥ x.length then x else lz) := by
  rw [unframe, frameOf, deFrame_le32 _ h32]

/-- **Compressed bucket frames decompress to the original bytes**: for every payload `x` within the bucket size limit
    (and below the 32-bit size field), every compressor output `lz` and every decompressor `unlz` that inverts it. -/
theorem frame_roundtrip (maxU : Nat) (unlz : Bytes → Nat → Option Bytes) (x lz : Bytes)
    (hmax : x.length ≤ maxU) (h32 : x.length < 4294967296)
    (hinv : unlz lz x.length = some x) :
    unframe maxU unlz (frameOf lz x) = some x := by
  rw [unframe_frameOf h32, decompress]
  by_cases hc : lz.length ≥ x.length
  · rw [if_pos hc, if_pos rfl]
  · rw [if_neg hc, if_neg (fun e => hc (Nat.le_of_eq e)), tooBig,
      if_neg (fun h => Nat.not_lt.2 hmax (of_decide_eq_true h)), hinv]
    exact if_pos rfl

/-- **undersized frames are rejected** (fewer than the four size bytes) -/
theorem undersized_rejected (maxU : Nat) (unlz : Bytes → Nat → Option Bytes) (f : Bytes) (h : f.length < 4) :
    unframe maxU unlz f = none := by
  simp [unframe, deFrame, h]

/-- **oversized frames are rejected**: a size field above the limit that is not simply the length of an uncompressed
    body is refused whatever lz4 would have said (it is not even called) -/
theorem oversized_rejected (maxU : Nat) (unlz : Bytes → Nat → Option Bytes) (size : Nat) (data : Bytes)
    (hbig : size > maxU) (hne : size ≠ data.length) : decompress maxU unlz size data = none := by
  rw [decompress, if_neg hne, tooBig, if_pos (decide_eq_true hbig)]

/-- the bound is needed: a payload above the limit that lz4 does shrink is framed but then refused -/
theorem oversized_compressible_not_roundtrip (maxU : Nat) (unlz : Bytes → Nat → Option Bytes) (x lz : Bytes)
    (hbig : x.length > maxU) (h32 : x.length < 4294967296) (hshrink : lz.length < x.length) :
    unframe maxU unlz (frameOf lz x) = none := by
  rw [unframe_frameOf h32, if_neg (Nat.not_le.2 hshrink)]
  exact oversized_rejected maxU unlz _ _ hbig (Nat.ne_of_gt hshrink)

/-- **rather than misread**: whatever comes out has exactly the announced size -/
theorem never_misread (maxU : Nat) (unlz : Bytes → Nat → Option Bytes) (size : Nat) (data out : Bytes)
    (h : decompress maxU unlz size data = some out) : out.length = size := by
  unfold decompress at h
  by_cases h1 : size = data.length
  · simp [h1] at h
    subst h
    exact h1.symm
  · simp only [h1, if_false] at h
    by_cases h2 : tooBig maxU size = true
    · simp [h2] at h
    · simp only [h2] at h
      cases hu : unlz data size with
      | none => simp [hu] at h
      | some o =>
        simp only [hu] at h
        by_cases h3 : o.length = size
        · simp [h3] at h
          subst h
          exact h3
        · simp [h3] at h

/-- non-vacuity of `frame_roundtrip` / `oversized_rejected` / `never_misread` with a toy inverse pair -/
example : unframe 100 (fun d n => if d = [9] ∧ n = 4 then some [7, 7, 7, 7] else none) (frameOf [9] [7, 7, 7, 7])
    = some [7, 7, 7, 7] := by decide +kernel
example : unframe 100 (fun _ _ => none) (frameOf [1, 2, 3, 4, 5] [7, 7]) = some [7, 7] := by decide +kernel   -- stored raw
example : decompress 100 (fun _ _ => some [1]) 101 [1, 2] = none := by decide +kernel
example : decompress 100 (fun _ _ => some [1]) 3 [1, 2] = none := by decide +kernel                              -- short output
example : SH.Gen.C14.maxUncompressedBucketSize = 10485760 := by decide +kernel   -- data_model.MaxUncompressedBucketSize as regenerated

end SH.C14
