/-
  SH.Props.C30 — Access control grants exactly the permissions carried by a valid token.

  Property (properties.jsonl): "An access token is accepted only if it is an EdDSA token signed by a configured key
  whose id it names, issued by vkuth, for a user, and within its validity window (with the 5-second tolerance); only
  bits prefixed with the application name are granted. A non-admin can view or edit a metric only through a matching
  metric, prefix or namespace bit or the default bit for unprotected names, needs edit rights on both old and new
  name to rename, can never view or change remote-config metrics, and can never change weight (except 0->1),
  presort, sharding, host/sum-square skips or raw-tag attributes."
  Quantifier: all tokens (valid, tampered, wrong key or algorithm, expired, premature, foreign issuer or app bits)
  and all bit sets, protected prefixes and metric pairs.

  Every theorem below is universally quantified over the model `SH.Model.Access`, which `bin/check C30` ties to /repo by
  differential correspondence.

  PARTIAL with respect to the real system (not with respect to the model): Ed25519 and golang-jwt's base64 / JSON
  decoding are not modelled. `Token.sigValid` (the public keys — as bytes — under which the signature verifies, i.e.
  the relation valid : Key → Token → Bool as data) and the decoded header / claims are inputs; sha256 (the key
  fingerprint) is the parameter `fp`. The key table kid ↦ key bytes IS modelled (`parseKeys` = ParseVkuthKeys,
  `tableGet` = the Keyfunc's lookup), so "signed by a configured key whose id it names" is proved in the form
  "the kid is the fingerprint of one of the listed keys and the signature verifies under THAT key's bytes"
  (accept_iff, parseKeys_sound / parseKeys_complete, accept_signed_by_named_key, wrong_key_rejected).
  Full statement that is NOT proved here (would need a model of Ed25519 + JSON):
    -- theorem accept_only_signed : accepts tokenBytes → ∃ k ∈ configured, kid tokenBytes = id k ∧
    --     Ed25519.verify k.pub (signingInput tokenBytes) (signature tokenBytes)

  STATELESSNESS. In the model the accessInfo is a function of (configuration, clock, token) ALONE: `parseAccessToken`
  takes no state, so "a token is granted only what IT carries, whatever was parsed before" is the model's form, not a
  theorem about the code. What ties it to the code is the correspondence: the harness parses SEQUENCES of tokens
  (privileged, then bit-less / null / [] / fewer / foreign bits, valid and invalid mixed) with one JWTHelper in one
  process, the driver answers each token from the token alone, and the oracle grant-depends-on-previous-token
  re-parses every accepted token after a different history. A reused / pooled decode target that keeps fields of an
  earlier token (encoding/json only overwrites keys that are present) shows up as a disagreement there.

  Order of the file: generated constants; acceptance (`accept_iff`, key table, window, rejections, the wrapping variant);
  bits to accessInfo (`grant_traced`, `BitForm`); policy (`view_rule`, `canChange_iff`, `edit_ok_iff`, `frozen_fields`);
  the policy read on the token's bits and everything together (`c30_end_to_end`); examples.

  Observation outside the property: a correctly signed token without `exp` makes Claims.Valid dereference nil
  (`Verdict.panic`); it is not accepted, so the property is unaffected.
-/
import SH.Model.Access
namespace SH.Props.C30
open SH.Access SH.Gen

/-! The constants of `SH.Gen.C30` (written `C30.x` below, through `open SH.Gen`) are generated from the working tree on
    every run of the check. The `gen_*` theorems pin the values the property text speaks of ("vkuth", "token", EdDSA, 5 s,
    the four remote-config names, the error bits): if the code changes one of them, the theorem about it stops compiling.
    `Valid` keeps the generated names; `gen_window` is the bridge to the literal milliseconds of `accept_window` and
    `tampered_rejected`. -/

theorem gen_window : C30.timeWindowMs = 5000 := by decide
theorem gen_issuer : C30.issuer = lit "vkuth" := by decide
theorem gen_kind : C30.kindToken = lit "token" ∧ C30.kindHeaderName = "kind" ∧ C30.kidHeaderName = "kid" := by decide +kernel
theorem gen_alg : C30.algEdDSA = lit "EdDSA" ∧ algKnown C30.algEdDSA = true := by decide
theorem gen_remote : C30.remoteConfig = [lit "statshouse_agent_remote_config", lit "statshouse_aggregator_remote_config",
    lit "statshouse_api_remote_config", lit "statshouse_journal_dump"] := by decide +kernel
theorem gen_err_bits : C30.errMalformed = 1 ∧ C30.errUnverifiable = 2 ∧ C30.errSignatureInvalid = 4 ∧ C30.errExpired = 16 ∧
    C30.errIssuedAt = 32 ∧ C30.errNotValidYet = 128 ∧ C30.errClaimsInvalid = 512 := by decide

/-- the property's acceptance condition, all of it (Go's `Claims.Valid` is the claims part only: `claimsVerdict`) -/
def Valid (cfg : Cfg) (now : Int) (t : Token) : Prop :=
  t.alg = .str C30.algEdDSA ∧ t.kind = .str C30.kindToken ∧
  (∃ kid key, t.kid = .str kid ∧ tableGet cfg.keys kid = some key ∧ key ∈ t.sigValid) ∧
  t.iss = C30.issuer ∧ t.user ≠ [] ∧
  (∃ e, t.exp = some e ∧ now < truncSec e + C30.timeWindowMs) ∧
  (∃ i, t.iat = some i ∧ truncSec i ≤ now + C30.timeWindowMs) ∧
  (∀ n, t.nbf = some n → truncSec n ≤ now)

theorem algCheck_none (a : HV) : algCheck a = none ↔ a = .str C30.algEdDSA := by
  cases a with
  | absent => simp [algCheck]
  | other => simp [algCheck]
  | str s =>
    simp only [algCheck, algAllowed, beq_iff_eq, HV.str.injEq]
    by_cases ha : s = C30.algEdDSA
    · simp [ha, gen_alg.2]
    · by_cases hs : algKnown s = true <;> simp [ha, hs]

theorem kindOk_iff (a : HV) : kindOk a = true ↔ a = .str C30.kindToken := by
  cases a <;> simp [kindOk]

theorem claimsMask_zero (now exp : Int) (t : Token) :
    claimsMask now exp t = 0 ↔
      issOk t = true ∧ userOk t = true ∧ expOk now exp = true ∧ iatOk now t.iat = true ∧ nbfOk now t.nbf = true := by
  obtain ⟨_, _, _, h1, h2, h3, h4⟩ := gen_err_bits
  simp only [claimsMask, h1, h2, h3, h4, Nat.add_eq_zero_iff, ite_eq_left_iff, Nat.reduceEqDiff, imp_false,
    Decidable.not_not, Bool.and_eq_true, and_assoc]
  constructor
  · rintro ⟨a, b, c, d, e⟩
    exact ⟨d, e, a, b, c⟩
  · rintro ⟨d, e, a, b, c⟩
    exact ⟨a, b, c, d, e⟩

theorem issOk_iff (t : Token) : issOk t = true ↔ t.iss = C30.issuer := beq_iff_eq

theorem userOk_iff (t : Token) : userOk t = true ↔ t.user ≠ [] := by
  simp [userOk]

theorem expOk_iff (now e : Int) : expOk now e = true ↔ now < truncSec e + C30.timeWindowMs := decide_eq_true_iff

theorem iatOk_iff (now : Int) (o : Option Int) : iatOk now o = true ↔ ∃ i, o = some i ∧ truncSec i ≤ now + C30.timeWindowMs := by
  cases o with
  | none => simp [iatOk]
  | some v =>
    have : iatOk now (some v) = true ↔ truncSec v ≤ now + C30.timeWindowMs := decide_eq_true_iff
    simp [this]

theorem nbfOk_iff (now : Int) (o : Option Int) : nbfOk now o = true ↔ ∀ n, o = some n → truncSec n ≤ now := by
  cases o with
  | none => simp [nbfOk]
  | some v => simp [nbfOk]

theorem claimsVerdict_accept (now : Int) (t : Token) :
    claimsVerdict now t = .accept ↔
      t.iss = C30.issuer ∧ t.user ≠ [] ∧ (∃ e, t.exp = some e ∧ now < truncSec e + C30.timeWindowMs) ∧
      (∃ i, t.iat = some i ∧ truncSec i ≤ now + C30.timeWindowMs) ∧ (∀ n, t.nbf = some n → truncSec n ≤ now) := by
  unfold claimsVerdict
  cases t.exp with
  | none => simp
  | some e =>
    have h : (if claimsMask now e t = 0 then Verdict.accept else .err (claimsMask now e t)) = .accept ↔
        claimsMask now e t = 0 := by
      by_cases h : claimsMask now e t = 0 <;> simp [h]
    simp only [h]
    simp only [claimsMask_zero, issOk_iff, userOk_iff, expOk_iff, iatOk_iff, nbfOk_iff, Option.some.injEq,
      exists_eq_left']

theorem sigVerdict_accept (now : Int) (t : Token) (k : Key) :
    sigVerdict now t k = .accept ↔ k ∈ t.sigValid ∧ claimsVerdict now t = .accept := by
  unfold sigVerdict
  by_cases hs : k ∈ t.sigValid <;> simp [hs]

theorem keyVerdict_accept (cfg : Cfg) (now : Int) (t : Token) :
    keyVerdict cfg now t = .accept ↔
      t.kind = .str C30.kindToken ∧ (∃ kid key, t.kid = .str kid ∧ tableGet cfg.keys kid = some key ∧ key ∈ t.sigValid) ∧
      claimsVerdict now t = .accept := by
  unfold keyVerdict
  rw [← kindOk_iff]
  by_cases hk : kindOk t.kind = true
  · rw [if_pos hk]
    cases t.kid with
    | str kid =>
      cases hg : tableGet cfg.keys kid with
      | none => simp [kidKey, hk, hg]
      | some key => simp [kidKey, hk, hg, sigVerdict_accept]
    | absent => simp [kidKey]
    | other => simp [kidKey]
  · simp [hk]

theorem verify_accept (cfg : Cfg) (now : Int) (t : Token) :
    verify cfg now t = .accept ↔ algCheck t.alg = none ∧ keyVerdict cfg now t = .accept := by
  unfold verify
  cases algCheck t.alg <;> simp

/-- **Acceptance, exact.** A decoded token is accepted iff it is an EdDSA token of kind "token" whose kid names an
    entry of the key table and whose signature verifies under THE key bytes stored in that entry, issued by vkuth, for a non-empty user, with
    now − 5 s < exp, iat ≤ now + 5 s and (if present) nbf ≤ now. -/
theorem accept_iff (cfg : Cfg) (now : Int) (t : Token) : verify cfg now t = .accept ↔ Valid cfg now t := by
  rw [verify_accept, keyVerdict_accept, algCheck_none, claimsVerdict_accept]
  rfl

theorem tableGet_filter (m : List (Str × Key)) (id id' : Str) (h : id ≠ id') :
    tableGet (m.filter (fun e => e.1 != id)) id' = tableGet m id' := by
  induction m with
  | nil => rfl
  | cons e r ih =>
    rw [List.filter_cons]
    by_cases he : e.1 = id
    · simp only [he, bne_self_eq_false, Bool.false_eq_true, if_false, ih, tableGet, h]
    · simp only [bne_iff_ne, ne_eq, he, not_false_eq_true, if_true, tableGet, ih]

theorem tableGet_set (m : List (Str × Key)) (id id' : Str) (k : Key) :
    tableGet (tableSet m id k) id' = if id = id' then some k else tableGet m id' := by
  unfold tableSet
  by_cases h : id = id'
  · simp [tableGet, h]
  · simp [tableGet, h, tableGet_filter m id id' h]

theorem tableGet_foldl (fp : Key → Str) (id : Str) : ∀ (ks : List Key) (m : List (Str × Key)),
    tableGet (ks.foldl (fun m k => tableSet m (fp k) k) m) id =
      ((ks.filter (fun k => fp k = id)).getLast?).or (tableGet m id)
  | [], m => rfl
  | a :: ks, m => by
    rw [List.foldl_cons, tableGet_foldl fp id ks, tableGet_set, List.filter_cons]
    by_cases h : fp a = id
    · simp only [h, decide_true, if_true, List.getLast?_cons]
      cases (ks.filter (fun k => fp k = id)).getLast? <;> rfl
    · simp only [h, decide_false, if_false, Bool.false_eq_true]

theorem parseKeys_get (fp : Key → Str) (ks : List Key) (id : Str) :
    tableGet (parseKeys fp ks) id = (ks.filter (fun k => fp k = id)).getLast? := by
  rw [parseKeys, tableGet_foldl, tableGet, Option.or_none]

/-- **Every entry of the configured key table is one of the listed keys, stored under ITS OWN fingerprint** — an id
    never leads to the bytes of a different listed key. -/
theorem parseKeys_sound (fp : Key → Str) (ks : List Key) (id : Str) (key : Key)
    (h : tableGet (parseKeys fp ks) id = some key) : key ∈ ks ∧ fp key = id := by
  rw [parseKeys_get] at h
  simpa using List.mem_of_getLast? h

/-- **Every listed key is reachable under its fingerprint and maps to its own bytes** (fingerprints of distinct
    listed keys are distinct — sha256 collisions aside). -/
theorem parseKeys_complete (fp : Key → Str) (ks : List Key) (k : Key) (hk : k ∈ ks)
    (hinj : ∀ a ∈ ks, ∀ b ∈ ks, fp a = fp b → a = b) : tableGet (parseKeys fp ks) (fp k) = some k := by
  cases hg : tableGet (parseKeys fp ks) (fp k) with
  | none =>
    rw [parseKeys_get, List.getLast?_eq_none_iff, List.filter_eq_nil_iff] at hg
    exact absurd (decide_eq_true rfl) (hg k hk)
  | some k' =>
    obtain ⟨h1, h2⟩ := parseKeys_sound fp ks _ _ hg
    rw [hinj k' h1 k hk h2]

/-- **"Signed by a configured key whose id it names."** With the key table built by ParseVkuthKeys from the listed
    keys `ks`, an accepted token names (by fingerprint) one of the listed keys, and its signature verifies under that
    very key — not merely under some configured key. -/
theorem accept_signed_by_named_key (fp : Key → Str) (ks : List Key) (cfg : Cfg) (now : Int) (t : Token)
    (hc : cfg.keys = parseKeys fp ks) (h : verify cfg now t = .accept) :
    ∃ key ∈ ks, t.kid = .str (fp key) ∧ key ∈ t.sigValid := by
  obtain ⟨_, _, ⟨kid, key, h1, h2, h3⟩, _⟩ := (accept_iff cfg now t).mp h
  rw [hc] at h2
  obtain ⟨hm, hf⟩ := parseKeys_sound fp ks kid key h2
  exact ⟨key, hm, hf ▸ h1, h3⟩

/-- … and a signature that verifies only under OTHER keys (configured or not) than the one the kid names is rejected -/
theorem wrong_key_rejected (fp : Key → Str) (ks : List Key) (cfg : Cfg) (now : Int) (t : Token)
    (hc : cfg.keys = parseKeys fp ks) (h : ∀ key ∈ ks, t.kid = .str (fp key) → key ∉ t.sigValid) :
    verify cfg now t ≠ .accept := by
  intro hv
  obtain ⟨key, hm, hk, hs⟩ := accept_signed_by_named_key fp ks cfg now t hc hv
  exact h key hm hk hs


theorem truncSec_bounds (x : Int) : truncSec x ≤ x ∧ x < truncSec x + 1000 := by
  unfold truncSec
  omega

/-- an accepted token is inside its window in raw milliseconds: `now < exp + 5 s`, `iat < now + 6 s`, `nbf < now + 1 s`
    (NumericDates are truncated to whole seconds, which loses < 1 s) -/
theorem accept_window (cfg : Cfg) (now : Int) (t : Token) (h : verify cfg now t = .accept) :
    ∃ e i, t.exp = some e ∧ t.iat = some i ∧ now < e + 5000 ∧ i < now + 6000 ∧ ∀ n, t.nbf = some n → n < now + 1000 := by
  obtain ⟨_, _, _, _, _, ⟨e, he, h1⟩, ⟨i, hi, h2⟩, h3⟩ := (accept_iff cfg now t).mp h
  refine ⟨e, i, he, hi, ?_, ?_, ?_⟩
  · have := truncSec_bounds e
    rw [gen_window] at h1
    omega
  · have := truncSec_bounds i
    rw [gen_window] at h2
    omega
  · intro n hn
    have := truncSec_bounds n
    have := h3 n hn
    omega

/-- the model rejects every expired token, however long ago it expired (no lower bound on `exp`) -/
theorem long_expired_rejected (cfg : Cfg) (now : Int) (t : Token) (e : Int) (he : t.exp = some e) (h : e + 5000 ≤ now) :
    verify cfg now t ≠ .accept := by
  intro hv
  obtain ⟨e', _, he', _, h1, _⟩ := accept_window cfg now t hv
  rw [he] at he'
  cases he'
  omega

/-- **One-aspect tampering is rejected**: wrong or missing alg, wrong kind header, kid missing / not a string / naming no
    configured key, signature not valid under the named key, foreign issuer, no user, no or passed expiry, issue time
    missing or ≥ 6 s ahead, not-before ≥ 1 s ahead. The time bounds are those of `accept_window`, so this is weaker than
    `¬ Valid` (an `iat` between 5 s and 6 s ahead is rejected by `accept_iff` but not listed here). -/
theorem tampered_rejected (cfg : Cfg) (now : Int) (t : Token)
    (h : t.alg ≠ .str C30.algEdDSA ∨ t.kind ≠ .str C30.kindToken ∨
         (∀ k, t.kid = .str k → tableGet cfg.keys k = none) ∨
         (∀ k key, t.kid = .str k → tableGet cfg.keys k = some key → key ∉ t.sigValid) ∨
         t.iss ≠ C30.issuer ∨ t.user = [] ∨
         t.exp = none ∨ (∃ e, t.exp = some e ∧ e + 5000 ≤ now) ∨
         t.iat = none ∨ (∃ i, t.iat = some i ∧ now + 6000 ≤ i) ∨
         (∃ n, t.nbf = some n ∧ now + 1000 ≤ n)) :
    verify cfg now t ≠ .accept := by
  intro hv
  obtain ⟨e, i, he, hi, _, h2, h3⟩ := accept_window cfg now t hv
  obtain ⟨ha, hk, ⟨k, key, hk1, hk2, hk3⟩, hiss, hu, _⟩ := (accept_iff cfg now t).mp hv
  rcases h with h | h | h | h | h | h | h | ⟨e', he', h⟩ | h | ⟨i', hi', h⟩ | ⟨n, hn, h⟩
  · exact h ha
  · exact h hk
  · rw [h k hk1] at hk2
    cases hk2
  · exact h k key hk1 hk2 hk3
  · exact h hiss
  · exact hu h
  · rw [h] at he
    cases he
  · exact long_expired_rejected cfg now t e' he' h hv
  · rw [h] at hi
    cases hi
  · rw [hi] at hi'
    cases hi'
    omega
  · have := h3 n hn
    omega

/-! ### the expiry decision must be a comparison on unbounded time, not on a wrapping Duration

  `expOk` compares instants (time.Time.Before). The variant below (NOT the code) decides by the
  sign of `time.Duration(expireAtNow.Unix() - exp.Unix()) * time.Second`, an int64 number of nanoseconds that wraps
  when the token expired more than 2^63 ns (≈ 292 years) ago. It agrees with `expOk` inside ±292 years and ACCEPTS
  tokens that expired between ≈ 292 and ≈ 584 years ago. -/

/-- two's-complement int64 -/
def wrap64 (x : Int) : Int := (x + 9223372036854775808) % 18446744073709551616 - 9223372036854775808

/-- variant (NOT the code): `delta := Duration(expireAtNow.Unix()-exp.Unix()) * Second; expired iff delta >= 0` -/
def expOkWrap (now exp : Int) : Bool :=
  decide (wrap64 (((now - window) / 1000 - exp / 1000) * 1000000000) < 0)

theorem wrap64_id (x : Int) (h : -9223372036854775808 ≤ x ∧ x < 9223372036854775808) : wrap64 x = x := by
  unfold wrap64
  rw [Int.emod_eq_of_lt (by omega) (by omega)]
  omega

/-- inside ±9.2e9 s (≈ 292 years) the variant is the same decision … -/
theorem expOkWrap_agrees (now exp : Int)
    (h : -9223372036 < (now - window) / 1000 - exp / 1000 ∧ (now - window) / 1000 - exp / 1000 < 9223372036) :
    expOkWrap now exp = expOk now exp := by
  unfold expOkWrap expOk truncSec
  have hw : window = 5000 := congrArg Int.ofNat gen_window
  rw [hw] at h ⊢
  rw [wrap64_id _ (by omega)]
  exact decide_eq_decide.mpr (by omega)

/-- … but a token that expired 370 years ago (exp = −10 000 000 000 s, now = 1 700 000 000 s) is expired for the code
    and NOT expired for the variant: `expOk` cannot be replaced by wrapping Duration arithmetic. -/
theorem expOkWrap_accepts_long_expired :
    expOk 1700000000000 (-10000000000000) = false ∧ expOkWrap 1700000000000 (-10000000000000) = true ∧
    expOk 1700000000000 (-12000000000000) = false ∧ expOkWrap 1700000000000 (-12000000000000) = true := by decide


theorem isPrefixOf_iff (p b : Str) : p.isPrefixOf b = true ↔ b = p ++ b.drop p.length := by
  rw [List.isPrefixOf_iff_prefix, List.prefix_iff_eq_append]
  exact eq_comm

theorem stripFullBit_eq (app b s : Str) (hs : s ≠ []) : stripFullBit app b = s ↔ b = appPrefix app ++ s := by
  unfold stripFullBit
  constructor
  · intro h
    split at h
    · next hp =>
      rw [← h]
      exact (isPrefixOf_iff _ _).mp hp
    · exact absurd h.symm hs
  · intro h
    subst h
    simp

theorem mem_appBits (app : Str) (bits : List Str) (s : Str) :
    s ∈ appBits app bits ↔ s ≠ [] ∧ appPrefix app ++ s ∈ bits := by
  unfold appBits
  simp only [List.mem_filter, List.mem_map, Bool.not_eq_eq_eq_not, Bool.not_true, List.isEmpty_eq_false_iff]
  constructor
  · rintro ⟨⟨b, hb, he⟩, hs⟩
    exact ⟨hs, (stripFullBit_eq app b s hs).mp he ▸ hb⟩
  · rintro ⟨hs, hb⟩
    exact ⟨⟨_, hb, (stripFullBit_eq app _ s hs).mpr rfl⟩, hs⟩

/-- what it means that an accessInfo carries grant `g` -/
def Granted (ai : AI) : Grant → Prop
  | .admin => ai.admin = true
  | .developer => ai.developer = true
  | .viewDefault => ai.viewDefault = true
  | .editDefault => ai.editDefault = true
  | .viewPrefix p => p ∈ ai.viewPrefix
  | .editPrefix p => p ∈ ai.editPrefix
  | .viewMetric m => m ∈ ai.viewMetric
  | .editMetric m => m ∈ ai.editMetric
  | .nothing => False

theorem granted_applyGrant (ai : AI) (g g' : Grant) :
    Granted (applyGrant ai g') g ↔ (g ≠ .nothing ∧ g = g') ∨ Granted ai g := by
  unfold Granted applyGrant
  cases g' <;> cases g <;> simp

theorem applyBits_cons (ai : AI) (b : Str) (bs : List Str) :
    applyBits ai (b :: bs) = applyBits (applyGrant ai (classify b)) bs := rfl

theorem granted_applyBits (bs : List Str) : ∀ (ai : AI) (g : Grant),
    Granted (applyBits ai bs) g ↔ (g ≠ .nothing ∧ ∃ b ∈ bs, classify b = g) ∨ Granted ai g := by
  induction bs with
  | nil =>
    intro ai g
    simp [applyBits]
  | cons b bs ih =>
    intro ai g
    rw [applyBits_cons, ih, granted_applyGrant, ← or_assoc, ← and_or_left, or_comm (a := ∃ b ∈ bs, classify b = g)]
    simp only [List.mem_cons, exists_eq_or_imp, eq_comm (a := g)]

theorem granted_empty (u : Str) (sv : Bool) (p : List Str) (g : Grant) : ¬ Granted (emptyAI u sv p) g := by
  cases g <;> simp [Granted, emptyAI]

theorem classify_nil : classify [] = .nothing := by decide +kernel

/-- **Only bits prefixed with the application name are granted.** Every flag, prefix or metric the accessInfo of an
    accepted token carries comes from a bit `app ++ ":" ++ s` of the token whose remainder `s` the switch maps to
    exactly that grant — and every such bit is honoured. -/
theorem grant_traced (cfg : Cfg) (t : Token) (g : Grant) :
    Granted (grants cfg t) g ↔ g ≠ .nothing ∧ ∃ s, appPrefix cfg.app ++ s ∈ t.bits ∧ classify s = g := by
  unfold grants
  rw [granted_applyBits]
  simp only [granted_empty, or_false, mem_appBits]
  constructor
  · rintro ⟨hg, s, ⟨_, hb⟩, hc⟩
    exact ⟨hg, s, hb, hc⟩
  · rintro ⟨hg, s, hb, hc⟩
    refine ⟨hg, s, ⟨?_, hb⟩, hc⟩
    intro h
    subst h
    rw [classify_nil] at hc
    exact hg hc.symm


/-- the `strings.HasPrefix(bit, app + ":")` test of `stripFullBit` -/
def hasApp (app b : Str) : Bool := (appPrefix app).isPrefixOf b

theorem appBits_filter (app : Str) (bits : List Str) : appBits app (bits.filter (hasApp app)) = appBits app bits := by
  -- a bit without the prefix is stripped to `[]`, which `appBits` drops anyway
  unfold appBits
  rw [List.filter_map, List.filter_map, List.filter_filter]
  congr 1
  refine List.filter_congr fun b _ => ?_
  unfold hasApp
  by_cases h : (appPrefix app).isPrefixOf b = true <;> simp [stripFullBit, h]

/-- **Foreign bits grant nothing**: the accessInfo is a function of the bits that carry the application prefix. -/
theorem grants_only_app_bits (cfg : Cfg) (t : Token) :
    grants cfg { t with bits := t.bits.filter (hasApp cfg.app) } = grants cfg t := by
  unfold grants
  simp only [appBits_filter]

theorem grants_nothing (cfg : Cfg) (t : Token) (h : ∀ b ∈ t.bits, hasApp cfg.app b = false) :
    grants cfg t = emptyAI t.user t.service cfg.prot := by
  rw [← grants_only_app_bits]
  have : t.bits.filter (hasApp cfg.app) = [] := by
    rw [List.filter_eq_nil_iff]
    intro b hb
    simp [h b hb]
  simp [grants, this, appBits, applyBits]

theorem applyGrant_fixed (ai : AI) (g : Grant) :
    (applyGrant ai g).prot = ai.prot ∧ (applyGrant ai g).user = ai.user ∧ (applyGrant ai g).service = ai.service := by
  cases g <;> exact ⟨rfl, rfl, rfl⟩

theorem applyBits_fixed (bs : List Str) : ∀ ai : AI,
    (applyBits ai bs).prot = ai.prot ∧ (applyBits ai bs).user = ai.user ∧ (applyBits ai bs).service = ai.service := by
  induction bs with
  | nil =>
    intro ai
    exact ⟨rfl, rfl, rfl⟩
  | cons b bs ih =>
    intro ai
    rw [applyBits_cons]
    obtain ⟨h1, h2, h3⟩ := ih (applyGrant ai (classify b))
    obtain ⟨g1, g2, g3⟩ := applyGrant_fixed ai (classify b)
    exact ⟨h1.trans g1, h2.trans g2, h3.trans g3⟩

theorem grants_fixed (cfg : Cfg) (t : Token) :
    (grants cfg t).prot = cfg.prot ∧ (grants cfg t).user = t.user ∧ (grants cfg t).service = t.service := by
  simpa [grants, emptyAI] using applyBits_fixed (appBits cfg.app t.bits) (emptyAI t.user t.service cfg.prot)

/-- the shape of the bit switch: which remainders `s` produce which grant -/
inductive BitForm : Str → Grant → Prop
  | admin : BitForm (lit "admin") .admin
  | developer : BitForm (lit "developer") .developer
  | viewDefault : BitForm (lit "view_default") .viewDefault
  | editDefault : BitForm (lit "edit_default") .editDefault
  | viewPrefix (x : Str) : BitForm (pViewPrefix ++ x) (.viewPrefix (extractNamespace x))
  | editPrefix (x : Str) : BitForm (pEditPrefix ++ x) (.editPrefix (extractNamespace x))
  | viewMetric (x : Str) : BitForm (pViewMetric ++ x) (.viewMetric (extractNamespace x))
  | editMetric (x : Str) : BitForm (pEditMetric ++ x) (.editMetric (extractNamespace x))
  | viewNamespace (y : Str) : BitForm (pViewNamespace ++ y) (.viewPrefix (y ++ [colon]))
  | editNamespace (y : Str) : BitForm (pEditNamespace ++ y) (.editPrefix (y ++ [colon]))

/-- one test of the switch: `split` or `simp [classify]` on the whole ten-deep chain goes through the rest of the nest again
    at every level and is slow to check, hence one test at a time (`fieldCheck` likewise, with `ite_ok_iff`) -/
theorem BitForm.ite {s : Str} {c : Prop} [Decidable c] {g r : Grant} (hc : c → BitForm s g)
    (hr : r ≠ .nothing → BitForm s r) (h : (if c then g else r) ≠ .nothing) : BitForm s (if c then g else r) := by
  by_cases hc' : c
  · rw [if_pos hc']
    exact hc hc'
  · rw [if_neg hc'] at h ⊢
    exact hr h

theorem BitForm.of_prefix {p s : Str} {F : Str → Grant} (hF : ∀ x, BitForm (p ++ x) (F x)) (h : p.isPrefixOf s = true) :
    BitForm s (F (s.drop p.length)) := by
  rw [(isPrefixOf_iff p s).mp h, List.drop_left]
  exact hF _

theorem classify_form (s : Str) (g : Grant) (h : classify s = g) (hg : g ≠ .nothing) : BitForm s g := by
  subst h
  unfold classify at hg ⊢
  exact .ite (· ▸ .admin) (.ite (· ▸ .developer) (.ite (· ▸ .viewDefault) (.ite (· ▸ .editDefault)
    (.ite (.of_prefix .viewPrefix) (.ite (.of_prefix .editPrefix) (.ite (.of_prefix .viewMetric)
    (.ite (.of_prefix .editMetric) (.ite (.of_prefix .viewNamespace) (.ite (.of_prefix .editNamespace)
    fun h => absurd rfl h))))))))) hg

theorem granted_form (cfg : Cfg) (t : Token) (g : Grant) (h : Granted (grants cfg t) g) :
    ∃ s, appPrefix cfg.app ++ s ∈ t.bits ∧ BitForm s g := by
  obtain ⟨hg, s, hb, hc⟩ := (grant_traced cfg t g).mp h
  exact ⟨s, hb, classify_form s g hc hg⟩

theorem admin_traced (cfg : Cfg) (t : Token) :
    (grants cfg t).admin = true ↔ appPrefix cfg.app ++ lit "admin" ∈ t.bits := by
  constructor
  · intro h
    obtain ⟨s, hb, hf⟩ := granted_form cfg t .admin h
    cases hf
    exact hb
  · intro hb
    exact (grant_traced cfg t .admin).mpr ⟨by simp, lit "admin", hb, by decide⟩

theorem admin_false (cfg : Cfg) (t : Token) (hna : appPrefix cfg.app ++ lit "admin" ∉ t.bits) :
    (grants cfg t).admin = false :=
  Bool.eq_false_iff.mpr fun h => hna ((admin_traced cfg t).mp h)


def Unprotected (prot : List Str) (name : Str) : Prop := ∀ p ∈ prot, ¬ p <+: name

theorem hasPrefixAccess_iff (m : List Str) (name : Str) : hasPrefixAccess m name = true ↔ ∃ p ∈ m, p <+: name := by
  simp [hasPrefixAccess, List.any_eq_true]

theorem protectedMetric_false (ai : AI) (name : Str) : protectedMetric ai name = false ↔ Unprotected ai.prot name := by
  simp [protectedMetric, Unprotected]

/-- the three ways the property allows a name to be viewed -/
def ViewRight (ai : AI) (name : Str) : Prop :=
  name ∈ ai.viewMetric ∨ (∃ p ∈ ai.viewPrefix, p <+: name) ∨ (ai.viewDefault = true ∧ Unprotected ai.prot name)

/-- … and edited -/
def EditRight (ai : AI) (name : Str) : Prop :=
  name ∈ ai.editMetric ∨ (∃ p ∈ ai.editPrefix, p <+: name) ∨ (ai.editDefault = true ∧ Unprotected ai.prot name)

theorem viewRight_iff (ai : AI) (name : Str) : viewRight ai name = true ↔ ViewRight ai name := by
  simp only [viewRight, ViewRight, Bool.or_eq_true, Bool.and_eq_true, Bool.not_eq_eq_eq_not, Bool.not_true,
    List.contains_iff_mem, hasPrefixAccess_iff, protectedMetric_false, or_assoc]

/-- **View rule.** A name is viewable iff (it is not a remote-config metric, or the caller is admin) and there is a
    matching metric grant, a prefix/namespace grant, or the default grant on an unprotected name. -/
theorem view_rule (ai : AI) (name : Str) :
    canViewName ai name = true ↔ (remoteConfig name = true → ai.admin = true) ∧ ViewRight ai name := by
  unfold canViewName
  rw [← viewRight_iff]
  by_cases hr : remoteConfig name = true <;> by_cases ha : ai.admin = true <;> simp [hr, ha]

/-- **A non-admin can never view remote-config metrics.** -/
theorem remote_config_view (ai : AI) (name : Str) (ha : ai.admin = false) (hr : remoteConfig name = true) :
    canViewName ai name = false := by
  simp [canViewName, ha, hr]

theorem changeRight_iff (ai : AI) (o n : Str) :
    changeRight ai o n = true ↔
      (o ∈ ai.editMetric ∧ n ∈ ai.editMetric) ∨
      ((∃ p ∈ ai.editPrefix, p <+: o) ∧ (∃ p ∈ ai.editPrefix, p <+: n)) ∨
      (ai.editDefault = true ∧ Unprotected ai.prot o ∧ Unprotected ai.prot n) := by
  simp only [changeRight, Bool.or_eq_true, Bool.and_eq_true, Bool.not_eq_eq_eq_not, Bool.not_true,
    List.contains_iff_mem, hasPrefixAccess_iff, protectedMetric_false, or_assoc, and_assoc]

theorem canChange_iff (ai : AI) (c : Bool) (o n : Str) :
    canChange ai c o n = true ↔
      ai.admin = true ∨ (remoteConfig o = false ∧ remoteConfig n = false ∧ changeRight ai o n = true) := by
  unfold canChange
  by_cases ha : ai.admin = true
  · simp [ha]
  · by_cases ho : remoteConfig o = true
    · simp [ha, ho]
    · by_cases hn : remoteConfig n = true <;> simp [ha, ho, hn]

/-- **Rename needs edit rights on both names; remote-config metrics cannot be changed.** Weaker than the code: `changeRight_iff`
    is exact (the same KIND of right on both names). -/
theorem change_needs_both (ai : AI) (c : Bool) (o n : Str) (ha : ai.admin = false) (h : canChange ai c o n = true) :
    remoteConfig o = false ∧ remoteConfig n = false ∧ EditRight ai o ∧ EditRight ai n := by
  rw [canChange_iff, changeRight_iff] at h
  rcases h with h | ⟨h1, h2, h3⟩
  · rw [ha] at h
    cases h
  · refine ⟨h1, h2, ?_⟩
    rcases h3 with ⟨a, b⟩ | ⟨a, b⟩ | ⟨a, b, c⟩
    · exact ⟨.inl a, .inl b⟩
    · exact ⟨.inr (.inl a), .inr (.inl b)⟩
    · exact ⟨.inr (.inr ⟨a, b⟩), .inr (.inr ⟨a, c⟩)⟩

theorem canEdit_not_forbidden (ai : AI) (c : Bool) (o n : Meta) :
    canEdit ai c o n ≠ .forbidden → canChange ai c o.name n.name = true := by
  unfold canEdit
  by_cases h : canChange ai c o.name n.name = true <;> simp [h]

theorem edit_needs_both (ai : AI) (c : Bool) (o n : Meta) (ha : ai.admin = false) (h : canEdit ai c o n ≠ .forbidden) :
    remoteConfig o.name = false ∧ remoteConfig n.name = false ∧ EditRight ai o.name ∧ EditRight ai n.name :=
  change_needs_both ai c _ _ ha (canEdit_not_forbidden ai c o n h)

/-- **A non-admin can never change remote-config metrics.** -/
theorem remote_config_edit (ai : AI) (c : Bool) (o n : Meta) (ha : ai.admin = false)
    (hr : remoteConfig o.name = true ∨ remoteConfig n.name = true) : canEdit ai c o n = .forbidden := by
  refine Decidable.byContradiction fun h => ?_
  obtain ⟨h1, h2, _⟩ := edit_needs_both ai c o n ha h
  rcases hr with hr | hr
  · exact absurd (h1 ▸ hr) Bool.false_ne_true
  · exact absurd (h2 ▸ hr) Bool.false_ne_true

theorem forall_nat_iff {P : Nat → Prop} : (∀ i, P i) ↔ P 0 ∧ ∀ i, P (i + 1) :=
  ⟨fun h => ⟨h 0, fun i => h (i + 1)⟩, fun h i => match i with
    | 0 => h.1
    | i + 1 => h.2 i⟩

theorem noneRaw_iff (a : List Bool) : noneRaw a = true ↔ ∀ i, a.getD i false = false := by
  induction a with
  | nil => simp [noneRaw]
  | cons x xs ih =>
    rw [forall_nat_iff]
    simp only [noneRaw, Bool.and_eq_true, Bool.not_eq_eq_eq_not, Bool.not_true, ih, List.getD_cons_zero, List.getD_cons_succ]

theorem rawSame_iff : ∀ (a b : List Bool), rawSame a b = true ↔ ∀ i, a.getD i false = b.getD i false
  | [], b => by
    rw [rawSame, noneRaw_iff]
    exact forall_congr' fun i => eq_comm
  | x :: xs, [] => by
    rw [show rawSame (x :: xs) [] = noneRaw (x :: xs) from rfl, noneRaw_iff]
    rfl
  | x :: xs, y :: ys => by
    rw [forall_nat_iff]
    simp only [rawSame, Bool.and_eq_true, beq_iff_eq, rawSame_iff xs ys, List.getD_cons_zero, List.getD_cons_succ]

/-- the attributes a non-admin may not touch are the same in the old and the new description -/
structure Frozen (o n : Meta) : Prop where
  weight : n.weightQ = o.weightQ ∨ (o.weightQ = 0 ∧ n.weightQ = 4)
  preKeyFrom : n.preKeyFrom = o.preKeyFrom
  preKeyOnly : n.preKeyOnly = o.preKeyOnly
  skipMaxHost : n.skipMaxHost = o.skipMaxHost
  skipMinHost : n.skipMinHost = o.skipMinHost
  skipSumSquare : n.skipSumSquare = o.skipSumSquare
  strategy : n.strategy = o.strategy
  shardNum : n.shardNum = o.shardNum
  fixedKey : n.fixedKey = o.fixedKey
  fixedKey2 : n.fixedKey2 = o.fixedKey2
  fixedKey2Ts : n.fixedKey2Ts = o.fixedKey2Ts
  /-- raw-ness of every tag position (a missing tag is not raw) -/
  rawTags : ∀ i, o.rawTags.getD i false = n.rawTags.getD i false

theorem ite_ok_iff {c : Prop} [Decidable c] {e r : EditRes} (he : e ≠ .ok) :
    (if c then e else r) = .ok ↔ ¬ c ∧ r = .ok := by
  by_cases hc : c
  · simp [hc, he]
  · simp [hc]

theorem fieldCheck_ok_iff (o n : Meta) : fieldCheck o n = .ok ↔ Frozen o n := by
  simp only [fieldCheck, ite_ok_iff, ne_eq, reduceCtorEq, not_false_eq_true, and_true, weightFrozen, skipsSame,
    rawSame_iff, Bool.not_eq_false, bne_iff_ne, Decidable.not_not, Bool.or_eq_true, Bool.and_eq_true, beq_iff_eq,
    Bool.not_eq_eq_eq_not, Bool.not_true]
  constructor
  · rintro ⟨h1, h2, h3, ⟨⟨h4, h5⟩, h6⟩, h7, h8, h9, h10, h11, h12⟩
    exact ⟨h1.imp_left Eq.symm, h2.symm, h3.symm, h4.symm, h5.symm, h6.symm, h7.symm, h8.symm, h9.symm, h10.symm,
      h11.symm, h12⟩
  · intro f
    exact ⟨f.weight.imp_left Eq.symm, f.preKeyFrom.symm, f.preKeyOnly.symm,
      ⟨⟨f.skipMaxHost.symm, f.skipMinHost.symm⟩, f.skipSumSquare.symm⟩, f.strategy.symm, f.shardNum.symm,
      f.fixedKey.symm, f.fixedKey2.symm, f.fixedKey2Ts.symm, f.rawTags⟩

theorem edit_ok_iff (ai : AI) (c : Bool) (o n : Meta) :
    canEdit ai c o n = .ok ↔ canChange ai c o.name n.name = true ∧ (ai.admin = true ∨ Frozen o n) := by
  unfold canEdit
  by_cases hc : canChange ai c o.name n.name = true
  · by_cases ha : ai.admin = true
    · simp [hc, ha]
    · simp [hc, ha, fieldCheck_ok_iff]
  · simp [hc]

/-- **Frozen fields.** If a non-admin edit is accepted then weight is unchanged or goes 0→1, and presort (from, only),
    the three skips, sharding strategy, shard number, both fixed shards and the fixed-shard timestamp and the
    raw-ness of every tag are unchanged. -/
theorem frozen_fields (ai : AI) (c : Bool) (o n : Meta) (ha : ai.admin = false) (h : canEdit ai c o n = .ok) : Frozen o n := by
  obtain ⟨_, hf⟩ := (edit_ok_iff ai c o n).mp h
  exact hf.resolve_left (ha ▸ Bool.false_ne_true)


/-- the remainder `s` of a bit `app:s` that lets `name` be VIEWED -/
inductive ViewBit (prot : List Str) (name : Str) : Str → Prop
  | metric (x : Str) : extractNamespace x = name → ViewBit prot name (pViewMetric ++ x)
  | pref (x : Str) : extractNamespace x <+: name → ViewBit prot name (pViewPrefix ++ x)
  | namespace (y : Str) : (y ++ [colon]) <+: name → ViewBit prot name (pViewNamespace ++ y)
  | default : Unprotected prot name → ViewBit prot name (lit "view_default")

/-- the remainder `s` of a bit `app:s` that lets `name` be EDITED -/
inductive EditBit (prot : List Str) (name : Str) : Str → Prop
  | metric (x : Str) : extractNamespace x = name → EditBit prot name (pEditMetric ++ x)
  | pref (x : Str) : extractNamespace x <+: name → EditBit prot name (pEditPrefix ++ x)
  | namespace (y : Str) : (y ++ [colon]) <+: name → EditBit prot name (pEditNamespace ++ y)
  | default : Unprotected prot name → EditBit prot name (lit "edit_default")

theorem view_right_traced (cfg : Cfg) (t : Token) (name : Str) (h : ViewRight (grants cfg t) name) :
    ∃ s, appPrefix cfg.app ++ s ∈ t.bits ∧ ViewBit cfg.prot name s := by
  rcases h with h | ⟨p, hp, hpre⟩ | ⟨hd, hu⟩
  · obtain ⟨s, hb, hf⟩ := granted_form cfg t (.viewMetric name) h
    cases hf with
    | viewMetric x => exact ⟨_, hb, .metric x rfl⟩
  · obtain ⟨s, hb, hf⟩ := granted_form cfg t (.viewPrefix p) hp
    cases hf with
    | viewPrefix x => exact ⟨_, hb, .pref x hpre⟩
    | viewNamespace y => exact ⟨_, hb, .namespace y hpre⟩
  · obtain ⟨s, hb, hf⟩ := granted_form cfg t .viewDefault hd
    cases hf
    rw [(grants_fixed cfg t).1] at hu
    exact ⟨_, hb, .default hu⟩

theorem edit_right_traced (cfg : Cfg) (t : Token) (name : Str) (h : EditRight (grants cfg t) name) :
    ∃ s, appPrefix cfg.app ++ s ∈ t.bits ∧ EditBit cfg.prot name s := by
  rcases h with h | ⟨p, hp, hpre⟩ | ⟨hd, hu⟩
  · obtain ⟨s, hb, hf⟩ := granted_form cfg t (.editMetric name) h
    cases hf with
    | editMetric x => exact ⟨_, hb, .metric x rfl⟩
  · obtain ⟨s, hb, hf⟩ := granted_form cfg t (.editPrefix p) hp
    cases hf with
    | editPrefix x => exact ⟨_, hb, .pref x hpre⟩
    | editNamespace y => exact ⟨_, hb, .namespace y hpre⟩
  · obtain ⟨s, hb, hf⟩ := granted_form cfg t .editDefault hd
    cases hf
    rw [(grants_fixed cfg t).1] at hu
    exact ⟨_, hb, .default hu⟩

/-- **A metric can be viewed only through a matching metric, prefix or namespace bit or the default bit for an
    unprotected name** — stated on the token: if the holder of token `t` may view `name`, then `t` carries a bit
    `app:s` of one of these four forms, and if `name` is a remote-config metric it also carries `app:admin`. -/
theorem view_only_through_bit (cfg : Cfg) (t : Token) (name : Str) (h : canViewName (grants cfg t) name = true) :
    (remoteConfig name = true → appPrefix cfg.app ++ lit "admin" ∈ t.bits) ∧
    ∃ s, appPrefix cfg.app ++ s ∈ t.bits ∧ ViewBit cfg.prot name s := by
  obtain ⟨h1, h2⟩ := (view_rule _ _).mp h
  exact ⟨fun hr => (admin_traced cfg t).mp (h1 hr), view_right_traced cfg t name h2⟩

/-- **A non-admin can edit (create, change, rename) only with an edit bit for the old AND for the new name, and never
    a remote-config metric** — stated on the token. -/
theorem edit_only_through_bits (cfg : Cfg) (t : Token) (c : Bool) (o n : Meta)
    (hna : appPrefix cfg.app ++ lit "admin" ∉ t.bits) (h : canEdit (grants cfg t) c o n ≠ .forbidden) :
    remoteConfig o.name = false ∧ remoteConfig n.name = false ∧
    (∃ s, appPrefix cfg.app ++ s ∈ t.bits ∧ EditBit cfg.prot o.name s) ∧
    (∃ s, appPrefix cfg.app ++ s ∈ t.bits ∧ EditBit cfg.prot n.name s) := by
  obtain ⟨h1, h2, h3, h4⟩ := edit_needs_both _ c o n (admin_false cfg t hna) h
  exact ⟨h1, h2, edit_right_traced cfg t _ h3, edit_right_traced cfg t _ h4⟩

/-- **Nothing is granted without an accepted token.** Outside local / insecure mode parseAccessToken succeeds only on
    a decodable token that satisfies `Valid`, and the result is exactly `grants`. -/
theorem parse_ok_only_if (cfg : Cfg) (now : Int) (inp : Input) (ai : AI)
    (hl : cfg.localMode = false) (hi : cfg.insecure = false) (h : parseAccessToken cfg now inp = .ok ai) :
    ∃ t, inp = .tok t ∧ Valid cfg now t ∧ ai = grants cfg t := by
  unfold parseAccessToken at h
  simp only [hl, hi, Bool.or_self, Bool.false_eq_true, if_false] at h
  cases inp with
  | empty => cases h
  | malformed => cases h
  | tok t =>
    refine ⟨t, rfl, ?_⟩
    cases hv : verify cfg now t with
    | accept =>
      simp only [hv, ofVerdict, Res.ok.injEq] at h
      exact ⟨(accept_iff cfg now t).mp hv, h.symm⟩
    | err m => simp [hv, ofVerdict] at h
    | panic => simp [hv, ofVerdict] at h

/-- **C30, end to end.** Outside local / insecure mode, whenever parseAccessToken returns an accessInfo `ai`:
    the input is a token satisfying the acceptance condition; every grant in `ai` is a bit of that token with the
    application prefix; whatever `ai` may view is covered by a view bit (and `app:admin` for remote-config metrics);
    and if the token has no `app:admin` bit, every edit that is not refused outright has edit bits for both names,
    touches no remote-config metric, and, if accepted, leaves the frozen attributes unchanged. -/
theorem c30_end_to_end (cfg : Cfg) (now : Int) (inp : Input) (ai : AI)
    (hl : cfg.localMode = false) (hi : cfg.insecure = false) (h : parseAccessToken cfg now inp = .ok ai) :
    ∃ t, inp = .tok t ∧ Valid cfg now t ∧
      (∀ g, Granted ai g ↔ g ≠ .nothing ∧ ∃ s, appPrefix cfg.app ++ s ∈ t.bits ∧ classify s = g) ∧
      (∀ name, canViewName ai name = true →
        (remoteConfig name = true → appPrefix cfg.app ++ lit "admin" ∈ t.bits) ∧
        ∃ s, appPrefix cfg.app ++ s ∈ t.bits ∧ ViewBit cfg.prot name s) ∧
      (appPrefix cfg.app ++ lit "admin" ∉ t.bits → ∀ c o n,
        (canEdit ai c o n ≠ .forbidden →
          remoteConfig o.name = false ∧ remoteConfig n.name = false ∧
          (∃ s, appPrefix cfg.app ++ s ∈ t.bits ∧ EditBit cfg.prot o.name s) ∧
          (∃ s, appPrefix cfg.app ++ s ∈ t.bits ∧ EditBit cfg.prot n.name s)) ∧
        (canEdit ai c o n = .ok → Frozen o n)) := by
  obtain ⟨t, rfl, hv, rfl⟩ := parse_ok_only_if cfg now inp ai hl hi h
  refine ⟨t, rfl, hv, grant_traced cfg t, view_only_through_bit cfg t, ?_⟩
  intro hna c o n
  exact ⟨edit_only_through_bits cfg t c o n hna, frozen_fields _ c o n (admin_false cfg t hna)⟩


/-! non-vacuity: concrete tokens, bits and metric pairs -/

def kA : Str := lit "key-a"
def kB : Str := lit "key-b"
def pubA : Key := [1, 2, 3]
def pubB : Key := [4, 5, 6]
def pubC : Key := [7, 8, 9]
def fp0 (k : Key) : Str := if k = pubA then kA else if k = pubB then kB else lit "key-c"
def cfg0 : Cfg := { app := lit "statshouse", keys := parseKeys fp0 [pubA, pubB], prot := [lit "foo_"], localMode := false, insecure := false }
def tok0 : Token :=
  { alg := .str (lit "EdDSA"), kind := .str (lit "token"), kid := .str kA, sigValid := [pubA], iss := lit "vkuth", user := lit "u",
    exp := some 1000000, iat := some 900000, nbf := none, service := false,
    bits := [lit "statshouse:view_default", lit "other:admin", lit "admin", lit "statshouse2:admin",
             lit "statshouse:edit_prefix.ns@foo_", lit "statshouse:view_metric.foo_bar", lit "statshouse:edit_namespace.team"] }

/-- evaluated once: the examples about `grants cfg0 tok0` rewrite with it instead of evaluating the bit switch again -/
theorem grants0 : grants cfg0 tok0 = { emptyAI (lit "u") false [lit "foo_"] with
    viewDefault := true, editPrefix := [lit "team:", lit "ns:foo_"], viewMetric := [lit "foo_bar"] } := by
  decide +kernel

-- a valid token is accepted; the window boundaries are where the code puts them
example : verify cfg0 950000 tok0 = .accept := by decide +kernel
example : verify cfg0 1004999 tok0 = .accept ∧ verify cfg0 1005000 tok0 = .err 16 := by decide +kernel
example : verify cfg0 895000 tok0 = .accept ∧ verify cfg0 894999 tok0 = .err 32 := by decide +kernel
example : verify cfg0 950000 { tok0 with nbf := some 950000 } = .accept ∧
          verify cfg0 950000 { tok0 with nbf := some 951000 } = .err 128 := by decide +kernel
-- one-aspect tampering
example : verify cfg0 950000 { tok0 with alg := .str (lit "HS256") } = .err 4 := by decide +kernel
example : verify cfg0 950000 { tok0 with alg := .str (lit "none") } = .err 4 := by decide +kernel
example : verify cfg0 950000 { tok0 with alg := .str (lit "XX") } = .err 2 := by decide +kernel
example : verify cfg0 950000 { tok0 with alg := .absent } = .err 2 := by decide +kernel
example : verify cfg0 950000 { tok0 with kind := .str (lit "cookie") } = .err 2 := by decide +kernel
example : verify cfg0 950000 { tok0 with kind := .absent } = .err 2 := by decide +kernel
example : verify cfg0 950000 { tok0 with kid := .str kB } = .err 4 := by decide +kernel            -- signed by A, names B
example : verify cfg0 950000 { tok0 with kid := .str kB, sigValid := [pubB] } = .accept := by decide +kernel   -- rotation: the other key
example : verify cfg0 950000 { tok0 with sigValid := [pubB] } = .err 4 := by decide +kernel       -- names A, signed by configured B
example : verify cfg0 950000 { tok0 with sigValid := [pubC] } = .err 4 := by decide +kernel       -- names A, signed by unconfigured C
example : verify cfg0 950000 { tok0 with kid := .str (lit "key-c"), sigValid := [pubC] } = .err 2 := by decide +kernel
example : tableGet cfg0.keys kA = some pubA ∧ tableGet cfg0.keys kB = some pubB ∧ tableGet cfg0.keys (lit "key-c") = none := by decide +kernel
-- a table in which every id leads to the LAST key's bytes is a different table: it accepts B's signature under A's id
example : verify { cfg0 with keys := [(kA, pubB), (kB, pubB)] } 950000 { tok0 with sigValid := [pubB] } = .accept ∧
          verify { cfg0 with keys := [(kA, pubB), (kB, pubB)] } 950000 tok0 = .err 4 := by decide +kernel
example : verify cfg0 950000 { tok0 with kid := .other } = .err 2 := by decide +kernel
example : verify cfg0 950000 { tok0 with sigValid := [] } = .err 4 := by decide +kernel
example : verify cfg0 950000 { tok0 with iss := lit "vkuth2" } = .err 512 := by decide +kernel
example : verify cfg0 950000 { tok0 with user := [] } = .err 512 := by decide +kernel
example : verify cfg0 950000 { tok0 with iat := none } = .err 32 := by decide +kernel
example : verify cfg0 950000 { tok0 with exp := none } = .panic := by decide +kernel
-- expiry is decided on unbounded time: 1970, before 1970, ±292 / ±584 years, the int64-second extremes
example : verify cfg0 950000 { tok0 with exp := some 0 } = .err 16 ∧
          verify cfg0 950000 { tok0 with exp := some (-1) } = .err 16 ∧
          verify cfg0 1700000000000 { tok0 with exp := some (-10000000000000) } = .err 16 ∧
          verify cfg0 1700000000000 { tok0 with exp := some (1700000000000 - 9223372036000) } = .err 16 ∧
          verify cfg0 1700000000000 { tok0 with exp := some (1700000000000 - 18446744073000) } = .err 16 ∧
          verify cfg0 1700000000000 { tok0 with exp := some (-9223372036854775808000) } = .err 16 ∧
          verify cfg0 1700000000000 { tok0 with exp := some 253402300799000 } = .accept ∧
          verify cfg0 1700000000000 { tok0 with exp := some 9007199254740992000 } = .accept := by decide +kernel
example : verify cfg0 2000000 { tok0 with iss := [], iat := none } = .err (16 + 32 + 512) := by decide +kernel
-- the hypotheses of c30_end_to_end are satisfiable, local mode ignores the token
example : parseAccessToken cfg0 950000 (.tok tok0) = .ok (grants cfg0 tok0) := by rfl
example : parseAccessToken cfg0 950000 .empty = .err 0 ∧ parseAccessToken cfg0 950000 .malformed = .err 1 := by decide +kernel
example : parseAccessToken { cfg0 with insecure := true } 0 .malformed = .ok (insecureAI { cfg0 with insecure := true }) := by decide +kernel
-- only the application's bits count
example : (grants cfg0 tok0).admin = false ∧ (grants cfg0 tok0).viewDefault = true ∧ (grants cfg0 tok0).editDefault = false ∧
          (grants cfg0 tok0).editPrefix = [lit "team:", lit "ns:foo_"] ∧ (grants cfg0 tok0).viewMetric = [lit "foo_bar"] ∧
          (grants cfg0 tok0).viewPrefix = [] := by
  rw [grants0]
  decide +kernel
-- view: metric bit beats protection, default does not, remote config is admin only
example : canViewName (grants cfg0 tok0) (lit "foo_bar") = true ∧ canViewName (grants cfg0 tok0) (lit "foo_baz") = false ∧
          canViewName (grants cfg0 tok0) (lit "abc") = true ∧
          canViewName (grants cfg0 tok0) (lit "statshouse_api_remote_config") = false := by
  rw [grants0]
  decide +kernel
example : canViewName (grants cfg0 { tok0 with bits := [lit "statshouse:admin", lit "statshouse:view_default"] })
            (lit "statshouse_api_remote_config") = true := by decide +kernel
example : canViewName (grants cfg0 { tok0 with bits := [lit "statshouse:admin"] }) (lit "abc") = false := by decide +kernel

def m0 : Meta :=
  { name := lit "ns:foo_a", weightQ := 0, preKeyFrom := 0, preKeyOnly := false, skipMaxHost := false, skipMinHost := true,
    skipSumSquare := false, strategy := [], shardNum := 0, fixedKey := 0, fixedKey2 := 0, fixedKey2Ts := 0, rawTags := [false, true] }

-- edit: rights on both names, frozen attributes
example : canEdit (grants cfg0 tok0) false m0 m0 = .ok := by
  rw [grants0]
  decide +kernel
example : canEdit (grants cfg0 tok0) false m0 { m0 with name := lit "ns:foo_b", weightQ := 4 } = .ok := by
  rw [grants0]
  decide +kernel
example : canEdit (grants cfg0 tok0) false m0 { m0 with name := lit "team:x" } = .ok := by
  rw [grants0]
  decide +kernel
example : canEdit (grants cfg0 tok0) false m0 { m0 with name := lit "abc" } = .forbidden := by
  rw [grants0]
  decide +kernel
example : canEdit (grants cfg0 tok0) false { m0 with name := lit "abc" } m0 = .forbidden := by
  rw [grants0]
  decide +kernel
example : canEdit (grants cfg0 tok0) false m0 { m0 with weightQ := 8 } = .weight := by
  rw [grants0]
  decide +kernel
example : canEdit (grants cfg0 tok0) false { m0 with weightQ := 4 } { m0 with weightQ := 0 } = .weight := by
  rw [grants0]
  decide +kernel
example : canEdit (grants cfg0 tok0) false m0 { m0 with preKeyFrom := 1 } = .presort := by
  rw [grants0]
  decide +kernel
example : canEdit (grants cfg0 tok0) false m0 { m0 with preKeyOnly := true } = .presortOnly := by
  rw [grants0]
  decide +kernel
example : canEdit (grants cfg0 tok0) false m0 { m0 with skipMinHost := false, skipSumSquare := true } = .skips := by
  rw [grants0]
  decide +kernel
example : canEdit (grants cfg0 tok0) false m0 { m0 with strategy := lit "fixed_shard" } = .strategy := by
  rw [grants0]
  decide +kernel
example : canEdit (grants cfg0 tok0) false m0 { m0 with fixedKey2Ts := 1 } = .shard := by
  rw [grants0]
  decide +kernel
example : canEdit (grants cfg0 tok0) false m0 { m0 with rawTags := [false] } = .raw := by
  rw [grants0]
  decide +kernel
example : canEdit (grants cfg0 tok0) false m0 { m0 with rawTags := [false, true, false] } = .ok := by
  rw [grants0]
  decide +kernel
example : canEdit (grants cfg0 tok0) false m0 { m0 with rawTags := [false, true, true] } = .raw := by
  rw [grants0]
  decide +kernel
example : canEdit (grants cfg0 { tok0 with bits := [lit "statshouse:admin"] }) false m0
            { m0 with name := lit "statshouse_journal_dump", weightQ := 40, rawTags := [] } = .ok := by decide +kernel
example : canEdit (grants cfg0 { tok0 with bits := [lit "statshouse:edit_default"] }) true
            { m0 with name := lit "statshouse_journal_dump" } { m0 with name := lit "statshouse_journal_dump" } = .forbidden := by decide +kernel

end SH.Props.C30
