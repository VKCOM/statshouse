/-
  C06 — Sampling is fair: groups within their share are never sampled.

  "At every level of the hierarchy (namespace, group, metric, fair key) a partition whose size does not exceed its
   weight-proportional share of the budget available to its parent is kept entirely with factor 1; if the whole
   bucket fits the budget nothing is sampled. With deterministic selection the kept size never exceeds the budget,
   a partition with a larger size-to-weight ratio never gets a smaller sample factor than one with a smaller ratio,
   and quota-mode budgets handed back to agents are proportional to reported sizes and sum to at most the total
   budget."

  Model: SH.Model.Sampler (shared with C05). `run (fuel+1) cfg g ds` is one level of the hierarchy: partition `g`,
  sort by size/weight, keep loop (water filling), sampling loop (recursion one level deeper or `sample`).
  The level statements quantify over every group `g`, option set, draw stream and tie order (`rank`); no general lemma ties
  them to `runBucket`: that the groups reached from it meet their hypotheses is shown for the top group
  (`bucket_fits_nothing_sampled`), inside `run_fits_all_kept` and in the deterministic development.
  Weights are positive (format.go clamps EffectiveWeight to ≥ 1; the sampler clamps namespace/group weights itself).
  Theorems marked (fix) need `Variant.fitKeep` = the code in /repo, which has fixes/C05-sample-fit.diff; for the code without
  it (`Variant.orig`) `orig_samples_partition_that_fits` is a `decide` witness of the violation
  (`Variant.posIds` has the shortcut too but is outside the (fix) statements).
  Also here: the x2 bonus of calcHostMetricBudgets, accounting meta, fair keys, the weight lookup of groups and namespaces.
-/
import SH.Lemmas.SamplerDet

namespace SH.Sampler

/-- `a` has a size-to-weight ratio not larger than `b` (exact rational comparison, as in the sort comparator) -/
def ratioLe (a b : Group) : Prop := a.sumSize * b.weight ≤ b.sumSize * a.weight

theorem groupLe_ratioLe (a b : Group) (h : groupLe a b = true) : ratioLe a b := by
  simp only [groupLe, ratioLt, Bool.or_eq_true, decide_eq_true_eq, Bool.and_eq_true, Bool.not_eq_true',
    decide_eq_false_iff_not] at h
  unfold ratioLe
  omega

theorem cross_le_le {a b c wa wb wc : Int} (hb : 0 < wb) (ha : 0 ≤ wa) (hc : 0 ≤ wc)
    (h1 : a * wb ≤ b * wa) (h2 : b * wc ≤ c * wb) : a * wc ≤ c * wa := by
  have e1 : a * wb * wc ≤ b * wa * wc := Int.mul_le_mul_of_nonneg_right h1 hc
  have e2 : b * wc * wa ≤ c * wb * wa := Int.mul_le_mul_of_nonneg_right h2 ha
  rw [Int.mul_right_comm a, Int.mul_right_comm b wa] at e1
  rw [Int.mul_right_comm c] at e2
  exact Int.le_of_mul_le_mul_right (Int.le_trans e1 e2) hb

theorem groupLe_total (a b : Group) : groupLe a b = true ∨ groupLe b a = true := by
  simp only [groupLe, ratioLt, Bool.or_eq_true, decide_eq_true_eq, Bool.and_eq_true, Bool.not_eq_true',
    decide_eq_false_iff_not]
  omega

/-- `groupLe` orders by ratio, then by rank: with `a ≤ b ≤ c` in ratio, either `a < c` or all three ratios are equal and the
    ranks decide -/
theorem groupLe_trans (a b c : Group) (ha : 0 < a.weight) (hb : 0 < b.weight) (hc : 0 < c.weight)
    (h1 : groupLe a b = true) (h2 : groupLe b c = true) : groupLe a c = true := by
  simp only [groupLe, ratioLt, Bool.or_eq_true, decide_eq_true_eq, Bool.and_eq_true, Bool.not_eq_true',
    decide_eq_false_iff_not, Int.not_lt] at *
  have ab : a.sumSize * b.weight ≤ b.sumSize * a.weight := by omega
  have bc : b.sumSize * c.weight ≤ c.sumSize * b.weight := by omega
  have ac := cross_le_le hb (Int.le_of_lt ha) (Int.le_of_lt hc) ab bc
  by_cases hlt : a.sumSize * c.weight < c.sumSize * a.weight
  · exact Or.inl hlt
  · have ca := Int.not_lt.1 hlt
    have ba := cross_le_le hc (Int.le_of_lt hb) (Int.le_of_lt ha) bc ca
    have cb := cross_le_le ha (Int.le_of_lt hc) (Int.le_of_lt hb) ca ab
    exact Or.inr ⟨ac, by omega⟩

/-- the ratio sort of `run` really sorts: for positive weights the groups are in ascending size/weight order,
    whatever the tie order (ranks) -/
theorem ratio_sorted (l : List Group) (hw : ∀ g ∈ l, 0 < g.weight) : (isort groupLe l).Pairwise ratioLe := by
  have := isort_pairwise groupLe (fun g => 0 < g.weight) (fun a b _ _ => groupLe_total a b)
    (fun a b c ha hb hc => groupLe_trans a b c ha hb hc) l hw
  exact this.imp (fun h => groupLe_ratioLe _ _ h)

theorem share_step {B W : Int} {g p : Group} (hr : ratioLe g p) (hfit : p.sumSize * W ≤ B * p.weight) :
    p.sumSize * (W - g.weight) ≤ (B - g.sumSize) * p.weight := by
  unfold ratioLe at hr
  rw [Int.mul_sub, Int.sub_mul]
  omega

/-- `p` fits: its own fixed budget, or its weight-proportional share `B*w/W` -/
def FitsShare (B W : Int) (p : Group) : Prop :=
  if p.fixed then p.sumSize ≤ p.budget else p.sumSize * W ≤ B * p.weight

theorem fitsShare_fixed {B W : Int} {p : Group} (hf : p.fixed = true) : FitsShare B W p ↔ p.sumSize ≤ p.budget := by
  rw [FitsShare, if_pos hf]

theorem fitsShare_not_fixed {B W : Int} {p : Group} (hf : p.fixed = false) :
    FitsShare B W p ↔ p.sumSize * W ≤ B * p.weight := by
  rw [FitsShare, if_neg (Bool.eq_false_iff.1 hf)]

theorem fitsShare_step {B W : Int} {g p : Group} (hr : ratioLe g p) (h : FitsShare B W p) :
    FitsShare (stepB B g) (stepW W g) p := by
  cases hpf : p.fixed with
  | true => exact (fitsShare_fixed hpf).2 ((fitsShare_fixed hpf).1 h)
  | false =>
    rw [fitsShare_not_fixed hpf] at h ⊢
    unfold stepB stepW
    split
    · exact h
    · exact share_step hr h

/-- Invariant of the first loop: a partition that fits its share of the ORIGINAL budget is either kept by the loop
    or, if a partition with a fixed budget stopped the loop before it was reached, still fits its share of what is
    left (removing kept partitions of smaller ratio never lowers the per-weight share of the rest); `0 < W'`: it becomes the
    denominator of the budget the sampling loop assigns to `p`. -/
theorem share_fits_or_still_fits (s : List Group) (B W : Int) (hs : s.Pairwise ratioLe)
    (hw : ∀ g ∈ s, 0 < g.weight) (p : Group) (hp : p ∈ s) (hW : p.fixed = false → nfWeight s ≤ W)
    (hfit : FitsShare B W p) :
    (∀ it ∈ p.items, keepEv it ∈ evs (keptActs B W s)) ∨
    (p ∈ restGroups B W s ∧ FitsShare (restB B W s) (restW B W s) p ∧ (p.fixed = false → 0 < restW B W s)) := by
  induction s generalizing B W with
  | nil => cases hp
  | cons g gs ih =>
    rw [List.pairwise_cons] at hs
    cases hg : fits (assign B W g) with
    | false =>
      simp only [restGroups, restB, restW, hg, Bool.false_eq_true, if_false]
      refine Or.inr ⟨hp, hfit, fun hpf => ?_⟩
      have := weight_le_nfWeight (g :: gs) hw p hp hpf
      have := hW hpf
      have := hw p hp
      omega
    | true =>
      simp only [keptActs, restGroups, restB, restW, hg, if_true, evs_append, evs_markKeep, List.nil_append, List.mem_append]
      rcases List.mem_cons.1 hp with rfl | hp'
      · exact Or.inl fun it hit => Or.inl (mem_evs_keepAll hit)
      · have hW' : p.fixed = false → nfWeight gs ≤ stepW W g := fun hpf => by
          have := hW hpf
          have := stepW_sub W g gs
          omega
        rcases ih _ _ hs.2 (fun x hx => hw x (List.mem_cons_of_mem _ hx)) hp' hW' (fitsShare_step (hs.1 p hp') hfit) with h | h
        · exact Or.inl fun it hit => Or.inr (h it hit)
        · exact Or.inr h

/-- Without fixed budgets water filling keeps every partition within its weight-proportional share of the ORIGINAL budget,
    whatever the other partitions do (order-independent form). -/
theorem share_fits_first_loop (s : List Group) (B W : Int) (hs : s.Pairwise ratioLe)
    (hw : ∀ g ∈ s, 0 < g.weight) (hnf : ∀ g ∈ s, g.fixed = false) (hW : nfWeight s ≤ W)
    (p : Group) (hp : p ∈ s) (hfit : p.sumSize * W ≤ B * p.weight) :
    ∀ it ∈ p.items, keepEv it ∈ evs (keptActs B W s) := by
  have hpf := hnf p hp
  rcases share_fits_or_still_fits s B W hs hw p hp (fun _ => hW) ((fitsShare_not_fixed hpf).2 hfit) with h | ⟨hin, hfit', hWpos⟩
  · exact h
  · -- the loop stopped at `h`, which is `p` or sorted before it: but then `h` fits what is left, as `p` does
    obtain ⟨hsuf, hstop⟩ := restGroups_stop B W s
    rw [fitsShare_not_fixed hpf] at hfit'
    cases hrest : restGroups B W s with
    | nil =>
      rw [hrest] at hin
      cases hin
    | cons h t =>
      rw [hrest] at hin hsuf hstop
      have hhs : h ∈ s := hsuf.subset List.mem_cons_self
      have hr : ratioLe h p := by
        rcases List.mem_cons.1 hin with rfl | hpt
        · exact Int.le_refl _
        · exact (List.pairwise_cons.1 (hs.sublist hsuf.sublist)).1 p hpt
      have := cross_le_le (hw p hp) (Int.le_of_lt (hw h hhs)) (Int.le_of_lt (hWpos hpf)) hr hfit'
      rw [Int.mul_comm, ← fits_assign_not_fixed _ _ h (hnf h hhs), hstop h rfl] at this
      cases this

/-- a group sorted before all groups of `gs` has at most their combined ratio -/
theorem head_ratio_le_total (g : Group) (gs : List Group) (h : ∀ x ∈ gs, ratioLe g x) :
    g.sumSize * nfWeight gs ≤ nfSize gs * g.weight := by
  induction gs with
  | nil => simp [nfWeight, nfSize]
  | cons x xs ih =>
    rw [List.forall_mem_cons] at h
    have h1 : ratioLe g x := h.1
    have h2 := ih h.2
    unfold ratioLe at h1
    simp only [nfWeight, nfSize]
    split
    · rwa [Int.zero_add, Int.zero_add]
    · rw [Int.mul_add, Int.add_mul]
      omega

/-- If everything fits (the partitions without fixed budget fit the budget together, the ones with a fixed budget
    fit their own), the first loop keeps every partition: nothing is left for the sampling loop. (`W` is bounded only if some
    partition has no fixed budget: otherwise `sumWeight` is 1 and not used.) -/
theorem all_fit_rest_nil (s : List Group) (B W : Int) (hs : s.Pairwise ratioLe)
    (hw : ∀ g ∈ s, 0 < g.weight) (hsz : ∀ g ∈ s, 0 ≤ g.sumSize)
    (hfx : ∀ g ∈ s, g.fixed = true → g.denom = 1 ∧ g.sumSize ≤ g.budget)
    (hB : nfSize s ≤ B) (hW : ∀ g ∈ s, g.fixed = false → W ≤ nfWeight s) :
    restGroups B W s = [] := by
  induction s generalizing B W with
  | nil => rfl
  | cons g gs ih =>
    rw [List.pairwise_cons] at hs
    rw [List.forall_mem_cons] at hw hsz hfx hW
    have hgfit : fits (assign B W g) = true := by
      cases hf : g.fixed with
      | true =>
        have := hfx.1 hf
        rw [fits_assign_fixed B W g hf this.1]
        exact this.2
      | false =>
        -- W·size ≤ (w + Σw')·size ≤ w·size + Σsize'·w = (size + Σsize')·w ≤ B·w
        rw [fits_assign_not_fixed B W g hf]
        have h1 := head_ratio_le_total g gs hs.1
        have h2 := Int.mul_le_mul_of_nonneg_right (hW.1 hf) hsz.1
        have h3 := Int.mul_le_mul_of_nonneg_right hB (Int.le_of_lt hw.1)
        simp only [nfWeight, nfSize, hf, Bool.false_eq_true, if_false, Int.add_mul] at h2 h3
        rw [Int.mul_comm g.weight, Int.mul_comm (nfWeight gs)] at h2
        omega
    have hsB := stepB_sub B g gs
    simp only [restGroups, hgfit, if_true]
    refine ih _ _ hs.2 hw.2 hsz.2 hfx.2 (by omega) fun x hx hxf => ?_
    have := hW.2 x hx hxf
    have := stepW_sub W g gs
    omega

theorem sorted_good (cfg : Cfg) (g : Group) (hw : ∀ it ∈ g.items, 0 < it.wMetric) (hs : ∀ it ∈ g.items, 0 ≤ it.size) :
    (isort groupLe (partition cfg g)).Pairwise ratioLe ∧
    ∀ p ∈ isort groupLe (partition cfg g), p ∈ partition cfg g ∧ GoodPart p := by
  have hgood := partition_good cfg g hw hs
  exact ⟨ratio_sorted _ (fun q hq => (hgood q hq).weight_pos),
    fun p hp => ⟨(mem_isort _ _ _).1 hp, hgood p ((mem_isort _ _ _).1 hp)⟩⟩

theorem partWeight_sorted (cfg : Cfg) (g : Group) (p : Group) (hp : p ∈ partition cfg g) (hpf : p.fixed = false) :
    partWeight cfg g = nfWeight (isort groupLe (partition cfg g)) := by
  rw [nfWeight_perm (isort_perm groupLe _)]
  exact partWeight_eq cfg g p hp hpf

/-- (levels without fixed budgets; every variant) At any level of the hierarchy: a partition
    `p` of the group `g` whose size does not exceed its weight-proportional share `g.budget * p.weight / sumWeight` of
    the budget available to `g` is kept entirely with factor 1 — for every tie order, draw stream, option set and
    whatever the sizes of its siblings are. -/
theorem fits_share_kept (cfg : Cfg) (fuel : Nat) (g : Group) (ds : List Nat)
    (hk : kindAt cfg g.depth ≠ .byBudget)
    (hw : ∀ it ∈ g.items, 0 < it.wMetric) (hs : ∀ it ∈ g.items, 0 ≤ it.size)
    (p : Group) (hp : p ∈ partition cfg g) (hfit : p.sumSize * partWeight cfg g ≤ g.budget * p.weight) :
    ∀ it ∈ p.items, keepEv it ∈ evs (run (fuel + 1) cfg g ds).1 := by
  intro it hit
  obtain ⟨hsorted, hgood⟩ := sorted_good cfg g hw hs
  have hnf := partition_no_fixed cfg g hk
  refine mem_evs_run_of_keptActs ?_
  exact share_fits_first_loop _ _ _ hsorted (fun q hq => (hgood q hq).2.weight_pos) (fun q hq => hnf q (hgood q hq).1)
    (Int.le_of_eq (partWeight_sorted cfg g p hp (hnf p hp)).symm) p ((mem_isort _ _ _).2 hp) hfit it hit

theorem run_rest_nil (cfg : Cfg) (g : Group)
    (hw : ∀ it ∈ g.items, 0 < it.wMetric) (hs : ∀ it ∈ g.items, 0 ≤ it.size)
    (hfx : ∀ p ∈ partition cfg g, p.fixed = true → p.sumSize ≤ p.budget)
    (hB : nfSize (partition cfg g) ≤ g.budget) :
    restGroups g.budget (partWeight cfg g) (isort groupLe (partition cfg g)) = [] := by
  obtain ⟨hsorted, hgood⟩ := sorted_good cfg g hw hs
  refine all_fit_rest_nil _ _ _ hsorted (fun q hq => (hgood q hq).2.weight_pos) (fun q hq => (hgood q hq).2.size_nonneg)
    (fun q hq hf => ⟨(hgood q hq).2.fixed_denom hf, hfx q (hgood q hq).1 hf⟩) ?_ ?_
  · rw [nfSize_perm (isort_perm groupLe _)]
    exact hB
  · intro q hq hqf
    exact Int.le_of_eq (partWeight_sorted cfg g q (hgood q hq).1 hqf)

/-- If the partitions of `g` without fixed budget fit `g.budget` together and every
    partition with a fixed budget fits its own, every row of `g` is kept with factor 1 (nothing reaches the
    sampling loop) — any level, every variant, every tie order. -/
theorem all_fit_nothing_sampled (cfg : Cfg) (fuel : Nat) (g : Group) (ds : List Nat)
    (hw : ∀ it ∈ g.items, 0 < it.wMetric) (hs : ∀ it ∈ g.items, 0 ≤ it.size)
    (hfx : ∀ p ∈ partition cfg g, p.fixed = true → p.sumSize ≤ p.budget)
    (hB : nfSize (partition cfg g) ≤ g.budget) :
    ∀ e ∈ evs (run (fuel + 1) cfg g ds).1, ∃ it, e = keepEv it := by
  intro e he
  have hr := run_rest_nil cfg g hw hs hfx hB
  rw [run_succ_fst, hr] at he
  have hx : Decides (fun it e => e = keepEv it) []
      (gitems (restGroups g.budget (partWeight cfg g) (isort groupLe (partition cfg g)))) := by
    rw [hr]
    exact .of_evs_nil rfl
  obtain ⟨it, _, h⟩ := (keptActs_decides (P := fun it e => e = keepEv it) (fun _ => rfl) _ _ _ hx).forall e he
  exact ⟨it, h⟩

/-! ## fixed per-metric budgets next to water filling (code with fixes/C05-sample-fit.diff) -/

/-- (fix) a group whose budget covers its whole size is kept whole by `run`, at any remaining depth -/
theorem run_fits_all_kept (cfg : Cfg) (hv : cfg.variant = .fitKeep) (hm : cfg.mode ≠ .quota) (fuel : Nat) (q : Group)
    (hden : q.denom = 1) (hfit : q.sumSize ≤ q.budget) (hsum : q.sumSize = sumSizes q.items)
    (hk : kindAt cfg q.depth ≠ .byBudget)
    (hw : ∀ it ∈ q.items, 0 < it.wMetric) (hs : ∀ it ∈ q.items, 0 ≤ it.size) (ds : List Nat) :
    ∀ it ∈ q.items, keepEv it ∈ evs (run fuel cfg q ds).1 := by
  intro it hit
  cases fuel with
  | zero =>
    rw [run_zero_fst, evs_err, leaf_of_not_quota hm]
    exact sampleRows_fit_keeps cfg hv q (by rw [hden]; omega) ds it hit
  | succ n =>
    have hB : nfSize (partition cfg q) ≤ q.budget := by
      rw [nfSize_partition cfg q hk, ← hsum]
      exact hfit
    have hrest := run_rest_nil cfg q hw hs
      (fun p hp hf => absurd ((partition_no_fixed cfg q hk p hp).symm.trans hf) (by decide)) hB
    obtain ⟨p, hp, hip⟩ := mem_items_iff_partition.1 hit
    rcases partition_kept_or_rest cfg q p hp with h | h
    · exact mem_evs_run_of_keptActs (h it hip)
    · rw [hrest] at h
      cases h

/-- (fix) At any level, including the top level where metrics with a fixed
    (aggregator supplied) budget sit next to the water-filled partitions: a partition that fits — its own fixed
    budget, or its weight-proportional share of the group's budget — is kept entirely with factor 1, whatever the
    other partitions do (in particular when a neighbour floods its fixed budget). Production mode and the
    deterministic test selector; every tie order, draw stream and option set. -/
theorem fits_share_kept_with_fixed_budgets (cfg : Cfg) (hv : cfg.variant = .fitKeep) (hm : cfg.mode ≠ .quota)
    (fuel : Nat) (g : Group) (ds : List Nat)
    (hw : ∀ it ∈ g.items, 0 < it.wMetric) (hs : ∀ it ∈ g.items, 0 ≤ it.size)
    (p : Group) (hp : p ∈ partition cfg g) (hfit : FitsShare g.budget (partWeight cfg g) p) :
    ∀ it ∈ p.items, keepEv it ∈ evs (run (fuel + 1) cfg g ds).1 := by
  intro it hit
  obtain ⟨hsorted, hgood⟩ := sorted_good cfg g hw hs
  have hpart := partition_part cfg g p hp
  have hps : p ∈ isort groupLe (partition cfg g) := (mem_isort _ _ _).2 hp
  rcases share_fits_or_still_fits _ g.budget (partWeight cfg g) hsorted (fun q hq => (hgood q hq).2.weight_pos) p hps
      (fun hpf => Int.le_of_eq (partWeight_sorted cfg g p hp hpf).symm) hfit with h | ⟨hin, hfit', hWpos⟩
  · exact mem_evs_run_of_keptActs (h it hit)
  · obtain ⟨ds', hds⟩ := handle_evs_subset_run fuel cfg g ds p hin
    apply hds
    generalize restB g.budget (partWeight cfg g) (isort groupLe (partition cfg g)) = B' at *
    generalize restW g.budget (partWeight cfg g) (isort groupLe (partition cfg g)) = W' at *
    -- with its budget assigned, `p` fits it
    have hq : 0 < (assign B' W' p).denom ∧ ((assign B' W' p).fixed = true → (assign B' W' p).denom = 1) ∧
        (assign B' W' p).denom * p.sumSize ≤ (assign B' W' p).budget := by
      cases hpf : p.fixed with
      | true =>
        rw [fitsShare_fixed hpf] at hfit'
        rw [assign_fixed B' W' hpf, hpart.fixed_denom hpf]
        exact ⟨Int.one_pos, fun _ => rfl, by omega⟩
      | false =>
        rw [fitsShare_not_fixed hpf, Int.mul_comm] at hfit'
        rw [assign_not_fixed B' W' hpf]
        exact ⟨hWpos hpf, fun h => absurd (hpf.symm.trans h) (by decide), hfit'⟩
    refine handle_fit_keeps cfg hv hm (run fuel cfg) (assign B' W' p) hq.1 hq.2.1 (by rw [assign_sumSize]; exact hq.2.2)
      (fun b ds'' hb => ?_) ds' it (by rwa [assign_items])
    -- the recursion gets the rows of `p` with a budget that covers them
    refine run_fits_all_kept cfg hv hm fuel { assign B' W' p with budget := b, denom := 1 } rfl hb ?_ ?_ ?_ ?_ ds'' <;>
      simp only [assign_items, assign_sumSize, assign_depth]
    · exact hpart.size_eq
    · exact kindAt_ne_byBudget_of_pos cfg _ (Nat.zero_lt_of_lt hpart.depth_gt)
    · exact fun x hx => hw x (hpart.sub x hx)
    · exact fun x hx => hs x (hpart.sub x hx)

/-- The code without fixes/C05-sample-fit.diff violates it (same mechanism as C05's witness): metric 1
    has 3 rows of size 4 = 12 bytes, its share of the budget is 20, but because metric 2 exceeds its fixed budget the
    keep loop stops first; `sample` then sees sf = 12/20, keeps one "whale" and samples the other two rows with
    factor 24/20 — the draw 2^53-1 discards them. Oracle signature on the real code: `fits-share-but-sampled`. -/
def origCfg : Cfg := { variant := .orig, mode := .rand, sBudgets := true }
def floodItems : List Item :=
  [{ id := 0, size := 4, metric := 1 }, { id := 1, size := 4, metric := 1 }, { id := 2, size := 4, metric := 1 },
   { id := 3, size := 5, metric := 2, budget := 3 }]

theorem orig_samples_partition_that_fits :
    ({ id := 2, kept := false, num := 24, den := 20, quota := 4 } : Ev) ∈
      evs (runBucket origCfg floodItems 20 [0, 9007199254740991, 9007199254740991]) := by decide +kernel

/-- the fixed code keeps all three rows with factor 1 (instance of fits_share_kept_with_fixed_budgets) -/
example : ∀ i ∈ [0, 1, 2], ({ id := i, kept := true, num := 1, den := 1, quota := 4 } : Ev) ∈
    evs (runBucket { origCfg with variant := .fitKeep } floodItems 20 [0, 9007199254740991, 9007199254740991]) := by decide +kernel

/-- non-vacuity of fits_share_kept / FitsShare: two metrics of weights 1 and 3, budget 40: metric 1 (size 10) fits its
    share 40*1/4, metric 2 (size 90) does not fit 40*3/4 and is sampled -/
example :
    let cfg : Cfg := {}
    let items : List Item := [{ id := 0, size := 10, metric := 1, wMetric := 1 }, { id := 1, size := 45, metric := 2, wMetric := 3 },
                              { id := 2, size := 45, metric := 2, wMetric := 3, rank := 1 }]
    (evs (runBucket cfg items 40 [0, 9007199254740991])) =
      [keepEv { id := 0, size := 10, metric := 1 }, { id := 1, kept := true, num := 270, den := 90, quota := 45 },
       { id := 2, kept := false, num := 270, den := 90, quota := 45 }] := by decide +kernel

/-- without fixed budgets, if the rows accepted by `Add` fit the budget together, every
    one of them is kept with factor 1 (the only other decisions are `Add`'s rejections of rows with size < 1).
    Every option set, tie order, draw stream, every variant. -/
theorem bucket_fits_nothing_sampled (cfg : Cfg) (hb : cfg.sBudgets = false) (items : List Item) (budget : Int) (ds : List Nat)
    (hw : ∀ it ∈ items, 0 < it.wMetric) (hfit : sumSizes (added cfg items) ≤ budget) :
    ∀ e ∈ evs (runBucket cfg items budget ds), (e.isMax = true ∧ e.kept = false) ∨ ∃ it, e = keepEv it := by
  intro e he
  rcases mem_evs_runBucket he with ⟨it, -, rfl⟩ | he
  · exact Or.inl ⟨rfl, rfl⟩
  · have hrows : ∀ it ∈ (topGroup cfg items budget).items, 0 < it.wMetric ∧ 0 ≤ it.size := by
      intro it hit
      obtain ⟨it0, hin, hsz, rfl⟩ := mem_topGroup.1 hit
      rw [prep_wMetric, prep_size]
      exact ⟨hw it0 hin, by omega⟩
    have hk : kindAt cfg (topGroup cfg items budget).depth ≠ .byBudget := kindAt_zero_ne_byBudget cfg hb
    refine Or.inr (all_fit_nothing_sampled cfg _ (topGroup cfg items budget) ds (fun it hit => (hrows it hit).1)
      (fun it hit => (hrows it hit).2)
      (fun p hp hf => absurd ((partition_no_fixed cfg _ hk p hp).symm.trans hf) (by decide)) ?_ e he)
    rw [nfSize_partition cfg _ hk]
    show sumSizes (isort itemLe (added cfg items)) ≤ budget
    rw [sumSizes_perm (isort_perm itemLe _)]
    exact hfit

/-- all partitions handed to the sampling loop of one level see the same `(B, W)`; the NOMINAL factor
    `sfNum/sfDen = W*size/(B*weight)` that `sample` computes for a partition never falls when its size-to-weight ratio grows
    (here for budgets ≥ 1, where the clamps `sfDenom < 1 → 1` are inactive). What a row carries is 1 (whale) or twice that
    behind the whales; a partition that recurses has none.
    Partitions kept by the first loop have factor 1 and smaller ratio than every sampled one (ratio_sorted). -/
theorem factor_monotone_in_ratio (B W : Int) (a b : Group) (ha : a.fixed = false) (hb : b.fixed = false)
    (hB : 1 ≤ B) (hW : 1 ≤ W) (hwa : 1 ≤ a.weight) (hwb : 1 ≤ b.weight) (hsa : 1 ≤ a.sumSize) (hsb : 1 ≤ b.sumSize)
    (hr : ratioLe a b) :
    sfNumOf (assign B W a) * sfDenOf (assign B W b) ≤ sfNumOf (assign B W b) * sfDenOf (assign B W a) := by
  rw [sfNumOf_assign B ha hW hsa, sfNumOf_assign B hb hW hsb, sfDenOf_assign W ha hB hwa, sfDenOf_assign W hb hB hwb,
    mul_mul_mul_comm W a.sumSize, mul_mul_mul_comm W b.sumSize]
  have hWB : 0 ≤ W * B := Int.mul_nonneg (by omega) (by omega)
  exact Int.mul_le_mul_of_nonneg_left hr hWB

/-- the test selector keeps at most len/sf rows -/
theorem detCount_le (n : Nat) (num den : Int) (hn : 0 < num) (hd : 0 ≤ den) :
    (detCount n num den : Int) * num ≤ n * den := detCount_mul_le n num den hn hd

/-- (rows of ANY sizes) whales plus deterministically selected rows
    of one leaf are at most `len/sf` rows: `(pos + k) * sfNum ≤ len * sfDen` for `pos = ⌊len*sfDen/sfNum/2⌋` whales and
    `k = ⌊(len-pos)/(2 sf)⌋` selected rows. This COUNT bound is what the code guarantees for arbitrary row sizes: in
    bytes a leaf may keep up to `max row / average row` times its share (a whale can be larger than the whole budget,
    see `det_size_bound_needs_uniform_rows`). -/
theorem det_leaf_count_le (n : Nat) (num den : Int) (hn : 0 < num) (hd : 0 ≤ den) (pos : Nat)
    (hpos : (pos : Int) ≤ (n : Int) * den / num / 2) (hle : pos ≤ n) :
    ((pos + detCount (n - pos) (2 * num) den : Nat) : Int) * num ≤ n * den :=
  whales_plus_det_le n num den hn hd pos hpos hle

/-- the model's whale count satisfies the hypothesis of det_leaf_count_le -/
theorem whalePos_le (g : Group) :
    (whalePos g : Int) ≤ (g.items.length : Int) * sfDenOf g / sfNumOf g / 2 ∧ whalePos g ≤ g.items.length :=
  whalePos_bound g

/-- the fixed (aggregator supplied) per-metric budgets that are in force for this bucket (0 unless SampleBudgets) -/
def fixedBudgetTotal (cfg : Cfg) (items : List Item) (budget : Int) : Int :=
  fxBudget (partition cfg (topGroup cfg items budget))

/-- With deterministic selection (the repo tests' SelectF = ⌊len/sf⌋ and
    RoundF = floor) the bytes kept by Add*;Run never exceed the budget plus the fixed per-metric budgets in force,
    provided rows of one metric have one size (then the count bound of every leaf is a byte bound; the repo's tests use
    one size for all rows) of at least 2 bytes (real estimates are ≥ 20, `agent_row_size_ge_20` in C05), SampleKeepSingle
    is off and NoSampleAgent is not in effect (both keep rows regardless of any budget).
    Every hierarchy (namespaces, groups, metrics, fair keys, fixed budgets), weights, tie order, every variant.
    Proof: induction over the partition tree (SH.Lemmas.SamplerDet). -/
theorem det_kept_le_budget (cfg : Cfg) (hm : cfg.mode = .det) (hks : cfg.keepSingle = false)
    (hns : cfg.agent = false ∨ cfg.disableNoSample = true)
    (items : List Item) (budget : Int) (ds : List Nat) (hB : 0 ≤ budget)
    (hrows : ∀ it ∈ items, 0 < it.wMetric ∧ 2 ≤ it.size) (hu : MetricUniform items) :
    keptSize (runBucket cfg items budget ds) ≤ budget + fixedBudgetTotal cfg items budget := by
  have hrows' : ∀ it ∈ (topGroup cfg items budget).items, 0 < it.wMetric ∧ 2 ≤ it.size := by
    intro it hit
    obtain ⟨it0, hin, -, rfl⟩ := mem_topGroup.1 hit
    rw [prep_wMetric, prep_size]
    exact hrows it0 hin
  have hu' : MetricUniform (topGroup cfg items budget).items :=
    PerMetric.topGroup (f := (·.size)) (prep_size cfg) hu budget
  have hfx : 0 ≤ fixedBudgetTotal cfg items budget :=
    fxBudget_nonneg _ (partition_fixed_budget cfg (topGroup cfg items budget))
  simp only [runBucket, keptSize_append, keptSize_map_dropped addDiscard (fun _ => rfl), Int.zero_add]
  split
  · rw [keptSize_nil]
    omega
  · exact run_det_le cfg hm hks hns (fuel0 - 1) (topGroup cfg items budget) ds hB
      (Or.inr ⟨nPart_pos cfg, Nat.le_trans (nPart_le cfg) (show 4 ≤ 0 + (fuel0 - 1 + 1) by decide)⟩) hrows' hu'

/-- without SampleBudgets there are no fixed budgets: the kept size is at most the budget -/
theorem det_kept_le_budget_plain (cfg : Cfg) (hm : cfg.mode = .det) (hks : cfg.keepSingle = false)
    (hns : cfg.agent = false ∨ cfg.disableNoSample = true) (hb : cfg.sBudgets = false)
    (items : List Item) (budget : Int) (ds : List Nat) (hB : 0 ≤ budget)
    (hrows : ∀ it ∈ items, 0 < it.wMetric ∧ 2 ≤ it.size) (hu : MetricUniform items) :
    keptSize (runBucket cfg items budget ds) ≤ budget := by
  have h := det_kept_le_budget cfg hm hks hns items budget ds hB hrows hu
  have hk : kindAt cfg (topGroup cfg items budget).depth ≠ .byBudget := kindAt_zero_ne_byBudget cfg hb
  have : fixedBudgetTotal cfg items budget = 0 := fxBudget_no_fixed _ (partition_no_fixed cfg _ hk)
  omega

/-- non-vacuity: two metrics (rows of 10 and of 30 bytes), budget 100 of 240 bytes: 60 bytes are kept -/
example :
    let cfg : Cfg := { mode := .det }
    let items : List Item := (List.range 6).map (fun i => { id := i, size := 10, metric := 1, rank := i }) ++
                             (List.range 6).map (fun i => { id := 6 + i, size := 30, metric := 2, rank := 6 + i })
    MetricUniform items ∧ keptSize (runBucket cfg items 100 []) = 60 := by
  refine ⟨by unfold MetricUniform; decide +kernel, by decide +kernel⟩

/-- for rows of different sizes inside one metric the byte form is false — the
    code bounds the NUMBER of kept rows of a leaf (det_leaf_count_le), not their bytes: one metric with rows of
    100, 1, 1, 1 bytes (whale weight = size) and budget 51 keeps the 100-byte whale. The same bucket on the real
    code is what the harness oracle `det-kept-cost-over-budget` accounts for by judging the count form. -/
theorem det_size_bound_needs_uniform_rows :
    let cfg : Cfg := { mode := .det }
    let items : List Item := [{ id := 0, size := 100, whale := 100, metric := 1 }, { id := 1, size := 1, whale := 1, metric := 1, rank := 1 },
                              { id := 2, size := 1, whale := 1, metric := 1, rank := 2 }, { id := 3, size := 1, whale := 1, metric := 1, rank := 3 }]
    keptSize (runBucket cfg items 51 []) = 100 := by decide +kernel

/-! ## quota mode (SampleQuota, used by calcHostMetricBudgets) -/

/-- a row's quota is its size times `budget/(denom*sumSize)`, rounded down -/
theorem quota_proportional (g : Group) (it : Item) (hD : 0 < g.denom * g.sumSize) :
    quotaOf g it * (g.denom * g.sumSize) ≤ g.budget * it.size ∧
    g.budget * it.size < (quotaOf g it + 1) * (g.denom * g.sumSize) := by
  unfold quotaOf
  exact ⟨Int.ediv_mul_le _ (Int.ne_of_gt hD), Int.lt_ediv_add_one_mul_self _ hD⟩

/-- a larger row never gets a smaller quota -/
theorem quota_monotone (g : Group) (a b : Item) (hD : 0 < g.denom * g.sumSize) (hB : 0 ≤ g.budget) (h : a.size ≤ b.size) :
    quotaOf g a ≤ quotaOf g b := by
  unfold quotaOf
  exact Int.ediv_le_ediv hD (Int.mul_le_mul_of_nonneg_left h hB)

theorem quota_sum_aux (b D : Int) (hD : 0 < D) (l : List Item) :
    (l.map (fun it => b * it.size / D)).sum ≤ b * sumSizes l / D := by
  induction l with
  | nil => simp [sumSizes]
  | cons x xs ih =>
    simp only [List.map_cons, List.sum_cons, sumSizes] at *
    have := Int.ediv_add_ediv_le_add_ediv (x := b * x.size) (y := b * (xs.map (·.size)).sum) hD
    rw [← Int.mul_add] at this
    omega

/-- the quotas handed out for one sampled partition sum to at most its budget share
    `budget/denom`; kept partitions get their own size, which the water filling has already subtracted. -/
theorem quota_sum_le_budget (g : Group) (hsum : g.sumSize = sumSizes g.items) (hd : 0 < g.denom) (hs : 0 < g.sumSize) :
    (g.items.map (quotaOf g)).sum ≤ g.budget / g.denom := by
  have hD : 0 < g.denom * g.sumSize := Int.mul_pos hd hs
  have := quota_sum_aux g.budget (g.denom * g.sumSize) hD g.items
  rw [← hsum, Int.mul_ediv_mul_of_pos_left _ _ hs] at this
  exact this

/-- non-vacuity: budget 10 over rows of size 3,5,8 (denom 1): quotas 1,3,5, sum 9 ≤ 10 -/
example :
    let g : Group := { budget := 10, denom := 1, sumSize := 16, items := [{ id := 0, size := 3 }, { id := 1, size := 5 }, { id := 2, size := 8 }] }
    g.items.map (quotaOf g) = [1, 3, 5] := by decide +kernel

/-! ## calcHostMetricBudgets: the x2 bonus on top of the quotas (aggregator.go, `keepF`) -/

/-- the bonus doubles exactly the rows that fit their quota; a row never gets more than twice its quota -/
theorem host_budget_cases (size quota : Int) (hq : 0 ≤ quota) :
    (size ≤ quota → hostBudget size quota = 2 * quota) ∧ (quota < size → hostBudget size quota = quota) ∧
    hostBudget size quota ≤ 2 * quota ∧ quota ≤ hostBudget size quota := by
  unfold hostBudget
  split <;> omega

/-- a row of a sampled partition never fits its quota (its share is below the partition's size), so the bonus goes
    only to rows of partitions kept whole by the keep loop (quota = size, budget 2*size) -/
theorem sampled_row_gets_no_bonus (g : Group) (it : Item) (hD : 0 < g.denom * g.sumSize) (hs : 0 < it.size)
    (hover : g.budget < g.denom * g.sumSize) : hostBudget it.size (quotaOf g it) = quotaOf g it := by
  have hq : quotaOf g it < it.size := by
    unfold quotaOf
    apply Int.ediv_lt_of_lt_mul hD
    rw [Int.mul_comm it.size]
    exact Int.mul_lt_mul_of_pos_right hover hs
  exact if_neg (by omega)

/-- the budgets handed back for one sampled partition, bonus included, sum to at most
    twice its budget share (`quota ≤ 2·share`; by sampled_row_gets_no_bonus the factor 2 is never actually used there) -/
theorem host_budgets_le_twice_share (g : Group) (hsum : g.sumSize = sumSizes g.items) (hd : 0 < g.denom) (hs : 0 < g.sumSize)
    (hB : 0 ≤ g.budget) (hsz : ∀ it ∈ g.items, 0 ≤ it.size) :
    (g.items.map (fun it => hostBudget it.size (quotaOf g it))).sum ≤ 2 * (g.budget / g.denom) := by
  have hD : 0 < g.denom * g.sumSize := Int.mul_pos hd hs
  have h1 := quota_sum_le_budget g hsum hd hs
  have h2 : ∀ l : List Item, (∀ it ∈ l, 0 ≤ it.size) →
      (l.map (fun it => hostBudget it.size (quotaOf g it))).sum ≤ 2 * (l.map (quotaOf g)).sum := by
    intro l hl
    induction l with
    | nil => simp
    | cons x xs ih =>
      rw [List.forall_mem_cons] at hl
      have := ih hl.2
      have hx := (host_budget_cases x.size (quotaOf g x) (quotaOf_nonneg g x hD hB hl.1)).2.2.1
      simp only [List.map_cons, List.sum_cons]
      omega
  have := h2 g.items hsz
  omega

/-- non-vacuity: receive budget 10 over hosts reporting 3, 5, 8 bytes: budgets 1, 3, 5 (no bonus); a host whose
    metric fits (quota = its size 4) is handed 8 -/
example :
    let g : Group := { budget := 10, denom := 1, sumSize := 16, items := [{ id := 0, size := 3 }, { id := 1, size := 5 }, { id := 2, size := 8 }] }
    g.items.map (fun it => hostBudget it.size (quotaOf g it)) = [1, 3, 5] ∧ hostBudget 4 4 = 8 := by decide +kernel

/-- rows accounted to one metric agree on the sampling options (they all resolve to that metric's meta) -/
def MetaConsistent (l : List Item) : Prop :=
  ∀ a ∈ l, ∀ b ∈ l, a.metric = b.metric →
    a.wMetric = b.wMetric ∧ a.noSample = b.noSample ∧ a.ns = b.ns ∧ a.grp = b.grp

/-- a row keeps the accounting metric's options unless the meta it carries is the meta
    of that very metric; in particular a row of another metric (carried id ≠ accounting id: an ingestion status
    accounted to a user metric) never brings its own namespace, group, weight or fair keys into the partitioning.
    `resolveMeta` is applied by the driver's parser (SH.Model.SamplerIO) to the rows handed to `runBucket`; no function of
    the sampler model calls it. -/
theorem resolve_uses_accounting_metric (it : Item) (c : Carried) :
    (resolveMeta it (some c)).metric = it.metric ∧ (c.metricID ≠ it.metric → resolveMeta it (some c) = it) ∧
    (c.metricID = it.metric → (resolveMeta it (some c)).wMetric = c.wMetric ∧ (resolveMeta it (some c)).ns = c.ns ∧
      (resolveMeta it (some c)).grp = c.grp ∧ (resolveMeta it (some c)).noSample = c.noSample) := by
  refine ⟨?_, ?_, ?_⟩
  · simp only [resolveMeta]
    split <;> rfl
  · intro h
    simp [resolveMeta, h]
  · intro h
    simp [resolveMeta, h]

/-- a metric partition is weighted, grouped and flagged with the options of the
    metric its rows are accounted to, whichever row sorts first in it (the code reads them from the first row). -/
theorem metric_partition_uses_accounting_meta (d : Nat) (l : List Item) (hc : MetaConsistent l) :
    ∀ r ∈ runs (·.metric) l, ∀ it ∈ r,
      (mkMetric d r).weight = it.wMetric ∧ (mkMetric d r).noSample = it.noSample ∧ (mkMetric d r).ns = it.ns ∧
      (mkMetric d r).grp = it.grp := by
  intro r hr it hit
  have hne : r ≠ [] := runs_ne_nil _ _ r hr
  have hh := hd_mem r hne
  have hm : it.metric = (hd r).metric := runs_key_const (·.metric) l r hr it hit
  have := hc (hd r) (mem_of_mem_runs _ _ _ hr _ hh) it (mem_of_mem_runs _ _ _ hr _ hit) hm.symm
  simp only [mkMetric]
  exact ⟨this.1, this.2.1, this.2.2.1, this.2.2.2⟩

/-- non-vacuity: a status row of metric 9001 (weight 640, namespace 998) accounted to metric 1 (weight 2): it is
    sampled with weight 2 in namespace 7, whether or not it sorts first -/
example :
    let c : Carried := { metricID := 9001, ns := 998, grp := 997, wNsTab := 0, wGrpTab := 0, wMetric := 640, noSample := false, fki := [0] }
    let it : Item := { id := 0, size := 10, metric := 1, ns := 7, wMetric := 2 }
    resolveMeta it (some c) = it ∧ (resolveMeta it (some { c with metricID := 1 })).wMetric = 640 := by decide +kernel

/-- below the metric level the partitions are the values of the next fair key, all of weight 1:
    a fair-key value whose size does not exceed the metric's (or parent fair-key value's) budget divided by the number of
    values is kept entirely with factor 1 — however large its sibling values are. Every tie order, draw stream, every variant. -/
theorem fair_key_within_share_kept (cfg : Cfg) (fuel : Nat) (g : Group) (ds : List Nat)
    (hk : kindAt cfg g.depth = .byKey)
    (hw : ∀ it ∈ g.items, 0 < it.wMetric) (hs : ∀ it ∈ g.items, 0 ≤ it.size)
    (p : Group) (hp : p ∈ partition cfg g) (hfit : p.sumSize * (partition cfg g).length ≤ g.budget) :
    ∀ it ∈ p.items, keepEv it ∈ evs (run (fuel + 1) cfg g ds).1 := by
  have hkb : kindAt cfg g.depth ≠ .byBudget := by
    rw [hk]
    decide
  have hpl := partition_of_ne_byBudget cfg g hkb
  rw [hk] at hpl
  have hpw : p.weight = 1 := by
    rw [hpl.1] at hp
    simp only [partPlain, List.mem_map] at hp
    obtain ⟨r, _, rfl⟩ := hp
    rfl
  have hW : partWeight cfg g = (partition cfg g).length := by
    rw [hpl.2, hpl.1]
    simp only [partPlain, List.length_map]
    exact sumWeights_mkKey _ _
  refine fits_share_kept cfg fuel g ds hkb hw hs p hp ?_
  rw [hW, hpw]
  omega

/-- non-vacuity: metric with fair key = tag 0, budget 30: value 7 (one row of 10 bytes, share 15) is kept whole, the
    flooding value 0 (4 rows) is sampled -/
example :
    let cfg : Cfg := { sKeys := true }
    let mk (i : Nat) (t : Int) : Item := { id := i, size := 10, metric := 1, fki := [0], tags := [t], rank := i }
    let items : List Item := [mk 0 0, mk 1 0, mk 2 0, mk 3 0, mk 4 7]
    keepEv (prep cfg (mk 4 7)) ∈ evs (runBucket cfg items 30 [0, 0, 0, 0, 0, 0]) ∧
    (evs (runBucket cfg items 30 (List.replicate 6 9007199254740991))).any (fun e => !e.kept) = true := by decide +kernel

/-- the weight of a namespace / group partition is the configured weight (clamped to ≥ 1) for
    EVERY non-zero id — builtin groups and namespaces (negative ids: __default group -4, __builtin -2, __host -3, __default
    namespace -5) are weighted by their journal-configured weight exactly like user ones; only id 0 ("none") and a missing
    meta storage fall back to weight 1. -/
theorem weight_lookup_ignores_sign (cfg : Cfg) (hv : cfg.variant ≠ .posIds) (it : Item) :
    (it.ns ≠ 0 → nsWeight cfg it = clamp1 (if cfg.hasMeta then it.wNsTab else 0)) ∧
    (it.grp ≠ 0 → grpWeight cfg it = clamp1 (if cfg.hasMeta then it.wGrpTab else 0)) ∧
    (nsWeight cfg { it with ns := -it.ns } = nsWeight cfg it) ∧ (grpWeight cfg { it with grp := -it.grp } = grpWeight cfg it) := by
  have hb : (cfg.variant == Variant.posIds) = false := by
    cases h : cfg.variant <;> simp_all
  have hid : ∀ id, idHasWeight cfg id = (id != 0) := fun id => by simp [idHasWeight, hb]
  refine ⟨fun h => ?_, fun h => ?_, ?_, ?_⟩
  · simp [nsWeight, hid, h]
  · simp [grpWeight, hid, h]
  · simp [nsWeight, hid]
  · simp [grpWeight, hid]

/-- The guard `ID > 0` (`Variant.posIds`) violates fairness: the __default group (-4) configured with
    weight 3*128 holds 300 bytes, group 7 (weight 128) holds 500 bytes, budget 400: the share of __default is 400*384/512 = 300,
    it fits and the code keeps it whole (instance of fits_share_kept) — with the guard its weight falls to 1, its share to
    400/129 = 3 bytes and its row is sampled away. Oracle signature on the real code: `fits-share-but-sampled`. -/
def negGroupItems : List Item :=
  [{ id := 0, size := 300, metric := 1, grp := -4, wGrpTab := 384 }, { id := 1, size := 500, metric := 2, grp := 7, wGrpTab := 128 }]

theorem positive_id_guard_starves_builtin_group :
    (evs (runBucket { sGroups := true } negGroupItems 400 (List.replicate 6 9007199254740991))).head? =
      some (keepEv { id := 0, size := 300, metric := 1, grp := -4, wGrpTab := 384 }) ∧
    ({ id := 0, kept := false, num := 300, den := 3, quota := 300 } : Ev) ∈
      evs (runBucket { sGroups := true, variant := .posIds } negGroupItems 400 (List.replicate 6 9007199254740991)) := by
  decide +kernel

end SH.Sampler
