/-
  SH.Props.C21 — persistent caches reload exactly what was saved and never serve wrong data.

  Property (properties.jsonl): "Reloading a chunked storage file yields exactly the saved items, and a truncated or
  corrupted file yields a prefix of the saved chunks and never a damaged item. The mapping cache never returns a value
  for a string other than the value added for it, never returns marker values, never grows beyond its configured size,
  keeps its size and access-time accounting exact, and reloads from its saved file to the same contents."
  Quantifier: all sequences of add/get/evict/save/reload operations and all truncation and bit-flip positions.

  Models: SH/Model/Chunked.lean (chunked_storage2.go), SH/Model/MapCache.lean (pcache/mappings_cache.go).
  xxh3 is the parameter `H` (any function with 16-byte results).

  Every definition the statements use and all examples live in the lemma files (DESIGN.md §2a): C21Base (`Op`, `step`, `run`,
  `init`, `added`, `Params`, `PassesFrom`), C21Writer (`Refines`, `WOp`, `Abs`, `arun`), C21Closed (`Legal`, `TruncLegal`, `GInv`,
  `runImg`), C21Order (`ttlRemoved`, `ttlK`).  checks/C21.py audits C21Base and this file theorem by theorem in every tier, the
  other three in the thorough tier (scanned, and covered through this file, otherwise).
  Each theorem of `SH.C21.Headline` is a second name for a theorem of the lemma files; the lemma name is the one the documents
  and the check's text cite and the one to build on: chunk_roundtrip = read_write_roundtrip, chunk_damage =
  damaged_prefix_or_passes and chunk_cut = truncation_never_passes (at `prev = zeroHash`), cache_closed = closed_run,
  cache_closed_cuts = closed_run_truncations, cache_get = closed_get, cache_size = closed_size, cache_save_restart =
  save_then_reload_same, collect_closed_form = collect_eq, map_order_addValues = legalCount_exact, map_order_removeByTTL =
  legalRemoved_sound + legalRemoved_complete, removeByTTL_model_exact = removeVisited_filter, writer_closed = writer_refines,
  writer_error_sticky = arun_err_keeps_done, writer_fin_ok = fin_ok_whole_file, writer_readable = reader_sees_accepted_chunks.
-/
import SH.Lemmas.C21Base
import SH.Lemmas.C21Closed
import SH.Lemmas.C21Order
import SH.Lemmas.C21Writer

namespace SH.C21.Headline
open SH.Chunked hiding St
open SH.MapCache
open SH.C21

/-- chunk files: saved chunks read back exactly -/
theorem chunk_roundtrip {H : Bytes → Bytes} {magic : Nat} (P : Params H magic) (bodies : List Bytes)
    (hb : ∀ b ∈ bodies, b.length ≤ chunkSize) :
    readAll H magic zeroHash (encodeAll H magic zeroHash bodies) = (bodies, none) :=
  read_write_roundtrip P bodies hb

/-- chunk files: ANY bytes no longer than the saved file (cut anywhere, any bytes changed) read as a prefix of the saved
    chunks unless those very bytes pass the hash check on something that is not the saved chunk -/
theorem chunk_damage {H : Bytes → Bytes} {magic : Nat} (P : Params H magic) (bodies : List Bytes)
    (hb : ∀ x ∈ bodies, x.length ≤ chunkSize) (b : Bytes) (hl : b.length ≤ (encodeAll H magic zeroHash bodies).length) :
    (∃ k, k ≤ bodies.length ∧ (readAll H magic zeroHash b).1 = bodies.take k) ∨ PassesFrom H magic zeroHash bodies b :=
  damaged_prefix_or_passes P bodies hb zeroHash b hl

/-- chunk files: a cut never passes -/
theorem chunk_cut {H : Bytes → Bytes} {magic : Nat} (P : Params H magic) (bodies : List Bytes)
    (hb : ∀ x ∈ bodies, x.length ≤ chunkSize) (n : Nat) :
    ¬ PassesFrom H magic zeroHash bodies ((encodeAll H magic zeroHash bodies).take n) :=
  truncation_never_passes P bodies hb zeroHash n

/-- the cache, closed: any legal history, restarts from arbitrarily damaged (not longer) files -/
theorem cache_closed {H : Bytes → Bytes} (hH : ∀ x, (H x).length = 16) (m t : Int) (ops : List Op)
    (hl : Legal H (init m t) [] ops) :
    GInv H (added ops) (run H .fixed (init m t) ops) (runImg H (init m t) [] ops) :=
  closed_run hH m t ops hl

/-- the cache, closed, cuts only: no hypothesis about the hash function -/
theorem cache_closed_cuts {H : Bytes → Bytes} (hH : ∀ x, (H x).length = 16) (m t : Int) (ops : List Op)
    (hl : TruncLegal H (init m t) ops) :
    GInv H (added ops) (run H .fixed (init m t) ops) (runImg H (init m t) [] ops) :=
  closed_run_truncations hH m t ops hl

/-- GetValue on any legal history -/
theorem cache_get {H : Bytes → Bytes} (hH : ∀ x, (H x).length = 16) (m t : Int) (ops : List Op)
    (hl : Legal H (init m t) [] ops) (ts : Nat) (k : Bytes) (x : Int)
    (hg : (getValue (run H .fixed (init m t) ops) ts k).2 = some x) :
    k ≠ [] ∧ x ≠ 0 ∧ x ≠ markerFlood ∧ x ≠ markerNotExist ∧ (k, x) ∈ added ops :=
  closed_get hH m t ops hl ts k x hg

/-- save, restart: same mapping, same sums -/
theorem cache_save_restart {H : Bytes → Bytes} (hH : ∀ x, (H x).length = 16) (s : St) (order : Cache) (m : Int)
    (hex : Exact s) (hd : dirty s = true) (hperm : order.Perm s.cache)
    (hwf : ∀ it ∈ s.cache, WFItem it) (hit : ∀ it ∈ s.cache, (encItem it).length ≤ halfChunk) :
    (loadNew H (save H s order).1.store.file m).2 = none ∧
    (∀ k, find (loadNew H (save H s order).1.store.file m).1.cache k = find s.cache k) ∧
    (loadNew H (save H s order).1.store.file m).1.sumSize = s.sumSize ∧
    (loadNew H (save H s order).1.store.file m).1.sumTS = s.sumTS :=
  save_then_reload_same hH s order m hex hd hperm hwf hit

/-- Go map order, AddValues: the driver's acceptance test is exactly "collected for some enumeration" -/
theorem map_order_addValues (rs : Int) (ks cands : List Bytes) (hk : ks.Nodup) (hc : cands.Nodup) (hsub : ∀ k ∈ cands, k ∈ ks) :
    legalCount rs ks cands = true ↔ ∃ order, order.Perm ks ∧ (collect rs order).Perm cands :=
  legalCount_exact rs ks cands hk hc hsub

/-- Go map order, RemoveByTTL: the driver's acceptance test is exactly "removed for some enumeration" -/
theorem map_order_removeByTTL (s : St) (maxCount : Int) (now : Nat) (removed : List Bytes) (hn : (keys s.cache).Nodup) :
    legalRemoved s maxCount now removed = true ↔
      ∃ order, order.Perm (keys s.cache) ∧ ttlRemoved s maxCount now order = removed :=
  ⟨legalRemoved_complete s maxCount now removed hn, fun ⟨order, hp, he⟩ => he ▸ legalRemoved_sound s maxCount now order hn hp⟩

/-- the writer with failing WriteAt refines the list-level writer, over all op lists -/
theorem writer_closed {H : Bytes → Bytes} (hH : ∀ x, (H x).length = 16) (magic : Nat) (ops : List WOp) (s : Chunked.St) (a : Abs)
    (h : Refines H magic s a) (hm : ∀ m, WOp.start m ∈ ops → m = magic) :
    Refines H magic (wrun H s ops) (arun a ops) :=
  writer_refines hH magic ops s a h hm

/-- the size clause on every legal history -/
theorem cache_size {H : Bytes → Bytes} (hH : ∀ x, (H x).length = 16) (m t : Int) (ops : List Op) (op : Op)
    (hl : Legal H (init m t) [] (ops ++ [op])) (hp : op.plain) :
    (run H .fixed (init m t) (ops ++ [op])).sumSize ≤
        max (run H .fixed (init m t) ops).maxSize (run H .fixed (init m t) ops).sumSize ∧
      0 ≤ (run H .fixed (init m t) (ops ++ [op])).sumSize ∧ 0 ≤ (run H .fixed (init m t) (ops ++ [op])).sumTS :=
  closed_size hH m t ops op hl hp

/-- the collection loop of AddValues in closed form -/
theorem collect_closed_form (rs : Int) (order : List Bytes) :
    collect rs order =
      if rs ≤ 0 then order.take 1
      else match reach rs order 0 0 with
        | none => order
        | some m => order.take (2 * m) :=
  collect_eq rs order

/-- the model's RemoveByTTL run over the observed list is the loop run over the visited keys -/
theorem removeByTTL_model_exact (s : St) (maxCount : Int) (now : Nat) (order : List Bytes) (hn : order.Nodup) :
    removeByTTL s now (order.take (ttlK maxCount)) = removeByTTL s now (ttlRemoved s maxCount now order) :=
  removeVisited_filter now s _ ((List.take_sublist _ _).nodup hn)

/-- `writeErr` discards until reset -/
theorem writer_error_sticky (a : Abs) (ops : List WOp) (he : a.err = true) (hr : ∀ op ∈ ops, op ≠ .reset) :
    (arun a ops).done = a.done ∧ (arun a ops).err = true :=
  arun_err_keeps_done a ops he hr

/-- an error-free FinishWriteChunk leaves exactly the encoding of the accepted chunks -/
theorem writer_fin_ok {H : Bytes → Bytes} (hH : ∀ x, (H x).length = 16) {magic : Nat} {s : Chunked.St} {a : Abs} (f : Bool)
    (h : Refines H magic s a) (hok : (finishWrite H f s).2 = .none) :
    (finishWrite H f s).1.file = encodeAll H magic zeroHash (astep a (.fin f)).done :=
  fin_ok_whole_file hH f h hok

/-- a reader of the file sees every accepted chunk first, whatever failed afterwards -/
theorem writer_readable {H : Bytes → Bytes} {magic : Nat} (P : Params H magic) {s : Chunked.St} {a : Abs}
    (h : Refines H magic s a) (hsz : ∀ b ∈ a.done, b.length ≤ chunkSize) :
    ∃ more, (readAll H magic zeroHash s.file).1 = a.done ++ more :=
  reader_sees_accepted_chunks P h hsz

end SH.C21.Headline
