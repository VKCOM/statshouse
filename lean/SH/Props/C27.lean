/-
  SH.Props.C27 — PromQL evaluation matches operator definitions and rewrites preserve results.

  Property: for any series data, aggregation operators (sum, min, max, avg, count, group, stddev, stdvar, quantile, topk,
  bottomk) with by/without grouping compute their definitions at every timestamp with missing points excluded, and
  over-time functions compute their definitions over the selected window.  Pushing an aggregation or over-time function
  down into the storage query (reduction) yields the same result as evaluating it in the engine over the underlying series.

  Model SH.Model.PromEval: exact arithmetic, `none` = missing point; `Cfg.repo` = the pinned tree (before /repo 3ba3df3b and
  600fb7e6: the `*_repo_violates` theorems speak of it), `Cfg.fixed` = the tree after fixes/C27-*.diff (what /repo holds now).  In this file, by subject:
    * aggregation operators: each operator's loop equals its definition over the present points and depends on the column only
      through them (both code variants); quantile for every q ∈ [0,1] (interpolation between the closest ranks, a function of
      the multiset of present points); topk / bottomk (per-series weight semantics); max / min over the extended reals
      (−∞ | finite | +∞ are points, missing is separate); vector-vector binary operators (one-to-one label-set matching).
    * over-time functions: the window cursor (newWindow / moveOneLeft / setValueAtRight / fillPrefixWith) evaluates every
      function on exactly the points of its range — on uniform grids (k = ⌈w/s⌉ points when not strict, ⌊w/s⌋ ≥ 1 when strict:
      a strict function needs a range of at least one step), on arbitrary grids with the left edge `L r` the cursor's test
      selects (excluded by hypothesis: a strict function whose range is narrower than a point's bucket, where the code forces
      an empty window), and on every non-decreasing grid for the not-strict functions with the edge derived from the grid;
      subqueries: `f_over_time((X)[r:])` is f over the window of X's results with the subquery's own range.
    * reductions: what the storage returns for the pooled rows of a group (tsValues.merge, then tsValues.value) equals the
      engine's aggregate of the per-series storage values — for rows, for the events of a bucket, for the whole storage query
      (what ∈ sum/sumsec/count/countsec/min/max; avg as pooled sum / pooled count); the rules' side conditions (Range ≤ step,
      = step for stddev/stdvar), under which the evaluator's result for the four rule shapes IS the storage query; two grids:
      the pushed-down point of a bucket equals the engine's window evaluation over the bucket's one-second points (rules #1–#3
      for sum, min, max; rule #1 also for count, up to the 0-vs-missing convention, and for avg; Range = bucket width only);
      count∘count and avg∘avg are not pooled values (example for avg) and are outside these statements; stdvar/stddev are
      excluded with a witness (sample vs population variance, the known finding); grouping depends on the SET of resolved
      tag indices.
    * witnesses: concrete inputs on which the pinned tree, the engine-side grouping by a legacy alias before /repo 78db24c9
      (aggregateRepoAlias, no evaluated variant uses it), the mutations seeded/C27-r3-2 and seeded/C27-r5-1 and the trees before
      fixes/C27-infinite-points.diff / fixes/C27-quantile-out-of-range.diff contradict the property.
  The theorems that stand for the property carry a docstring starting in bold; the others are what those rest on.
  stddev on non-squares, grouping keys (dedupKeys order), the weight function of topk: correspondence + def-* oracle only.
  Float rounding (numeric stability) is outside the exact model: judged by the harness' def-*-numeric oracle only.
-/
import SH.Model.PromEval
import SH.Lemmas.PromWindow
import SH.Lemmas.PromWindowG
import SH.Lemmas.PromReduce
import SH.Lemmas.Lists
import Mathlib.Algebra.Order.Field.Rat
import Mathlib.Data.List.Sort
import Mathlib.Data.Rat.Floor
import Mathlib.Tactic.NormNum
import Mathlib.Tactic.Ring
import Mathlib.Tactic.Linarith

namespace SH.Props.C27
open SH.PromEval SH.PromWindow SH.PromWindowG SH.PromReduce

theorem present_nil : present [] = [] := rfl
theorem present_cons_none (c : List Val) : present (none :: c) = present c := by simp [present]
theorem present_cons_some (x : Rat) (c : List Val) : present (some x :: c) = x :: present c := by simp [present]

theorem present_map {α : Type} (l : List α) (f : α → Val) : present (l.map f) = l.filterMap f :=
  List.filterMap_map ..

theorem present_map_some (xs : List Rat) : present (xs.map some) = xs :=
  (present_map xs some).trans (List.filterMap_some ..)

theorem ratSum_cons (x : Rat) (l : List Rat) : ratSum (x :: l) = x + ratSum l := by
  unfold ratSum
  rw [List.foldl_cons, zero_add]
  exact (congrArg (l.foldl (· + ·)) (add_zero x).symm).trans (List.foldl_assoc (op := (· + ·)))

theorem ratSum_nil : ratSum [] = 0 := rfl

/-- the model tests "no present point" as `length = 0`, most statements as `= []` -/
theorem ite_length_eq_zero {α β : Type} (l : List α) (a b : β) :
    (if l.length = 0 then a else b) = if l = [] then a else b :=
  if_congr List.length_eq_zero_iff rfl rfl

/-- the value of a loop that starts from the first point and then combines with `op` -/
def foldFirst {α : Type} (op : α → α → α) : List α → Option α
  | [] => none
  | x :: xs => some (xs.foldl op x)

theorem foldFirst_hom {α β : Type} (f : α → α → α) (op : β → β → β) (g : α → β) (hg : ∀ a b, g (f a b) = op (g a) (g b))
    (l : List α) : (foldFirst f l).map g = foldFirst op (l.map g) := by
  cases l with
  | nil => rfl
  | cons r rs =>
    refine congrArg some ?_
    induction rs generalizing r with
    | nil => rfl
    | cons x xs ih => exact (ih _).trans (congrArg (fun y => (xs.map g).foldl op y) (hg r x))

/-- funcSum, funcMax and funcMin share one loop: skip missing points, start from the first present one, combine the others
    with `op`; as a function of the present points (the accumulator counts as a first point) -/
theorem foldl_optStep {α : Type} (op : α → α → α) (step : Option α → Option α → Option α)
    (h1 : ∀ a, step a none = a) (h2 : ∀ x, step none (some x) = some x)
    (h3 : ∀ r x, step (some r) (some x) = some (op r x)) (c : List (Option α)) (acc : Option α) :
    c.foldl step acc = foldFirst op ((acc :: c).filterMap id) := by
  induction c generalizing acc with
  | nil => cases acc <;> rfl
  | cons v c ih =>
    rw [List.foldl_cons, ih]
    cases v with
    | none =>
      rw [h1]
      cases acc <;> rfl
    | some x =>
      cases acc with
      | none =>
        rw [h2]
        rfl
      | some r =>
        rw [h3]
        rfl

theorem aggSum_eq (col : List Val) : aggSum col = foldFirst (· + ·) (present col) :=
  foldl_optStep (· + ·) sumStep (fun a => by cases a <;> rfl) (fun _ => rfl) (fun _ _ => rfl) col none

/-- **sum** — "sum computes its definition at every timestamp with missing points excluded": the result is missing
    iff no point is present, otherwise the sum of the present points. -/
theorem aggSum_def (col : List Val) :
    aggSum col = if present col = [] then none else some (ratSum (present col)) := by
  rw [aggSum_eq]
  cases present col with
  | nil => rfl
  | cons x xs => exact congrArg some (congrArg (xs.foldl (· + ·)) (zero_add x).symm)

theorem otApply_sum (s : List Val) : otApply .sum s = aggSum s :=
  (ite_length_eq_zero _ _ _).trans (aggSum_def s).symm

/-- the loop shared by funcMax and funcMin: keep the point the comparison prefers -/
def pickFrom {α : Type} (lt : α → α → Prop) [DecidableRel lt] (r : α) (l : List α) : α :=
  l.foldl (fun r x => if lt r x then x else r) r

def pick {α : Type} (lt : α → α → Prop) [DecidableRel lt] : List α → Option α :=
  foldFirst (fun r x => if lt r x then x else r)

/-- the kept point is one of the points and is beaten by none; that it is the start or beats it only carries the induction -/
theorem pickFrom_spec {α : Type} (lt : α → α → Prop) [DecidableRel lt] (hirr : ∀ a, ¬ lt a a)
    (htr : ∀ a b c, lt a b → lt b c → lt a c) (l : List α) (r : α) :
    pickFrom lt r l ∈ r :: l ∧ (pickFrom lt r l = r ∨ lt r (pickFrom lt r l)) ∧ ∀ x ∈ r :: l, ¬ lt (pickFrom lt r l) x := by
  induction l generalizing r with
  | nil => exact ⟨List.mem_singleton_self r, Or.inl rfl, fun x hx => List.mem_singleton.mp hx ▸ hirr r⟩
  | cons y ys ih =>
    obtain ⟨hmem, hreach, hall⟩ := ih (if lt r y then y else r)
    show pickFrom lt (if lt r y then y else r) ys ∈ r :: y :: ys ∧ (pickFrom lt (if lt r y then y else r) ys = r ∨
      lt r (pickFrom lt (if lt r y then y else r) ys)) ∧ ∀ x ∈ r :: y :: ys, ¬ lt (pickFrom lt (if lt r y then y else r) ys) x
    by_cases h : lt r y
    · rw [if_pos h] at hmem hreach hall ⊢
      -- the start is beaten by y, hence by the kept point
      have hrp : lt r (pickFrom lt y ys) := hreach.elim
        (fun e => by
          rw [e]
          exact h)
        (htr _ _ _ h)
      refine ⟨List.mem_cons_of_mem _ hmem, Or.inr hrp, fun x hx => ?_⟩
      rcases List.mem_cons.mp hx with rfl | hx
      · exact fun hc => hirr _ (htr _ _ _ hrp hc)
      · exact hall x hx
    · rw [if_neg h] at hmem hreach hall ⊢
      refine ⟨?_, hreach, fun x hx => ?_⟩
      · exact (List.mem_cons.mp hmem).elim
          (fun e => by
            rw [e]
            exact List.mem_cons_self)
          (fun m => List.mem_cons_of_mem _ (List.mem_cons_of_mem _ m))
      · rcases List.mem_cons.mp hx with rfl | hx
        · exact hall _ List.mem_cons_self
        · rcases List.mem_cons.mp hx with rfl | hx
          -- y was refused by the start, and the kept point is the start or beats it
          · exact fun hc => h (hreach.elim
              (fun e => by
                rw [← e]
                exact hc)
              (fun hrp => htr _ _ _ hrp hc))
          · exact hall x (List.mem_cons_of_mem _ hx)

theorem pick_spec {α : Type} (lt le : α → α → Prop) [DecidableRel lt] (hirr : ∀ a, ¬ lt a a)
    (htr : ∀ a b c, lt a b → lt b c → lt a c) (hle : ∀ a b, ¬ lt a b → le b a) (l : List α) :
    (l = [] → pick lt l = none) ∧ (l ≠ [] → ∃ m, pick lt l = some m ∧ m ∈ l ∧ ∀ x ∈ l, le x m) := by
  cases l with
  | nil => exact ⟨fun _ => rfl, fun h => absurd rfl h⟩
  | cons x xs =>
    have hspec := pickFrom_spec lt hirr htr xs x
    exact ⟨fun h => absurd h (List.cons_ne_nil _ _), fun _ => ⟨_, rfl, hspec.1, fun y hy => hle _ _ (hspec.2.2 y hy)⟩⟩

theorem aggMax_eq (col : List Val) :
    aggMax col = pick (· < ·) (present col) :=
  foldl_optStep _ maxStep (fun a => by cases a <;> rfl) (fun _ => rfl) (fun _ _ => (apply_ite some _ _ _).symm) col none

theorem aggMin_eq (col : List Val) :
    aggMin col = pick (fun r x => x < r) (present col) :=
  foldl_optStep _ minStep (fun a => by cases a <;> rfl) (fun _ => rfl) (fun _ _ => (apply_ite some _ _ _).symm) col none

/-- **max** — missing iff no point is present; otherwise a present point that bounds every present point from above. -/
theorem aggMax_def (col : List Val) :
    (present col = [] → aggMax col = none) ∧
    (present col ≠ [] → ∃ m, aggMax col = some m ∧ m ∈ present col ∧ ∀ x ∈ present col, x ≤ m) :=
  aggMax_eq col ▸ pick_spec (· < ·) (· ≤ ·) lt_irrefl (fun _ _ _ => lt_trans) (fun _ _ => le_of_not_gt) (present col)

/-- **min** — the same loop for the reversed order: a present point that bounds every present point from below. -/
theorem aggMin_def (col : List Val) :
    (present col = [] → aggMin col = none) ∧
    (present col ≠ [] → ∃ m, aggMin col = some m ∧ m ∈ present col ∧ ∀ x ∈ present col, m ≤ x) :=
  aggMin_eq col ▸ pick_spec (fun r x => x < r) (fun a b => b ≤ a) lt_irrefl (fun _ _ _ h1 h2 => lt_trans h2 h1)
    (fun _ _ => le_of_not_gt) (present col)

theorem aggSum_present (col : List Val) : aggSum col = aggSum ((present col).map some) := by
  rw [aggSum_def, aggSum_def, present_map_some]
theorem aggMax_present (col : List Val) : aggMax col = aggMax ((present col).map some) := by
  rw [aggMax_eq, aggMax_eq, present_map_some]
theorem aggMin_present (col : List Val) : aggMin col = aggMin ((present col).map some) := by
  rw [aggMin_eq, aggMin_eq, present_map_some]

/-- **every operator, missing points excluded** — for all eight fold aggregators (quantile: `aggQuantile_present_only`), under both code variants,
    the value at a timestamp depends on the column only through its present points (inserting or deleting missing
    points anywhere changes nothing). -/
theorem agg_present_only (cfg : Cfg) (op : AggOp) (col : List Val) :
    aggApply cfg op col = aggApply cfg op ((present col).map some) := by
  cases op
  · exact aggSum_present col
  · exact aggMin_present col
  · exact aggMax_present col
  · simp [aggApply, aggAvg, present_map_some]
  · simp [aggApply, aggCount, present_map_some]
  · simp [aggApply, aggGroup, present_map_some]
  · simp [aggApply, aggStdDev, aggStdVar, present_map_some]
  · simp [aggApply, aggStdVar, present_map_some]

theorem aggQuantile_present_only (q : Rat) (col : List Val) :
    aggQuantile q col = aggQuantile q ((present col).map some) := by
  simp [aggQuantile, present_map_some]

/-- non-vacuity: a column with missing points in the middle -/
example : aggApply Cfg.fixed .avg [some 3, none, some 6, none] = some (9 / 2) := by decide +kernel
example : aggApply Cfg.fixed .max [none, some (-2), none, some (-7)] = some (-2) := by decide +kernel

/-- **count** = number of present points (0, not missing, when there is none — the engine's convention, shared with count_over_time) -/
theorem aggCount_def (col : List Val) : aggCount col = some ((present col).length : Rat) := rfl

/-- **avg** = sum of the present points / their number; missing iff none is present -/
theorem aggAvg_def (col : List Val) :
    aggAvg col = if present col = [] then none else some (ratSum (present col) / ((present col).length : Rat)) :=
  ite_length_eq_zero _ _ _

theorem aggAvg_mul_count (col : List Val) (a : Rat) (h : aggAvg col = some a) :
    a * ((present col).length : Rat) = ratSum (present col) := by
  unfold aggAvg at h
  by_cases h0 : (present col).length = 0
  · simp [h0] at h
  · simp only [h0, if_false, Option.some.injEq] at h
    have : ((present col).length : Rat) ≠ 0 := by exact_mod_cast h0
    rw [← h]; exact div_mul_cancel₀ _ this

/-- **group** (fixed code) is 1 exactly where some point is present and missing elsewhere -/
theorem aggGroup_def (col : List Val) :
    aggGroup Cfg.fixed col = if present col = [] then none else some 1 :=
  ite_length_eq_zero _ _ _

/-- the pinned tree violates this: group is 1 at a timestamp where every input point is missing -/
theorem aggGroup_repo_violates : aggGroup Cfg.repo [none, none] = some 1 ∧ present ([none, none] : List Val) = [] := by
  decide +kernel

theorem ratSum_map_div (l : List Rat) (f : Rat → Rat) (n : Rat) :
    ratSum (l.map (fun v => f v / n)) = ratSum (l.map f) / n := by
  induction l with
  | nil => simp [ratSum_nil]
  | cons x xs ih => simp only [List.map_cons, ratSum_cons, ih]; ring

/-- the loop `res += d*d/cnt` of funcStdVar is the mean squared deviation -/
theorem varOf_def (xs : List Rat) :
    varOf xs = ratSum (xs.map (fun v => (v - ratSum xs / (xs.length : Rat)) * (v - ratSum xs / (xs.length : Rat)))) / (xs.length : Rat) := by
  unfold varOf
  exact ratSum_map_div xs _ _

/-- **stdvar** (fixed code) = mean squared deviation of the present points from their mean; missing iff none is present -/
theorem aggStdVar_def (col : List Val) :
    aggStdVar Cfg.fixed col =
      if present col = [] then none
      else some (ratSum ((present col).map (fun v => (v - ratSum (present col) / ((present col).length : Rat)) *
              (v - ratSum (present col) / ((present col).length : Rat)))) / ((present col).length : Rat)) := by
  rw [← varOf_def]
  exact ite_length_eq_zero _ _ _

theorem ratSum_sq_nonneg (l : List Rat) (f : Rat → Rat) : 0 ≤ ratSum (l.map (fun v => f v * f v)) := by
  induction l with
  | nil => simp [ratSum_nil]
  | cons x xs ih => simp only [List.map_cons, ratSum_cons]; nlinarith [mul_self_nonneg (f x)]

theorem varOf_nonneg (xs : List Rat) : 0 ≤ varOf xs := by
  rw [varOf_def]
  apply div_nonneg (ratSum_sq_nonneg xs _)
  exact_mod_cast Nat.zero_le _

/-- the pinned tree violates this: stdvar / stddev are 0 where every input point is missing -/
theorem aggStdVar_repo_violates :
    aggStdVar Cfg.repo [none, none] = some 0 ∧ aggStdDev Cfg.repo [none] = some 0 ∧ aggStdVar Cfg.fixed [none, none] = none := by
  decide +kernel

/-- **stddev** squares to stdvar whenever the variance is a perfect square (the only case the exact model covers) -/
theorem aggStdDev_sq_partial (cfg : Cfg) (col : List Val) (v : Rat) (hv : aggStdVar cfg col = some v)
    (hsq : sqrtExact v * sqrtExact v = v) :
    ∃ d, aggStdDev cfg col = some d ∧ d * d = v := by
  refine ⟨sqrtExact v, ?_, hsq⟩
  simp [aggStdDev, hv]
example : aggStdVar Cfg.fixed [some 1, none, some 7] = some 9 ∧ sqrtExact 9 * sqrtExact 9 = 9 := by decide +kernel

/-- the interpolation as lower rank plus fraction times the step to the upper rank; needs no sortedness -/
theorem quantileSorted_interp (q : Rat) (xs : List Rat) (hne : xs ≠ [])
    (hi : (q * ((xs.length : Rat) - 1)).floor.toNat ≤ xs.length - 1) :
    let p : Rat := q * ((xs.length : Rat) - 1)
    let i : Nat := p.floor.toNat
    let i' : Nat := min (xs.length - 1) (i + 1)
    quantileSorted q xs = some (xs.getD i 0 + (p - (i : Rat)) * (xs.getD i' 0 - xs.getD i 0)) := by
  intro p i i'
  have hn : 1 ≤ xs.length := List.length_pos_iff.mpr hne
  have hi : i ≤ xs.length - 1 := hi
  have hi' : i' = i + 1 ∨ i' = i := by
    show min (xs.length - 1) (i + 1) = i + 1 ∨ min (xs.length - 1) (i + 1) = i
    omega
  rw [quantileSorted, if_neg (by omega)]
  show some (xs.getD i 0 * ((i' : Rat) - p) + xs.getD i' 0 * (1 - ((i' : Rat) - p))) = _
  congr 1
  rcases hi' with h | h
  · rw [h, Nat.cast_succ]
    ring
  · rw [h]
    ring

theorem quantileSorted_zero (xs : List Rat) : quantileSorted 0 xs = xs.head? := by
  cases xs with
  | nil => rfl
  | cons x xs =>
    have hf : (Rat.floor 0).toNat = 0 := rfl
    -- position 0·(n−1) = 0, rank ⌊0⌋ = 0, fraction 0: the value is x₀ + 0·(…)
    have h := quantileSorted_interp 0 (x :: xs) (List.cons_ne_nil _ _) (by rw [zero_mul, hf]; exact Nat.zero_le _)
    simp only [zero_mul, hf] at h
    rw [h, Nat.cast_zero, sub_zero, zero_mul, add_zero]
    rfl

/-- quantile(0, …) is the least present point (head of the sorted present points), missing iff none is present -/
theorem aggQuantile_zero (col : List Val) : aggQuantile 0 col = (isort (present col)).head? := by
  simp [aggQuantile, quantileSorted_zero]

example : aggQuantile (1/2) [some 10, none, some 30, some 20, none] = some 20 := by decide +kernel
example : aggQuantile (1/4) [some 10, none, some 30] = some 15 := by decide +kernel
example : aggQuantile 0 [none, some 5] = some 5 := by decide +kernel

-- `foldr_ins_spec p ins h0 h1 R S tr hp hn l hl`: test, insertion with its two equations, order, where it is transitive (everywhere)
theorem isort_spec (l : List Rat) : (isort l).Perm l ∧ (isort l).Pairwise (· ≤ ·) :=
  Lists.foldr_ins_spec (· ≤ ·) insertSorted (fun _ => rfl) (fun _ _ _ => rfl) (· ≤ ·) (fun _ => True)
    (fun _ _ _ _ _ _ => le_trans) (fun _ _ _ _ => id) (fun _ _ _ _ h => le_of_lt (not_le.mp h)) l (fun _ _ => trivial)

/-- **quantile is a function of the multiset of present points**: reordering the series of a group (Go map order, the
    order the storage returns them in) or moving missing points around does not change it -/
theorem aggQuantile_perm (q : Rat) (c1 c2 : List Val) (h : c1.Perm c2) : aggQuantile q c1 = aggQuantile q c2 := by
  unfold aggQuantile
  have hp : (present c1).Perm (present c2) := List.Perm.filterMap id h
  have : isort (present c1) = isort (present c2) :=
    List.Perm.eq_of_pairwise' (r := (· ≤ ·)) (isort_spec _).2 (isort_spec _).2
      ((isort_spec _).1.trans (hp.trans (isort_spec _).1.symm))
  rw [this]

theorem floor_bounds (x : Rat) (hx : 0 ≤ x) : ((x.floor.toNat : Nat) : Rat) ≤ x ∧ x < ((x.floor.toNat : Nat) : Rat) + 1 := by
  have h0 : 0 ≤ x.floor := by
    show 0 ≤ ⌊x⌋
    exact Int.floor_nonneg.mpr hx
  have hc : ((x.floor.toNat : Nat) : Rat) = ((x.floor : Int) : Rat) := by
    have : ((x.floor.toNat : Nat) : Int) = x.floor := Int.toNat_of_nonneg h0
    exact_mod_cast congrArg (fun z : Int => (z : Rat)) this
  rw [hc]
  exact ⟨Int.floor_le x, Int.lt_floor_add_one x⟩

/-- **quantile(q, …) for every q ∈ [0,1] is the linear interpolation between the two closest ranks of the sorted present
    points**: with n points x₀ ≤ … ≤ x_{n−1}, position p = q·(n−1), rank i = ⌊p⌋ and fraction φ = p − i ∈ [0,1), the value is
    x_i + φ·(x_{i'} − x_i) with i' = min(n−1, i+1); it lies between x_i and x_{i'}. -/
theorem quantile_def (q : Rat) (xs : List Rat) (hq0 : 0 ≤ q) (hq1 : q ≤ 1) (hne : xs ≠ []) (hs : xs.Pairwise (· ≤ ·)) :
    let p : Rat := q * ((xs.length : Rat) - 1)
    let i : Nat := p.floor.toNat
    let i' : Nat := min (xs.length - 1) (i + 1)
    let φ : Rat := p - (i : Rat)
    i ≤ xs.length - 1 ∧ 0 ≤ φ ∧ φ < 1 ∧
    quantileSorted q xs = some (xs.getD i 0 + φ * (xs.getD i' 0 - xs.getD i 0)) ∧
    xs.getD i 0 ≤ xs.getD i 0 + φ * (xs.getD i' 0 - xs.getD i 0) ∧
    xs.getD i 0 + φ * (xs.getD i' 0 - xs.getD i 0) ≤ xs.getD i' 0 := by
  intro p i i' φ
  have hn : 1 ≤ xs.length := List.length_pos_iff.mpr hne
  have hn' : (0 : Rat) ≤ (xs.length : Rat) - 1 := sub_nonneg.mpr (by exact_mod_cast hn)
  have hpn : p ≤ (xs.length : Rat) - 1 := (mul_le_mul_of_nonneg_right hq1 hn').trans_eq (one_mul _)
  obtain ⟨hfl, hfu⟩ := floor_bounds p (mul_nonneg hq0 hn')
  have hi : i ≤ xs.length - 1 := by
    have h : (i : Rat) ≤ ((xs.length - 1 : Nat) : Rat) := by
      rw [Nat.cast_sub hn, Nat.cast_one]
      exact hfl.trans hpn
    exact_mod_cast h
  have hφ0 : 0 ≤ φ := sub_nonneg.mpr hfl
  have hφ1 : φ < 1 := sub_lt_iff_lt_add'.mpr hfu
  -- the upper rank is the next one, or the same one at the right end
  have hi' : i' = i + 1 ∧ i + 1 < xs.length ∨ i' = i := by
    show min (xs.length - 1) (i + 1) = i + 1 ∧ _ ∨ min (xs.length - 1) (i + 1) = i
    omega
  have hmono : xs.getD i 0 ≤ xs.getD i' 0 := by
    rcases hi' with ⟨h, h2⟩ | h
    · have h1 : i < xs.length := by omega
      rw [h, List.getD_eq_getElem?_getD, List.getD_eq_getElem?_getD, List.getElem?_eq_getElem h1, List.getElem?_eq_getElem h2]
      exact List.pairwise_iff_getElem.mp hs i (i + 1) h1 h2 (by omega)
    · rw [h]
  have hd := sub_nonneg.mpr hmono
  exact ⟨hi, hφ0, hφ1, quantileSorted_interp q xs hne hi, le_add_of_nonneg_right (mul_nonneg hφ0 hd),
    le_sub_iff_add_le'.mp ((mul_le_mul_of_nonneg_right hφ1.le hd).trans_eq (one_mul _))⟩

/-- the operator: quantile of a column = `quantile_def` on the sorted present points -/
theorem aggQuantile_sorted_present (q : Rat) (col : List Val) :
    aggQuantile q col = quantileSorted q (isort (present col)) ∧ (isort (present col)).Pairwise (· ≤ ·) ∧
    (isort (present col)).Perm (present col) := ⟨rfl, (isort_spec _).2, (isort_spec _).1⟩

example : aggQuantile (3/4) [some 10, none, some 40, some 20] = some 30 ∧
    aggQuantile (3/4) [some 40, some 20, none, none, some 10] = some 30 := by decide +kernel

/-- the series kept from one group: the first `k` after ordering the (weight, series) pairs -/
def selectTop (desc : Bool) (k : Nat) (ws : List (Rat × Series)) : List (Rat × Series) := (ws.foldr (insertBy desc) []).take k

theorem sortBy_spec (desc : Bool) (ws : List (Rat × Series)) :
    (ws.foldr (insertBy desc) []).Perm ws ∧
    (ws.foldr (insertBy desc) []).Pairwise (fun a b => if desc then b.1 ≤ a.1 else a.1 ≤ b.1) := by
  cases desc
  · exact Lists.foldr_ins_spec (fun x y => decide (x.1 < y.1) = true) (insertBy false) (fun _ => rfl) (fun _ _ _ => rfl)
      (fun a b => a.1 ≤ b.1) (fun _ => True) (fun _ _ _ _ _ _ => le_trans) (fun _ _ _ _ h => le_of_lt (of_decide_eq_true h))
      (fun _ _ _ _ h => not_lt.mp fun h' => h (decide_eq_true h')) ws (fun _ _ => trivial)
  · exact Lists.foldr_ins_spec (fun x y => decide (y.1 < x.1) = true) (insertBy true) (fun _ => rfl) (fun _ _ _ => rfl)
      (fun a b => b.1 ≤ a.1) (fun _ => True) (fun _ _ _ _ _ _ h1 h2 => le_trans h2 h1)
      (fun _ _ _ _ h => le_of_lt (of_decide_eq_true h)) (fun _ _ _ _ h => not_lt.mp fun h' => h (decide_eq_true h')) ws
      (fun _ _ => trivial)

/-- **topk / bottomk** (`desc` = topk; per-series weight semantics, one group): the kept series are min(k, n) of the group's n
    series, kept and dropped series together are exactly the group, and no dropped series is heavier (topk) / lighter
    (bottomk) than a kept one. -/
theorem topk_def (desc : Bool) (k : Nat) (ws : List (Rat × Series)) :
    let kept := selectTop desc k ws
    let dropped := (ws.foldr (insertBy desc) []).drop k
    (kept ++ dropped).Perm ws ∧ kept.length = min k ws.length ∧
    ∀ a ∈ kept, ∀ b ∈ dropped, (if desc then b.1 ≤ a.1 else a.1 ≤ b.1) := by
  intro kept dropped
  obtain ⟨hperm, hsorted⟩ := sortBy_spec desc ws
  refine ⟨?_, ?_, ?_⟩
  · show ((ws.foldr (insertBy desc) []).take k ++ (ws.foldr (insertBy desc) []).drop k).Perm ws
    rw [List.take_append_drop]; exact hperm
  · show ((ws.foldr (insertBy desc) []).take k).length = min k ws.length
    rw [List.length_take, hperm.length_eq]
  · intro a ha b hb
    have h := hsorted
    rw [← List.take_append_drop k (ws.foldr (insertBy desc) [])] at h
    exact (List.pairwise_append.mp h).2.2 a ha b hb

/-- funcTopK is `selectTop` of every group's (weight, series) pairs -/
theorem topK_eq (ts : TS) (desc : Bool) (k : Int) (wo : Bool) (ls : List Nat) (ss : List Series) (hk : 0 < k) :
    topK ts desc k wo ls ss =
      let ss' := if ts.viewStart = ts.viewEnd then ss else ss.filter (hasPresentInView ts)
      ((dedupKeys (ss'.map (fun s => keyOf wo ls s.tags))).map (fun key =>
        (selectTop desc k.toNat ((weights ts (ss'.filter (fun s => keyOf wo ls s.tags = key))).zip
          (ss'.filter (fun s => keyOf wo ls s.tags = key)))).map (·.2))).flatten := by
  unfold topK selectTop
  have : ¬ k ≤ 0 := by omega
  simp only [this, if_false]

example :
    selectTop true 2 [(3, ⟨[(1, 1)], []⟩), (9, ⟨[(1, 2)], []⟩), (5, ⟨[(1, 3)], []⟩)] = [(9, ⟨[(1, 2)], []⟩), (5, ⟨[(1, 3)], []⟩)] ∧
    selectTop false 1 [(3, ⟨[(1, 1)], []⟩), (9, ⟨[(1, 2)], []⟩), (5, ⟨[(1, 3)], []⟩)] = [(3, ⟨[(1, 1)], []⟩)] := by
  decide +kernel

theorem ERat.lt_irrefl (a : ERat) : ¬ ERat.lt a a = true := by
  cases a <;> simp [ERat.lt]

theorem ERat.lt_trans {a b c : ERat} (h1 : ERat.lt a b = true) (h2 : ERat.lt b c = true) : ERat.lt a c = true := by
  cases a <;> cases b <;> cases c <;> simp [ERat.lt] at *
  linarith

theorem ERat.le_of_not_lt {a b : ERat} (h : ¬ ERat.lt a b = true) : ERat.le b a = true := by simp [ERat.le, h]

theorem eMax_eq (col : List EVal) : eMax col = pick (fun a b => ERat.lt a b = true) (epresent col) :=
  foldl_optStep _ eMaxStep (fun a => by cases a <;> rfl) (fun _ => rfl) (fun _ _ => (apply_ite some _ _ _).symm) col none

theorem eMin_eq (col : List EVal) : eMin col = pick (fun r x => ERat.lt x r = true) (epresent col) :=
  foldl_optStep _ eMinStep (fun a => by cases a <;> rfl) (fun _ => rfl) (fun _ _ => (apply_ite some _ _ _).symm) col none

/-- **max_is_definition** (extended reals: −∞ | finite | +∞ are points, missing is separate) — `max` over a column is
    missing iff no point is present; otherwise it is a present point that bounds every present point from above. In
    particular a column whose present points are all −∞ has maximum −∞, not "no point". -/
theorem max_is_definition (col : List EVal) :
    (epresent col = [] → eMax col = none) ∧
    (epresent col ≠ [] → ∃ m, eMax col = some m ∧ m ∈ epresent col ∧ ∀ x ∈ epresent col, ERat.le x m = true) :=
  eMax_eq col ▸ pick_spec (fun a b => ERat.lt a b = true) (fun a b => ERat.le a b = true)
    ERat.lt_irrefl (fun _ _ _ => ERat.lt_trans) (fun _ _ => ERat.le_of_not_lt) (epresent col)

/-- **min_is_definition** — `min` over a column is
    missing iff no point is present; otherwise it is a present point that bounds every present point from below. -/
theorem min_is_definition (col : List EVal) :
    (epresent col = [] → eMin col = none) ∧
    (epresent col ≠ [] → ∃ m, eMin col = some m ∧ m ∈ epresent col ∧ ∀ x ∈ epresent col, ERat.le m x = true) :=
  eMin_eq col ▸ pick_spec (fun r x => ERat.lt x r = true) (fun a b => ERat.le b a = true)
    ERat.lt_irrefl (fun _ _ _ h1 h2 => ERat.lt_trans h2 h1) (fun _ _ => ERat.le_of_not_lt) (epresent col)

/-- the seeded sentinel variant (seeded/C27-r5-1: −∞ stands for "nothing seen yet") contradicts it: the present points of
    the column are all −∞, `min` returns −∞, the real `max` returns −∞, the sentinel `max` returns "no point" -/
theorem max_sentinel_violates :
    epresent [some ERat.ninf, none, some ERat.ninf] ≠ [] ∧ eMin [some .ninf, none, some .ninf] = some .ninf ∧
    eMax [some .ninf, none, some .ninf] = some .ninf ∧ eMaxSentinel [some .ninf, none, some .ninf] = none ∧
    eMaxSentinel [some (.fin 3), none, some .ninf] = some (.fin 3) := by decide +kernel

/-- before fixes/C27-infinite-points.diff: min_over_time of points that are all +∞ is MaxFloat64, the quantile of {5, +∞}
    at q = 0 and of {+∞} is "no point"; fixed: +∞, 5, +∞ -/
theorem infinite_points_old_violates :
    eMinOverTimeOld [some .pinf, some .pinf] = some (.fin maxFloat64) ∧ eMin [some .pinf, some .pinf] = some .pinf ∧
    eMaxOverTimeOld [some .ninf] = some (.fin (-maxFloat64)) ∧ eMax [some .ninf] = some .ninf ∧
    eQuantileOld 0 [some (.fin 5), some .pinf] = none ∧ eQuantile 0 [some (.fin 5), some .pinf] = some (.fin 5) ∧
    eQuantileOld (1/2) [some .pinf] = none ∧ eQuantile (1/2) [some .pinf] = some .pinf := by decide +kernel

/-- non-vacuity of max_is_definition and the other operators on a column mixing finite and infinite points -/
example : eMax [some (.fin 2), none, some .pinf, some .ninf] = some .pinf ∧ eMin [some (.fin 2), none, some .ninf] = some .ninf ∧
    eSum [some (.fin 2), some .pinf] = some .pinf ∧ eSum [some .ninf, some .pinf] = none ∧
    eAvg [some (.fin 2), some (.fin 4), none] = some (.fin 3) ∧ eCount [some .pinf, none] = some (.fin 1) ∧
    eQuantile (1/2) [some (.fin 1), some (.fin 3), some .pinf] = some (.fin 3) := by decide +kernel

/-- quantile with q outside [0,1]: −∞ / +∞ where the column has a point, nothing where every input point is missing; the tree
    before fixes/C27-quantile-out-of-range.diff emitted ±∞ there too (a point where there is nothing to aggregate) -/
theorem quantile_out_of_range :
    eQuantile (-1/2) [none, none] = none ∧ eQuantile (3/2) [none] = none ∧
    eQuantile (-1/2) [none, some (.fin 7)] = some .ninf ∧ eQuantile (3/2) [some (.fin 7), none] = some .pinf ∧
    eQuantileOutOld (-1/2) [none, none] = some .ninf ∧ eQuantileOutOld (3/2) [none] = some .pinf := by decide +kernel

theorem find_self_of_noDup (k : Series → Tags) (l : List Series) (h : hasDup (l.map k) = false) :
    ∀ s ∈ l, l.find? (fun s' => k s' = k s) = some s := by
  induction l with
  | nil => intro s hs; cases hs
  | cons x xs ih =>
    simp only [List.map_cons, hasDup, Bool.or_eq_false_iff] at h
    obtain ⟨hx, hxs⟩ := h
    intro s hs
    rcases List.mem_cons.mp hs with rfl | hs
    · exact List.find?_cons_of_pos (decide_eq_true rfl)
    · have hne : k x ≠ k s := by
        intro heq
        have : (xs.map k).contains (k x) = true := by
          rw [List.contains_iff_mem, heq]
          exact List.mem_map_of_mem hs
        rw [this] at hx
        cases hx
      rw [List.find?_cons_of_neg (by rw [decide_eq_true_eq]; exact hne)]
      exact ih hxs s hs

/-- **an operand matched against itself**: for a vector that is not the label-less scalar and whose matching label sets
    are pairwise different, `x op x` (any matching) pairs every series with itself: no series is lost, the values are
    `v op v` pointwise, the labels are the matching labels.  (This is the inner step of `agg (x op x) op agg (x)`.) -/
theorem binApply_self (op : BinOp) (m : Matching) (ss : List Series)
    (hs : isScalar ss = false) (hd : hasDup (ss.map (fun s => matchKey m s.tags)) = false) :
    binApply op m ss ss =
      some (ss.map (fun s => { tags := matchKey m s.tags, vals := zipVals (binVal op false) s.vals s.vals })) := by
  unfold binApply
  simp only [hs, hd, Bool.false_eq_true, if_false, Bool.or_self]
  congr 1
  refine (List.filterMap_congr fun s hmem => ?_).trans (congrFun List.filterMap_eq_map' ss)
  rw [find_self_of_noDup (fun s => matchKey m s.tags) ss hd s hmem]
  rfl

/-- every result series of a label-matched operation comes from a left series and a right series with the same matching
    label set, carries exactly that label set, and no left series contributes twice -/
theorem binApply_matched (op : BinOp) (m : Matching) (l r out : List Series)
    (hl : isScalar l = false) (hr : isScalar r = false) (h : binApply op m l r = some out) :
    out.length ≤ l.length ∧
    ∀ o ∈ out, ∃ a ∈ l, ∃ b ∈ r, matchKey m a.tags = matchKey m b.tags ∧ o.tags = matchKey m a.tags ∧
      o.vals = zipVals (binVal op false) a.vals b.vals := by
  unfold binApply at h
  simp only [hl, hr, Bool.false_eq_true, if_false] at h
  split at h
  · cases h
  · cases h
    refine ⟨List.length_filterMap_le _ _, ?_⟩
    intro o ho
    rw [List.mem_filterMap] at ho
    obtain ⟨a, ha, hfa⟩ := ho
    cases hf : r.find? (fun s' => matchKey m s'.tags = matchKey m a.tags) with
    | none => rw [hf] at hfa; cases hfa
    | some b =>
      rw [hf] at hfa
      simp only [Option.map_some, Option.some.injEq] at hfa
      have hb := List.find?_some hf
      have hbm := List.mem_of_find?_eq_some hf
      simp only [decide_eq_true_eq] at hb
      exact ⟨a, ha, b, hbm, hb.symm, by rw [← hfa], by rw [← hfa]⟩

/-- non-vacuity: two series matched on label 1; `on (1)` keeps only that label; a scalar left operand keeps the right points -/
example :
    binApply .mul (.on [1]) [⟨[(1, 1), (2, 1)], [some 2, none]⟩, ⟨[(1, 2), (2, 1)], [some 3, some 4]⟩]
                            [⟨[(1, 2)], [some 10, some 10]⟩, ⟨[(1, 1)], [some 5, some 5]⟩]
      = some [⟨[(1, 1)], [some 10, none]⟩, ⟨[(1, 2)], [some 30, some 40]⟩] := by decide +kernel
example :
    binApply .add .dflt [⟨[(1, 1)], [some 2]⟩, ⟨[(1, 1)], [some 3]⟩] [⟨[(1, 1)], [some 1]⟩] = none := by decide +kernel
example :
    binApply .gt .dflt [⟨[], [some 7, some 7]⟩] [⟨[(1, 1)], [some 5, some 9]⟩] = some [⟨[(1, 1)], [some 5, none]⟩] := by
  decide +kernel

/-- **cursor shape, every move on every grid** (what the repo's TestWindow* samples): the right edge moves left by exactly
    one, the left edge never passes it and never moves right, width and strictness are untouched. -/
theorem moveOneLeft_shape (t : List Int) (v : List Val) (wd wd' : Wnd) (h : moveOneLeft t v wd = some wd') :
    wd'.r = wd.r - 1 ∧ wd'.l ≤ wd'.r ∧ wd'.l ≤ wd.l ∧ wd'.w = wd.w ∧ wd'.strict = wd.strict := by
  unfold moveOneLeft at h
  split at h
  · cases h
  · have hl0 : leftStart wd (wd.r - 1) ≤ wd.r - 1 := by unfold leftStart; split <;> omega
    have hl1 : leftStart wd (wd.r - 1) ≤ wd.l := by unfold leftStart; split <;> omega
    obtain ⟨h1, h2, h3, h4⟩ := finishMove_shape _ _ _ _ _ _ _ h
    refine ⟨h1, ?_, ?_, h3, h4⟩
    · rw [h1, h2]
      split
      · exact hl0
      · exact Nat.le_trans (searchLeft_le _ _ _ _ _ _) hl0
    · rw [h2]
      split
      · exact hl1
      · exact Nat.le_trans (searchLeft_le _ _ _ _ _ _) hl1

example : moveOneLeft [0, 5, 10] [some 1, none, some 3] (newWindow 3 10 5 false)
    = some { w := 10, s := 5, l := 1, r := 2, n := 1, strict := false, done := false } := by decide +kernel

/-- over-time functions on a concrete series (uniform 5 s grid): sum over 10 s = the two points of the window, missing
    points skipped; count is 0 (not missing) on an empty window; a strict function sees an empty window when the range is
    narrower than the step, a non-strict one stretches to one point. -/
example : overTime [0, 5, 10, 15, 20] 10 5 .sum [some 1, some 2, none, some 4, some 8] = [none, none, some 2, some 4, some 12] := by
  decide +kernel
example : overTime [0, 5, 10, 15, 20] 10 5 .count [some 1, none, none, some 4, some 8] = [none, none, some 0, some 1, some 2] := by
  decide +kernel
example : overTime [0, 5, 10, 15, 20] 5 5 .max [some 1, some 2, none, some 4, some 8] = [none, some 2, none, some 4, some 8] := by
  decide +kernel
example : overTime [0, 5, 10, 15, 20] 3 5 .sum [some 1, some 2, none, some 4, some 8] = [none, none, none, none, none] := by
  decide +kernel
example : overTime [0, 5, 10, 15, 20] 3 5 .avg [some 1, some 2, none, some 4, some 8] = [none, some 2, none, some 4, some 8] := by
  decide +kernel

/-- **over_time_is_definition** — on a uniform grid t[i] = t0 + i·s, for every series `v`, every `*_over_time` function `f` and
    every range `w` (at least one step `s` when `f` is strict: `kSpec`), the cursor-driven evaluation (newWindow / moveOneLeft /
    setValueAtRight / fillPrefixWith) returns at point `i` the function of the `k` points ending at `i` — `k` = ⌈w/s⌉ for
    avg/min/max/last (narrowest window at least `w` wide; by `window_timestamps` the points with timestamp in (t_i − w, t_i]),
    ⌊w/s⌋ for sum/count/stdvar/stddev (widest window not wider than `w`; by `window_timestamps_strict` the points with
    t_i + s − w ≤ t_j) — the function's nil value (0 for count, missing otherwise) when none of them is present, and missing
    for the first `k` points (index 0 is a guard point: no complete window to its right). -/
theorem over_time_is_definition (t : List Int) (t0 s w : Int) (k : Nat) (f : OtFn) (v : List Val)
    (hg : uniform t t0 s) (hk : kSpec (otStrict f) w s k) (hv : v.length = t.length) (i : Nat) (hi : i < t.length) :
    (overTime t w s f v).getD i none =
      if i < k then none
      else if (present (slice v (i + 1 - k) i)).length = 0 then otNil f
      else otApply f (slice v (i + 1 - k) i) :=
  overTimeWith_uniform ⟨t, t0, s, w, otStrict f, k, hg, hk⟩ (otApply f) (otNil f) v hv i hi

/-- the same for quantile_over_time (strict window, q ∈ [0,1]): the quantile of the present points of the window -/
theorem quantile_over_time_is_definition (t : List Int) (t0 s w : Int) (k : Nat) (q : Rat) (v : List Val)
    (hg : uniform t t0 s) (hk : kSpec true w s k) (hv : v.length = t.length) (i : Nat) (hi : i < t.length) :
    (quantileOverTime t w s q v).getD i none =
      if i < k then none else aggQuantile q (slice v (i + 1 - k) i) := by
  have h := overTimeWith_uniform ⟨t, t0, s, w, true, k, hg, hk⟩ (fun s => quantileSorted q (isort (present s))) none v hv i hi
  rw [quantileOverTime, h]
  by_cases h0 : (present (slice v (i + 1 - k) i)).length = 0
  · rw [if_pos h0, aggQuantile, List.eq_nil_of_length_eq_zero h0]
    rfl
  · rw [if_neg h0]
    rfl

/-- every over-time function sees the window only through its present points -/
theorem otApply_present_only (f : OtFn) (s : List Val) : otApply f s = otApply f ((present s).map some) := by
  cases f
  · simp [otApply, aggAvg, present_map_some]
  · exact aggMin_present s
  · exact aggMax_present s
  all_goals simp [otApply, lastPresent, present_map_some]

/-- non-vacuity: the 5 s grid of the over-time examples with a 10 s range (two points) and a 7 s range (two points when the
    window stretches, one when it is strict) -/
example : uniform [0, 5, 10, 15, 20] 0 5 ∧ kSpec false 10 5 2 ∧ kSpec true 10 5 2 ∧ kSpec false 7 5 2 ∧ kSpec true 7 5 1 := by
  unfold uniform kSpec
  decide +kernel
example : overTime [0, 5, 10, 15, 20] 7 5 .avg [some 1, some 2, none, some 4, some 8] = [none, none, some 2, some 4, some 6] ∧
    overTime [0, 5, 10, 15, 20] 7 5 .sum [some 1, some 2, none, some 4, some 8] = [none, some 2, none, some 4, some 8] := by
  decide +kernel

/-- **over_time_is_definition on an arbitrary grid** — let `L r` be the left edge the range selects for point `r` with that
    point's own bucket width `sOf r` (= t[r+1] − t[r]; the finest LOD step for the last point): the largest l ≥ 1 passing the
    cursor's test, i.e. (not strict) the narrowest window [t_l, t_r + sOf r) at least `w` wide, (strict) the widest one not
    wider than `w`; L monotone (automatic when not strict: `mono_of_wide_nonstrict`).  Then for every series and every
    *_over_time function the cursor-driven evaluation returns at point i the function of the points L i … i, the nil
    value when none of them is present, and it is missing exactly where L i = 0 (no complete window right of the guard
    point). Uniform grids are the instance L i = i + 1 − k. -/
theorem over_time_is_definition_general (c : GCtx) (f : OtFn) (hst : c.strict = otStrict f) (v : List Val)
    (hv : v.length = c.t.length) (lodStep : Int) (hlod : lodStep = c.sOf (c.t.length - 1)) (i : Nat) (hi : i < c.t.length) :
    (overTime c.t c.w lodStep f v).getD i none =
      if c.L i = 0 then none
      else if (present (slice v (c.L i) i)).length = 0 then otNil f
      else otApply f (slice v (c.L i) i) := by
  subst hlod
  rw [overTime, ← hst]
  exact overTimeWith_general c (otApply f) (otNil f) v hv i hi

/-- what `L` means when not strict: l ≤ L r iff the window from t_l to the end of point r's bucket is at least w wide -/
theorem L_is_narrowest_window (c : GCtx) (hns : c.strict = false) (r l : Nat) (hl : 1 ≤ l) (hlr : l ≤ r) (hr : r < c.t.length) :
    l ≤ c.L r ↔ c.w ≤ tAt c.t r - tAt c.t l + c.sOf r := by
  have h := c.hwide r l hl hlr hr
  rw [hns, wideAt_false] at h
  exact (decide_eq_decide.mp h).symm

/-- a two-LOD grid: three one-minute points, then 15-second points; range 30 s; avg/min/max/last (not strict) -/
def twoLodT : List Int := [0, 60, 120, 135, 150, 165]
def twoLodS (r : Nat) : Int := if r < 2 then 60 else 15
def twoLodL : Nat → Nat
  | 0 => 0 | 1 => 1 | 2 => 1 | 3 => 2 | 4 => 3 | 5 => 4 | r => r - 1

theorem twoLod_wide : ∀ r, r < 6 → ∀ l, l ≤ r → 1 ≤ l → wideAt twoLodT 30 false (twoLodS r) r l = decide (l ≤ twoLodL r) := by
  decide +kernel

def twoLodCtx : GCtx where
  t := twoLodT
  w := 30
  strict := false
  sOf := twoLodS
  L := twoLodL
  hw := by decide
  hL := by
    intro r
    match r with
    | 0 | 1 | 2 | 3 | 4 | 5 => decide
    | r + 6 => show r + 6 - 1 ≤ r + 6; omega
  hwide := fun r l h1 h2 h3 => twoLod_wide r h3 l h2 h1
  hmono := by
    intro r hr
    have : r < 5 := by
      have : r + 1 < 6 := hr
      omega
    match r, this with
    | 0, _ | 1, _ | 2, _ | 3, _ | 4, _ => decide
  hstep := by
    intro r h1 hr
    have : r < 6 := hr
    match r, h1, this with
    | 1, _, _ | 2, _, _ | 3, _, _ | 4, _, _ | 5, _, _ => decide
  hnarrow := by intro r _; rfl

/-- on it, avg_over_time(v[30s]): the minute points see their own bucket only (60 s ≥ 30 s), the first 15 s point reaches
    back into the last minute bucket (15 s < 30 s), the later ones average two 15 s points — as the general theorem says,
    and as the model computes -/
example : overTime twoLodT 30 15 .avg [some 1, some 2, some 4, none, some 8, some 16]
    = [none, some 2, some 3, some 4, some 8, some 12] := by decide +kernel
example : (overTime twoLodCtx.t twoLodCtx.w 15 .avg [some 1, some 2, some 4, none, some 8, some 16]).getD 2 none
    = otApply .avg (slice [some 1, some 2, some 4, none, some 8, some 16] (twoLodCtx.L 2) 2) := by
  rw [over_time_is_definition_general twoLodCtx .avg rfl _ rfl 15 rfl 2 (by decide)]
  decide +kernel

/-- **over_time_is_definition on every non-decreasing grid, not-strict functions (avg, min, max, last), no per-grid
    hypothesis**: with `Lgrid t w lodStep i` = the largest l ≥ 1 such that w ≤ t_i − t_l + (bucket width of point i) — derived
    from the grid and the range alone — point i carries the function of the points Lgrid i … i (the nil value when none is
    present) and is missing exactly where Lgrid i = 0.  A coarse LOD followed by a fine one (two-LOD time scales) is a
    special case. -/
theorem over_time_is_definition_any_grid (t : List Int) (w lodStep : Int) (hw : 0 < w) (hlod : 0 ≤ lodStep)
    (hmono : ∀ i, i + 1 < t.length → tAt t i ≤ tAt t (i + 1)) (f : OtFn) (hf : otStrict f = false)
    (v : List Val) (hv : v.length = t.length) (i : Nat) (hi : i < t.length) :
    (overTime t w lodStep f v).getD i none =
      if Lgrid t w lodStep i = 0 then none
      else if (present (slice v (Lgrid t w lodStep i) i)).length = 0 then otNil f
      else otApply f (slice v (Lgrid t w lodStep i) i) := by
  have hlast : lodStep = (gridCtx t w lodStep hw hlod hmono).sOf ((gridCtx t w lodStep hw hlod hmono).t.length - 1) := by
    show lodStep = sOfGrid t lodStep (t.length - 1)
    unfold sOfGrid
    have : ¬ (t.length - 1 + 1 < t.length) := by omega
    simp [this]
  exact over_time_is_definition_general (gridCtx t w lodStep hw hlod hmono) f hf.symm v hv lodStep hlast i hi

/-- the two-LOD grid of `twoLodCtx` without any per-grid check: the edge computed from the grid -/
example : (List.range 6).map (Lgrid twoLodT 30 15) = [0, 1, 1, 2, 3, 4] := by decide +kernel
example : (overTime twoLodT 30 15 .avg [some 1, some 2, some 4, none, some 8, some 16]).getD 2 none
    = otApply .avg (slice [some 1, some 2, some 4, none, some 8, some 16] (Lgrid twoLodT 30 15 2) 2) := by
  rw [over_time_is_definition_any_grid twoLodT 30 15 (by decide) (by decide)
    (by intro i hi
        have : i < 5 := by
          have : i + 1 < 6 := hi
          omega
        match i, this with
        | 0, _ | 1, _ | 2, _ | 3, _ | 4, _ => decide) .avg rfl _ rfl 2 (by decide)]
  decide +kernel

/-- a node on top of a chain is applied to the chain's result whenever the reduction found for the longer chain is the one
    found for the chain below (it does not absorb the new node) -/
theorem evalChain_snoc (cfg : Cfg) (st : Store) (ts : TS) (w : Option What) (below : List Node) (n : Node)
    (hsame : evalReductionRules (if cfg.whatFix then w else none) (astList 0 (below ++ [n])) ts.lodStep =
             evalReductionRules (if cfg.whatFix then w else none) (astList 0 below) ts.lodStep)
    (hbound : ∀ red, evalReductionRules (if cfg.whatFix then w else none) (astList 0 below) ts.lodStep = some red →
             red.upto + 1 ≤ below.length) :
    evalChain cfg st ts w (below ++ [n]) = applyNode cfg ts n (evalChain cfg st ts w below) := by
  unfold evalChain
  simp only []
  rw [hsame]
  cases hred : evalReductionRules (if cfg.whatFix then w else none) (astList 0 below) ts.lodStep with
  | none => simp only [List.foldl_append, List.foldl_cons, List.foldl_nil]
  | some red =>
    have hb := hbound red hred
    simp only [List.drop_append_of_le_length hb, List.foldl_append, List.foldl_cons, List.foldl_nil]

/-- **subquery semantics**: `f_over_time((X)[r:])`, X any chain whose reduction (if any) does not reach the new call, is
    `f` over the window of X's results, series by series — the range `r` of the subquery, not a range left behind by a
    call inside X, and X's results, not X's inputs. -/
theorem subquery_is_window_of_results (cfg : Cfg) (st : Store) (ts : TS) (w : Option What) (below : List Node) (f : OtFn) (r : Int)
    (hsame : evalReductionRules (if cfg.whatFix then w else none) (astList 0 (below ++ [.ot f r true])) ts.lodStep =
             evalReductionRules (if cfg.whatFix then w else none) (astList 0 below) ts.lodStep)
    (hbound : ∀ red, evalReductionRules (if cfg.whatFix then w else none) (astList 0 below) ts.lodStep = some red →
             red.upto + 1 ≤ below.length) :
    evalChain cfg st ts w (below ++ [.ot f r true]) =
      (evalChain cfg st ts w below).map (fun s => { s with vals := overTime ts.times r ts.lodStep f s.vals }) :=
  evalChain_snoc cfg st ts w below (.ot f r true) hsame hbound

/-- non-vacuity: sum_over_time((max_over_time((m + 0)[1s:]))[2s:]) (no reduction) and
    sum_over_time((sum by (a) (m))[2s:]) (rule #0 inside, rule #3 refused because 2 s > step) satisfy the hypotheses -/
example :
    evalReductionRules none (astList 0 ([.brk, .ot .max 1 true] ++ [.ot .sum 2 true])) 1 = none ∧
    evalReductionRules none (astList 0 [.brk, .ot .max 1 true]) 1 = none ∧
    evalReductionRules none (astList 0 ([.agg .sum false [1]] ++ [.ot .sum 2 true])) 1 =
      evalReductionRules none (astList 0 [.agg .sum false [1]]) 1 ∧
    (evalReductionRules none (astList 0 [.agg .sum false [1]]) 1).map (·.upto) = some 0 := by decide +kernel

/-- a small storage and time scale for the examples and witnesses -/
def exStore : Store := ⟨[[(1, 1), (2, 1), (3, 1)], [(1, 1), (2, 2), (3, 1)]], [⟨0, 100, 2⟩, ⟨1, 100, 10⟩, ⟨0, 101, 4⟩]⟩
/-- times 99, 100, 101; startX = viewStart = 1, viewEnd = 3; lodStep = step = 1 -/
def exTS : TS := ⟨[99, 100, 101], 1, 1, 3, 1, 1, []⟩

/-- **the mutation of seeded/C27-r3-2 violates it** (`ev.r = e.Range` before the operand is evaluated: the inner call resets
    ev.r to 0): sum_over_time((max_over_time((m + 0)[1s:]))[2s:]) on `exStore` — the real order sums the two points of the
    window (2 + 4 = 6 at the last point), the mutated order evaluates a strict function with range 0 < step: an empty
    window everywhere, nothing is returned (a non-strict function would return the single points). -/
theorem early_range_violates :
    exec Cfg.fixed exStore exTS none [.brk, .ot .max 1 true, .ot .sum 2 true]
      = [⟨[(1, 1), (2, 1), (3, 1)], [none, some 6]⟩, ⟨[(1, 1), (2, 2), (3, 1)], [none, some 10]⟩] ∧
    (evalChainEarlyRange Cfg.fixed exStore exTS none [.brk, .ot .max 1 true, .ot .sum 2 true]).map (fun s => s.vals.drop 1)
      = [[none, none], [none, none]] ∧
    -- without a call inside the operand the mutation is invisible
    evalChainEarlyRange Cfg.fixed exStore exTS none [.brk, .agg .sum false [1], .ot .sum 2 true]
      = evalChain Cfg.fixed exStore exTS none [.brk, .agg .sum false [1], .ot .sum 2 true] := by
  decide +kernel

/-! pushing an aggregation down into the pre-aggregating storage:
  `per` = for every series of a group, the (merged) storage row of one time bucket, `none` where the series has no row.
  The engine-side evaluation asks the storage for every series separately (`Option.map (rowValue w …)`, a missing point
  where there is no row) and aggregates the answers; the pushed-down evaluation lets the storage merge the rows of the
  whole group (`pooled`) and asks once. -/

def pooled (per : List (Option Row)) : Option Row := mergeRows (per.filterMap id)

theorem present_map_optmap (per : List (Option Row)) (f : Row → Rat) :
    present (per.map (Option.map f)) = (per.filterMap id).map f :=
  (present_map per _).trans (List.map_filterMap ..).symm

theorem mergeRows_eq_foldFirst (rs : List Row) : mergeRows rs = foldFirst Row.merge rs := by
  cases rs <;> rfl

/-- a row value that turns the storage's `merge` into `op` gives the pooled row the `op`-combination of the rows' values:
    the one reason a push-down is exact (an average does not combine, see `reduce_avg_sound`) -/
theorem pooled_hom (op : Rat → Rat → Rat) (g : Row → Rat) (hg : ∀ a b : Row, g (a.merge b) = op (g a) (g b))
    (per : List (Option Row)) : (pooled per).map g = foldFirst op ((per.filterMap id).map g) :=
  (congrArg (Option.map g) (mergeRows_eq_foldFirst _)).trans (foldFirst_hom Row.merge op g hg _)

/-- the `what`s whose push-down is exact, with the engine aggregator they correspond to (count ↦ `aggSum`: the pooled event
    count is the sum of the per-series counts) -/
def exactPush : What → Option (List Val → Val)
  | .sumsec => some aggSum | .sum => some aggSum | .countsec => some aggSum | .count => some aggSum
  | .min => some aggMin | .max => some aggMax
  | _ => none

/-- **sum / count / min / max pushed down** (`sum by (G) (m)` → what = sumsec grouped by G, `sum`/Range for the over-time
    rules, likewise count, min, max): the storage's value for the pooled rows of the group equals the engine's aggregate
    over the per-series storage values, at every bucket, missing where no series has a row.  (StatsHouse's
    `count(m)` counts events; with one event per series and bucket that is PromQL's number of present series.) -/
theorem pooled_exactPush (w : What) (agg : List Val → Val) (hw : exactPush w = some agg) (q l : Int)
    (per : List (Option Row)) :
    (pooled per).map (rowValue w q l) = agg (per.map (Option.map (rowValue w q l))) := by
  -- the cases are count, countsec, min, max, sum, sumsec
  cases w <;> cases hw
  · rw [aggSum_eq, present_map_optmap]
    exact pooled_hom _ _ (fun a b => (congrArg (· / (l : Rat)) (add_mul a.count b.count q)).trans (add_div ..)) per
  · rw [aggSum_eq, present_map_optmap]
    exact pooled_hom _ _ (fun _ _ => add_div ..) per
  · rw [aggMin_eq, present_map_optmap]
    exact pooled_hom _ _ (fun _ _ => rfl) per
  · rw [aggMax_eq, present_map_optmap]
    exact pooled_hom _ _ (fun _ _ => rfl) per
  · rw [aggSum_eq, present_map_optmap]
    exact pooled_hom _ _ (fun a b => (congrArg (· / (l : Rat)) (add_mul a.sum b.sum q)).trans (add_div ..)) per
  · rw [aggSum_eq, present_map_optmap]
    exact pooled_hom _ _ (fun _ _ => add_div ..) per

/-- **avg pushed down, with the count carried**: the pooled average is (sum of the per-series sums) / (sum of the
    per-series counts) — NOT the engine's avg of the per-series averages, which weighs every series equally. -/
theorem reduce_avg_sound (per : List (Option Row)) (q : Int) :
    (pooled per).map (rowValue .avg q 1) =
      match aggSum (per.map (Option.map (rowValue .sumsec q 1))), aggSum (per.map (Option.map (rowValue .countsec q 1))) with
      | some s, some c => some (s / c)
      | _, _ => none := by
  rw [← pooled_exactPush .sumsec aggSum rfl q 1, ← pooled_exactPush .countsec aggSum rfl q 1]
  cases h : pooled per with
  | none => simp
  | some r => simp [rowValue]

/-- avg of averages is a different number (two series, 1 and 3 events): why only the pooled form is pushed down exactly -/
example :
    let per := [some (Row.merge (Row.ofEvent 2) (Row.ofEvent 4)), some (Row.ofEvent 12), none]
    (pooled per).map (rowValue .avg 1 1) = some 6 ∧ aggAvg (per.map (Option.map (rowValue .avg 1 1))) = some (15 / 2) := by
  decide +kernel

/-- non-vacuity of the row-level push-down theorems: three series, one without a row -/
example :
    let per := [some (Row.ofEvent 5), none, some (Row.merge (Row.ofEvent (-1)) (Row.ofEvent 8))]
    (pooled per).map (rowValue .sumsec 5 5) = some (12 / 5) ∧ (pooled per).map (rowValue .min 5 5) = some (-1) ∧
    (pooled per).map (rowValue .count 5 5) = some 3 := by
  decide +kernel

/-! the rule engine level by level (evalReductionRules: one pass over the candidates per AST node), on the node shapes of the
    four rules, without an explicit `__what__`: a matrix selector first keeps rules #1 and #2, the over-time call above it
    completes #1 and keeps #2, the aggregation above that completes #2; an aggregation first completes #0 and keeps #3, the
    subquery above it keeps #3, the over-time call above that completes #3 -/

theorem reduceWhat_none (b : What) : reduceWhat none b = (some b, true) := rfl

theorem evalReductionRules_cons (seed : Option What) (e : AstKind) (idx : Nat) (rest : List (AstKind × Nat)) (step : Int) :
    evalReductionRules seed ((e, idx) :: rest) step =
      rulesLoop 1 rest step
        (rulesLevel 0 e idx step ((List.range reductionRules.length).map (fun i => { rule := i, what := seed })) none).1
        (rulesLevel 0 e idx step ((List.range reductionRules.length).map (fun i => { rule := i, what := seed })) none).2 := rfl

theorem rulesLoop_cons (depth : Nat) (e : AstKind) (idx : Nat) (rest : List (AstKind × Nat)) (step : Int) (c : Red)
    (cs : List Red) (res : Option Red) :
    rulesLoop depth ((e, idx) :: rest) step (c :: cs) res =
      rulesLoop (depth + 1) rest step (rulesLevel depth e idx step (c :: cs) res).1 (rulesLevel depth e idx step (c :: cs) res).2 := rfl

theorem rulesLoop_done (depth : Nat) (nodes : List (AstKind × Nat)) (step : Int) (res : Option Red) :
    rulesLoop depth nodes step [] res = res := by
  rcases nodes with _ | ⟨⟨e, idx⟩, rest⟩ <;> rfl

theorem level0_matrix (r step : Int) (idx : Nat) :
    rulesLevel 0 (.matrix r) idx step ((List.range reductionRules.length).map (fun i => { rule := i })) none =
      if r > step then ([], none)
      else ([{ rule := 1, step := r, upto := idx }, { rule := 2, step := r, upto := idx }], none) := by
  by_cases h : r > step
  all_goals
    simp only [rulesLevel, reductionRules, List.length, List.range, List.range.loop, List.map, List.foldl, List.getD,
      List.getElem?_cons_zero, List.getElem?_cons_succ, Option.getD, applyStep, reduceMatrix, reduceAgg, h, if_false, if_true, Nat.zero_add, Nat.reduceAdd, Nat.reduceEqDiff,
      List.nil_append, List.cons_append]

theorem level0_agg (w : What) (wo : Bool) (ls : List Nat) (step : Int) (idx : Nat) :
    rulesLevel 0 (.agg (some w) wo ls) idx step ((List.range reductionRules.length).map (fun i => { rule := i })) none =
      ([{ rule := 3, what := some w, grouped := true, groupBy := ls, without := wo, upto := idx }],
       some { rule := 0, what := some w, grouped := true, groupBy := ls, without := wo, upto := idx }) := rfl

theorem level1_call (w : What) (ne : Bool) (r step : Int) (i idx : Nat) :
    rulesLevel 1 (.call (some w) ne) idx step [{ rule := 1, step := r, upto := i }, { rule := 2, step := r, upto := i }] none =
      if ne && r ≠ step then ([], none)
      else ([{ rule := 2, what := some w, step := r, upto := idx }], some { rule := 1, what := some w, step := r, upto := idx }) := by
  by_cases h : (ne && decide (r ≠ step)) = true
  all_goals
    simp only [rulesLevel, reductionRules, List.length, List.foldl, List.getD, List.getElem?_cons_zero, List.getElem?_cons_succ,
      Option.getD, applyStep, reduceOverTime, reduceWhat, h, if_true, if_false, Bool.false_eq_true, Nat.zero_add, Nat.reduceAdd,
      Nat.reduceEqDiff, List.nil_append]

theorem level2_agg (w1 w2 w : What) (wo : Bool) (ls : List Nat) (r step : Int) (i idx : Nat) (res : Option Red)
    (hcomp : reduceWhat (some w1) w2 = (some w, true)) :
    rulesLevel 2 (.agg (some w2) wo ls) idx step [{ rule := 2, what := some w1, step := r, upto := i }] res =
      ([], some { rule := 2, what := some w, step := r, grouped := true, groupBy := ls, without := wo, upto := idx }) := by
  simp only [rulesLevel, reductionRules, List.length, List.foldl, List.getD, List.getElem?_cons_zero, List.getElem?_cons_succ,
    Option.getD, applyStep, reduceAgg, hcomp, if_true]

theorem level1_subquery (w : What) (wo : Bool) (ls : List Nat) (r step : Int) (i idx : Nat) (res : Option Red) :
    rulesLevel 1 (.subquery r) idx step [{ rule := 3, what := some w, grouped := true, groupBy := ls, without := wo, upto := i }] res =
      if r > step then ([], res)
      else ([{ rule := 3, what := some w, step := r, grouped := true, groupBy := ls, without := wo, upto := idx }], res) := by
  by_cases h : r > step
  all_goals
    simp only [rulesLevel, reductionRules, List.length, List.foldl, List.getD, List.getElem?_cons_zero, List.getElem?_cons_succ,
      Option.getD, applyStep, reduceSubquery, h, if_false, if_true, Nat.zero_add, Nat.reduceAdd, Nat.reduceEqDiff, List.nil_append]

theorem level2_call (w1 w2 w : What) (ne wo : Bool) (ls : List Nat) (r step : Int) (i idx : Nat) (res : Option Red)
    (hcomp : reduceWhat (some w2) w1 = (some w, true)) :
    rulesLevel 2 (.call (some w1) ne) idx step
        [{ rule := 3, what := some w2, step := r, grouped := true, groupBy := ls, without := wo, upto := i }] res =
      if ne && r ≠ step then ([], res)
      else ([], some { rule := 3, what := some w, step := r, grouped := true, groupBy := ls, without := wo, upto := idx }) := by
  by_cases h : (ne && decide (r ≠ step)) = true
  all_goals
    simp only [rulesLevel, reductionRules, List.length, List.foldl, List.getD, List.getElem?_cons_zero, List.getElem?_cons_succ,
      Option.getD, applyStep, reduceOverTime, hcomp, h, if_true, if_false, Bool.false_eq_true]

/-- the side condition `Range = step` of stddev/stdvar, in the form the rule engine tests it -/
theorem needEq_holds (ne : Bool) (r step : Int) (hne : ne = true → r = step) : (ne && decide (r ≠ step)) = false := by
  cases ne
  · rfl
  · exact decide_eq_false (fun h => h (hne rfl))

/-- rule #1 (`f_over_time(m[r])`) as a closed form: it fires iff the range does not exceed the LOD step (and equals it for
    stddev/stdvar); the selector then carries `what = f`, `Range = r`, and stays ungrouped. -/
theorem rule1_closed_form (w : What) (needEq : Bool) (r step : Int) :
    evalReductionRules none [(.matrix r, 0), (.call (some w) needEq, 0)] step =
      if r > step ∨ (needEq = true ∧ r ≠ step) then none
      else some { rule := 1, what := some w, step := r, upto := 0 } := by
  rw [evalReductionRules_cons, level0_matrix]
  by_cases hr : r > step
  · rw [if_pos hr, if_pos (Or.inl hr), rulesLoop_done]
  · rw [if_neg hr, rulesLoop_cons, level1_call]
    by_cases hne : needEq = true ∧ r ≠ step
    · rw [if_pos (by simpa using hne), if_pos (Or.inr hne), rulesLoop_done]
    · rw [if_neg (by simpa using hne), if_neg (not_or.mpr ⟨hr, hne⟩)]
      rfl

example : evalReductionRules none [(.matrix 5, 0), (.call (some .sum) false, 0)] 5
    = some { rule := 1, what := some .sum, step := 5, upto := 0 } := by decide +kernel
example : evalReductionRules none [(.matrix 10, 0), (.call (some .sum) false, 0)] 5 = none := by decide +kernel
/-- rule #2 absorbs the aggregation above an over-time call; rule #0 an aggregation alone; a mismatching pair stops at #1 -/
example : evalReductionRules none [(.matrix 5, 0), (.call (some .sum) false, 0), (.agg (some .sumsec) false [1], 1)] 5
    = some { rule := 2, what := some .sum, step := 5, grouped := true, groupBy := [1], upto := 1 } := by decide +kernel
example : evalReductionRules none [(.matrix 5, 0), (.call (some .sum) false, 0), (.agg (some .min) false [1], 1)] 5
    = some { rule := 1, what := some .sum, step := 5, upto := 0 } := by decide +kernel
/-- an explicit `__what__` takes part in the matching (fixed code): max(m{__what__="sum"}) is not pushed down -/
example : evalReductionRules (some .sum) [(.agg (some .max) false [], 0)] 1 = none := by decide +kernel
example : evalReductionRules (some .sum) [(.agg (some .sumsec) false [], 0)] 1
    = some { rule := 0, what := some .sum, grouped := true, upto := 0 } := by decide +kernel

/-- `sum(m)`: the engine-side evaluation (selector wrapped in `+ 0`) gives 12 and 4; the fixed tree pushes it down with
    the same result; the pinned tree asks the storage for `avg` of the group and returns 6 and 4;
    `count(m)` on the pinned tree is also 6 (the average!), the fixed tree counts 2 and 1. -/
theorem repo_reduction_violates :
    exec Cfg.fixed exStore exTS none [.brk, .agg .sum false []] = [⟨[], [some 12, some 4]⟩] ∧
    exec Cfg.fixed exStore exTS none [.agg .sum false []] = [⟨[], [some 12, some 4]⟩] ∧
    exec Cfg.repo exStore exTS none [.agg .sum false []] = [⟨[], [some 6, some 4]⟩] ∧
    exec Cfg.repo exStore exTS none [.agg .count false []] = [⟨[], [some 6, some 4]⟩] ∧
    exec Cfg.fixed exStore exTS none [.agg .count false []] = [⟨[], [some 2, some 1]⟩] := by
  decide +kernel

/-- the point of one group of stored series at time index `i`, as QuerySeries computes it (queryStorage's inner term) -/
def groupPoint (st : Store) (ts : TS) (w : What) (range : Int) (members : List Nat) (i : Nat) : Val :=
  (mergeRows (bucketRows st members (ts.times.getD i 0) (ts.times.getD i 0 + ts.width i))).map
    (rowValue w (queryStep ts range (ts.width i)) (ts.width i))

/-- the stored series whose tags project to `k` under the query's grouping -/
def membersOf (st : Store) (groupBy : List Nat) (k : Tags) : List Nat :=
  (((List.range st.tags.length).map (fun i => (keyOf false groupBy (st.tags.getD i []), i))).filter (fun p => p.1 = k)).map (·.2)

theorem queryStorage_eq (st : Store) (ts : TS) (w : What) (groupBy : List Nat) (range : Int) :
    queryStorage st ts w groupBy range =
      ((dedupKeys ((List.range st.tags.length).map (fun i => keyOf false groupBy (st.tags.getD i [])))).map (fun k =>
        ({ tags := k, vals := (List.range ts.times.length).map (groupPoint st ts w range (membersOf st groupBy k)) } : Series))).filter
        (fun s => (present s.vals).length ≠ 0) := by
  unfold queryStorage membersOf groupPoint
  simp only [List.map_map]
  rfl

theorem membersOf_nodup (st : Store) (groupBy : List Nat) (k : Tags) : (membersOf st groupBy k).Nodup := by
  unfold membersOf
  rw [List.filter_map, List.map_map]
  exact (List.nodup_range.filter _).map (fun _ _ h => h)

theorem group_lift (st : Store) (members : List Nat) (hnd : members.Nodup) (lo hi : Int) (f : Row → Rat) (agg : List Val → Val)
    (hrow : ∀ per : List (Option Row), (pooled per).map f = agg (per.map (Option.map f))) :
    (mergeRows (bucketRows st members lo hi)).map f =
      agg (members.map (fun m => (mergeRows (bucketRows st [m] lo hi)).map f)) := by
  rw [bucket_group_eq_pooled st members hnd lo hi]
  have := hrow (members.map (fun m => mergeRows (bucketRows st [m] lo hi)))
  unfold pooled at this
  rw [this, List.map_map]
  rfl

/-- non-vacuity: two series in one group, one of them without an event in the bucket of index 1 -/
example : groupPoint exStore exTS .sumsec 0 [0, 1] 1 = some 12 ∧ groupPoint exStore exTS .sumsec 0 [0, 1] 2 = some 4 ∧
    groupPoint exStore exTS .sumsec 0 [1] 2 = none := by decide +kernel

/-- the tag indices a pushed-down aggregation groups the storage query by -/
def pushGroupBy (without : Bool) (labels : List Nat) : List Nat :=
  if without then allTags.filter (fun t => !labels.contains t) else labels

/-- rule #0, whole expression: `op by/without (ls) (m)` with op ∈ sum/count/min/max/avg IS the storage query with the rule's
    `what`, grouped by the aggregation's labels (no side condition). -/
theorem rule0_expression (st : Store) (ts : TS) (op : AggOp) (w : What) (wo : Bool) (ls : List Nat) (hw : aggWhat op = some w) :
    evalChain Cfg.fixed st ts none [.agg op wo ls] = queryStorage st ts w (pushGroupBy wo ls) 0 := by
  have h : evalReductionRules none (astList 0 [.agg op wo ls]) ts.lodStep =
      some { rule := 0, what := some w, grouped := true, groupBy := ls, without := wo, upto := 0 } := by
    rw [astList, astOf, hw]
    rfl
  rw [evalChain]
  simp only [Cfg.fixed, if_true, h]
  rfl

/-- rule #1, whole expression: `f_over_time(m[r])` is the storage query `what = f, Range = r` over all tags exactly when
    r ≤ step (= step for stddev/stdvar); otherwise the engine evaluates the window over the default (avg) series. -/
theorem rule1_expression (st : Store) (ts : TS) (f : OtFn) (w : What) (ne : Bool) (r : Int) (hw : otWhat f = (some w, ne)) :
    evalChain Cfg.fixed st ts none [.ot f r false] =
      if r > ts.lodStep ∨ (ne = true ∧ r ≠ ts.lodStep)
      then (queryStorage st ts .avg allTags 0).map (fun s => { s with vals := overTime ts.times r ts.lodStep f s.vals })
      else queryStorage st ts w allTags r := by
  unfold evalChain
  simp only [astList, astOf, hw, List.append_nil, Cfg.fixed, if_true, Bool.false_eq_true, if_false]
  rw [rule1_closed_form w ne r ts.lodStep]
  by_cases hc : r > ts.lodStep ∨ (ne = true ∧ r ≠ ts.lodStep)
  · rw [if_pos hc, if_pos hc]
    rfl
  · rw [if_neg hc, if_neg hc]
    rfl

/-- rule #2, whole expression: `op by/without (ls) (f_over_time(m[r]))` is ONE storage query (the blended `what`, the
    aggregation's grouping, Range = r) when r ≤ step (= step for stddev/stdvar) and the two `what`s are compatible. -/
theorem rule2_expression (st : Store) (ts : TS) (f : OtFn) (op : AggOp) (w1 w2 w : What) (ne wo : Bool) (ls : List Nat) (r : Int)
    (hw1 : otWhat f = (some w1, ne)) (hw2 : aggWhat op = some w2) (hcomp : reduceWhat (some w1) w2 = (some w, true))
    (hr : r ≤ ts.lodStep) (hne : ne = true → r = ts.lodStep) :
    evalChain Cfg.fixed st ts none [.ot f r false, .agg op wo ls] = queryStorage st ts w (pushGroupBy wo ls) r := by
  have hc := needEq_holds ne r ts.lodStep hne
  have h : evalReductionRules none (astList 0 [.ot f r false, .agg op wo ls]) ts.lodStep =
      some { rule := 2, what := some w, step := r, grouped := true, groupBy := ls, without := wo, upto := 1 } := by
    simp only [astList, astOf, hw1, hw2, List.append_nil, List.cons_append, List.nil_append, Bool.false_eq_true, if_false]
    rw [evalReductionRules_cons, level0_matrix, if_neg (not_lt.mpr hr), rulesLoop_cons, level1_call, hc,
      if_neg Bool.false_ne_true, rulesLoop_cons, level2_agg w1 w2 w wo ls r _ _ _ _ hcomp]
    rfl
  rw [evalChain]
  simp only [Cfg.fixed, if_true, h]
  rfl

/-- rule #3, whole expression: `f_over_time((op by/without (ls) (m))[r:])` likewise. -/
theorem rule3_expression (st : Store) (ts : TS) (f : OtFn) (op : AggOp) (w1 w2 w : What) (ne wo : Bool) (ls : List Nat) (r : Int)
    (hw1 : otWhat f = (some w1, ne)) (hw2 : aggWhat op = some w2) (hcomp : reduceWhat (some w2) w1 = (some w, true))
    (hr : r ≤ ts.lodStep) (hne : ne = true → r = ts.lodStep) :
    evalChain Cfg.fixed st ts none [.agg op wo ls, .ot f r true] = queryStorage st ts w (pushGroupBy wo ls) r := by
  have hc := needEq_holds ne r ts.lodStep hne
  have h : evalReductionRules none (astList 0 [.agg op wo ls, .ot f r true]) ts.lodStep =
      some { rule := 3, what := some w, step := r, grouped := true, groupBy := ls, without := wo, upto := 1 } := by
    simp only [astList, astOf, hw1, hw2, List.append_nil, List.cons_append, List.nil_append, if_true]
    rw [evalReductionRules_cons, level0_agg, rulesLoop_cons, level1_subquery, if_neg (not_lt.mpr hr), rulesLoop_cons,
      level2_call w1 w2 w ne wo ls r _ _ _ _ hcomp, hc, if_neg Bool.false_ne_true]
    rfl
  rw [evalChain]
  simp only [Cfg.fixed, if_true, h]
  rfl

example : reduceWhat (some .sum) .sumsec = (some .sum, true) ∧ reduceWhat (some .sumsec) .sum = (some .sum, true) ∧
    reduceWhat (some .min) .min = (some .min, true) ∧ (reduceWhat (some .sum) .min).2 = false := by decide

/-- **push-down of sum / count / min / max over events** (∀ storage, ∀ group of series, ∀ time index, ∀ range/steps): what
    the pre-aggregating storage returns for the whole group equals the engine's aggregate over what it returns for every
    series of the group separately (missing where the series has no row in the bucket). -/
theorem groupPoint_exactPush (st : Store) (ts : TS) (w : What) (agg : List Val → Val) (hw : exactPush w = some agg)
    (range : Int) (members : List Nat) (hnd : members.Nodup) (i : Nat) :
    groupPoint st ts w range members i = agg (members.map (fun m => groupPoint st ts w range [m] i)) :=
  group_lift st members hnd _ _ _ agg (pooled_exactPush w agg hw _ _)

/-- **a pushed-down storage query is the engine's aggregation of the per-series storage values** (whole query: every group,
    every time index; ∀ storage, time scale, grouping, Range): for what ∈ sum/sumsec/count/countsec/min/max the answer of
    `QuerySeries(what, groupBy, Range)` has, for every grouping key, the points agg_what(values of the group's stored
    series, each asked for separately with the same what and Range).  The aggregation is written out; that it is the
    model's `aggregate` of the ungrouped query is checked on `exStore` only (`repo_alias_violates`). -/
theorem pushed_query_is_aggregate (st : Store) (ts : TS) (w : What) (agg : List Val → Val) (hw : exactPush w = some agg)
    (groupBy : List Nat) (range : Int) :
    queryStorage st ts w groupBy range =
      ((dedupKeys ((List.range st.tags.length).map (fun i => keyOf false groupBy (st.tags.getD i [])))).map (fun k =>
        ({ tags := k, vals := (List.range ts.times.length).map (fun i =>
            agg ((membersOf st groupBy k).map (fun m => groupPoint st ts w range [m] i))) } : Series))).filter
        (fun s => (present s.vals).length ≠ 0) := by
  rw [queryStorage_eq]
  congr 1
  apply List.map_congr_left
  intro k _
  congr 1
  apply List.map_congr_left
  intro i _
  exact groupPoint_exactPush st ts w agg hw range _ (membersOf_nodup st groupBy k) i

/-- **reduction soundness, whole expressions** — the four rule shapes with `sum`: under exactly the rules' side conditions the
    evaluator's result IS the grouped aggregate of per-series storage values.  (min, max, count with countsec/count follow the
    same way from `rule0..3_expression` and `pushed_query_is_aggregate`; they are not stated.) -/
theorem reduction_sound_sum (st : Store) (ts : TS) (wo : Bool) (ls : List Nat) (r : Int) (hr : r ≤ ts.lodStep) :
    let grouped (w : What) (G : List Nat) (rng : Int) : List Series :=
      ((dedupKeys ((List.range st.tags.length).map (fun i => keyOf false G (st.tags.getD i [])))).map (fun k =>
        ({ tags := k, vals := (List.range ts.times.length).map (fun i =>
            aggSum ((membersOf st G k).map (fun m => groupPoint st ts w rng [m] i))) } : Series))).filter
        (fun s => (present s.vals).length ≠ 0)
    -- #0  sum by/without (ls) (m)
    evalChain Cfg.fixed st ts none [.agg .sum wo ls] = grouped .sumsec (pushGroupBy wo ls) 0 ∧
    -- #1  sum_over_time(m[r]),  r ≤ step
    evalChain Cfg.fixed st ts none [.ot .sum r false] = grouped .sum allTags r ∧
    -- #2  sum by/without (ls) (sum_over_time(m[r]))
    evalChain Cfg.fixed st ts none [.ot .sum r false, .agg .sum wo ls] = grouped .sum (pushGroupBy wo ls) r ∧
    -- #3  sum_over_time((sum by/without (ls) (m))[r:])
    evalChain Cfg.fixed st ts none [.agg .sum wo ls, .ot .sum r true] = grouped .sum (pushGroupBy wo ls) r := by
  intro grouped
  have hr' : ¬ (r > ts.lodStep ∨ (false = true ∧ r ≠ ts.lodStep)) := by
    intro h; rcases h with h | h
    · exact absurd h (not_lt.mpr hr)
    · exact absurd h.1 (by decide)
  refine ⟨?_, ?_, ?_, ?_⟩
  · rw [rule0_expression st ts .sum .sumsec wo ls rfl]
    exact pushed_query_is_aggregate st ts .sumsec aggSum rfl _ _
  · rw [rule1_expression st ts .sum .sum false r rfl, if_neg hr']
    exact pushed_query_is_aggregate st ts .sum aggSum rfl _ _
  · rw [rule2_expression st ts .sum .sum .sum .sumsec .sum false wo ls r rfl rfl (by decide) hr (by intro h; cases h)]
    exact pushed_query_is_aggregate st ts .sum aggSum rfl _ _
  · rw [rule3_expression st ts .sum .sum .sum .sumsec .sum false wo ls r rfl rfl (by decide) hr (by intro h; cases h)]
    exact pushed_query_is_aggregate st ts .sum aggSum rfl _ _

/-- non-vacuity / the side condition matters: with r > step rule #1 does not fire and the engine evaluates the window -/
example : evalChain Cfg.fixed exStore exTS none [.ot .sum 1 false] = queryStorage exStore exTS .sum allTags 1 ∧
    evalChain Cfg.fixed exStore exTS none [.ot .sum 2 false] ≠ queryStorage exStore exTS .sum allTags 2 := by
  decide +kernel

/-- **the excluded case (known finding reduce-over-time-stdvar, reduce-over-time-stddev), with witness**: for two different events in one
    bucket the pushed-down `what = stdvar` is the sample variance, twice the population variance funcStdVarOverTime computes
    over the same two points — stdvar/stddev are NOT in `exactPush`. -/
theorem stdvar_pushdown_is_not_population (a b : Rat) (hab : a ≠ b) (q l : Int) :
    rowValue .stdvar q l (Row.merge (Row.ofEvent a) (Row.ofEvent b)) = 2 * varOf [a, b] ∧ varOf [a, b] ≠ 0 := by
  have hsq : 0 < (a - b) * (a - b) := mul_self_pos.mpr (sub_ne_zero.mpr hab)
  have hv : varOf [a, b] = (a - b) * (a - b) / 4 := by
    simp only [varOf, ratSum, List.foldl, List.map, List.length, Nat.zero_add, Nat.reduceAdd, Nat.cast_ofNat]
    ring
  have hx : (a * a + b * b - (a + b) * (a + b) / (1 + 1)) / (1 + 1 - 1) = (a - b) * (a - b) / 2 := by ring
  refine ⟨?_, hv ▸ div_ne_zero hsq.ne' four_ne_zero⟩
  show (if (1 : Rat) + 1 < 2 then 0 else if (a * a + b * b - (a + b) * (a + b) / (1 + 1)) / (1 + 1 - 1) < 0 then 0
      else (a * a + b * b - (a + b) * (a + b) / (1 + 1)) / (1 + 1 - 1)) = _
  rw [if_neg (by norm_num), hx, if_neg (not_lt.mpr (div_nonneg hsq.le zero_le_two)), hv]
  ring
example : exactPush .stdvar = none ∧ exactPush .stddev = none ∧ exactPush .avg = none := by decide

theorem contains_of_mem_iff (l1 l2 : List Nat) (h : ∀ x, x ∈ l1 ↔ x ∈ l2) (x : Nat) : l1.contains x = l2.contains x := by
  rw [Bool.eq_iff_iff, List.contains_iff_mem, List.contains_iff_mem]
  exact h x

/-- the grouping key depends on the labels only through their set -/
theorem groupKey_perm_labels (without : Bool) (l1 l2 : List Nat) (h : ∀ x, x ∈ l1 ↔ x ∈ l2) (tags : Tags) :
    keyOf without l1 tags = keyOf without l2 tags := by
  unfold keyOf
  apply List.filter_congr
  intro t _
  rw [contains_of_mem_iff l1 l2 h]

/-- **groupKey_dedup** — naming a tag twice in by/without (repeated, or by two of its names: both resolve to the same
    index) changes nothing: the grouping key of every series is the key under the de-duplicated label list. -/
theorem groupKey_dedup (without : Bool) (labels : List Nat) (tags : Tags) :
    keyOf without labels tags = keyOf without labels.eraseDups tags :=
  groupKey_perm_labels without labels labels.eraseDups (fun _ => List.mem_eraseDups.symm) tags

/-- the engine-side aggregation and the pushed-down storage query depend on the grouping labels only through their set -/
theorem aggregate_dedup (n : Nat) (f : List Val → Val) (without : Bool) (labels : List Nat) (ss : List Series) :
    aggregate n f without labels ss = aggregate n f without labels.eraseDups ss := by
  unfold aggregate
  simp only [← groupKey_dedup]

theorem queryStorage_dedup (st : Store) (ts : TS) (w : What) (groupBy : List Nat) (range : Int) :
    queryStorage st ts w groupBy range = queryStorage st ts w groupBy.eraseDups range := by
  unfold queryStorage
  simp only [← groupKey_dedup]

theorem pushGroupBy_dedup (st : Store) (ts : TS) (w : What) (wo : Bool) (ls : List Nat) (range : Int) :
    queryStorage st ts w (pushGroupBy wo ls) range = queryStorage st ts w (pushGroupBy wo ls.eraseDups) range := by
  unfold pushGroupBy
  cases wo with
  | false => simp only [Bool.false_eq_true, if_false]; exact queryStorage_dedup st ts w ls range
  | true =>
    simp only [if_true]
    rw [List.filter_congr (fun t _ => congrArg (!·) (contains_of_mem_iff ls ls.eraseDups (fun _ => List.mem_eraseDups.symm) t))]

/-- hence `sum by (a, a) (m)`, `sum by (a, key1) (m)` and `sum by (a) (m)` are the same storage query (rule #0) -/
theorem rule0_dedup (st : Store) (ts : TS) (op : AggOp) (w : What) (wo : Bool) (ls : List Nat) (hw : aggWhat op = some w) :
    evalChain Cfg.fixed st ts none [.agg op wo ls] = evalChain Cfg.fixed st ts none [.agg op wo ls.eraseDups] := by
  rw [rule0_expression st ts op w wo ls hw, rule0_expression st ts op w wo ls.eraseDups hw]
  exact pushGroupBy_dedup st ts w wo ls 0

example : keyOf false [2, 1, 2, 1] [(1, 7), (2, 8), (3, 9)] = [(1, 7), (2, 8)] ∧ [2, 1, 2, 1].eraseDups = [2, 1] ∧
    exec Cfg.fixed exStore exTS none [.agg .sum false [2, 2]] = exec Cfg.fixed exStore exTS none [.agg .sum false [2]] := by
  decide +kernel

/-- `sum by (key2) (m)`: pushed down (rule #0) the storage groups by tag 2 and returns {2=1} and {2=2}; evaluated by the
    engine on the pinned tree (`sum by (key2) (m + 0)`) the same two groups come back WITHOUT the label, two series with the
    same empty label set — pushing the aggregation down does not yield the engine's result.  `sum without (key2)` pinned:
    tag 2 is not excluded.  With the fix (fixes/C27-group-alias.diff: labels = resolved indices) both evaluations agree. -/
theorem repo_alias_violates :
    (queryStorage exStore exTS .sumsec [2] 0).map (·.tags) = [[(2, 1)], [(2, 2)]] ∧
    (aggregateRepoAlias 3 aggSum false [] [2] (queryStorage exStore exTS .sumsec allTags 0)).map (·.tags) = [[], []] ∧
    (aggregate 3 aggSum false [2] (queryStorage exStore exTS .sumsec allTags 0)) = queryStorage exStore exTS .sumsec [2] 0 ∧
    (aggregateRepoAlias 3 aggSum true [] [2] (queryStorage exStore exTS .sumsec allTags 0)).map (·.tags)
      = [[(1, 1), (2, 1), (3, 1)], [(1, 1), (2, 2), (3, 1)]] ∧
    (aggregate 3 aggSum true [2] (queryStorage exStore exTS .sumsec allTags 0)).map (·.tags) = [[(1, 1), (3, 1)]] := by
  decide +kernel

/-- a per-second row: no event, or exactly one event -/
def isEv (o : Option Row) : Prop := o = none ∨ ∃ v, o = some (Row.ofEvent v)

/-- the one-second value the engine sees for `m` (default what = avg) -/
def secVal (o : Option Row) : Val := o.map (rowValue .avg 1 1)

theorem secVal_ofEvent (v : Rat) : secVal (some (Row.ofEvent v)) = some v := by
  simp [secVal, rowValue, Row.ofEvent]

theorem map_value_eq_secVal (per : List (Option Row)) (h : ∀ o ∈ per, isEv o) (f : Row → Rat) (hf : ∀ v, f (Row.ofEvent v) = v) :
    per.map (Option.map f) = per.map secVal := by
  apply List.map_congr_left
  intro o ho
  rcases h o ho with rfl | ⟨v, rfl⟩
  · rfl
  · rw [secVal_ofEvent]; simp [hf]

theorem present_const_one (per : List (Option Row)) (h : ∀ o ∈ per, isEv o) (g : Row → Rat) (hg : ∀ v, g (Row.ofEvent v) = 1) :
    present (per.map (Option.map g)) = (present (per.map secVal)).map (fun _ => (1 : Rat)) := by
  rw [present_map_optmap, show per.map secVal = per.map (Option.map (rowValue .avg 1 1)) from rfl, present_map_optmap, List.map_map]
  apply List.map_congr_left
  intro row hrow
  have hmem : some row ∈ per := by simpa using hrow
  rcases h _ hmem with h0 | ⟨v, hv⟩
  · cases h0
  · cases hv
    exact hg v

theorem ratSum_const_one (l : List Rat) : ratSum (l.map (fun _ => (1 : Rat))) = (l.length : Rat) := by
  induction l with
  | nil => simp [ratSum_nil]
  | cons x xs ih =>
    simp only [List.map_cons, ratSum_cons, ih, List.length_cons]
    push_cast
    ring

/-- **bucket pre-aggregate = window function of the per-second points** (algebraic core, ∀ per-second rows with at most one
    event each, ∀ range r ≠ 0 = bucket width): sum, min, max give the engine's aggregate of the one-second values; count
    gives their number — missing where the bucket has no event. -/
theorem bucket_value_is_window_function (per : List (Option Row)) (h : ∀ o ∈ per, isEv o) (r : Int) (hr : r ≠ 0) :
    (pooled per).map (rowValue .sum r r) = otApply .sum (per.map secVal) ∧
    (pooled per).map (rowValue .min r r) = otApply .min (per.map secVal) ∧
    (pooled per).map (rowValue .max r r) = otApply .max (per.map secVal) ∧
    (pooled per).map (rowValue .count r r) =
      (if (present (per.map secVal)).length = 0 then none else otApply .count (per.map secVal)) := by
  have hr' : (r : Rat) ≠ 0 := by exact_mod_cast hr
  refine ⟨?_, ?_, ?_, ?_⟩
  · rw [otApply_sum, pooled_exactPush .sum aggSum rfl r r, map_value_eq_secVal per h _ (by intro v; simp [rowValue, Row.ofEvent, hr'])]
  · rw [pooled_exactPush .min aggMin rfl r r, map_value_eq_secVal per h _ (by intro v; simp [rowValue, Row.ofEvent])]
    rfl
  · rw [pooled_exactPush .max aggMax rfl r r, map_value_eq_secVal per h _ (by intro v; simp [rowValue, Row.ofEvent])]
    rfl
  · rw [pooled_exactPush .count aggSum rfl r r, aggSum_def, present_const_one per h _ (fun v => by simp [rowValue, Row.ofEvent, hr']), ratSum_const_one]
    simp only [otApply]
    by_cases h0 : present (per.map secVal) = [] <;> simp [h0]

theorem slice_map_range (N : Nat) (g : Nat → Val) (l j : Nat) (hj : j < N) :
    slice ((List.range N).map g) l j = (List.range (j + 1 - l)).map (fun d => g (l + d)) := by
  unfold slice
  apply List.ext_getElem?
  intro d
  rw [List.getElem?_take, List.getElem?_drop, List.getElem?_map, List.getElem?_map]
  by_cases hd : d < j + 1 - l
  · rw [if_pos hd, List.getElem?_range (by omega), List.getElem?_range hd]; rfl
  · rw [if_neg hd, List.getElem?_eq_none (by simp; omega)]; rfl

theorem mergeRows_isEv (evs : List Event) (h : (evs.map (fun e => Row.ofEvent e.val)).length ≤ 1) :
    isEv (mergeRows (evs.map (fun e => Row.ofEvent e.val))) := by
  cases evs with
  | nil => left; rfl
  | cons e es =>
    cases es with
    | nil => right; exact ⟨e.val, rfl⟩
    | cons e' es' => simp at h

/-- avg: the pre-aggregate's sum/count is the average of the one-second values (`reduce_avg_sound` on rows of one event) -/
theorem bucket_avg_is_window_avg (per : List (Option Row)) (h : ∀ o ∈ per, isEv o) (r : Int) :
    (pooled per).map (rowValue .avg r r) = otApply .avg (per.map secVal) := by
  have hs : per.map (Option.map (rowValue .sumsec 1 1)) = per.map secVal :=
    map_value_eq_secVal per h _ (fun v => by simp [rowValue, Row.ofEvent])
  have hc := present_const_one per h (rowValue .countsec 1 1) (fun v => by simp [rowValue, Row.ofEvent])
  have := reduce_avg_sound per 1
  rw [hs, aggSum_def, aggSum_def, hc, ratSum_const_one] at this
  -- `rowValue .avg` does not look at the steps: r r and 1 1 give the same function
  refine this.trans ?_
  show _ = aggAvg (per.map secVal)
  rw [aggAvg_def]
  cases present (per.map secVal) <;> simp

/-- on the one-second grid every over-time function evaluates, at the last second j of the bucket [T, T+r), to its
    definition on the r values of the bucket's seconds; `val x` = the value at second x -/
theorem overTime_seconds (t1 : List Int) (τ0 T : Int) (r j : Nat) (val : Int → Val) (f : OtFn)
    (hg : uniform t1 τ0 1) (hr : 1 ≤ r) (hrj : r ≤ j) (hj : j < t1.length) (hT : τ0 + (j : Int) = T + (r : Int) - 1) :
    (overTime t1 r 1 f ((List.range t1.length).map (fun (i : Nat) => val (τ0 + (i : Int))))).getD j none =
      if (present ((List.range r).map (fun (d : Nat) => val (T + (d : Int))))).length = 0 then otNil f
      else otApply f ((List.range r).map (fun (d : Nat) => val (T + (d : Int)))) := by
  have hk : kSpec (otStrict f) (r : Int) 1 r := by
    refine ⟨hr, Int.one_pos, ?_⟩
    cases otStrict f <;> simp
  have hs : slice ((List.range t1.length).map (fun (i : Nat) => val (τ0 + (i : Int)))) (j + 1 - r) j =
      (List.range r).map (fun (d : Nat) => val (T + (d : Int))) := by
    rw [slice_map_range _ _ _ _ hj, (by omega : j + 1 - (j + 1 - r) = r)]
    apply List.map_congr_left
    intro d _
    congr 1
    omega
  rw [over_time_is_definition t1 τ0 1 r r f _ hg hk (by rw [List.length_map, List.length_range]) j hj, if_neg (by omega), hs]

/-- the common core of the two-grid arguments, for any set of stored series and any per-second value `g`: the bucket
    [T, T+r) is the pool of its r one-second buckets, and on the one-second grid every over-time function evaluates at the
    bucket's last second to its definition on the r per-second values -/
theorem two_grid_core (st : Store) (members : List Nat) (t1 : List Int) (τ0 T : Int) (r j : Nat) (g : Row → Rat)
    (hg : uniform t1 τ0 1) (hr : 1 ≤ r) (hrj : r ≤ j) (hj : j < t1.length) (hT : τ0 + (j : Int) = T + (r : Int) - 1) :
    let u1 : List Val := (List.range t1.length).map (fun (i : Nat) => (mergeRows (bucketRows st members (τ0 + (i : Int)) (τ0 + (i : Int) + 1))).map g)
    let per : List (Option Row) := (List.range r).map (fun (d : Nat) => mergeRows (bucketRows st members (T + (d : Int)) (T + (d : Int) + 1)))
    mergeRows (bucketRows st members T (T + (r : Int))) = pooled per ∧
    ∀ f : OtFn, (overTime t1 r 1 f u1).getD j none =
      if (present (per.map (Option.map g))).length = 0 then otNil f else otApply f (per.map (Option.map g)) := by
  intro u1 per
  refine ⟨bucket_by_seconds st members T r, fun f => ?_⟩
  rw [List.map_map]
  exact overTime_seconds t1 τ0 T r j (fun x => (mergeRows (bucketRows st members x (x + 1))).map g) f hg hr hrj hj hT

/-- on a window without a present point every over-time function but stdvar / stddev returns its nil value anyway -/
theorem otNil_of_empty (f : OtFn) (hf : (otWhat f).2 = false) (s : List Val) :
    (if (present s).length = 0 then otNil f else otApply f s) = otApply f s := by
  split
  · have hnil := List.eq_nil_of_length_eq_zero ‹_›
    cases f
    case min => exact ((aggMin_def s).1 hnil).symm
    case max => exact ((aggMax_def s).1 hnil).symm
    case stdvar => cases hf
    case stddev => cases hf
    all_goals simp [otApply, otNil, aggAvg, lastPresent, hnil]
  · rfl

/-- one stored series with at most one event per second: its bucket [T, T+r) is the pool of r per-second rows, each empty or
    one event, and the over-time functions evaluate at the bucket's last second on the one-second values of those rows -/
theorem series_two_grid (st : Store) (m : Nat) (t1 : List Int) (τ0 T : Int) (r j : Nat) (hg : uniform t1 τ0 1)
    (hone : ∀ i : Nat, i < t1.length → (bucketRows st [m] (τ0 + (i : Int)) (τ0 + (i : Int) + 1)).length ≤ 1)
    (hr : 1 ≤ r) (hrj : r ≤ j) (hj : j < t1.length) (hT : τ0 + (j : Int) = T + (r : Int) - 1) :
    ∃ per : List (Option Row), (∀ o ∈ per, isEv o) ∧ mergeRows (bucketRows st [m] T (T + (r : Int))) = pooled per ∧
      ∀ f, (otWhat f).2 = false →
        (overTime t1 r 1 f ((List.range t1.length).map (fun (i : Nat) =>
          secVal (mergeRows (bucketRows st [m] (τ0 + (i : Int)) (τ0 + (i : Int) + 1)))))).getD j none = otApply f (per.map secVal) := by
  obtain ⟨hb, hdef⟩ := two_grid_core st [m] t1 τ0 T r j (rowValue .avg 1 1) hg hr hrj hj hT
  refine ⟨_, fun o ho => ?_, hb, fun f hf => (hdef f).trans (otNil_of_empty f hf _)⟩
  obtain ⟨d, hd, rfl⟩ := List.mem_map.mp ho
  have hd' := List.mem_range.mp hd
  rw [(by omega : T + (d : Int) = τ0 + ((j + 1 - r + d : Nat) : Int))]
  exact mergeRows_isEv _ (hone _ (by omega))

/-- **the over-time push-down, rule #1, equals the engine's window evaluation over the one-second points** (two grids):
    for a stored series `m` with at most one event in every second of the grid, the coarse bucket [T, T+r) (Range r = bucket width, i.e.
    the case r = step of the rule's side condition r ≤ step) and the one-second grid t1 (τ0, τ0+1, …) on which `v1` is what the storage returns for
    `m` itself (default what avg, one-second buckets):  the storage's pre-aggregate of the bucket with what = sum / min /
    max equals `f_over_time(v1[r s])` at the last second T+r−1 of the bucket, and with what = count it equals
    count_over_time there, except that the storage has no row (missing) where the engine reports 0. -/
theorem overtime_pushdown_two_grids (st : Store) (m : Nat) (t1 : List Int) (τ0 T : Int) (r j : Nat)
    (hg : uniform t1 τ0 1)
    (hone : ∀ i : Nat, i < t1.length → (bucketRows st [m] (τ0 + (i : Int)) (τ0 + (i : Int) + 1)).length ≤ 1)
    (hr : 1 ≤ r) (hrj : r ≤ j) (hj : j < t1.length) (hT : τ0 + (j : Int) = T + (r : Int) - 1) :
    let v1 : List Val := (List.range t1.length).map (fun (i : Nat) => secVal (mergeRows (bucketRows st [m] (τ0 + (i : Int)) (τ0 + (i : Int) + 1))))
    let bucket := mergeRows (bucketRows st [m] T (T + (r : Int)))
    (overTime t1 r 1 .sum v1).getD j none = bucket.map (rowValue .sum r r) ∧
    (overTime t1 r 1 .min v1).getD j none = bucket.map (rowValue .min r r) ∧
    (overTime t1 r 1 .max v1).getD j none = bucket.map (rowValue .max r r) ∧
    (overTime t1 r 1 .count v1).getD j none = (match bucket.map (rowValue .count r r) with | some x => some x | none => some 0) := by
  intro v1 bucket
  obtain ⟨per, hper, hb, happ⟩ := series_two_grid st m t1 τ0 T r j hg hone hr hrj hj hT
  obtain ⟨hsum, hmin, hmax, hcnt⟩ := bucket_value_is_window_function per hper (r : Int) (by omega)
  have hbucket : bucket = pooled per := hb
  rw [hbucket, hsum, hmin, hmax, hcnt]
  have hc : ∀ s : List Val, otApply .count s =
      (match (if (present s).length = 0 then none else otApply .count s) with | some x => some x | none => some 0) := by
    intro s
    by_cases h0 : (present s).length = 0 <;> simp [otApply, h0]
  exact ⟨happ .sum rfl, happ .min rfl, happ .max rfl, (happ .count rfl).trans (hc _)⟩

/-- **rule #1, two grids, avg**: with at most one event in every second of the grid, avg_over_time over the
    one-second points of the bucket equals the storage's pre-aggregate with what = avg (pooled sum / pooled count) -/
theorem overtime_pushdown_two_grids_avg (st : Store) (m : Nat) (t1 : List Int) (τ0 T : Int) (r j : Nat)
    (hg : uniform t1 τ0 1)
    (hone : ∀ i : Nat, i < t1.length → (bucketRows st [m] (τ0 + (i : Int)) (τ0 + (i : Int) + 1)).length ≤ 1)
    (hr : 1 ≤ r) (hrj : r ≤ j) (hj : j < t1.length) (hT : τ0 + (j : Int) = T + (r : Int) - 1) :
    let v1 : List Val := (List.range t1.length).map (fun (i : Nat) => secVal (mergeRows (bucketRows st [m] (τ0 + (i : Int)) (τ0 + (i : Int) + 1))))
    (overTime t1 r 1 .avg v1).getD j none = (mergeRows (bucketRows st [m] T (T + (r : Int)))).map (rowValue .avg r r) := by
  intro v1
  obtain ⟨per, hper, hb, happ⟩ := series_two_grid st m t1 τ0 T r j hg hone hr hrj hj hT
  rw [hb, bucket_avg_is_window_avg per hper (r : Int)]
  exact happ .avg rfl

/-- non-vacuity: series 0 of `exStore` (events 2 at second 100 and 4 at second 101, one per second), the bucket [100, 102)
    of width 2 and the one-second grid 99, 100, 101 -/
example : (∀ i : Nat, i < 3 → (bucketRows exStore [0] (99 + (i : Int)) (99 + (i : Int) + 1)).length ≤ 1) ∧ uniform [99, 100, 101] 99 1 := by
  unfold uniform
  decide +kernel
example :
    let v1 : List Val := (List.range 3).map (fun (i : Nat) => secVal (mergeRows (bucketRows exStore [0] (99 + (i : Int)) (99 + (i : Int) + 1))))
    v1 = [none, some 2, some 4] ∧ (overTime [99, 100, 101] 2 1 .sum v1).getD 2 none = some 6 ∧
    (mergeRows (bucketRows exStore [0] 100 102)).map (rowValue .sum 2 2) = some 6 ∧
    (mergeRows (bucketRows exStore [0] 100 102)).map (rowValue .count 2 2) = some 2 := by decide +kernel

/-- the `what` of the one-second query whose values the pushed-down `what` pools: a bucket's `sum` is the sum of its seconds' `sumsec` -/
def secWhat : What → What
  | .sum => .sumsec
  | w => w

/-- a pushed-down over-time point of a group equals the over-time function of the group's one-second aggregates, whenever
    the row value `g` is pooled by `agg` and `agg` is what `f` computes on a window -/
theorem two_grid_pooled (st : Store) (members : List Nat) (t1 : List Int) (τ0 T : Int) (r j : Nat) (g : Row → Rat) (f : OtFn)
    (agg : List Val → Val) (hf : (otWhat f).2 = false) (hagg : ∀ s, otApply f s = agg s)
    (hrow : ∀ per : List (Option Row), (pooled per).map g = agg (per.map (Option.map g)))
    (hgrid : uniform t1 τ0 1) (hr : 1 ≤ r) (hrj : r ≤ j) (hj : j < t1.length) (hT : τ0 + (j : Int) = T + (r : Int) - 1) :
    (overTime t1 r 1 f ((List.range t1.length).map (fun (i : Nat) =>
      (mergeRows (bucketRows st members (τ0 + (i : Int)) (τ0 + (i : Int) + 1))).map g))).getD j none =
      (mergeRows (bucketRows st members T (T + (r : Int)))).map g := by
  rw [(two_grid_core st members t1 τ0 T r j g hgrid hr hrj hj hT).2 f, otNil_of_empty f hf, bucket_by_seconds st members T r, hagg]
  exact (hrow _).symm

/-- **rule #3, two grids** — `f_over_time((agg by (G) (m))[r:])` with agg∘f ∈ sum∘sum, min∘min, max∘max is pushed down
    as ONE storage query (rule3_expression: what = f, grouped by G, Range r).  Its point for a group of stored series and
    the bucket [T, T+r) equals the engine's evaluation on the one-second grid: f_over_time over the window of the group's
    one-second aggregates (`u1` = what the storage returns for `agg by (G) (m)` at one second, rule #0: what = sumsec / min /
    max), at the bucket's last second.  No restriction on the number of events per second. -/
theorem rule3_two_grids (st : Store) (members : List Nat) (t1 : List Int) (τ0 T : Int) (r j : Nat)
    (hg : uniform t1 τ0 1) (hr : 1 ≤ r) (hrj : r ≤ j) (hj : j < t1.length) (hT : τ0 + (j : Int) = T + (r : Int) - 1) :
    let u1 (w : What) : List Val := (List.range t1.length).map (fun (i : Nat) =>
      (mergeRows (bucketRows st members (τ0 + (i : Int)) (τ0 + (i : Int) + 1))).map (rowValue (secWhat w) 1 1))
    let bucket := mergeRows (bucketRows st members T (T + (r : Int)))
    (overTime t1 r 1 .sum (u1 .sum)).getD j none = bucket.map (rowValue .sum r r) ∧
    (overTime t1 r 1 .min (u1 .min)).getD j none = bucket.map (rowValue .min r r) ∧
    (overTime t1 r 1 .max (u1 .max)).getD j none = bucket.map (rowValue .max r r) := by
  intro u1 bucket
  have hr0 : (r : Rat) ≠ 0 := by exact_mod_cast (by omega : r ≠ 0)
  -- the bucket's sum with Range = bucket width is the sum of its one-second `sumsec` values
  have hsum : rowValue .sum (r : Int) (r : Int) = rowValue .sumsec 1 1 := by
    funext row
    simp [rowValue, hr0]
  rw [hsum]
  exact ⟨two_grid_pooled st members t1 τ0 T r j _ .sum aggSum rfl otApply_sum (pooled_exactPush .sumsec aggSum rfl 1 1) hg hr hrj hj hT,
    two_grid_pooled st members t1 τ0 T r j _ .min aggMin rfl (fun _ => rfl) (pooled_exactPush .min aggMin rfl 1 1) hg hr hrj hj hT,
    two_grid_pooled st members t1 τ0 T r j _ .max aggMax rfl (fun _ => rfl) (pooled_exactPush .max aggMax rfl 1 1) hg hr hrj hj hT⟩

/-- **rule #2, two grids** — `agg by (G) (f_over_time(m[r]))` with agg∘f ∈ sum∘sum, min∘min, max∘max is pushed down as ONE
    storage query (rule2_expression: what = f, grouped by G, Range r).  Its point for a group and the bucket [T, T+r) of
    the coarse grid (point i, bucket width r = Range) equals the engine's evaluation on the one-second grid: agg over the
    group's series of f_over_time(v1_m[r]) at the bucket's last second, `v1_m` = the series' one-second points; at most
    one event per series in every second of the grid. -/
theorem rule2_two_grids (st : Store) (ts : TS) (members : List Nat) (hnd : members.Nodup) (i : Nat)
    (t1 : List Int) (τ0 T : Int) (r j : Nat) (hTi : ts.times.getD i 0 = T) (hwi : ts.width i = (r : Int))
    (hg : uniform t1 τ0 1)
    (hone : ∀ m ∈ members, ∀ k : Nat, k < t1.length → (bucketRows st [m] (τ0 + (k : Int)) (τ0 + (k : Int) + 1)).length ≤ 1)
    (hr : 1 ≤ r) (hrj : r ≤ j) (hj : j < t1.length) (hT : τ0 + (j : Int) = T + (r : Int) - 1) :
    let v1 (m : Nat) : List Val := (List.range t1.length).map (fun (k : Nat) => secVal (mergeRows (bucketRows st [m] (τ0 + (k : Int)) (τ0 + (k : Int) + 1))))
    groupPoint st ts .sum r members i = aggSum (members.map (fun m => (overTime t1 r 1 .sum (v1 m)).getD j none)) ∧
    groupPoint st ts .min r members i = aggMin (members.map (fun m => (overTime t1 r 1 .min (v1 m)).getD j none)) ∧
    groupPoint st ts .max r members i = aggMax (members.map (fun m => (overTime t1 r 1 .max (v1 m)).getD j none)) := by
  intro v1
  have hr0 : (r : Int) ≠ 0 := by omega
  have hpt : ∀ (w : What) (m : Nat), groupPoint st ts w r [m] i = (mergeRows (bucketRows st [m] T (T + (r : Int)))).map (rowValue w r r) := by
    intro w m
    rw [groupPoint, hTi, hwi, queryStep, if_pos hr0]
  have hser := fun m hm => overtime_pushdown_two_grids st m t1 τ0 T r j hg (hone m hm) hr hrj hj hT
  rw [groupPoint_exactPush st ts .sum aggSum rfl r members hnd i, groupPoint_exactPush st ts .min aggMin rfl r members hnd i,
    groupPoint_exactPush st ts .max aggMax rfl r members hnd i]
  exact ⟨congrArg aggSum (List.map_congr_left fun m hm => (hpt .sum m).trans (hser m hm).1.symm),
    congrArg aggMin (List.map_congr_left fun m hm => (hpt .min m).trans (hser m hm).2.1.symm),
    congrArg aggMax (List.map_congr_left fun m hm => (hpt .max m).trans (hser m hm).2.2.1.symm)⟩

/-- non-vacuity of the two-grid statements: both series of `exStore`, the bucket [100, 102) as point 1 of a 2 s grid -/
example :
    let ts : TS := ⟨[98, 100], 1, 1, 2, 2, 2, []⟩
    ts.times.getD 1 0 = 100 ∧ ts.width 1 = 2 ∧
    (∀ m ∈ [0, 1], ∀ k : Nat, k < 3 → (bucketRows exStore [m] (99 + (k : Int)) (99 + (k : Int) + 1)).length ≤ 1) ∧
    groupPoint exStore ts .sum 2 [0, 1] 1 = some 16 ∧ groupPoint exStore ts .max 2 [0, 1] 1 = some 10 ∧
    (mergeRows (bucketRows exStore [0] 100 102)).map (rowValue .avg 2 2) = some 3 := by decide +kernel

end SH.Props.C27
