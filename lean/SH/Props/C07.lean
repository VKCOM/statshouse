/-
  C07 — String-top rows conserve totals and keep the heaviest values.

  "For any sequence of events written into a row with string-top tags and any capacity, the counts, sums, mins and
   maxes over the retained top values plus the 'other' tail equal those of all events written, so eviction only moves
   weight into the tail and never loses it. When a row is finalized for sending or inserting, at most the configured
   number of top values remain and every retained value is at least as heavy as every value folded into the tail."

  Model: SH.Model.StringTop (MapStringTop/MapStringTopBytes = `mapTop`, resample, FinishStringTop = `finish`, the
  MultiValue calls of agent.Shard = `Event.apply`).  A history is an arbitrary `List Op` of writes (each with its own
  capacity, key, count, redirect draw `u`, per-round draw functions), re-enumerations of the Go map and finishes.

  Main theorems (all for EVERY history / capacity / draw stream / enumeration):
    conservation, conservation_components   first sentence (count, sum, min, max), from the empty row
    run_inv, write_inv, resample_inv, finish_inv   the same one step at a time from any well-formed row
    run_nodup                               the top stays a map (unique keys)
    finish_at_most_cap                      "at most the configured number of top values remain"
    finish_heaviest + finish_partition, finish_tail
                                            "every retained value is at least as heavy as every value folded into the tail"
                                            (`folded` is exactly what finish merges into the tail; retained ⊎ folded = old top)
    finish_fills_capacity, finish_retained_unchanged   finish folds only when over capacity; what it keeps is unchanged
    whale_eq_total                          the returned whale weight is the row's total count
    reorder_inv                             another enumeration of the Go map changes nothing
  Reading notes.
    * "those of all events written" = `evTotal`, the sum of `evTot` over the writes: a counter event of count c contributes count c (0 if c ≤ 0, which
      ItemCounter ignores), a value event (v, c) contributes count c, sum v·c, min = max = v, a value array its mean taken
      c times, a merged ItemValue what it holds.
    * "heavier than every value folded into the tail" refers to the values folded BY finish; values evicted earlier by
      resample were evicted probabilistically and may have been heavier (that is the algorithm, not a defect).
    * conservation is partial correctness: `run … = some r` means every call returned.  The loop
      `for len(Top) >= capacity { resample }` has no worst-case bound (`resampleLoop_zero_draws_stuck`); it can always
      terminate (`resampleLoop_can_terminate`, `mapTop_can_return`) and does so with probability 1.
    * arithmetic is exact: counts and values are dyadic rationals held as `Int`s in units of 1/16 (sums in 1/256), see
      the header of SH.Model.StringTop; float64 rounding outside that exact domain is not decided (DESIGN §4.1).
-/
import SH.Model.StringTop
import SH.Lemmas.Lists
namespace SH.C07
open SH.StringTop

/-! ### totals: count, sum, min, max as a commutative monoid -/

structure Tot where
  cnt : Int
  sum : Int
  mn : Option Int
  mx : Option Int
  deriving DecidableEq, Repr

def omin : Option Int → Option Int → Option Int
  | none, b => b
  | some a, none => some a
  | some a, some b => some (min a b)

def omax : Option Int → Option Int → Option Int
  | none, b => b
  | some a, none => some a
  | some a, some b => some (max a b)

def Tot.zero : Tot := ⟨0, 0, none, none⟩

instance : Add Tot := ⟨fun a b => ⟨a.cnt + b.cnt, a.sum + b.sum, omin a.mn b.mn, omax a.mx b.mx⟩⟩

theorem Tot.add_def (a b : Tot) : a + b = ⟨a.cnt + b.cnt, a.sum + b.sum, omin a.mn b.mn, omax a.mx b.mx⟩ := rfl

theorem omin_comm (a b : Option Int) : omin a b = omin b a := by
  cases a <;> cases b <;> simp only [omin, Int.min_comm]

theorem omax_comm (a b : Option Int) : omax a b = omax b a := by
  cases a <;> cases b <;> simp only [omax, Int.max_comm]

theorem omin_assoc (a b c : Option Int) : omin (omin a b) c = omin a (omin b c) := by
  cases a <;> cases b <;> cases c <;> simp only [omin, Int.min_assoc]

theorem omax_assoc (a b c : Option Int) : omax (omax a b) c = omax a (omax b c) := by
  cases a <;> cases b <;> cases c <;> simp only [omax, Int.max_assoc]

@[simp] theorem omin_none_right (a : Option Int) : omin a none = a := by cases a <;> rfl
@[simp] theorem omax_none_right (a : Option Int) : omax a none = a := by cases a <;> rfl
@[simp] theorem omin_none_left (a : Option Int) : omin none a = a := rfl
@[simp] theorem omax_none_left (a : Option Int) : omax none a = a := rfl

theorem Tot.add_comm (a b : Tot) : a + b = b + a := by
  simp only [Tot.add_def, Int.add_comm, omin_comm a.mn, omax_comm a.mx]

theorem Tot.add_assoc (a b c : Tot) : a + b + c = a + (b + c) := by
  simp only [Tot.add_def, Int.add_assoc, omin_assoc, omax_assoc]

@[simp] theorem Tot.add_zero (a : Tot) : a + Tot.zero = a := by
  cases a; simp [Tot.add_def, Tot.zero]

@[simp] theorem Tot.zero_add (a : Tot) : Tot.zero + a = a := by
  cases a; simp [Tot.add_def, Tot.zero]

theorem Tot.add_left_comm (a b c : Tot) : a + (b + c) = b + (a + c) := by
  rw [← Tot.add_assoc, Tot.add_comm a b, Tot.add_assoc]

/-- what ItemCounter takes from an increment `c`: a non-positive one is ignored -/
def pos (c : Int) : Int := if c ≤ 0 then 0 else c

theorem pos_eq {c : Int} (h : 0 ≤ c) : pos c = c := by
  unfold pos
  split
  · omega
  · rfl

theorem pos_nonneg (c : Int) : 0 ≤ pos c := by
  unfold pos
  split
  · exact Int.le_refl 0
  · exact Int.le_of_lt (Int.not_le.mp ‹_›)

def _root_.SH.StringTop.Agg.mnO (a : Agg) : Option Int := if a.set then some a.vmin else none
def _root_.SH.StringTop.Agg.mxO (a : Agg) : Option Int := if a.set then some a.vmax else none

def _root_.SH.StringTop.Agg.tot (a : Agg) : Tot := ⟨a.cnt, a.sum, a.mnO, a.mxO⟩

/-- what `Merge` takes from its argument: a non-positive counter is ignored, the sum only counts with ValueSet -/
def _root_.SH.StringTop.Agg.totP (a : Agg) : Tot := ⟨pos a.cnt, if a.set then a.sum else 0, a.mnO, a.mxO⟩

/-- invariant of every aggregate of a row: the counter never goes negative, the sum moves only together with ValueSet -/
def AggWF (a : Agg) : Prop := 0 ≤ a.cnt ∧ (a.set = false → a.sum = 0)

theorem AggWF.zero : AggWF Agg.zero := by simp [AggWF, Agg.zero]

@[simp] theorem Agg.zero_tot : Agg.zero.tot = Tot.zero := by
  simp [Agg.tot, Agg.zero, Tot.zero, Agg.mnO, Agg.mxO]

theorem totP_of_wf {a : Agg} (h : AggWF a) : a.totP = a.tot := by
  obtain ⟨h1, h2⟩ := h
  cases hs : a.set
  · simp only [Agg.totP, Agg.tot, pos_eq h1, hs, h2 hs, Bool.false_eq_true, if_false]
  · simp only [Agg.totP, Agg.tot, pos_eq h1, hs, if_true]

theorem addCnt_eq {a : Int} (c : Int) (h : 0 ≤ a) : addCnt a c = a + pos c := by
  unfold addCnt pos
  by_cases hc : c ≤ 0
  · rw [if_pos hc, if_pos hc, Int.add_zero]
  · rw [if_neg hc, if_neg hc]
    split
    · rw [Int.le_antisymm ‹a ≤ 0› h, Int.zero_add]
    · rfl

theorem addCnt_nonneg {a : Int} (c : Int) (h : 0 ≤ a) : 0 ≤ addCnt a c := by
  rw [addCnt_eq c h]
  exact Int.add_nonneg h (pos_nonneg c)

/-- `f` keeps an aggregate well formed and adds `δ` to its totals (every event does, and every merge into the tail) -/
def Adds (f : Agg → Agg) (δ : Tot) : Prop := ∀ a, AggWF a → AggWF (f a) ∧ (f a).tot = a.tot + δ

theorem Adds.comp {f g : Agg → Agg} {δ ε : Tot} (hf : Adds f δ) (hg : Adds g ε) : Adds (g ∘ f) (δ + ε) := fun a h =>
  ⟨(hg _ (hf a h).1).1, by rw [Function.comp, (hg _ (hf a h).1).2, (hf a h).2, Tot.add_assoc]⟩

/-- the `if lowers …` update of ValueMin is the minimum of the two ValueMins (the other one alone where one is not set) -/
theorem merge_mnO (a b : Agg) : (a.merge b).mnO = omin a.mnO b.mnO := by
  cases hb : b.set
  · have hn : b.mnO = none := if_neg (by rw [hb]; exact Bool.false_ne_true)
    rw [hn, omin_none_right]
    simp only [Agg.merge, hb, Bool.false_eq_true, if_false]
    rfl
  · simp only [Agg.merge, Agg.mnO, hb, if_true]
    cases hs : a.set
    · simp only [lowers, hs, Bool.not_false, Bool.true_or, if_true, Bool.false_eq_true, if_false, omin]
    · simp only [lowers, hs, Bool.not_true, Bool.false_or, decide_eq_true_eq, if_true, omin, Int.min_def]
      by_cases h : b.vmin < a.vmin
      · rw [if_pos h, if_neg (Int.not_le.mpr h)]
      · rw [if_neg h, if_pos (Int.not_lt.mp h)]

theorem merge_mxO (a b : Agg) : (a.merge b).mxO = omax a.mxO b.mxO := by
  cases hb : b.set
  · have hn : b.mxO = none := if_neg (by rw [hb]; exact Bool.false_ne_true)
    rw [hn, omax_none_right]
    simp only [Agg.merge, hb, Bool.false_eq_true, if_false]
    rfl
  · simp only [Agg.merge, Agg.mxO, hb, if_true]
    cases hs : a.set
    · simp only [raises, hs, Bool.not_false, Bool.true_or, if_true, Bool.false_eq_true, if_false, omax]
    · simp only [raises, hs, Bool.not_true, Bool.false_or, decide_eq_true_eq, if_true, omax, Int.max_def]
      by_cases h : b.vmax > a.vmax
      · rw [if_pos h, if_pos (Int.le_of_lt h)]
      · rw [if_neg h]
        split
        · exact congrArg some (Int.le_antisymm ‹_› (Int.not_lt.mp h))
        · rfl

theorem merge_adds (b : Agg) : Adds (·.merge b) b.totP := by
  intro a h
  have hc := addCnt_nonneg b.cnt h.1
  constructor
  · cases hb : b.set
    · exact ⟨by simpa [Agg.merge, hb] using hc, by simpa [Agg.merge, hb] using h.2⟩
    · exact ⟨by simpa [Agg.merge, hb] using hc, by simp [Agg.merge, hb]⟩
  · simp only [Agg.tot, Agg.totP, Tot.add_def, merge_mnO, merge_mxO]
    cases hb : b.set <;> simp [Agg.merge, hb, addCnt_eq b.cnt h.1]

/-! In the model `addOnlyValue v c` is Merge with the aggregate ⟨0, v·c, v, v, set⟩ and `addCounter c` Merge with
    ⟨c, 0, 0, 0, unset⟩, both by unfolding: the next four lemmas are instances of the Merge lemmas. -/

theorem addOnlyValue_mnO (a : Agg) (v c : Int) : (a.addOnlyValue v c).mnO = omin a.mnO (some v) :=
  merge_mnO a ⟨0, v * c, v, v, true⟩

theorem addOnlyValue_mxO (a : Agg) (v c : Int) : (a.addOnlyValue v c).mxO = omax a.mxO (some v) :=
  merge_mxO a ⟨0, v * c, v, v, true⟩

theorem addOnlyValue_adds (v c : Int) : Adds (·.addOnlyValue v c) ⟨0, v * c, some v, some v⟩ :=
  merge_adds ⟨0, v * c, v, v, true⟩

theorem addCounter_adds (c : Int) : Adds (·.addCounter c) ⟨pos c, 0, none, none⟩ :=
  merge_adds ⟨c, 0, 0, 0, false⟩

/-! ### events: what "the counts, sums, mins and maxes of an event written" are -/

def listMin (vs : List Int) : Option Int := vs.foldl (fun m v => omin m (some v)) none
def listMax (vs : List Int) : Option Int := vs.foldl (fun m v => omax m (some v)) none

/-- the totals of one event (a non-positive count counts as 0 — ItemCounter ignores it; a value array with
    count `c` stands for its mean taken `c` times: Σv·c/len, here with counts and values scaled by `unit`; `/` is Int floor
    division as in the model's `scaleSum`, exact when the array length divides Σv·c) -/
def evTot : Event → Tot
  | .counter c => ⟨pos c, 0, none, none⟩
  | .value v c => ⟨pos c, v * c, some v, some v⟩
  | .values vs c => if vs.isEmpty then Tot.zero else ⟨pos c, vs.sum * unit * c / (unit * vs.length), listMin vs, listMax vs⟩
  | .merge a => a.totP

/-- reading aid: on positive counts the event totals are the plain ones -/
theorem evTot_counter_pos (c : Int) (h : 0 < c) : evTot (.counter c) = ⟨c, 0, none, none⟩ := by
  rw [evTot, pos_eq (Int.le_of_lt h)]

theorem evTot_value_pos (v c : Int) (h : 0 < c) : evTot (.value v c) = ⟨c, v * c, some v, some v⟩ := by
  rw [evTot, pos_eq (Int.le_of_lt h)]

theorem foldl_addOnlyValue (vs : List Int) (t : Agg) :
    (vs.foldl (fun t v => t.addOnlyValue v unit) t).cnt = t.cnt ∧
    (vs.foldl (fun t v => t.addOnlyValue v unit) t).sum = t.sum + vs.sum * unit ∧
    (vs.foldl (fun t v => t.addOnlyValue v unit) t).mnO = vs.foldl (fun m v => omin m (some v)) t.mnO ∧
    (vs.foldl (fun t v => t.addOnlyValue v unit) t).mxO = vs.foldl (fun m v => omax m (some v)) t.mxO ∧
    (vs ≠ [] → (vs.foldl (fun t v => t.addOnlyValue v unit) t).set = true) := by
  induction vs generalizing t with
  | nil => exact ⟨rfl, by rw [List.sum_nil, Int.zero_mul, Int.add_zero]; rfl, rfl, rfl, fun h => absurd rfl h⟩
  | cons v vs ih =>
    obtain ⟨h1, h2, h3, h4, h5⟩ := ih (t.addOnlyValue v unit)
    simp only [List.foldl_cons, List.sum_cons]
    refine ⟨h1, ?_, ?_, ?_, ?_⟩
    · rw [h2, Int.add_mul, ← Int.add_assoc]
      rfl
    · rw [h3, addOnlyValue_mnO]
    · rw [h4, addOnlyValue_mxO]
    · intro _
      cases vs with
      | nil => rfl
      | cons w ws => exact h5 (List.cons_ne_nil _ _)

/-- the two `if`s of ApplyValues are shortcuts: the sum is always `sum · count / totalCount` -/
theorem scaled_eq (t : Agg) (c : Int) {total : Int} (ht : total ≠ 0) :
    scaled t c total = { t with sum := t.sum * c / total } := by
  unfold scaled scaleSum
  split
  · split
    · rfl
    · rename_i h
      rw [Decidable.not_not.mp h]
  · rename_i h
    rw [Decidable.not_not.mp h, Int.mul_ediv_cancel _ ht]

theorem scaled_valuesTmp_totP (vs : List Int) (c : Int) (hne : vs ≠ []) :
    (scaled (valuesTmp vs c) c (unit * vs.length)).totP = ⟨pos c, vs.sum * unit * c / (unit * vs.length), listMin vs, listMax vs⟩ := by
  obtain ⟨h1, h2, h3, h4, h5⟩ := foldl_addOnlyValue vs { cnt := c }
  have hl : unit * (vs.length : Int) ≠ 0 :=
    Int.mul_ne_zero (by decide) (Int.natCast_ne_zero.mpr (mt List.length_eq_zero_iff.mp hne))
  rw [scaled_eq _ _ hl]
  show (⟨pos (valuesTmp vs c).cnt, if (valuesTmp vs c).set then (valuesTmp vs c).sum * c / _ else 0,
    (valuesTmp vs c).mnO, (valuesTmp vs c).mxO⟩ : Tot) = _
  rw [valuesTmp, h5 hne, h1, h2, h3, h4, if_pos rfl]
  show (⟨pos c, (0 + vs.sum * unit) * c / _, _, _⟩ : Tot) = _
  rw [Int.zero_add]
  rfl

theorem applyValues_adds (vs : List Int) (c : Int) : Adds (·.applyValues vs c) (evTot (.values vs c)) := by
  intro a h
  by_cases hne : vs = []
  · subst hne
    exact ⟨h, (Tot.add_zero _).symm⟩
  · have hv : vs.isEmpty = false := by simpa using hne
    simp only [Agg.applyValues, evTot, hv, Bool.false_eq_true, if_false]
    rw [← scaled_valuesTmp_totP vs c hne]
    exact merge_adds _ a h

theorem apply_adds (e : Event) : Adds e.apply (evTot e) := by
  cases e with
  | counter c => exact addCounter_adds c
  | value v c =>
    have h := (addCounter_adds c).comp (addOnlyValue_adds v c)
    simp only [Tot.add_def, Int.zero_add, Int.add_zero, omin_none_left, omax_none_left] at h
    exact h
  | values vs c => exact applyValues_adds vs c
  | merge b => exact merge_adds b

/-! ### rows -/

def sumTot (l : List Entry) : Tot := l.foldr (fun kv t => kv.2.tot + t) Tot.zero

/-- count, sum, min, max over the retained top values plus the 'other' tail -/
def _root_.SH.StringTop.Row.tot (r : Row) : Tot := r.tail.tot + sumTot r.top

def AllWF (l : List Entry) : Prop := ∀ kv ∈ l, AggWF kv.2

def keys (l : List Entry) : List Key := l.map (·.1)

structure RowWF (r : Row) : Prop where
  tail : AggWF r.tail
  top : AllWF r.top
  nodup : (keys r.top).Nodup

@[simp] theorem sumTot_nil : sumTot [] = Tot.zero := rfl
@[simp] theorem sumTot_cons (kv : Entry) (l : List Entry) : sumTot (kv :: l) = kv.2.tot + sumTot l := rfl

theorem sumTot_append (l1 l2 : List Entry) : sumTot (l1 ++ l2) = sumTot l1 + sumTot l2 := by
  induction l1 with
  | nil => simp
  | cons kv l ih => simp [ih, Tot.add_assoc]

theorem sumTot_perm {l1 l2 : List Entry} (h : l1.Perm l2) : sumTot l1 = sumTot l2 :=
  h.foldr_eq' (f := fun (kv : Entry) t => kv.2.tot + t) (fun _ _ _ _ z => Tot.add_left_comm _ _ z) Tot.zero

theorem AllWF.filter {l : List Entry} (p : Entry → Bool) (w : AllWF l) : AllWF (l.filter p) :=
  fun kv hk => w kv (List.mem_filter.mp hk).1

theorem foldInto_adds {l : List Entry} (hl : AllWF l) : Adds (foldInto · l) (sumTot l) := by
  induction l with
  | nil => exact fun t ht => ⟨ht, (Tot.add_zero _).symm⟩
  | cons kv l ih =>
    obtain ⟨hkv, hl'⟩ := List.forall_mem_cons.mp hl
    have h := (merge_adds kv.2).comp (ih hl')
    rw [totP_of_wf hkv] at h
    exact h

/-! ### resample: eviction only moves weight into the tail -/

/-- some top values (`out`) are merged into the tail, the rest stays in any order: what resample, FinishStringTop and a
    re-enumeration all do -/
theorem moveToTail {r r' : Row} (w : RowWF r) {out : List Entry} (hp : (r'.top ++ out).Perm r.top)
    (ht : r'.tail = foldInto r.tail out) : RowWF r' ∧ r'.tot = r.tot := by
  have hw : AllWF (r'.top ++ out) := fun kv hk => w.top kv (hp.mem_iff.mp hk)
  obtain ⟨f1, f2⟩ := foldInto_adds (fun kv hk => hw kv (List.mem_append_right _ hk)) r.tail w.tail
  have hn : (keys (r'.top ++ out)).Nodup := (List.Perm.nodup_iff (hp.map _)).mpr w.nodup
  rw [keys, List.map_append] at hn
  refine ⟨⟨ht ▸ f1, fun kv hk => hw kv (List.mem_append_left _ hk), (List.nodup_append.mp hn).1⟩, ?_⟩
  rw [Row.tot, ht, f2, Tot.add_assoc, Tot.add_comm (sumTot out), ← sumTot_append, sumTot_perm hp]
  rfl

theorem resample_inv (d : Key → Nat) {r : Row} (w : RowWF r) : RowWF (resample d r) ∧ (resample d r).tot = r.tot :=
  moveToTail w (List.perm_append_comm.trans (List.filter_append_perm _ r.top)) rfl

theorem resampleLoop_room {cap : Nat} {r : Row} (ds : List (Key → Nat)) (h : roomFor cap r = true) :
    resampleLoop cap ds r = some r := by
  unfold resampleLoop
  rw [if_pos h]

theorem resampleLoop_full_nil {cap : Nat} {r : Row} (h : roomFor cap r = false) : resampleLoop cap [] r = none := by
  unfold resampleLoop
  simp only [h, Bool.false_eq_true, if_false]

theorem resampleLoop_full_cons {cap : Nat} {r : Row} (h : roomFor cap r = false) (d : Key → Nat) (ds : List (Key → Nat)) :
    resampleLoop cap (d :: ds) r = resampleLoop cap ds (resample d r) := by
  rw [resampleLoop]
  simp only [h, Bool.false_eq_true, if_false]

theorem resampleLoop_inv (cap : Nat) (ds : List (Key → Nat)) {r r' : Row} (w : RowWF r)
    (h : resampleLoop cap ds r = some r') :
    RowWF r' ∧ r'.tot = r.tot ∧ r'.top.length < cap ∧ (∀ kv ∈ r'.top, kv ∈ r.top) := by
  fun_induction resampleLoop cap ds r with
  | case1 ds r hr =>
    -- room
    cases h
    exact ⟨w, rfl, of_decide_eq_true hr, fun _ h => h⟩
  | case2 r hr =>
    -- full, no draws left
    cases h
  | case3 r hr d ds ih =>
    -- full: one round, then the loop again
    obtain ⟨h1, h2, h3, h4⟩ := ih (resample_inv d w).1 h
    exact ⟨h1, h2.trans (resample_inv d w).2, h3, fun kv hk => (List.mem_filter.mp (h4 kv hk)).1⟩

/-! ### MapStringTop and the event applied to the returned slot -/

theorem updFirst_inv {k : Key} {f : Agg → Agg} {δ : Tot} (hf : Adds f δ) (l : List Entry) (hk : k ∈ keys l) (hl : AllWF l) :
    sumTot (updFirst k f l) = sumTot l + δ ∧ AllWF (updFirst k f l) ∧ keys (updFirst k f l) = keys l := by
  induction l with
  | nil => exact absurd hk List.not_mem_nil
  | cons kv l ih =>
    obtain ⟨hkv, hl'⟩ := List.forall_mem_cons.mp hl
    unfold updFirst
    split
    · obtain ⟨f2, f1⟩ := hf kv.2 hkv
      exact ⟨by rw [sumTot_cons, sumTot_cons, f1, Tot.add_assoc, Tot.add_comm δ, ← Tot.add_assoc],
        List.forall_mem_cons.mpr ⟨f2, hl'⟩, rfl⟩
    · rename_i he
      obtain ⟨i1, i2, i3⟩ := ih ((List.mem_cons.mp hk).resolve_left fun e => he e.symm) hl'
      exact ⟨by rw [sumTot_cons, sumTot_cons, i1, Tot.add_assoc], List.forall_mem_cons.mpr ⟨hkv, i2⟩,
        congrArg (kv.1 :: ·) i3⟩

def SlotOK (r : Row) : Slot → Prop
  | .tail => True
  | .top k => k ∈ keys r.top

theorem insertNew_inv (k : Key) {r : Row} (w : RowWF r) (hn : k ∉ keys r.top) :
    RowWF (insertNew k r) ∧ (insertNew k r).tot = r.tot ∧ k ∈ keys (insertNew k r).top := by
  refine ⟨⟨w.tail, ?_, ?_⟩, ?_, ?_⟩
  · intro kv hkv
    rcases List.mem_append.mp hkv with h | h
    · exact w.top kv h
    · rw [List.mem_singleton.mp h]
      exact AggWF.zero
  · simp only [insertNew, keys, List.map_append, List.map_cons, List.map_nil]
    refine List.nodup_append.mpr ⟨w.nodup, List.nodup_cons.mpr ⟨List.not_mem_nil, List.nodup_nil⟩, ?_⟩
    intro a ha b hb hab
    rw [hab, List.mem_singleton.mp hb] at ha
    exact hn ha
  · simp only [Row.tot, insertNew, sumTot_append, sumTot_cons, sumTot_nil, Agg.zero_tot, Tot.add_zero]
  · exact List.mem_map.mpr ⟨(k, Agg.zero), List.mem_append_right _ List.mem_cons_self, rfl⟩

theorem hasKey_iff (k : Key) (l : List Entry) : hasKey k l = true ↔ k ∈ keys l := by
  simp [hasKey, keys]

/-- the three ways MapStringTop returns: the tail (empty key or redirect), an existing value, or a new value after the
    resample loop has made room -/
theorem mapTop_cases (cap : Int) (key : Key) (count : Int) (u : Nat) (ds : List (Key → Nat)) (r : Row) :
    mapTop cap key count u ds r = some (r, .tail) ∨
    (key.normalize ∈ keys r.top ∧ mapTop cap key count u ds r = some (r, .top key.normalize)) ∨
    (key.normalize ∉ keys r.top ∧ mapTop cap key count u ds r =
      (resampleLoop (effCap cap) ds r).map (fun r' => (insertNew key.normalize r', .top key.normalize))) := by
  unfold mapTop
  by_cases h1 : key.isEmpty = true
  · rw [if_pos h1]
    exact Or.inl rfl
  · by_cases h2 : hasKey key.normalize r.top = true
    · rw [if_neg h1, if_pos h2]
      exact Or.inr (Or.inl ⟨(hasKey_iff _ _).mp h2, rfl⟩)
    · by_cases h3 : redirects r.sfLog2 u count = true
      · rw [if_neg h1, if_neg h2, if_pos h3]
        exact Or.inl rfl
      · rw [if_neg h1, if_neg h2, if_neg h3]
        refine Or.inr (Or.inr ⟨fun hm => h2 ((hasKey_iff _ _).mpr hm), ?_⟩)
        cases resampleLoop (effCap cap) ds r <;> rfl

theorem mapTop_inv {cap : Int} {key : Key} {count : Int} {u : Nat} {ds : List (Key → Nat)} {r r' : Row} {slot : Slot}
    (w : RowWF r) (h : mapTop cap key count u ds r = some (r', slot)) :
    RowWF r' ∧ r'.tot = r.tot ∧ SlotOK r' slot := by
  rcases mapTop_cases cap key count u ds r with e | ⟨hk, e⟩ | ⟨hk, e⟩
  · rw [e] at h
    cases h
    exact ⟨w, rfl, trivial⟩
  · rw [e] at h
    cases h
    exact ⟨w, rfl, hk⟩
  · rw [e] at h
    obtain ⟨r'', hl, hh⟩ := Option.map_eq_some_iff.mp h
    cases hh
    obtain ⟨l1, l2, _, l4⟩ := resampleLoop_inv _ _ w hl
    obtain ⟨i1, i2, i3⟩ := insertNew_inv key.normalize l1 fun hm => hk (List.map_subset _ l4 hm)
    exact ⟨i1, i2.trans l2, i3⟩

theorem applyAt_inv (e : Event) {r : Row} {slot : Slot} (w : RowWF r) (hs : SlotOK r slot) :
    RowWF (applyAt e.apply r slot) ∧ (applyAt e.apply r slot).tot = r.tot + evTot e := by
  cases slot with
  | tail =>
    obtain ⟨a1, a2⟩ := apply_adds e r.tail w.tail
    refine ⟨⟨a1, w.top, w.nodup⟩, ?_⟩
    simp only [applyAt, Row.tot, a2]
    rw [Tot.add_assoc, Tot.add_comm (evTot e), ← Tot.add_assoc]
  | top k =>
    obtain ⟨u1, u2, u3⟩ := updFirst_inv (k := k) (apply_adds e) r.top hs w.top
    refine ⟨⟨w.tail, u2, ?_⟩, ?_⟩
    · simp only [applyAt]
      rw [u3]
      exact w.nodup
    · simp only [applyAt, Row.tot, u1, Tot.add_assoc]

theorem write_inv (wr : Write) {r r' : Row} (w : RowWF r) (h : write wr r = some r') :
    RowWF r' ∧ r'.tot = r.tot + evTot wr.ev := by
  unfold write at h
  cases hm : mapTop wr.cap wr.key wr.count wr.u wr.draws r with
  | none => simp [hm] at h
  | some p =>
    obtain ⟨r1, slot⟩ := p
    simp only [hm, Option.some.injEq] at h
    subst h
    obtain ⟨m1, m2, m3⟩ := mapTop_inv w hm
    obtain ⟨a1, a2⟩ := applyAt_inv wr.ev m1 m3
    exact ⟨a1, by rw [a2, m2]⟩

/-! ### re-enumeration and FinishStringTop -/

theorem reorder_inv (l : List Entry) {r : Row} (w : RowWF r) :
    RowWF (reorder l r) ∧ (reorder l r).tot = r.tot := by
  unfold reorder
  split
  · rename_i h
    exact moveToTail (out := []) w (by rw [List.append_nil]; exact List.isPerm_iff.mp h) rfl
  · exact ⟨w, rfl⟩

def Desc (l : List Entry) : Prop := l.Pairwise (fun a b => b.2.cnt ≤ a.2.cnt)

theorem sortDesc_eq_foldr (l : List Entry) : sortDesc l = l.foldr insDesc [] := by
  induction l with
  | nil => rfl
  | cons x xs ih => rw [sortDesc, ih, List.foldr_cons]

theorem sortDesc_spec (l : List Entry) : (sortDesc l).Perm l ∧ Desc (sortDesc l) := by
  rw [sortDesc_eq_foldr]
  exact Lists.foldr_ins_spec (fun x y : Entry => y.2.cnt ≤ x.2.cnt) insDesc (fun _ => rfl) (fun _ _ _ => rfl)
    (fun a b => b.2.cnt ≤ a.2.cnt) (fun _ => True) (fun _ _ _ _ _ _ hab hbc => Int.le_trans hbc hab)
    (fun _ _ _ _ h => h) (fun _ _ _ _ h => Int.le_of_lt (Int.not_le.mp h)) l (fun _ _ => trivial)

theorem retained_append_folded (cap : Int) (r : Row) : retained cap r ++ folded cap r = sortDesc r.top :=
  List.take_append_drop _ _

/-- also on the early return for an empty top -/
theorem finish_top (cap : Int) (r : Row) : (finish cap r).top = retained cap r := by
  unfold finish
  split
  · rename_i h
    rw [retained, List.isEmpty_iff.mp h]
    exact (List.take_nil).symm
  · rfl

theorem finish_tail (cap : Int) (r : Row) : (finish cap r).tail = foldInto r.tail (folded cap r) := by
  unfold finish
  split
  · rename_i h
    rw [folded, List.isEmpty_iff.mp h, sortDesc, List.drop_nil]
    rfl
  · rfl

/-- the retained and the folded values together are exactly the old top values (nothing invented, nothing dropped) -/
theorem finish_partition (cap : Int) (r : Row) : ((finish cap r).top ++ folded cap r).Perm r.top := by
  rw [finish_top, retained_append_folded]
  exact (sortDesc_spec _).1

/-- "at most the configured number of top values remain" -/
theorem finish_at_most_cap (cap : Int) (r : Row) : (finish cap r).top.length ≤ cap.toNat := by
  rw [finish_top, retained, List.length_take]
  exact Nat.min_le_left _ _

/-- "every retained value is at least as heavy as every value folded into the tail" -/
theorem finish_heaviest (cap : Int) (r : Row) :
    ∀ a ∈ (finish cap r).top, ∀ b ∈ folded cap r, b.2.cnt ≤ a.2.cnt := by
  have hs : Desc (retained cap r ++ folded cap r) := by rw [retained_append_folded]; exact (sortDesc_spec _).2
  rw [finish_top]
  exact (List.pairwise_append.mp hs).2.2

/-- finish folds nothing unless the top is over capacity, and then exactly `capacity` values remain -/
theorem finish_fills_capacity (cap : Int) (r : Row) (h : folded cap r ≠ []) :
    (finish cap r).top.length = cap.toNat := by
  rw [finish_top, retained, List.length_take]
  exact Nat.min_eq_left (Nat.le_of_lt (Nat.lt_of_not_le fun hle => h (List.drop_eq_nil_iff.mpr hle)))

theorem finish_retained_unchanged (cap : Int) (r : Row) : ∀ kv ∈ (finish cap r).top, kv ∈ r.top := by
  intro kv hk
  exact (finish_partition cap r).mem_iff.mp (List.mem_append_left _ hk)

theorem finish_inv (cap : Int) {r : Row} (w : RowWF r) : RowWF (finish cap r) ∧ (finish cap r).tot = r.tot :=
  moveToTail w (finish_partition cap r) (finish_tail cap r)

theorem sumTot_cnt (l : List Entry) : (sumTot l).cnt = sumCnt l := by
  induction l with
  | nil => rfl
  | cons kv l ih =>
    simp only [sumTot_cons, sumCnt, List.foldr_cons, Tot.add_def, Agg.tot]
    rw [ih]
    rfl

/-- the whale weight returned by FinishStringTop is the total count of the row (before = after) -/
theorem whale_eq_total (cap : Int) {r : Row} (w : RowWF r) : whale r = (finish cap r).tot.cnt := by
  rw [(finish_inv cap w).2]
  simp only [whale, Row.tot, Tot.add_def, sumTot_cnt, Agg.tot]

/-! ### histories -/

def evTotal : List Op → Tot
  | [] => Tot.zero
  | .write w :: ops => evTot w.ev + evTotal ops
  | .reorder _ :: ops => evTotal ops
  | .finish _ :: ops => evTotal ops

theorem step_inv (op : Op) {r r' : Row} (w : RowWF r) (h : step r op = some r') :
    RowWF r' ∧ r'.tot = r.tot + evTotal [op] := by
  cases op with
  | write wr =>
    simpa [evTotal] using write_inv wr w h
  | reorder l =>
    simp only [step, Option.some.injEq] at h; subst h
    simpa [evTotal] using reorder_inv l w
  | finish cap =>
    simp only [step, Option.some.injEq] at h; subst h
    simpa [evTotal] using finish_inv cap w

theorem evTotal_cons (op : Op) (ops : List Op) : evTotal (op :: ops) = evTotal [op] + evTotal ops := by
  cases op <;> simp [evTotal]

theorem run_inv (ops : List Op) {r r' : Row} (w : RowWF r) (h : run r ops = some r') :
    RowWF r' ∧ r'.tot = r.tot + evTotal ops := by
  induction ops generalizing r with
  | nil =>
    simp only [run, Option.some.injEq] at h
    subst h
    exact ⟨w, (Tot.add_zero _).symm⟩
  | cons op ops ih =>
    simp only [run] at h
    cases hs : step r op with
    | none => simp [hs] at h
    | some r1 =>
      simp only [hs] at h
      obtain ⟨s1, s2⟩ := step_inv op w hs
      obtain ⟨i1, i2⟩ := ih s1 h
      exact ⟨i1, by rw [i2, s2, Tot.add_assoc, ← evTotal_cons]⟩

theorem RowWF.empty : RowWF Row.empty :=
  ⟨AggWF.zero, fun _ h => by simp [Row.empty] at h, by simp [Row.empty, keys]⟩

/--
  C07, first sentence.  For any sequence of events written into a row (interleaved with arbitrary re-enumerations of the
  map and finalizations), any capacities, any draw streams: whenever the calls return, the counts, sums, mins and maxes
  over the retained top values plus the 'other' tail equal those of all events written.
-/
theorem conservation (ops : List Op) (r : Row) (h : run Row.empty ops = some r) : r.tot = evTotal ops := by
  have h0 : Row.empty.tot = Tot.zero := by
    rw [Row.tot, Row.empty, sumTot_nil, Tot.add_zero]
    exact Agg.zero_tot
  rw [(run_inv ops RowWF.empty h).2, h0, Tot.zero_add]

theorem conservation_components (ops : List Op) (r : Row) (h : run Row.empty ops = some r) :
    r.tot.cnt = (evTotal ops).cnt ∧ r.tot.sum = (evTotal ops).sum ∧ r.tot.mn = (evTotal ops).mn ∧ r.tot.mx = (evTotal ops).mx := by
  rw [conservation ops r h]; exact ⟨rfl, rfl, rfl, rfl⟩

/-- the top of a row is a map: keys stay unique along every history -/
theorem run_nodup (ops : List Op) (r : Row) (h : run Row.empty ops = some r) : (keys r.top).Nodup :=
  (run_inv ops RowWF.empty h).1.nodup

/-! ### termination of `for len(s.Top) >= capacity { s.resample(rng) }` is probabilistic only -/

theorem resample_zero_draws_top (r : Row) (h : ∀ kv ∈ r.top, 1 ≤ kv.2.cnt) : (resample (fun _ => 0) r).top = r.top := by
  have he : ∀ kv ∈ r.top, evictsKV (roundSf r) (fun _ => 0) kv = false := by
    intro kv hk
    have := h kv hk
    have h0 : evicts ((roundSf r : Nat) : Int) 0 kv.2 = false := by
      simp only [evicts, Bool.and_eq_false_iff, decide_eq_false_iff_not]
      right; omega
    simpa [evictsKV] using h0
  simp only [resample]
  exact List.filter_eq_self.mpr (fun kv hk => by simp [he kv hk])

/-- with adversarial (all-zero) draws a full row of positive counts keeps the loop running for any amount of fuel:
    no worst-case bound on the loop exists -/
theorem resampleLoop_zero_draws_stuck (cap n : Nat) (r : Row) (hfull : cap ≤ r.top.length)
    (h : ∀ kv ∈ r.top, 1 ≤ kv.2.cnt) : resampleLoop cap (List.replicate n (fun _ => 0)) r = none := by
  have hr : ∀ r : Row, cap ≤ r.top.length → roomFor cap r = false := fun r h => decide_eq_false (Nat.not_lt.mpr h)
  induction n generalizing r with
  | zero => exact resampleLoop_full_nil (hr r hfull)
  | succ n ih =>
    have z1 := resample_zero_draws_top r h
    rw [List.replicate_succ, resampleLoop_full_cons (hr r hfull)]
    exact ih _ (by rw [z1]; exact hfull) (by rw [z1]; exact h)

/-- once sf exceeds every count, maximal draws evict everything (the hypothesis asks
    scaled count < unscaled sf, i.e. real count < sf/16: more than `evicts` needs) -/
theorem resample_max_draws_empties (r : Row) (h : ∀ kv ∈ r.top, kv.2.cnt < ((roundSf r : Nat) : Int)) :
    (resample (fun _ => roundSf r - 1) r).top = [] := by
  simp only [resample]
  apply List.filter_eq_nil_iff.mpr
  intro kv hk
  have h1 := h kv hk
  have hp : 0 < roundSf r := Nat.two_pow_pos _
  have hm : (roundSf r - 1) % roundSf r = roundSf r - 1 := Nat.mod_eq_of_lt (by omega)
  simp only [evictsKV, evicts, hm, Bool.not_eq_true, Bool.not_eq_false', Bool.and_eq_true, decide_eq_true_eq, unit]
  constructor <;> omega

theorem counts_lt_pow (k : Nat) (l : List Entry) : ∃ n : Nat, ∀ kv ∈ l, kv.2.cnt < ((2 ^ (k + n) : Nat) : Int) := by
  induction l with
  | nil => exact ⟨0, fun _ h => nomatch h⟩
  | cons x xs ih =>
    obtain ⟨n, hn⟩ := ih
    refine ⟨max n x.2.cnt.toNat, fun kv hk => ?_⟩
    rcases List.mem_cons.mp hk with rfl | h1
    · exact Int.lt_of_le_of_lt (Int.self_le_toNat _) (Int.ofNat_lt.mpr (Nat.lt_of_lt_of_le Nat.lt_two_pow_self
        (Nat.pow_le_pow_right (by decide) (Nat.le_trans (Nat.le_max_right n _) (Nat.le_add_left _ k)))))
    · exact Int.lt_of_lt_of_le (hn kv h1)
        (Int.ofNat_le.mpr (Nat.pow_le_pow_right (by decide) (Nat.add_le_add_left (Nat.le_max_left _ _) k)))

/-- n rounds of zero draws raise the sample factor without touching the bound on the counts; once it exceeds every count
    one round of maximal draws empties the top -/
theorem resampleLoop_can_terminate_of_lt (cap : Nat) (hc : 1 ≤ cap) (n : Nat) : ∀ r : Row,
    (∀ kv ∈ r.top, kv.2.cnt < ((2 ^ (r.sfLog2 + 1 + n) : Nat) : Int)) → ∃ ds r', resampleLoop cap ds r = some r' := by
  induction n with
  | zero =>
    intro r h
    cases hr : roomFor cap r
    · refine ⟨[fun _ => roundSf r - 1], resample (fun _ => roundSf r - 1) r, ?_⟩
      rw [resampleLoop_full_cons hr]
      apply resampleLoop_room
      rw [roomFor, resample_max_draws_empties r h]
      exact decide_eq_true hc
    · exact ⟨[], r, resampleLoop_room _ hr⟩
  | succ n ih =>
    intro r h
    cases hr : roomFor cap r
    · obtain ⟨ds, r', hd⟩ := ih (resample (fun _ => 0) r) (fun kv hk => by
        rw [show (resample (fun _ => 0) r).sfLog2 + 1 + n = r.sfLog2 + 1 + (n + 1) from Nat.add_right_comm _ 1 _]
        exact h kv (List.mem_filter.mp hk).1)
      exact ⟨(fun _ => 0) :: ds, r', by rw [resampleLoop_full_cons hr]; exact hd⟩
    · exact ⟨[], r, resampleLoop_room _ hr⟩

/-- for every row and every capacity ≥ 1 there are draws under which the loop ends (it ends with probability 1 in the
    code because, once sf exceeds every count, each value is evicted with probability ≥ 1/2 per round) -/
theorem resampleLoop_can_terminate (cap : Nat) (hc : 1 ≤ cap) (r : Row) : ∃ ds r', resampleLoop cap ds r = some r' := by
  obtain ⟨n, hn⟩ := counts_lt_pow (r.sfLog2 + 1) r.top
  exact resampleLoop_can_terminate_of_lt cap hc n r hn

/-- the effective capacity of MapStringTop is never 0 (this is where the regenerated DefaultStringTopCapacity matters:
    a default of 0 would make the loop spin forever) -/
theorem effCap_pos (cap : Int) : 1 ≤ effCap cap := by
  unfold effCap
  split
  · decide
  · omega

/-- MapStringTop can always return: for every row, key, capacity there are draws with which the call completes -/
theorem mapTop_can_return (cap : Int) (key : Key) (count : Int) (u : Nat) (r : Row) :
    ∃ ds res, mapTop cap key count u ds r = some res := by
  obtain ⟨ds, r', h⟩ := resampleLoop_can_terminate (effCap cap) (effCap_pos cap) r
  refine ⟨ds, ?_⟩
  rcases mapTop_cases cap key count u ds r with e | ⟨_, e⟩ | ⟨_, e⟩
  · exact ⟨_, e⟩
  · exact ⟨_, e⟩
  · exact ⟨_, by rw [e, h]; rfl⟩

/-! ### non-vacuity: a concrete history with capacity pressure, a redirect, an eviction and a finish -/

namespace Ex
def k1 : Key := ⟨[97], 0⟩
def k2 : Key := ⟨[120], 5⟩   -- string "x" + int 5: normalises to ⟨[], 5⟩
def k2n : Key := ⟨[], 5⟩
def k3 : Key := ⟨[98], 0⟩
/-- draws of one round: k1 receives 3, everybody else 0 -/
def d : Key → Nat := fun k => if k = k1 then 3 else 0

/-- capacity 2, numbers in 1/16 units (sums in 1/256).  k1 += 2.5; k2 gets value 10 with count 2; k3 (count 1.25) arrives
    at a full top: round 1 (sf 2) evicts nothing, round 2 (sf 4) evicts k1 (2.5 ≤ rv 3) and keeps k2 (2 > rv 0); k1 comes
    again with count 1 and is redirected to the tail (0.5·4 ≥ 1); finish(1) keeps k2 (count 2) and folds k3 (count 1.25). -/
def hist : List Op :=
  [ .write ⟨2, k1, 40, 0, [], .counter 40⟩,
    .write ⟨2, k2, 32, 0, [], .value 160 32⟩,
    .write ⟨2, k3, 20, 0, [d, d], .counter 20⟩,
    .write ⟨2, k1, 16, 2 ^ 52, [], .counter 16⟩,
    .finish 1 ]

example : run Row.empty hist = some ⟨[(k2n, ⟨32, 5120, 160, 160, true⟩)], ⟨76, 0, 0, 0, false⟩, 2⟩ := by decide +kernel
example : evTotal hist = ⟨108, 5120, some 160, some 160⟩ := by decide +kernel
/-- not enough fuel: the loop is still running -/
example : run Row.empty (hist.take 2 ++ [.write ⟨2, k3, 20, 0, [d], .counter 20⟩]) = none := by decide +kernel

/-- a row with a tie (two values of count 1.5) at the finish boundary: the enumeration decides which of the two
    survives, `finish_heaviest` holds for both -/
def tie : Row := ⟨[(k1, ⟨24, 0, 0, 0, false⟩), (k3, ⟨24, 0, 0, 0, false⟩), (k2n, ⟨16, 1792, 112, 112, true⟩)], ⟨64, 0, 0, 0, false⟩, 3⟩
example : RowWF tie := ⟨by unfold AggWF; decide +kernel, by unfold AllWF AggWF; decide +kernel, by decide +kernel⟩
example : (finish 1 tie).top = [(k1, ⟨24, 0, 0, 0, false⟩)] ∧ folded 1 tie ≠ [] := by decide +kernel
example : (finish 1 (reorder [tie.top[1], tie.top[0], tie.top[2]] tie)).top = [(k3, ⟨24, 0, 0, 0, false⟩)] := by decide +kernel
example : (finish 1 tie).tot = tie.tot ∧ whale tie = 128 := by decide +kernel
/-- hypotheses of the termination lemmas are satisfiable -/
example : 3 ≤ tie.top.length ∧ ∀ kv ∈ tie.top, 1 ≤ kv.2.cnt := by decide +kernel

/-! regressions the theorems exclude (variants of the model, each refuted on a concrete row) -/

/-- resample that forgets `s.Tail.Merge(rng, v)` -/
def resampleDrop (d : Key → Nat) (r : Row) : Row := { resample d r with tail := r.tail }
example : (resampleDrop (fun _ => 15) tie).tot ≠ tie.tot := by decide +kernel
example : (resample (fun _ => 15) tie).tot = tie.tot ∧ (resample (fun _ => 15) tie).top = [] := by decide +kernel

/-- FinishStringTop that folds the heavy side (`for i := 0; i < len-capacity`) -/
def finishWrong (cap : Int) (r : Row) : Row :=
  { r with top := (sortDesc r.top).drop (r.top.length - finCap cap),
           tail := foldInto r.tail ((sortDesc r.top).take (r.top.length - finCap cap)) }
example : ∃ a ∈ (finishWrong 1 tie).top, ∃ b ∈ (sortDesc tie.top).take 2, a.2.cnt < b.2.cnt := by decide +kernel

/-- FinishStringTop whose comparator is `int(b.count - a.count)` (truncation toward zero: counts less than 1 apart
    compare equal).  With counts 1.4375 and 1.0 enumerated in this order it keeps the lighter one. -/
def insTrunc (x : Entry) : List Entry → List Entry
  | [] => [x]
  | y :: ys => if 0 < (x.2.cnt - y.2.cnt).tdiv unit then x :: y :: ys else y :: insTrunc x ys
def sortTrunc : List Entry → List Entry
  | [] => []
  | x :: xs => insTrunc x (sortTrunc xs)
def frac : List Entry := [(k3, ⟨23, 0, 0, 0, false⟩), (k1, ⟨16, 0, 0, 0, false⟩)]
example : ∃ a ∈ (sortTrunc frac).take 1, ∃ b ∈ (sortTrunc frac).drop 1, a.2.cnt < b.2.cnt := by decide +kernel
example : (finish 1 ⟨frac, {}, 0⟩).top = [(k3, ⟨23, 0, 0, 0, false⟩)] := by decide +kernel

/-- FinishStringTop whose comparator looks at the weights ROUNDED to a coarser grid `g` (in 1/16 units) instead of the
    exact float64 counters: `g = unit` is each weight truncated to an integer, `g = 2·unit` is a float32 copy of the weight at
    2^24 (float32 spacing 2: 2^24 and 2^24+1 collapse).  Values that collapse keep the enumeration order, so the lighter
    one can end up retained.  With `g = 1` (the exact comparison of the code) it is `sortDesc`, for which
    `finish_heaviest` holds. -/
def insRounded (g : Int) (x : Entry) : List Entry → List Entry
  | [] => [x]
  | y :: ys => if y.2.cnt / g ≤ x.2.cnt / g then x :: y :: ys else y :: insRounded g x ys
def sortRounded (g : Int) : List Entry → List Entry
  | [] => []
  | x :: xs => insRounded g x (sortRounded g xs)
def cmpRounded (g : Int) (cap : Nat) (l : List Entry) : List Entry × List Entry :=
  ((sortRounded g l).take cap, (sortRounded g l).drop cap)

theorem insRounded_one (x : Entry) (l : List Entry) : insRounded 1 x l = insDesc x l := by
  induction l with
  | nil => rfl
  | cons y ys ih => simp only [insRounded, insDesc, ih, Int.ediv_one]

theorem sortRounded_one (l : List Entry) : sortRounded 1 l = sortDesc l := by
  induction l with
  | nil => rfl
  | cons x xs ih => simp [sortRounded, sortDesc, ih, insRounded_one]

/-- 1.0 enumerated before 1.4375 -/
def fracR : List Entry := [(k1, ⟨16, 0, 0, 0, false⟩), (k3, ⟨23, 0, 0, 0, false⟩)]
/-- 2^24 enumerated before 2^24 + 1 (both exact in float64, equal as float32) -/
def heavyR : List Entry := [(k1, ⟨16777216 * 16, 0, 0, 0, false⟩), (k3, ⟨16777217 * 16, 0, 0, 0, false⟩)]
example : ∃ a ∈ (cmpRounded unit 1 fracR).1, ∃ b ∈ (cmpRounded unit 1 fracR).2, a.2.cnt < b.2.cnt := by decide +kernel
example : ∃ a ∈ (cmpRounded (2 * unit) 1 heavyR).1, ∃ b ∈ (cmpRounded (2 * unit) 1 heavyR).2, a.2.cnt < b.2.cnt := by decide +kernel
/-- the exact comparison keeps the heavier one in both rows -/
example : (finish 1 ⟨fracR, {}, 0⟩).top = [(k3, ⟨23, 0, 0, 0, false⟩)] ∧
    (finish 1 ⟨heavyR, {}, 0⟩).top = [(k3, ⟨16777217 * 16, 0, 0, 0, false⟩)] := by decide +kernel
end Ex

end SH.C07
