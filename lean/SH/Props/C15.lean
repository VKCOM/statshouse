/-
  C15 — Metadata edits are versioned and optimistic-concurrency safe.

  "An entity edit succeeds only when it names the entity's current version, and every successful create or edit
   assigns a new, globally unique version greater than all previous ones; of several edits racing from the same
   version exactly one succeeds. Entity names are unique per type (and namespace), namespaces cannot be renamed,
   entities in a namespace must reference an existing namespace, and the journal returns each entity's latest
   version exactly once in ascending version order."

  Model: SH.Model.Meta (`save` = `saveV .fixed`, the current SaveEntity with both fixes described at `Variant`; `saveV .old` = pinned tree).
  A history is an arbitrary `List Op` (entity saves interleaved with mapping operations); concurrency = every
  interleaving of whole requests, because `eng.Do` runs the callbacks one at a time on the single RW connection.

  In the file: the case analysis of SaveEntity (`Shape`, `save_shape`), the invariant of the entity tables (`Inv`, `inv_upsert`,
  `step_inv`, `run_ind`) and which operation writes what (`save_frame`, `step_cases`, `step_ents`); then the theorems of the property
  in the order of its text, the paging client and the journal long-poll of the rpc handler (both beyond the quoted text), witnesses.
  The first part is also what Props/C16 (replay: `Inv`, `save_shape`, `createdState` / `editedState`, `newId_fresh`, `conflict_false`)
  and Props/C19 (`save_frame`, `uniq_upsert`) import this file for.
-/
import SH.Model.Meta
import SH.Lemmas.MetaFlood
import SH.Lemmas.Lists

namespace SH.C15
open SH.Meta

theorem le_maxVer : ∀ (l : List Entity) (e : Entity), e ∈ l → e.version ≤ maxVer l := by
  intro l
  induction l with
  | nil => intro e h; cases h
  | cons x xs ih =>
    intro e h
    simp only [maxVer, List.foldr_cons] at *
    rcases List.mem_cons.mp h with h | h
    · subst h; exact Nat.le_max_left _ _
    · exact Nat.le_trans (ih e h) (Nat.le_max_right _ _)

theorem maxVer_le : ∀ (l : List Entity) (m : Nat), (∀ e ∈ l, e.version ≤ m) → maxVer l ≤ m := by
  intro l
  induction l with
  | nil => intro m _; simp [maxVer]
  | cons x xs ih =>
    intro m h
    simp only [maxVer, List.foldr_cons] at *
    exact Nat.max_le.mpr ⟨h x (List.mem_cons_self), ih m (fun e he => h e (List.mem_cons_of_mem _ he))⟩

theorem insertById_perm (e : Entity) (l : List Entity) : (insertById e l).Perm (e :: l) :=
  Lists.ins_perm (fun x y : Entity => x.id < y.id) insertById (fun _ => rfl) (fun _ _ _ => rfl) e l

theorem mem_insertById (e x : Entity) (l : List Entity) : x ∈ insertById e l ↔ x = e ∨ x ∈ l :=
  (insertById_perm e l).mem_iff.trans List.mem_cons

theorem mem_replaceRow (r' x : Entity) (l : List Entity) :
    x ∈ replaceRow r' l ↔ (x = r' ∧ ∃ e ∈ l, e.id = r'.id) ∨ (x ∈ l ∧ x.id ≠ r'.id) := by
  unfold replaceRow
  simp only [List.mem_map]
  constructor
  · rintro ⟨e, he, hx⟩
    by_cases h : e.id = r'.id
    · simp [h] at hx; exact Or.inl ⟨hx.symm, e, he, h⟩
    · simp [h] at hx; subst hx; exact Or.inr ⟨he, h⟩
  · rintro (⟨hx, e, he, h⟩ | ⟨hx, h⟩)
    · exact ⟨e, he, by simp [h, hx]⟩
    · exact ⟨x, hx, by simp [h]⟩

theorem replaceRow_mem {r r' : Entity} {l : List Entity} (h : r ∈ l) (hid : r.id = r'.id) : r' ∈ replaceRow r' l :=
  (mem_replaceRow _ _ _).mpr (Or.inl ⟨rfl, r, h, hid⟩)

theorem rowOf_some {l : List Entity} {id : Int} {r : Entity} (h : rowOf l id = some r) : r ∈ l ∧ r.id = id := by
  unfold rowOf at h
  have h1 := List.mem_of_find?_eq_some h
  have h2 := List.find?_some h
  exact ⟨h1, by simpa using h2⟩

theorem rowOf_none {l : List Entity} {id : Int} (h : rowOf l id = none) : ∀ e ∈ l, e.id ≠ id := by
  unfold rowOf at h
  intro e he
  have := List.find?_eq_none.mp h e he
  simpa using this

def createdState (s : State) (a : SaveReq) (nsId : Int) : State :=
  { s with ents := insertById (createdRow a (newId s a) (maxVer s.ents + 1) nsId) s.ents, entSeq := newSeq s a,
           hist := s.hist ++ [mkEvent a (newId s a) (maxVer s.ents + 1) nsId] }

def editedState (s : State) (a : SaveReq) (r : Entity) (nsId : Int) : State :=
  { s with ents := replaceRow (editedRow r a (maxVer s.ents + 1) nsId) s.ents,
           hist := s.hist ++ [mkEvent a r.id (maxVer s.ents + 1) nsId] }

/-- every save is a failure that leaves the state untouched, a create or an edit -/
inductive Shape (var : Variant) (s : State) (a : SaveReq) : State × SaveOut → Prop
  | err (e : Err) : Shape var s a (s, .err e)
  | created (nsId : Int) (hns : resolveNs s a = .ok nsId)
      (hc : conflict s.ents (newId s a) nsId a.typ a.name = false)
      (hb : createBlocked s a = false) (he : effCreate s a = true) :
      Shape var s a (createdState s a nsId, .ok (mkEvent a (newId s a) (maxVer s.ents + 1) nsId) true)
  | edited (nsId : Int) (r : Entity) (hns : resolveNs s a = .ok nsId)
      (hr : rowOf s.ents a.id = some r) (hv : r.version = a.oldVersion)
      (hc : conflict s.ents r.id nsId r.typ a.name = false)
      (hck : checkNamespace s a = none) (hlate : lateCheck var s a = none)
      (hb : createBlocked s a = false) (he : effCreate s a = false) (htyp : typeMatches var r a = true) :
      Shape var s a (editedState s a r nsId, .ok (mkEvent a r.id (maxVer s.ents + 1) nsId) false)

theorem saveEdit_shape (var : Variant) (s : State) (a : SaveReq) (nsId : Int)
    (hns : resolveNs s a = .ok nsId) (hck : checkNamespace s a = none) (hlate : lateCheck var s a = none)
    (hb : createBlocked s a = false) (he : effCreate s a = false) :
    Shape var s a (saveEdit var s a nsId) := by
  unfold saveEdit
  cases hr : rowOf s.ents a.id with
  | none => exact .err _
  | some r =>
    simp only
    by_cases hv : rowMatches var r a = true
    · simp only [hv, if_true]
      by_cases hc : conflict s.ents r.id nsId r.typ a.name = true
      · simp only [hc, if_true]; exact .err _
      · simp only [hc]
        have hv2 : versionMatches r a = true ∧ typeMatches var r a = true := by simpa [rowMatches] using hv
        have hv' : r.version = a.oldVersion := by simpa [versionMatches] using hv2.1
        exact .edited nsId r hns hr hv' (by simpa using hc) hck hlate hb he hv2.2
    · simp only [hv]; exact .err _

theorem save_shape (var : Variant) (s : State) (a : SaveReq) : Shape var s a (saveV var s a) := by
  unfold saveV
  cases hck : checkNamespace s a with
  | some e => exact .err e
  | none =>
    simp only
    cases hns : resolveNs s a with
    | error e => exact .err e
    | ok nsId =>
      simp only
      unfold saveResolved
      by_cases hb : createBlocked s a = true
      · simp only [hb, if_true]; exact .err _
      · simp only [hb]
        have hb' : createBlocked s a = false := by simpa using hb
        by_cases he : effCreate s a = true
        · simp only [he, if_true]
          unfold saveCreate
          by_cases hc : conflict s.ents (newId s a) nsId a.typ a.name = true
          · simp only [hc, if_true]; exact .err _
          · simp only [hc]
            exact .created nsId hns (by simpa using hc) hb' he
        · simp only [he]
          have he' : effCreate s a = false := by simpa using he
          cases hl : lateCheck var s a with
          | some e => exact .err e
          | none => exact saveEdit_shape var s a nsId hns hck hl hb' he'

/-- the row `r` a successful edit `a` of state `s` found -/
structure EditOk (s : State) (a : SaveReq) (r : Entity) : Prop where
  mem : r ∈ s.ents
  id_eq : r.id = a.id
  version_eq : r.version = a.oldVersion
  typ_eq : r.typ = a.typ
  notCreate : effCreate s a = false

theorem edit_ok_inversion {s : State} {a : SaveReq} {s' : State} {ev : Event} (h : save s a = (s', .ok ev false)) :
    ∃ nsId r, EditOk s a r ∧ s' = editedState s a r nsId ∧ ev = mkEvent a r.id (maxVer s.ents + 1) nsId := by
  have hs := save_shape .fixed s a
  unfold save at h
  rw [h] at hs
  cases hs with
  | edited nsId r hns hr hv hc hck hlate hb he htyp =>
    obtain ⟨hrm, hrid⟩ := rowOf_some hr
    exact ⟨nsId, r, ⟨hrm, hrid, hv, by simpa [typeMatches] using htyp, he⟩, rfl, rfl⟩

theorem shape_mem {var : Variant} {s : State} {a : SaveReq} {p : State × SaveOut} (hs : Shape var s a p) :
    ∀ x ∈ p.1.ents, x.version = maxVer s.ents + 1 ∨ x ∈ s.ents := by
  intro x hx
  cases hs with
  | err e => exact Or.inr hx
  | created nsId hns hc hb he =>
    rcases (mem_insertById _ _ _).mp hx with h | h
    · exact Or.inl (h ▸ rfl)
    · exact Or.inr h
  | edited nsId r hns hr hv hc hck hlate hb he =>
    rcases (mem_replaceRow _ _ _).mp hx with ⟨h, _⟩ | ⟨h, _⟩
    · exact Or.inl (h ▸ rfl)
    · exact Or.inr h

theorem failed_save_unchanged (s : State) (a : SaveReq) (e : Err) (h : (save s a).2 = .err e) : (save s a).1 = s := by
  have hs := save_shape .fixed s a
  unfold save at h ⊢
  generalize saveV .fixed s a = p at hs h
  cases hs with
  | err e => rfl
  | created nsId hns hc hb he => cases h
  | edited nsId r hns hr hv hc hck hlate hb he => cases h

theorem save_hist (s : State) (a : SaveReq) :
    (save s a).1.hist = s.hist ++ (match (save s a).2 with | .ok ev _ => [ev] | .err _ => []) := by
  have hs := save_shape .fixed s a
  unfold save
  generalize saveV .fixed s a = p at hs
  cases hs with
  | err e => exact (List.append_nil _).symm
  | created nsId hns hc hb he => rfl
  | edited nsId r hns hr hv hc hck hlate hb he htyp => rfl

theorem edit_rejected (s : State) (a : SaveReq) (hedit : effCreate s a = false)
    (hno : ∀ r ∈ s.ents, r.id = a.id → r.version = a.oldVersion → r.typ ≠ a.typ) : ∃ e, save s a = (s, .err e) := by
  have hs := save_shape .fixed s a
  unfold save
  generalize saveV .fixed s a = p at hs
  cases hs with
  | err e => exact ⟨e, rfl⟩
  | created nsId hns hc hb he => rw [hedit] at he; cases he
  | edited nsId r hns hr hv hc hck hlate hb he htyp =>
    obtain ⟨hrm, hrid⟩ := rowOf_some hr
    exact absurd (by simpa [typeMatches] using htyp) (hno r hrm hrid hv)

/-- a UNIQUE constraint (`Same` = agree on its columns) survives an upsert: the table after it holds the written row `r` and old rows
    satisfying `Q`, none of which collides with `r` -/
theorem uniq_upsert {α : Type} {Same : α → α → Prop} {Q : α → Prop} {old new : List α} {r : α} (hsym : ∀ a b, Same a b → Same b a)
    (hmem : ∀ x ∈ new, x = r ∨ (x ∈ old ∧ Q x)) (hfresh : ∀ x ∈ old, Q x → ¬ Same x r)
    (hold : ∀ a ∈ old, ∀ b ∈ old, Same a b → a = b) : ∀ a ∈ new, ∀ b ∈ new, Same a b → a = b := by
  intro a ha b hb h
  rcases hmem a ha with rfl | ha <;> rcases hmem b hb with rfl | hb
  · rfl
  · exact absurd (hsym _ _ h) (hfresh b hb.1 hb.2)
  · exact absurd h (hfresh a ha.1 ha.2)
  · exact hold a ha.1 b hb.1 h

/-- the entity tables in a reachable state. `idUniq`, `verUniq`, `nameUniq` are PRIMARY KEY (id), UNIQUE (version) and
    UNIQUE (namespace_id, type, name), which SQLite enforces; they speak of rows as values, so a row listed twice is not excluded
    (that is `Distinct`, below). `histBound`, `histAsc`, `seqBound`, `refOk` are consequences of what SaveEntity does. -/
structure Inv (s : State) : Prop where
  idUniq : ∀ e1 ∈ s.ents, ∀ e2 ∈ s.ents, e1.id = e2.id → e1 = e2
  verUniq : ∀ e1 ∈ s.ents, ∀ e2 ∈ s.ents, e1.version = e2.version → e1 = e2
  histBound : ∀ h ∈ s.hist, h.version ≤ maxVer s.ents
  histAsc : s.hist.Pairwise (fun h1 h2 => h1.version < h2.version)
  seqBound : ∀ e ∈ s.ents, e.id ≤ (s.entSeq : Int)
  nameUniq : ∀ e1 ∈ s.ents, ∀ e2 ∈ s.ents, e1.nsId = e2.nsId → e1.typ = e2.typ → e1.name = e2.name → e1 = e2
  refOk : ∀ e ∈ s.ents, e.nsId ≠ 0 → ∃ n ∈ s.ents, n.id = e.nsId ∧ n.typ = tNamespace

theorem inv_empty : Inv State.empty := by
  constructor <;> simp [State.empty, maxVer]

theorem conflict_false {ents : List Entity} {selfId nsId : Int} {typ : Nat} {name : Name}
    (h : conflict ents selfId nsId typ name = false) :
    ∀ e ∈ ents, e.id ≠ selfId → ¬ (e.nsId = nsId ∧ e.typ = typ ∧ e.name = name) := by
  intro e he hid hx
  unfold conflict at h
  have := List.any_eq_false.mp h e he
  simp [hid, hx.1, hx.2.1, hx.2.2] at this

theorem newId_fresh (s : State) (a : SaveReq) (hi : Inv s) (he : effCreate s a = true) :
    ∀ e ∈ s.ents, e.id ≠ newId s a := by
  intro e hmem
  unfold newId
  unfold effCreate at he
  by_cases hneg : a.id < 0
  · simp only [hneg, if_true] at he ⊢
    have : rowOf s.ents a.id = none := by simpa using he
    exact rowOf_none this e hmem
  · simp only [hneg]
    have := hi.seqBound e hmem
    push_cast
    omega

theorem resolveNs_spec {s : State} {a : SaveReq} {nsId : Int} (h : resolveNs s a = .ok nsId) :
    (needsNs a = true → ∃ n ∈ s.ents, n.typ = tNamespace ∧ n.name = ⟨0, a.name.ns⟩ ∧ nsId = n.id) ∧
    (needsNs a = false → nsId = 0) := by
  unfold resolveNs at h
  constructor
  · intro hn
    rw [if_pos hn] at h
    cases hl : nsLookup s.ents a.name.ns with
    | none => simp [hl] at h
    | some n =>
      simp only [hl] at h
      injection h with h
      have h2 := List.find?_some hl
      simp only [Bool.and_eq_true, beq_iff_eq] at h2
      exact ⟨n, List.mem_of_find?_eq_some hl, h2.1, h2.2, h.symm⟩
  · intro hn
    simp only [hn, Bool.false_eq_true, if_false] at h
    injection h with h
    exact h.symm

theorem resolveNs_ref {s : State} {a : SaveReq} {nsId : Int} (h : resolveNs s a = .ok nsId) :
    nsId = 0 ∨ ∃ n ∈ s.ents, n.id = nsId ∧ n.typ = tNamespace := by
  cases hn : needsNs a with
  | false => exact Or.inl ((resolveNs_spec h).2 hn)
  | true =>
    obtain ⟨n, hm, ht, _, hid⟩ := (resolveNs_spec h).1 hn
    exact Or.inr ⟨n, hm, hid.symm, ht⟩

theorem replaceRow_persist {s : State} (hi : Inv s) {r : Entity} (hrm : r ∈ s.ents) (a : SaveReq) (v : Nat) (nsId : Int) :
    ∀ n ∈ s.ents, ∃ n' ∈ replaceRow (editedRow r a v nsId) s.ents, n'.id = n.id ∧ n'.typ = n.typ := by
  intro n hn
  by_cases h : n.id = r.id
  · have hnr : n = r := hi.idUniq n hn r hrm h
    subst hnr
    exact ⟨_, replaceRow_mem hrm rfl, rfl, rfl⟩
  · exact ⟨n, (mem_replaceRow _ _ _).mpr (Or.inr ⟨hn, h⟩), rfl, rfl⟩

theorem shape_persist {var : Variant} {s : State} {a : SaveReq} {p : State × SaveOut} (hi : Inv s) (hs : Shape var s a p) :
    ∀ n ∈ s.ents, ∃ n' ∈ p.1.ents, n'.id = n.id ∧ n'.typ = n.typ := by
  cases hs with
  | err e => exact fun n hn => ⟨n, hn, rfl, rfl⟩
  | created nsId hns hc hb he => exact fun n hn => ⟨n, (mem_insertById _ _ _).mpr (Or.inr hn), rfl, rfl⟩
  | edited nsId r hns hr hv hc hck hlate hb he => exact replaceRow_persist hi (rowOf_some hr).1 a _ nsId

theorem hist_lt_new {s : State} (hi : Inv s) : ∀ h ∈ s.hist, h.version < maxVer s.ents + 1 :=
  fun h hh => Nat.lt_succ_of_le (hi.histBound h hh)

/-- both writes of SaveEntity put one row `r'` carrying the fresh version into the table — over the row of the same id, if there is
    one — and append one event with that version to the history -/
theorem inv_upsert {s t : State} {r' : Entity} {ev : Event} (hi : Inv s)
    (hmem : ∀ x, x ∈ t.ents ↔ x = r' ∨ (x ∈ s.ents ∧ x.id ≠ r'.id))
    (hver : r'.version = maxVer s.ents + 1) (hhist : t.hist = s.hist ++ [ev]) (hev : ev.version = maxVer s.ents + 1)
    (hseq : s.entSeq ≤ t.entSeq) (hid : r'.id ≤ (t.entSeq : Int))
    (hname : ∀ e ∈ s.ents, e.id ≠ r'.id → ¬ (e.nsId = r'.nsId ∧ e.typ = r'.typ ∧ e.name = r'.name))
    (hkeep : ∀ n ∈ s.ents, ∃ n' ∈ t.ents, n'.id = n.id ∧ n'.typ = n.typ)
    (href : r'.nsId = 0 ∨ ∃ n ∈ s.ents, n.id = r'.nsId ∧ n.typ = tNamespace) : Inv t := by
  have hmax : maxVer s.ents + 1 ≤ maxVer t.ents := hver ▸ le_maxVer _ _ ((hmem r').mpr (Or.inl rfl))
  have hm : ∀ x ∈ t.ents, x = r' ∨ (x ∈ s.ents ∧ x.id ≠ r'.id) := fun x hx => (hmem x).mp hx
  constructor
  · exact uniq_upsert (fun _ _ h => h.symm) hm (fun _ _ h => h) hi.idUniq
  · refine uniq_upsert (fun _ _ h => h.symm) hm (fun x hx _ => ?_) hi.verUniq
    have := le_maxVer _ _ hx
    omega
  · intro h hh
    rw [hhist] at hh
    rcases List.mem_append.mp hh with hh | hh
    · have := hi.histBound h hh; omega
    · rw [List.mem_singleton.mp hh]; omega
  · rw [hhist]
    refine List.pairwise_append.mpr ⟨hi.histAsc, List.pairwise_singleton _ _, ?_⟩
    intro h1 hh1 h2 hh2
    rw [List.mem_singleton.mp hh2, hev]
    exact hist_lt_new hi h1 hh1
  · intro e h
    rcases hm e h with h | h
    · subst h; exact hid
    · have := hi.seqBound e h.1; omega
  · intro e1 h1 e2 h2 hn ht hnm
    exact uniq_upsert (Same := fun a b => a.nsId = b.nsId ∧ a.typ = b.typ ∧ a.name = b.name)
      (fun _ _ h => ⟨h.1.symm, h.2.1.symm, h.2.2.symm⟩) hm hname
      (fun a ha b hb h => hi.nameUniq a ha b hb h.1 h.2.1 h.2.2) e1 h1 e2 h2 ⟨hn, ht, hnm⟩
  · intro e h hne
    have hlift : ∀ n ∈ s.ents, n.id = e.nsId → n.typ = tNamespace → ∃ n' ∈ t.ents, n'.id = e.nsId ∧ n'.typ = tNamespace := by
      intro n hn hnid hnt
      obtain ⟨n', hn', hid', ht'⟩ := hkeep n hn
      exact ⟨n', hn', hid'.trans hnid, ht'.trans hnt⟩
    rcases hm e h with h | h
    · subst h
      rcases href with h0 | ⟨n, hn, hnid, hnt⟩
      · exact absurd h0 hne
      · exact hlift n hn hnid hnt
    · obtain ⟨n, hn, hnid, hnt⟩ := hi.refOk e h.1 hne
      exact hlift n hn hnid hnt

theorem inv_created {s : State} {a : SaveReq} {nsId : Int} (hi : Inv s) (hns : resolveNs s a = .ok nsId)
    (hc : conflict s.ents (newId s a) nsId a.typ a.name = false) (he : effCreate s a = true) :
    Inv (createdState s a nsId) := by
  have hfresh := newId_fresh s a hi he
  refine inv_upsert (r' := createdRow a (newId s a) (maxVer s.ents + 1) nsId) hi ?_ rfl rfl rfl ?_ ?_
    (conflict_false hc) (fun n hn => ⟨n, (mem_insertById _ _ _).mpr (Or.inr hn), rfl, rfl⟩) (resolveNs_ref hns)
  · intro x
    exact (mem_insertById _ _ _).trans (or_congr Iff.rfl ⟨fun h => ⟨h, hfresh x h⟩, fun h => h.1⟩)
  · simp only [createdState, newSeq]
    split <;> omega
  · simp only [createdState, createdRow, newId, newSeq]
    split
    · omega
    · exact Int.le_refl _

theorem inv_edited {s : State} {a : SaveReq} {nsId : Int} {r : Entity} (hi : Inv s) (hns : resolveNs s a = .ok nsId)
    (hr : rowOf s.ents a.id = some r) (hc : conflict s.ents r.id nsId r.typ a.name = false) :
    Inv (editedState s a r nsId) := by
  obtain ⟨hrm, _⟩ := rowOf_some hr
  refine inv_upsert (r' := editedRow r a (maxVer s.ents + 1) nsId) hi ?_ rfl rfl rfl (Nat.le_refl _) (hi.seqBound r hrm)
    (conflict_false hc) (replaceRow_persist hi hrm a _ nsId) (resolveNs_ref hns)
  intro x
  exact (mem_replaceRow _ _ _).trans (or_congr ⟨fun h => h.1, fun h => ⟨h, r, hrm, rfl⟩⟩ Iff.rfl)

theorem shape_inv {var : Variant} {s : State} {a : SaveReq} {p : State × SaveOut} (hi : Inv s) (hs : Shape var s a p) :
    Inv p.1 := by
  cases hs with
  | err e => exact hi
  | created nsId hns hc hb he => exact inv_created hi hns hc he
  | edited nsId r hns hr hv hc hck hlate hb he => exact inv_edited hi hns hr hc

theorem save_inv (s : State) (a : SaveReq) (hi : Inv s) : Inv (save s a).1 := shape_inv hi (save_shape .fixed s a)

theorem inv_congr {s t : State} (h1 : t.ents = s.ents) (h2 : t.hist = s.hist) (h3 : t.entSeq = s.entSeq) (hi : Inv s) : Inv t := by
  constructor
  · rw [h1]; exact hi.idUniq
  · rw [h1]; exact hi.verUniq
  · rw [h1, h2]; exact hi.histBound
  · rw [h2]; exact hi.histAsc
  · rw [h1, h3]; exact hi.seqBound
  · rw [h1]; exact hi.nameUniq
  · rw [h1]; exact hi.refOk

theorem getOrCreate_ents (c : Cfg) (s : State) (m k now : Nat) :
    (getOrCreate c s m k now).1.ents = s.ents ∧ (getOrCreate c s m k now).1.hist = s.hist ∧
    (getOrCreate c s m k now).1.entSeq = s.entSeq := by
  have hs := MetaFlood.goc_shape c s m k now
  generalize getOrCreate c s m k now = p at hs
  cases hs <;> exact ⟨rfl, rfl, rfl⟩

theorem save_frame (s : State) (a : SaveReq) :
    (save s a).1.flood = s.flood ∧ (save s a).1.lastCreated = s.lastCreated ∧ (save s a).1.mapSeq = s.mapSeq ∧
    (save s a).1.maps = s.maps := by
  have hs := save_shape .fixed s a
  unfold save
  generalize saveV .fixed s a = p at hs
  cases hs <;> exact ⟨rfl, rfl, rfl, rfl⟩

theorem step_cases (c : Cfg) (s : State) (op : Op) :
    (∃ a, op = .save a) ∨
    ((∀ a, op ≠ .save a) ∧ (step c s op).ents = s.ents ∧ (step c s op).hist = s.hist ∧ (step c s op).entSeq = s.entSeq) := by
  cases op with
  | save a => exact Or.inl ⟨a, rfl⟩
  | getOrCreate m k now => exact Or.inr ⟨(fun _ h => nomatch h), getOrCreate_ents c s m k now⟩
  | put kvs =>
    obtain ⟨h1, h2, h3, _⟩ := MetaFlood.putMany_frame kvs s
    exact Or.inr ⟨(fun _ h => nomatch h), h1, h2, h3⟩
  | delete ids => exact Or.inr ⟨(fun _ h => nomatch h), rfl, rfl, rfl⟩
  | reset m l now =>
    refine Or.inr ⟨(fun _ h => nomatch h), ?_⟩
    simp only [step]
    rw [MetaFlood.resetFlood_eq]
    exact ⟨rfl, rfl, rfl⟩

theorem step_inv (c : Cfg) (s : State) (op : Op) (hi : Inv s) : Inv (step c s op) := by
  rcases step_cases c s op with ⟨a, rfl⟩ | ⟨_, h1, h2, h3⟩
  · exact save_inv s a hi
  · exact inv_congr h1 h2 h3 hi

theorem step_ents (c : Cfg) (s : State) (op : Op) {R : List Entity → Prop} (h0 : R s.ents) (hsave : ∀ a, R (save s a).1.ents) :
    R (step c s op).ents := by
  rcases step_cases c s op with ⟨a, rfl⟩ | ⟨_, h1, _, _⟩
  · exact hsave a
  · rw [h1]
    exact h0

theorem run_ind (c : Cfg) {P : State → Prop} (hstep : ∀ s op, Inv s → P s → P (step c s op)) :
    ∀ (ops : List Op) (s : State), Inv s → P s → P (run c s ops) :=
  fun ops _ hi h => (List.foldlRecOn (motive := fun t => Inv t ∧ P t) ops (step c) ⟨hi, h⟩
    (fun t ht op _ => ⟨step_inv c t op ht.1, hstep t op ht.1 ht.2⟩)).2

theorem run_inv (c : Cfg) (ops : List Op) (s : State) (hi : Inv s) : Inv (run c s ops) :=
  run_ind c (fun s op hi _ => step_inv c s op hi) ops s hi hi

theorem reachable_inv (c : Cfg) (ops : List Op) : Inv (run c State.empty ops) := run_inv c ops _ inv_empty

/-- "An entity edit succeeds only when it names the entity's current version": a successful save that did not create
    the entity found a row with the requested id whose version is exactly the requested old version. -/
theorem edit_needs_current_version (s : State) (a : SaveReq) (s' : State) (ev : Event)
    (h : save s a = (s', .ok ev false)) :
    ∃ r ∈ s.ents, r.id = a.id ∧ r.version = a.oldVersion ∧ ev.id = a.id := by
  obtain ⟨nsId, r, hr, _, rfl⟩ := edit_ok_inversion h
  exact ⟨r, hr.mem, hr.id_eq, hr.version_eq, hr.id_eq⟩

/-- … and the converse direction that matters for safety: a request that is an edit (not turned into a create) and
    names a version the entity does not have fails and leaves the state unchanged. -/
theorem stale_edit_rejected (s : State) (a : SaveReq) (hedit : effCreate s a = false)
    (hstale : ∀ r ∈ s.ents, r.id = a.id → r.version ≠ a.oldVersion) :
    ∃ e, save s a = (s, .err e) :=
  edit_rejected s a hedit (fun r hr hid hv => absurd hv (hstale r hr hid))

/-- the new version is max+1: greater than every current version and (in reachable states) than every version that
    was ever assigned (the history keeps all of them) -/
theorem version_is_max_plus_one (s : State) (a : SaveReq) (s' : State) (ev : Event) (cr : Bool)
    (h : save s a = (s', .ok ev cr)) :
    ev.version = maxVer s.ents + 1 ∧ (∀ e ∈ s.ents, e.version < ev.version) ∧
    (Inv s → ∀ x ∈ s.hist, x.version < ev.version) ∧ (Inv s → maxVer s'.ents = ev.version) := by
  have hs := save_shape .fixed s a
  unfold save at h
  rw [h] at hs
  have hlt : ∀ e ∈ s.ents, e.version < maxVer s.ents + 1 := fun e he => Nat.lt_succ_of_le (le_maxVer _ _ he)
  have hle : maxVer s'.ents ≤ maxVer s.ents + 1 := by
    apply maxVer_le
    intro e he
    rcases shape_mem hs e he with h1 | h1
    · exact Nat.le_of_eq h1
    · exact Nat.le_of_lt (hlt e h1)
  cases hs with
  | created nsId hns hc hb he =>
    refine ⟨rfl, hlt, fun hi => hist_lt_new hi, fun _ => Nat.le_antisymm hle ?_⟩
    exact le_maxVer _ (createdRow a (newId s a) (maxVer s.ents + 1) nsId) ((mem_insertById _ _ _).mpr (Or.inl rfl))
  | edited nsId r hns hr hv hc hck hlate hb he =>
    refine ⟨rfl, hlt, fun hi => hist_lt_new hi, fun _ => Nat.le_antisymm hle ?_⟩
    exact le_maxVer _ (editedRow r a (maxVer s.ents + 1) nsId)
      (replaceRow_mem (rowOf_some hr).1 rfl)

/-- every successful edit — NO hypothesis on the payload: also one that re-saves the entity unchanged (same name, data, delete
    time) — gets the fresh maximal version, which is greater than the version it named, appends exactly one history row and leaves
    the entity's row at the new version (so the journal reports it) -/
theorem edit_assigns_fresh_max_version (s : State) (a : SaveReq) (s' : State) (ev : Event) (h : save s a = (s', .ok ev false)) :
    ev.version = maxVer s.ents + 1 ∧ a.oldVersion < ev.version ∧ s'.hist = s.hist ++ [ev] ∧
    ∃ r' ∈ s'.ents, r'.id = a.id ∧ r'.version = ev.version := by
  obtain ⟨nsId, r, ⟨hrm, hrid, hv, _, _⟩, rfl, rfl⟩ := edit_ok_inversion h
  have hle := le_maxVer _ _ hrm
  refine ⟨rfl, by simp only [mkEvent]; omega, rfl, editedRow r a (maxVer s.ents + 1) nsId, ?_, hrid, rfl⟩
  exact replaceRow_mem hrm rfl

theorem maxVer_mono_save (s : State) (a : SaveReq) (hi : Inv s) : maxVer s.ents ≤ maxVer (save s a).1.ents := by
  cases hout : (save s a).2 with
  | err e => rw [failed_save_unchanged s a e hout]; exact Nat.le_refl _
  | ok ev cr =>
    obtain ⟨h1, _, _, h4⟩ := version_is_max_plus_one s a _ ev cr (Prod.ext rfl hout)
    rw [h4 hi, h1]; exact Nat.le_succ _

/-- versions returned by the successful saves of a history, in order of execution -/
def okVersions (c : Cfg) : State → List Op → List Nat
  | _, [] => []
  | s, .save a :: ops =>
    match (save s a).2 with
    | .ok ev _ => ev.version :: okVersions c (save s a).1 ops
    | .err _ => okVersions c (save s a).1 ops
  | s, op :: ops => okVersions c (step c s op) ops

theorem okVersions_step (c : Cfg) (s : State) (op : Op) (ops : List Op) (h : ∀ a, op ≠ .save a) :
    okVersions c s (op :: ops) = okVersions c (step c s op) ops := by
  cases op with
  | save a => exact absurd rfl (h a)
  | _ => rfl

theorem hist_okVersions (c : Cfg) : ∀ (ops : List Op) (s : State),
    (run c s ops).hist.map (·.version) = s.hist.map (·.version) ++ okVersions c s ops := by
  intro ops
  induction ops with
  | nil => intro s; simp [run, okVersions]
  | cons op ops ih =>
    intro s
    show (run c (step c s op) ops).hist.map (·.version) = _
    rw [ih]
    rcases step_cases c s op with ⟨a, rfl⟩ | ⟨hns, _, h2, _⟩
    · simp only [step, okVersions, save_hist s a]
      cases (save s a).2 <;> simp
    · rw [okVersions_step c s op ops hns, h2]

/-- "every successful create or edit assigns a new, globally unique version greater than all previous ones": over any
    history (entity requests interleaved with anything else) the versions handed out are strictly increasing. -/
theorem versions_strictly_increasing (c : Cfg) : ∀ (ops : List Op) (s : State), Inv s →
    (okVersions c s ops).Pairwise (· < ·) := by
  intro ops s hi
  -- the history table is strictly ascending (`Inv.histAsc`: every save appends max+1) and these versions are its tail
  have h := List.pairwise_map.mpr (run_inv c ops s hi).histAsc
  rw [hist_okVersions] at h
  exact (List.pairwise_append.mp h).2.1

/-- version `v` has been used and is no longer anybody's current version -/
def Dead (l : List Entity) (v : Nat) : Prop := v ≤ maxVer l ∧ ∀ e ∈ l, e.version ≠ v

theorem dead_save (s : State) (a : SaveReq) (v : Nat) (hi : Inv s) (hd : Dead s.ents v) : Dead (save s a).1.ents v := by
  refine ⟨Nat.le_trans hd.1 (maxVer_mono_save s a hi), ?_⟩
  intro e he
  rcases shape_mem (save_shape .fixed s a) e he with h | h
  · have := hd.1
    omega
  · exact hd.2 e h

theorem win_dead (s : State) (a : SaveReq) (s' : State) (ev : Event) (hi : Inv s)
    (h : save s a = (s', .ok ev false)) : Dead s'.ents a.oldVersion := by
  have hmono := maxVer_mono_save s a hi
  rw [h] at hmono
  obtain ⟨nsId, r, ⟨hrm, _, hv, _, _⟩, rfl, _⟩ := edit_ok_inversion h
  have hle : a.oldVersion ≤ maxVer s.ents := hv ▸ le_maxVer _ _ hrm
  refine ⟨Nat.le_trans hle hmono, ?_⟩
  · intro e hmem
    rcases (mem_replaceRow _ _ _).mp hmem with ⟨h1, _⟩ | ⟨h1, h2⟩
    · subst h1; simp only [editedRow]; omega
    · intro hev
      have : e = r := hi.verUniq e h1 r hrm (by rw [hev, hv])
      subst this
      exact h2 rfl

/-- the request is a successful edit that started from version `v` (of whatever entity: versions are global) -/
def isWin (s : State) (a : SaveReq) (v : Nat) : Bool :=
  match (save s a).2 with
  | .ok _ false => a.oldVersion == v
  | _ => false

/-- number of such edits in a history -/
def winners (c : Cfg) : State → List Op → Nat → Nat
  | _, [], _ => 0
  | s, .save a :: ops, v => (if isWin s a v then 1 else 0) + winners c (save s a).1 ops v
  | s, op :: ops, v => winners c (step c s op) ops v

theorem winners_step (c : Cfg) (s : State) (op : Op) (ops : List Op) (v : Nat) (h : ∀ a, op ≠ .save a) :
    winners c s (op :: ops) v = winners c (step c s op) ops v := by
  cases op with
  | save a => exact absurd rfl (h a)
  | _ => rfl

theorem isWin_true {s : State} {a : SaveReq} {v : Nat} (h : isWin s a v = true) :
    a.oldVersion = v ∧ ∃ ev, (save s a).2 = .ok ev false := by
  unfold isWin at h
  cases hout : (save s a).2 with
  | err e => simp [hout] at h
  | ok ev cr =>
    cases cr with
    | true => simp [hout] at h
    | false =>
      simp only [hout, beq_iff_eq] at h
      exact ⟨h, ev, rfl⟩

theorem isWin_false_of_dead (s : State) (a : SaveReq) (v : Nat) (hd : Dead s.ents v) : isWin s a v = false := by
  cases hw : isWin s a v with
  | false => rfl
  | true =>
    obtain ⟨rfl, ev, hout⟩ := isWin_true hw
    obtain ⟨r, hr, _, hv, _⟩ := edit_needs_current_version s a _ ev (Prod.ext rfl hout)
    exact absurd hv (hd.2 r hr)

theorem dead_no_winners (c : Cfg) (v : Nat) : ∀ (ops : List Op) (s : State), Inv s → Dead s.ents v → winners c s ops v = 0 := by
  intro ops
  induction ops with
  | nil => intro s _ _; rfl
  | cons op ops ih =>
    intro s hi hd
    rcases step_cases c s op with ⟨a, rfl⟩ | ⟨hns, _⟩
    · simp only [winners, isWin_false_of_dead s a v hd]
      simpa using ih _ (save_inv s a hi) (dead_save s a v hi hd)
    · rw [winners_step c s op ops v hns]
      exact ih _ (step_inv c s op hi)
        (step_ents c s op (R := (Dead · v)) hd (fun a => dead_save s a v hi hd))

/-- "of several edits racing from the same version [at most] one succeeds", for EVERY schedule: in any history — the racing
    edits in any order, interleaved with any other requests — at most one successful edit started from version `v`. -/
theorem at_most_one_winner (c : Cfg) (v : Nat) : ∀ (ops : List Op) (s : State), Inv s → winners c s ops v ≤ 1 := by
  intro ops
  induction ops with
  | nil => intro s _; simp [winners]
  | cons op ops ih =>
    intro s hi
    rcases step_cases c s op with ⟨a, rfl⟩ | ⟨hns, _⟩
    · simp only [winners]
      by_cases hw : isWin s a v = true
      · simp only [hw, if_true]
        have hd : Dead (save s a).1.ents v := by
          obtain ⟨rfl, ev, hout⟩ := isWin_true hw
          exact win_dead s a _ ev hi (Prod.ext rfl hout)
        rw [dead_no_winners c v ops _ (save_inv s a hi) hd]
        exact Nat.le_refl _
      · simp only [hw]
        simpa using ih _ (save_inv s a hi)
    · rw [winners_step c s op ops v hns]
      exact ih _ (step_inv c s op hi)

/-- number of successful requests when `rs` is executed sequentially from `s` -/
def okCount : State → List SaveReq → Nat
  | _, [] => 0
  | s, a :: as => (match (save s a).2 with | .ok _ _ => 1 | .err _ => 0) + okCount (save s a).1 as

theorem effCreate_persist (s : State) (a b : SaveReq) (hi : Inv s) (h : effCreate s b = false) :
    effCreate (save s a).1 b = false := by
  unfold effCreate at h ⊢
  by_cases hneg : b.id < 0
  · simp only [hneg, if_true] at h ⊢
    cases hr : rowOf s.ents b.id with
    | none => simp [hr] at h
    | some r =>
      obtain ⟨hrm, hrid⟩ := rowOf_some hr
      obtain ⟨n', hn', hid', _⟩ := shape_persist hi (save_shape .fixed s a) r hrm
      cases hx : rowOf (save s a).1.ents b.id with
      | none => exact absurd (hid'.trans hrid) (rowOf_none hx n' hn')
      | some _ => rfl
  · simp only [hneg] at h ⊢
    exact h

theorem okCount_dead (v : Nat) : ∀ (rs : List SaveReq) (t : State), Dead t.ents v →
    (∀ a ∈ rs, a.oldVersion = v ∧ effCreate t a = false) → okCount t rs = 0 := by
  intro rs
  induction rs with
  | nil => intro t _ _; rfl
  | cons a as ih =>
    intro t hd hall
    obtain ⟨hv, hec⟩ := hall a (List.mem_cons_self)
    obtain ⟨e, he⟩ := edit_rejected t a hec (fun r hr _ hv' => absurd (hv'.trans hv) (hd.2 r hr))
    simp only [okCount, he]
    simpa using ih t hd (fun b hb => hall b (List.mem_cons_of_mem _ hb))

/-- "of several edits racing from the same version exactly one succeeds": take any non-empty list of requests that all
    name version `v` and each of which would succeed as an edit if it ran alone; executed in ANY order (the list is
    arbitrary) exactly one of them succeeds. -/
theorem one_winner (s : State) (hi : Inv s) (v : Nat) (rs : List SaveReq) (hne : rs ≠ [])
    (hall : ∀ a ∈ rs, a.oldVersion = v ∧ ∃ ev, (save s a).2 = .ok ev false) : okCount s rs = 1 := by
  cases rs with
  | nil => exact absurd rfl hne
  | cons a as =>
    obtain ⟨hv, ev, hok⟩ := hall a (List.mem_cons_self)
    have hd : Dead (save s a).1.ents v := hv ▸ win_dead s a _ ev hi (Prod.ext rfl hok)
    have hedit : ∀ b ∈ as, b.oldVersion = v ∧ effCreate (save s a).1 b = false := by
      intro b hb
      obtain ⟨hbv, evb, hbok⟩ := hall b (List.mem_cons_of_mem _ hb)
      refine ⟨hbv, effCreate_persist s a b hi ?_⟩
      obtain ⟨_, _, hr, _, _⟩ := edit_ok_inversion (s' := (save s b).1) (Prod.ext rfl hbok)
      exact hr.notCreate
    simp only [okCount, hok]
    rw [okCount_dead v as _ hd hedit]

/-- "Entity names are unique per type (and namespace)", in every state reachable by any history -/
theorem name_unique_per_type_ns (c : Cfg) (ops : List Op) :
    ∀ e1 ∈ (run c State.empty ops).ents, ∀ e2 ∈ (run c State.empty ops).ents,
      e1.nsId = e2.nsId → e1.typ = e2.typ → e1.name = e2.name → e1 = e2 :=
  (reachable_inv c ops).nameUniq

/-- no two entities ever share a version, and every version recorded in the history is unique as well -/
theorem versions_globally_unique (c : Cfg) (ops : List Op) :
    (∀ e1 ∈ (run c State.empty ops).ents, ∀ e2 ∈ (run c State.empty ops).ents, e1.version = e2.version → e1 = e2) ∧
    (run c State.empty ops).hist.Pairwise (fun h1 h2 => h1.version < h2.version) :=
  ⟨(reachable_inv c ops).verUniq, (reachable_inv c ops).histAsc⟩

/-- "entities in a namespace must reference an existing namespace" (request level): a successful save of a metric or
    group whose name carries a namespace part returns the id of an existing namespace-typed row with that name -/
theorem namespaced_entity_needs_namespace (s : State) (a : SaveReq) (s' : State) (ev : Event) (cr : Bool)
    (h : save s a = (s', .ok ev cr)) (hn : needsNs a = true) :
    ∃ n ∈ s.ents, n.typ = tNamespace ∧ n.name = ⟨0, a.name.ns⟩ ∧ ev.nsId = n.id := by
  have hs := save_shape .fixed s a
  unfold save at h
  rw [h] at hs
  cases hs with
  | created nsId hns hc hb he => exact (resolveNs_spec hns).1 hn
  | edited nsId r hns hr hv hc hck hlate hb he => exact (resolveNs_spec hns).1 hn

/-- … and without a namespace row of that name the request fails (nothing is stored) -/
theorem missing_namespace_rejected (s : State) (a : SaveReq) (hn : needsNs a = true)
    (hmiss : ∀ n ∈ s.ents, ¬ (n.typ = tNamespace ∧ n.name = ⟨0, a.name.ns⟩)) :
    ∃ e, save s a = (s, .err e) := by
  cases hout : (save s a).2 with
  | err e =>
    refine ⟨e, ?_⟩
    have h1 := failed_save_unchanged s a e hout
    exact Prod.ext h1 hout
  | ok ev cr =>
    obtain ⟨n, hm, ht, hname, _⟩ := namespaced_entity_needs_namespace s a _ ev cr (by rw [← hout]) hn
    exact absurd ⟨ht, hname⟩ (hmiss n hm)

/-- (state level) in every reachable state a non-zero namespace_id is the id of a namespace-typed row -/
theorem namespace_reference_never_dangles (c : Cfg) (ops : List Op) :
    ∀ e ∈ (run c State.empty ops).ents, e.nsId ≠ 0 →
      ∃ n ∈ (run c State.empty ops).ents, n.id = e.nsId ∧ n.typ = tNamespace :=
  (reachable_inv c ops).refOk

theorem nsRow_some {l : List Entity} {id : Int} {v : Nat} {r : Entity} (h : nsRow l id v = some r) :
    r ∈ l ∧ r.typ = tNamespace ∧ r.id = id ∧ r.version = v := by
  unfold nsRow at h
  have h1 := List.mem_of_find?_eq_some h
  have h2 := List.find?_some h
  simp only [Bool.and_eq_true, beq_iff_eq] at h2
  exact ⟨h1, h2.1.1, h2.1.2, h2.2⟩

/-- a request of type namespace on the edit path has passed checkNamespace (create flag off) or the same test inside the `id < 0`
    block (create flag on): the row it names is a namespace row that already carries the request's name -/
theorem ns_edit_same_name {s : State} {a : SaveReq} (hi : Inv s) (ht : a.typ = tNamespace)
    (hck : checkNamespace s a = none) (hlate : lateCheck .fixed s a = none) :
    ∀ r ∈ s.ents, r.id = a.id → r.name = a.name ∧ r.typ = tNamespace := by
  intro r hr hid
  cases hx : nsRow s.ents a.id a.oldVersion with
  | none =>
    cases hcr : a.create with
    | true => simp [lateCheck, lateNsEdit, ht, hcr, hx] at hlate
    | false => simp [checkNamespace, isNsEdit, ht, hcr, hx] at hck
  | some x =>
    obtain ⟨hxm, hxt, hxid, _⟩ := nsRow_some hx
    have hxr : x = r := hi.idUniq x hxm r hr (by rw [hxid, hid])
    subst hxr
    refine ⟨?_, hxt⟩
    cases hcr : a.create with
    | true => simpa [lateCheck, lateNsEdit, ht, hcr, hx] using hlate
    | false => simpa [checkNamespace, isNsEdit, ht, hcr, hx] using hck

/-- an edit is applied only to a row of the request's own type: the returned event carries the stored type -/
theorem edit_preserves_type (s : State) (a : SaveReq) (s' : State) (ev : Event) (h : save s a = (s', .ok ev false)) :
    ∃ r ∈ s.ents, r.id = a.id ∧ r.typ = a.typ ∧ ev.typ = r.typ := by
  obtain ⟨nsId, r, hr, _, rfl⟩ := edit_ok_inversion h
  exact ⟨r, hr.mem, hr.id_eq, hr.typ_eq, hr.typ_eq.symm⟩

/-- an edit of a foreign type (a dashboard request aimed at a metric, a metric request aimed at a namespace, …) is rejected and
    changes nothing -/
theorem foreign_type_edit_rejected (s : State) (a : SaveReq) (hedit : effCreate s a = false)
    (hforeign : ∀ r ∈ s.ents, r.id = a.id → r.typ ≠ a.typ) : ∃ e, save s a = (s, .err e) :=
  edit_rejected s a hedit (fun r hr hid _ => hforeign r hr hid)

theorem shape_ns_persist {s : State} {a : SaveReq} {p : State × SaveOut} (hi : Inv s) (hs : Shape .fixed s a p) :
    ∀ n ∈ s.ents, n.typ = tNamespace → ∃ n' ∈ p.1.ents, n'.id = n.id ∧ n'.typ = tNamespace ∧ n'.name = n.name := by
  intro n hn hnt
  cases hs with
  | err e => exact ⟨n, hn, rfl, hnt, rfl⟩
  | created nsId hns hc hb he => exact ⟨n, (mem_insertById _ _ _).mpr (Or.inr hn), rfl, hnt, rfl⟩
  | edited nsId r hns hr hv hc hck hlate hb he htyp =>
    obtain ⟨hrm, hrid⟩ := rowOf_some hr
    by_cases hid : n.id = r.id
    · have hnr : n = r := hi.idUniq n hn r hrm hid
      subst hnr
      have hat : a.typ = tNamespace := by
        have : n.typ = a.typ := by simpa [typeMatches] using htyp
        rw [← this]; exact hnt
      refine ⟨editedRow n a (maxVer s.ents + 1) nsId, replaceRow_mem hrm rfl, rfl, hnt, ?_⟩
      exact (ns_edit_same_name hi hat hck hlate n hrm hrid).1.symm
    · exact ⟨n, (mem_replaceRow _ _ _).mpr (Or.inr ⟨hn, hid⟩), rfl, hnt, rfl⟩

/-- "namespaces cannot be renamed", one step, FULL STRENGTH (no restriction on the request): whatever one SaveEntity does, every
    namespace row is still there with its id, its type and its name. -/
theorem namespace_keeps_name (s : State) (hi : Inv s) (a : SaveReq) :
    ∀ n ∈ s.ents, n.typ = tNamespace → ∃ n' ∈ (save s a).1.ents, n'.id = n.id ∧ n'.typ = tNamespace ∧ n'.name = n.name :=
  shape_ns_persist hi (save_shape .fixed s a)

/-- a namespace row can only be renamed by a request of a foreign type aimed at its id — which the current code rejects, so the
    second alternative never occurs -/
theorem namespace_rename_only_by_foreign_type (s : State) (hi : Inv s) (a : SaveReq) :
    ∀ n ∈ s.ents, n.typ = tNamespace →
      ∃ n' ∈ (save s a).1.ents, n'.id = n.id ∧ n'.typ = tNamespace ∧ (n'.name = n.name ∨ (a.id = n.id ∧ a.typ ≠ tNamespace)) := by
  intro n hn hnt
  obtain ⟨n', h1, h2, h3, h4⟩ := namespace_keeps_name s hi a n hn hnt
  exact ⟨n', h1, h2, h3, Or.inl h4⟩

/-- "namespaces cannot be renamed", END TO END AND UNCONDITIONAL: along ANY history of requests — creates, edits, renames, deletes
    of anything, requests of any type aimed at any id, builtin ids and create flags, interleaved with mapping operations — every
    namespace keeps its id, its type and its name forever. -/
theorem namespace_not_renamable (c : Cfg) : ∀ (ops : List Op) (s : State), Inv s →
    ∀ n ∈ s.ents, n.typ = tNamespace → ∃ n' ∈ (run c s ops).ents, n'.id = n.id ∧ n'.typ = tNamespace ∧ n'.name = n.name := by
  intro ops s hi n hn hnt
  refine run_ind c (P := fun t => ∃ n' ∈ t.ents, n'.id = n.id ∧ n'.typ = tNamespace ∧ n'.name = n.name) ?_ ops s hi
    ⟨n, hn, rfl, hnt, rfl⟩
  intro t op hit ⟨n1, hn1, hid1, ht1, hname1⟩
  rcases step_cases c t op with ⟨a, rfl⟩ | ⟨_, h1, _, _⟩
  · obtain ⟨n2, hn2, hid2, ht2, hname2⟩ := namespace_keeps_name t hit a n1 hn1 ht1
    exact ⟨n2, hn2, hid2.trans hid1, ht2, hname2.trans hname1⟩
  · exact ⟨n1, by rw [h1]; exact hn1, hid1, ht1, hname1⟩

/-- the same for every type: along any history every entity keeps the type it was created with -/
theorem entity_type_never_changes (c : Cfg) : ∀ (ops : List Op) (s : State), Inv s →
    ∀ n ∈ s.ents, ∃ n' ∈ (run c s ops).ents, n'.id = n.id ∧ n'.typ = n.typ := by
  intro ops s hi n hn
  refine run_ind c (P := fun t => ∃ n' ∈ t.ents, n'.id = n.id ∧ n'.typ = n.typ) ?_ ops s hi ⟨n, hn, rfl, rfl⟩
  intro t op hit ⟨n1, hn1, hid1, ht1⟩
  rcases step_cases c t op with ⟨a, rfl⟩ | ⟨_, h1, _, _⟩
  · obtain ⟨n2, hn2, hid2, ht2⟩ := shape_persist hit (save_shape .fixed t a) n1 hn1
    exact ⟨n2, hn2, hid2.trans hid1, ht2.trans ht1⟩
  · exact ⟨n1, by rw [h1]; exact hn1, hid1, ht1⟩

/-! ### names are unique per type, whatever the namespace_id

  What the code guarantees and why. SQLite only enforces UNIQUE(namespace_id, type, name). The full name of a metric or group embeds
  its namespace ("ns:name"), and resolveEntity recomputes namespace_id from the name on EVERY create and edit: it is the id of the
  namespace row named by the prefix, or 0 (no prefix, or an entity of another type). Because (a) the edit path only touches a row
  of the request's own type (`typeMatches`), (b) namespace rows never change their name, and (c) namespace rows have namespace_id 0 so
  their names are unique among themselves, the stored namespace_id stays a FUNCTION of (type, name) in every reachable state. Hence
  two rows of one type with the same full name have the same namespace_id and the SQL constraint makes them the same row — also
  after renames across namespaces. (On the replay side this needs the replayed UPDATE to write namespace_id too: C16.) -/

/-- the row's type/name call for a namespace lookup -/
def needsNsRow (e : Entity) : Bool := (e.typ == tMetric || e.typ == tGroup) && e.name.ns != 0

/-- the stored namespace_id is what resolveNamespace would compute from the row's own type and name -/
structure NsInv (s : State) : Prop where
  resolved : ∀ e ∈ s.ents, needsNsRow e = true →
    ∃ n ∈ s.ents, n.typ = tNamespace ∧ n.name = ⟨0, e.name.ns⟩ ∧ e.nsId = n.id
  zero : ∀ e ∈ s.ents, needsNsRow e = false → e.nsId = 0

theorem nsinv_empty : NsInv State.empty := by constructor <;> simp [State.empty]

/-- the written row gets the namespace_id just resolved from its own type and name; namespace rows keep id and name, so the rows the
    other entities refer to are still there -/
theorem nsinv_shape {s : State} {a : SaveReq} {p : State × SaveOut} (hi : Inv s) (hn : NsInv s)
    (hs : Shape .fixed s a p) : NsInv p.1 := by
  have hkeep := shape_ns_persist hi hs
  have key : ∀ (r' : Entity) (nsId : Int), resolveNs s a = .ok nsId → r'.typ = a.typ → r'.name = a.name → r'.nsId = nsId →
      (∀ x ∈ p.1.ents, x = r' ∨ x ∈ s.ents) → NsInv p.1 := by
    intro r' nsId hns ht hname hnsid hsub
    have hneed : needsNsRow r' = needsNs a := by simp [needsNsRow, needsNs, ht, hname]
    have hlift : ∀ e : Entity, (∃ n ∈ s.ents, n.typ = tNamespace ∧ n.name = ⟨0, e.name.ns⟩ ∧ e.nsId = n.id) →
        ∃ n ∈ p.1.ents, n.typ = tNamespace ∧ n.name = ⟨0, e.name.ns⟩ ∧ e.nsId = n.id := by
      rintro e ⟨n, hnm, hnt, hnn, hid⟩
      obtain ⟨n', hn', hid', ht', hname'⟩ := hkeep n hnm hnt
      exact ⟨n', hn', ht', hname'.trans hnn, hid.trans hid'.symm⟩
    constructor
    · intro e he hne
      rcases hsub e he with h | h
      · subst h
        apply hlift
        rw [hname, hnsid]
        exact (resolveNs_spec hns).1 (hneed ▸ hne)
      · exact hlift e (hn.resolved e h hne)
    · intro e he hne
      rcases hsub e he with h | h
      · subst h
        rw [hnsid]
        exact (resolveNs_spec hns).2 (hneed ▸ hne)
      · exact hn.zero e h hne
  cases hs with
  | err e => exact hn
  | created nsId hns hc hb he =>
    exact key _ nsId hns rfl rfl rfl (fun x hx => (mem_insertById _ _ _).mp hx)
  | edited nsId r hns hr hv hc hck hlate hb he htyp =>
    have hrt : r.typ = a.typ := by simpa [typeMatches] using htyp
    refine key (editedRow r a (maxVer s.ents + 1) nsId) nsId hns hrt rfl rfl ?_
    intro x hx
    rcases (mem_replaceRow _ _ _).mp hx with h | h
    · exact Or.inl h.1
    · exact Or.inr h.1

theorem nsinv_step (c : Cfg) (s : State) (op : Op) (hi : Inv s) (hn : NsInv s) : NsInv (step c s op) := by
  rcases step_cases c s op with ⟨a, rfl⟩ | ⟨_, h1, _, _⟩
  · exact nsinv_shape hi hn (save_shape .fixed s a)
  · exact ⟨by rw [h1]; exact hn.resolved, by rw [h1]; exact hn.zero⟩

theorem nsinv_run (c : Cfg) (ops : List Op) (s : State) (hi : Inv s) (hn : NsInv s) : NsInv (run c s ops) :=
  run_ind c (nsinv_step c) ops s hi hn

theorem nsId_determined (s : State) (hi : Inv s) (hn : NsInv s) (e1 e2 : Entity) (h1 : e1 ∈ s.ents) (h2 : e2 ∈ s.ents)
    (ht : e1.typ = e2.typ) (hname : e1.name = e2.name) : e1.nsId = e2.nsId := by
  have hneed : needsNsRow e1 = needsNsRow e2 := by simp [needsNsRow, ht, hname]
  cases hb : needsNsRow e1 with
  | false => rw [hn.zero e1 h1 hb, hn.zero e2 h2 (by rw [← hneed]; exact hb)]
  | true =>
    obtain ⟨n1, hn1, ht1, hname1, hid1⟩ := hn.resolved e1 h1 hb
    obtain ⟨n2, hn2, ht2, hname2, hid2⟩ := hn.resolved e2 h2 (by rw [← hneed]; exact hb)
    have hz1 : n1.nsId = 0 := hn.zero n1 hn1 (by simp [needsNsRow, ht1, tNamespace, tMetric, tGroup])
    have hz2 : n2.nsId = 0 := hn.zero n2 hn2 (by simp [needsNsRow, ht2, tNamespace, tMetric, tGroup])
    have : n1 = n2 := hi.nameUniq n1 hn1 n2 hn2 (by rw [hz1, hz2]) (by rw [ht1, ht2]) (by rw [hname1, hname2, hname])
    rw [hid1, hid2, this]

/-- "Entity names are unique per type" — irrespective of namespace_id, in every state reachable by any history: no two rows of one
    type ever carry the same full name, renames across namespaces included. -/
theorem name_unique_per_type (c : Cfg) (ops : List Op) :
    ∀ e1 ∈ (run c State.empty ops).ents, ∀ e2 ∈ (run c State.empty ops).ents,
      e1.typ = e2.typ → e1.name = e2.name → e1 = e2 := by
  intro e1 h1 e2 h2 ht hname
  have hi := reachable_inv c ops
  have hn := nsinv_run c ops _ inv_empty nsinv_empty
  exact hi.nameUniq e1 h1 e2 h2 (nsId_determined _ hi hn e1 e2 h1 h2 ht hname) ht hname

/-- consequently a rename onto a full name that another entity of the type carries is refused, even when that entity was stored
    under a different namespace at some earlier time: the request either fails or leaves the names unique -/
theorem rename_onto_used_name_refused (s : State) (hi : Inv s) (hn : NsInv s) (a : SaveReq) (s' : State) (ev : Event)
    (h : save s a = (s', .ok ev false)) : ∀ e ∈ s.ents, e.typ = a.typ → e.name = a.name → e.id = a.id := by
  intro e he ht hname
  have hi' : Inv (save s a).1 := save_inv s a hi
  have hn' : NsInv (save s a).1 := nsinv_shape hi hn (save_shape .fixed s a)
  rw [h] at hi' hn'
  obtain ⟨nsId, r, ⟨hrm, hrid, _, hrt, _⟩, rfl, _⟩ := edit_ok_inversion h
  by_cases hid : e.id = r.id
  · rw [hid, hrid]
  · exfalso
    have he1 : e ∈ (editedState s a r nsId).ents := (mem_replaceRow _ _ _).mpr (Or.inr ⟨he, hid⟩)
    have he2 : editedRow r a (maxVer s.ents + 1) nsId ∈ (editedState s a r nsId).ents :=
      replaceRow_mem hrm rfl
    have hsame := hi'.nameUniq e he1 _ he2
      (nsId_determined _ hi' hn' e _ he1 he2 (by simp [editedRow, ht, hrt]) (by simp [editedRow, hname]))
      (by simp [editedRow, ht, hrt]) (by simp [editedRow, hname])
    exact hid (by rw [hsame]; rfl)

/-- a namespace request aimed at the builtin id −3 -/
def nsReq (loc : Nat) (oldVersion : Nat) (create : Bool) : SaveReq :=
  { name := ⟨0, loc⟩, id := -3, oldVersion := oldVersion, data := 1, dataLen := 2, create := create, deleteTime := 0,
    typ := tNamespace, mdata := 0, now := 1000 }

def builtinNs : State := (saveV .old State.empty (nsReq 2 0 true)).1

/-- `saveV .old` (the pinned tree): a namespace "create" for an existing builtin id renames the row (the harness replays this on
    the real code: oracle signature `namespace-renamed`) -/
example : (saveV .old builtinNs (nsReq 3 1 true)).1.ents.map (·.name) = [⟨0, 3⟩] := by decide +kernel
example : (saveV .fixed builtinNs (nsReq 3 1 true)) = (builtinNs, .err .renameNs) := by decide +kernel
example : (saveV .fixed builtinNs (nsReq 3 1 false)) = (builtinNs, .err .renameNs) := by decide +kernel
/-- an edit of the namespace that keeps its name succeeds (with the create flag the same request is stopped earlier by
    checkCreateEntity: the name is taken) -/
example : (save builtinNs (nsReq 2 1 true)).2 = .err .exists := by decide +kernel
example : (save builtinNs (nsReq 2 1 false)).2 = .ok (mkEvent (nsReq 2 1 false) (-3) 2 0) false := by decide +kernel

/-- `saveV .untyped` (SaveEntity without the type test) selects the row to edit by (id, version) only, so a request of type
    *metric* naming a namespace row's id and version overwrites that row, name included (reachable through RawEditEntity:
    corpus/C15/type-mismatch-namespace-rename.ops). `save` answers invalid version. -/
example : (saveV .untyped builtinNs { nsReq 7 1 false with typ := tMetric }).1.ents.map (fun e => (e.typ, e.name)) = [(tNamespace, ⟨0, 7⟩)] := by
  decide +kernel
example : save builtinNs { nsReq 7 1 false with typ := tMetric } = (builtinNs, .err .invalidVersion) := by decide +kernel

/-- list-level distinctness of the table rows (no row is stored twice); stronger than `Inv.idUniq` and `Inv.verUniq`, which speak of
    rows as values -/
def Distinct (s : State) : Prop := s.ents.Pairwise (fun a b => a.id ≠ b.id ∧ a.version ≠ b.version)

theorem distinct_shape {var : Variant} {s : State} {a : SaveReq} {p : State × SaveOut} (hi : Inv s) (hd : Distinct s)
    (hs : Shape var s a p) : Distinct p.1 := by
  cases hs with
  | err e => exact hd
  | created nsId hns hc hb he =>
    -- the relation is symmetric, so it can be checked on `new row :: old rows`, of which the new table is a permutation
    refine ((insertById_perm _ _).pairwise_iff (fun h => ⟨h.1.symm, h.2.symm⟩)).mpr (List.pairwise_cons.mpr ⟨fun x hx => ?_, hd⟩)
    have h1 := newId_fresh s a hi he x hx
    have h2 := le_maxVer _ _ hx
    simp only [createdRow]
    exact ⟨fun h => h1 h.symm, by omega⟩
  | edited nsId r hns hr hv hc hck hlate hb he =>
    unfold Distinct editedState replaceRow
    simp only
    rw [List.pairwise_map]
    refine List.Pairwise.imp_of_mem ?_ hd
    intro x y hx hy hxy
    have hxv := le_maxVer _ _ hx
    have hyv := le_maxVer _ _ hy
    by_cases h1 : x.id = r.id <;> by_cases h2 : y.id = r.id
    · exact absurd (h1.trans h2.symm) hxy.1
    · simp only [editedRow, h1, beq_self_eq_true, if_true]
      have : (y.id == r.id) = false := by simpa using h2
      simp only [this]
      exact ⟨fun h => h2 h.symm, by simp; omega⟩
    · have : (x.id == r.id) = false := by simpa using h1
      simp only [editedRow, this, h2, beq_self_eq_true, if_true]
      exact ⟨h1, by simp; omega⟩
    · have e1 : (x.id == r.id) = false := by simpa using h1
      have e2 : (y.id == r.id) = false := by simpa using h2
      simp only [editedRow, e1, e2]
      exact hxy

theorem run_distinct (c : Cfg) (ops : List Op) (s : State) (hi : Inv s) (hd : Distinct s) : Distinct (run c s ops) :=
  run_ind c (fun s op hi hd => step_ents c s op (R := List.Pairwise (fun a b => a.id ≠ b.id ∧ a.version ≠ b.version)) hd
    (fun a => distinct_shape hi hd (save_shape .fixed s a))) ops s hi hd

theorem reachable_distinct (c : Cfg) (ops : List Op) : Distinct (run c State.empty ops) :=
  run_distinct c ops _ inv_empty List.Pairwise.nil

theorem sortByVer_spec (l : List Entity) :
    (sortByVer l).Perm l ∧ (sortByVer l).Pairwise (fun a b => a.version ≤ b.version) :=
  Lists.foldr_ins_spec (fun x y : Entity => x.version < y.version) insertByVer (fun _ => rfl) (fun _ _ _ => rfl)
    (fun a b => a.version ≤ b.version) (fun _ => True) (fun _ _ _ _ _ _ => Nat.le_trans)
    (fun _ _ _ _ h => Nat.le_of_lt h) (fun _ _ _ _ h => Nat.le_of_not_lt h) l (fun _ _ => trivial)

theorem mem_sortByVer (x : Entity) (l : List Entity) : x ∈ sortByVer l ↔ x ∈ l := (sortByVer_spec l).1.mem_iff

def Asc (l : List Entity) : Prop := l.Pairwise (fun a b => a.version < b.version)

theorem sortByVer_asc (l : List Entity) (h : l.Pairwise (fun a b => a.version ≠ b.version)) : Asc (sortByVer l) := by
  obtain ⟨hp, hs⟩ := sortByVer_spec l
  have hne : (sortByVer l).Pairwise (fun a b => a.version ≠ b.version) := (hp.pairwise_iff (fun hab => Ne.symm hab)).mpr h
  exact (hs.and hne).imp (fun ⟨h1, h2⟩ => Nat.lt_of_le_of_ne h1 h2)

theorem mem_journalRows (ents : List Entity) (since : Nat) (e : Entity) :
    e ∈ journalRows ents since ↔ e ∈ ents ∧ since < e.version := by
  unfold journalRows
  rw [mem_sortByVer, List.mem_filter]
  simp

theorem journalRows_asc (s : State) (hd : Distinct s) (since : Nat) : Asc (journalRows s.ents since) := by
  unfold journalRows
  apply sortByVer_asc
  exact List.Pairwise.filter _ (List.Pairwise.imp (fun h => h.2) hd)

theorem takeJournal_prefix (limit : Int) : ∀ (l : List Entity) (n b : Nat), takeJournal limit n b l <+: l := by
  intro l
  induction l with
  | nil => intro n b; simp [takeJournal]
  | cons e rest ih =>
    intro n b
    simp only [takeJournal]
    split
    · exact ⟨rest, rfl⟩
    · split
      · exact ⟨rest, rfl⟩
      · exact List.prefix_cons_inj e |>.mpr (ih _ _)

theorem takeJournal_nonempty (limit : Int) (l : List Entity) (n b : Nat) (h : l ≠ []) : takeJournal limit n b l ≠ [] := by
  cases l with
  | nil => exact absurd rfl h
  | cons e rest =>
    simp only [takeJournal]
    split
    · simp
    · split <;> simp

theorem journal_spec (s : State) (hd : Distinct s) (since : Nat) (page : Int) :
    journal s since page <+: journalRows s.ents since ∧ Asc (journal s since page) ∧
    ∀ e ∈ journal s since page, e ∈ s.ents ∧ since < e.version :=
  have hpre : journal s since page <+: journalRows s.ents since := takeJournal_prefix _ _ _ _
  ⟨hpre, List.Pairwise.sublist hpre.sublist (journalRows_asc s hd since), fun _ he => (mem_journalRows _ _ _).mp (hpre.subset he)⟩

/-- "the journal returns each entity's latest version exactly once in ascending version order": in every reachable state,
    for every `since` and page size, the reply
    (1) is strictly ascending by version (hence no entity and no version appears twice),
    (2) consists of current rows (`metrics_v5` holds exactly the latest version of every entity) newer than `since`,
    (3) is a prefix of the complete ascending list of such rows, non-empty whenever that list is non-empty — so a reader that
        continues from the last version it received skips nothing (`journal_paging_complete`). -/
theorem journal_latest_once_ascending (c : Cfg) (ops : List Op) (since : Nat) (page : Int) :
    let s := run c State.empty ops
    Asc (journal s since page) ∧
    (∀ e ∈ journal s since page, e ∈ s.ents ∧ since < e.version) ∧
    (∀ e1 ∈ journal s since page, ∀ e2 ∈ journal s since page, e1.id = e2.id → e1 = e2) ∧
    journal s since page <+: journalRows s.ents since ∧
    (journalRows s.ents since ≠ [] → journal s since page ≠ []) := by
  intro s
  obtain ⟨hpre, hasc, hmem⟩ := journal_spec s (reachable_distinct c ops) since page
  exact ⟨hasc, hmem, fun e1 h1 e2 h2 => (reachable_inv c ops).idUniq e1 (hmem e1 h1).1 e2 (hmem e2 h2).1, hpre,
    takeJournal_nonempty _ _ _ _⟩

theorem asc_le_last {P : List Entity} {last : Entity} (hP : Asc P) (hl : P.getLast? = some last) :
    ∀ x ∈ P, x.version ≤ last.version := by
  intro x hx
  obtain ⟨ini, hini⟩ := List.getLast?_eq_some_iff.mp hl
  rw [hini] at hx hP
  rcases List.mem_append.mp hx with h | h
  · exact Nat.le_of_lt ((List.pairwise_append.mp hP).2.2 x h last (by simp))
  · rw [List.mem_singleton.mp h]
    exact Nat.le_refl _

/-- paging: if a reply `P` (a prefix of the ascending list) ends with version `w`, the rows newer than `w` are exactly the
    rows of the full list that were not delivered yet -/
theorem journal_paging_complete (s : State) (hd : Distinct s) (since : Nat) (P R : List Entity) (last : Entity)
    (hsplit : journalRows s.ents since = P ++ R) (hlast : P.getLast? = some last) :
    ∀ e, e ∈ journalRows s.ents last.version ↔ e ∈ R := by
  intro e
  have hasc := journalRows_asc s hd since
  rw [hsplit] at hasc
  obtain ⟨hP, hR, hPR⟩ := List.pairwise_append.mp hasc
  have hlm : last ∈ P := List.mem_of_getLast? hlast
  have hle := asc_le_last hP hlast
  rw [mem_journalRows]
  constructor
  · rintro ⟨hm, hv⟩
    have hsince : since < e.version := by
      have := ((mem_journalRows s.ents since last).mp (by rw [hsplit]; exact List.mem_append_left _ hlm)).2
      omega
    have : e ∈ P ++ R := by rw [← hsplit]; exact (mem_journalRows _ _ _).mpr ⟨hm, hsince⟩
    rcases List.mem_append.mp this with h | h
    · have := hle e h; omega
    · exact h
  · intro hr
    have hm := (mem_journalRows s.ents since e).mp (by rw [hsplit]; exact List.mem_append_right _ hr)
    exact ⟨hm.1, hPR last hlm e hr⟩

theorem page_covers (s : State) (hd : Distinct s) (since : Nat) {P : List Entity} (hpre : P <+: journalRows s.ents since)
    {last : Entity} (hl : P.getLast? = some last) (e : Entity) (he : e ∈ s.ents) (hlo : since < e.version)
    (hhi : e.version ≤ last.version) : e ∈ P := by
  obtain ⟨R, hsplit⟩ := hpre
  have hej : e ∈ journalRows s.ents since := (mem_journalRows _ _ _).mpr ⟨he, hlo⟩
  rw [← hsplit] at hej
  rcases List.mem_append.mp hej with hp | hr
  · exact hp
  · have := (journal_paging_complete s hd since P R last hsplit.symm hl e).mpr hr
    have := ((mem_journalRows _ _ _).mp this).2
    omega

theorem journalRows_nil {ents : List Entity} {since : Nat} (h : journalRows ents since = []) : ∀ e ∈ ents, e.version ≤ since := by
  intro e he
  apply Nat.le_of_not_lt
  intro hlt
  have := (mem_journalRows ents since e).mpr ⟨he, hlt⟩
  rw [h] at this
  cases this

/-! ### paging the journal while edits keep happening

  A client pages with `sinceVersion`: request, take the version of the last event as the next `since`, repeat; between its requests
  ANY operations run (creates, edits, renames, deletes by other clients). Claim: everything at or below the client's `since` that is
  current has been delivered to it — so whenever it catches up (`since` = newest version, or an empty reply) it holds the latest
  version of every entity. -/

theorem old_rows_run (c : Cfg) (ops : List Op) (s : State) (hi : Inv s) :
    maxVer s.ents ≤ maxVer (run c s ops).ents ∧ ∀ e ∈ (run c s ops).ents, e.version ≤ maxVer s.ents → e ∈ s.ents := by
  refine run_ind c (P := fun t => maxVer s.ents ≤ maxVer t.ents ∧ ∀ e ∈ t.ents, e.version ≤ maxVer s.ents → e ∈ s.ents)
    ?_ ops s hi ⟨Nat.le_refl _, fun _ he _ => he⟩
  intro t op hit ⟨hm, hold⟩
  obtain ⟨hm', hold'⟩ := step_ents c t op (R := fun l => maxVer t.ents ≤ maxVer l ∧ ∀ e ∈ l, e.version ≤ maxVer t.ents → e ∈ t.ents)
    ⟨Nat.le_refl _, fun _ he _ => he⟩ (fun a => ⟨maxVer_mono_save t a hit, fun e he hv => by
      rcases shape_mem (save_shape .fixed t a) e he with h | h
      · omega
      · exact h⟩)
  refine ⟨Nat.le_trans hm hm', ?_⟩
  intro e he hv
  exact hold e (hold' e he (Nat.le_trans hv hm)) hv

/-- one round of the client: other people's operations `ops`, then a journal request with page size `page` -/
structure Round where
  ops : List Op
  page : Int

/-- the paging client: (database state, its `since`, everything it has received so far) -/
def pagingSession (c : Cfg) : State → Nat → List Entity → List Round → State × Nat × List Entity
  | s, since, recv, [] => (s, since, recv)
  | s, since, recv, r :: rs =>
    let s' := run c s r.ops
    let reply := journal s' since r.page
    let since' := match reply.getLast? with
      | some last => last.version
      | none => since
    pagingSession c s' since' (recv ++ reply) rs

/-- what the client is entitled to: it holds every current row whose version is at or below its `since` -/
def CaughtUpTo (s : State) (since : Nat) (recv : List Entity) : Prop :=
  since ≤ maxVer s.ents ∧ ∀ e ∈ s.ents, e.version ≤ since → e ∈ recv

theorem paging_round (c : Cfg) (s : State) (since : Nat) (recv : List Entity) (r : Round)
    (hi : Inv s) (hd : Distinct s) (h : CaughtUpTo s since recv) :
    let s' := run c s r.ops
    let reply := journal s' since r.page
    CaughtUpTo s' (match reply.getLast? with | some last => last.version | none => since) (recv ++ reply) := by
  intro s' reply
  have hi' : Inv s' := run_inv c r.ops s hi
  have hd' : Distinct s' := run_distinct c r.ops s hi hd
  obtain ⟨hmono, hrows⟩ := old_rows_run c r.ops s hi
  have hpre : reply <+: journalRows s'.ents since := (journal_spec s' hd' since r.page).1
  -- rows of the new state at or below the old `since` are old rows, hence already received
  have hold : ∀ e ∈ s'.ents, e.version ≤ since → e ∈ recv := by
    intro e he hv
    exact h.2 e (hrows e he (Nat.le_trans hv h.1)) hv
  cases hl : reply.getLast? with
  | none =>
    simp only
    refine ⟨Nat.le_trans h.1 hmono, ?_⟩
    intro e he hv
    exact List.mem_append_left _ (hold e he hv)
  | some last =>
    simp only
    have hlm : last ∈ reply := List.mem_of_getLast? hl
    have hlast := (mem_journalRows s'.ents since last).mp (hpre.subset hlm)
    refine ⟨le_maxVer _ _ hlast.1, ?_⟩
    intro e he hv
    by_cases hle : e.version ≤ since
    · exact List.mem_append_left _ (hold e he hle)
    · exact List.mem_append_right _ (page_covers s' hd' since hpre hl e he (by omega) hv)

/-- a client paging by sinceVersion with edits happening between its requests never misses the latest version of any entity:
    for every number of rounds, every page size and ANY operations between the requests, the client holds every current row at or
    below its `since` … -/
theorem paging_never_misses (c : Cfg) : ∀ (rounds : List Round) (s : State) (since : Nat) (recv : List Entity),
    Inv s → Distinct s → CaughtUpTo s since recv →
    CaughtUpTo (pagingSession c s since recv rounds).1 (pagingSession c s since recv rounds).2.1
      (pagingSession c s since recv rounds).2.2 := by
  intro rounds
  induction rounds with
  | nil => intro s since recv _ _ h; exact h
  | cons r rs ih =>
    intro s since recv hi hd h
    simp only [pagingSession]
    exact ih _ _ _ (run_inv c r.ops s hi) (run_distinct c r.ops s hi hd) (paging_round c s since recv r hi hd h)

/-- … so once it catches up — its `since` is the newest version, or a request comes back empty — it holds the latest version of
    EVERY entity. Stated for a client that starts from scratch (since = 0, nothing received) against ANY reachable database
    `run c State.empty pre`, with any operations between its requests. -/
theorem paging_complete_when_caught_up (c : Cfg) (pre : List Op) (rounds : List Round) :
    let fin := pagingSession c (run c State.empty pre) 0 [] rounds
    (fin.2.1 = maxVer fin.1.ents ∨ journalRows fin.1.ents fin.2.1 = []) → ∀ e ∈ fin.1.ents, e ∈ fin.2.2 := by
  intro fin hcu e he
  have hi := reachable_inv c pre
  have hd := reachable_distinct c pre
  -- versions start at 1, so a client at `since = 0` has missed nothing yet
  have hp : ∀ e ∈ (run c State.empty pre).ents, 1 ≤ e.version :=
    run_ind c (fun s op _ h => step_ents c s op (R := fun l => ∀ e ∈ l, 1 ≤ e.version) h (fun a e he => by
      rcases shape_mem (save_shape .fixed s a) e he with h1 | h1
      · omega
      · exact h e h1)) pre _ inv_empty (fun e he => nomatch he)
  have h0 : CaughtUpTo (run c State.empty pre) 0 [] := by
    refine ⟨Nat.zero_le _, ?_⟩
    intro e he hv
    have := hp e he
    omega
  have h := paging_never_misses c rounds _ 0 [] hi hd h0
  apply h.2 e he
  rcases hcu with hcu | hcu
  · rw [hcu]; exact le_maxVer _ _ he
  · exact journalRows_nil hcu e he

/-! ### the journal long-poll of the rpc handler (RawGetJournal / broadcastJournal)

  A schedule is any sequence of subscribe / save / broadcast steps; `broadcast s ws` is a function of the database state `s`
  and of the parked requests `ws` only, so the statements below — for EVERY reachable `s` and EVERY list `ws` of parked
  requests (any clients, any From values, equal or different) — cover every schedule. -/

theorem trimSeen_eq_filter (since : Nat) : ∀ l : List Entity, Asc l →
    trimSeen since l = l.filter (fun e => decide (since < e.version)) := by
  intro l
  induction l with
  | nil => intro _; rfl
  | cons x xs ih =>
    intro h
    obtain ⟨hx, hxs⟩ := List.pairwise_cons.mp h
    unfold trimSeen
    by_cases hle : x.version ≤ since
    · have h1 : decide (x.version ≤ since) = true := by simpa using hle
      have h2 : decide (since < x.version) = false := by simpa using hle
      rw [List.dropWhile_cons, if_pos h1, List.filter_cons, if_neg (by simp [h2])]
      exact ih hxs
    · have h1 : ¬ decide (x.version ≤ since) = true := by simpa using hle
      have h2 : decide (since < x.version) = true := by simpa using Nat.lt_of_not_le hle
      rw [List.dropWhile_cons, if_neg h1, List.filter_cons, if_pos h2]
      congr 1
      symm
      apply List.filter_eq_self.mpr
      intro e he
      have := hx e he
      simp; omega

theorem minSince_le : ∀ (ws : List Waiter) (w : Waiter), w ∈ ws → minSince ws ≤ w.since := by
  intro ws
  induction ws with
  | nil => intro w h; cases h
  | cons a as ih =>
    intro w h
    cases as with
    | nil => simp at h; subst h; simp [minSince]
    | cons b bs =>
      simp only [minSince]
      rcases List.mem_cons.mp h with h | h
      · subst h; exact Nat.min_le_left _ _
      · exact Nat.le_trans (Nat.min_le_right _ _) (ih w h)

theorem broadcastPage_spec (s : State) (hd : Distinct s) (ws : List Waiter) :
    Asc (broadcastPage s ws) ∧ (∀ e ∈ broadcastPage s ws, e ∈ s.ents ∧ minSince ws < e.version) ∧
    (ws ≠ [] → broadcastPage s ws <+: journalRows s.ents (minSince ws)) := by
  unfold broadcastPage
  cases ws with
  | nil => simp [Asc]
  | cons w rest =>
    obtain ⟨hpre, hasc, hmem⟩ := journal_spec s hd (minSince (w :: rest)) 100
    exact ⟨hasc, hmem, fun _ => hpre⟩

/-- each client receives only versions > its From, in ascending order, and nothing of the page is withheld:
    every reply of a broadcast belongs to a parked request, is non-empty, strictly ascending (so no entity and no version twice),
    consists of current rows newer than that request's From, and contains EVERY event of the page newer than its From. -/
theorem broadcast_reply_spec (s : State) (hd : Distinct s) (ws : List Waiter) (c : Nat) (evs : List Entity)
    (h : (c, evs) ∈ (broadcast s ws).2) :
    ∃ w ∈ ws, w.client = c ∧ evs ≠ [] ∧ Asc evs ∧ (∀ e ∈ evs, w.since < e.version ∧ e ∈ s.ents) ∧
      (∀ e ∈ broadcastPage s ws, w.since < e.version → e ∈ evs) := by
  obtain ⟨hasc, hmem, _⟩ := broadcastPage_spec s hd ws
  simp only [broadcast, List.mem_map, List.mem_filter] at h
  obtain ⟨w, ⟨hw, hans⟩, heq⟩ := h
  injection heq with hc hev
  have hf := trimSeen_eq_filter w.since _ hasc
  refine ⟨w, hw, hc, ?_, ?_, ?_, ?_⟩
  · rw [← hev]; intro hnil; simp [answered, hnil] at hans
  · rw [← hev, hf]; exact List.Pairwise.sublist List.filter_sublist hasc
  · intro e he
    rw [← hev, hf, List.mem_filter] at he
    exact ⟨by simpa using he.2, (hmem e he.1).1⟩
  · intro e he hv
    rw [← hev, hf, List.mem_filter]
    exact ⟨he, by simpa using hv⟩

/-- a request stays parked only if the page holds nothing newer than its From -/
theorem broadcast_parked_spec (s : State) (hd : Distinct s) (ws : List Waiter) (w : Waiter) (h : w ∈ (broadcast s ws).1) :
    w ∈ ws ∧ ∀ e ∈ broadcastPage s ws, e.version ≤ w.since := by
  obtain ⟨hasc, _, _⟩ := broadcastPage_spec s hd ws
  simp only [broadcast, List.mem_filter] at h
  refine ⟨h.1, ?_⟩
  intro e he
  have hf := trimSeen_eq_filter w.since _ hasc
  have hemp : trimSeen w.since (broadcastPage s ws) = [] := by
    have := h.2
    simp only [answered, Bool.not_not] at this
    exact List.isEmpty_iff.mp this
  rw [hf] at hemp
  have := List.filter_eq_nil_iff.mp hemp e he
  simpa using this

/-- nothing that exists at broadcast time is missed: a reply contains every entity whose current version lies
    between the request's From and the last version of the page (= the CurrentVersion the client continues from) -/
theorem broadcast_misses_nothing (s : State) (hd : Distinct s) (ws : List Waiter) (c : Nat) (evs : List Entity)
    (h : (c, evs) ∈ (broadcast s ws).2) (last : Entity) (hlast : (broadcastPage s ws).getLast? = some last) :
    ∃ w ∈ ws, w.client = c ∧ ∀ e ∈ s.ents, w.since < e.version → e.version ≤ last.version → e ∈ evs := by
  obtain ⟨w, hw, hc, _, _, _, hall⟩ := broadcast_reply_spec s hd ws c evs h
  refine ⟨w, hw, hc, ?_⟩
  intro e he hlo hhi
  apply hall e _ hlo
  have hne : ws ≠ [] := by intro h0; subst h0; cases hw
  obtain ⟨_, _, hpre⟩ := broadcastPage_spec s hd ws
  have hmin := minSince_le ws w hw
  exact page_covers s hd (minSince ws) (hpre hne) hlast e he (by omega) hhi

/-- a parked request means there was nothing newer than its From; an immediate reply is `journal s since limit`, whose
    properties are `journal_latest_once_ascending` -/
theorem subscribe_spec (s : State) (ws : List Waiter) (c since : Nat) (limit : Int) :
    (subscribe s ws c since limit false).2 = none → ∀ e ∈ s.ents, e.version ≤ since := by
  intro h e he
  unfold subscribe at h
  by_cases hj : (journal s since limit).isEmpty = true
  · have hrows : journalRows s.ents since = [] := by
      cases hr : journalRows s.ents since with
      | nil => rfl
      | cons x xs =>
        exfalso
        have := takeJournal_nonempty (journalLimit limit) (journalRows s.ents since) 0 0 (by rw [hr]; simp)
        exact this (List.isEmpty_iff.mp hj)
    exact journalRows_nil hrows e he
  · simp [hj] at h

/-- a client that continues from the CurrentVersion it was given (the version of the last event it received) never receives a
    version twice: consecutive replies concatenate to one strictly ascending sequence -/
theorem client_session_ascending (r1 r2 : List Entity) (last : Entity) (h1 : Asc r1) (h2 : Asc r2)
    (hl : r1.getLast? = some last) (hnew : ∀ e ∈ r2, last.version < e.version) : Asc (r1 ++ r2) := by
  refine List.pairwise_append.mpr ⟨h1, h2, ?_⟩
  intro a ha b hb
  exact Nat.lt_of_le_of_lt (asc_le_last h1 hl a ha) (hnew b hb)

/-! ### non-vacuity: concrete histories on which the hypotheses above hold and the interesting branches are taken -/

def mk (loc : Nat) (id : Int) (oldVersion : Nat) (create : Bool) (typ : Nat) (ns : Nat := 0) : SaveReq :=
  { name := ⟨ns, loc⟩, id := id, oldVersion := oldVersion, data := 7, dataLen := 2, create := create, deleteTime := 0,
    typ := typ, mdata := 1, now := 1700000000 }

def cfg0 : Cfg := { maxBudget := 1000, step := 3600, bonus := 10, globalBudget := 1000000 }

/-- namespace w1 (id 1, version 1), metric w1:w5 in it (id 2, version 2), metric w6 (id 3, version 3) -/
def s3 : State := run cfg0 State.empty [.save (mk 1 0 0 true tNamespace), .save (mk 5 0 0 true tMetric 1), .save (mk 6 0 0 true tMetric)]

example : s3.ents.map (fun e => (e.id, e.version, e.nsId)) = [(1, 1, 0), (2, 2, 1), (3, 3, 0)] := by decide +kernel
-- two racing edits of entity 3 from version 3 (one of them a rename): each succeeds alone …
example : (save s3 (mk 6 3 3 false tMetric)).2 = .ok (mkEvent (mk 6 3 3 false tMetric) 3 4 0) false := by decide +kernel
example : (save s3 (mk 9 3 3 false tMetric)).2 = .ok (mkEvent (mk 9 3 3 false tMetric) 3 4 0) false := by decide +kernel
-- … and in either order exactly one wins, the loser is told "invalid version"
example : okCount s3 [mk 6 3 3 false tMetric, mk 9 3 3 false tMetric] = 1 := by decide +kernel
example : okCount s3 [mk 9 3 3 false tMetric, mk 6 3 3 false tMetric] = 1 := by decide +kernel
example : (save (save s3 (mk 9 3 3 false tMetric)).1 (mk 6 3 3 false tMetric)).2 = .err .invalidVersion := by decide +kernel
example : winners cfg0 s3 [.save (mk 9 3 3 false tMetric), .getOrCreate 1 1 5, .save (mk 6 3 3 false tMetric)] 3 = 1 := by decide +kernel
example : okVersions cfg0 State.empty [.save (mk 1 0 0 true tNamespace), .save (mk 1 0 0 true tNamespace), .save (mk 1 1 1 false tNamespace)] = [1, 2] := by decide +kernel
-- three racers with DIFFERENT new names, data and metadata from version 3 of entity 3, all six orders: exactly one winner each time
def racer (loc data mdata : Nat) : SaveReq := { mk loc 3 3 false tMetric with data := data, mdata := mdata }
example : ∀ rs ∈ [[racer 7 1 0, racer 8 2 1, racer 9 3 2], [racer 7 1 0, racer 9 3 2, racer 8 2 1], [racer 8 2 1, racer 7 1 0, racer 9 3 2],
    [racer 8 2 1, racer 9 3 2, racer 7 1 0], [racer 9 3 2, racer 7 1 0, racer 8 2 1], [racer 9 3 2, racer 8 2 1, racer 7 1 0]],
    okCount s3 rs = 1 := by decide +kernel
-- rename onto a used name of the same type and namespace: UNIQUE constraint; into a missing namespace: rejected
example : (save s3 (mk 6 2 2 false tMetric)).2 = .err .constraint := by decide +kernel
example : (save s3 (mk 6 3 3 false tMetric 4)).2 = .err .nsMissing := by decide +kernel
example : (save s3 (mk 2 1 1 false tNamespace)).2 = .err .renameNs := by decide +kernel
example : (journal s3 1 1000).map (·.id) = [2, 3] ∧ (journal s3 0 2).map (·.id) = [1, 2] ∧ (journal s3 2 (-1)).map (·.id) = [3] := by decide +kernel

-- `namespace_not_renamable`: a history that tries everything on namespace w1 (id 1) — a rename attempt, an edit, a METRIC request
-- aimed at its id and version, a create-flag request — while other entities are renamed around it; w1 keeps name and type
example : ((run cfg0 s3 [.save (mk 2 1 1 false tNamespace), .save (mk 1 1 1 false tNamespace), .save (mk 7 1 4 false tMetric),
    .save (mk 9 3 3 false tMetric), .save (mk 1 1 4 true tNamespace)]).ents.map
    (fun e => (e.id, e.typ, e.name.loc, e.version))) = [(1, 4, 1, 4), (2, 0, 5, 2), (3, 0, 9, 5)] := by decide +kernel
-- `foreign_type_edit_rejected` / `edit_preserves_type`: a dashboard request aimed at metric 3 is refused, a metric request goes through
example : save s3 (mk 6 3 3 false tDashboard) = (s3, .err .invalidVersion) := by decide +kernel
example : effCreate s3 (mk 6 3 3 false tDashboard) = false ∧ (∀ r ∈ s3.ents, r.id = 3 → r.typ ≠ tDashboard) := by decide +kernel
-- with `saveV .untyped` the same request overwrites the metric and the returned event claims it is a dashboard
example : (saveV .untyped s3 (mk 6 3 3 false tDashboard)).2 = .ok (mkEvent (mk 6 3 3 false tDashboard) 3 4 0) false := by decide +kernel

-- `name_unique_per_type`: moving metric 3 (w6) into namespace w1 under the name w1:w5, which metric 2 carries, is refused …
example : (save s3 (mk 5 3 3 false tMetric 1)).2 = .err .constraint := by decide +kernel
-- … while with `saveV .untyped` a dashboard-typed request first strips metric 2 of its namespace_id (type and name untouched) and
-- the same rename then goes through: two metrics with the full name w1:w5
example : ((saveV .untyped (saveV .untyped s3 (mk 5 2 2 false tDashboard 1)).1 (mk 5 3 3 false tMetric 1)).1.ents.map
    (fun e => (e.id, e.typ, e.name, e.nsId))) = [(1, 4, ⟨0, 1⟩, 0), (2, 0, ⟨1, 5⟩, 0), (3, 0, ⟨1, 5⟩, 1)] := by decide +kernel
example : NsInv s3 := nsinv_run cfg0 _ _ inv_empty nsinv_empty

-- non-vacuity: the client pages with page size 1 while entity 3 is renamed and entity 2 edited between its requests; after five
-- rounds its `since` is the newest version (5) and it holds the latest version of all three entities
def rounds5 : List Round :=
  [⟨[], 1⟩, ⟨[.save (mk 9 3 3 false tMetric)], 1⟩, ⟨[.save (mk 5 2 2 false tMetric 1)], 1⟩, ⟨[], 1⟩, ⟨[], 1000⟩]
example : (pagingSession cfg0 s3 0 [] rounds5).2.1 = 5 ∧ maxVer (pagingSession cfg0 s3 0 [] rounds5).1.ents = 5 ∧
    ((pagingSession cfg0 s3 0 [] rounds5).2.2.map (fun e => (e.id, e.version))) = [(1, 1), (2, 2), (3, 4), (2, 5)] := by decide +kernel

-- re-saving an entity UNCHANGED is an edit like any other. Dashboard w3 is created (id 4, version 4); the identical request from
-- version 4 succeeds with version 5; repeated from the now stale version 4 it is refused; two such requests racing: one winner
def dash (oldVersion : Nat) (create : Bool) : SaveReq := mk 3 (if create then 0 else 4) oldVersion create tDashboard
def s4 : State := (save s3 (dash 0 true)).1
example : (save s4 (dash 4 false)).2 = .ok (mkEvent (dash 4 false) 4 5 0) false := by decide +kernel
example : (save (save s4 (dash 4 false)).1 (dash 4 false)).2 = .err .invalidVersion := by decide +kernel
example : okCount s4 [dash 4 false, dash 4 false, dash 4 false] = 1 := by decide +kernel
example : (journal (save s4 (dash 4 false)).1 4 1000).map (fun e => (e.id, e.version)) = [(4, 5)] := by decide +kernel

/-- a SaveEntity with a "nothing changed" fast path for dashboards (success with the OLD version, nothing written), as a
    function next to the model, and what it breaks: the accepted edit does not get a version above the existing maximum (the reply says 4, the
    named version, where `edit_assigns_fresh_max_version` demands 5), the named version stays current so the same request is
    accepted again and again, and the journal after version 4 stays empty -/
def saveNoopFastPath (s : State) (a : SaveReq) : State × SaveOut :=
  match rowOf s.ents a.id with
  | some r =>
    if a.typ == tDashboard && !a.create && rowMatches .fixed r a && r.name == a.name && r.data == a.data && r.dataLen == a.dataLen
        && r.deletedAt == a.deleteTime then
      (s, .ok { mkEvent a r.id r.version 0 with updatedAt := r.updatedAt % two32 } false)
    else save s a
  | none => save s a
example : saveNoopFastPath s4 (dash 4 false) = (s4, .ok (mkEvent (dash 4 false) 4 4 0) false) := by decide +kernel
example : ¬ (∀ ev, (saveNoopFastPath s4 (dash 4 false)).2 = .ok ev false → ev.version = maxVer s4.ents + 1) := by
  intro h; exact absurd (h (mkEvent (dash 4 false) 4 4 0) (by decide +kernel)) (by decide +kernel)
example : (saveNoopFastPath (saveNoopFastPath s4 (dash 4 false)).1 (dash 4 false)).2 = .ok (mkEvent (dash 4 false) 4 4 0) false := by decide +kernel
example : journal (saveNoopFastPath s4 (dash 4 false)).1 4 1000 = [] := by decide +kernel

-- long-poll: client 1 parked at From 2 (it holds everything up to 2), client 2 parked at From 3 = the version of the pending event
-- of entity 3; the broadcast reads from the smaller From: client 1 gets version 3, client 2 gets nothing and stays parked
example : broadcast s3 [⟨1, 2⟩, ⟨2, 3⟩] = ([⟨2, 3⟩], [(1, journal s3 2 100)]) ∧ (journal s3 2 100).map (·.version) = [3] := by decide +kernel
example : (subscribe s3 [] 7 3 1000 false) = ([⟨7, 3⟩], none) ∧ (subscribe s3 [] 7 1 1000 false).2 = some (journal s3 1 1000) := by decide +kernel

end SH.C15
