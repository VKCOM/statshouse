/-
  SH.Props.C28 — PromQL expressions print to text that parses back to the same expression.

  Property (properties.jsonl C28): "For every expression the parser accepts, printing it and parsing the printed text
  yields an equivalent syntax tree (same operators, operands, grouping, matchers, ranges, offsets and StatsHouse
  extensions), and the parser never panics on arbitrary input."

  Proved here, over the token-level model SH.Model.PromSyntax (printer = printer.go after fixes/C28-printer-roundtrip.diff,
  parser = precedence climbing over the tables regenerated from parse.y):

    parse_print          ∀ e, wf e → parse (printExpr .fixed e) = some (norm e)
                         (`wf` = the shapes the parser produces, `norm` only moves the matcher that repeats the metric
                         name to the end and drops its duplicates; proof and its idea: SH.Lemmas.PromSyntaxComplete.
                         `normSel_fields`: name and modifiers are kept; `normSel_mem`: so is the SET of matchers of a
                         selector that carries the matcher for its own name, as mkSel builds it)
    accepted_roundtrip   the same for every tree `parse` returns on lexer-consistent tokens (with parse_wf)
    norm_norm … roundtrip_fixpoint   `norm` is idempotent and invisible to the printer
    section Lexical      byte level: string, duration, number, `@` round trips; the whole lexer; character level
    prec_levels … aggregators_are_keywords   what the proofs need of the regenerated tables
    old_printer_*, fixed_printer_witnesses   by evaluation: the printer before the fix violates the property
    zero_duration_needed, duration_out_of_range_needed
                         the two known findings: a range of 0 or of more than maxSecs seconds is accepted (rounded from
                         `0s400ms`, `9223372036s800ms`) and has no printable form

  `printExpr` is a function of the tree, pure by construction. That the real String() is one as well — it never writes to the
  tree, not even transiently, so that concurrent printers of one cached tree agree — is a correspondence obligation
  discharged by the harness oracle (`printer-mutates-tree`, `print-not-reentrant`) and the race detector in the thorough tier.

  That every tree `parse` returns on lexer-consistent tokens is `wf` is SH.Lemmas.PromSyntaxSound.parse_wf (hence
  `accepted_roundtrip`); the driver also evaluates `wf` on each tree the model parser returns and the harness expects `wf 1`
  unless the tree holds a duration of 0 or of more than maxSecs seconds. The lexical layer (section Lexical) is proved per
  token class and for a recursive fragment of texts, with the contracts of strconv.Quote / Unquote and fmt.Sprint / `number`
  as hypotheses. Not proved (direct oracle only): "never panics".
-/
import SH.Model.PromSyntax
import SH.Lemmas.PromSyntaxSound
import SH.Lemmas.PromSyntaxComplete
import SH.Model.PromLex
import SH.Lemmas.PromLexNum
import SH.Lemmas.PromLexStr
import SH.Lemmas.PromLexAllSteps
import SH.Lemmas.PromLexChain
import SH.Lemmas.PromLexFrag
namespace SH.Props.C28
open SH.PromSyntax

theorem parse_print (e : Expr) (hwf : wf e = true) : parse (printExpr .fixed e) = some (norm e) :=
  parseFuel_print e hwf _ (by have := need_le e; simp only [fuelFor]; omega)

/-- The property at model level is
      ∀ ts e, parse ts = some e → parse (printExpr .fixed e) = some (norm e)
    i.e. it needs `parse ts = some e → wf e = true` (every tree the parser builds is well-formed). That inclusion holds for
    lexer-consistent token streams (`accepted_roundtrip` below) and is checked on every case of the correspondence run
    (driver line `wf 1`). It is false for trees holding a range / list offset of 0 or of more than maxSecs seconds (known
    findings, see `zero_duration_needed`, `duration_out_of_range_needed`). -/
theorem accepted_roundtrip_partial (ts : List Tok) (e : Expr) (_h : parse ts = some e) (hwf : wf e = true) :
    parse (printExpr .fixed e) = some (norm e) := parse_print e hwf

/-! ## `norm e` and `e`: only the list of label matchers of a named selector is rearranged -/

/-- a selector built by the parser carries the matcher for its own name (assembleVectorSelector, `mkSel`); for such a selector
    `normSel` keeps the set of matchers. That every tree `parse` returns is of this kind is not stated as a theorem, nor is
    the fact lifted from `Sel` to `Expr` -/
theorem normSel_mem (s : Sel) (h : s.name ≠ "" → nameMatcher s.name ∈ s.ms) (m : Matcher) :
    m ∈ (normSel s).ms ↔ m ∈ s.ms := by
  by_cases hn : s.name = ""
  · simp [normSel, hn]
  · have hm := h hn
    simp only [normSel, hn, if_false, List.mem_append, List.mem_filter, List.mem_singleton, bne_iff_ne, ne_eq]
    constructor
    · rintro (⟨h1, _⟩ | rfl)
      · exact h1
      · exact hm
    · intro h1
      by_cases he : m = nameMatcher s.name
      · exact Or.inr he
      · exact Or.inl ⟨h1, he⟩

/-- For every token stream the lexer can produce (`tokOk`: word kinds agree with the lexer's classification of their text,
    and — the two exclusions, known findings zero-duration and duration-out-of-range — every duration token denotes
    1..maxSecs seconds) and every tree the parser accepts on it, printing the tree and parsing the printed tokens yields the same tree up to `norm`
    (SH.Lemmas.PromSyntaxSound.parse_wf discharges the well-formedness hypothesis of `parse_print`). -/
theorem accepted_roundtrip (ts : List Tok) (e : Expr) (hok : ∀ t ∈ ts, tokOk t = true) (h : parse ts = some e) :
    parse (printExpr .fixed e) = some (norm e) :=
  parse_print e (SH.PromSyntax.Sound.parse_wf ts e hok h)

/-- the exclusion is needed: `foo[0s400ms]` lexes to a duration token of 0 seconds, is accepted, and its printed text
    (`foo[0s]`, a duration parseDuration rejects) does not parse -/
theorem zero_duration_needed :
    let ts : List Tok := [.word .ident "foo", .lb, .dur (some 0), .rb]
    ts.all tokOk = false ∧ parse ts = some (.mat ⟨"foo", [nameMatcher "foo"], .none, 0, []⟩ 0) ∧
    parse (printExpr .fixed (.mat ⟨"foo", [nameMatcher "foo"], .none, 0, []⟩ 0)) = none := by decide +kernel

/-- tokens of `sum by (job) (rate(foo{a="b",on=~"x"}[5m] offset 1m)) + -x ^ 2 and on () group_left y` -/
def toks1 : List Tok :=
  [kwTok "SUM", kwTok "BY", .lp, .word .ident "job", .rp, .lp, .word .ident "rate", .lp, .word .ident "foo", .lk,
   .lname "a", .eql, .str "62" true true, .comma, .lname "on", .eqlre, .str "78" true true, .rk, .lb, .dur (some 300), .rb,
   kwTok "OFFSET", .dur (some 60), .rp, .rp, .sym .add, .sym .sub, .word .ident "x", .sym .pow,
   .word (.num (some "2") (some 2000) (some (-2000))) "2", kwTok "LAND", kwTok "ON", .lp, .rp, kwTok "GROUP_LEFT",
   .word .ident "y"]

theorem toks1_ok : ∀ t ∈ toks1, tokOk t = true := List.all_eq_true.mp (by decide +kernel)
theorem toks1_parses : (parse toks1).isSome = true := by decide +kernel

example : toks1.all tokOk = true := List.all_eq_true.mpr toks1_ok
example : (parse toks1).isSome = true := toks1_parses
example : ∀ e, parse toks1 = some e → parse (printExpr .fixed e) = some (norm e) :=
  fun e h => accepted_roundtrip toks1 e toks1_ok h

theorem printSelHead_normSel (s : Sel) : printSelHead .fixed (normSel s) = printSelHead .fixed s := by
  have h1 := shown_normSel s
  have h2 := (normSel_fields s).1
  simp only [printSelHead, h1, h2]

mutual
theorem norm_norm : (e : Expr) → norm (norm e) = norm e
  | .num _ | .str _ => by simp [norm]
  | .vec s => by simp [norm, normSel_idem]
  | .mat s r => by simp [norm, normSel_idem]
  | .sub x _ _ _ _ => by simp [norm, norm_norm x]
  | .par x => by simp [norm, norm_norm x]
  | .un _ x => by simp [norm, norm_norm x]
  | .bin _ _ l r => by simp [norm, norm_norm l, norm_norm r]
  | .agg _ _ _ a => by simp [norm, normArgs_normArgs a]
  | .call _ a => by simp [norm, normArgs_normArgs a]
theorem normArgs_normArgs : (a : Args) → normArgs (normArgs a) = normArgs a
  | .nil => by simp [normArgs]
  | .cons e r => by simp [normArgs, norm_norm e, normArgs_normArgs r]
end

mutual
theorem print_norm : (e : Expr) → printExpr .fixed (norm e) = printExpr .fixed e
  | .num _ | .str _ => by simp [norm]
  | .vec s => by
    obtain ⟨_, h2, h3, h4⟩ := normSel_fields s
    simp only [norm, printExpr, printSel, printSelHead_normSel, h2, h3, h4]
  | .mat s r => by
    obtain ⟨_, h2, h3, h4⟩ := normSel_fields s
    simp only [norm, printExpr, printMat, printSelHead_normSel, h2, h3, h4]
  | .sub x _ _ _ _ => by simp only [norm, printExpr, print_norm x]
  | .par x => by simp only [norm, printExpr, print_norm x]
  | .un _ x => by simp only [norm, printExpr, print_norm x]
  | .bin _ _ l r => by simp only [norm, printExpr, print_norm l, print_norm r]
  | .agg _ _ _ a => by simp only [norm, printExpr, printArgs_norm a]
  | .call _ a => by simp only [norm, printExpr, printArgs_norm a]
theorem printArgs_norm : (a : Args) → printArgs .fixed (normArgs a) = printArgs .fixed a
  | .nil => by simp [normArgs]
  | .cons e .nil => by simp only [normArgs, printArgs, print_norm e]
  | .cons e (.cons e' r') => by
    have := printArgs_norm (.cons e' r')
    simp only [normArgs] at this ⊢
    rw [printArgs_cons2, printArgs_cons2, print_norm e, this]
end

/-- print ∘ parse ∘ print = print on accepted trees: the text printed for the re-parsed tree is the text printed first -/
theorem print_parse_print (ts : List Tok) (e : Expr) (hok : ∀ t ∈ ts, tokOk t = true) (h : parse ts = some e) :
    ∃ e', parse (printExpr .fixed e) = some e' ∧ printExpr .fixed e' = printExpr .fixed e :=
  ⟨norm e, accepted_roundtrip ts e hok h, print_norm e⟩

theorem roundtrip_fixpoint (ts : List Tok) (e : Expr) (hok : ∀ t ∈ ts, tokOk t = true) (h : parse ts = some e) :
    parse (printExpr .fixed (norm e)) = some (norm e) := by
  rw [print_norm]; exact accepted_roundtrip ts e hok h

example : ∃ e, parse toks1 = some e ∧ parse (printExpr .fixed (norm e)) = some (norm e) := by
  obtain ⟨e, h⟩ := Option.isSome_iff_exists.mp toks1_parses
  exact ⟨e, h, roundtrip_fixpoint toks1 e toks1_ok h⟩

/-! ## lexical layer (byte-level models SH.Model.PromLex, SH.Model.PromLexAll, tied to lex.go by the driver ops `lexstr`,
     `lexnum`, `lexdur`, `lexword`, `lexall`) -/

section Lexical
open SH.PromLex

theorem renderQ_cons (i : QItem) (is : List QItem) : renderQ (i :: is) = i.render ++ renderQ is :=
  SH.PromLex.Str.renderQ_cons i is

theorem digitsVal2 (d1 d2 : Nat) (h1 : isHex d1 = true) (h2 : isHex d2 = true) : ∃ x, digitsVal 16 [d1, d2] = some x :=
  SH.PromLex.Str.digitsVal2 d1 d2 h1 h2

theorem lexString_renderQ (items : List QItem) (hok : ∀ i ∈ items, i.ok = true) (rest : List Nat) :
    lexString cDq (renderQ items ++ cDq :: rest) = some (renderQ items, rest) :=
  SH.PromLex.Str.lexString_renderQ items hok rest

/-- Round trip of a string literal / matcher value through printer and lexer, for ANY pair of functions `quote`/`unquote`
    that satisfies on the value `v` the stated contract of strconv.Quote and strutil.Unquote (what `%q` writes consists of plain bytes and
    well-formed escapes, and unquoting it gives the value back). The contract is a hypothesis here; it is discharged for the
    real functions only by the correspondence / round-trip oracle on generated strings. -/
theorem string_token_roundtrip (quote : List Nat → List QItem) (unquote : List Nat → Option (List Nat))
    (v rest : List Nat)
    (hq : (∀ i ∈ quote v, i.ok = true) ∧ unquote (cDq :: renderQ (quote v) ++ [cDq]) = some v) :
    (lexStringTok (cDq :: (renderQ (quote v) ++ cDq :: rest))).bind (fun r => (unquote r.1).map (fun u => (u, r.2)))
      = some (v, rest) := by
  rw [Str.lexStringTok_quoted _ hq.1]
  have h2 := hq.2
  simp only [List.cons_append] at h2
  simp [h2]

/-- non-vacuity: `"a\x01\u200b\U000e0001\\\""` is a well-formed %q body and the contract is satisfiable -/
def exItems : List QItem :=
  [.plain 97, .hex2 48 49, .u4 50 48 48 98, .u8 48 48 48 101 48 48 48 49, .short 92, .short 34]
theorem exItems_ok : ∀ i ∈ exItems, i.ok = true := List.all_eq_true.mp (by decide +kernel)

example : exItems.all QItem.ok = true := List.all_eq_true.mpr exItems_ok
example : lexStringTok (cDq :: (renderQ exItems ++ cDq :: [41])) = some (cDq :: renderQ exItems ++ [cDq], [41]) :=
  Str.lexStringTok_quoted exItems exItems_ok [41]
example : (lexStringTok (cDq :: (renderQ exItems ++ cDq :: [41]))).bind
      (fun r => ((fun t => if t = cDq :: renderQ exItems ++ [cDq] then some [97, 1] else none) r.1).map (fun u => (u, r.2)))
    = some ([97, 1], [41]) :=
  string_token_roundtrip (fun _ => exItems) (fun t => if t = cDq :: renderQ exItems ++ [cDq] then some [97, 1] else none)
    [97, 1] [41] ⟨exItems_ok, by simp⟩

/-- a scanner that consumes one extra rune after a numeric escape loses the closing quote of `"a\x01"`; lexString keeps it -/
theorem extra_rune_breaks_last_escape :
    lexStringExtra cDq [97, 92, 120, 48, 49, cDq] = none ∧
    lexString cDq [97, 92, 120, 48, 49, cDq] = some ([97, 92, 120, 48, 49], []) := by decide +kernel

open SH.PromLex.Num in
/-- A duration the printer writes, `<n>s`, followed by anything that is not alphanumeric (`]`, `:`, `,`, blank, end): the
    lexer cuts it as one DURATION token of exactly that text — in lexNumberOrDuration and in lexDuration alike — and
    parseDuration gives n seconds back, for every n ≥ 1 up to maxSecs = 9223372036 (2^63 ns). -/
theorem duration_literal_roundtrip (n : Nat) (h1 : 1 ≤ n) (h2 : n ≤ maxSecs) (rest : List Nat) (hr : headAlnum rest = false) :
    lexNumOrDur (printSeconds n ++ rest) = .dur (printSeconds n).length ∧
    lexDurationB (printSeconds n ++ rest) = .dur (printSeconds n).length ∧
    parseDuration (printSeconds n) = some n :=
  ⟨(lex_printSeconds n rest hr).1, (lex_printSeconds n rest hr).2, parseDuration_printSeconds n h1 h2⟩

example : lexDurationB (printSeconds 300 ++ [93]) = .dur 4 ∧ parseDuration (printSeconds 300) = some 300 := by decide +kernel

/-- outside 1..maxSecs there is no `<n>s` literal: `0s` is rejected ("duration must be greater than 0", known finding
    zero-duration) and `9223372037s` is out of range for model.ParseDuration (known finding duration-out-of-range), while
    the inputs `0s400ms` and `9223372036s800ms` are accepted and rounded to exactly these two values -/
theorem duration_bounds_unprintable :
    parseDuration (printSeconds 0) = none ∧ parseDuration (printSeconds (maxSecs + 1)) = none ∧
    parseDuration [48, 115, 52, 48, 48, 109, 115] = some 0 ∧
    parseDuration ([57, 50, 50, 51, 51, 55, 50, 48, 51, 54, 115] ++ [56, 48, 48, 109, 115]) = some (maxSecs + 1) := by
  decide +kernel

/-- the same at token level: `foo[9223372036s800ms]` is accepted with a range no literal denotes -/
theorem duration_out_of_range_needed :
    let ts : List Tok := [.word .ident "foo", .lb, .dur (some (maxSecs + 1)), .rb]
    ts.all tokOk = false ∧ parse ts = some (.mat ⟨"foo", [nameMatcher "foo"], .none, 0, []⟩ (maxSecs + 1)) ∧
    parse (printExpr .fixed (.mat ⟨"foo", [nameMatcher "foo"], .none, 0, []⟩ (maxSecs + 1))) = none := by decide +kernel

open SH.PromLex.Num in
/-- Round trip of a number literal through printer and lexer, for ANY `format`/`number` pair that satisfies on the value
    `x` the contract of fmt.Sprint(float64) (finite, non-negative: digits, optional `.digits`, optional `e±dd`) and of the
    parser's `number` (strconv.ParseInt, then ParseFloat): the lexer cuts exactly the printed text as one NUMBER token, whose
    value is x. The contract `number (format x) = x` is a hypothesis, discharged by the round-trip oracle only. -/
theorem number_literal_roundtrip {V : Type} (format : V → NumShape) (number : List Nat → Option V) (x : V)
    (hq : (format x).ok = true ∧ number (format x).render = some x) (rest : List Nat) (hr : numFollow rest = true) :
    lexNumOrDur ((format x).render ++ rest) = .num (format x).render.length ∧
    number (((format x).render ++ rest).take (format x).render.length) = some x :=
  ⟨lexNumOrDur_shape (format x) hq.1 rest hr, by simp [hq.2]⟩

/-- `1e+06`, `0.5` are printer shapes; a number is followed by `)`, `,`, a blank … -/
example : (NumShape.mk [49] none (some (false, [48, 54]))).ok = true ∧ (NumShape.mk [48] (some [53]) none).ok = true := by decide +kernel
example : lexNumOrDur ((NumShape.mk [49] none (some (false, [48, 54]))).render ++ [41]) = .num 5 := by decide +kernel

open SH.PromLex.Num in
/-- `Inf` and `NaN` are lexed as words by lexKeywordOrIdentifier and the keyword table makes them NUMBER tokens -/
theorem inf_nan_tokens (rest : List Nat) (hr : ∀ c t, rest = c :: t → isWordB c = false) :
    lexWord ([73, 110, 102] ++ rest) = ([73, 110, 102], rest) ∧ lexWord ([78, 97, 78] ++ rest) = ([78, 97, 78], rest) ∧
    isNumKind (classifyKind "Inf") = true ∧ isNumKind (classifyKind "NaN") = true :=
  ⟨lexWord_run _ rest (by decide +kernel) hr, lexWord_run _ rest (by decide +kernel) hr, by decide +kernel, by decide +kernel⟩

open SH.PromLex.Num in
/-- The `@ <timestamp>` clause: the printer writes k ms as `%.3f` seconds (`printMs k`, e.g. 1001 → `1.001`); the lexer cuts
    that text as one NUMBER token and the decimal → millisecond conversion (rounding to the nearest ms, `atMs`) gives exactly
    k back — for every k, without hypothesis. (That `atMs` is timestamp.FromFloatSeconds ∘ ParseFloat on such texts is the
    correspondence op `atms`; a truncating conversion returns k−1 for about 1% of the k.) -/
theorem at_timestamp_roundtrip (k : Nat) (rest : List Nat) (hr : numFollow rest = true) :
    lexNumOrDur (printMs k ++ rest) = .num (printMs k).length ∧ atMs (printMs k) = some k := by
  obtain ⟨_, hd, hne⟩ := natDigits_spec (k / 1000)
  have hshape : printMs k = (NumShape.mk (natDigits (k / 1000)) (some (pad3Digits (k % 1000))) none).render := by
    simp [printMs, NumShape.render, fracToks, expToks]
  have hok : (NumShape.mk (natDigits (k / 1000)) (some (pad3Digits (k % 1000))) none).ok = true := by
    simpa [NumShape.ok, hne] using ⟨hd, List.cons_ne_nil _ _, pad3_digits (k % 1000)⟩
  rw [hshape]
  exact ⟨lexNumOrDur_shape _ hok rest hr, hshape ▸ atMs_printMs k⟩

example : printMs 1001 = [49, 46, 48, 48, 49] ∧ atMs (printMs 1001) = some 1001 ∧ atMs [49, 46, 48, 48, 49, 52] = some 1001 := by
  decide +kernel

/-! ### the whole lexer (SH.Model.PromLexAll, step lemmas in SH.Lemmas.PromLexAllSteps)

  `lexAll` models the complete state machine of lex.go (blanks, comments, operators, brace and bracket modes, the literal
  scanners) and is compared with `Lexer.NextItem` on every generated source and every printed text (driver op `lexall`).
  Durations, numbers, %q strings and blanks are lexed by one step of that machine to exactly that token, the right successor
  state and the rest of the text (`lexer_steps`; the other token classes in SH.Lemmas.PromLexAllSteps), and the steps compose
  across the `[`…`]` mode (`lex_range_suffix`). On every generated case the composition is checked by the correspondence (ops
  print + lexall). -/

open SH.PromLex.Steps SH.PromLex.Num in
/-- one step of the whole lexer on the printed text of each literal class, in the state the printer's context implies -/
theorem lexer_steps (st : LexState) (hst : plain st) :
    (∀ n rest, headAlnum rest = false →
      lexStep (printSeconds n ++ rest) st = .tok "DURATION" (printSeconds n).length rest st) ∧
    (∀ n rest, headAlnum rest = false →
      lexStep (printSeconds n ++ rest) { st with wantDur := true } = .tok "DURATION" (printSeconds n).length rest st) ∧
    (∀ (sh : NumShape) rest, sh.ok = true → numFollow rest = true →
      lexStep (sh.render ++ rest) st = .tok "NUMBER" sh.render.length rest st) ∧
    (∀ (items : List QItem) rest, (∀ i ∈ items, i.ok = true) →
      lexStep (cDq :: (renderQ items ++ cDq :: rest)) st = .tok "STRING" ((renderQ items).length + 2) rest st) ∧
    (∀ rest, lexStep (32 :: rest) st = .skip (rest.dropWhile isSpaceB) st) := by
  refine ⟨fun n rest h => step_dur st hst n rest h, ?_, fun sh rest h1 h2 => step_num st hst sh h1 rest h2,
    fun items rest h => step_string st hst items h rest, fun rest => step_blank st hst.1 rest⟩
  intro n rest h
  have := step_dur_bracket { st with wantDur := true } rfl n rest h
  have hback : ({ st with wantDur := false } : LexState) = st := by
    obtain ⟨b, k, g, d, w⟩ := st; simp only [plain] at hst; simp [hst.1]
  simpa [hback] using this

open SH.PromLex.Steps in
theorem lex_range_suffix (f : Nat) (st : LexState) (hst : plain st) (hb : st.bracket = false) (hg : st.gotColon = false)
    (n : Nat) (rest : List Nat) :
    lexLoop (f + 3) (91 :: (printSeconds n ++ 93 :: rest)) st =
      (⟨"LEFT_BRACKET", 1⟩ :: ⟨"DURATION", (printSeconds n).length⟩ :: ⟨"RIGHT_BRACKET", 1⟩ :: (lexLoop f rest st).1,
       (lexLoop f rest st).2) :=
  SH.PromLex.Steps.lex_range_suffix f st hst hb hg n rest

/-- the whole lexer on a concrete printed text, `x[300s] @ 1.500` -/
example : lexAll ("x[300s] @ 1.500".toList.map Char.toNat) =
    ([⟨"IDENTIFIER", 1⟩, ⟨"LEFT_BRACKET", 1⟩, ⟨"DURATION", 4⟩, ⟨"RIGHT_BRACKET", 1⟩, ⟨"AT", 1⟩, ⟨"NUMBER", 5⟩], .eof) := by
  decide +kernel

/-! ### character level

  Proved: the chaining principle (a derivation of justified lexer steps through a text determines what the whole lexer
  returns: `Lexes.lexAll`; the proofs build such derivations as segments, `Chain.Seg`, composed by `Seg.trans`), range selectors with an offset composed with the token-level theorem (next), and a recursive fragment
  (`lexAll_printText_fragment`, which lists what it leaves out). Not proved, and not stated: a character-level printer for all of
  `Expr` with `lexAll (text e) = tokens of printExpr .fixed e`; in particular nothing relates the token-level renderings
  (`fmt3`, `durTok`, `numTok`) to the character-level ones (`printMs`, `printSeconds`, `NumShape.render`). -/

open SH.PromLex.Chain SH.PromLex.Num in
/-- character level → tokens → tree, for `name[<n>s] offset <m>s`: the text the printer writes is lexed to exactly its six tokens
    (through the `[`…`]` mode and the blanks), the two DURATION texts denote n and m, and the token-level round trip holds -/
theorem accepted_roundtrip_text_fragment_partial (c : Nat) (w : List Nat) (n m : Nat)
    (hc : (isAlphaB c || c == 58) = true) (hw : ∀ x ∈ w, isWordB x = true)
    (hmi : isMetricIdent (classifyKind (String.ofList ((c :: w).map Char.ofNat))) = true)
    (hn : okSecs n = true) (hm : okSecs m = true) :
    let name := String.ofList ((c :: w).map Char.ofNat)
    let e : Expr := .mat ⟨name, [nameMatcher name], .none, (m : Int), []⟩ n
    lexAll (c :: w ++ 91 :: (printSeconds n ++ 93 :: 32 :: (offsetWord ++ 32 :: printSeconds m))) =
      ([⟨kindTokName (classifyKind name), w.length + 1⟩, ⟨"LEFT_BRACKET", 1⟩, ⟨"DURATION", (printSeconds n).length⟩,
        ⟨"RIGHT_BRACKET", 1⟩, ⟨"OFFSET", 6⟩, ⟨"DURATION", (printSeconds m).length⟩], .eof) ∧
    parseDuration (printSeconds n) = some n ∧ parseDuration (printSeconds m) = some m ∧
    parse (printExpr .fixed e) = some (norm e) := by
  have hn' : n ≠ 0 ∧ n ≤ maxSecs := by simpa [okSecs] using hn
  have hm' : m ≠ 0 ∧ m ≤ maxSecs := by simpa [okSecs] using hm
  refine ⟨lexAll_range_offset c w n m hc hw, parseDuration_printSeconds n (by omega) hn'.2,
    parseDuration_printSeconds m (by omega) hm'.2,
    parse_print _ (Sound.wf_mat.mpr ⟨(Sound.okSel_iff _).mpr ⟨Or.inr hmi, by simp, by simpa using hm'.2⟩, hn⟩)⟩

/-- non-vacuity: `foo[300s] offset 60s` -/
example : (isAlphaB 102 || 102 == 58) = true ∧ (∀ x ∈ [111, 111], isWordB x = true) ∧
    isMetricIdent (classifyKind (String.ofList (([102, 111, 111] : List Nat).map Char.ofNat))) = true ∧
    okSecs 300 = true ∧ okSecs 60 = true := by decide +kernel

open SH.PromLex.Frag in
/-- Character level, recursive fragment (SH.Lemmas.PromLexFrag): for every expression built from metric names, range selectors
    `name[<n>s]`, parentheses, one-argument calls `f(e)` and the twelve binary operators ` + - * / % ^ == != <= >= < > ` (each
    written with a blank on either side) and unsigned number literals as operands (any `NumShape` the printer can write: digits,
    optional fraction, optional exponent), the whole lexer on the text the printer writes returns exactly the expression's
    tokens — by induction on the expression, chaining the step lemmas with the lexer-state invariant (paren depth restored,
    bracket mode left). Not covered: matchers, @/offset modifiers, several arguments, aggregations, the set operators and the
    bool/on/ignoring/group modifiers, strings and Inf/NaN as operands, unary signs; and the bridge from these raw tokens to
    `parse`. -/
theorem lexAll_printText_fragment (e : TE) (hg : Good e) : lexAll (printText e) = (toksOf e, .eof) := by
  have h := seg_printText e hg {} ⟨⟨rfl, rfl⟩, rfl, rfl⟩ [] (by intro x t h; cases h)
  rw [List.append_nil] at h
  exact h.lexAll

open SH.PromLex.Frag in
/-- non-vacuity: `f(a[300s] + (b))` is in the fragment -/
example : Good (.call 102 [] (.add (.rng 97 [] 300) (.par (.sel 98 [])))) := by
  refine ⟨⟨by decide +kernel, by simp⟩, ⟨by decide +kernel, by simp⟩, ⟨by decide +kernel, by simp⟩⟩

open SH.PromLex.Frag in
/-- non-vacuity with a number: `f(a * 2.5e3)` is in the fragment -/
example : Good (.call 102 [] (.bin .mul (.sel 97 []) (.num ⟨[50], some [53], some (false, [51])⟩))) := by
  refine ⟨⟨by decide +kernel, by simp⟩, ⟨by decide +kernel, by simp⟩, by show NumShape.ok _ = true; decide +kernel⟩

open SH.PromLex.Frag in
/-- the whole lexer on `a <= b ^ c`, by evaluation: the five tokens `lexAll_printText_fragment` gives -/
example : lexAll (printText (.bin .lte (.sel 97 []) (.bin .pow (.sel 98 []) (.sel 99 [])))) =
    ([⟨"IDENTIFIER", 1⟩, ⟨"LTE", 2⟩, ⟨"IDENTIFIER", 1⟩, ⟨"POW", 1⟩, ⟨"IDENTIFIER", 1⟩], .eof) := by decide +kernel

end Lexical

/-! ## the tables regenerated from /repo

  Besides the facts stated here the proofs evaluate the tables of SH.Gen.C28 in `wordOp_table`, `modKws_table`,
  `binOpOfTok_opTok` and `Sound.isMetricIdent_*`: a regenerated table that breaks one of them breaks `parse_print` / `parse_wf`. -/

theorem prec_levels :
    BinOp.ldefault.prec = 1 ∧ BinOp.lor.prec = 2 ∧ BinOp.land.prec = 3 ∧ BinOp.lunless.prec = 3 ∧
    BinOp.eqlc.prec = 4 ∧ BinOp.neq.prec = 4 ∧ BinOp.lss.prec = 4 ∧ BinOp.lte.prec = 4 ∧ BinOp.gtr.prec = 4 ∧ BinOp.gte.prec = 4 ∧
    BinOp.add.prec = 5 ∧ BinOp.sub.prec = 5 ∧ BinOp.mul.prec = 6 ∧ BinOp.div.prec = 6 ∧ BinOp.mod.prec = 6 ∧ BinOp.atan2.prec = 6 ∧
    BinOp.pow.prec = 7 ∧ BinOp.pow.rightAssoc = true ∧ BinOp.mul.rightAssoc = false ∧ unaryOperandPrec = 7 := by decide +kernel

/-- every operator has a level in the table (a missing one would get level 0 and never be taken by the loop) -/
theorem every_op_has_level : BinOp.all.all (fun o => decide (0 < o.prec)) = true := by decide +kernel

/-- every function name and aggregation operator is lexed to the token the grammar expects, so every call / aggregation
    the parser can build can be printed and parsed back -/
theorem functions_are_identifiers : SH.Gen.C28.functions.all (fun f => classifyKind f == .ident) = true := by decide +kernel

theorem aggregators_are_keywords :
    SH.Gen.C28.aggregateOpToks.all (fun n => kwTok n == .word (.kw n) (kwText n) && classifyKind (kwText n) == .kw n) = true := by decide +kernel

def selFoo : Sel := ⟨"foo", [⟨"a", .eq, "62"⟩, ⟨"__what__", .re, "78"⟩, nameMatcher "foo"], .ts 1500, -300, [60, -120]⟩
def selSum : Sel := ⟨"sum", [nameMatcher "sum", nameMatcher "sum"], .start, 0, []⟩
def selAnon : Sel := ⟨"", [⟨"__name__", .eq, "-"⟩], .none, 0, []⟩

/-- sum without (job, on) (rate(foo{…}[5m] @ 1.500 offset [1m, -2m] offset -5m))[10m:1s] @ end() offset 1m
      + -sum @ start() ^ 2 ^ -3 * ({__name__=""} and bool on (l) group_left () -Inf) -/
def ex1 : Expr :=
  .bin .add ⟨false, 0, false, [], []⟩
    (.sub (.agg "SUM" true ["job", "on"] (.cons (.call "rate" (.cons (.mat selFoo 300) .nil)) .nil)) 600 1 .stop 60)
    (.bin .mul ⟨false, 0, false, [], []⟩
      (.un true (.bin .pow ⟨false, 0, false, [], []⟩ (.vec selSum)
        (.bin .pow ⟨false, 0, false, [], []⟩ (.num ⟨false, "2"⟩) (.num ⟨true, "3"⟩))))
      (.par (.bin .land ⟨true, 1, true, ["l"], []⟩ (.vec selAnon) (.num ⟨true, "Inf"⟩))))

theorem wf_ex1 : wf ex1 = true := by decide +kernel

example : wf ex1 = true := wf_ex1
example : parse (printExpr .fixed ex1) = some (norm ex1) := parse_print ex1 wf_ex1
example : norm ex1 ≠ ex1 := by decide +kernel          -- `sum{__name__="sum",__name__="sum"}` loses the duplicate

/-- topk(3, a) by (x) prints with the modifier in front; quantile takes two arguments -/
def ex2 : Expr := .agg "TOPK" false ["x"] (.cons (.num ⟨false, "3"⟩) (.cons (.vec ⟨"a", [nameMatcher "a"], .none, 0, []⟩) .nil))
theorem wf_ex2 : wf ex2 = true := by decide +kernel

example : wf ex2 = true := wf_ex2
example : parse (printExpr .fixed ex2) = some ex2 := (parse_print ex2 wf_ex2).trans (by decide +kernel)

/-- trees the parser cannot produce are not well-formed: (a + b) * c without the ParenExpr, -1 ^ 2 with a folded sign,
    a subquery of a bare selector -/
example : wf (.bin .mul ⟨false, 0, false, [], []⟩ (.bin .add ⟨false, 0, false, [], []⟩ (.num ⟨false, "1"⟩) (.num ⟨false, "2"⟩))
    (.num ⟨false, "3"⟩)) = false := by decide +kernel
example : wf (.bin .pow ⟨false, 0, false, [], []⟩ (.num ⟨true, "1"⟩) (.num ⟨false, "2"⟩)) = false := by decide +kernel
example : wf (.sub (.vec ⟨"a", [nameMatcher "a"], .none, 0, []⟩) 300 0 .none 0) = false := by decide +kernel

/-! ## the printer before fixes/C28-printer-roundtrip.diff violates the property (each tree is well-formed) -/

def vFoo (off : Int) (ex : List Int) : Expr := .vec ⟨"foo", [nameMatcher "foo"], .none, off, ex⟩
def noMod : BinMod := ⟨false, 0, false, [], []⟩

/-- `foo offset 5m` was printed `foo offset 300`: a NUMBER where the grammar wants a DURATION -/
theorem old_printer_offset : wf (vFoo 300 []) = true ∧ parse (printExpr .old (vFoo 300 [])) = none := by decide +kernel

/-- `(foo)[5m:30s]` was printed `(foo)[300:1]`: the lexer stops with "missing unit character in duration" -/
theorem old_printer_subquery :
    wf (.sub (.par (vFoo 0 [])) 300 1 .none 0) = true ∧ parse (printExpr .old (.sub (.par (vFoo 0 [])) 300 1 .none 0)) = none := by
  decide +kernel

/-- `foo offset [1m, 2m]` (StatsHouse extension) was printed `foo`: the list is lost -/
theorem old_printer_offset_list :
    wf (vFoo 0 [60, 120]) = true ∧ parse (printExpr .old (vFoo 0 [60, 120])) = some (vFoo 0 []) := by decide +kernel

/-- `a + ignoring () group_left (x) b` was printed `a + b`: the cardinality and the included labels are lost -/
theorem old_printer_group_left :
    wf (.bin .add ⟨false, 1, false, [], ["x"]⟩ (vFoo 0 []) (vFoo 0 [])) = true ∧
    parse (printExpr .old (.bin .add ⟨false, 1, false, [], ["x"]⟩ (vFoo 0 []) (vFoo 0 []))) =
      some (.bin .add noMod (vFoo 0 []) (vFoo 0 [])) := by decide +kernel

/-- `Inf ^ 2` was printed `+Inf ^ 2`, which is `+(Inf ^ 2)` -/
theorem old_printer_inf :
    wf (.bin .pow noMod (.num ⟨false, "Inf"⟩) (.num ⟨false, "2"⟩)) = true ∧
    parse (printExpr .old (.bin .pow noMod (.num ⟨false, "Inf"⟩) (.num ⟨false, "2"⟩))) =
      some (.un false (.bin .pow noMod (.num ⟨false, "Inf"⟩) (.num ⟨false, "2"⟩))) := by decide +kernel

/-- `{}` was printed as the empty text -/
theorem old_printer_empty_selector :
    wf (.vec ⟨"", [], .none, 0, []⟩) = true ∧ parse (printExpr .old (.vec ⟨"", [], .none, 0, []⟩)) = none := by decide +kernel

/-- ... and the same trees round-trip with the fixed printer -/
theorem fixed_printer_witnesses :
    parse (printExpr .fixed (vFoo 300 [])) = some (vFoo 300 []) ∧
    parse (printExpr .fixed (.sub (.par (vFoo 0 [])) 300 1 .none 0)) = some (.sub (.par (vFoo 0 [])) 300 1 .none 0) ∧
    parse (printExpr .fixed (vFoo 0 [60, 120])) = some (vFoo 0 [60, 120]) ∧
    parse (printExpr .fixed (.bin .add ⟨false, 1, false, [], ["x"]⟩ (vFoo 0 []) (vFoo 0 []))) =
      some (.bin .add ⟨false, 1, false, [], ["x"]⟩ (vFoo 0 []) (vFoo 0 [])) ∧
    parse (printExpr .fixed (.bin .pow noMod (.num ⟨false, "Inf"⟩) (.num ⟨false, "2"⟩))) =
      some (.bin .pow noMod (.num ⟨false, "Inf"⟩) (.num ⟨false, "2"⟩)) ∧
    parse (printExpr .fixed (.vec ⟨"", [], .none, 0, []⟩)) = some (.vec ⟨"", [], .none, 0, []⟩) :=
  ⟨(parse_print _ old_printer_offset.1).trans (by decide +kernel),
   (parse_print _ old_printer_subquery.1).trans (by decide +kernel),
   (parse_print _ old_printer_offset_list.1).trans (by decide +kernel),
   (parse_print _ old_printer_group_left.1).trans (by decide +kernel),
   (parse_print _ old_printer_inf.1).trans (by decide +kernel),
   (parse_print _ old_printer_empty_selector.1).trans (by decide +kernel)⟩

/-- Known finding `zero-duration` at the level of `wf`: the tree of `foo[0s400ms]` has Range = 0, fails `okSecs` inside `wf`,
    and its printed text does not parse, so `parse_print` needs that part of `wf` -/
theorem zero_range_unprintable :
    wf (.mat ⟨"foo", [nameMatcher "foo"], .none, 0, []⟩ 0) = false ∧
    parse (printExpr .fixed (.mat ⟨"foo", [nameMatcher "foo"], .none, 0, []⟩ 0)) = none :=
  ⟨by decide +kernel, zero_duration_needed.2.2⟩

end SH.Props.C28

