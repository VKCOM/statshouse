/-
  SH.Lemmas.Egress — helper development for property C31 (lean/SH/Props/C31.lean states the property theorems):
  buffer invariants (`Data`, `Exhausted`, `BInv`, `NoLost`) carried to every history through `BufMove` (what one pool step
  does to one buffer); the outcomes of `push` as equations; the forced moves of a sender (`drive`, `untilRet`) followed along
  their schedules (`path`, `pathRet`); the pool's ledgers (`Acct`, `AllFrames`, `Ledger`); the write-deadline layer (`DlInv`).
-/
import SH.Model.Egress

namespace SH.C31
open SH.Egress

/-- what the sender still owes upstream: the unread part of the read batch, then the write buffer -/
def pendingOf (b : Buf) : List Pkt := b.r.drop b.ri ++ b.w

def skippedCount (d : List (Pkt × Fate)) : Nat := (d.filter (fun d => d.2 == Fate.skipped)).length

theorem map_fate_fst (f : Fate) (l : List Pkt) : (l.map (fun p => (p, f))).map (·.1) = l := by
  induction l with
  | nil => rfl
  | cons a l ih => simp [ih]

theorem skipped_written (l : List Pkt) : skippedCount (l.map (fun p => (p, Fate.written))) = 0 := by
  induction l with
  | nil => rfl
  | cons a l ih => exact ih

theorem skipped_skipped (l : List Pkt) : skippedCount (l.map (fun p => (p, Fate.skipped))) = l.length := by
  induction l with
  | nil => rfl
  | cons a l ih => exact congrArg (· + 1) ih

theorem skipped_append (a b : List (Pkt × Fate)) : skippedCount (a ++ b) = skippedCount a + skippedCount b := by
  simp [skippedCount]

/-- a batch splits into: handed over completely, the one being written when the error happened, to be resent -/
theorem split3 (l : List Pkt) (k : Nat) : l = l.take k ++ ((l.drop k).take 1 ++ l.drop (k + 1)) := by
  have h1 : (l.drop k).take 1 ++ l.drop (k + 1) = l.drop k := by
    have := List.take_append_drop 1 (l.drop k)
    rw [List.drop_drop] at this
    exact this
  rw [h1, List.take_append_drop]

/-- data invariant of one buffer (both variants): FIFO bookkeeping, capacity, error count. `nerr` relates two ghosts; the
    real `writeErrors` counter of a failed packet write is sendLoop's and is not modelled (`Pool.werr` counts failed reports). -/
structure Data (c : Cfg) (b : Buf) : Prop where
  fifo : b.acc = b.done.map (·.1) ++ pendingOf b
  wlen : b.w.length ≤ c.bufLen
  nerr : skippedCount b.done = b.nerr

/-- a sender waiting in `swap` has consumed its read batch -/
def Exhausted (b : Buf) : Prop := parked b = true → b.r.length ≤ b.ri

structure BInv (c : Cfg) (b : Buf) : Prop where
  data : Data c b
  exh : Exhausted b

theorem binv_init (c : Cfg) : BInv c {} := by
  refine ⟨⟨?_, ?_, ?_⟩, ?_⟩ <;> simp [pendingOf, parked, skippedCount, Exhausted]

theorem acc_signal (b : Buf) : (signal b).acc = b.acc := by
  unfold signal; split <;> rfl

theorem pc_signal (b : Buf) : (signal b).pc = b.pc := by
  unfold signal; split <;> rfl

theorem binv_signal (c : Cfg) (b : Buf) (h : BInv c b) : BInv c (signal b) := by
  unfold signal
  split
  -- the new record differs only in `sig`, which `Data` and `Exhausted` do not read: the fields carry over one by one
  · exact ⟨⟨h.data.fifo, h.data.wlen, h.data.nerr⟩, h.exh⟩
  · exact h

theorem binv_bufPush (c : Cfg) (b : Buf) (p : Pkt) (h : BInv c b) : BInv c (bufPush c b p).1 := by
  unfold bufPush
  by_cases hf : full c b = true
  · simp only [hf, if_true]; exact binv_signal c b h
  · simp only [hf]
    apply binv_signal
    refine ⟨⟨?_, ?_, ?_⟩, ?_⟩
    · simp only [pendingOf, h.data.fifo, List.append_assoc]
    · simp only [full, decide_eq_true_eq, Nat.not_le] at hf
      simp
      omega
    · exact h.data.nerr
    · exact h.exh

theorem data_swapBody (c : Cfg) (b : Buf) (h : Data c b) (hx : b.r.length ≤ b.ri) : Data c (swapBody b) := by
  unfold swapBody
  split
  · exact h
  · refine ⟨?_, ?_, ?_⟩
    · have := h.fifo
      simp only [pendingOf, List.drop_of_length_le hx, List.nil_append] at this
      simp [pendingOf, this]
    · simp
    · exact h.nerr

theorem binv_afterSwap1 (c : Cfg) (i : Bool) (b : Buf) (h : Data c b) : BInv c (afterSwap1 i b).1 := by
  unfold afterSwap1
  split <;> exact ⟨⟨h.fifo, h.wlen, h.nerr⟩, by simp [Exhausted, parked]⟩

theorem binv_afterSwap2 (c : Cfg) (i : Bool) (b : Buf) (h : Data c b) : BInv c (afterSwap2 i b).1 :=
  ⟨⟨h.fifo, h.wlen, h.nerr⟩, by simp [Exhausted, parked, afterSwap2]⟩

theorem binv_enterSwap1 (c : Cfg) (i : Bool) (b : Buf) (h : Data c b) (hx : b.r.length ≤ b.ri) : BInv c (enterSwap1 c i b).1 := by
  unfold enterSwap1
  split
  · exact ⟨⟨h.fifo, h.wlen, h.nerr⟩, fun _ => hx⟩
  · exact binv_afterSwap1 c i _ (data_swapBody c _ ⟨h.fifo, h.wlen, h.nerr⟩ hx)

theorem binv_enterSwap2 (c : Cfg) (i : Bool) (b : Buf) (h : Data c b) (hx : b.r.length ≤ b.ri) : BInv c (enterSwap2 c i b).1 := by
  unfold enterSwap2
  split
  · exact ⟨⟨h.fifo, h.wlen, h.nerr⟩, fun _ => hx⟩
  · exact binv_afterSwap2 c i _ (data_swapBody c _ ⟨h.fifo, h.wlen, h.nerr⟩ hx)

theorem binv_popStart (c : Cfg) (i : Bool) (b : Buf) (h : BInv c b) : BInv c (popStart c i b).1 := by
  unfold popStart
  split
  · exact h
  · split
    · exact binv_enterSwap1 c i b h.data ‹_›
    · exact binv_afterSwap1 c i b h.data

theorem binv_wake (c : Cfg) (i : Bool) (b : Buf) (h : BInv c b) : BInv c (wake c i b).1 := by
  unfold wake
  split
  · exact h
  · split
    · exact ⟨⟨h.data.fifo, h.data.wlen, h.data.nerr⟩, h.exh⟩
    · split
      · rename_i hpc
        exact binv_afterSwap1 c i _ (data_swapBody c b h.data (h.exh (by simp [parked, hpc])))
      · rename_i hpc
        exact binv_afterSwap2 c i _ (data_swapBody c b h.data (h.exh (by simp [parked, hpc])))
      · refine ⟨⟨h.data.fifo, h.data.wlen, h.data.nerr⟩, ?_⟩
        intro hp
        simp only [parked] at hp
        cases hpc : b.pc <;> simp_all

theorem batch_length (b : Buf) : (batch b).length = b.r.length - b.ri := by simp [batch]

/-- `r` from the new `ri` on is the batch behind the packet given up -/
theorem resend_eq (b : Buf) (n : Nat) (hn : n < (batch b).length) :
    b.r.drop (b.r.length - n) = (batch b).drop ((batch b).length - n - 1 + 1) := by
  have := batch_length b
  simp only [batch, List.drop_drop]
  congr 1
  simp only [List.length_drop]
  omega

theorem writeDone_err (c : Cfg) (i : Bool) (b : Buf) (n : Nat) (hpc : b.pc = .writing) (hn : n < (batch b).length) :
    writeDone c i b (.err n) =
      ({ b with ri := b.r.length - n, pc := .idle, nerr := b.nerr + 1,
                done := b.done ++ ((batch b).take ((batch b).length - n - 1)).map (·, Fate.written)
                          ++ (((batch b).drop ((batch b).length - n - 1)).take 1).map (·, Fate.skipped) },
       [.ret i true]) := by
  simp only [writeDone, hpc, Nat.not_le.mpr hn]
  rfl

theorem writeDone_ok (c : Cfg) (i : Bool) (b : Buf) (hpc : b.pc = .writing) :
    writeDone c i b .ok =
      enterSwap2 c i { b with ri := b.r.length, done := b.done ++ (batch b).map (·, Fate.written) } := by
  simp only [writeDone, hpc]
  rfl

theorem writeDone_cases (c : Cfg) (i : Bool) (b : Buf) (r : WRes) :
    writeDone c i b r = (b, [.bad]) ∨ (b.pc = .writing ∧ r = .ok) ∨
      ∃ n, b.pc = .writing ∧ r = .err n ∧ n < (batch b).length := by
  by_cases hpc : b.pc = .writing
  · cases r with
    | ok => exact .inr (.inl ⟨hpc, rfl⟩)
    | err n =>
      by_cases hn : n < (batch b).length
      · exact .inr (.inr ⟨n, hpc, rfl, hn⟩)
      · exact .inl (by simp only [writeDone, hpc, Nat.not_lt.mp hn]; rfl)
  · exact .inl (by simp [writeDone, hpc])

theorem binv_writeDone (c : Cfg) (i : Bool) (b : Buf) (res : WRes) (h : BInv c b) : BInv c (writeDone c i b res).1 := by
  have hf := h.data.fifo
  simp only [pendingOf] at hf
  rcases writeDone_cases c i b res with e | ⟨hpc, rfl⟩ | ⟨n, hpc, rfl, hn⟩
  · rw [e]; exact h
  · rw [writeDone_ok c i b hpc]
    apply binv_enterSwap2
    · refine ⟨?_, h.data.wlen, ?_⟩
      · simp only [pendingOf, List.map_append, map_fate_fst, batch, List.drop_length, List.nil_append, List.append_assoc]
        exact hf
      · simp only [skipped_append, skipped_written, Nat.add_zero]; exact h.data.nerr
    · exact Nat.le_refl _
  · rw [writeDone_err c i b n hpc hn]
    refine ⟨⟨?_, h.data.wlen, ?_⟩, by simp [Exhausted, parked]⟩
    · -- the batch is: written, the one given up, the `n` to be resent (`split3`); the last part is what stays in `r`
      simp only [pendingOf, List.map_append, map_fate_fst, resend_eq b n hn, List.append_assoc]
      rw [hf]
      congr 1
      rw [← List.append_assoc, ← List.append_assoc, List.append_assoc (List.take _ _)]
      congr 1
      exact split3 (batch b) _
    · simp only [skipped_append, skipped_written, skipped_skipped, Nat.add_zero, List.length_take, List.length_drop]
      have := h.data.nerr
      omega

/-- no lost wake-up: a sender parked in `swap` whose wait condition no longer holds has a wake-up pending -/
def NoLost (c : Cfg) (b : Buf) : Prop := parked b = true → mustWait c b = false → b.sig = true

theorem nolost_of_not_parked (c : Cfg) (b : Buf) (h : parked b = false) : NoLost c b := by
  intro hp; rw [h] at hp; cases hp

theorem nolost_signal (c : Cfg) (b : Buf) : NoLost c (signal b) := by
  unfold signal
  split
  · intro _ _; rfl
  · rename_i hp; exact nolost_of_not_parked c b (by simpa using hp)

theorem nolost_afterSwap1 (c : Cfg) (i : Bool) (b : Buf) : NoLost c (afterSwap1 i b).1 := by
  unfold afterSwap1; split <;> exact nolost_of_not_parked c _ (by simp [parked])

theorem nolost_afterSwap2 (c : Cfg) (i : Bool) (b : Buf) : NoLost c (afterSwap2 i b).1 :=
  nolost_of_not_parked c _ (by simp [parked, afterSwap2])

theorem nolost_park (c : Cfg) (b : Buf) (pc : PC) (hm : mustWait c { b with timeout := false } = true) :
    NoLost c { b with timeout := false, pc := pc, sig := false } := by
  intro _ hf
  rw [show mustWait c { b with timeout := false, pc := pc, sig := false } = mustWait c { b with timeout := false } from rfl, hm] at hf
  cases hf

theorem nolost_enterSwap1 (c : Cfg) (i : Bool) (b : Buf) : NoLost c (enterSwap1 c i b).1 := by
  unfold enterSwap1
  split
  · exact nolost_park c b .swap1 ‹_›
  · exact nolost_afterSwap1 c i _

theorem nolost_enterSwap2 (c : Cfg) (i : Bool) (b : Buf) : NoLost c (enterSwap2 c i b).1 := by
  unfold enterSwap2
  split
  · exact nolost_park c b .swap2 ‹_›
  · exact nolost_afterSwap2 c i _

theorem nolost_popStart (c : Cfg) (i : Bool) (b : Buf) (h : NoLost c b) : NoLost c (popStart c i b).1 := by
  unfold popStart
  split
  · exact h
  · split
    · exact nolost_enterSwap1 c i b
    · exact nolost_afterSwap1 c i b

theorem nolost_writeDone (c : Cfg) (i : Bool) (b : Buf) (r : WRes) (h : NoLost c b) : NoLost c (writeDone c i b r).1 := by
  rcases writeDone_cases c i b r with e | ⟨hpc, rfl⟩ | ⟨n, hpc, rfl, hn⟩
  · rw [e]; exact h
  · rw [writeDone_ok c i b hpc]; exact nolost_enterSwap2 c i _
  · rw [writeDone_err c i b n hpc hn]; exact nolost_of_not_parked c _ rfl

theorem nolost_wake (c : Cfg) (i : Bool) (b : Buf) (h : NoLost c b) : NoLost c (wake c i b).1 := by
  unfold wake
  split
  · exact h
  · split
    · rename_i hm
      intro _ hf
      simp only [mustWait] at hm hf
      simp [hm] at hf
    · split
      · exact nolost_afterSwap1 c i _
      · exact nolost_afterSwap2 c i _
      · apply nolost_of_not_parked
        simp only [parked]
        cases hpc : b.pc <;> simp_all

/-- the two hypotheses of `drops_reported_within_one_loop_iteration` -/
def PInv (c : Cfg) (s : Pool) : Prop := BInv c s.b0 ∧ BInv c s.b1

def PNoLost (c : Cfg) (s : Pool) : Prop := NoLost c s.b0 ∧ NoLost c s.b1

theorem getB_setB (s : Pool) (i j : Bool) (b : Buf) : getB (setB s i b) j = if j = i then b else getB s j := by
  cases i <;> cases j <;> rfl

theorem getB_setB_same (s : Pool) (i : Bool) (b : Buf) : getB (setB s i b) i = b := by
  rw [getB_setB, if_pos rfl]

theorem bufPush_ok (c : Cfg) (b : Buf) (p : Pkt) : (bufPush c b p).2 = !(full c b) := by
  unfold bufPush; split <;> simp_all

theorem bufPush_acc (c : Cfg) (b : Buf) (p : Pkt) :
    (bufPush c b p).1.acc = if full c b then b.acc else b.acc ++ [p] := by
  unfold bufPush
  split
  · exact acc_signal b
  · exact acc_signal _

/-- the four outcomes of `writeLocked`: pool closed; the buffer `*primPtr` points to takes the packet; it is full (`push`
    still signals its sender) and the other one takes it: failover; both are full: dropped, the bytes go to `wouldBlockBytes`.
    `recon0`, `recon1` of the failover: `setRecon` for the old primary, without a case split on `s.prim`. -/
theorem push_cases (c : Cfg) (s : Pool) (p : Pkt) :
    (s.closed = true ∧
      push c s p = ({ s with nPush := s.nPush + 1, drop := s.drop + 1, dropTotal := s.dropTotal + 1 }, [.dropped])) ∨
    (s.closed = false ∧ full c (getB s s.prim) = false ∧
      push c s p =
        ({ s with b0 := if s.prim then s.b0 else (bufPush c s.b0 p).1, b1 := if s.prim then (bufPush c s.b1 p).1 else s.b1,
                  nPush := s.nPush + 1, fwd := s.fwd + 1, fwdTotal := s.fwdTotal + 1, accAll := s.accAll ++ [(p, s.prim)] },
         [.accepted s.prim])) ∨
    (s.closed = false ∧ full c (getB s s.prim) = true ∧ full c (getB s (!s.prim)) = false ∧
      push c s p =
        ({ s with b0 := (bufPush c s.b0 p).1, b1 := (bufPush c s.b1 p).1, prim := !s.prim,
                  recon0 := !s.prim || s.recon0, recon1 := s.prim || s.recon1,
                  nPush := s.nPush + 1, fwd := s.fwd + 1, fwdTotal := s.fwdTotal + 1, accAll := s.accAll ++ [(p, !s.prim)] },
         [.accepted (!s.prim)])) ∨
    (s.closed = false ∧ full c (getB s s.prim) = true ∧ full c (getB s (!s.prim)) = true ∧
      push c s p =
        ({ s with b0 := (bufPush c s.b0 p).1, b1 := (bufPush c s.b1 p).1, nPush := s.nPush + 1, wb := s.wb + p.length,
                  drop := s.drop + 1, dropTotal := s.dropTotal + 1, dropBytes := s.dropBytes + p.length },
         [.dropped])) := by
  cases hc : s.closed
  · cases hf : full c (getB s s.prim)
    · refine .inr (.inl ⟨rfl, rfl, ?_⟩)
      cases hp : s.prim <;> simp_all [push, getB, setB, bufPush_ok]
    · cases hg : full c (getB s (!s.prim))
      · refine .inr (.inr (.inl ⟨rfl, rfl, rfl, ?_⟩))
        cases hp : s.prim <;> simp_all [push, getB, setB, setRecon, bufPush_ok]
      · refine .inr (.inr (.inr ⟨rfl, rfl, rfl, ?_⟩))
        cases hp : s.prim <;> simp_all [push, getB, setB, bufPush_ok]
  · exact .inl ⟨rfl, by simp only [push, hc, if_true]⟩

theorem push_getB (c : Cfg) (s : Pool) (p : Pkt) (j : Bool) :
    getB (push c s p).1 j = getB s j ∨ getB (push c s p).1 j = (bufPush c (getB s j) p).1 := by
  rcases push_cases c s p with ⟨-, e⟩ | ⟨-, -, e⟩ | ⟨-, -, -, e⟩ | ⟨-, -, -, e⟩ <;> rw [e]
  · exact .inl rfl
  · cases s.prim <;> cases j <;> simp [getB]
  · cases j <;> exact .inr rfl
  · cases j <;> exact .inr rfl

theorem step_report (v : Variant) (c : Cfg) (s : Pool) (i ok : Bool) :
    (step v c s (.report i ok)).1 =
      if i = true ∨ s.wb = 0 then s
      else if ok then { s with wb := 0, reported := s.reported + s.wb }
      else { s with wb := 0, werr := s.werr + 1, lostRep := s.lostRep + s.wb } := by
  cases i <;> by_cases hw : s.wb = 0 <;> cases ok <;> simp [step, hw]

/-- what one pool step can do to one buffer (`step_bufMove`); `pop = false`: certainly not a `pop` of this sender, so an idle
    sender stays idle (`stays_idle`). `bstep`, `bstepEv` are one sender's forced moves as functions (`primary_move_step`). -/
inductive BufMove (v : Variant) (c : Cfg) : Bool → Buf → Buf → Prop
  | same {pop : Bool} (b : Buf) : BufMove v c pop b b
  | push {pop : Bool} (b : Buf) (body : List UInt8) (h : body ≠ []) : BufMove v c pop b (bufPush c b (frame body)).1
  | pop (i : Bool) (b : Buf) : BufMove v c true b (popStart c i b).1
  | wres {pop : Bool} (i : Bool) (b : Buf) (r : WRes) : BufMove v c pop b (writeDone c i b r).1
  | timer {pop : Bool} (b : Buf) : BufMove v c pop b (timerFire v b)
  | wake {pop : Bool} (i : Bool) (b : Buf) : BufMove v c pop b (wake c i b).1
  | close {pop : Bool} (b : Buf) : BufMove v c pop b (bufClose b)

theorem bufMove_setB {v : Variant} {c : Cfg} {pop : Bool} (s : Pool) (i j : Bool) {b : Buf} (m : BufMove v c pop (getB s i) b) :
    BufMove v c pop (getB s j) (getB (setB s i b) j) := by
  rw [getB_setB]
  split
  · subst j; exact m
  · exact .same _

theorem step_bufMove (v : Variant) (c : Cfg) (s : Pool) (op : Op) (j : Bool) :
    BufMove v c (op == .pop j) (getB s j) (getB (step v c s op).1 j) := by
  cases op with
  | handle body =>
    simp only [step, handle]
    split
    · exact .same _
    · rename_i hne
      rcases push_getB c s (frame body) j with e | e <;> rw [e]
      · exact .same _
      · exact .push _ body (fun hb => hne (by rw [hb]; rfl))
  | pop i =>
    simp only [step, onBuf, getB_setB]
    split
    · subst j; rw [beq_self_eq_true]; exact .pop _ _
    · exact .same _
  | wres i r => exact bufMove_setB s i j (.wres i _ r)
  | timer i => exact bufMove_setB s i j (.timer _)
  | wake i => exact bufMove_setB s i j (.wake i _)
  | close => cases j <;> exact .close _
  | stats => exact .same _
  | report i ok =>
    rw [step_report]
    repeat' split
    all_goals exact .same _
  | takeRecon i => cases i <;> exact .same _

theorem run_inv {P : Pool → Prop} (v : Variant) (c : Cfg) (hP : ∀ s op, P s → P (step v c s op).1) (ops : List Op) :
    ∀ s, P s → P (run v c s ops) := by
  induction ops with
  | nil => intro s h; exact h
  | cons op ops ih => intro s h; exact ih _ (hP s op h)

theorem run_bufInv {P : Buf → Prop} (v : Variant) (c : Cfg) (hP : ∀ pop b b', BufMove v c pop b b' → P b → P b') (ops : List Op)
    (s : Pool) (h : ∀ j, P (getB s j)) : ∀ j, P (getB (run v c s ops) j) :=
  run_inv (P := fun s => ∀ j, P (getB s j)) v c (fun s op h j => hP _ _ _ (step_bufMove v c s op j) (h j)) ops s h

theorem binv_move (v : Variant) (c : Cfg) (pop : Bool) (b b' : Buf) (m : BufMove v c pop b b') (h : BInv c b) : BInv c b' := by
  cases m with
  | same => exact h
  | push _ body _ => exact binv_bufPush c b _ h
  | pop i _ => exact binv_popStart c i b h
  | wres i _ r => exact binv_writeDone c i b r h
  | timer =>
    unfold timerFire
    split
    · exact h
    · cases v
      · exact binv_signal c _ ⟨⟨h.data.fifo, h.data.wlen, h.data.nerr⟩, h.exh⟩
      · exact ⟨⟨h.data.fifo, h.data.wlen, h.data.nerr⟩, h.exh⟩
  | wake i _ => exact binv_wake c i b h
  | close => exact binv_signal c _ ⟨⟨h.data.fifo, h.data.wlen, h.data.nerr⟩, h.exh⟩

theorem nolost_move (c : Cfg) (pop : Bool) (b b' : Buf) (m : BufMove .signal c pop b b') (h : NoLost c b) : NoLost c b' := by
  cases m with
  | same => exact h
  | push _ body _ =>
    unfold bufPush
    split <;> exact nolost_signal c _
  | pop i _ => exact nolost_popStart c i b h
  | wres i _ r => exact nolost_writeDone c i b r h
  | timer =>
    unfold timerFire
    split
    · exact h
    · exact nolost_signal c _
  | wake i _ => exact nolost_wake c i b h
  | close => exact nolost_signal c _

theorem reach_binv (v : Variant) (c : Cfg) (ops : List Op) : ∀ j, BInv c (getB (run v c {} ops) j) :=
  run_bufInv v c (binv_move v c) ops {} (fun j => by cases j <;> exact binv_init c)

theorem reach_nolost (c : Cfg) (ops : List Op) : ∀ j, NoLost c (getB (run .signal c {} ops) j) :=
  run_bufInv .signal c (nolost_move c) ops {} (fun j => by cases j <;> exact nolost_of_not_parked c _ rfl)

/-- the next move of sender `i` and of the batch timer armed by its `swap`, when nobody pushes: sendLoop calls `pop`
    again, the write in progress completes, a pending wake-up is taken, an armed timer that has not fired yet fires.
    `none`: the sender is parked, no wake-up is pending and the timer is spent — only another push could wake it.
    Modelling decision: the forced move of a writing sender is `wres i ok`, so `drive` and `untilRet` follow the schedule in
    which every write succeeds; failed writes are treated by `write_error_skips_exactly_one`. -/
def senderNext (i : Bool) (b : Buf) : Option Op :=
  match b.pc with
  | .idle => some (.pop i)
  | .writing => some (.wres i .ok)
  | _ => if b.sig then some (.wake i) else if !b.timeout then some (.timer i) else none

theorem senderNext_cases (i : Bool) (b : Buf) (op : Op) (h : senderNext i b = some op) :
    op = .pop i ∨ op = .wres i .ok ∨ op = .wake i ∨ op = .timer i := by
  unfold senderNext at h
  split at h
  · cases h; exact .inl rfl
  · cases h; exact .inr (.inl rfl)
  · split at h
    · cases h; exact .inr (.inr (.inl rfl))
    · split at h
      · cases h; exact .inr (.inr (.inr rfl))
      · cases h

theorem senderNext_none (i : Bool) (b : Buf) :
    senderNext i b = none ↔ parked b = true ∧ b.sig = false ∧ b.timeout = true := by
  unfold senderNext parked
  cases b.pc
  · simp
  · cases b.sig <;> cases b.timeout <;> simp
  · simp
  · cases b.sig <;> cases b.timeout <;> simp

theorem never_stuck_buf (c : Cfg) (i : Bool) (b : Buf) (hnl : NoLost c b) : senderNext i b ≠ none := by
  intro hn
  obtain ⟨hp, hs, ht⟩ := (senderNext_none i b).mp hn
  -- the timer has fired: the wait condition is false, so `NoLost` gives a pending wake-up
  have := hnl hp (by simp [mustWait, ht])
  rw [hs] at this
  cases this

/-- the index inside `op` is not looked at (callers pass `senderNext i b`); an op of somebody else leaves `b` alone -/
def bstep (v : Variant) (c : Cfg) (i : Bool) (b : Buf) : Op → Buf
  | .pop _ => (popStart c i b).1
  | .wres _ r => (writeDone c i b r).1
  | .wake _ => (wake c i b).1
  | .timer _ => timerFire v b
  | _ => b

def isTimer : Op → Bool
  | .timer _ => true
  | _ => false

/-- run the forced moves until nothing is pending (or fuel runs out, or the sender is stuck); count the timer periods -/
def drive (v : Variant) (c : Cfg) (i : Bool) : Nat → Buf → Buf × Nat
  | 0, b => (b, 0)
  | n + 1, b =>
    if (pendingOf b).isEmpty then (b, 0)
    else match senderNext i b with
      | none => (b, 0)
      | some op => ((drive v c i n (bstep v c i b op)).1, (drive v c i n (bstep v c i b op)).2 + (if isTimer op then 1 else 0))

/-- the outcome `r` of a run of forced moves from `b`: nothing pending, at most one timer period, all that was pending written -/
def Flushed (b : Buf) (r : Buf × Nat) : Prop :=
  pendingOf r.1 = [] ∧ r.2 ≤ 1 ∧ r.1.done = b.done ++ (pendingOf b).map (·, Fate.written) ∧ r.1.acc = b.acc

/-- `timer`, `wake`: what a `swap` that has to wait costs -/
def waitPath (i : Bool) (wait : Bool) : List Op := if wait then [.timer i, .wake i] else []

/-- a `swap` entered now waits iff the write buffer is below the batch threshold -/
def swapPath (c : Cfg) (i : Bool) (b : Buf) : List Op := waitPath i (decide (b.w.length < thr c))

/-- out of the `swap` in progress: a pending wake-up is taken first, and may find the batch still too small -/
def parkPath (c : Cfg) (i : Bool) (b : Buf) : List Op := if b.sig then .wake i :: waitPath i (mustWait c b) else waitPath i true

/-- after the write of the read batch: the next `swap` and the write of what it brings -/
def refillPath (c : Cfg) (i : Bool) (b : Buf) : List Op := if b.w.isEmpty then [] else swapPath c i b ++ [.pop i, .wres i .ok]

/-- the forced moves of sender `i` until nothing is pending (`forced_path`); the batch-timer expiries on the way are its `timer` entries -/
def path (c : Cfg) (i : Bool) (b : Buf) : List Op :=
  if (pendingOf b).isEmpty then [] else
  match b.pc with
  | .writing => .wres i .ok :: refillPath c i b
  | .idle => .pop i :: if b.r.length ≤ b.ri then swapPath c i b ++ [.wres i .ok] else .wres i .ok :: refillPath c i b
  | .swap1 => parkPath c i b ++ [.wres i .ok]
  | .swap2 => parkPath c i b ++ [.pop i, .wres i .ok]

theorem waitPath_le (i wait : Bool) : (waitPath i wait).length ≤ 2 ∧ (waitPath i wait).countP isTimer ≤ 1 := by
  cases wait <;> exact ⟨by simp [waitPath], by simp [waitPath, List.countP_cons, isTimer]⟩

theorem parkPath_le (c : Cfg) (i : Bool) (b : Buf) : (parkPath c i b).length ≤ 3 ∧ (parkPath c i b).countP isTimer ≤ 1 := by
  have h1 := waitPath_le i (mustWait c b)
  unfold parkPath
  split
  · simp only [List.length_cons, List.countP_cons, isTimer, Bool.false_eq_true, if_false]
    omega
  · exact ⟨Nat.le_succ_of_le (waitPath_le i true).1, (waitPath_le i true).2⟩

theorem path_le (c : Cfg) (i : Bool) (b : Buf) : (path c i b).length ≤ 6 ∧ (path c i b).countP isTimer ≤ 1 := by
  have h1 := waitPath_le i (decide (b.w.length < thr c))
  have h2 := parkPath_le c i b
  unfold path refillPath swapPath
  split
  · exact ⟨Nat.zero_le _, Nat.zero_le _⟩
  · cases b.pc <;> dsimp only <;> repeat' split
    all_goals simp only [List.length_cons, List.length_append, List.length_nil, List.countP_cons, List.countP_append, List.countP_nil, isTimer, Bool.false_eq_true, if_false]
    all_goals omega

/-- `bstep` for the fixed code (`Variant.signal`), with the events the move produces (`bstepEv_fst`) -/
def bstepEv (c : Cfg) (i : Bool) (b : Buf) : Op → Buf × List Ev
  | .pop _ => popStart c i b
  | .wres _ r => writeDone c i b r
  | .wake _ => wake c i b
  | .timer _ => (timerFire .signal b, [])
  | _ => (b, [])

/-- `pop` returned nil: sendLoop goes on to `reportWouldBlockIfAny` -/
def retNil (i : Bool) (evs : List Ev) : Bool := evs.contains (.ret i false)

/-- run the forced moves of sender `i` until its `pop` returns nil; the number of batch-timer expiries on the way -/
def untilRet (c : Cfg) (i : Bool) : Nat → Buf → Option (Buf × Nat)
  | 0, _ => none
  | n + 1, b =>
    match senderNext i b with
    | none => none
    | some op =>
      if retNil i (bstepEv c i b op).2 then some ((bstepEv c i b op).1, if isTimer op then 1 else 0)
      else (untilRet c i n (bstepEv c i b op).1).map (fun x => (x.1, x.2 + if isTimer op then 1 else 0))

/-- `pop` returned within the fuel, after at most two batch-timer expiries, and the sender is back in its loop -/
def RetOk (r : Option (Buf × Nat)) : Prop :=
  match r with
  | some x => x.2 ≤ 2 ∧ x.1.pc = .idle
  | none => False

/-- after a first `swap`: the write of a non-empty batch, then the second `swap`, entered with an empty write buffer -/
def writePath (c : Cfg) (i : Bool) (b : Buf) : List Op := if b.w.isEmpty then [] else .wres i .ok :: waitPath i (decide (0 < thr c))

/-- the forced moves of sender `i` until its `pop` returns nil, the returning move included (`untilRet_ok` asks for fuel above its length) -/
def pathRet (c : Cfg) (i : Bool) (b : Buf) : List Op :=
  match b.pc with
  | .writing => .wres i .ok :: swapPath c i b
  | .idle => .pop i :: if b.r.length ≤ b.ri then swapPath c i b ++ writePath c i b else .wres i .ok :: swapPath c i b
  | .swap1 => parkPath c i b ++ writePath c i b
  | .swap2 => parkPath c i b

theorem pathRet_le (c : Cfg) (i : Bool) (b : Buf) : (pathRet c i b).length ≤ 7 ∧ (pathRet c i b).countP isTimer ≤ 2 := by
  have h1 := waitPath_le i (decide (b.w.length < thr c))
  have h2 := parkPath_le c i b
  have h3 := waitPath_le i (decide (0 < thr c))
  unfold pathRet writePath swapPath
  cases b.pc <;> dsimp only
  case swap2 => omega
  all_goals repeat' split
  all_goals simp only [List.length_cons, List.length_append, List.length_nil, List.countP_cons, List.countP_append, List.countP_nil, isTimer, Bool.false_eq_true, if_false]
  all_goals omega

theorem bstepEv_fst (c : Cfg) (i : Bool) (b : Buf) (op : Op) : (bstepEv c i b op).1 = bstep .signal c i b op := by
  cases op <;> rfl

section
attribute [local simp] path pathRet waitPath swapPath parkPath refillPath writePath retNil bstep bstepEv popStart enterSwap1 enterSwap2
  afterSwap1 afterSwap2 swapBody wake writeDone timerFire signal mustWait pendingOf parked batch Exhausted NoLost

/-- One forced move, evaluated in each class of states: it keeps `closed`, `Exhausted`, `NoLost`, `acc` and `done ++ pending`,
    and it is the head of both schedules, whose tails are the schedules of the next state. This is the case analysis shared by
    `drive_flushed` (which follows `path`) and `untilRet_ok` (`pathRet`). -/
theorem forced_path (c : Cfg) (i : Bool) (b : Buf) (hcl : b.closed = false) (hex : Exhausted b) (hnl : NoLost c b) :
    ∃ op, senderNext i b = some op ∧ (bstep .signal c i b op).closed = false ∧ Exhausted (bstep .signal c i b op) ∧
      NoLost c (bstep .signal c i b op) ∧ (bstep .signal c i b op).acc = b.acc ∧
      (bstep .signal c i b op).done ++ (pendingOf (bstep .signal c i b op)).map (·, Fate.written) =
        b.done ++ (pendingOf b).map (·, Fate.written) ∧
      ((pendingOf b).isEmpty = false → path c i b = op :: path c i (bstep .signal c i b op)) ∧
      if retNil i (bstepEv c i b op).2 then (bstep .signal c i b op).pc = .idle ∧ pathRet c i b = [op]
      else pathRet c i b = op :: pathRet c i (bstep .signal c i b op) := by
  obtain ⟨w, r, ri, closed, pc, timeout, sig, acc, done, nerr⟩ := b
  subst hcl
  have hl : w.length < thr c ∨ ¬ w.length < thr c := Decidable.em _
  have hd : r.length ≤ ri → r.drop ri = [] := List.drop_of_length_le
  cases pc with
  | idle =>
    refine ⟨.pop i, rfl, ?_⟩
    by_cases hr : r.length ≤ ri
    · cases w <;> simp only [List.length_nil, List.length_cons] at hl <;> rcases hl with ht | ht <;> simp [hr, ht, hd]
    · cases w <;> simp [hr]
  | writing =>
    refine ⟨.wres i .ok, rfl, ?_⟩
    cases w with
    | nil =>
      simp only [List.length_nil] at hl
      rcases hl with ht | ht <;> by_cases hr : r.length ≤ ri <;> simp [hr, ht, hd]
    | cons p w =>
      simp only [List.length_cons] at hl
      rcases hl with ht | ht <;> simp [ht]
  | swap1 | swap2 =>
    have hr : r.length ≤ ri := hex rfl
    have hm := hnl rfl
    cases sig <;> cases timeout <;> simp at hm
    · refine ⟨.timer i, rfl, ?_⟩
      cases w <;> simp [hr, hd]
    · refine ⟨.wake i, rfl, ?_⟩
      cases w <;> simp only [List.length_nil, List.length_cons] at hl <;> rcases hl with ht | ht <;> simp [hr, ht, hd]
    · refine ⟨.wake i, rfl, ?_⟩
      cases w <;> simp [hr, hd]
end


theorem drive_flushed (c : Cfg) (i : Bool) : ∀ (n : Nat) (b : Buf), Exhausted b → NoLost c b → b.closed = false → (path c i b).length ≤ n →
    pendingOf (drive .signal c i n b).1 = [] ∧ (drive .signal c i n b).2 ≤ (path c i b).countP isTimer ∧
    (drive .signal c i n b).1.done ++ (pendingOf (drive .signal c i n b).1).map (·, Fate.written) =
      b.done ++ (pendingOf b).map (·, Fate.written) ∧
    (drive .signal c i n b).1.acc = b.acc := by
  intro n
  induction n with
  | zero =>
    intro b hex hnl hcl hr
    by_cases hp : (pendingOf b).isEmpty = true
    · exact ⟨List.isEmpty_iff.mp hp, Nat.zero_le _, rfl, rfl⟩
    · obtain ⟨op, -, -, -, -, -, -, h, -⟩ := forced_path c i b hcl hex hnl
      rw [h (by simpa using hp)] at hr
      cases hr
  | succ n ih =>
    intro b hex hnl hcl hr
    by_cases hp : (pendingOf b).isEmpty = true
    · rw [show drive .signal c i (n + 1) b = (b, 0) from by simp [drive, hp]]
      exact ⟨List.isEmpty_iff.mp hp, Nat.zero_le _, rfl, rfl⟩
    · obtain ⟨op, hop, kc, kx, kn, ka, kf, h, -⟩ := forced_path c i b hcl hex hnl
      rw [h (by simpa using hp)] at hr ⊢
      obtain ⟨g1, g2, g3, g4⟩ := ih _ kx kn kc (Nat.le_of_succ_le_succ hr)
      simp only [drive, hp, hop, Bool.false_eq_true, if_false, List.countP_cons]
      exact ⟨g1, Nat.add_le_add_right g2 _, g3.trans kf, g4.trans ka⟩

theorem untilRet_ok (c : Cfg) (i : Bool) : ∀ (n : Nat) (b : Buf), Exhausted b → NoLost c b → b.closed = false → (pathRet c i b).length < n →
    ∃ x, untilRet c i n b = some x ∧ x.2 ≤ (pathRet c i b).countP isTimer ∧ x.1.pc = .idle := by
  intro n
  induction n with
  | zero => intro b _ _ _ hr; cases hr
  | succ n ih =>
    intro b hex hnl hcl hr
    obtain ⟨op, hop, kc, kx, kn, -, -, -, h⟩ := forced_path c i b hcl hex hnl
    rw [untilRet]
    simp only [hop]
    split at h
    · rename_i hret
      rw [if_pos hret, h.2]
      exact ⟨_, rfl, by simp only [List.countP_cons, List.countP_nil, Nat.zero_add]; exact Nat.le_refl _, (bstepEv_fst c i b op) ▸ h.1⟩
    · rename_i hret
      rw [h] at hr ⊢
      obtain ⟨x, e, h1, h2⟩ := ih _ kx kn kc (Nat.lt_of_succ_lt_succ hr)
      rw [if_neg hret, bstepEv_fst, e]
      exact ⟨_, rfl, by simp only [List.countP_cons]; exact Nat.add_le_add_right h1 _, h2⟩

theorem acc_swapBody (b : Buf) : (swapBody b).acc = b.acc := by
  unfold swapBody; split <;> rfl

theorem acc_afterSwap1 (i : Bool) (b : Buf) : (afterSwap1 i b).1.acc = b.acc := by
  unfold afterSwap1; split <;> rfl

theorem acc_popStart (c : Cfg) (i : Bool) (b : Buf) : (popStart c i b).1.acc = b.acc := by
  unfold popStart enterSwap1
  repeat' split
  · rfl
  · rfl
  · exact (acc_afterSwap1 i _).trans (acc_swapBody _)
  · exact acc_afterSwap1 i b

theorem acc_wake (c : Cfg) (i : Bool) (b : Buf) : (wake c i b).1.acc = b.acc := by
  unfold wake
  repeat' split
  · rfl
  · rfl
  · exact (acc_afterSwap1 i _).trans (acc_swapBody b)
  · exact acc_swapBody b
  · rfl

theorem acc_timerFire (v : Variant) (b : Buf) : (timerFire v b).acc = b.acc := by
  unfold timerFire
  split
  · rfl
  · cases v
    · exact acc_signal _
    · rfl

theorem acc_writeDone (c : Cfg) (i : Bool) (b : Buf) (r : WRes) : (writeDone c i b r).1.acc = b.acc := by
  rcases writeDone_cases c i b r with e | ⟨hpc, rfl⟩ | ⟨n, hpc, rfl, hn⟩
  · rw [e]
  · rw [writeDone_ok c i b hpc]
    unfold enterSwap2
    split
    · rfl
    · exact acc_swapBody _
  · rw [writeDone_err c i b n hpc hn]

/-- the pool's counters against the acceptance logs (`drops_counted_and_reported_partial`) -/
structure Acct (s : Pool) : Prop where
  pushes : s.nPush = s.fwdTotal + s.dropTotal
  accepted : s.fwdTotal = s.b0.acc.length + s.b1.acc.length
  bytes : s.dropBytes = s.wb + s.reported + s.lostRep

/-- a framed non-empty body, as built by `HandleMetricsBatchRaw` -/
def IsFrame (p : Pkt) : Prop := ∃ body : List UInt8, body ≠ [] ∧ p = frame body

def AllFrames (s : Pool) : Prop := (∀ p ∈ s.b0.acc, IsFrame p) ∧ (∀ p ∈ s.b1.acc, IsFrame p)

theorem frames_move (v : Variant) (c : Cfg) (pop : Bool) (b b' : Buf) (m : BufMove v c pop b b') (h : ∀ q ∈ b.acc, IsFrame q) :
    ∀ q ∈ b'.acc, IsFrame q := by
  cases m with
  | same => exact h
  | push _ body hne =>
    rw [bufPush_acc]
    split
    · exact h
    · intro q hq
      rcases List.mem_append.mp hq with hq | hq
      · exact h q hq
      · rw [List.mem_singleton.mp hq]
        exact ⟨body, hne, rfl⟩
  | pop i _ => rw [acc_popStart]; exact h
  | wres i _ r => rw [acc_writeDone]; exact h
  | timer => rw [acc_timerFire]; exact h
  | wake i _ => rw [acc_wake]; exact h
  | close => unfold bufClose; rw [acc_signal]; exact h

/-- the packets of the global acceptance log that were given to sender `i`, in global acceptance order -/
def projTo (l : List (Pkt × Bool)) (i : Bool) : List Pkt := (l.filter (fun x => x.2 == i)).map (·.1)

theorem projTo_append (l : List (Pkt × Bool)) (p : Pkt) (j i : Bool) :
    projTo (l ++ [(p, j)]) i = if j = i then projTo l i ++ [p] else projTo l i := by
  cases i <;> cases j <;> simp [projTo, List.filter_append]

theorem projTo_lengths (l : List (Pkt × Bool)) : l.length = (projTo l false).length + (projTo l true).length := by
  induction l with
  | nil => rfl
  | cons x l ih =>
    obtain ⟨p, j⟩ := x
    cases j <;> simp [projTo] at ih ⊢ <;> omega

/-- the pool's ledgers: `fwdTotal` (ghost, never reset) counts the global acceptance log, and each sender's acceptance log is its
    projection. `Acct` strengthened so that every step preserves it: `fwdTotal` and the senders' logs meet only in `accAll`. -/
structure Ledger (s : Pool) : Prop where
  pushes : s.nPush = s.fwdTotal + s.dropTotal
  logged : s.fwdTotal = s.accAll.length
  bytes : s.dropBytes = s.wb + s.reported + s.lostRep
  proj0 : projTo s.accAll false = s.b0.acc
  proj1 : projTo s.accAll true = s.b1.acc

theorem Ledger.acct {s : Pool} (h : Ledger s) : Acct s :=
  ⟨h.pushes, by rw [h.logged, projTo_lengths, h.proj0, h.proj1], h.bytes⟩

theorem ledger_setB (s : Pool) (i : Bool) (b : Buf) (h : Ledger s) (hb : b.acc = (getB s i).acc) : Ledger (setB s i b) := by
  cases i
  · exact ⟨h.1, h.2, h.3, hb ▸ h.4, h.5⟩
  · exact ⟨h.1, h.2, h.3, h.4, hb ▸ h.5⟩

theorem ledger_push (c : Cfg) (s : Pool) (p : Pkt) (h : Ledger s) : Ledger (push c s p).1 := by
  obtain ⟨h1, h2, h3, h4, h5⟩ := h
  have a0 := bufPush_acc c s.b0 p
  have a1 := bufPush_acc c s.b1 p
  have hl : ∀ j, (s.accAll ++ [(p, j)]).length = s.accAll.length + 1 := fun _ => List.length_append
  rcases push_cases c s p with ⟨-, e⟩ | ⟨-, hf, e⟩ | ⟨-, hf, hg, e⟩ | ⟨-, hf, hg, e⟩ <;> rw [e]
  · exact ⟨by simp only; omega, h2, h3, h4, h5⟩
  · refine ⟨by simp only; omega, by simp only [hl]; omega, h3, ?_, ?_⟩ <;>
      cases hp : s.prim <;> simp [hp, getB] at hf <;> simp [projTo_append, h4, h5, a0, a1, hf]
  · refine ⟨by simp only; omega, by simp only [hl]; omega, h3, ?_, ?_⟩ <;>
      cases hp : s.prim <;> simp [hp, getB] at hf hg <;> simp [projTo_append, h4, h5, a0, a1, hf, hg]
  · refine ⟨by simp only; omega, h2, by simp only; omega, ?_, ?_⟩ <;>
      cases hp : s.prim <;> simp [hp, getB] at hf hg <;> simp [h4, h5, a0, a1, hf, hg]

theorem ledger_step (v : Variant) (c : Cfg) (s : Pool) (op : Op) (h : Ledger s) : Ledger (step v c s op).1 := by
  cases op with
  | handle body =>
    simp only [step, handle]
    split
    · exact h
    · exact ledger_push c s _ h
  | pop i => exact ledger_setB s i _ h (acc_popStart c i _)
  | wres i r => exact ledger_setB s i _ h (acc_writeDone c i _ r)
  | timer i => exact ledger_setB s i _ h (acc_timerFire v _)
  | wake i => exact ledger_setB s i _ h (acc_wake c i _)
  | close => exact ⟨h.1, h.2, h.3, h.4.trans (acc_signal { s.b0 with closed := true }).symm, h.5.trans (acc_signal { s.b1 with closed := true }).symm⟩
  | stats => exact ⟨h.1, h.2, h.3, h.4, h.5⟩
  | report i ok =>
    obtain ⟨h1, h2, h3, h4, h5⟩ := h
    rw [step_report]
    split
    · exact ⟨h1, h2, h3, h4, h5⟩
    · split <;> exact ⟨h1, h2, by simp only; omega, h4, h5⟩
  | takeRecon i => cases i <;> exact ⟨h.1, h.2, h.3, h.4, h.5⟩

theorem reach_ledger (v : Variant) (c : Cfg) (ops : List Op) : Ledger (run v c {} ops) :=
  run_inv v c (ledger_step v c) ops {} ⟨rfl, rfl, rfl, rfl, rfl⟩

/-- one iteration of the primary sender's loop with a live connection, as forced moves of the pool model: the moves of
    `untilRet` until `pop` returns nil, then `reportWouldBlockIfAny` on the live connection -/
def loopUntilReport (c : Cfg) : Nat → Pool → Option Pool
  | 0, _ => none
  | n + 1, s =>
    match senderNext false s.b0 with
    | none => none
    | some op =>
      if retNil false (step .signal c s op).2 then some (step .signal c (step .signal c s op).1 (.report false true)).1
      else loopUntilReport c n (step .signal c s op).1

theorem primary_move_step (c : Cfg) (s : Pool) (op : Op) (h : senderNext false s.b0 = some op) :
    step .signal c s op = ({ s with b0 := (bstepEv c false s.b0 op).1 }, (bstepEv c false s.b0 op).2) := by
  rcases senderNext_cases false s.b0 op h with rfl | rfl | rfl | rfl <;> rfl

/-- in `r` everything that was pending in `s.wb` has moved to `reported`, nothing lost -/
def Reported (s : Pool) (r : Option Pool) : Prop :=
  match r with
  | some s' => s'.wb = 0 ∧ s'.reported = s.reported + s.wb ∧ s'.lostRep = s.lostRep ∧ s'.dropBytes = s.dropBytes ∧ s'.werr = s.werr
  | none => False

theorem loopUntilReport_eq (c : Cfg) : ∀ (n : Nat) (s : Pool),
    loopUntilReport c n s =
      (untilRet c false n s.b0).map (fun x => (step .signal c { s with b0 := x.1 } (.report false true)).1) := by
  intro n
  induction n with
  | zero => intro s; rfl
  | succ n ih =>
    intro s
    unfold untilRet loopUntilReport
    cases hop : senderNext false s.b0 with
    | none => rfl
    | some op =>
      simp only [primary_move_step c s op hop]
      split
      · rfl
      · rw [ih, Option.map_map]
        rfl

theorem loopUntilReport_reported (c : Cfg) (n : Nat) (s : Pool) {x : Buf × Nat} (e : untilRet c false n s.b0 = some x) :
    Reported s (loopUntilReport c n s) := by
  rw [loopUntilReport_eq, e, Option.map_some, step_report]
  -- the report reads `wb` only, not the buffers
  by_cases hw : s.wb = 0 <;> simp [Reported, hw]

theorem idle_move (v : Variant) (c : Cfg) (b b' : Buf) (m : BufMove v c false b b') (h : b.pc = .idle) : b'.pc = .idle := by
  cases m with
  | same => exact h
  | push _ body _ =>
    unfold bufPush
    split <;> exact (pc_signal _).trans h
  | wres i _ r =>
    unfold writeDone
    simp [h]
  | timer =>
    unfold timerFire
    split
    · exact h
    · cases v
      · exact (pc_signal _).trans h
      · exact h
  | wake i _ =>
    unfold wake
    split
    · exact h
    · split
      · exact h
      · simp only [h]
  | close => exact (pc_signal _).trans h

/-- no step other than `pop j` takes sender `j` out of its loop position between two `pop` calls -/
theorem stays_idle (v : Variant) (c : Cfg) (s : Pool) (op : Op) (j : Bool) (hop : op ≠ .pop j) (h : (getB s j).pc = .idle) :
    (getB (step v c s op).1 j).pc = .idle := by
  have m := step_bufMove v c s op j
  rw [beq_false_of_ne hop] at m
  exact idle_move v c _ _ m h

/-- (1) a sender that is inside `pop` (parked in `swap` or blocked in the write) has a write deadline on its current
    connection; (2) the bookkeeping never claims a deadline the connection does not have -/
def DlInv (s : PoolD) : Prop :=
  ∀ j, ((getB s.p j).pc ≠ .idle → getDl s j = true) ∧ (getBk s j ≠ .zero → getDl s j = true)

theorem getDl_setDl (s : PoolD) (i j : Bool) (x : Bool) : getDl (setDl s i x) j = if j = i then x else getDl s j := by
  cases i <;> cases j <;> simp [getDl, setDl]

theorem getDl_setBk (s : PoolD) (i j : Bool) (x : Book) : getDl (setBk s i x) j = getDl s j := by
  cases i <;> cases j <;> simp [getDl, setBk]

theorem getBk_setBk (s : PoolD) (i j : Bool) (x : Book) : getBk (setBk s i x) j = if j = i then x else getBk s j := by
  cases i <;> cases j <;> simp [getBk, setBk]

theorem getBk_setDl (s : PoolD) (i j : Bool) (x : Bool) : getBk (setDl s i x) j = getBk s j := by
  cases i <;> cases j <;> simp [getBk, setDl]

theorem setDl_p (s : PoolD) (i : Bool) (x : Bool) : (setDl s i x).p = s.p := by cases i <;> simp [setDl]
theorem setBk_p (s : PoolD) (i : Bool) (x : Book) : (setBk s i x).p = s.p := by cases i <;> simp [setBk]

theorem getDl_with_p (s : PoolD) (q : Pool) (j : Bool) : getDl { s with p := q } j = getDl s j := by cases j <;> simp [getDl]
theorem getBk_with_p (s : PoolD) (q : Pool) (j : Bool) : getBk { s with p := q } j = getBk s j := by cases j <;> simp [getBk]

/-- the loop-top refresh of sender `i`: honest bookkeeping stays honest, sender `i` gets a deadline, nobody loses one -/
theorem arm_spec (s : PoolD) (i j : Bool) :
    ((getBk s j ≠ .zero → getDl s j = true) → getBk (arm .armed s i) j ≠ .zero → getDl (arm .armed s i) j = true) ∧
    ((getBk s i ≠ .zero → getDl s i = true) → getDl (arm .armed s i) i = true) ∧
    (getDl s j = true → getDl (arm .armed s i) j = true) := by
  unfold arm needsRefresh
  cases hb : getBk s i <;> by_cases hji : j = i <;> simp_all [getDl_setDl, getDl_setBk, getBk_setBk, getBk_setDl]

theorem failedWrite_idle (v : Variant) (c : Cfg) (s : Pool) (op : Op) (i : Bool)
    (h : failedWrite op (step v c s op).2 = some i) : (getB (step v c s op).1 i).pc = .idle ∧ ∃ n, op = .wres i (.err n) := by
  cases op with
  | wres k r =>
    cases r with
    | ok => simp [failedWrite] at h
    | err n =>
      simp only [failedWrite] at h
      split at h
      · rename_i hev
        cases h
        refine ⟨?_, n, rfl⟩
        simp only [step, onBuf, getB_setB_same] at hev ⊢
        rcases writeDone_cases c i (getB s i) (.err n) with e | ⟨-, e⟩ | ⟨m, hpc, e, hm⟩
        · rw [e] at hev; simp at hev
        · cases e
        · cases e; rw [writeDone_err c i _ n hpc hm]
      · cases h
  | _ => simp [failedWrite] at h

theorem dlinv_afterError (s : PoolD) (q : Pool) (i : Bool) (h : DlInv s) (hi : (getB q i).pc = .idle)
    (hq : ∀ j, (getB s.p j).pc = .idle → (getB q j).pc = .idle) : DlInv { afterError .armed s i with p := q } := by
  intro j
  simp only [afterError, getDl_with_p, getBk_with_p, getDl_setDl, getDl_setBk, getBk_setBk, getBk_setDl]
  by_cases hji : j = i
  · subst hji
    simp only [if_true]
    exact ⟨fun hj => absurd hi hj, fun hb => absurd rfl hb⟩
  · simp only [hji, if_false]
    exact ⟨fun hj => (h j).1 (fun k => hj (hq j k)), (h j).2⟩

theorem dlinv_stepD (v : Variant) (c : Cfg) (s : PoolD) (op : OpD) (h : DlInv s) : DlInv (stepD .armed v c s op).1 := by
  cases op with
  | age i =>
    simp only [stepD]
    split
    · rename_i hf
      intro j
      rw [getDl_setBk, getBk_setBk, setBk_p]
      refine ⟨(h j).1, fun hb => (h j).2 ?_⟩
      by_cases hji : j = i
      · subst hji; simp only [beq_iff_eq] at hf; rw [hf]; simp
      · simpa [hji] using hb
    · exact h
  | deadline i n =>
    simp only [stepD]
    split
    · rename_i hen
      simp only [deadlineEnabled, Bool.and_eq_true, beq_iff_eq, decide_eq_true_eq] at hen
      exact dlinv_afterError s _ i h (by simp only [step, onBuf, getB_setB_same, writeDone_err c i _ n hen.1.2 hen.2])
        (fun j => stays_idle v c s.p _ j (by simp))
    · exact h
  | base op =>
    simp only [stepD]
    cases hf : failedWrite op (step v c s.p op).2 with
    | some i =>
      obtain ⟨hidle, n, hop⟩ := failedWrite_idle v c s.p op i hf
      exact dlinv_afterError s _ i h hidle (fun j => stays_idle v c s.p op j (by rw [hop]; simp))
    | none =>
      intro j
      rw [getDl_with_p, getBk_with_p]
      -- `armFor`: only `pop i` from the loop position refreshes
      cases op with
      | pop i =>
        have hst : j ≠ i → (getB (step v c s.p (.pop i)).1 j).pc ≠ .idle → getDl s j = true :=
          fun hji hj => (h j).1 (fun hi => hj (stays_idle v c s.p _ j (by simp [Ne.symm hji]) hi))
        simp only [armFor]
        split
        · refine ⟨fun hj => ?_, (arm_spec s i j).1 (h j).2⟩
          by_cases hji : j = i
          · subst hji; exact (arm_spec s j j).2.1 (h j).2
          · exact (arm_spec s i j).2.2 (hst hji hj)
        · rename_i hni
          refine ⟨fun hj => ?_, (h j).2⟩
          by_cases hji : j = i
          · subst hji; exact (h j).1 (by simpa using hni)
          · exact hst hji hj
      | _ => exact ⟨fun hj => (h j).1 (fun hi => hj (stays_idle v c s.p _ j (by simp) hi)), (h j).2⟩

theorem dlinv_runD (v : Variant) (c : Cfg) (ops : List OpD) : ∀ s, DlInv s → DlInv (runD .armed v c s ops) := by
  induction ops with
  | nil => intro s h; exact h
  | cons op ops ih => intro s h; exact ih _ (dlinv_stepD v c s op h)

theorem dlinv_init : DlInv {} := by
  intro j; cases j <;> simp [getB, getBk]

end SH.C31
