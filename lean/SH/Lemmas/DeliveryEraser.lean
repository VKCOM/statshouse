/-
  SH.Lemmas.DeliveryEraser — the fail-safe eraser pass (goEraseHistoric) keeps the agent invariant, never makes a second
  unaccounted for and removes a record only as a recorded drop (`keepsT_eraserStep`, `steps_erase`).
-/
import SH.Lemmas.Delivery
namespace SH.Delivery

theorem eraserStep_cases (a : Agent) (now : Nat) (over : Bool) : eraserStep a now over = a ∨ ∃ a' c, pop a now = (a', some c) ∧
    ((∃ o, eraserStep a now over = { diskErase a' c.id with dropped := a'.dropped ++ [c.sec], oow := o }) ∨
      eraserStep a now over = appendHist a' c) := by
  unfold eraserStep
  cases hp : pop a now with
  | mk a' oc =>
    cases oc with
    | none => exact Or.inl rfl
    | some c =>
      refine Or.inr ⟨a', c, rfl, ?_⟩
      dsimp only
      split
      · exact Or.inl ⟨_, rfl⟩
      · split
        · exact Or.inl ⟨_, rfl⟩
        · exact Or.inr rfl

theorem keepsT_eraserStep {A Q : Nat → Prop} {a : Agent} (now : Nat) (over : Bool) (h : AInv Q a []) :
    KeepsT A Q a [] (eraserStep a now over) [] := by
  rcases eraserStep_cases a now over with he | ⟨a', c, hp, ⟨o, he⟩ | he⟩ <;> rw [he]
  · exact ⟨Keeps.refl h, Extra.refl, fun _ hg => hg⟩
  · exact (keepsT_pop h hp).trans (keepsT_dropErase _)
  · exact (keepsT_pop h hp).trans keepsT_appendHist

theorem steps_erase {A} {s : State} (now : Nat) (over : Bool) (h : SInv s []) : Steps A s (step s (.erase now over)).1 [] :=
  (Steps.refl h).eta.setAg_sub fun hA => keepsT_eraserStep now over hA

theorem sinv_erase {s : State} (now : Nat) (over : Bool) (h : SInv s []) : SInv (step s (.erase now over)).1 [] :=
  (steps_erase (A := fun _ => True) now over h).sinv

end SH.Delivery
