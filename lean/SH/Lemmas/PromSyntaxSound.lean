/-
  SH.Lemmas.PromSyntaxSound — soundness of the model parser w.r.t. `wf` (used by SH.Props.C28.accepted_roundtrip).

  `parse_wf`: on a token stream every token of which satisfies `tokOk` (the kind of a word outside braces is the one its text
  is lexed to; a duration token denotes 1..maxSecs seconds — the known findings zero-duration and duration-out-of-range are
  the two exclusions) every tree `parse` returns satisfies `wf`, the hypothesis of the round-trip theorem. Proved by induction
  on the parser's fuel, with the invariants of precedence climbing: `parseExpr p` returns a tree that fits at level p, and an
  operator that follows it binds weaker than p and is not absorbed by the tree's right edge (`Edge`); the operator loop keeps
  `LoopPre`.

  `wfMod_iff`, `okSel_iff`, `wf_num` … `wf_call`, `wfArgs_cons`: the predicates case by case; soundness builds `wf` with them
  (`.mpr`), the round trip in SH.Props.C28 takes it apart (`.mp`).
-/
import SH.Model.PromSyntax
namespace SH.PromSyntax.Sound
open SH.PromSyntax

def Ok (ts : List Tok) : Prop := ∀ t ∈ ts, tokOk t = true

theorem Ok.suffix {ts rest : List Tok} (h : Ok ts) (hs : rest <:+ ts) : Ok rest :=
  fun t ht => h t (hs.subset ht)

theorem Ok.tail {t : Tok} {ts : List Tok} (h : Ok (t :: ts)) : Ok ts := fun x hx => h x (by simp [hx])
theorem Ok.head {t : Tok} {ts : List Tok} (h : Ok (t :: ts)) : tokOk t = true := h t (by simp)

/-- `p` is sound for `P`: on a lexer-consistent stream its result satisfies `P` and what it leaves is lexer-consistent again -/
def Snd {α : Type} (p : List Tok → Option (α × List Tok)) (P : α → Prop) : Prop :=
  ∀ ts a rest, Ok ts → p ts = some (a, rest) → P a ∧ Ok rest

theorem okLabel_of_labelOfTok (t : Tok) (l : String) (hok : tokOk t = true) (h : labelOfTok t = some l) : okLabel l = true := by
  cases t with
  | word k txt =>
    simp only [labelOfTok] at h
    split at h
    · rename_i hc
      cases h
      simp only [Bool.and_eq_true] at hc
      simp only [okLabel, wordTok, labelOfTok, beq_iff_eq]
      have : kindTokName (classifyKind l) = kindTokName k := by
        simp only [tokOk, wordOk] at hok
        cases k with
        | num v a b =>
          cases hck : classifyKind l <;> simp [hck, isNumKind] at hok
          rfl
        | ident => simp at hok; rw [hok]
        | mident => simp at hok; rw [hok]
        | kw n => simp at hok; rw [hok]
      rw [this]
      simp only [hc.1, hc.2, Bool.and_self, if_true]
    · cases h
  | _ => simp [labelOfTok] at h

theorem parseLabelList_sound : Snd parseLabelList (fun ls => ∀ l ∈ ls, okLabel l = true) := by
  intro ts
  fun_induction parseLabelList ts <;> intro ls rest hok h
  case case1 t ts n hn =>
    cases h
    exact ⟨List.forall_mem_singleton.mpr (okLabel_of_labelOfTok t _ hok.head hn), hok.tail.tail⟩
  case case3 t ts n hn =>
    cases h
    exact ⟨List.forall_mem_singleton.mpr (okLabel_of_labelOfTok t _ hok.head hn), hok.tail.tail.tail⟩
  case case5 t ts _ l ls' ts' hrec hl ih =>
    cases h
    obtain ⟨h1, h2⟩ := ih ls' ts' hok.tail.tail hrec
    exact ⟨List.forall_mem_cons.mpr ⟨okLabel_of_labelOfTok t _ hok.head hl, h1⟩, h2⟩
  all_goals cases h

theorem parseLabels_sound : Snd parseLabels (fun ls => ∀ l ∈ ls, okLabel l = true) := by
  intro ts ls rest hok h
  unfold parseLabels at h
  split at h
  · cases h; exact ⟨by simp, hok.tail.tail⟩
  · exact parseLabelList_sound _ _ _ hok.tail h
  · cases h

theorem dur_ok {n : Nat} (h : tokOk (.dur (some n)) = true) : okSecs n = true := by
  simpa [tokOk] using h

theorem parseOffList_sound : Snd parseOffList (fun l => ∀ x ∈ l, okSecs x.natAbs = true) := by
  intro ts
  fun_induction parseOffList ts <;> intro l rest hok h
  case case1 ts n =>
    cases h; have := dur_ok hok.head
    exact ⟨List.forall_mem_singleton.mpr (by simpa using this), hok.tail.tail⟩
  case case3 ts n =>
    cases h; have := dur_ok hok.tail.head
    exact ⟨List.forall_mem_singleton.mpr (by simpa using this), hok.tail.tail.tail⟩
  case case5 ts n l' ts' hrec ih =>
    cases h; have := dur_ok hok.head
    obtain ⟨h1, h2⟩ := ih l' ts' hok.tail.tail hrec
    exact ⟨List.forall_mem_cons.mpr ⟨by simpa using this, h1⟩, h2⟩
  case case7 ts n l' ts' hrec ih =>
    cases h; have := dur_ok hok.tail.head
    obtain ⟨h1, h2⟩ := ih l' ts' hok.tail.tail.tail hrec
    exact ⟨List.forall_mem_cons.mpr ⟨by simpa using this, h1⟩, h2⟩
  all_goals cases h

theorem wfMod_iff {m : BinMod} : wfMod m = true ↔
    m.card ≤ 2 ∧ (m.card ≠ 0 ∨ m.incl = []) ∧ (∀ l ∈ m.labels, okLabel l = true) ∧ ∀ l ∈ m.incl, okLabel l = true := by
  simp only [wfMod, Bool.and_eq_true, decide_eq_true_eq, List.all_eq_true, Bool.or_eq_true, bne_iff_ne, ne_eq,
    List.isEmpty_iff, and_assoc]

theorem wfMod_mk (b on : Bool) (c : Nat) (ls inc : List String) (hc : c ≤ 2) (hi : c ≠ 0 ∨ inc = [])
    (hls : ∀ l ∈ ls, okLabel l = true) (hinc : ∀ l ∈ inc, okLabel l = true) : wfMod ⟨b, c, on, ls, inc⟩ = true :=
  wfMod_iff.mpr ⟨hc, hi, hls, hinc⟩

theorem parseGroup_sound (b on : Bool) (ls : List String) (hls : ∀ l ∈ ls, okLabel l = true) :
    Snd (parseGroup b on ls) (wfMod · = true) := by
  intro ts m rest hok
  have hc : ∀ n : String, (if n = "GROUP_LEFT" then 1 else 2) ≤ 2 ∧ (if n = "GROUP_LEFT" then 1 else 2) ≠ 0 :=
    fun n => by split <;> omega
  fun_cases parseGroup b on ls ts <;> intro h
  case case1 =>  -- group_left / group_right with a label list
    have hl := ‹parseLabels _ = some _›
    rw [hl] at h
    cases h
    obtain ⟨h1, h2⟩ := parseLabels_sound _ _ _ hok.tail hl
    exact ⟨wfMod_mk _ _ _ _ _ (hc _).1 (Or.inl (hc _).2) hls h1, h2⟩
  case case2 =>  -- … whose label list does not parse
    rw [‹parseLabels _ = none›] at h
    cases h
  case case3 =>  -- group_left / group_right alone
    cases h
    exact ⟨wfMod_mk _ _ _ _ _ (hc _).1 (Or.inl (hc _).2) hls (by simp), hok.tail⟩
  case case4 =>  -- another keyword
    cases h
    exact ⟨wfMod_mk _ _ _ _ _ (by omega) (Or.inr rfl) hls (by simp), hok⟩
  case case5 =>  -- no keyword
    cases h
    exact ⟨wfMod_mk _ _ _ _ _ (by omega) (Or.inr rfl) hls (by simp), hok⟩

theorem parseOn_sound (b : Bool) : Snd (parseOn b) (wfMod · = true) := by
  intro ts m rest hok h
  unfold parseOn at h
  repeat' split at h
  all_goals first | cases h | skip
  -- on / ignoring (labels)
  · obtain ⟨h1, h2⟩ := parseLabels_sound _ _ _ hok.tail ‹parseLabels _ = some _›
    exact parseGroup_sound _ _ _ h1 _ _ _ h2 h
  -- another keyword
  · exact ⟨wfMod_mk _ _ _ _ _ (by omega) (Or.inr rfl) (by simp) (by simp), hok⟩
  -- no keyword
  · exact ⟨wfMod_mk _ _ _ _ _ (by omega) (Or.inr rfl) (by simp) (by simp), hok⟩

theorem parseBool_ok {ts : List Tok} (hok : Ok ts) : Ok (parseBool ts).2 := by
  unfold parseBool
  repeat' split
  all_goals first | exact hok.tail | exact hok

theorem parseMods_sound : Snd parseMods (wfMod · = true) :=
  fun _ _ _ hok h => parseOn_sound _ _ _ _ (parseBool_ok hok) h

theorem mkMatcher_rest (name : String) (op : Tok) (v : String) (uok rok : Bool) (ts : List Tok) (m : Matcher)
    (rest : List Tok) (h : mkMatcher name op v uok rok ts = some (m, rest)) : rest = ts := by
  unfold mkMatcher at h
  repeat' split at h
  all_goals first | cases h | skip
  rfl

theorem parseMatcher_ok (ts : List Tok) (m : Matcher) (rest : List Tok) (hok : Ok ts) (h : parseMatcher ts = some (m, rest)) :
    Ok rest := by
  unfold parseMatcher at h
  split at h
  · rw [mkMatcher_rest _ _ _ _ _ _ _ _ h]; exact hok.tail.tail.tail.tail
  · cases h; exact hok.tail.tail.tail.tail
  · rw [mkMatcher_rest _ _ _ _ _ _ _ _ h]; exact hok.tail.tail.tail
  · cases h

theorem parseMatcherList_ok : ∀ (f : Nat) (ts : List Tok) (ms : List Matcher) (rest : List Tok), Ok ts →
    parseMatcherList f ts = some (ms, rest) → Ok rest := by
  intro f
  induction f with
  | zero => intro ts ms rest _ h; simp [parseMatcherList] at h
  | succ f ih =>
    intro ts ms rest hok h
    unfold parseMatcherList at h
    repeat' split at h
    all_goals first | cases h | skip
    all_goals have hm := parseMatcher_ok _ _ _ hok ‹parseMatcher ts = some _›
    · exact hm.tail
    · exact hm.tail.tail
    · exact ih _ _ _ hm.tail ‹parseMatcherList f _ = some _›

theorem parseMatchers_ok (f : Nat) (ts : List Tok) (ms : List Matcher) (rest : List Tok) (hok : Ok ts)
    (h : parseMatchers f ts = some (ms, rest)) : Ok rest := by
  unfold parseMatchers at h
  split at h
  · cases h; exact hok.tail
  · exact parseMatcherList_ok _ _ _ _ hok h

theorem okSel_mkSel (name : String) (ms : List Matcher) (hn : name = "" ∨ isMetricIdent (classifyKind name) = true) :
    okSel (mkSel name ms) = true := by
  rcases hn with hn | hn <;> simp [okSel, mkSel, hn]

theorem okSel_iff (s : Sel) : okSel s = true ↔
    (s.name = "" ∨ isMetricIdent (classifyKind s.name) = true) ∧ (∀ x ∈ s.offEx, okSecs x.natAbs = true) ∧
      s.off.natAbs ≤ maxSecs := by
  simp [okSel, and_assoc]

theorem wf_num {n : Num} : wf (.num n) = true ↔ (n.neg = true → n.mag ≠ "NaN") := by
  cases h : n.neg <;> simp [wf, h]

theorem wf_vec {s : Sel} : wf (.vec s) = true ↔ okSel s = true := Iff.rfl

theorem wf_par {e : Expr} : wf (.par e) = true ↔ wf e = true := Iff.rfl

theorem wf_mat {s : Sel} {r : Nat} : wf (.mat s r) = true ↔ okSel s = true ∧ okSecs r = true := by
  simp only [wf, Bool.and_eq_true]

theorem wf_sub {e : Expr} {r st : Nat} {a : AtMod} {o : Int} :
    wf (.sub e r st a o) = true ↔ wf e = true ∧ isOperand e = true ∧ okSecs r = true ∧ st ≤ 1 ∧ o.natAbs ≤ maxSecs := by
  simp only [wf, Bool.and_eq_true, decide_eq_true_eq, and_assoc]

theorem wf_un {n : Bool} {x : Expr} :
    wf (.un n x) = true ↔ wf x = true ∧ isNum x = false ∧ fitsAt unaryOperandPrec x = true := by
  simp only [wf, Bool.and_eq_true, Bool.not_eq_true', and_assoc]

theorem wf_bin {o : BinOp} {m : BinMod} {l r : Expr} :
    wf (.bin o m l r) = true ↔ wf l = true ∧ wf r = true ∧ wfMod m = true ∧ fitsAt o.prec l = true ∧
      stopsBefore l o.prec = true ∧ fitsAt (rhsPrec o) r = true := by
  simp only [wf, Bool.and_eq_true, and_assoc]

theorem wf_agg {op : String} {wo : Bool} {g : List String} {a : Args} :
    wf (.agg op wo g a) = true ↔
      isAggOp op = true ∧ (∀ l ∈ g, okLabel l = true) ∧ wfArgs a = true ∧ a.length = desiredArgs op := by
  simp only [wf, Bool.and_eq_true, List.all_eq_true, beq_iff_eq, and_assoc]

theorem wf_call {f : String} {a : Args} :
    wf (.call f a) = true ↔ isFunction f = true ∧ classifyKind f = .ident ∧ wfArgs a = true := by
  simp only [wf, Bool.and_eq_true, beq_iff_eq, and_assoc]

theorem wfArgs_cons {e : Expr} {r : Args} : wfArgs (.cons e r) = true ↔ wf e = true ∧ wfArgs r = true := by
  simp only [wfArgs, Bool.and_eq_true]

/-- what a postfix modifier can attach to -/
def Opd (e : Expr) : Prop := wf e = true ∧ (isOperand e = true ∨ isVec e = true)

theorem parseSelector_sound (f : Nat) (name : String) (hn : name = "" ∨ isMetricIdent (classifyKind name) = true) :
    Snd (parseSelector f name) Opd := by
  intro ts e rest hok h
  unfold parseSelector at h
  repeat' split at h
  all_goals first | cases h | skip
  · exact ⟨⟨wf_vec.mpr (okSel_mkSel _ _ hn), Or.inr rfl⟩, parseMatchers_ok _ _ _ _ hok.tail ‹parseMatchers f _ = some _›⟩
  · exact ⟨⟨wf_vec.mpr (okSel_mkSel _ _ hn), Or.inr rfl⟩, hok⟩

theorem okSecs_le {n : Nat} (h : okSecs n = true) : n ≤ maxSecs := by
  simp [okSecs] at h; exact h.2

theorem addOffset_inv (e e' : Expr) (o : Int) (ho : o.natAbs ≤ maxSecs) (hi : Opd e) (h : addOffset e o = some e') : Opd e' := by
  obtain ⟨hw, hop⟩ := hi
  unfold addOffset at h
  repeat' split at h
  all_goals first | cases h | skip
  · obtain ⟨h1, h2, _⟩ := (okSel_iff _).mp (wf_vec.mp hw)
    exact ⟨wf_vec.mpr ((okSel_iff _).mpr ⟨h1, h2, ho⟩), Or.inr rfl⟩
  · obtain ⟨hs, hr⟩ := wf_mat.mp hw
    obtain ⟨h1, h2, _⟩ := (okSel_iff _).mp hs
    exact ⟨wf_mat.mpr ⟨(okSel_iff _).mpr ⟨h1, h2, ho⟩, hr⟩, Or.inl rfl⟩
  · obtain ⟨h1, h2, h3, h4, _⟩ := wf_sub.mp hw
    exact ⟨wf_sub.mpr ⟨h1, h2, h3, h4, ho⟩, Or.inl rfl⟩

theorem addOffsetList_inv (e e' : Expr) (l : List Int) (hl : ∀ x ∈ l, okSecs x.natAbs = true) (hi : Opd e)
    (h : addOffsetList e l = some e') : Opd e' := by
  obtain ⟨hw, hop⟩ := hi
  unfold addOffsetList at h
  repeat' split at h
  all_goals first | cases h | skip
  · obtain ⟨h1, h2, h3⟩ := (okSel_iff _).mp (wf_vec.mp hw)
    exact ⟨wf_vec.mpr ((okSel_iff _).mpr ⟨h1, fun x hx => (List.mem_append.mp hx).elim (h2 x) (hl x), h3⟩), Or.inr rfl⟩
  · obtain ⟨hs, hr⟩ := wf_mat.mp hw
    obtain ⟨h1, h2, h3⟩ := (okSel_iff _).mp hs
    exact ⟨wf_mat.mpr ⟨(okSel_iff _).mpr ⟨h1, fun x hx => (List.mem_append.mp hx).elim (h2 x) (hl x), h3⟩, hr⟩, Or.inl rfl⟩
  · exact ⟨hw, Or.inl rfl⟩

theorem setAt_inv (e e' : Expr) (a : AtMod) (hi : Opd e) (h : setAt e a = some e') : Opd e' := by
  obtain ⟨hw, hop⟩ := hi
  unfold setAt at h
  repeat' split at h
  all_goals first | cases h | skip
  -- neither `okSel` nor the other conjuncts of `wf` read `atm`
  · exact ⟨wf_vec.mpr (wf_vec.mp hw), Or.inr rfl⟩
  · exact ⟨wf_mat.mpr (wf_mat.mp hw), Or.inl rfl⟩
  · exact ⟨wf_sub.mpr (wf_sub.mp hw), Or.inl rfl⟩

theorem mkRange_inv (e e' : Expr) (d st : Nat) (hd : okSecs d = true) (hst : st ≤ 1) (hi : Opd e) (h : mkRange e d st = some e') :
    Opd e' := by
  unfold mkRange at h
  repeat' split at h
  all_goals first | cases h | skip
  · exact ⟨wf_mat.mpr ⟨wf_vec.mp hi.1, hd⟩, Or.inl rfl⟩
  · rename_i hnv
    obtain ⟨hw, ho⟩ := hi
    have : isOperand e = true := by
      rcases ho with ho | ho
      · exact ho
      · cases e <;> simp [isVec] at ho
        exact absurd rfl (hnv _)
    exact ⟨wf_sub.mpr ⟨hw, this, hd, hst, by simp [maxSecs]⟩, Or.inl rfl⟩

theorem stepOpt_more (r : Option Expr) (ts ts' : List Tok) (e' : Expr) (h : stepOpt r ts = .more e' ts') :
    r = some e' ∧ ts = ts' := by
  cases r <;> simp [stepOpt] at h ⊢
  exact h

theorem postfixStep_sound (e : Expr) (ts : List Tok) (e' : Expr) (ts' : List Tok) (hok : Ok ts) (hi : Opd e)
    (h : postfixStep e ts = .more e' ts') : Opd e' ∧ Ok ts' := by
  unfold postfixStep at h
  repeat' split at h
  all_goals first | cases h | skip
  all_goals (obtain ⟨h1, rfl⟩ := stepOpt_more _ _ _ _ h)
  -- offset <d>
  · exact ⟨addOffset_inv _ _ _ (by simpa using okSecs_le (dur_ok hok.tail.head)) hi h1, hok.tail.tail⟩
  -- offset -<d>
  · exact ⟨addOffset_inv _ _ _ (by simpa using okSecs_le (dur_ok hok.tail.tail.head)) hi h1, hok.tail.tail.tail⟩
  -- offset [list]
  · obtain ⟨h2, h3⟩ := parseOffList_sound _ _ _ hok.tail.tail ‹parseOffList _ = some _›
    exact ⟨addOffsetList_inv _ _ _ h2 hi h1, h3⟩
  -- @ <ts>
  · exact ⟨setAt_inv _ _ _ hi h1, hok.tail.tail⟩
  -- @ +<ts>
  · exact ⟨setAt_inv _ _ _ hi h1, hok.tail.tail.tail⟩
  -- @ -<ts>
  · exact ⟨setAt_inv _ _ _ hi h1, hok.tail.tail.tail⟩
  -- @ start() / end()
  · exact ⟨setAt_inv _ _ _ hi h1, hok.tail.tail.tail.tail⟩
  -- [<d>]
  · exact ⟨mkRange_inv _ _ _ _ (dur_ok hok.tail.head) (by omega) hi h1, hok.tail.tail.tail⟩
  -- [<d>:]
  · exact ⟨mkRange_inv _ _ _ _ (dur_ok hok.tail.head) (by omega) hi h1, hok.tail.tail.tail.tail⟩
  -- [<d>:<d>]
  · exact ⟨mkRange_inv _ _ _ _ (dur_ok hok.tail.head) (by omega) hi h1, hok.tail.tail.tail.tail.tail⟩

theorem parsePostfix_sound : ∀ (f : Nat) (e : Expr), Opd e → Snd (parsePostfix f e) Opd := by
  intro f
  induction f with
  | zero => intro e _ ts e' rest _ h; simp [parsePostfix] at h
  | succ f ih =>
    intro e hi ts e' rest hok h
    unfold parsePostfix at h
    split at h
    · cases h
    · cases h; exact ⟨hi, hok⟩
    · obtain ⟨h1, h2⟩ := postfixStep_sound _ _ _ _ hok hi ‹postfixStep e ts = _›
      exact ih _ h1 _ _ _ h2 h

/-- soundness of the argument-list parser handed to the `…With` functions -/
def PA (pa : List Tok → Option (Args × List Tok)) : Prop := Snd pa (wfArgs · = true)

theorem parseArgsWith_sound (pa : List Tok → Option (Args × List Tok)) (hpa : PA pa) : PA (parseArgsWith pa) := by
  intro ts a rest hok h
  unfold parseArgsWith at h
  split at h
  · cases h; exact ⟨rfl, hok.tail⟩
  · exact hpa _ _ _ hok h

theorem mkAgg_sound (op : String) (wo : Bool) (ls : List String) (args : Args) (ts : List Tok) (e : Expr) (rest : List Tok)
    (hop : isAggOp op = true) (hls : ∀ l ∈ ls, okLabel l = true) (ha : wfArgs args = true)
    (h : mkAgg op wo ls args ts = some (e, rest)) : Opd e ∧ rest = ts := by
  unfold mkAgg at h
  split at h
  · rename_i hlen
    cases h
    exact ⟨⟨wf_agg.mpr ⟨hop, hls, ha, hlen⟩, Or.inl rfl⟩, rfl⟩
  · cases h

theorem parseAggSuffix_sound (op : String) (args : Args) (hop : isAggOp op = true) (ha : wfArgs args = true) :
    Snd (parseAggSuffix op args) Opd := by
  intro ts e rest hok h
  unfold parseAggSuffix at h
  repeat' split at h
  all_goals first | cases h | skip
  -- by / without after the body
  · obtain ⟨h1, h2⟩ := parseLabels_sound _ _ _ hok.tail ‹parseLabels _ = some _›
    obtain ⟨h3, rfl⟩ := mkAgg_sound _ _ _ _ _ _ _ hop h1 ha h
    exact ⟨h3, h2⟩
  -- another keyword
  · obtain ⟨h3, rfl⟩ := mkAgg_sound _ _ _ _ _ _ _ hop (by simp) ha h
    exact ⟨h3, hok⟩
  -- no keyword
  · obtain ⟨h3, rfl⟩ := mkAgg_sound _ _ _ _ _ _ _ hop (by simp) ha h
    exact ⟨h3, hok⟩

theorem parseAggWith_sound (pa : List Tok → Option (Args × List Tok)) (hpa : PA pa) (op : String) (hop : isAggOp op = true) :
    Snd (parseAggWith pa op) Opd := by
  intro ts e rest hok h
  unfold parseAggWith at h
  repeat' split at h
  all_goals first | cases h | skip
  -- body first
  · obtain ⟨h1, h2⟩ := parseArgsWith_sound pa hpa _ _ _ hok.tail ‹parseArgsWith _ _ = some _›
    exact parseAggSuffix_sound _ _ hop h1 _ _ _ h2 h
  -- by / without first
  · obtain ⟨h1, h2⟩ := parseLabels_sound _ _ _ hok.tail ‹parseLabels _ = some _›
    obtain ⟨h5, h6⟩ := parseArgsWith_sound pa hpa _ _ _ h2.tail ‹parseArgsWith _ _ = some _›
    obtain ⟨h3, rfl⟩ := mkAgg_sound _ _ _ _ _ _ _ hop h1 h5 h
    exact ⟨h3, h6⟩

theorem isMetricIdent_ident : isMetricIdent .ident = true := by decide +kernel
theorem isMetricIdent_mident : isMetricIdent .mident = true := by decide +kernel

theorem isMetricIdent_num (v : Option String) (a b : Option Int) : isMetricIdent (.num v a b) = false := by
  show SH.Gen.C28.metricIdentToks.contains "NUMBER" = false
  decide +kernel

theorem metricIdent_classify {k : WKind} {t : String} (hk : tokOk (.word k t) = true) (hm : isMetricIdent k = true) :
    isMetricIdent (classifyKind t) = true := by
  cases k with
  | num v a b => rw [isMetricIdent_num] at hm; cases hm
  | _ =>
    simp only [tokOk, wordOk, beq_iff_eq] at hk
    exact hk ▸ hm

theorem parseWordWith_sound (pa : List Tok → Option (Args × List Tok)) (hpa : PA pa) (f : Nat) (k : WKind) (t : String)
    (ts : List Tok) (e : Expr) (rest : List Tok) (hok : Ok (.word k t :: ts))
    (h : parseWordWith pa f k t ts = some (e, rest)) : Opd e ∧ Ok rest := by
  have hk := hok.head
  have hts := hok.tail
  unfold parseWordWith at h
  repeat' split at h
  all_goals first | cases h | skip
  -- number
  · exact ⟨⟨wf_num.mpr Bool.false_ne_true.elim, Or.inl (by simp [isOperand])⟩, hts⟩
  -- function call
  · have hfn := ‹isFunction t = true›
    obtain ⟨h1, h2⟩ := parseArgsWith_sound pa hpa _ _ _ hts.tail ‹parseArgsWith _ _ = some _›
    have hc : classifyKind t = .ident := by simpa [tokOk, wordOk] using hk
    exact ⟨⟨wf_call.mpr ⟨hfn, hc, h1⟩, Or.inl rfl⟩, h2⟩
  -- identifier as selector
  · exact parseSelector_sound _ _ (Or.inr (metricIdent_classify hk isMetricIdent_ident)) _ _ _ hts h
  -- metric identifier
  · exact parseSelector_sound _ _ (Or.inr (metricIdent_classify hk isMetricIdent_mident)) _ _ _ hts h
  -- aggregation
  · have hagg := ‹(isAggOp _ && startsAgg ts) = true›
    simp only [Bool.and_eq_true] at hagg
    exact parseAggWith_sound pa hpa _ hagg.1 _ _ _ hts h
  -- keyword as metric name
  · exact parseSelector_sound f t (Or.inr (metricIdent_classify hk ‹isMetricIdent (WKind.kw _) = true›)) _ _ _ hts h

def nextOp : List Tok → Option BinOp
  | t :: _ => binOpOfTok t
  | [] => none

/-- what follows a parsed expression: an operator there binds weaker than `p` and is not absorbed by the right edge -/
def Edge (p : Nat) (e : Expr) (rest : List Tok) : Prop :=
  ∀ o, nextOp rest = some o → o.prec < p ∧ stopsBefore e o.prec = true

def ExprPost (p : Nat) (e : Expr) (rest : List Tok) : Prop :=
  wf e = true ∧ fitsAt p e = true ∧ Ok rest ∧ Edge p e rest

/-- invariant of the operator loop: the accumulated left operand is well-formed and the operator that follows (if any)
    may take it as its left operand -/
def LoopPre (p : Nat) (lhs : Expr) (ts : List Tok) : Prop :=
  wf lhs = true ∧ fitsAt p lhs = true ∧ ∀ o, nextOp ts = some o → fitsAt o.prec lhs = true ∧ stopsBefore lhs o.prec = true

theorem opd_fits (e : Expr) (h : Opd e) (p : Nat) : fitsAt p e = true ∧ stopsBefore e p = true := by
  -- an operand or a selector is no `.bin`, no `.un` and no negative number, the only trees on which the two functions read `p`
  obtain ⟨_, h | h⟩ := h <;> cases e <;> simp [isOperand, isVec] at h <;> simp [fitsAt, stopsBefore, h]

theorem opd_pre (p : Nat) (e : Expr) (ts : List Tok) (h : Opd e) : LoopPre p e ts :=
  ⟨h.1, (opd_fits e h p).1, fun o _ => opd_fits e h o.prec⟩

theorem negNum_wf (n : Num) (h : wf (.num n) = true) : wf (.num (negNum n)) = true := by
  unfold negNum
  split
  · exact h
  · exact wf_num.mpr fun _ => ‹¬ n.mag = "NaN"›

theorem mkUnary_not_num (neg : Bool) (x : Expr) (h : isNum x = false) : mkUnary neg x = .un neg x := by
  cases x <;> simp [isNum] at h <;> rfl

theorem mkUnary_pre (p : Nat) (neg : Bool) (x : Expr) (ts : List Tok) (hw : wf x = true)
    (hf : fitsAt unaryOperandPrec x = true) (he : Edge unaryOperandPrec x ts) : LoopPre p (mkUnary neg x) ts := by
  cases hnum : isNum x with
  | true =>
    cases x <;> simp [isNum] at hnum
    rename_i n
    have hw' : wf (mkUnary neg (.num n)) = true := by
      cases neg
      · simpa [mkUnary] using hw
      · simpa [mkUnary] using negNum_wf n hw
    refine ⟨hw', ?_, ?_⟩
    · cases neg <;> simp [mkUnary, fitsAt]
    · intro o ho
      have := (he o ho).1
      cases neg <;> simp [mkUnary, fitsAt, stopsBefore, this]
  | false =>
    rw [mkUnary_not_num neg x hnum]
    refine ⟨wf_un.mpr ⟨hw, hnum, hf⟩, rfl, ?_⟩
    · intro o ho
      have := he o ho
      simp only [fitsAt, stopsBefore, this.1, this.2, decide_true, Bool.and_self, and_self]

theorem bin_pre (p : Nat) (o : BinOp) (m : BinMod) (lhs r : Expr) (ts : List Tok) (h1 : wf lhs = true) (h2 : wf r = true)
    (h3 : wfMod m = true) (h4 : fitsAt o.prec lhs = true) (h5 : stopsBefore lhs o.prec = true)
    (h6 : fitsAt (rhsPrec o) r = true) (h7 : ¬ o.prec < p) (h8 : Edge (rhsPrec o) r ts) : LoopPre p (.bin o m lhs r) ts := by
  refine ⟨wf_bin.mpr ⟨h1, h2, h3, h4, h5, h6⟩, ?_, ?_⟩
  · simp only [fitsAt, decide_eq_true_eq]; omega
  · intro o' ho'
    obtain ⟨q1, q2⟩ := h8 o' ho'
    have : o'.prec ≤ o.prec := by
      unfold rhsPrec at q1
      split at q1 <;> omega
    simp only [fitsAt, stopsBefore, q1, q2, this, decide_true, Bool.and_self, and_self]

theorem parsers_sound : ∀ f : Nat,
    (∀ p ts e rest, Ok ts → parseExpr f p ts = some (e, rest) → ExprPost p e rest) ∧
    (∀ p lhs ts e rest, Ok ts → LoopPre p lhs ts → parseLoop f p lhs ts = some (e, rest) → ExprPost p e rest) ∧
    Snd (parseAtom f) Opd ∧
    PA (parseArgs1 f) := by
  intro f
  induction f with
  | zero =>
    refine ⟨?_, ?_, ?_, ?_⟩
    · intro p ts e rest _ h; simp [parseExpr] at h
    · intro p lhs ts e rest _ _ h; simp [parseLoop] at h
    · intro ts e rest _ h; simp [parseAtom] at h
    · intro ts a rest _ h; simp [parseArgs1] at h
  | succ f ih =>
    obtain ⟨ihE, ihL, ihA, ihP⟩ := ih
    refine ⟨?_, ?_, ?_, ?_⟩
    · -- parseExpr
      intro p ts e rest hok h
      unfold parseExpr at h
      repeat' split at h
      all_goals first | cases h | skip
      -- unary +
      · obtain ⟨h1, h2, h3, h4⟩ := ihE _ _ _ _ hok.tail ‹parseExpr f _ _ = some _›
        exact ihL _ _ _ _ _ h3 (mkUnary_pre p _ _ _ h1 h2 h4) h
      -- unary -
      · obtain ⟨h1, h2, h3, h4⟩ := ihE _ _ _ _ hok.tail ‹parseExpr f _ _ = some _›
        exact ihL _ _ _ _ _ h3 (mkUnary_pre p _ _ _ h1 h2 h4) h
      -- operand with its postfix modifiers
      · obtain ⟨h1, h2⟩ := ihA _ _ _ hok ‹parseAtom f _ = some _›
        obtain ⟨h3, h4⟩ := parsePostfix_sound _ _ h1 _ _ _ h2 ‹parsePostfix f _ _ = some _›
        exact ihL _ _ _ _ _ h4 (opd_pre p _ _ h3) h
    · -- parseLoop
      intro p lhs ts e rest hok hpre h
      unfold parseLoop at h
      repeat' split at h
      all_goals first | cases h | skip
      -- end of input
      · exact ⟨hpre.1, hpre.2.1, hok, by intro o ho; simp [nextOp] at ho⟩
      -- the next token is no operator
      · have hb := ‹binOpOfTok _ = none›
        exact ⟨hpre.1, hpre.2.1, hok, by intro o ho; simp [nextOp, hb] at ho⟩
      -- an operator that binds weaker than p
      · have hb := ‹binOpOfTok _ = some _›
        have hlt := ‹BinOp.prec _ < p›
        refine ⟨hpre.1, hpre.2.1, hok, ?_⟩
        intro o ho
        simp only [nextOp, hb, Option.some.injEq] at ho
        subst ho
        exact ⟨hlt, (hpre.2.2 _ (show nextOp (_ :: _) = some _ from hb)).2⟩
      -- an operator that is taken
      · have hb := ‹binOpOfTok _ = some _›
        have hnlt := ‹¬ BinOp.prec _ < p›
        obtain ⟨m1, m2⟩ := parseMods_sound _ _ _ hok.tail ‹parseMods _ = some _›
        obtain ⟨r1, r2, r3, r4⟩ := ihE _ _ _ _ m2 ‹parseExpr f _ _ = some _›
        have hl := hpre.2.2 _ (show nextOp (_ :: _) = some _ from hb)
        have hpre' := bin_pre p _ _ lhs _ _ hpre.1 r1 m1 hl.1 hl.2 r2 hnlt r4
        exact ihL _ _ _ _ _ r3 hpre' h
    · -- parseAtom
      intro ts e rest hok h
      unfold parseAtom at h
      repeat' split at h
      all_goals first | cases h | skip
      -- word
      · exact parseWordWith_sound _ ihP _ _ _ _ _ _ hok h
      -- string
      · exact ⟨⟨rfl, Or.inl rfl⟩, hok.tail⟩
      -- parenthesis
      · obtain ⟨h1, _, h3, _⟩ := ihE _ _ _ _ hok.tail ‹parseExpr f _ _ = some _›
        exact ⟨⟨wf_par.mpr h1, Or.inl rfl⟩, h3.tail⟩
      -- `{`
      · exact parseSelector_sound _ _ (Or.inl rfl) _ _ _ hok h
    · -- parseArgs1
      intro ts a rest hok h
      unfold parseArgs1 at h
      repeat' split at h
      all_goals first | cases h | skip
      -- last argument
      · obtain ⟨h1, _, h3, _⟩ := ihE _ _ _ _ hok ‹parseExpr f _ _ = some _›
        exact ⟨wfArgs_cons.mpr ⟨h1, rfl⟩, h3.tail⟩
      -- further arguments
      · obtain ⟨h1, _, h3, _⟩ := ihE _ _ _ _ hok ‹parseExpr f _ _ = some _›
        obtain ⟨a1, a2⟩ := ihP _ _ _ h3.tail ‹parseArgs1 f _ = some _›
        exact ⟨wfArgs_cons.mpr ⟨h1, a1⟩, a2⟩

theorem parse_wf (ts : List Tok) (e : Expr) (hok : Ok ts) (h : parse ts = some e) : wf e = true := by
  unfold parse parseFuel at h
  split at h
  · cases h
    exact ((parsers_sound _).1 _ _ _ _ hok ‹parseExpr _ _ _ = some _›).1
  · cases h

end SH.PromSyntax.Sound
