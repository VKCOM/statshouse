/-
  SH.Lemmas.SamplerTree — structural lemmas about the partition tree of SH.Model.Sampler used by both C05 and C06:
  `sumWeight` is the weight of the groups without fixed budget (`nfWeight`, `partWeight_cases`); which kind of partition sits
  at which depth (`kindAt_*`, `nPart_*`); what a partition `p` of a group `g` is, the record `Part cfg g p`
  (`partition_part`): its rows are rows of `g`, it is deeper than `g`, size = sum of row sizes, a fixed budget only under
  partitionByBudget and then denom 1, and above the metric level it is a metric partition (rows of one metric, carrying its
  NoSampleAgent flag) or recurses (nothing is said of fair-key partitions); `GoodPart p` (`partition_good`) is the part of
  `Part` that does not mention `g`, with the hypotheses on the rows discharged, as the loops carry it along the sorted list.
  No Mathlib.
-/
import SH.Lemmas.Sampler

namespace SH.Sampler

/-- total weight / size of the groups with no fixed budget (`nf`): only these take part in the water filling -/
def nfWeight : List Group → Int
  | [] => 0
  | g :: gs => (if g.fixed then 0 else g.weight) + nfWeight gs

def nfSize : List Group → Int
  | [] => 0
  | g :: gs => (if g.fixed then 0 else g.sumSize) + nfSize gs

/-- in this form `omega` carries `nfWeight s ≤ W` and `W ≤ nfWeight s` alike from `g :: gs` to `gs` (same for `B`, `nfSize`) -/
theorem stepW_sub (W : Int) (g : Group) (gs : List Group) : stepW W g - nfWeight gs = W - nfWeight (g :: gs) := by
  cases hf : g.fixed <;> simp only [nfWeight, stepW, hf, Bool.false_eq_true, ↓reduceIte] <;> omega

theorem stepB_sub (B : Int) (g : Group) (gs : List Group) : stepB B g - nfSize gs = B - nfSize (g :: gs) := by
  cases hf : g.fixed <;> simp only [nfSize, stepB, hf, Bool.false_eq_true, ↓reduceIte] <;> omega

theorem nfWeight_nonneg (s : List Group) (hw : ∀ g ∈ s, 0 < g.weight) : 0 ≤ nfWeight s := by
  induction s with
  | nil => simp [nfWeight]
  | cons g gs ih =>
    rw [List.forall_mem_cons] at hw
    have := ih hw.2
    simp only [nfWeight]
    split <;> omega

theorem weight_le_nfWeight (s : List Group) (hw : ∀ g ∈ s, 0 < g.weight) (p : Group) (hp : p ∈ s) (hf : p.fixed = false) :
    p.weight ≤ nfWeight s := by
  induction s with
  | nil => simp at hp
  | cons g gs ih =>
    rw [List.forall_mem_cons] at hw
    have hn := nfWeight_nonneg gs hw.2
    simp only [nfWeight]
    rcases List.mem_cons.1 hp with rfl | hp
    · rw [hf, if_neg Bool.false_ne_true]
      omega
    · have := ih hw.2 hp
      split <;> omega

theorem nfWeight_perm {a b : List Group} (h : a.Perm b) : nfWeight a = nfWeight b :=
  perm_sum_eq nfWeight _ (fun _ _ => rfl) h

theorem nfSize_perm {a b : List Group} (h : a.Perm b) : nfSize a = nfSize b :=
  perm_sum_eq nfSize _ (fun _ _ => rfl) h

theorem nfWeight_all_fixed (s : List Group) (h : ∀ g ∈ s, g.fixed = true) : nfWeight s = 0 := by
  induction s with
  | nil => rfl
  | cons g gs ih => simp [nfWeight, h g (by simp), ih (fun x hx => h x (by simp [hx]))]

theorem nfWeight_eq_sumWeights (s : List Group) (h : ∀ g ∈ s, g.fixed = false) : nfWeight s = sumWeights s := by
  induction s with
  | nil => rfl
  | cons g gs ih =>
    rw [List.forall_mem_cons] at h
    have := ih h.2
    simp [nfWeight, sumWeights, h.1] at *
    omega

theorem nfWeight_fixed_append (cfg : Cfg) (l : List (List Item)) (x : List Group) :
    nfWeight (l.map (mkFixed cfg) ++ x) = nfWeight x := by
  induction l with
  | nil => rfl
  | cons r rs ih => simp [nfWeight, mkFixed, ih]

theorem sumWeights_mkKey (d : Nat) (rs : List (List Item)) : sumWeights (rs.map (mkKey d)) = rs.length := by
  induction rs with
  | nil => rfl
  | cons r rs ih =>
    simp only [sumWeights, List.map_cons, List.sum_cons, List.length_cons] at *
    rw [ih, Int.natCast_succ, Int.add_comm]
    rfl

theorem fits_assign_not_fixed (B W : Int) (g : Group) (hf : g.fixed = false) :
    fits (assign B W g) = true ↔ W * g.sumSize ≤ B * g.weight := by
  simp [fits, assign, hf]

theorem fits_assign_fixed (B W : Int) (g : Group) (hf : g.fixed = true) (hden : g.denom = 1) :
    fits (assign B W g) = true ↔ g.sumSize ≤ g.budget := by
  simp [fits, assign, hf, hden]

theorem hd_mem (l : List Item) (h : l ≠ []) : hd l ∈ l := by
  cases l with
  | nil => exact absurd rfl h
  | cons x xs => simp [hd]

theorem clamp1_pos (w : Int) : 0 < clamp1 w := by
  unfold clamp1
  split <;> omega

theorem sumSizes_nonneg (l : List Item) (h : ∀ it ∈ l, 0 ≤ it.size) : 0 ≤ sumSizes l := by
  induction l with
  | nil => simp [sumSizes]
  | cons x xs ih =>
    rw [List.forall_mem_cons] at h
    have := ih h.2
    simp only [sumSizes, List.map_cons, List.sum_cons] at *
    omega

theorem sumSizes_perm {a b : List Item} (h : a.Perm b) : sumSizes a = sumSizes b :=
  Lists.sum_perm (h.map _)

theorem sumSizes_append (a b : List Item) : sumSizes (a ++ b) = sumSizes a + sumSizes b := by
  simp [sumSizes]

theorem partition_of_ne_byBudget (cfg : Cfg) (g : Group) (hk : kindAt cfg g.depth ≠ .byBudget) :
    partition cfg g = partPlain cfg (kindAt cfg g.depth) g.depth g.items ∧
    partWeight cfg g = sumWeights (partPlain cfg (kindAt cfg g.depth) g.depth g.items) := by
  unfold partition partWeight
  cases h : kindAt cfg g.depth <;> simp_all

theorem partition_of_byBudget (cfg : Cfg) (g : Group) (h : kindAt cfg g.depth = .byBudget) :
    partition cfg g = partBudget cfg g.depth g.items ∧
    partWeight cfg g = (if ((runs (·.metric) g.items).dropWhile hasBudget).flatten.isEmpty then 1
      else sumWeights (partPlain cfg (kindAfterBudget cfg) (g.depth + 1) ((runs (·.metric) g.items).dropWhile hasBudget).flatten)) := by
  unfold partition partWeight
  rw [h]
  exact ⟨rfl, rfl⟩

theorem byKey_not_mem_partList (cfg : Cfg) : .byKey ∉ partList cfg := by
  unfold partList
  cases cfg.sBudgets <;> cases cfg.sNs <;> cases cfg.sGroups <;> decide

theorem byBudget_not_mem_tail (cfg : Cfg) : .byBudget ∉ (partList cfg).drop 1 := by
  unfold partList
  cases cfg.sBudgets <;> cases cfg.sNs <;> cases cfg.sGroups <;> decide

theorem nPart_le (cfg : Cfg) : nPart cfg ≤ 4 := by
  unfold nPart partList
  cases cfg.sBudgets <;> cases cfg.sNs <;> cases cfg.sGroups <;> decide

theorem kindAt_zero_ne_byBudget (cfg : Cfg) (hb : cfg.sBudgets = false) : kindAt cfg 0 ≠ .byBudget := by
  unfold kindAt partList
  rw [hb]
  cases cfg.sNs <;> cases cfg.sGroups <;> decide

theorem kindAt_after_budget (cfg : Cfg) (h : kindAt cfg 0 = .byBudget) : kindAt cfg 1 = kindAfterBudget cfg ∧ 1 < nPart cfg := by
  revert h
  unfold kindAt nPart partList kindAfterBudget
  cases cfg.sBudgets <;> cases cfg.sNs <;> cases cfg.sGroups <;> decide

theorem kindAt_getElem? {cfg : Cfg} {d : Nat} {k : PartKind} (h : kindAt cfg d = k) (hk : k ≠ .byKey) :
    (partList cfg)[d]? = some k := by
  unfold kindAt at h
  rw [List.getD_eq_getElem?_getD] at h
  cases hh : (partList cfg)[d]? with
  | none =>
    rw [hh] at h
    exact absurd h.symm hk
  | some y =>
    rw [hh] at h
    exact congrArg some h

theorem kindAt_ne_byBudget_of_pos (cfg : Cfg) (d : Nat) (hpos : 1 ≤ d) : kindAt cfg d ≠ .byBudget := by
  intro h
  have := kindAt_getElem? h (by decide)
  rw [← Nat.add_sub_cancel' hpos, ← List.getElem?_drop] at this
  exact byBudget_not_mem_tail cfg (List.mem_of_getElem? this)

theorem kindAt_ne_byKey_of_lt (cfg : Cfg) (d : Nat) (h : d < nPart cfg) : kindAt cfg d ≠ .byKey := by
  intro hk
  unfold kindAt at hk
  rw [List.getD_eq_getElem?_getD, List.getElem?_eq_getElem h, Option.getD_some] at hk
  exact byKey_not_mem_partList cfg (hk ▸ List.getElem_mem h)

/-- the last level is byMetric, so a namespace or group level has a level below it -/
theorem succ_lt_nPart_of_ns_or_group (cfg : Cfg) (d : Nat) (h : kindAt cfg d = .byNs ∨ kindAt cfg d = .byGroup) : d + 1 < nPart cfg := by
  obtain ⟨k, hk, hne, hne'⟩ : ∃ k, kindAt cfg d = k ∧ k ≠ .byKey ∧ k ≠ .byMetric := by
    rcases h with h | h
    · exact ⟨_, h, by decide, by decide⟩
    · exact ⟨_, h, by decide, by decide⟩
  have := kindAt_getElem? hk hne
  unfold nPart
  unfold partList at this ⊢
  rw [List.length_append, List.length_singleton]
  refine Decidable.byContradiction fun hge => ?_
  rw [List.getElem?_append_right (by omega)] at this
  cases hj : d - _ with
  | zero =>
    rw [hj] at this
    exact hne' (Option.some.inj this).symm
  | succ j =>
    rw [hj] at this
    cases this

theorem nPart_pos (cfg : Cfg) : 1 ≤ nPart cfg := by
  unfold nPart partList
  rw [List.length_append, List.length_singleton]
  omega

/-- a partition either carries the flag of all its rows (metric level, fixed-budget metrics) or sits above the metric level,
    never carries the flag and is entered by the sampling loop -/
def FlagOrAbove (cfg : Cfg) (p : Group) : Prop :=
  (∀ x ∈ p.items, x.metric = (hd p.items).metric) ∧ p.noSample = (hd p.items).noSample ∨
  (p.noSample = false ∧ p.depth < nPart cfg)

/-- the content of `Part` for partitionByNamespace / Group / Metric / Key, on `(k, d, l)` instead of `g`: partitionByBudget
    calls them one level deeper on a sublist with `kindAfterBudget`, hence `k` is free and `k = kindAt cfg d` a hypothesis of the flag -/
theorem partPlain_part (cfg : Cfg) (k : PartKind) (d : Nat) (l : List Item) : ∀ p ∈ partPlain cfg k d l,
    p.fixed = false ∧ p.depth = d + 1 ∧ p.sumSize = sumSizes p.items ∧ p.items ≠ [] ∧ (∀ x ∈ p.items, x ∈ l) ∧
    ((∀ it ∈ l, 0 < it.wMetric) → 0 < p.weight) ∧ (k = kindAt cfg d → d < nPart cfg → FlagOrAbove cfg p) := by
  intro p hp
  cases k <;> simp only [partPlain, List.mem_map, List.not_mem_nil] at hp
  all_goals
    obtain ⟨r, hr, rfl⟩ := hp
    have hne := runs_ne_nil _ _ r hr
    have hsub := mem_of_mem_runs _ _ r hr
    refine ⟨rfl, rfl, rfl, hne, hsub, fun hw => ?_, fun hk hlt => ?_⟩
  -- weight, then flag, of a namespace / group / metric / fair-key partition
  · exact clamp1_pos _
  · exact Or.inr ⟨rfl, succ_lt_nPart_of_ns_or_group cfg d (Or.inl hk.symm)⟩
  · exact clamp1_pos _
  · exact Or.inr ⟨rfl, succ_lt_nPart_of_ns_or_group cfg d (Or.inr hk.symm)⟩
  · exact hw _ (hsub _ (hd_mem r hne))
  · exact Or.inl ⟨runs_key_const (·.metric) l r hr, rfl⟩
  · exact Int.one_pos
  · exact absurd hk.symm (kindAt_ne_byKey_of_lt cfg d hlt)

/-- what a partition `p` of `g` is, as far as the theorems about `run` use it; a fixed budget occurs only under partitionByBudget -/
structure Part (cfg : Cfg) (g p : Group) : Prop where
  sub : ∀ x ∈ p.items, x ∈ g.items
  depth_gt : g.depth < p.depth
  size_eq : p.sumSize = sumSizes p.items
  ne_nil : p.items ≠ []
  weight_pos : (∀ it ∈ g.items, 0 < it.wMetric) → 0 < p.weight
  fixed_byBudget : p.fixed = true → kindAt cfg g.depth = .byBudget
  fixed_denom : p.fixed = true → p.denom = 1
  fixed_budget : p.fixed = true → 0 < p.budget
  flag : g.depth < nPart cfg → FlagOrAbove cfg p

theorem partition_part (cfg : Cfg) (g : Group) : ∀ p ∈ partition cfg g, Part cfg g p := by
  intro p hp
  by_cases hk : kindAt cfg g.depth = .byBudget
  · have h0 : g.depth = 0 := Nat.eq_zero_of_not_pos fun h => kindAt_ne_byBudget_of_pos cfg _ h hk
    rw [(partition_of_byBudget cfg g hk).1] at hp
    simp only [partBudget, List.mem_append, List.mem_map] at hp
    rcases hp with ⟨r, hr, rfl⟩ | hp
    · have hr' := List.takeWhile_subset _ hr
      exact {
        sub := mem_of_mem_runs _ _ r hr'
        depth_gt := h0 ▸ nPart_pos cfg
        size_eq := rfl
        ne_nil := runs_ne_nil _ _ r hr'
        weight_pos := fun _ => Int.one_pos
        fixed_byBudget := fun _ => hk
        fixed_denom := fun _ => rfl
        fixed_budget := fun _ => of_decide_eq_true (List.all_eq_true.1 List.all_takeWhile r hr)
        flag := fun _ => Or.inl ⟨runs_key_const (·.metric) _ r hr', rfl⟩ }
    · rw [h0] at hk hp
      obtain ⟨e, h1⟩ := kindAt_after_budget cfg hk
      obtain ⟨hf, hdp, hsz, hne, hsub, hw, hfl⟩ := partPlain_part cfg _ _ _ p hp
      have hl : ∀ x ∈ ((runs (·.metric) g.items).dropWhile hasBudget).flatten, x ∈ g.items := fun x hx => by
        obtain ⟨r, hr, hxr⟩ := List.mem_flatten.1 hx
        exact mem_of_mem_runs _ _ _ (List.dropWhile_subset _ hr) x hxr
      have hnf : p.fixed = true → False := fun h => absurd (hf.symm.trans h) (by decide)
      exact {
        sub := fun x hx => hl x (hsub x hx)
        depth_gt := by omega
        size_eq := hsz
        ne_nil := hne
        weight_pos := fun h => hw fun it hit => h it (hl it hit)
        fixed_byBudget := fun h => (hnf h).elim
        fixed_denom := fun h => (hnf h).elim
        fixed_budget := fun h => (hnf h).elim
        flag := fun _ => hfl e.symm h1 }
  · rw [(partition_of_ne_byBudget cfg g hk).1] at hp
    obtain ⟨hf, hdp, hsz, hne, hsub, hw, hfl⟩ := partPlain_part cfg _ _ _ p hp
    have hnf : p.fixed = true → False := fun h => absurd (hf.symm.trans h) (by decide)
    exact {
      sub := hsub
      depth_gt := by omega
      size_eq := hsz
      ne_nil := hne
      weight_pos := hw
      fixed_byBudget := fun h => (hnf h).elim
      fixed_denom := fun h => (hnf h).elim
      fixed_budget := fun h => (hnf h).elim
      flag := hfl rfl }

/-- the part of `Part` that does not mention `g`, with the hypotheses on the rows discharged: what the loops of `run` carry
    along the sorted list of partitions -/
structure GoodPart (p : Group) : Prop where
  weight_pos : 0 < p.weight
  size_nonneg : 0 ≤ p.sumSize
  fixed_denom : p.fixed = true → p.denom = 1
  size_eq : p.sumSize = sumSizes p.items

theorem partition_good (cfg : Cfg) (g : Group)
    (hw : ∀ it ∈ g.items, 0 < it.wMetric) (hs : ∀ it ∈ g.items, 0 ≤ it.size) :
    ∀ p ∈ partition cfg g, GoodPart p := fun p hp =>
  have h := partition_part cfg g p hp
  ⟨h.weight_pos hw, h.size_eq ▸ sumSizes_nonneg _ fun it hit => hs it (h.sub it hit),
    h.fixed_denom, h.size_eq⟩

/-- `sumWeight` as returned by the partition functions is the total weight of the groups without fixed budget, unless
    there is no such group (byBudget with every metric on a fixed budget: the code returns 1) -/
theorem partWeight_cases (cfg : Cfg) (g : Group) :
    partWeight cfg g = nfWeight (partition cfg g) ∨ (partWeight cfg g = 1 ∧ ∀ p ∈ partition cfg g, p.fixed = true) := by
  by_cases hk : kindAt cfg g.depth = .byBudget
  · obtain ⟨e1, e2⟩ := partition_of_byBudget cfg g hk
    rw [e1, e2, partBudget]
    split
    · rename_i hemp
      refine Or.inr ⟨rfl, fun p hp => ?_⟩
      rw [List.isEmpty_iff.1 hemp] at hp
      rcases List.mem_append.1 hp with hp | hp
      · obtain ⟨r, _, rfl⟩ := List.mem_map.1 hp
        rfl
      · obtain ⟨_, _, _, hne, hsub, _⟩ := partPlain_part cfg _ _ _ p hp
        obtain ⟨x, hx⟩ := List.exists_mem_of_ne_nil _ hne
        cases hsub x hx
    · rw [nfWeight_fixed_append, nfWeight_eq_sumWeights _ (fun x hx => (partPlain_part cfg _ _ _ x hx).1)]
      exact Or.inl rfl
  · obtain ⟨e1, e2⟩ := partition_of_ne_byBudget cfg g hk
    rw [e1, e2, nfWeight_eq_sumWeights _ (fun x hx => (partPlain_part cfg _ _ _ x hx).1)]
    exact Or.inl rfl

theorem partWeight_eq (cfg : Cfg) (g : Group) (p : Group) (hp : p ∈ partition cfg g) (hpf : p.fixed = false) :
    partWeight cfg g = nfWeight (partition cfg g) := by
  rcases partWeight_cases cfg g with h | ⟨_, h⟩
  · exact h
  · exact absurd (hpf.symm.trans (h p hp)) (by decide)

theorem nfSize_eq (s : List Group) (h : ∀ p ∈ s, p.fixed = false ∧ p.sumSize = sumSizes p.items) :
    nfSize s = sumSizes (gitems s) := by
  induction s with
  | nil => rfl
  | cons g gs ih =>
    rw [List.forall_mem_cons] at h
    simp only [nfSize, gitems_cons, sumSizes_append, h.1.1, ih h.2]
    simp [h.1.2]

theorem nfSize_partition (cfg : Cfg) (g : Group) (hk : kindAt cfg g.depth ≠ .byBudget) :
    nfSize (partition cfg g) = sumSizes g.items := by
  rw [nfSize_eq _ fun p hp => ?_, partition_items]
  have h := partition_part cfg g p hp
  exact ⟨Bool.eq_false_iff.2 fun hf => hk (h.fixed_byBudget hf), h.size_eq⟩

end SH.Sampler
