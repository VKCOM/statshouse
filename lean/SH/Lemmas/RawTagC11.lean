/-
  SH.Lemmas.RawTagC11 — the parsers of SH.Model.RawTag in declarative terms: digit strings and their value, the
  magnitude step shared by strconv.ParseInt and ParseUint, two's complement patterns read back, leading zeros.
  `natVal`, `AllDigits`, `zeros`, with which the theorems of SH.Props.C11 are stated, are defined here.
-/
import SH.Model.RawTag

namespace SH.C11
open SH.RawTag

/-- value of a digit string -/
def natVal (d : List UInt8) (acc : Nat) : Nat := d.foldl (fun a c => a * 10 + (c.toNat - 0x30)) acc

def AllDigits (d : List UInt8) : Prop := ∀ c ∈ d, isDigit c = true

theorem digitsVal_iff (d : List UInt8) : ∀ (acc n : Nat), digitsVal d acc = some n ↔ AllDigits d ∧ n = natVal d acc := by
  induction d with
  | nil =>
    intro acc n
    simp only [digitsVal, AllDigits, natVal, List.foldl_nil, Option.some.injEq, List.not_mem_nil, false_imp_iff,
      implies_true, true_and]
    exact eq_comm
  | cons c rest ih =>
    intro acc n
    simp only [digitsVal]
    by_cases hc : isDigit c = true
    · simp only [hc, ↓reduceIte, ih]
      simp [AllDigits, hc, natVal]
    · simp only [hc, Bool.false_eq_true, ↓reduceIte]
      constructor
      · intro h; cases h
      · intro h; exact absurd (h.1 c (by simp)) hc

theorem magnitude_iff (s : List UInt8) (n : Nat) : magnitude s = some n ↔ s ≠ [] ∧ AllDigits s ∧ n = natVal s 0 := by
  unfold magnitude
  cases s with
  | nil => simp
  | cons c rest => simp [digitsVal_iff]

theorem digit_not_sign (c : UInt8) (hc : isDigit c = true) : c ≠ plus ∧ c ≠ minus := by
  constructor
  · intro h
    subst h
    exact absurd hc (by decide)
  · intro h
    subst h
    exact absurd hc (by decide)

/-- the step shared by the three branches of ParseInt: digits, then a bound on the number -/
theorem magnitude_match (s : List UInt8) (P : Nat → Prop) [DecidablePred P] {α : Type} (f : Nat → α) (v : α) :
    (match magnitude s with
      | some n => if P n then some (f n) else none
      | none => none) = some v ↔ (s ≠ [] ∧ AllDigits s ∧ v = f (natVal s 0)) ∧ P (natVal s 0) := by
  cases hm : magnitude s with
  | none =>
    refine ⟨(fun h => nomatch h), fun ⟨⟨h1, h2, _⟩, _⟩ => ?_⟩
    rw [(magnitude_iff s _).2 ⟨h1, h2, rfl⟩] at hm
    cases hm
  | some n =>
    obtain ⟨h1, h2, rfl⟩ := (magnitude_iff s n).1 hm
    by_cases hP : P (natVal s 0)
    · simp only [if_pos hP, Option.some.injEq]
      exact ⟨fun h => ⟨⟨h1, h2, h.symm⟩, hP⟩, fun h => h.1.2.2.symm⟩
    · simp only [if_neg hP]
      exact ⟨(fun h => nomatch h), fun h => absurd h.2 hP⟩

theorem parseUint64_eq (s : List UInt8) : parseUint64 s = match magnitude s with
    | some n => if n < 2 ^ 64 then some n else none
    | none => none := by
  unfold parseUint64 magnitude
  cases s with
  | nil => rfl
  | cons c rest => cases digitsVal (c :: rest) 0 <;> rfl

/-- strconv.ParseUint(s, 10, 64) accepts exactly the unsigned digit strings (no sign at all) below 2^64 -/
theorem parseUint64_iff (s : List UInt8) (n : Nat) :
    parseUint64 s = some n ↔ s ≠ [] ∧ AllDigits s ∧ n = natVal s 0 ∧ n < 2 ^ 64 := by
  rw [parseUint64_eq]
  refine (magnitude_match s (· < 2 ^ 64) id n).trans ?_
  constructor
  · rintro ⟨⟨h1, h2, rfl⟩, h3⟩
    exact ⟨h1, h2, rfl, h3⟩
  · rintro ⟨h1, h2, rfl, h3⟩
    exact ⟨⟨h1, h2, rfl⟩, h3⟩

theorem pattern_nonneg (bits : Nat) (v : Int) (h0 : 0 ≤ v) (h1 : v < (2 ^ bits : Int)) : (pattern bits v : Int) = v := by
  unfold pattern
  rw [Int.toNat_of_nonneg (Int.emod_nonneg _ (by omega)), Int.emod_eq_of_lt h0 h1]

theorem pattern_neg (bits : Nat) (v : Int) (h0 : v < 0) (h1 : -(2 ^ bits : Int) ≤ v) :
    (pattern bits v : Int) = v + 2 ^ bits := by
  unfold pattern
  rw [Int.toNat_of_nonneg (Int.emod_nonneg _ (by omega)), ← Int.add_emod_right, Int.emod_eq_of_lt (by omega) (by omega)]

theorem pattern_roundtrip (k : Nat) (v : Int) (hlo : -(2 ^ k : Int) ≤ v) (hhi : v < (2 ^ (k + 1) : Int)) :
    pattern (k + 1) v < 2 ^ (k + 1) ∧ (v < 0 → asSigned (k + 1) (pattern (k + 1) v) = v) ∧
    (0 ≤ v → asUnsigned (pattern (k + 1) v) = v) ∧
    (0 ≤ v → v < (2 ^ k : Int) → asSigned (k + 1) (pattern (k + 1) v) = v) := by
  unfold asSigned asUnsigned
  rw [Nat.add_sub_cancel]
  have hc : ((2 ^ k : Nat) : Int) = 2 ^ k := Int.natCast_pow 2 k
  rcases Int.lt_or_le v 0 with h | h
  · have hp := pattern_neg (k + 1) v h (by omega)
    refine ⟨by omega, fun _ => ?_, fun h' => absurd h' (Int.not_le.2 h), fun h' => absurd h' (Int.not_le.2 h)⟩
    rw [if_neg (by omega)]
    omega
  · have hp := pattern_nonneg (k + 1) v h hhi
    refine ⟨by omega, fun h' => absurd h (Int.not_le.2 h'), fun _ => hp, fun _ h2 => ?_⟩
    rw [if_pos (by omega)]
    exact hp

/-- k ASCII zeros -/
def zeros (k : Nat) : List UInt8 := List.replicate k 0x30

theorem digitsVal_zeros (k : Nat) (d : List UInt8) : digitsVal (zeros k ++ d) 0 = digitsVal d 0 := by
  induction k with
  | zero => rfl
  | succ k ih =>
    have : isDigit 0x30 = true := by decide
    simp only [zeros, List.replicate_succ, List.cons_append, digitsVal, this, ↓reduceIte] at ih ⊢
    exact ih

theorem magnitude_zeros (k : Nat) (d : List UInt8) (hd : d ≠ []) : magnitude (zeros k ++ d) = magnitude d := by
  unfold magnitude
  have h1 : (zeros k ++ d).isEmpty = false := by cases d <;> simp_all
  have h2 : d.isEmpty = false := by cases d <;> simp_all
  simp only [h1, h2, Bool.false_eq_true, ↓reduceIte, digitsVal_zeros]

theorem parseUint64_zeros (k : Nat) (d : List UInt8) (hd : d ≠ []) : parseUint64 (zeros k ++ d) = parseUint64 d := by
  rw [parseUint64_eq, parseUint64_eq, magnitude_zeros k d hd]

theorem parseInt64_zeros (k : Nat) (c : UInt8) (rest : List UInt8) (hc : isDigit c = true) :
    parseInt64 (zeros k ++ c :: rest) = parseInt64 (c :: rest) := by
  cases k with
  | zero => rfl
  | succ k =>
    obtain ⟨h1, h2⟩ := digit_not_sign c hc
    have hz : (0x30 : UInt8) ≠ plus ∧ (0x30 : UInt8) ≠ minus := by decide
    have hm := magnitude_zeros (k + 1) (c :: rest) (by simp)
    simp only [zeros, List.replicate_succ, List.cons_append] at hm
    simp only [zeros, List.replicate_succ, List.cons_append, parseInt64, hz.1, hz.2, h1, h2, ↓reduceIte, hm]

theorem parseInt64_sign_zeros (k : Nat) (sign : UInt8) (hs : sign = plus ∨ sign = minus) (d : List UInt8) (hd : d ≠ []) :
    parseInt64 (sign :: (zeros k ++ d)) = parseInt64 (sign :: d) := by
  have hm := magnitude_zeros k d hd
  have hne : minus ≠ plus := by decide
  rcases hs with h | h <;> subst h <;> simp only [parseInt64, hm, hne, ↓reduceIte]

end SH.C11
