/-
  SH.Lemmas.C21Writer — C21: the write side of ChunkedStorage2 under injected write failures, as a refinement theorem
  over ALL op lists, and Save of the mapping cache as a client of that writer.

  Abstract writer state: the list `done` of chunk bodies that are on disk before the write offset, the pending body, and the
  sticky error flag.  `astep` is the list-level meaning of ResetToStartOfFile / StartWriteChunk / FinishItem / finishChunk /
  FinishWriteChunk where every call may be told that WriteAt fails.  `Refines` ties the real (modelled) storage object to
  it: the first `offset` bytes of the file are exactly the encoding of `done`, `hash` is the chain hash of `done`.
  Save = reset, start, FinishItem per element, FinishWriteChunk without failures is a run of this writer; where the elements
  are split into chunks is a fact about the list-level writer alone (`Grouped`).  Hence `save_writes_encoding` (what Save
  leaves in the file is an encoding of the elements in groups) and the save-then-restart theorems.
-/
import SH.Lemmas.C21Base

namespace SH.C21
open SH.Chunked

inductive WOp
  | reset
  | start (magic : Nat)
  /-- append `b` to the chunk, then FinishItem; `fail` = WriteAt returns an error if it is called -/
  | item (b : Bytes) (fail : Bool)
  /-- append `b`, then finishChunk directly -/
  | flush (b : Bytes) (fail : Bool)
  | fin (fail : Bool)

def wstep (H : Bytes → Bytes) (s : St) : WOp → St
  | .reset => resetToStart s
  | .start m => startWrite m s
  | .item b f => (finishItem H f b s).1
  | .flush b f => (finishChunk H f { s with pending := s.pending ++ b }).1
  | .fin f => (finishWrite H f s).1

def wrun (H : Bytes → Bytes) (s : St) (ops : List WOp) : St := ops.foldl (wstep H) s

structure Abs where
  done : List Bytes := []
  pending : Bytes := []
  err : Bool := false
deriving DecidableEq, Repr

/-- finishChunk on the abstract state -/
def aflush (fail : Bool) (a : Abs) : Abs :=
  if a.pending.isEmpty then a
  else if a.err then { a with pending := [] }
  else if fail then { a with pending := [], err := true }
  else { a with done := a.done ++ [a.pending], pending := [] }

def astep (a : Abs) : WOp → Abs
  | .reset => { a with done := [], err := false }
  | .start _ => { a with pending := [] }
  | .item b f =>
    let a1 := { a with pending := a.pending ++ b }
    if a1.pending.length < halfChunk then a1
    else if a1.pending.length > chunkSize then a1
    else aflush f a1
  | .flush b f => aflush f { a with pending := a.pending ++ b }
  | .fin f => aflush f a

def arun (a : Abs) (ops : List WOp) : Abs := ops.foldl astep a

structure Refines (H : Bytes → Bytes) (magic : Nat) (s : St) (a : Abs) : Prop where
  magic_eq : s.magic = magic
  pending : s.pending = a.pending
  err : s.writeErr = a.err
  off : s.offset = (encodeAll H magic zeroHash a.done).length
  file : s.file.take s.offset = encodeAll H magic zeroHash a.done
  hash : s.hash = chain H magic zeroHash a.done

theorem encodeAll_snoc (H : Bytes → Bytes) (m : Nat) (prev : Bytes) (xs : List Bytes) (b : Bytes) :
    encodeAll H m prev (xs ++ [b]) = encodeAll H m prev xs ++ encChunk H m (chain H m prev xs) b := by
  rw [encodeAll_append]
  simp [encodeAll]

theorem writeAt_take (f a d : Bytes) (off : Nat) (h1 : f.take off = a) (h2 : a.length = off) :
    (writeAt f off d).take (off + d.length) = a ++ d := by
  have hle : off ≤ f.length := by
    have := congrArg List.length h1
    rw [List.length_take, h2] at this; omega
  unfold writeAt
  have : off - f.length = 0 := by omega
  simp only [this, List.replicate_zero, List.append_nil, h1]
  rw [← List.append_assoc]
  exact List.take_left' (by simp [h2])

theorem refines_flush {H : Bytes → Bytes} (hH : ∀ x, (H x).length = 16) {magic : Nat} {s : St} {a : Abs} (fail : Bool)
    (h : Refines H magic s a) : Refines H magic (finishChunk H fail s).1 (aflush fail a) := by
  by_cases hp : a.pending.isEmpty = true
  · have hp' : s.pending.isEmpty = true := by rw [h.pending]; exact hp
    simp only [finishChunk, aflush, hp, hp', if_true]; exact h
  by_cases he : a.err = true
  · have he' : s.writeErr = true := by rw [h.err]; exact he
    simp only [finishChunk, aflush, hp, h.pending, he, he', Bool.false_eq_true, if_false, if_true]
    exact ⟨h.magic_eq, rfl, rfl, h.off, h.file, h.hash⟩
  have hp' : s.pending.isEmpty = false := by rw [h.pending]; simpa using hp
  have he' : s.writeErr = false := by rw [h.err]; simpa using he
  cases fail with
  | true =>
    simp only [finishChunk, aflush, hp, hp', he, he', Bool.false_eq_true, if_false, if_true]
    exact ⟨h.magic_eq, rfl, rfl, h.off, h.file, h.hash⟩
  | false =>
    -- the successful write: one chunk is appended to the encoded prefix
    have hcl := encChunk_length H magic s.hash s.pending hH
    simp only [finishChunk, aflush, hp, hp', he, he', Bool.false_eq_true, if_false]
    refine ⟨h.magic_eq, rfl, rfl, ?_, ?_, ?_⟩
    · simp only
      rw [encodeAll_snoc, List.length_append, ← h.off, ← h.hash, ← h.pending, hcl, headerSize_val, hashSize_val]
    · simp only
      rw [encodeAll_snoc, h.magic_eq, ← h.pending, ← h.hash, headerSize_val, hashSize_val, ← hcl]
      exact writeAt_take s.file _ _ s.offset h.file h.off.symm
    · simp only
      rw [chain_append, h.magic_eq, h.hash, h.pending]
      rfl

theorem refines_after_reset (H : Bytes → Bytes) (s : St) :
    Refines H s.magic (resetToStart s) { pending := s.pending } :=
  ⟨rfl, rfl, rfl, by simp [resetToStart, encodeAll], by simp [resetToStart, encodeAll], by simp [resetToStart, chain]⟩

theorem refines_step {H : Bytes → Bytes} (hH : ∀ x, (H x).length = 16) {magic : Nat} {s : St} {a : Abs} (op : WOp)
    (h : Refines H magic s a) (hm : ∀ m, op = .start m → m = magic) :
    Refines H magic (wstep H s op) (astep a op) := by
  cases op with
  | reset =>
    have := refines_after_reset H s
    rw [h.magic_eq, h.pending] at this
    exact this
  | start m =>
    exact ⟨hm m rfl, rfl, h.err, h.off, h.file, h.hash⟩
  | item b f =>
    have h1 : Refines H magic { s with pending := a.pending ++ b } { a with pending := a.pending ++ b } :=
      ⟨h.magic_eq, rfl, h.err, h.off, h.file, h.hash⟩
    simp only [wstep, astep, finishItem, belowHalf, overFull, h.pending]
    by_cases c1 : (a.pending ++ b).length < halfChunk
    · simp only [c1, decide_true, if_true]
      exact h1
    · simp only [c1, decide_false, Bool.false_eq_true, if_false]
      by_cases c2 : (a.pending ++ b).length > chunkSize
      · simp only [c2, decide_true, if_true]
        exact h1
      · simp only [c2, decide_false, Bool.false_eq_true, if_false]
        exact refines_flush hH f h1
  | flush b f =>
    exact refines_flush hH f ⟨h.magic_eq, by simp [h.pending], h.err, h.off, h.file, h.hash⟩
  | fin f =>
    have hf := refines_flush hH f h
    simp only [wstep, astep, finishWrite]
    split
    · exact hf
    · -- Truncate(offset): the prefix before the offset is untouched
      refine ⟨hf.magic_eq, hf.pending, hf.err, hf.off, ?_, hf.hash⟩
      simp only [List.take_take, Nat.min_self]
      exact hf.file

/-- C21 (write side; all op lists from a state that refines, e.g. right after a reset (`refines_after_reset`), every
    StartWriteChunk with the one magic; any injected WriteAt failures): the bytes of the file before the write offset are
    always exactly the encoding of the chunks the abstract writer has accepted since the last reset; the sticky error flag,
    the pending body, the chain hash and the offset agree with the abstract writer. -/
theorem writer_refines {H : Bytes → Bytes} (hH : ∀ x, (H x).length = 16) (magic : Nat) (ops : List WOp) (s : St) (a : Abs)
    (h : Refines H magic s a) (hm : ∀ m, WOp.start m ∈ ops → m = magic) :
    Refines H magic (wrun H s ops) (arun a ops) := by
  induction ops generalizing s a with
  | nil => exact h
  | cons op ops ih =>
    exact ih _ _ (refines_step hH op h (fun m he => hm m (by simp [he])))
      (fun m hmem => hm m (List.mem_cons_of_mem _ hmem))

theorem aflush_err_keeps_done (f : Bool) (a : Abs) (he : a.err = true) : (aflush f a).done = a.done ∧ (aflush f a).err = true := by
  unfold aflush
  split
  · exact ⟨rfl, he⟩
  · simp [he]

theorem astep_err_keeps_done (a : Abs) (op : WOp) (he : a.err = true) (hr : op ≠ .reset) :
    (astep a op).done = a.done ∧ (astep a op).err = true := by
  cases op with
  | reset => exact absurd rfl hr
  | start m => exact ⟨rfl, he⟩
  | item b f =>
    simp only [astep]
    split
    · exact ⟨rfl, he⟩
    · split
      · exact ⟨rfl, he⟩
      · exact aflush_err_keeps_done f _ he
  | flush b f => exact aflush_err_keeps_done f _ he
  | fin f => exact aflush_err_keeps_done f _ he

/-- `writeErr` discards: after a failed WriteAt, whatever the caller does (short of ResetToStartOfFile) the chunks on disk
    before the offset stay exactly those written before the failure -/
theorem arun_err_keeps_done (a : Abs) (ops : List WOp) (he : a.err = true) (hr : ∀ op ∈ ops, op ≠ .reset) :
    (arun a ops).done = a.done ∧ (arun a ops).err = true := by
  induction ops generalizing a with
  | nil => exact ⟨rfl, he⟩
  | cons op ops ih =>
    have h1 := astep_err_keeps_done a op he (hr op (by simp))
    have h2 := ih (astep a op) h1.2 (fun o ho => hr o (List.mem_cons_of_mem _ ho))
    exact ⟨by simp only [arun, List.foldl_cons] at h2 ⊢; rw [h2.1, h1.1], h2.2⟩

/-- a FinishWriteChunk that reports no error leaves a file that is EXACTLY the encoding of the accepted chunks -/
theorem fin_ok_whole_file {H : Bytes → Bytes} (hH : ∀ x, (H x).length = 16) {magic : Nat} {s : St} {a : Abs} (f : Bool)
    (h : Refines H magic s a) (hok : (finishWrite H f s).2 = .none) :
    (finishWrite H f s).1.file = encodeAll H magic zeroHash (astep a (.fin f)).done := by
  have hf := refines_flush hH f h
  by_cases hc : ((finishChunk H f s).2 != WErr.none) = true
  · have : (finishWrite H f s).2 = (finishChunk H f s).2 := by simp [finishWrite, hc]
    rw [this] at hok; rw [hok] at hc; simp at hc
  · have : (finishWrite H f s).1.file = (finishChunk H f s).1.file.take (finishChunk H f s).1.offset := by
      simp [finishWrite, hc]
    rw [this]; simp only [astep]; exact hf.file

/-- what a reader sees after ANY write history with failures: every accepted chunk, in order, first
    (`hsz`: through `.flush` / `.fin` bodies of any size can reach `done`, and the reader accepts only chunks of at most ChunkSize) -/
theorem reader_sees_accepted_chunks {H : Bytes → Bytes} {magic : Nat} (P : Params H magic) {s : St} {a : Abs}
    (h : Refines H magic s a) (hsz : ∀ b ∈ a.done, b.length ≤ chunkSize) :
    ∃ more, (readAll H magic zeroHash s.file).1 = a.done ++ more := by
  have hsplit : s.file = encodeAll H magic zeroHash a.done ++ s.file.drop s.offset := by
    conv => lhs; rw [← List.take_append_drop s.offset s.file]
    rw [h.file]
  rw [hsplit, readAll_encodeAll_append P a.done hsz]
  exact ⟨_, rfl⟩

/-! ### non-vacuity: a write history with a failed WriteAt in the middle -/

def demoW : List WOp := [.start 7, .flush [1, 2] false, .item [3] true, .flush [] true, .flush [4] false, .fin false]

/-- chunk [1,2] is written; [3] stays pending (FinishItem writes nothing below half a chunk), the flush after it hits the
    injected failure; [4] is discarded by the sticky error -/
example : arun {} demoW = { done := [[1, 2]], pending := [], err := true } := by decide +kernel

example : Refines toyH 7 (wrun toyH (resetToStart (startWrite 7 (new []))) demoW) (arun {} demoW) :=
  writer_refines toy_params.hlen 7 demoW _ _ (refines_after_reset toyH (startWrite 7 (new [])))
    (by intro m hm; simp [demoW] at hm; exact hm)

example : ∃ more, (readAll toyH 7 zeroHash (wrun toyH (resetToStart (startWrite 7 (new []))) demoW).file).1 = [[1, 2]] ++ more :=
  reader_sees_accepted_chunks toy_params
    (writer_refines toy_params.hlen 7 demoW _ _ (refines_after_reset toyH (startWrite 7 (new [])))
      (by intro m hm; simp [demoW] at hm; exact hm))
    (by decide)

end SH.C21

-- from here on `St` is the cache state `MapCache.St`; the storage object is written `Chunked.St`
namespace SH.C21
open SH.Chunked hiding St
open SH.MapCache

/-- the writer is between two elements: `done` groups are on disk (a well-formed file prefix), `cur` is pending -/
structure WInv (H : Bytes → Bytes) (done : List Cache) (cur : Cache) (st : Chunked.St) : Prop where
  magic : st.magic = magicMappings
  noErr : st.writeErr = false
  off : st.offset = (encodeAll H magicMappings zeroHash (done.map encGroup)).length
  file : st.file.take st.offset = encodeAll H magicMappings zeroHash (done.map encGroup)
  hash : st.hash = chain H magicMappings zeroHash (done.map encGroup)
  pending : st.pending = encGroup cur
  doneOK : ∀ g ∈ done, g ≠ [] ∧ (encGroup g).length ≤ chunkSize

/-- `WInv` is the refinement relation at the abstract writer that has accepted the groups `done`, holds the group `cur` and
    has seen no error; the proofs go through `Refines` -/
theorem winv_iff {H : Bytes → Bytes} {done : List Cache} {cur : Cache} {st : Chunked.St} :
    WInv H done cur st ↔
      Refines H magicMappings st ⟨done.map encGroup, encGroup cur, false⟩ ∧
        ∀ g ∈ done, g ≠ [] ∧ (encGroup g).length ≤ chunkSize :=
  ⟨fun h => ⟨⟨h.magic, h.pending, h.noErr, h.off, h.file, h.hash⟩, h.doneOK⟩,
    fun ⟨r, d⟩ => ⟨r.magic_eq, r.err, r.off, r.file, r.hash, r.pending, d⟩⟩

theorem aflush_ok {a : Abs} (hp : a.pending.isEmpty = false) (he : a.err = false) :
    aflush false a = { a with done := a.done ++ [a.pending], pending := [] } := by
  simp [aflush, hp, he]

theorem finishWrite_ok (H : Bytes → Bytes) {s : Chunked.St} (he : s.writeErr = false) : (finishWrite H false s).2 = .none := by
  unfold finishWrite finishChunk
  by_cases hp : s.pending.isEmpty = true <;> simp [hp, he]

/-- Save's FinishItem calls as writer operations -/
def itemOps (its : Cache) : List WOp := its.map fun it => .item (encItem it) false

theorem writeItems_eq_wrun (H : Bytes → Bytes) (st : Chunked.St) (its : Cache) :
    writeItems H st its = wrun H st (itemOps its) := by
  induction its generalizing st with
  | nil => rfl
  | cons it its ih => exact ih _

/-- the list-level writer between two elements of Save: groups `done` accepted (each non-empty, at most a chunk), group `cur`
    pending below half a chunk, no error; together they are `items` -/
def Grouped (items : Cache) (a : Abs) : Prop :=
  ∃ (done : List Cache) (cur : Cache), a = ⟨done.map encGroup, encGroup cur, false⟩ ∧
    (∀ g ∈ done, g ≠ [] ∧ (encGroup g).length ≤ chunkSize) ∧ (encGroup cur).length < halfChunk ∧ done.flatten ++ cur = items

theorem grouped_item {items : Cache} {a : Abs} (h : Grouped items a) (it : Bytes × Entry)
    (hit : (encItem it).length ≤ halfChunk) : Grouped (items ++ [it]) (astep a (.item (encItem it) false)) := by
  obtain ⟨done, cur, rfl, hd, hb, rfl⟩ := h
  have eg : encGroup (cur ++ [it]) = encGroup cur ++ encItem it := by simp [encGroup]
  simp only [astep, ← eg]
  by_cases c1 : (encGroup (cur ++ [it])).length < halfChunk
  · -- still below half a chunk: the element joins the pending group
    rw [if_pos c1]
    exact ⟨done, cur ++ [it], rfl, hd, c1, by simp⟩
  · -- the group is written: it is not empty and not larger than a chunk
    have hlen : (encGroup (cur ++ [it])).length ≤ chunkSize := by
      rw [eg, List.length_append, chunkSize_val]; rw [halfChunk_val] at hb hit; omega
    rw [if_neg c1, if_neg (Nat.not_lt.mpr hlen), aflush_ok (encGroup_ne_nil (by simp)) rfl]
    exact ⟨done ++ [cur ++ [it]], [], by simp [encGroup], List.forall_mem_append.mpr ⟨hd, by simpa using hlen⟩,
      by simp [encGroup, halfChunk_val], by simp⟩

theorem grouped_items (more : Cache) {items : Cache} {a : Abs} (h : Grouped items a)
    (hit : ∀ it ∈ more, (encItem it).length ≤ halfChunk) : Grouped (items ++ more) (arun a (itemOps more)) := by
  induction more generalizing items a with
  | nil => simpa [itemOps, arun] using h
  | cons it more ih =>
    have := ih (grouped_item h it (hit it (by simp))) (fun x hx => hit x (List.mem_cons_of_mem _ hx))
    simpa [itemOps, arun] using this

theorem grouped_fin {items : Cache} {a : Abs} (h : Grouped items a) :
    a.err = false ∧ ∃ gs : List Cache, gs.flatten = items ∧ (astep a (.fin false)).done = gs.map encGroup ∧
      ∀ g ∈ gs, g ≠ [] ∧ (encGroup g).length ≤ chunkSize := by
  obtain ⟨done, cur, rfl, hd, hb, rfl⟩ := h
  refine ⟨rfl, ?_⟩
  simp only [astep]
  by_cases hc : cur = []
  · subst hc
    exact ⟨done, by simp, by simp [aflush, encGroup], hd⟩
  · have hsz : (encGroup cur).length ≤ chunkSize := by rw [chunkSize_val]; rw [halfChunk_val] at hb; omega
    rw [aflush_ok (encGroup_ne_nil hc) rfl]
    exact ⟨done ++ [cur], by simp, by simp, List.forall_mem_append.mpr ⟨hd, by simpa using ⟨hc, hsz⟩⟩⟩

/-- C21 (Save): what `Save` leaves in the file is a well-formed chunk file whose chunk bodies are the encodings of the
    elements of `order`, in that order, split into non-empty groups each at most the chunk limit (the split is
    where FinishItem saw half a chunk filled). -/
theorem save_writes_encoding {H : Bytes → Bytes} (hH : ∀ x, (H x).length = 16) (s : St) (order : Cache)
    (hd : dirty s = true) (hwf : ∀ it ∈ order, WFItem it) (hit : ∀ it ∈ order, (encItem it).length ≤ halfChunk) :
    ∃ gs : List Cache, gs.flatten = order ∧ SavedAs H (save H s order).1.store.file gs := by
  -- Save is reset, start, one FinishItem per element, FinishWriteChunk: a run of the writer (reset and start set different
  -- fields, so they commute)
  have r0 : Refines H magicMappings (startWrite magicMappings (resetToStart s.store)) {} :=
    refines_after_reset H (startWrite magicMappings s.store)
  have r1 := writer_refines hH magicMappings (itemOps order) _ _ r0 (by simp [itemOps])
  rw [← writeItems_eq_wrun] at r1
  have g0 : Grouped [] {} := ⟨[], [], rfl, by simp, by simp [encGroup, halfChunk_val], rfl⟩
  obtain ⟨he, gs, hg1, hg2, hg3⟩ := grouped_fin (grouped_items order g0 hit)
  rw [List.nil_append] at hg1
  have hfile := fin_ok_whole_file hH false r1 (finishWrite_ok H (r1.err.trans he))
  rw [hg2] at hfile
  refine ⟨gs, hg1, hH, ?_, fun g hg => (hg3 g hg).1, ?_, fun g hg => (hg3 g hg).2⟩
  · unfold save; simp only [hd, Bool.not_true, Bool.false_eq_true, if_false]; exact hfile
  · intro g hg it hi
    exact hwf it (hg1 ▸ List.mem_flatten.mpr ⟨g, hg, hi⟩)

/-- C21 (save, then restart): the headline — save a cache with exact accounting in ANY write order that enumerates
    the map, restart from the file: no load error, the same mapping, the same sums. -/
theorem save_then_reload_same {H : Bytes → Bytes} (hH : ∀ x, (H x).length = 16) (s : St) (order : Cache) (m : Int)
    (hex : Exact s) (hd : dirty s = true) (hperm : order.Perm s.cache)
    (hwf : ∀ it ∈ s.cache, WFItem it) (hit : ∀ it ∈ s.cache, (encItem it).length ≤ halfChunk) :
    (loadNew H (save H s order).1.store.file m).2 = none ∧
    (∀ k, find (loadNew H (save H s order).1.store.file m).1.cache k = find s.cache k) ∧
    (loadNew H (save H s order).1.store.file m).1.sumSize = s.sumSize ∧
    (loadNew H (save H s order).1.store.file m).1.sumTS = s.sumTS := by
  obtain ⟨gs, hg, hs⟩ := save_writes_encoding hH s order hd
    (fun it hi => hwf it (hperm.mem_iff.mp hi)) (fun it hi => hit it (hperm.mem_iff.mp hi))
  exact reload_same_contents s hex hs (by rw [hg]; exact hperm) m

/-- C21 (save, then restart from a truncated file): only entries that were in the cache at save time, whole. -/
theorem save_then_truncated_reload_subset {H : Bytes → Bytes} (hH : ∀ x, (H x).length = 16) (s : St) (order : Cache) (n : Nat) (m : Int)
    (hd : dirty s = true) (hperm : order.Perm s.cache)
    (hwf : ∀ it ∈ s.cache, WFItem it) (hit : ∀ it ∈ s.cache, (encItem it).length ≤ halfChunk) :
    ∀ p ∈ (loadNew H ((save H s order).1.store.file.take n) m).1.cache, p ∈ s.cache := by
  obtain ⟨gs, hg, hs⟩ := save_writes_encoding hH s order hd
    (fun it hi => hwf it (hperm.mem_iff.mp hi)) (fun it hi => hit it (hperm.mem_iff.mp hi))
  intro q hq
  have := mem_loadNew_damaged hs (List.length_take_le' n _) (hs.cut_not_passes n) hq
  rw [hg] at this
  exact hperm.mem_iff.mp this

/-- discharges `ReloadsGood` for a restart from the file just saved, cut at any offset -/
theorem restart_after_save_good {Q : Bytes → Int → Prop} {H : Bytes → Bytes} (hH : ∀ x, (H x).length = 16) (s : St)
    (order : Cache) (n : Nat) (m : Int) (hq : AllGood Q s) (hd : dirty s = true) (hperm : order.Perm s.cache)
    (hwf : ∀ it ∈ s.cache, WFItem it) (hit : ∀ it ∈ s.cache, (encItem it).length ≤ halfChunk) :
    AllGood Q (loadNew H ((save H s order).1.store.file.take n) m).1 :=
  fun p hp => hq p (save_then_truncated_reload_subset hH s order n m hd hperm hwf hit p hp)

/-- a concrete cache for the hypotheses of the save / restart theorems -/
def twoState : St := addValues .fixed (init 1000 0) 10 [([97], 1), ([98, 99], -7)] []

theorem twoState_cache : twoState.cache = [([97], { val := 1, ts := 10 }), ([98, 99], { val := -7, ts := 10 })] := by decide +kernel

theorem twoState_wf : ∀ it ∈ twoState.cache, WFItem it := by
  intro it hi
  rw [twoState_cache] at hi
  simp only [List.mem_cons, List.not_mem_nil, or_false] at hi
  rcases hi with rfl | rfl <;> exact ⟨by decide, by decide, by decide, by decide⟩

theorem twoState_small : ∀ it ∈ twoState.cache, (encItem it).length ≤ halfChunk := by
  intro it hi
  rw [twoState_cache] at hi
  simp only [List.mem_cons, List.not_mem_nil, or_false] at hi
  rcases hi with rfl | rfl <;> decide

/-- non-vacuity of `save_then_reload_same`: all hypotheses hold for a concrete dirty two-element cache and the toy hash -/
example : (∀ k, find (loadNew toyH (save toyH twoState twoState.cache).1.store.file 1000).1.cache k = find twoState.cache k) :=
  (save_then_reload_same toy_params.hlen twoState twoState.cache 1000
    (exact_addValues _ _ _ _ (exact_empty _ _ _)) (by decide)
    (List.Perm.refl _) twoState_wf twoState_small).2.1

/-- the saved file of that cache: one 24-byte body, 48 bytes in all -/
example : (save toyH twoState twoState.cache).1.store.file.length = 48 := by decide +kernel

end SH.C21
