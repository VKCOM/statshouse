/-
  SH.Lemmas.IngestAgg — how the row update functions of SH.Model.Ingest (MultiValue.ApplyValues / ApplyUnique /
  AddCounterHost) act on the aggregates of a row (count, sum, min, max, sum of squares, unique set, TDigest flag), stated as
  the relation `MergedRow` between the old and the new row (the row lemma of ApplyUnique is in Props/C12 with `uniqPairs`).
-/
import SH.Model.Ingest
import Mathlib.Algebra.Order.Field.Rat

namespace SH.Ingest

/-- one step of the running minimum kept in (ValueSet, ValueMin): `if !set || v < min { min = v }; set = true` -/
def minStep (s : Bool × Rat) (v : Rat) : Bool × Rat := (true, if !s.1 || decide (v < s.2) then v else s.2)
/-- one step of the running maximum kept in (ValueSet, ValueMax) -/
def maxStep (s : Bool × Rat) (v : Rat) : Bool × Rat := (true, if !s.1 || decide (s.2 < v) then v else s.2)

def wsq (vals : List (Rat × Rat)) : Rat := (vals.map (fun p => p.1 * p.1 * p.2)).sum

theorem minStep_true (x v : Rat) : minStep (true, x) v = (true, min x v) := by
  unfold minStep
  by_cases h : v < x
  · simp [h, min_eq_right h.le]
  · simp [h, min_eq_left (not_lt.1 h)]

theorem maxStep_true (x v : Rat) : maxStep (true, x) v = (true, max x v) := by
  unfold maxStep
  by_cases h : x < v
  · simp [h, max_eq_right h.le]
  · simp [h, max_eq_left (not_lt.1 h)]

theorem minStep_assoc (s : Bool × Rat) (v m : Rat) : minStep (minStep s v) m = minStep s (minStep (true, v) m).2 := by
  obtain ⟨b, x⟩ := s
  cases b
  · rfl
  · simp only [minStep_true, min_assoc]

theorem maxStep_assoc (s : Bool × Rat) (v m : Rat) : maxStep (maxStep s v) m = maxStep s (maxStep (true, v) m).2 := by
  obtain ⟨b, x⟩ := s
  cases b
  · rfl
  · simp only [maxStep_true, max_assoc]

/-- a running extremum kept in (set, value): folding a non-empty list = one step with the list's own extremum -/
theorem foldl_step_assoc (step : Bool × Rat → Rat → Bool × Rat) (h0 : ∀ v, step (false, 0) v = (true, v))
    (hassoc : ∀ s v m, step (step s v) m = step s (step (true, v) m).2) (vals : List Rat) (hne : vals ≠ []) (s : Bool × Rat) :
    vals.foldl step s = step s (vals.foldl step (false, 0)).2 := by
  induction vals generalizing s with
  | nil => exact absurd rfl hne
  | cons v r ih =>
    cases r with
    | nil => rw [List.foldl_cons, List.foldl_nil, List.foldl_cons, List.foldl_nil, h0]
    | cons w r' =>
      rw [List.foldl_cons, ih (List.cons_ne_nil _ _) (step s v), List.foldl_cons (l := w :: r'), ih (List.cons_ne_nil _ _) (step (false, 0) v), h0]
      exact hassoc s v _

theorem foldl_minStep (vals : List Rat) (hne : vals ≠ []) (s : Bool × Rat) :
    vals.foldl minStep s = minStep s (vals.foldl minStep (false, 0)).2 :=
  foldl_step_assoc minStep (fun _ => rfl) minStep_assoc vals hne s

theorem foldl_maxStep (vals : List Rat) (hne : vals ≠ []) (s : Bool × Rat) :
    vals.foldl maxStep s = maxStep s (vals.foldl maxStep (false, 0)).2 :=
  foldl_step_assoc maxStep (fun _ => rfl) maxStep_assoc vals hne s

theorem foldl_minStep_set (vals : List Rat) (s : Bool × Rat) : (vals.foldl minStep s).1 = (s.1 || !vals.isEmpty) := by
  induction vals generalizing s with
  | nil => simp
  | cons v r ih => rw [List.foldl_cons, ih]; simp [minStep]

theorem foldl_addOnly_fields (vals : List (Rat × Rat)) (a : MV) :
    let r := vals.foldl (fun a p => addOnly a p.1 p.2) a
    (r.set, r.min) = (vals.map (·.1)).foldl minStep (a.set, a.min) ∧
    (r.set, r.max) = (vals.map (·.1)).foldl maxStep (a.set, a.max) ∧
    r.sq = a.sq + wsq vals ∧ r.sum = a.sum + (vals.map (fun p => p.1 * p.2)).sum ∧
    r.uniq = a.uniq ∧ r.td = a.td ∧ r.cnt = a.cnt := by
  induction vals generalizing a with
  | nil => exact ⟨rfl, rfl, (add_zero _).symm, (add_zero _).symm, rfl, rfl, rfl⟩
  | cons p ps ih =>
    obtain ⟨h1, h2, h3, h4, h5, h6, h7⟩ := ih (addOnly a p.1 p.2)
    exact ⟨h1, h2, h3.trans (add_assoc _ _ _), h4.trans (add_assoc _ _ _), h5, h6, h7⟩

/-- the common core of MultiValue.ApplyValues and ApplyUnique: merge the scaled temporary into the row -/
def mergeVals (vals : List (Rat × Rat)) (count total : Rat) (mv : MV) : MV :=
  mvMerge mv (scale count total (tmpOf count vals))

theorem addCount_fields (c : Rat) (mv : MV) :
    (addCount c mv).set = mv.set ∧ (addCount c mv).min = mv.min ∧ (addCount c mv).max = mv.max ∧
    (addCount c mv).sq = mv.sq ∧ (addCount c mv).uniq = mv.uniq ∧ (addCount c mv).td = mv.td ∧ (addCount c mv).sum = mv.sum := by
  unfold addCount
  split
  · exact ⟨rfl, rfl, rfl, rfl, rfl, rfl, rfl⟩
  · split <;> exact ⟨rfl, rfl, rfl, rfl, rfl, rfl, rfl⟩

theorem addCount_nonneg (c : Rat) (mv : MV) (h : 0 ≤ mv.cnt) : 0 ≤ (addCount c mv).cnt := by
  unfold addCount
  split
  · exact h
  · split
    · exact le_of_not_ge ‹¬ c ≤ 0›
    · exact add_nonneg h (le_of_not_ge ‹¬ c ≤ 0›)

theorem addCount_cnt (c : Rat) (mv : MV) (hc : 0 ≤ c) (hnn : 0 ≤ mv.cnt) : (addCount c mv).cnt = mv.cnt + c := by
  unfold addCount
  split
  · rw [le_antisymm ‹c ≤ 0› hc, add_zero]
  · split
    · rw [le_antisymm ‹mv.cnt ≤ 0› hnn, zero_add]
    · rfl

theorem tmpOf_fields (count : Rat) (vals : List (Rat × Rat)) :
    ((tmpOf count vals).set, (tmpOf count vals).min) = (vals.map (·.1)).foldl minStep (false, 0) ∧
    ((tmpOf count vals).set, (tmpOf count vals).max) = (vals.map (·.1)).foldl maxStep (false, 0) ∧
    (tmpOf count vals).sq = wsq vals ∧ (tmpOf count vals).sum = (vals.map (fun p => p.1 * p.2)).sum ∧
    (tmpOf count vals).cnt = count := by
  obtain ⟨h1, h2, h3, h4, _, _, h7⟩ := foldl_addOnly_fields vals { cnt := count }
  exact ⟨h1, h2, h3.trans (zero_add _), h4.trans (zero_add _), h7⟩

theorem scale_fields (count total : Rat) (t : MV) (ht : total ≠ 0) :
    (scale count total t).set = t.set ∧ (scale count total t).min = t.min ∧ (scale count total t).max = t.max ∧
    (scale count total t).cnt = t.cnt ∧ (scale count total t).sq = t.sq * count / total ∧
    (scale count total t).sum = t.sum * count / total := by
  unfold scale
  by_cases h : count = total
  · subst h
    rw [if_neg (not_not.2 rfl)]
    exact ⟨rfl, rfl, rfl, rfl, (mul_div_cancel_right₀ _ ht).symm, (mul_div_cancel_right₀ _ ht).symm⟩
  · rw [if_pos h]
    exact ⟨rfl, rfl, rfl, rfl, rfl, rfl⟩

theorem mvMerge_set (s o : MV) (ho : o.set = true) :
    ((mvMerge s o).set, (mvMerge s o).min) = minStep (s.set, s.min) o.min ∧
    ((mvMerge s o).set, (mvMerge s o).max) = maxStep (s.set, s.max) o.max ∧
    (mvMerge s o).sq = s.sq + o.sq ∧ (mvMerge s o).sum = s.sum + o.sum ∧ (mvMerge s o).uniq = s.uniq ∧
    (mvMerge s o).td = s.td ∧ (mvMerge s o).cnt = (addCount o.cnt s).cnt := by
  obtain ⟨a1, a2, a3, a4, a5, a6, a7⟩ := addCount_fields o.cnt s
  unfold mvMerge minStep maxStep
  rw [ho]
  dsimp only [Bool.not_true, Bool.false_eq_true, if_false]
  rw [a1, a2, a3, a4, a5, a6, a7]
  exact ⟨rfl, rfl, rfl, rfl, rfl, rfl, rfl⟩

theorem mvMerge_nonneg {s o : MV} (h : 0 ≤ s.cnt) : 0 ≤ (mvMerge s o).cnt := by
  unfold mvMerge
  simp only
  split <;> exact addCount_nonneg _ _ h

theorem mergeVals_nil (count total : Rat) (mv : MV) : mergeVals [] count total mv = addCount count mv := by
  have h : (scale count total (tmpOf count [])).set = false ∧ (scale count total (tmpOf count [])).cnt = count := by
    unfold scale
    split <;> exact ⟨rfl, rfl⟩
  unfold mergeVals mvMerge
  rw [h.1, h.2]
  rfl

/-- `r` is `mv` after one row update that adds `d.2` to the sum and `d.1` to the count (through `addCount`: `+` on counts ≥ 0),
    folds the values `vs` into min/max, adds `q` to the sum of squares and inserts the hashes `us`; the TDigest flag is never cleared and, without percentiles, kept -/
structure MergedRow (d : Rat × Rat) (vs : List Rat) (q : Rat) (us : List Int) (pct : Bool) (mv r : MV) : Prop where
  min : (r.set, r.min) = vs.foldl minStep (mv.set, mv.min)
  max : (r.set, r.max) = vs.foldl maxStep (mv.set, mv.max)
  sq : r.sq = mv.sq + q
  sum : r.sum = mv.sum + d.2
  cnt : r.cnt = (addCount d.1 mv).cnt
  uniq : r.uniq = us.foldl insertUniq mv.uniq
  td_keep : pct = false → r.td = mv.td
  td_mono : mv.td = true → r.td = true

theorem addCount_row (c : Rat) (pct : Bool) (mv : MV) : MergedRow (c, 0) [] 0 [] pct mv (addCount c mv) := by
  obtain ⟨a1, a2, a3, a4, a5, a6, a7⟩ := addCount_fields c mv
  refine ⟨?_, ?_, a4.trans (add_zero _).symm, a7.trans (add_zero _).symm, rfl, a5, fun _ => a6, fun h => a6.trans h⟩
  · rw [a1, a2]
    rfl
  · rw [a1, a3]
    rfl

/-- `mergeVals` leaves the TDigest flag alone, so `pct` is free here: `(… false …).td_keep rfl` reads "flag unchanged" -/
theorem mergeVals_row (vals : List (Rat × Rat)) (c t : Rat) (pct : Bool) (mv : MV) (ht : t ≠ 0) :
    MergedRow (c, (vals.map (fun p => p.1 * p.2)).sum * c / t) (vals.map (·.1)) (wsq vals * c / t) [] pct mv (mergeVals vals c t mv) := by
  by_cases hne : vals = []
  · rw [hne, mergeVals_nil c t mv]
    simpa [wsq] using addCount_row c pct mv
  have hmap : vals.map (·.1) ≠ [] := fun h => hne (List.map_eq_nil_iff.1 h)
  obtain ⟨t1, t2, t3, t4, t5⟩ := tmpOf_fields c vals
  obtain ⟨s1, s2, s3, s4, s5, s6⟩ := scale_fields c t (tmpOf c vals) ht
  have hset : (scale c t (tmpOf c vals)).set = true := by
    rw [s1, show (tmpOf c vals).set = _ from congrArg Prod.fst t1, foldl_minStep_set,
      List.isEmpty_eq_false_iff.2 hmap]
    rfl
  obtain ⟨m1, m2, m3, m4, m5, m6, m7⟩ := mvMerge_set mv (scale c t (tmpOf c vals)) hset
  refine ⟨?_, ?_, ?_, ?_, ?_, m5, fun _ => m6, fun h => m6.trans h⟩
  · rw [foldl_minStep _ hmap, ← t1]
    exact m1.trans (by rw [s2])
  · rw [foldl_maxStep _ hmap, ← t2]
    exact m2.trans (by rw [s3])
  · exact m3.trans (by rw [s5, t3])
  · exact m4.trans (by rw [s6, t4])
  · exact m7.trans (by rw [s4, t5])

theorem MergedRow.setTd {d vs q us mv r} (h : MergedRow d vs q us true mv r) : MergedRow d vs q us true mv { r with td := true } :=
  ⟨h.min, h.max, h.sq, h.sum, h.cnt, h.uniq, Bool.noConfusion, fun _ => rfl⟩

theorem mvApplyValues_eq {pct : Bool} {vals : List (Rat × Rat)} {c t : Rat} {mv : MV} (ht : ¬ t ≤ 0) :
    mvApplyValues pct vals c t mv =
      if (pct && (mergeVals vals c t mv).min != (mergeVals vals c t mv).max) = true
      then { mergeVals vals c t mv with td := true } else mergeVals vals c t mv := by
  unfold mvApplyValues mergeVals; simp only [if_neg ht]

theorem mvApplyValuesLegacy_eq {pct : Bool} {vals : List (Rat × Rat)} {c t : Rat} {mv : MV} (ht : ¬ t ≤ 0) :
    mvApplyValuesLegacy pct vals c t mv =
      if pct = true then { mergeVals vals c t mv with td := true } else mergeVals vals c t mv := by
  unfold mvApplyValuesLegacy mergeVals; simp only [if_neg ht]

theorem valuesFn_nonpos {lg pct : Bool} {vals : List (Rat × Rat)} {c t : Rat} {mv : MV} (ht : t ≤ 0) :
    valuesFn lg pct vals c t mv = mv := by
  unfold valuesFn mvApplyValues mvApplyValuesLegacy
  rw [if_pos ht, if_pos ht, ite_self]

/-- MultiValue.ApplyValues in either mode: the row of `mergeVals`, the TDigest flag possibly raised -/
theorem valuesFn_row (lg pct : Bool) (vals : List (Rat × Rat)) (c t : Rat) (mv : MV) (ht : ¬ t ≤ 0) :
    MergedRow (c, (vals.map (fun p => p.1 * p.2)).sum * c / t) (vals.map (·.1)) (wsq vals * c / t) [] pct mv
      (valuesFn lg pct vals c t mv) := by
  have hm := mergeVals_row vals c t pct mv (fun h => ht (le_of_eq h))
  unfold valuesFn
  cases lg
  · rw [if_neg Bool.false_ne_true, mvApplyValues_eq ht]
    split
    · rename_i htd
      cases pct
      · exact absurd htd Bool.false_ne_true
      · exact hm.setTd
    · exact hm
  · rw [if_pos rfl, mvApplyValuesLegacy_eq ht]
    split
    · rename_i hp
      subst hp
      exact hm.setTd
    · exact hm

theorem valuesFn_nonneg {lg pct : Bool} {vals : List (Rat × Rat)} {count total : Rat} {mv : MV} (h : 0 ≤ mv.cnt) :
    0 ≤ (valuesFn lg pct vals count total mv).cnt := by
  by_cases ht : total ≤ 0
  · rw [valuesFn_nonpos ht]
    exact h
  · rw [(valuesFn_row lg pct vals count total mv ht).cnt]
    exact addCount_nonneg _ _ h

theorem mvApplyUnique_nonneg (hashes : List Int) (count : Rat) (mv : MV) (h : 0 ≤ mv.cnt) :
    0 ≤ (mvApplyUnique hashes count mv).cnt := by
  unfold mvApplyUnique
  split
  · exact h
  · exact mvMerge_nonneg h

/-- `insertUniq u v` is `List.insert v u` -/
theorem mem_insertUniq (u : List Int) (v x : Int) : x ∈ insertUniq u v ↔ x = v ∨ x ∈ u := List.mem_insert_iff (l := u)

theorem nodup_insertUniq (u : List Int) (v : Int) (h : u.Nodup) : (insertUniq u v).Nodup := by
  unfold insertUniq
  by_cases hc : v ∈ u
  · simp only [List.contains_iff_mem, hc, if_true]; exact h
  · simp only [List.contains_iff_mem, hc, if_false]; exact List.nodup_cons.2 ⟨hc, h⟩

theorem mem_foldl_insertUniq (l u : List Int) (x : Int) : x ∈ l.foldl insertUniq u ↔ x ∈ u ∨ x ∈ l := by
  induction l generalizing u with
  | nil => simp
  | cons v r ih =>
    rw [List.foldl_cons, ih, mem_insertUniq, List.mem_cons, or_comm (a := x = v), or_assoc]

theorem nodup_foldl_insertUniq (l u : List Int) (h : u.Nodup) : (l.foldl insertUniq u).Nodup := by
  induction l generalizing u with
  | nil => exact h
  | cons v r ih => rw [List.foldl_cons]; exact ih _ (nodup_insertUniq u v h)

end SH.Ingest
