/-
  SH.Lemmas.PCacheCheck — the hierarchical check (checkInvalidationMapLocked) against the per-second map: the relations
  `CovL` (every level dominates the per-second map; assumed by `checkLevels_sound` in SH.Props.C24) and `WitL` (every
  coarse entry is witnessed by a second of its bucket), both kept by updateTimeLocked / invalidateLocked; completeness
  (`checkLevels_exact`): a `false` answer is caused by a second INSIDE [from,to], because a coarse bucket that is consulted
  lies wholly inside the range; gc does not change an answer for ranges that start at or after its edge.
-/
import SH.Lemmas.PCacheBase

namespace SH.C24
open SH.PCache SH.Gen.C24

/-- every level's map dominates the per-second map `sm` on buckets that start at or after `g` -/
def CovL (lv : List Level) (sm : LMap) (off g : Int) : Prop :=
  ∀ p ∈ lv, ∀ s a, mget sm s = some a → g ≤ roundTime s p.1 off →
    ∃ b, mget p.2 (roundTime s p.1 off) = some b ∧ a ≤ b

/-- every coarse entry whose bucket starts at or after `g` is witnessed by a second of that bucket whose own
    entry in the per-second map `sm` is at least as late -/
def WitL (lv : List Level) (sm : LMap) (off g : Int) : Prop :=
  ∀ p ∈ lv, ∀ k b, mget p.2 k = some b → g ≤ k →
    ∃ s a, roundTime s p.1 off = k ∧ mget sm s = some a ∧ b ≤ a

/-- completeness of the recursion: a `false` answer names a second inside [f,t] (not merely inside the coarse
    cover) that is late enough in the per-second map -/
theorem checkLevels_exact (sm : LMap) (off g loadAt : Int) :
    ∀ (lv : List Level), (∀ p ∈ lv, 0 < p.1) → lv.getLast? = some (1, sm) → WitL lv sm off g →
    ∀ (f t : Int), g ≤ f → checkLevels lv off loadAt f t = false →
    ∃ s a, f ≤ s ∧ s ≤ t ∧ mget sm s = some a ∧ loadAt ≤ a + invalidateLingerNs := by
  intro lv
  induction lv with
  | nil => intro _ h; simp at h
  | cons p rest ih =>
    intro hpos hlast hwit f t hg hc
    cases rest with
    | nil =>
      simp at hlast; subst hlast
      simp only [checkLevels] at hc
      obtain ⟨k, hk, hs⟩ := (scanOK_eq_false _ _ _ _ _).mp hc
      obtain ⟨b, hb, hl⟩ := (staleKey_iff _ _ _).mp hs
      exact ⟨f + 1 * (k : Int), b, Int.le_add_of_nonneg_right (Int.mul_nonneg (by decide) (Int.natCast_nonneg k)),
        (lt_countLast_one f t k).mp hk, hb, hl⟩
    | cons q rest' =>
      have hp : 0 < p.1 := hpos p (by simp)
      have IH := ih (fun x hx => hpos x (List.mem_cons_of_mem _ hx))
        (by rw [List.getLast?_cons_cons] at hlast; exact hlast) (fun x hx => hwit x (List.mem_cons_of_mem _ hx))
      simp only [checkLevels, Bool.and_eq_false_iff] at hc
      rcases hc with (hc | hc) | hc
      · obtain ⟨s, a, h1, h2, h3, h4⟩ := IH f _ hg hc
        rw [fromNext_eq] at h2
        exact ⟨s, a, h1, le_trans h2 (min_le_left _ _), h3, h4⟩
      · obtain ⟨s, a, h1, h2, h3, h4⟩ := IH _ t (by rw [toPrev_eq]; exact le_trans hg (le_max_left _ _)) hc
        rw [toPrev_eq] at h1
        exact ⟨s, a, le_trans (le_max_left _ _) h1, h2, h3, h4⟩
      · obtain ⟨k, hk, hs⟩ := (scanOK_eq_false _ _ _ _ _).mp hc
        obtain ⟨b, hb, hl⟩ := (staleKey_iff _ _ _).mp hs
        obtain ⟨s, a, hr, hsm, hba⟩ := hwit p (by simp) _ b hb
          (le_of_lt (lt_of_le_of_lt hg (lt_mid_key f p.1 off hp k)))
        -- the witness' bucket is a scanned middle key, so it lies from the end of `f`'s bucket to the start of `t`'s
        obtain ⟨h1, h2⟩ := (mid_key_iff s f t p.1 off hp).mp ⟨k, hk, hr⟩
        exact ⟨s, a, le_of_lt (lt_of_lt_of_le (lt_roundTime_add f p.1 off hp) h1),
          le_of_lt (lt_of_lt_of_le h2 (roundTime_le t p.1 off hp)), hsm, le_trans hl (Int.add_le_add_right hba _)⟩

theorem update_cov (lv : List Level) (sm : LMap) (off g tAt sec : Int) (hcov : CovL lv sm off g) :
    CovL (updateLevels lv off tAt sec) (bump sm sec tAt) off g := by
  intro p' hp' s a hs hg
  unfold updateLevels at hp'
  obtain ⟨p, hp, rfl⟩ := List.mem_map.mp hp'
  rcases bump_src _ _ _ _ _ hs with hs | ⟨rfl, rfl⟩
  · exact bump_mono p.2 (roundTime sec p.1 off) tAt _ a (hcov p hp s a hs hg)
  · exact bump_self _ _ _

theorem update_wit (lv : List Level) (sm : LMap) (off g tAt sec : Int) (hwit : WitL lv sm off g) :
    WitL (updateLevels lv off tAt sec) (bump sm sec tAt) off g := by
  intro p' hp' k b hb hg
  unfold updateLevels at hp'
  obtain ⟨p, hp, rfl⟩ := List.mem_map.mp hp'
  rcases bump_src _ _ _ _ _ hb with hb | ⟨hk, hb⟩
  · obtain ⟨s0, a0, hr, hs0⟩ := hwit p hp k b hb hg
    obtain ⟨a1, ha1⟩ := bump_mono sm sec tAt s0 b ⟨a0, hs0⟩
    exact ⟨s0, a1, hr, ha1⟩
  · obtain ⟨a, ha, hle⟩ := bump_self sm sec tAt
    exact ⟨sec, a, hk.symm, ha, by rw [hb]; exact hle⟩

theorem gc_cov (lv : List Level) (sm : LMap) (off g gf : Int) (ds : List (List Int)) (d : List Int)
    (hcov : CovL lv sm off g) (hgf : gf ≤ g) : CovL (gcLevels lv gf ds) (gcMap sm gf d) off g := by
  intro p' hp' sec a hs hg
  obtain ⟨p, hp, d', rfl⟩ := gcLevels_mem _ _ _ _ hp'
  rw [mget_gcMap_ge _ _ _ _ (le_trans hgf hg)]
  exact hcov p hp sec a (mget_gcMap_some _ _ _ _ _ hs) hg

theorem gc_wit (lv : List Level) (sm : LMap) (off g gf : Int) (ds : List (List Int)) (d : List Int)
    (hpos : ∀ p ∈ lv, 0 < p.1) (hwit : WitL lv sm off g) (hgf : gf ≤ g) :
    WitL (gcLevels lv gf ds) (gcMap sm gf d) off g := by
  intro p' hp' k b hb hg
  obtain ⟨p, hp, d', rfl⟩ := gcLevels_mem _ _ _ _ hp'
  simp only at hb ⊢
  obtain ⟨s, a, hr, hs⟩ := hwit p hp k b (mget_gcMap_some _ _ _ _ _ hb) hg
  have hks : k ≤ s := hr ▸ roundTime_le s p.1 off (hpos p hp)
  exact ⟨s, a, hr, by rw [mget_gcMap_ge _ _ _ _ (le_trans hgf (le_trans hg hks))]; exact hs⟩

theorem scanOK_gc (m : LMap) (gf : Int) (d : List Int) (loadAt base step : Int) (n : Nat) (hb : gf ≤ base)
    (hs : 0 ≤ step) : scanOK (gcMap m gf d) loadAt base step n = scanOK m loadAt base step n := by
  unfold scanOK
  apply List.all_congr rfl
  intro k
  have : 0 ≤ step * (k : Int) := Int.mul_nonneg hs (Int.natCast_nonneg k)
  unfold staleKey
  rw [mget_gcMap_ge _ _ _ _ (by omega)]

theorem checkLevels_gc (off loadAt gf : Int) : ∀ (lv : List Level) (ds : List (List Int)), (∀ p ∈ lv, 0 < p.1) →
    ∀ (f t : Int), gf ≤ f →
    checkLevels (gcLevels lv gf ds) off loadAt f t = checkLevels lv off loadAt f t := by
  intro lv
  induction lv with
  | nil => intro ds _ f t _; rfl
  | cons p rest ih =>
    intro ds hpos f t hf
    have hp : 0 < p.1 := hpos p (by simp)
    have hpos' : ∀ x ∈ rest, 0 < x.1 := fun x hx => hpos x (List.mem_cons_of_mem _ hx)
    cases rest with
    | nil =>
      rw [gcLevels_cons]
      exact scanOK_gc _ _ _ _ _ _ _ hf (le_of_lt hp)
    | cons q rest' =>
      have hfl := lt_roundTime_add f p.1 off hp
      have i1 := ih ds.tail hpos' f (fromNext (roundTime f p.1 off) p.1 t) hf
      have i2 := ih ds.tail hpos' (toPrev (roundTime t p.1 off) f) t (by rw [toPrev_eq]; exact le_trans hf (le_max_left _ _))
      rw [gcLevels_cons] at i1 i2 ⊢
      rw [gcLevels_cons]
      simp only [checkLevels]
      rw [i1, i2, scanOK_gc _ _ _ _ _ _ _ (by omega) (le_of_lt hp)]

end SH.C24
