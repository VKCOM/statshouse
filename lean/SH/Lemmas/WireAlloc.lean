/-
  SH.Lemmas.WireAlloc — allocation tracking for the TL and Protobuf decoders, in the style of `MPR` for MessagePack.
  TL readers return a rest: their copies are `MPR` values (`pureA` / `bindA`), tied to the model readers by the relation
  `MPR.Tracks`; the Protobuf loops return none: pairs.

  The instrumented readers below return, next to the result of the model reader, the largest size the Go code passes
  to `make` (TL: element count after CheckLengthSanity, byte count in StringReadBytes) or grows a slice by in one
  step (Protobuf: copied payload bytes, elements of one packed run, single appended elements). One lemma per reader
  (`X_tracks` for TL, `X_spec` for Protobuf) shows that the result component IS the model reader that the correspondence
  ties to the real code, and that every such size is at most the number of bytes of input; for TL also the `Reads`
  contract of the model reader, stated for `tlBatch` (`tlBatch_reads`), `(X_tracks …).reads` for the others.
-/
import SH.Lemmas.WireFuel
import SH.Lemmas.WirePBFuel
namespace SH.Wire

def pureA {α : Type} (x : R α) : MPR α := ⟨0, x⟩

def bindA {α β : Type} (x : MPR α) (k : α × Bytes → MPR β) : MPR β :=
  match x.res with
  | .error e => ⟨x.alloc, .error e⟩
  | .ok p => ⟨max x.alloc (k p).alloc, (k p).res⟩

theorem pureA_res {α : Type} (x : R α) : (pureA x).res = x := rfl

/-- An instrumented reader's value `x` on input `b` beside the model reader's result `g`: the result component is `g`, and
    `x` is `Good` (no request above `b.length`, `Reads k`). One walk of an instrumented reader proves all three. -/
def MPR.Tracks {α : Type} (x : MPR α) (g : R α) (b : Bytes) (k : Nat := 0) : Prop := x.res = g ∧ x.Good True b k

theorem MPR.Tracks.pure {α : Type} {k : Nat} {g : R α} {b : Bytes} (h : Reads k b g) : MPR.Tracks ⟨0, g⟩ g b k :=
  ⟨rfl, .pure h⟩

theorem MPR.Tracks.done {α : Type} {y : α} {r : Bytes} : MPR.Tracks ⟨0, .ok (y, r)⟩ (.ok (y, r)) r := ⟨rfl, .done⟩

theorem MPR.Tracks.request {α : Type} {a k : Nat} {g : R α} {b : Bytes} (ha : a ≤ b.length) (h : Reads k b g) :
    MPR.Tracks ⟨a, g⟩ g b k :=
  ⟨rfl, fun _ => ha, h⟩

theorem MPR.Tracks.good {α : Type} {k : Nat} {x : MPR α} {g : R α} {b : Bytes} (h : x.Tracks g b k) : x.Good True b k :=
  h.2

theorem MPR.Tracks.zero {α : Type} {k : Nat} {x : MPR α} {g : R α} {b : Bytes} (h : x.Tracks g b k) : x.Tracks g b :=
  ⟨h.1, h.2.1, h.2.2.zero⟩

/-- the model reader's own contract, read off the walk of its instrumented copy -/
theorem MPR.Tracks.reads {α : Type} {k : Nat} {x : MPR α} {g : R α} {b : Bytes} (h : x.Tracks g b k) : Reads k b g :=
  h.1 ▸ h.2.2

/-- Case analysis on an instrumented reader and the model reader beside it, together (motive from the goal, as
    `Reads.elim`); both cases keep the fact, now about a literal on which `bindA` computes (`bind_error`, `bind_ok`). -/
@[elab_as_elim]
theorem MPR.Tracks.elim {α : Type} {b : Bytes} {k : Nat} {motive : MPR α → R α → Prop} {x : MPR α} {g : R α}
    (h : x.Tracks g b k)
    (error : ∀ a e, MPR.Tracks (α := α) ⟨a, .error e⟩ (.error e) b k → motive ⟨a, .error e⟩ (.error e))
    (ok : ∀ a y r, MPR.Tracks ⟨a, .ok (y, r)⟩ (.ok (y, r)) b k → motive ⟨a, .ok (y, r)⟩ (.ok (y, r))) : motive x g := by
  obtain ⟨a, res⟩ := x
  obtain ⟨h1, h2⟩ := h
  cases h1
  obtain e | ⟨y, r⟩ := res
  · exact error a e ⟨rfl, h2⟩
  · exact ok a y r ⟨rfl, h2⟩

theorem MPR.Tracks.error {α : Type} {e : Err} {b : Bytes} {k : Nat} (he : e ≠ .fuel) :
    MPR.Tracks (α := α) ⟨0, .error e⟩ (.error e) b k :=
  .pure (.error he)

theorem MPR.Tracks.bind_error {α β : Type} {a k : Nat} {e : Err} {K : α × Bytes → MPR β} {b : Bytes}
    (hx : MPR.Tracks (α := α) ⟨a, .error e⟩ (.error e) b k) : (bindA ⟨a, .error e⟩ K).Tracks (.error e) b k :=
  ⟨rfl, hx.2⟩

theorem MPR.Tracks.bind_ok {α β : Type} {a k : Nat} {y : α} {r : Bytes} {K : α × Bytes → MPR β} {g : R β} {b : Bytes}
    (hx : MPR.Tracks ⟨a, .ok (y, r)⟩ (.ok (y, r)) b k) (h : (K (y, r)).Tracks g r) :
    (bindA ⟨a, .ok (y, r)⟩ K).Tracks g b k :=
  ⟨h.1, h.2.step hx.2.2.le hx.2.1⟩

theorem MPR.Tracks.bind {α β : Type} {b : Bytes} {k : Nat} {x : MPR α} {g : R α} {K : α × Bytes → MPR β}
    {f : α × Bytes → Except Err (β × Bytes)} (hx : x.Tracks g b k) (hk : ∀ y r, (K (y, r)).Tracks (f (y, r)) r) :
    (bindA x K).Tracks (g >>= f : Except Err (β × Bytes)) b k :=
  hx.elim (fun _ _ h => h.bind_error) fun _ y r h => h.bind_ok (hk y r)

/-- StringReadBytes: `make([]byte, l)` happens once `len(r) >= l` is known (before the padding check) -/
def tlStringA (b : Bytes) : MPR Bytes :=
  match b with
  | [] => ⟨0, tlString b⟩
  | b0 :: r =>
    if b0 ≤ 253 then ⟨if r.length < b0 then 0 else b0, tlString b⟩
    else if b0 = 254 then
      ⟨if r.length < 3 ∨ rdLE (r.take 3) ≤ 253 ∨ (r.drop 3).length < rdLE (r.take 3) then 0 else rdLE (r.take 3), tlString b⟩
    else
      ⟨if r.length < 7 ∨ rdLE (r.take 7) ≤ 2 ^ 24 - 1 ∨ (r.drop 7).length < rdLE (r.take 7) then 0 else rdLE (r.take 7), tlString b⟩

theorem tlStringA_tracks (b : Bytes) : (tlStringA b).Tracks (tlString b) b 1 := by
  -- every amount is `if guard then 0 else n`, and without the guard there are `n` bytes left
  have amount : ∀ (g : Prop) [Decidable g] (n : Nat), (¬ g → n ≤ b.length) →
      MPR.Tracks ⟨if g then 0 else n, tlString b⟩ (tlString b) b 1 :=
    fun g _ n h => by
      refine .request ?_ (tlString_reads b)
      split
      · exact Nat.zero_le _
      · exact h ‹_›
  unfold tlStringA
  split
  · exact .pure (tlString_reads _)
  · rename_i b0 r
    split
    · refine amount _ _ fun h => ?_
      rw [List.length_cons]
      omega
    · split
      · refine amount _ _ fun h => ?_
        rw [List.length_drop] at h
        rw [List.length_cons]
        omega
      · refine amount _ _ fun h => ?_
        rw [List.length_drop] at h
        rw [List.length_cons]
        omega

def readNA {α : Type} (f : Bytes → MPR α) : Nat → Bytes → MPR (List α)
  | 0, b => ⟨0, .ok ([], b)⟩
  | n + 1, b => bindA (f b) fun p => bindA (readNA f n p.2) fun q => ⟨0, .ok (p.1 :: q.1, q.2)⟩

/-- Builtin*ReadTL1 of a vector: `make([]T, l)` after CheckLengthSanity(w, l, 4) -/
def tlVecA {α : Type} (f : Bytes → MPR α) (b : Bytes) : MPR (List α) :=
  match tlNat b with
  | .error e => ⟨0, .error e⟩
  | .ok (l, r) => if r.length < l * 4 then ⟨0, .error .eof⟩ else bindA ⟨l, .ok ((), r)⟩ fun p => readNA f l p.2

theorem readNA_tracks {α : Type} {k : Nat} {f : Bytes → MPR α} {g : Bytes → R α} (hf : ∀ b, (f b).Tracks (g b) b k) :
    ∀ n b, (readNA f n b).Tracks (readN g n b) b
  | 0, _ => .done
  | n + 1, b => by
    simp only [readNA, readN]
    refine (hf b).zero.elim (fun _ _ h => h.bind_error) fun _ y r h => h.bind_ok ?_
    dsimp only
    exact (readNA_tracks hf n r).elim (fun _ _ h => h.bind_error) fun _ ys r' h => h.bind_ok .done

theorem tlVecA_tracks {α : Type} {k : Nat} {f : Bytes → MPR α} {g : Bytes → R α} (hf : ∀ b, (f b).Tracks (g b) b k)
    (b : Bytes) : (tlVecA f b).Tracks (tlVec g b) b 4 := by
  unfold tlVecA tlVec
  refine (tlNat_reads b).elim (fun _ he => .error he) fun l r hr => ?_
  dsimp only
  split
  · exact .error nofun
  · refine .bind_ok (y := ()) (.request ?_ (.ok hr)) (readNA_tracks hf l r)
    omega

def tlTagA (b : Bytes) : MPR (Bytes × Bytes) :=
  bindA (tlStringA b) fun p => bindA (tlStringA p.2) fun q => ⟨0, .ok ((p.1, q.1), q.2)⟩

theorem tlTagA_tracks (b : Bytes) : (tlTagA b).Tracks (tlTag b) b 1 := by
  unfold tlTagA tlTag
  refine (tlStringA_tracks b).elim (fun _ _ h => h.bind_error) fun _ k r h => h.bind_ok ?_
  dsimp only
  exact (tlStringA_tracks r).zero.elim (fun _ _ h => h.bind_error) fun _ v r' h => h.bind_ok .done

def tlOptA {α : Type} (c : Bool) (f : Bytes → MPR α) (d : α) (b : Bytes) : MPR α :=
  if c then f b else ⟨0, .ok (d, b)⟩

theorem tlOptA_tracks {α : Type} {k : Nat} (c : Bool) {f : Bytes → MPR α} {g : Bytes → R α} (d : α)
    (hf : ∀ b, (f b).Tracks (g b) b k) (b : Bytes) : (tlOptA c f d b).Tracks (tlOpt c g d b) b := by
  unfold tlOptA tlOpt
  split
  · exact (hf b).zero
  · exact .done

/-- StatshouseMetricBytes.ReadTL1 with its allocations -/
def tlMetricA (b : Bytes) : MPR Metric :=
  bindA (pureA (tlNat b)) fun p1 =>
  bindA (tlStringA p1.2) fun p2 =>
  bindA (tlVecA tlTagA p2.2) fun p3 =>
  bindA (tlOptA (hasBit p1.1 0) (fun b => pureA (tlLong b)) 0 p3.2) fun p4 =>
  bindA (tlOptA (hasBit p1.1 4) (fun b => pureA (tlNat b)) 0 p4.2) fun p5 =>
  bindA (tlOptA (hasBit p1.1 1) (tlVecA (fun b => pureA (tlLong b))) [] p5.2) fun p6 =>
  bindA (tlOptA (hasBit p1.1 2) (tlVecA (fun b => pureA (tlLong b))) [] p6.2) fun p7 =>
  bindA (tlOptA (hasBit p1.1 3) (tlVecA (fun b => pureA (tlPair b))) [] p7.2) fun p8 =>
  ⟨0, .ok ({ mask := p1.1, name := p2.1, tags := p3.1, counter := p4.1, ts := p5.1, value := p6.1, unique := p7.1,
             hist := p8.1 }, p8.2)⟩

theorem tlMetricA_tracks (b : Bytes) : (tlMetricA b).Tracks (tlMetric b) b 4 := by
  have nat : ∀ b, (pureA (tlNat b)).Tracks (tlNat b) b 4 := fun b => .pure (tlNat_reads b)
  have long : ∀ b, (pureA (tlLong b)).Tracks (tlLong b) b 8 := fun b => .pure (tlLong_reads b)
  unfold tlMetricA tlMetric
  refine .bind (nat b) fun mask b => ?_
  refine .bind (tlStringA_tracks b).zero fun _ b => ?_
  refine .bind (tlVecA_tracks tlTagA_tracks b).zero fun _ b => ?_
  refine .bind (tlOptA_tracks _ _ long b) fun _ b => ?_
  refine .bind (tlOptA_tracks _ _ nat b) fun _ b => ?_
  refine .bind (tlOptA_tracks _ _ (tlVecA_tracks long) b) fun _ b => ?_
  refine .bind (tlOptA_tracks _ _ (tlVecA_tracks long) b) fun _ b => ?_
  refine .bind (tlOptA_tracks _ _ (tlVecA_tracks fun b => .pure (tlPair_reads b)) b) fun _ b => ?_
  exact .done

/-- StatshouseAddMetricsBatchBytes.ReadTL1Boxed with its allocations -/
def tlBatchA (b : Bytes) : MPR (List Metric) :=
  if b.length < 4 then ⟨0, .error .eof⟩
  else if rdLE (b.take 4) ≠ tlBatchTag then ⟨0, .error .tag⟩
  else bindA (pureA (tlNat (b.drop 4))) fun p => tlVecA tlMetricA p.2

theorem tlBatchA_tracks (b : Bytes) : (tlBatchA b).Tracks (tlBatch b) b 4 := by
  unfold tlBatchA tlBatch
  split
  · exact .error nofun
  · split
    · exact .error nofun
    · have hr : Reads 4 b (tlNat (b.drop 4)) := by
        refine (tlNat_reads _).mono ?_
        rw [List.length_drop]
        omega
      exact hr.elim (fun _ he => (MPR.Tracks.error he).bind_error) fun _ r hl =>
        (MPR.Tracks.pure (.ok hl)).bind_ok (tlVecA_tracks tlMetricA_tracks r).zero

theorem tlBatchA_res (b : Bytes) : (tlBatchA b).res = tlBatch b := (tlBatchA_tracks b).1

theorem tlBatchA_good (b : Bytes) : MPR.Good True (tlBatchA b) b := (tlBatchA_tracks b).zero.good

/-- what `parse` needs of the TL decoder to terminate (Props/C13 `parse_safe`), read off the walk of its instrumented copy -/
theorem tlBatch_reads (b : Bytes) : Reads 4 b (tlBatch b) := (tlBatchA_tracks b).reads

/-- An upper bound on how much one field of a metric makes a slice grow in one step. Fields 1, 2, 7: one slot appended
    (tags, histogram) and at most the payload copied by protoReadString (`append((*result)[:0], data...)`: the name, the
    key and value inside protobufUnmarshalFieldEntry), hence `max 1 payload`; packed fields 5, 6: the elements of one run
    (protoReadPackedFixedFloat64 / protoReadPackedVarInt64); everything else: a single appended element. -/
def pbFieldAlloc (num typ : Nat) (r : Bytes) : Nat :=
  if typ = 2 ∧ (num = 1 ∨ num = 2 ∨ num = 7) then (match pbBytes r with | .ok (d, _) => max 1 d.length | .error _ => 0)
  else if typ = 2 ∧ num = 5 then (match pbBytes r with | .ok (d, _) => d.length / 8 | .error _ => 0)
  else if typ = 2 ∧ num = 6 then (match pbBytes r with | .ok (d, _) => (pbPackedVar (d.length + 1) d).1.length | .error _ => 0)
  else 1

theorem pbPackedVar_length : ∀ (f : Nat) (b : Bytes), (pbPackedVar f b).1.length ≤ b.length
  | 0, b => Nat.zero_le _
  | f + 1, b => by
    rw [pbPackedVar]
    split
    · exact Nat.zero_le _
    · refine (pbVarint_reads b).elim (fun _ _ => Nat.zero_le _) fun x r h0 => ?_
      have := pbPackedVar_length f r
      exact Nat.le_trans (Nat.succ_le_succ this) h0

theorem pbFieldAlloc_le (num typ : Nat) (r : Bytes) : pbFieldAlloc num typ r ≤ r.length + 1 := by
  unfold pbFieldAlloc
  split
  · split
    · rename_i d r' h
      have := pbBytes_payload _ _ _ h
      simp
      omega
    · omega
  · split
    · split
      · rename_i d r' h
        have := pbBytes_payload _ _ _ h
        have : d.length / 8 ≤ d.length := Nat.div_le_self _ _
        omega
      · omega
    · split
      · split
        · rename_i d r' h
          have := pbBytes_payload _ _ _ h
          have := pbPackedVar_length (d.length + 1) d
          omega
        · omega
      · omega

/-- protobufUnmarshalStatshouseMetric with the growth steps of its slices -/
def pbMetricA (v : Variant) : Nat → Metric → Bytes → Nat × Except Err Metric
  | 0, _, _ => (0, .error .fuel)
  | f + 1, m, b =>
    if b = [] then (0, .ok m)
    else
      match pbTag b with
      | .error e => (0, .error e)
      | .ok ((num, typ), r) =>
        match pbMetricField v m num typ r with
        | .error e => (pbFieldAlloc num typ r, .error e)
        | .ok (m', r') => (max (pbFieldAlloc num typ r) (pbMetricA v f m' r').1, (pbMetricA v f m' r').2)

theorem pbMetricA_spec (v : Variant) : ∀ (f : Nat) (m : Metric) (b : Bytes),
    (pbMetricA v f m b).2 = pbMetric v f m b ∧ (pbMetricA v f m b).1 ≤ b.length
  | 0, _, _ => ⟨rfl, Nat.zero_le _⟩
  | f + 1, m, b => by
    rw [pbMetricA, pbMetric]
    split
    · exact ⟨rfl, Nat.zero_le _⟩
    · refine (pbTag_reads b).elim (fun _ _ => ⟨rfl, Nat.zero_le _⟩) fun ⟨num, typ⟩ r hr => ?_
      have ha := pbFieldAlloc_le num typ r
      dsimp only
      refine (pbMetricField_reads v m num typ r).elim (fun _ _ => ⟨rfl, by dsimp only; omega⟩) fun m' r' hr' => ?_
      obtain ⟨ih1, ih2⟩ := pbMetricA_spec v f m' r'
      exact ⟨ih1, by dsimp only; omega⟩

theorem pbMetricA_res (v : Variant) : ∀ (f : Nat) (m : Metric) (b : Bytes), (pbMetricA v f m b).2 = pbMetric v f m b :=
  fun f m b => (pbMetricA_spec v f m b).1

/-- protobufUnmarshalStatshouseAddMetricBatch with the growth steps: one metric appended per record, plus whatever
    decoding that metric grows -/
def pbBatchA (v : Variant) : Nat → List Metric → Bytes → Nat × Except (Err × Bytes) (List Metric)
  | 0, _, b => (0, .error (.fuel, b))
  | f + 1, ms, b =>
    if b = [] then (0, .ok ms)
    else
      match pbTag b with
      | .error e => (0, .error (e, b))
      | .ok ((num, typ), r) =>
        if num = 13337 ∧ typ = 2 then
          match pbBytes r with
          | .error e => (0, .error (e, r))
          | .ok (d, r') =>
            match pbMetric v (d.length + 1) {} d with
            | .error e => (max 1 (pbMetricA v (d.length + 1) {} d).1, .error (e, r'))
            | .ok m => (max (max 1 (pbMetricA v (d.length + 1) {} d).1) (pbBatchA v f (ms ++ [m]) r').1,
                        (pbBatchA v f (ms ++ [m]) r').2)
        else
          match pbSkip num typ r with
          | .error e => (0, .error (e, r))
          | .ok r' => pbBatchA v f ms r'

theorem pbBatchA_spec (v : Variant) : ∀ (f : Nat) (ms : List Metric) (b : Bytes),
    (pbBatchA v f ms b).2 = pbBatch v f ms b ∧ (pbBatchA v f ms b).1 ≤ b.length
  | 0, _, _ => ⟨rfl, Nat.zero_le _⟩
  | f + 1, ms, b => by
    rw [pbBatchA, pbBatch]
    split
    · exact ⟨rfl, Nat.zero_le _⟩
    · refine (pbTag_reads b).elim (fun _ _ => ⟨rfl, Nat.zero_le _⟩) fun ⟨num, typ⟩ r hr => ?_
      dsimp only
      split
      · cases hb : pbBytes r with
        | error e => exact ⟨rfl, Nat.zero_le _⟩
        | ok q =>
          obtain ⟨d, r'⟩ := q
          have hp := pbBytes_payload _ _ _ hb
          have hm := (pbMetricA_spec v (d.length + 1) {} d).2
          dsimp only
          cases pbMetric v (d.length + 1) {} d with
          | error e => exact ⟨rfl, by dsimp only; omega⟩
          | ok m =>
            obtain ⟨ih1, ih2⟩ := pbBatchA_spec v f (ms ++ [m]) r'
            exact ⟨ih1, by dsimp only; omega⟩
      · refine (pbSkip_skips num typ r).elim (fun _ _ => ⟨rfl, Nat.zero_le _⟩) fun r' hr' => ?_
        obtain ⟨ih1, ih2⟩ := pbBatchA_spec v f ms r'
        exact ⟨ih1, by dsimp only; omega⟩

theorem pbBatchA_res (v : Variant) : ∀ (f : Nat) (ms : List Metric) (b : Bytes), (pbBatchA v f ms b).2 = pbBatch v f ms b :=
  fun f ms b => (pbBatchA_spec v f ms b).1

theorem pbBatchA_le (v : Variant) : ∀ (f : Nat) (ms : List Metric) (b : Bytes), (pbBatchA v f ms b).1 ≤ b.length :=
  fun f ms b => (pbBatchA_spec v f ms b).2

end SH.Wire
