/-
  SH.Lemmas.Engine — for property C17: list and chain facts, closed forms of the model's functions, the case analysis of `step`
  as an elimination principle (`step_cases`), the statement of the invariant `Inv` (preserved together with the contiguity
  `Ch`: SH.Lemmas.EngineChain) and the relation `Ghost` between a state and a later one.  Defines for the property
  statements: `Chain`, `fresh`, `noTorn`.
-/
import SH.Model.Engine
namespace SH.Engine

theorem evIds_append (a b : List Rec) : evIds (a ++ b) = evIds a ++ evIds b := by simp [evIds]
theorem upTo_append (c : Nat) (a b : List Rec) : upTo c (a ++ b) = upTo c a ++ upTo c b := by simp [upTo]
theorem above_append (c : Nat) (a b : List Rec) : above c (a ++ b) = above c a ++ above c b := by simp [above]
theorem total_append (a b : List Rec) : total (a ++ b) = total a + total b := by simp [total]
theorem total_nil : total [] = 0 := rfl
theorem total_cons (r : Rec) (l : List Rec) : total (r :: l) = r.ln + total l := by simp [total]
theorem flat_append (a b : List QItem) : flat (a ++ b) = flat a ++ flat b := by simp [flat]
theorem flat_nil : flat [] = [] := rfl
theorem flat_cons (a : QItem) (b : List QItem) : flat (a :: b) = itemRecs a ++ flat b := by simp [flat]
theorem evsUpTo_append (a b : List Rec) (c : Nat) : evsUpTo (a ++ b) c = evsUpTo a c ++ evsUpTo b c := by
  simp [evsUpTo, upTo_append, evIds_append]

theorem upTo_eq_nil (c : Nat) (l : List Rec) (h : ∀ r ∈ l, c < r.eo) : upTo c l = [] := by
  simp only [upTo, List.filter_eq_nil_iff]
  intro r hr; have := h r hr; simp; omega

theorem upTo_eq_self (c : Nat) (l : List Rec) (h : ∀ r ∈ l, r.eo ≤ c) : upTo c l = l := by
  simp only [upTo, List.filter_eq_self]
  intro r hr; have := h r hr; simp; omega

theorem upTo_upTo (c : Nat) (l : List Rec) : upTo c (upTo c l) = upTo c l := by
  simp [upTo, List.filter_filter]

theorem above_eq_self (c : Nat) (l : List Rec) (h : ∀ r ∈ l, c < r.eo) : above c l = l := by
  simp only [above, List.filter_eq_self]
  intro r hr; have := h r hr; simp; omega

theorem evsUpTo_append_above (a : List Rec) {c : Nat} {l : List Rec} (h : ∀ r ∈ l, c < r.eo) :
    evsUpTo (a ++ l) c = evsUpTo a c := by
  simp [evsUpTo, upTo_append, upTo_eq_nil c l h]

theorem evsUpTo_eq_evIds (l : List Rec) (off : Nat) (h : ∀ r ∈ l, r.isEv = true → r.eo ≤ off) :
    evsUpTo l off = evIds l := by
  simp only [evsUpTo, evIds, upTo, List.filter_filter]
  congr 1
  apply List.filter_congr
  intro r hr
  by_cases he : r.isEv = true
  · have := h r hr he; simp [he, this]
  · simp [he]

theorem mem_evIds {l : List Rec} {id : Nat} : id ∈ evIds l ↔ ∃ r ∈ l, r.isEv = true ∧ r.id = id := by
  simp [evIds, and_assoc]

theorem mem_upTo {l : List Rec} {c : Nat} {r : Rec} : r ∈ upTo c l ↔ r ∈ l ∧ r.eo ≤ c := by simp [upTo]
theorem mem_above {l : List Rec} {c : Nat} {r : Rec} : r ∈ above c l ↔ r ∈ l ∧ c < r.eo := by simp [above]

theorem evIds_upTo_upTo (l : List Rec) (c : Nat) : evIds (upTo c l) = evsUpTo l c := rfl

theorem plen_pos (l : Nat) : 0 < plen l :=
  Nat.mul_pos (Nat.div_pos (Nat.le_trans (by decide) (Nat.add_le_add_right (Nat.le_max_right l 12) 3)) (by decide)) (by decide)

/-- the records of `l` lie back to back from offset `p`, each of positive length -/
def Chain : Nat → List Rec → Prop
  | _, [] => True
  | p, r :: t => 0 < r.ln ∧ r.eo = p + r.ln ∧ Chain r.eo t

theorem chain_append : ∀ (a b : List Rec) (p : Nat), Chain p (a ++ b) ↔ Chain p a ∧ Chain (p + total a) b := by
  intro a
  induction a with
  | nil => intro b p; simp [Chain, total]
  | cons r t ih =>
    intro b p
    simp only [List.cons_append, Chain, total_cons, ih]
    constructor
    · rintro ⟨h1, h2, h3, h4⟩
      refine ⟨⟨h1, h2, h3⟩, ?_⟩
      rw [h2] at h4; rwa [Nat.add_assoc] at h4
    · rintro ⟨⟨h1, h2, h3⟩, h4⟩
      refine ⟨h1, h2, h3, ?_⟩
      rw [h2, Nat.add_assoc]; exact h4

theorem chain_bounds : ∀ (l : List Rec) (p : Nat), Chain p l → ∀ r ∈ l, p < r.eo ∧ r.eo ≤ p + total l := by
  intro l
  induction l with
  | nil => intro p _ r hr; cases hr
  | cons a t ih =>
    intro p h r hr
    obtain ⟨h1, h2, h3⟩ := h
    simp only [total_cons]
    rcases List.mem_cons.1 hr with rfl | hr
    · omega
    · have := ih _ h3 r hr; omega

theorem mkRecs_chain : ∀ (l : List (Bool × Nat × Nat)) (p : Nat), (∀ x ∈ l, 0 < x.2.2) → Chain p (mkRecs p l) := by
  intro l
  induction l with
  | nil => intro p _; trivial
  | cons a t ih =>
    intro p h
    obtain ⟨e, id, ln⟩ := a
    exact ⟨h (e, id, ln) (List.mem_cons_self ..), rfl, ih _ (fun x hx => h x (List.mem_cons_of_mem _ hx))⟩

/-- ids a queued item inserts when it is flushed -/
def itemIds : QItem → List Nat
  | .body rs => evIds rs
  | .skip _ => []
def itemsIds (aq : List QItem) : List Nat := aq.flatMap itemIds

theorem itemsIds_eq (aq : List QItem) (h : ∀ r, QItem.skip r ∈ aq → r.isEv = false) : itemsIds aq = evIds (flat aq) := by
  induction aq with
  | nil => rfl
  | cons a t ih =>
    have iht := ih (fun r hr => h r (List.mem_cons_of_mem _ hr))
    cases a with
    | body rs => simp [itemsIds, flat, itemIds, itemRecs, evIds_append] at iht ⊢; exact iht
    | skip r =>
      have := h r (List.mem_cons_self ..)
      simp [itemsIds, flat, itemIds, itemRecs] at iht ⊢
      simp [evIds, this]; exact iht

theorem flushItem_eq (s : St) (a : QItem) : flushItem s a =
    { s with tx := ⟨s.tx.rows ++ itemIds a, s.dbo + total (itemRecs a)⟩, dbo := s.dbo + total (itemRecs a),
             done := s.done ++ itemRecs a } := by
  cases a <;> simp [flushItem, applyDirect, skipDirect, itemIds, itemRecs, total]

/-- closed form of `applyAllChanges` -/
theorem foldl_flush : ∀ (aq : List QItem) (s : St), aq.foldl flushItem s =
    { s with tx := ⟨s.tx.rows ++ itemsIds aq, if aq = [] then s.tx.off else s.dbo + total (flat aq)⟩,
             dbo := s.dbo + total (flat aq), done := s.done ++ flat aq } := by
  intro aq
  induction aq with
  | nil => intro s; simp [itemsIds, flat, total]
  | cons a t ih =>
    intro s
    rw [List.foldl_cons, ih, flushItem_eq]
    by_cases ht : t = []
    · subst ht; simp [itemsIds, flat, total]
    · simp [itemsIds, flat, total_append, ht, Nat.add_assoc]

theorem flushQ_eq (s : St) : flushQ s =
    { s with tx := ⟨s.tx.rows ++ itemsIds s.aq, if s.aq = [] then s.tx.off else s.dbo + total (flat s.aq)⟩,
             dbo := s.dbo + total (flat s.aq), done := s.done ++ flat s.aq, q := false, aq := [] } := by
  rw [flushQ, foldl_flush]

theorem flushQ_off {s : St} (h : s.tx.off = s.dbo) : (flushQ s).tx.off = (flushQ s).dbo := by
  rw [flushQ_eq]
  show (if s.aq = [] then s.tx.off else s.dbo + total (flat s.aq)) = s.dbo + total (flat s.aq)
  by_cases he : s.aq = []
  · simp [he, flat_nil, total_nil, h]
  · simp [he]

theorem flushQ_allRecs (s : St) : allRecs (flushQ s) = allRecs s := by
  rw [flushQ_eq]
  show s.done ++ flat s.aq ++ flat [] ++ s.rest = s.done ++ flat s.aq ++ s.rest
  rw [flat_nil, List.append_nil]

theorem skipDirect_eq (s : St) (r : Rec) (h : r.isEv = false) : skipDirect s r = applyDirect s [r] := by
  simp [skipDirect, applyDirect, evIds, total, h]

theorem queueCond_lt {s : St} (h : queueCond s = true) : s.ci < s.dbo := by
  simp only [queueCond, Bool.and_eq_true, decide_eq_true_eq] at h
  exact h.2

def newRecs (s : St) (id ln extra : Nat) : List Rec :=
  [⟨true, id, plen ln, s.dbo + plen ln⟩] ++ svcRec extra (s.dbo + plen ln + extra)

theorem newRecs_spec (s : St) (id ln extra : Nat) :
    Chain s.dbo (newRecs s id ln extra) ∧ total (newRecs s id ln extra) = plen ln + extra ∧
    total (upTo (s.dbo + plen ln) (newRecs s id ln extra)) = plen ln ∧
    (∀ r ∈ newRecs s id ln extra, r.isEv = true → r.eo ≤ s.dbo + plen ln) ∧ evIds (newRecs s id ln extra) = [id] := by
  have hp := plen_pos ln
  by_cases he : extra = 0
  · subst he
    simp [newRecs, svcRec, Chain, total, upTo, evIds]; omega
  · have : ¬ (s.dbo + plen ln + extra ≤ s.dbo + plen ln) := by omega
    simp [newRecs, svcRec, he, Chain, total, upTo, evIds, this]
    omega

theorem writeOK_done (s : St) (id ln extra : Nat) : (writeOK s id ln extra).done = s.done ++ newRecs s id ln extra :=
  List.append_assoc ..

theorem writeOK_rec_mem (s : St) (id ln extra : Nat) :
    (⟨true, id, plen ln, s.dbo + plen ln⟩ : Rec) ∈ (writeOK s id ln extra).done := by
  simp [writeOK]

theorem canWrite_iff {s : St} : canWrite s = true ↔ s.repl = false ∧ s.dbo = s.len ∧ s.q = false ∧ s.rest = [] := by
  simp [canWrite, and_assoc]

theorem crashOK_iff {s : St} {d : Nat} :
    crashOK s d = true ↔ s.dur ≤ d ∧ d ≤ s.len ∧ s.com.off + total (keptRest s d) = d := by
  simp [crashOK, and_assoc]

theorem deliverApply_eq {s : St} {n : Nat} (hb : badApply s n = false) (hr : readerOK s n = true) :
    (deliverApply s n).1 =
      if queueCond s then enqueue { s with rest := s.rest.drop n } (.body (s.rest.take n)) (total (s.rest.take n))
      else applyDirect { s with rest := s.rest.drop n } (s.rest.take n) := by
  unfold deliverApply
  simp only [hb, hr, Bool.false_eq_true, if_false, Bool.not_true]
  split <;> rfl

theorem deliverSkip_eq {s : St} {r : Rec} {t : List Rec} (hrest : s.rest = r :: t) (hb : badSkip s r.ln = false)
    (hr : readerOK s 1 = true) :
    (deliverSkip s r.ln).1 =
      if s.q then enqueue { s with rest := t } (.skip r) r.ln else skipDirect { s with rest := t } r := by
  unfold deliverSkip
  simp only [hb, hr, Bool.false_eq_true, if_false, Bool.not_true, hrest, List.headD_cons, List.drop_succ_cons, List.drop_zero]
  split <;> rfl

/-! ### case analysis of `step`

  `P (step s op).1` follows from `P` of every state a step can end in, each under the conditions of its branch; `comTx`, `flags`
  and `torn` are closure conditions `P t → P t'` instead: COMMIT, the control flags and the torn crash come on top of several
  end states (`torn` carries `op` for `step_ghost`, whose relation depends on it).  `wAck`: doWrite in either mode, and doNow.
  `iteInduction`/`fst_ite` walk down the conditionals of the model without `split` on the 22-field record (slow to check). -/

theorem fst_ite {P : St → Prop} {c : Prop} [Decidable c] {a b : St × String} (ha : c → P a.1) (hb : ¬ c → P b.1) :
    P (if c then a else b).1 :=
  iteInduction (motive := fun x : St × String => P x.1) ha hb

theorem of_not_bnot {b : Bool} (h : ¬ (!b) = true) : b = true := by
  cases b
  · exact absurd rfl h
  · rfl

theorem delayedCommit_iff {s : St} {k : Nat} : delayedCommit s k = true ↔ s.q = true ∧ s.dbo ≤ k := by
  simp [delayedCommit]

theorem parkedCommit_iff {s : St} {k : Nat} : parkedCommit s k = true ↔ s.ptx = true ∧ s.dbo ≤ k := by
  simp [parkedCommit]

theorem commitStep_cases {P : St → Prop} (s : St) (k : Nat)
    (stale : k < s.ci → P (announce s k))
    (delayed : ¬ k < s.ci → s.q = true → s.dbo ≤ k →
      P (flushQ { notify (announce s k) k with com := s.tx, lc := true }))
    (parked : ¬ k < s.ci → s.q = false → s.ptx = true → s.dbo ≤ k →
      P { notify (announce s k) k with com := s.tx, ptx := false })
    (plain : ¬ k < s.ci → (s.q = true → k < s.dbo) → P (notify (announce s k) k)) :
    P (commitStep s k) := by
  unfold commitStep
  refine iteInduction stale fun hci => iteInduction (fun hd => ?_) fun hd => ?_
  · exact delayed hci (delayedCommit_iff.1 hd).1 (delayedCommit_iff.1 hd).2
  · have hq : s.q = true → k < s.dbo := fun hq => Nat.lt_of_not_le fun hle => hd (delayedCommit_iff.2 ⟨hq, hle⟩)
    refine iteInduction (fun hp => ?_) fun _ => plain hci hq
    have hp' := parkedCommit_iff.1 hp
    exact parked hci (Bool.eq_false_iff.2 fun hq' => Nat.lt_irrefl _ (Nat.lt_of_lt_of_le (hq hq') hp'.2)) hp'.1 hp'.2

theorem badApply_false {s : St} {n : Nat} (h : ¬ badApply s n = true) : s.rest ≠ [] := by
  intro he
  apply h
  cases n <;> simp [badApply, he]

theorem badBuf_false {s : St} {m : Nat} (h : ¬ badBuf s m = true) : s.rest ≠ [] := by
  intro he
  apply h
  cases m <;> simp [badBuf, he, total]

theorem badSkip_false {s : St} {n : Nat} (h : ¬ badSkip s n = true) :
    ∃ r t, s.rest = r :: t ∧ r.isEv = false ∧ r.ln = n ∧ s.closed = false ∧ s.ptx = false := by
  cases hrest : s.rest with
  | nil => simp [badSkip, hrest] at h
  | cons r t =>
    simp [badSkip, hrest] at h
    exact ⟨r, t, rfl, h.1.1.1.1, h.1.1.1.2, h.1.2, h.2⟩

/-- dApply, dApplyBuf and dSkip end alike: the first `n` undelivered records are parked as one item or applied at once
    (`skipDirect` of a service record is `applyDirect` of it); left disjuncts: the test of Apply, right ones: that of Skip -/
theorem deliver_cases {P : St → Prop} (s : St) (same : P s)
    (enq : ∀ n it m, s.rest ≠ [] → itemRecs it = s.rest.take n →
      (∀ r, it = .skip r → r.isEv = false) → (queueCond s = true ∨ s.q = true) →
      P (enqueue { s with rest := s.rest.drop n } it m))
    (direct : ∀ n, s.rest ≠ [] → (queueCond s = false ∨ s.q = false) →
      P (applyDirect { s with rest := s.rest.drop n } (s.rest.take n))) :
    (∀ n, P (deliverApply s n).1) ∧ (∀ m, P (deliverBuf s m).1) ∧ (∀ n, P (deliverSkip s n).1) := by
  refine ⟨fun n => ?_, fun m => ?_, fun n => ?_⟩
  · unfold deliverApply
    refine fst_ite (fun _ => same) fun hb => fst_ite (fun _ => same) fun _ => fst_ite (fun hq => ?_) fun hq => ?_
    · exact enq n _ _ (badApply_false hb) rfl (fun _ e => nomatch e) (Or.inl hq)
    · exact direct n (badApply_false hb) (Or.inl (Bool.eq_false_iff.2 hq))
  · unfold deliverBuf
    refine fst_ite (fun _ => same) fun hb => fst_ite (fun _ => same) fun _ => fst_ite (fun hq => ?_) fun hq => ?_
    · exact enq _ _ _ (badBuf_false hb) rfl (fun _ e => nomatch e) (Or.inl hq)
    · exact direct _ (badBuf_false hb) (Or.inl (Bool.eq_false_iff.2 hq))
  · unfold deliverSkip
    refine fst_ite (fun _ => same) fun hb => fst_ite (fun _ => same) fun _ => ?_
    obtain ⟨r, t, hrest, hev, _⟩ := badSkip_false hb
    have hne : s.rest ≠ [] := fun he => nomatch he ▸ hrest
    refine fst_ite (fun hq => ?_) fun hq => ?_
    · refine enq 1 _ n hne (by rw [hrest]; rfl) (fun r' e => ?_) (Or.inr hq)
      cases e
      rw [hrest]; exact hev
    · have e : skipDirect { s with rest := s.rest.drop 1 } (s.rest.headD ⟨false, 0, 0, 0⟩) =
          applyDirect { s with rest := s.rest.drop 1 } (s.rest.take 1) := by
        rw [hrest]; exact skipDirect_eq _ r hev
      show P (skipDirect { s with rest := s.rest.drop 1 } (s.rest.headD ⟨false, 0, 0, 0⟩))
      rw [e]
      exact direct 1 hne (Or.inr (Bool.eq_false_iff.2 hq))

theorem step_cases {P : St → Prop} (s : St) (op : Op) (same : P s)
    (wAck : ∀ id ln extra b, s.wait = b → canWrite s = true → (b = true → s.dbo + plen ln ≤ s.ci) →
      P (ackNow (writeOK s id ln extra) id b))
    (wPark : ∀ id ln extra, s.wait = true → canWrite s = true → P (park (writeOK s id ln extra) id (s.dbo + plen ln) false))
    (rPark : ∀ id, s.wait = true → s.waitQ ≠ [] → P (park s id s.tx.off true))
    (rAck : ∀ id, P (ackNow s id false))
    (now : ∀ id ln extra, s.wait = false → canWrite s = true →
      P (commitStep (park (writeOK s id ln extra) id (s.dbo + plen ln) false) (s.dbo + plen ln + extra)))
    (commit : ∀ k, k ≤ s.len → P (commitStep s k))
    (comTx : ∀ t, P t → (t.tx.off ≤ t.ci ∨ t.dbo ≤ t.ci) → P { t with com := t.tx })
    (enq : ∀ n it m, s.rest ≠ [] → itemRecs it = s.rest.take n →
      (∀ r, it = .skip r → r.isEv = false) → (queueCond s = true ∨ s.q = true) →
      P (enqueue { s with rest := s.rest.drop n } it m))
    (direct : ∀ n, s.rest ≠ [] → (queueCond s = false ∨ s.q = false) →
      P (applyDirect { s with rest := s.rest.drop n } (s.rest.take n)))
    (append : ∀ l, s.repl = true → (∀ x ∈ l, 0 < x.2.2) → P (appendStep s l))
    (flags : ∀ t, P t → ∀ h p c, P { t with hold := h, ptx := p, closed := c })
    (crash : ∀ d, crashOK s d = true → P (crashStep s d))
    (torn : ∀ d, op = .crash d true → P (crashStep s d) → P (tornStep s d))
    (ready : s.q = true → P (flushQ s)) :
    P (step s op).1 := by
  cases op with
  | doOp id ln extra k =>
    show P (doOp s id ln extra k).1
    unfold doOp
    refine fst_ite (fun _ => same) fun _ => ?_
    cases k with
    | ok =>
      show P (doWrite s id ln extra).1
      unfold doWrite
      refine fst_ite (fun _ => same) fun hc => fst_ite (fun hw => fst_ite (fun hci => ?_) fun _ => ?_) fun hw => ?_
      · exact wAck id ln extra true hw (of_not_bnot hc) fun _ => hci
      · exact wPark id ln extra hw (of_not_bnot hc)
      · exact wAck id ln extra false (Bool.eq_false_iff.2 hw) (of_not_bnot hc) fun e => nomatch e
    | read =>
      show P (doRead s id).1
      unfold doRead
      refine fst_ite (fun h => ?_) fun _ => rAck id
      simp only [Bool.and_eq_true, Bool.not_eq_eq_eq_not, Bool.not_true, List.isEmpty_eq_false_iff] at h
      exact rPark id h.1 h.2
    | _ => exact same
  | doNow id ln extra =>
    show P (doNow s id ln extra).1
    unfold doNow
    refine fst_ite (fun _ => same) fun hb => fst_ite (fun _ => same) fun hc => ?_
    have hw : s.wait = false := by
      simp only [Bool.or_eq_true, not_or, Bool.not_eq_true] at hb
      exact hb.1.1.2
    refine fst_ite (fun _ => wAck id ln extra false hw (of_not_bnot hc) fun e => nomatch e) fun _ => ?_
    have h2 := now id ln extra hw (of_not_bnot hc)
    exact fst_ite (fun hle => comTx _ h2 (Or.inl hle)) fun _ => h2
  | commit k =>
    refine fst_ite (fun _ => same) fun h => ?_
    simp only [Bool.or_eq_true, decide_eq_true_eq, not_or, Nat.not_lt, Bool.not_eq_true] at h
    exact commit k h.2
  | tx =>
    show P (txStep s).1
    unfold txStep
    exact fst_ite (fun _ => same) fun _ => fst_ite (fun _ => same) fun _ =>
      fst_ite (fun hle => comTx s same (Or.inr hle)) fun _ => flags s same s.hold true s.closed
  | dApply n => exact (deliver_cases s same enq direct).1 n
  | dSkip n => exact (deliver_cases s same enq direct).2.2 n
  | dApplyBuf m => exact (deliver_cases s same enq direct).2.1 m
  | view => exact same
  | append l =>
    refine fst_ite (fun _ => same) fun h => ?_
    simp only [Bool.or_eq_true, Bool.not_eq_true', not_or, Bool.not_eq_false, List.all_eq_true, decide_eq_true_eq] at h
    exact append l h.1.2 h.2
  | hold b => exact flags s same b s.ptx s.closed
  | close =>
    show P (closeStep s).1
    unfold closeStep
    refine fst_ite (fun _ => same) fun _ => ?_
    have h1 : P (if s.repl then s else commitStep s s.len) := iteInduction (fun _ => same) fun _ => commit _ (Nat.le_refl _)
    exact fst_ite (fun hle => flags _ (comTx _ h1 (Or.inr hle)) _ _ true) fun _ => flags _ h1 _ _ true
  | crash d tr =>
    refine fst_ite (fun _ => same) fun hc => fst_ite (fun ht => ?_) fun _ => crash d (of_not_bnot hc)
    cases tr
    · exact absurd ht Bool.false_ne_true
    · exact torn d rfl (crash d (of_not_bnot hc))
  | ready =>
    show P (readyStep s)
    unfold readyStep
    refine iteInduction (fun h => ?_) fun _ => same
    simp only [Bool.and_eq_true, Bool.not_eq_eq_eq_not, Bool.not_true] at h
    exact ready h.2

def allR (done : List Rec) (aq : List QItem) (rest : List Rec) : List Rec := done ++ flat aq ++ rest
def rpos (dbo : Nat) (aq : List QItem) : Nat := dbo + total (flat aq)

/-- the invariant, over the components of the state it talks about (so that updates of other fields are `id`).
    `i3`, `i6b`: the events of `done` end at or before the offset row `tx.off`; service records behind the last event may
    reach up to `dbo`, hence `tx.off ≤ dbo` and not `=`.  `Inv` adds to `Inv0` that payloads are queued only while a commit
    is awaited; that half fails between the `notify` of a delayed commit and the `flushQ` resetting `q`, so the pieces of
    `commitStep` are proved for `Inv0`.  `rpl`, `ql`, `rl`, `ln` follow from `Ch` of the same state (`ChC.layout`), so the
    `*_inv` lemmas of enqueue, write, crash and append take `Ch` of the new state -/
structure InvC (com tx : DB) (dbo : Nat) (done rest : List Rec) (len dur ci : Nat) (waitQ : List Waiter)
    (ackedW : List Nat) (q : Bool) (aq : List QItem) : Prop where
  i1 : com.rows = evsUpTo done com.off
  i2 : tx.rows = evIds done
  i3 : ∀ r ∈ done, r.isEv = true → r.eo ≤ tx.off
  i6a : com.off ≤ tx.off
  i6b : tx.off ≤ dbo
  i7a : com.off ≤ dur
  i7b : ci ≤ dur
  dl : dur ≤ len
  rpl : rpos dbo aq ≤ len
  ql : ∀ r ∈ flat aq, dbo < r.eo ∧ r.eo ≤ rpos dbo aq
  qs : ∀ r, QItem.skip r ∈ aq → r.isEv = false
  rl : ∀ r ∈ rest, rpos dbo aq < r.eo
  ln : ∀ r ∈ allR done aq rest, r.eo ≤ len
  q0 : q = false → aq = []
  ack : ∀ id ∈ ackedW, ∃ r ∈ allR done aq rest, r.isEv = true ∧ r.id = id ∧ r.eo ≤ dur
  wq : ∀ w ∈ waitQ, w.rd = false → ∃ r ∈ done, r.isEv = true ∧ r.id = w.tag ∧ r.eo ≤ w.off

def Inv0 (s : St) : Prop := InvC s.com s.tx s.dbo s.done s.rest s.len s.dur s.ci s.waitQ s.ackedW s.q s.aq
def Inv (s : St) : Prop := Inv0 s ∧ (s.q = true → s.ci < s.dbo)

theorem allRecs_eq (s : St) : allRecs s = allR s.done s.aq s.rest := rfl
theorem rp_eq (s : St) : rp s = rpos s.dbo s.aq := rfl

theorem inv_init (w r : Bool) : Inv (init w r [] 0) := by
  refine ⟨?_, by simp [init]⟩
  constructor <;> simp [init, evsUpTo, upTo, evIds, rpos, flat, total, allR]

theorem mem_allR {done rest : List Rec} {aq : List QItem} {r : Rec} :
    r ∈ allR done aq rest ↔ r ∈ done ∨ r ∈ flat aq ∨ r ∈ rest := by
  simp [allR]

theorem evsUpTo_allRecs {s : St} (h0 : Inv0 s) (off : Nat) (ho : off ≤ s.dbo) :
    evsUpTo (allRecs s) off = evsUpTo s.done off := by
  rw [allRecs, evsUpTo_append_above _ (fun r hr => by have := h0.rl r hr; simp only [rpos] at this; omega),
    evsUpTo_append_above _ (fun r hr => by have := (h0.ql r hr).1; omega)]

theorem acked_mem_evsUpTo {s : St} (hi : Inv s) {d : Nat} (hd : s.dur ≤ d) : ∀ id ∈ s.ackedW, id ∈ evsUpTo (allRecs s) d :=
  fun id hid =>
    have ⟨r, hr, h1, h2, h3⟩ := hi.1.ack id hid
    mem_evIds.2 ⟨r, mem_upTo.2 ⟨hr, Nat.le_trans h3 hd⟩, h1, h2⟩

/-- a fresh engine on an empty database whose binlog already holds the records `l` (e.g. the LevStart record) -/
def fresh (wait repl : Bool) (l : List (Bool × Nat × Nat)) : St :=
  init wait repl (mkRecs 0 l) (total (mkRecs 0 l))

theorem run_append (s : St) (a b : List Op) : run s (a ++ b) = run (run s a) b := by
  induction a generalizing s with
  | nil => rfl
  | cons x t ih => simp [run, ih]

def isTorn : Op → Bool
  | .crash _ true => true
  | _ => false

/-- no crash of the history tore the last binlog write ("no partial record after the last complete event") -/
def noTorn (ops : List Op) : Bool := ops.all (fun op => !isTorn op)

/-- the fsynced offset is 0 or was announced by a Commit -/
def DurAnn (s : St) : Prop := s.dur = 0 ∨ s.dur ∈ s.ann

theorem announce_durAnn {s t : St} {k : Nat} (h : DurAnn s) (hd : t.dur = max s.dur k) (ha : t.ann = s.ann ++ [k]) :
    DurAnn t := by
  unfold DurAnn
  rw [hd, ha]
  by_cases hk : s.dur ≤ k
  · rw [Nat.max_eq_right hk]
    exact Or.inr (List.mem_append_right _ (List.mem_singleton.2 rfl))
  · rw [Nat.max_eq_left (Nat.le_of_not_le hk)]
    exact h.imp id (List.mem_append_left _)

/-- how `s` and a later state `t` agree on the fields hardly any operation writes: the role is fixed, acknowledged writes
    stay acknowledged, `dur`/`ann` change by `announce` only, and, unless a crash in between tore the binlog tail
    (`ok = false`), an engine that was up is up -/
def Ghost (ok : Bool) (s t : St) : Prop :=
  t.repl = s.repl ∧ (∀ id ∈ s.ackedW, id ∈ t.ackedW) ∧ (DurAnn s → DurAnn t) ∧
  (ok = true → s.down = false → t.down = false)

theorem Ghost.repl {ok : Bool} {s t : St} (h : Ghost ok s t) : t.repl = s.repl := h.1
theorem Ghost.acked {ok : Bool} {s t : St} (h : Ghost ok s t) : ∀ id ∈ s.ackedW, id ∈ t.ackedW := h.2.1
theorem Ghost.durAnn {ok : Bool} {s t : St} (h : Ghost ok s t) : DurAnn s → DurAnn t := h.2.2.1
theorem Ghost.down {ok : Bool} {s t : St} (h : Ghost ok s t) : ok = true → s.down = false → t.down = false := h.2.2.2

theorem ghost_trans {a b : Bool} {s t u : St} (h1 : Ghost a s t) (h2 : Ghost b t u) : Ghost (a && b) s u :=
  ⟨h2.repl.trans h1.repl, fun id hid => h2.acked id (h1.acked id hid), fun hd => h2.durAnn (h1.durAnn hd),
    fun hab hd => h2.down (Bool.and_eq_true_iff.1 hab).2 (h1.down (Bool.and_eq_true_iff.1 hab).1 hd)⟩

theorem commitStep_fields (s : St) (k : Nat) :
    (commitStep s k).repl = s.repl ∧ (commitStep s k).down = s.down ∧ (∀ id ∈ s.ackedW, id ∈ (commitStep s k).ackedW) ∧
    (commitStep s k).dur = max s.dur k ∧ (commitStep s k).ann = s.ann ++ [k] := by
  refine commitStep_cases (P := fun t => t.repl = s.repl ∧ t.down = s.down ∧ (∀ id ∈ s.ackedW, id ∈ t.ackedW) ∧
      t.dur = max s.dur k ∧ t.ann = s.ann ++ [k]) s k (fun _ => ?_) (fun _ _ _ => ?_) (fun _ _ _ _ => ?_) (fun _ _ => ?_)
  · unfold announce
    exact ⟨rfl, rfl, fun _ h => h, rfl, rfl⟩
  · rw [flushQ_eq]
    unfold notify announce
    exact ⟨rfl, rfl, fun _ h => List.mem_append_left _ h, rfl, rfl⟩
  · unfold notify announce
    exact ⟨rfl, rfl, fun _ h => List.mem_append_left _ h, rfl, rfl⟩
  · unfold notify announce
    exact ⟨rfl, rfl, fun _ h => List.mem_append_left _ h, rfl, rfl⟩

theorem ghost_commit {ok : Bool} {s t : St} (h : Ghost ok s t) (k : Nat) : Ghost ok s (commitStep t k) :=
  have ⟨g1, g2, g3, g4, g5⟩ := commitStep_fields t k
  ⟨g1.trans h.repl, fun id hid => g3 id (h.acked id hid), fun hd => announce_durAnn (h.durAnn hd) g4 g5,
    fun a b => g2.trans (h.down a b)⟩

theorem step_ghost (s : St) (op : Op) : Ghost (!isTorn op) s (step s op).1 := by
  have same : Ghost (!isTorn op) s s := ⟨rfl, fun _ h => h, fun h => h, fun _ h => h⟩
  have hack : ∀ {t : St} (i : Nat) (b : Bool), Ghost (!isTorn op) s t → Ghost (!isTorn op) s (ackNow t i b) := by
    intro t i b h
    unfold Ghost DurAnn ackNow
    refine ⟨h.repl, fun id hid => ?_, h.durAnn, h.down⟩
    cases b
    · exact h.acked id hid
    · exact List.mem_append_left _ (h.acked id hid)
  have hpark : ∀ id ln extra, Ghost (!isTorn op) s (park (writeOK s id ln extra) id (s.dbo + plen ln) false) := by
    intro id ln extra
    unfold Ghost DurAnn park writeOK
    exact same
  apply step_cases s op same
  case wAck =>
    intro id ln extra b _ _ _
    refine hack id b ?_
    unfold Ghost DurAnn writeOK
    exact same
  case wPark =>
    intro id ln extra _ _
    exact hpark id ln extra
  case rPark =>
    intros
    unfold Ghost DurAnn park
    exact same
  case rAck =>
    intro id
    exact hack id false same
  case now =>
    intro id ln extra _ _
    exact ghost_commit (hpark id ln extra) _
  case commit =>
    intro k _
    exact ghost_commit same k
  case comTx =>
    intro t ht _
    -- `Ghost` reads `repl`, `ackedW`, `dur`, `ann`, `down` of the later state only
    exact ht
  case enq =>
    intros
    unfold Ghost DurAnn enqueue
    exact same
  case direct =>
    intros
    unfold Ghost DurAnn applyDirect
    exact same
  case append =>
    intros
    unfold Ghost DurAnn appendStep
    exact same
  case flags =>
    intro t ht _ _ _
    exact ht
  case crash =>
    intros
    unfold Ghost DurAnn crashStep
    exact ⟨rfl, fun _ h => h, fun h => h, fun _ _ => rfl⟩
  case torn =>
    intro d e _
    subst e
    unfold Ghost DurAnn tornStep crashStep
    exact ⟨rfl, fun _ h => h, fun h => h, fun ht => nomatch ht⟩
  case ready =>
    intros
    rw [flushQ_eq]
    unfold Ghost DurAnn
    exact same

theorem run_ghost : ∀ (ops : List Op) (s : St), Ghost (noTorn ops) s (run s ops) := by
  intro ops
  induction ops with
  | nil => intro s; exact ⟨rfl, fun _ h => h, fun h => h, fun _ h => h⟩
  | cons op t ih => intro s; exact ghost_trans (step_ghost s op) (ih _)

end SH.Engine
