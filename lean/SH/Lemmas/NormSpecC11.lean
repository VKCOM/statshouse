/-
  SH.Lemmas.NormSpecC11 — validStringValue in the words of the property (well-formed UTF-8, length, no leading /
  trailing / doubled space, spaces are ASCII, every rune printable): `runesOf`, `RuneOK`, `NoDoubleSpace`, with which
  valid_iff in SH.Props.C11 is stated, and the two steps of its proof, validL_iff_goodR and goodR_iff.
-/
import SH.Lemmas.NormC11

namespace SH.Norm

/-- the runes of a byte string; none = malformed UTF-8 (DecodeRune answers (RuneError, ≤1) somewhere) -/
def decodeAll : Nat → List UInt8 → Option (List Nat)
  | 0, _ => none
  | _ + 1, [] => some []
  | f + 1, c :: rest =>
    if badRune (decodeRune (c :: rest)) then none
    else (decodeAll f ((c :: rest).drop (decodeRune (c :: rest)).2)).map ((decodeRune (c :: rest)).1 :: ·)

def runesOf (s : List UInt8) : Option (List Nat) := decodeAll (s.length + 1) s

/-- proof device: the validator's loop replayed on runes -/
def goodR (T : Tables) : List Nat → Bool → Bool
  | [], prev => !prev
  | r :: rest, prev => stepOk T r prev && goodR T rest (decide (r = 0x20))

theorem validL_iff_goodR (T : Tables) : ∀ (f : Nat) (s : List UInt8) (prev : Bool), s.length + 1 ≤ f →
    (validL T s prev = true ↔ ∃ rs, decodeAll f s = some rs ∧ goodR T rs prev = true) := by
  intro f
  induction f with
  | zero => intro s prev h; omega
  | succ f ih =>
    intro s prev hf
    cases s with
    | nil => simp [validL_nil, decodeAll, goodR]
    | cons c rest =>
      have hd := decode_drop c rest
      simp only [List.length_cons] at hf
      rw [validL_cons T, decodeAll]
      by_cases hb : badRune (decodeRune (c :: rest)) = true
      · simp [hb]
      · have ih' := ih ((c :: rest).drop (decodeRune (c :: rest)).2) (decide ((decodeRune (c :: rest)).1 = 0x20))
          (by omega)
        simp only [hb, Bool.not_false, Bool.true_and, Bool.and_eq_true, Bool.false_eq_true, ↓reduceIte,
          Option.map_eq_some_iff, ih']
        constructor
        · rintro ⟨hok, rs, h1, h2⟩
          exact ⟨_, ⟨rs, h1, rfl⟩, by rw [goodR, hok, h2]; rfl⟩
        · rintro ⟨_, ⟨rs, h1, rfl⟩, h2⟩
          rw [goodR, Bool.and_eq_true] at h2
          exact ⟨h2.1, rs, h1, h2.2⟩

/-- "printable, and the only space is the ASCII one" for one rune -/
def RuneOK (T : Tables) (r : Nat) : Prop := T.isPrint r = true ∧ (T.isSpace r = true → r = 0x20)

/-- no two consecutive ASCII spaces -/
def NoDoubleSpace (rs : List Nat) : Prop := ∀ i, rs[i]? = some 0x20 → rs[i + 1]? ≠ some 0x20

theorem noDouble_cons (r : Nat) (rest : List Nat) :
    NoDoubleSpace (r :: rest) ↔ (r = 0x20 → rest.head? ≠ some 0x20) ∧ NoDoubleSpace rest := by
  unfold NoDoubleSpace
  rw [List.head?_eq_getElem?]
  constructor
  · intro h
    exact ⟨fun hr => h 0 (congrArg some hr), fun i hi => h (i + 1) hi⟩
  · rintro ⟨h1, h2⟩ i hi
    cases i with
    | zero => exact h1 (Option.some.inj hi)
    | succ i => exact h2 i hi

theorem stepOk_iff (T : Tables) (hT : T.Sane) (r : Nat) (prev : Bool) :
    stepOk T r prev = true ↔ RuneOK T r ∧ (prev = true → r ≠ 0x20) := by
  unfold stepOk RuneOK
  by_cases hr : 0x20 ≤ r ∧ r ≤ 0x7e
  · obtain ⟨hs, hp⟩ := sane_ascii T hT r hr
    simp only [hr, and_self, ↓reduceIte, hs, hp]
    cases prev <;> simp
  · have h20 : r ≠ 0x20 := fun h => hr (by omega)
    simp [hr, h20, and_comm]

theorem goodR_iff (T : Tables) (hT : T.Sane) : ∀ (rs : List Nat) (prev : Bool),
    goodR T rs prev = true ↔
      (∀ r ∈ rs, RuneOK T r) ∧ (prev = true → rs.head? ≠ some 0x20) ∧ (rs = [] → prev = false) ∧
      rs.getLast? ≠ some 0x20 ∧ NoDoubleSpace rs := by
  intro rs
  induction rs with
  | nil =>
    intro prev
    cases prev <;> simp [goodR, NoDoubleSpace]
  | cons r rest ih =>
    intro prev
    have hlast : (r :: rest).getLast? ≠ some 0x20 ↔ (rest = [] → r ≠ 0x20) ∧ rest.getLast? ≠ some 0x20 := by
      cases rest with
      | nil => simp
      | cons a l => simp [List.getLast?_cons_cons]
    rw [goodR, Bool.and_eq_true, stepOk_iff T hT, ih, noDouble_cons, hlast]
    simp only [List.mem_cons, forall_eq_or_imp, List.head?_cons, ne_eq, Option.some.injEq, decide_eq_true_eq,
      decide_eq_false_iff_not, reduceCtorEq, false_imp_iff, true_and]
    constructor
    · rintro ⟨⟨hok, hp⟩, hall, hh, he, hl, hd⟩
      exact ⟨⟨hok, hall⟩, hp, ⟨he, hl⟩, hh, hd⟩
    · rintro ⟨⟨hok, hall⟩, hp, ⟨he, hl⟩, hh, hd⟩
      exact ⟨⟨hok, hp⟩, hall, hh, he, hl, hd⟩

theorem decodeAll_cons_ne_nil (f : Nat) (c : UInt8) (rest : List UInt8) (rs : List Nat)
    (h : decodeAll f (c :: rest) = some rs) : rs ≠ [] := by
  cases f with
  | zero => simp [decodeAll] at h
  | succ f =>
    simp only [decodeAll] at h
    split at h
    · cases h
    · simp only [Option.map_eq_some_iff] at h
      obtain ⟨_, _, rfl⟩ := h
      simp

theorem decodeAll_utf8Ok : ∀ (f : Nat) (s : List UInt8) (rs : List Nat), decodeAll f s = some rs → utf8Ok f s = true := by
  intro f
  induction f with
  | zero => intro s rs h; rfl
  | succ f ih =>
    intro s rs h
    cases s with
    | nil => rfl
    | cons c rest =>
      simp only [decodeAll] at h
      simp only [utf8Ok]
      split at h
      · cases h
      · rename_i hb
        simp only [Option.map_eq_some_iff] at h
        obtain ⟨rs', h', _⟩ := h
        simp only [hb, Bool.false_eq_true, ↓reduceIte]
        exact ih _ _ h'

end SH.Norm
