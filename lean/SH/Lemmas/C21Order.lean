/-
  SH.Lemmas.C21Order — C21: the relational treatment of Go map order is EXACT for the keys RemoveByTTL removes
  (`legalRemoved_sound` / `_complete`) and for the candidate count of AddValues (`collect_eq`, `legalCount_exact`).

  The real loops range over the Go map in an unspecified order.  `ttlRemoved` / `collect` are those loops run over an
  enumeration `order` of the keys.  The driver does not know the enumeration; it checks the observed outcome with the
  executable predicates `legalRemoved` / `legalCount` (part of `legalCands`).  Here:
    sound     every outcome the loop can produce from some enumeration is accepted,
    complete  every accepted outcome is produced by some enumeration.
  `ttlRemoved` and `collect` / `collStep` are transcriptions of the two Go loops, trusted by reading: the driver runs only
  `legalRemoved` / `legalCands` and the model's `removeByTTL` / `addValues`, no differential run executes them.
  Not derived: the sort of the candidates by access time (`sortedCands`, an observed input) and Save's write order (any permutation).
-/
import SH.Lemmas.C21Base

namespace SH.C21
open SH.Chunked hiding St
open SH.MapCache

/-- `expiredTTLLocked` of the entry stored for `k` -/
def expKey (s : St) (now : Nat) (k : Bytes) : Bool :=
  match find s.cache k with
  | some e => expired e.ts now s.maxTTL
  | none => false

/-- how many map entries the range loop of RemoveByTTL looks at before `visitedCount >= maxCount` -/
def ttlK (maxCount : Int) : Nat := if maxCount ≤ 0 then 0 else maxCount.toNat

/-- the outcome of RemoveByTTL's loop over the enumeration `order`, written down directly (no step-by-step loop model behind
    it): the expired ones among the first `maxCount` keys, in order -/
def ttlRemoved (s : St) (maxCount : Int) (now : Nat) (order : List Bytes) : List Bytes :=
  (order.take (ttlK maxCount)).filter (expKey s now)

theorem nodupKeys_iff (l : List Bytes) : nodupKeys l = true ↔ l.Nodup := by
  induction l with
  | nil => simp [nodupKeys]
  | cons k ks ih => simp [nodupKeys, ih]

theorem allPresent_iff (c : Cache) (ks : List Bytes) : allPresent c ks = true ↔ ∀ k ∈ ks, k ∈ keys c := by
  simp only [allPresent, List.all_eq_true]
  constructor
  · intro h k hk
    have := h k hk
    cases hf : find c k with
    | none => rw [hf] at this; simp at this
    | some e => exact List.mem_map.mpr ⟨(k, e), find_some_mem hf, rfl⟩
  · intro h k hk
    cases hf : find c k with
    | none => exact absurd (h k hk) (find_none_iff.mp hf)
    | some e => rfl

theorem nonexpired_count (s : St) (now : Nat) (hn : (keys s.cache).Nodup) :
    ((keys s.cache).filter (fun k => !expKey s now k)).length
      = s.cache.length - (s.cache.filter (fun p => expired p.2.ts now s.maxTTL)).length := by
  have h1 : (keys s.cache).filter (fun k => !expKey s now k)
      = (s.cache.filter (fun p => !expired p.2.ts now s.maxTTL)).map (·.1) := by
    simp only [keys, List.filter_map]
    congr 1
    apply List.filter_congr
    intro p hp
    simp only [Function.comp, expKey, mem_find_of_nodup hn (show (p.1, p.2) ∈ s.cache from hp)]
  have h2 := (List.filter_append_perm (fun p : Bytes × Entry => expired p.2.ts now s.maxTTL) s.cache).length_eq
  rw [List.length_append] at h2
  rw [h1, List.length_map]
  omega

theorem legalRemoved_iff (s : St) (maxCount : Int) (now : Nat) (removed : List Bytes) :
    legalRemoved s maxCount now removed = true ↔
      ((∀ k ∈ removed, k ∈ keys s.cache) ∧ removed.Nodup ∧ (∀ k ∈ removed, expKey s now k = true) ∧
        removed.length ≤ min (ttlK maxCount) s.cache.length ∧
        min (ttlK maxCount) s.cache.length - removed.length
          ≤ s.cache.length - (s.cache.filter (fun p => expired p.2.ts now s.maxTTL)).length) := by
  have hk : (if maxCount ≤ 0 then 0 else min maxCount.toNat s.cache.length) = min (ttlK maxCount) s.cache.length := by
    unfold ttlK; split <;> simp
  simp only [legalRemoved, hk, Bool.and_eq_true, allPresent_iff, nodupKeys_iff, List.all_eq_true, decide_eq_true_eq]
  -- the test on the entry of a removed key is `expKey` unfolded
  exact ⟨fun ⟨⟨⟨⟨h1, h2⟩, h3⟩, h4⟩, h5⟩ => ⟨h1, h2, h3, h4, h5⟩, fun ⟨h1, h2, h3, h4, h5⟩ => ⟨⟨⟨⟨h1, h2⟩, h3⟩, h4⟩, h5⟩⟩

/-- SOUND: whatever enumeration of the map the runtime picks, the outcome of the RemoveByTTL loop is accepted -/
theorem legalRemoved_sound (s : St) (maxCount : Int) (now : Nat) (order : List Bytes) (hn : (keys s.cache).Nodup)
    (hp : order.Perm (keys s.cache)) : legalRemoved s maxCount now (ttlRemoved s maxCount now order) = true := by
  rw [legalRemoved_iff]
  have hon : order.Nodup := hp.nodup_iff.mpr hn
  have hlen : order.length = s.cache.length := by rw [hp.length_eq]; simp [keys]
  have hsub : (ttlRemoved s maxCount now order).Sublist order :=
    List.Sublist.trans List.filter_sublist (List.take_sublist _ _)
  refine ⟨fun k hk => hp.mem_iff.mp (hsub.subset hk), hsub.nodup hon, fun k hk => (List.mem_filter.mp hk).2, ?_, ?_⟩
  · have := List.length_filter_le (expKey s now) (order.take (ttlK maxCount))
    simp only [ttlRemoved]; rw [List.length_take, hlen] at this; exact this
  · -- the visited keys split into the expired ones (removed) and not expired ones, which are among the map's not expired keys
    have hsplit := (List.filter_append_perm (expKey s now) (order.take (ttlK maxCount))).length_eq
    rw [List.length_append, List.length_take, hlen] at hsplit
    have hne := (List.Sublist.filter (fun k => !expKey s now k) (List.take_sublist (ttlK maxCount) order)).length_le
    rw [(hp.filter _).length_eq, nonexpired_count s now hn] at hne
    simp only [ttlRemoved]
    omega

theorem extend_perm (front ks : List Bytes) (hf : front.Nodup) (hk : ks.Nodup) (hsub : ∀ k ∈ front, k ∈ ks) :
    (front ++ ks.filter (fun x => !front.contains x)).Perm ks := by
  have hnd : (front ++ ks.filter (fun x => !front.contains x)).Nodup := by
    refine List.nodup_append.mpr ⟨hf, List.Sublist.nodup List.filter_sublist hk, ?_⟩
    intro a ha b hb hab; subst hab
    have := (List.mem_filter.mp hb).2
    simp only [Bool.not_eq_true', List.contains_eq_mem, decide_eq_false_iff_not] at this
    exact this ha
  refine (List.perm_ext_iff_of_nodup hnd hk).mpr (fun a => ⟨?_, ?_⟩)
  · intro ha
    rcases List.mem_append.mp ha with ha | ha
    · exact hsub a ha
    · exact (List.mem_filter.mp ha).1
  · intro ha
    by_cases hc : a ∈ front
    · exact List.mem_append_left _ hc
    · exact List.mem_append_right _ (List.mem_filter.mpr ⟨ha, by simpa using hc⟩)

/-- COMPLETE: every accepted outcome is the outcome of the loop for some enumeration of the map -/
theorem legalRemoved_complete (s : St) (maxCount : Int) (now : Nat) (removed : List Bytes) (hn : (keys s.cache).Nodup)
    (h : legalRemoved s maxCount now removed = true) :
    ∃ order, order.Perm (keys s.cache) ∧ ttlRemoved s maxCount now order = removed := by
  rw [legalRemoved_iff] at h
  obtain ⟨h1, h2, h3, h4, h5⟩ := h
  -- the enumeration: the removed keys, then enough keys that are not expired to fill the visit, then all the others
  let fill := ((keys s.cache).filter (fun x => !expKey s now x)).take (min (ttlK maxCount) s.cache.length - removed.length)
  have hfill_sub : fill.Sublist (keys s.cache) := List.Sublist.trans (List.take_sublist _ _) List.filter_sublist
  have hfill_ne : ∀ k ∈ fill, expKey s now k = false := by
    intro k hk
    simpa using (List.mem_filter.mp ((List.take_sublist _ _).subset hk)).2
  have hklen : (keys s.cache).length = s.cache.length := by simp [keys]
  have hrf_len : (removed ++ fill).length = min (ttlK maxCount) s.cache.length := by
    rw [List.length_append, List.length_take, nonexpired_count s now hn]
    omega
  have hrf_nodup : (removed ++ fill).Nodup := by
    refine List.nodup_append.mpr ⟨h2, hfill_sub.nodup hn, ?_⟩
    intro a ha b hb hab; subst hab
    have := h3 a ha; rw [hfill_ne a hb] at this; cases this
  have hperm := extend_perm (removed ++ fill) (keys s.cache) hrf_nodup hn
    (fun a ha => (List.mem_append.mp ha).elim (h1 a) (fun hf => hfill_sub.subset hf))
  refine ⟨_, hperm, ?_⟩
  have htake : ((removed ++ fill) ++ (keys s.cache).filter (fun x => !(removed ++ fill).contains x)).take (ttlK maxCount)
      = removed ++ fill := by
    by_cases hc : ttlK maxCount ≤ s.cache.length
    · exact List.take_left' (hrf_len.trans (Nat.min_eq_left hc))
    · have hA := hrf_len.trans (Nat.min_eq_right (Nat.le_of_not_le hc))
      have hlen := hperm.length_eq
      rw [List.length_append, hA, hklen] at hlen
      rw [List.length_eq_zero_iff.mp (Nat.add_left_cancel hlen), List.append_nil]
      exact List.take_of_length_le (hA ▸ Nat.le_of_not_le hc)
  simp only [ttlRemoved, htake, List.filter_append]
  rw [List.filter_eq_self.mpr h3, List.filter_eq_nil_iff.mpr (fun k hk => by simp [hfill_ne k hk]), List.append_nil]

/-- the model's RemoveByTTL only depends on the expired keys it met: running it over the visited keys or over the observed
    `removed` list (what the driver does) is the same -/
theorem removeVisited_filter (now : Nat) (s : St) (l : List Bytes) (hl : l.Nodup) :
    removeVisited now s l = removeVisited now s (l.filter (expKey s now)) := by
  induction l generalizing s with
  | nil => rfl
  | cons k l ih =>
    have hl' : l.Nodup := (List.nodup_cons.mp hl).2
    have hk : k ∉ l := (List.nodup_cons.mp hl).1
    cases hf : find s.cache k with
    | none =>
      have : expKey s now k = false := by simp [expKey, hf]
      simp only [List.filter_cons, this, Bool.false_eq_true, if_false, removeVisited, hf]
      exact ih s hl'
    | some e =>
      by_cases he : expired e.ts now s.maxTTL = true
      · have : expKey s now k = true := by simp [expKey, hf, he]
        simp only [List.filter_cons, this, if_true, removeVisited, hf, he]
        rw [ih _ hl']
        congr 1
        apply List.filter_congr
        intro x hx
        have hxk : x ≠ k := fun h => hk (h ▸ hx)
        simp only [expKey, removeItem, find_erase, hxk, if_false]
      · have : expKey s now k = false := by simp [expKey, hf, he]
        simp only [List.filter_cons, this, Bool.false_eq_true, if_false, removeVisited, hf, he]
        exact ih s hl'

theorem szSum_nonneg (l : List Bytes) : 0 ≤ szSum l := sum_map_nonneg _ elementSize_nonneg l

theorem szSum_cons (k : Bytes) (l : List Bytes) : szSum (k :: l) = elementSize k + szSum l := by simp [szSum]

theorem szSum_append (a b : List Bytes) : szSum (a ++ b) = szSum a + szSum b := by
  simp [szSum, List.sum_append]

theorem szSum_perm {a b : List Bytes} (h : a.Perm b) : szSum a = szSum b := Lists.sum_perm (h.map _)

theorem szSum_take_mono (l : List Bytes) (i j : Nat) (h : i ≤ j) : szSum (l.take i) ≤ szSum (l.take j) := by
  have e : l.take j = l.take i ++ (l.drop i).take (j - i) := by
    have : j = i + (j - i) := by omega
    conv => lhs; rw [this, List.take_add]
  rw [e, szSum_append]
  have := szSum_nonneg ((l.drop i).take (j - i))
  omega

theorem reach_succ (rs : Int) (l : List Bytes) (acc : Int) (i : Nat) :
    reach rs l acc (i + 1) = (reach rs l acc i).map (· + 1) := by
  induction l generalizing acc i with
  | nil => rfl
  | cons k ks ih =>
    simp only [reach]
    by_cases hc : acc + elementSize k ≥ rs
    · rw [if_pos hc, if_pos hc]; rfl
    · rw [if_neg hc, if_neg hc]; exact ih _ _

theorem reach_spec (rs : Int) (l : List Bytes) (acc : Int) (i m : Nat) (h : reach rs l acc i = some m) :
    ∃ j, m = i + j + 1 ∧ j < l.length ∧ rs ≤ acc + szSum (l.take (j + 1)) ∧ (acc < rs → acc + szSum (l.take j) < rs) := by
  induction l generalizing acc i with
  | nil => simp [reach] at h
  | cons k ks ih =>
    simp only [reach] at h
    by_cases hc : acc + elementSize k ≥ rs
    · rw [if_pos hc] at h
      cases h
      exact ⟨0, rfl, by simp, by simpa [szSum] using hc, fun ha => by simpa [szSum] using ha⟩
    · rw [if_neg hc] at h
      obtain ⟨j, rfl, hj, h2, h1⟩ := ih _ _ h
      refine ⟨j + 1, by omega, by simpa using hj, ?_, fun _ => ?_⟩
      · rw [List.take_succ_cons, szSum_cons, ← Int.add_assoc]; exact h2
      · rw [List.take_succ_cons, szSum_cons, ← Int.add_assoc]; exact h1 (Int.not_le.mp hc)

theorem reach_eq_some (rs : Int) (l : List Bytes) (acc : Int) (i j : Nat) (hj : j < l.length)
    (h1 : acc + szSum (l.take j) < rs) (h2 : rs ≤ acc + szSum (l.take (j + 1))) : reach rs l acc i = some (i + j + 1) := by
  induction l generalizing acc i j with
  | nil => simp at hj
  | cons k ks ih =>
    rw [List.take_succ_cons, szSum_cons] at h2
    cases j with
    | zero =>
      have hc : acc + elementSize k ≥ rs := by simpa [szSum] using h2
      simp only [reach, if_pos hc, Nat.add_zero]
    | succ j =>
      rw [List.take_succ_cons, szSum_cons] at h1
      have hc : ¬ (acc + elementSize k ≥ rs) := by
        have := szSum_nonneg (ks.take j)
        omega
      simp only [reach, if_neg hc]
      rw [ih _ (i + 1) j (by simpa using hj) (by rw [Int.add_assoc]; exact h1) (by rw [Int.add_assoc]; exact h2)]
      congr 1
      omega

theorem reach_none_iff (rs : Int) (l : List Bytes) (acc : Int) (i : Nat) (hacc : acc < rs) :
    reach rs l acc i = none ↔ acc + szSum l < rs := by
  induction l generalizing acc i with
  | nil => simp [reach, szSum]; exact hacc
  | cons k ks ih =>
    have h0 := szSum_nonneg ks
    simp only [reach, szSum_cons]
    split
    · simp; omega
    · rw [ih _ _ (by omega)]; omega

theorem reach_append (rs : Int) (l r : List Bytes) (acc : Int) (i m : Nat) (h : reach rs l acc i = some m) :
    reach rs (l ++ r) acc i = some m := by
  induction l generalizing acc i with
  | nil => simp [reach] at h
  | cons k ks ih =>
    simp only [List.cons_append, reach] at h ⊢
    split
    · rename_i hc; simp only [hc, if_true] at h; exact h
    · rename_i hc; simp only [hc, if_false] at h; exact ih _ _ h

theorem reach_congr (rs : Int) (l1 l2 : List Bytes) (acc : Int) (i : Nat) (h : l1.map elementSize = l2.map elementSize) :
    reach rs l1 acc i = reach rs l2 acc i := by
  induction l1 generalizing l2 acc i with
  | nil =>
    cases l2 with
    | nil => rfl
    | cons y l2' => simp at h
  | cons x l1' ih =>
    cases l2 with
    | nil => simp at h
    | cons y l2' =>
      simp only [List.map_cons, List.cons.injEq] at h
      simp only [reach, h.1, ih l2' _ _ h.2]

theorem foldl_collStep_stop (rs : Int) (l : List Bytes) (c : Coll) (h : c.stop = true) : l.foldl (collStep rs) c = c := by
  induction l with
  | nil => rfl
  | cons k ks ih => simp only [List.foldl_cons, collStep, h, if_true]; exact ih

/-- after the running size has reached `rs` the loop goes on until it holds twice `count` keys: `d + 1` more -/
theorem foldl_collStep_reached (rs : Int) (l : List Bytes) (c : Coll) (d : Nat) (hs : c.stop = false) (hf : c.found ≥ rs)
    (hd : c.items.length + (d + 1) = 2 * c.count) :
    (l.foldl (collStep rs) c).items = c.items ++ l.take (d + 1) := by
  induction l generalizing c d with
  | nil => simp
  | cons k ks ih =>
    have hnl : ¬ (c.found + elementSize k < rs) :=
      Int.not_lt.mpr (Int.le_trans hf (Int.le_add_of_nonneg_right (elementSize_nonneg k)))
    have hnw : ¬ (c.found < rs) := Int.not_lt.mpr hf
    have hstep : collStep rs c k
        = (⟨c.items ++ [k], c.found + elementSize k, c.count, decide ((c.items ++ [k]).length ≥ 2 * c.count)⟩ : Coll) := by
      simp only [collStep, hs, Bool.false_eq_true, if_false, hnl, hnw]
    rw [List.foldl_cons, hstep]
    cases d with
    | zero =>
      rw [foldl_collStep_stop rs ks _ (by simp only [decide_eq_true_eq, List.length_append, List.length_singleton]; omega)]
      simp
    | succ d =>
      rw [ih _ d (by simp only [decide_eq_false_iff_not, List.length_append, List.length_singleton]; omega) (by simp only; omega)
        (by simp only [List.length_append, List.length_singleton]; omega)]
      simp

/-- before `rs` is reached: if key number `r` of `l` reaches it, `count` becomes `c.items.length + r` and the loop runs on to
    twice that, taking `c.items.length + 2 * r` keys of `l` -/
theorem foldl_collStep_before (rs : Int) (l : List Bytes) (c : Coll) (hs : c.stop = false) (hf : c.found < rs) :
    (l.foldl (collStep rs) c).items = c.items ++
      (match reach rs l c.found 0 with
       | none => l
       | some r => l.take (c.items.length + 2 * r)) := by
  induction l generalizing c with
  | nil => simp [reach]
  | cons k ks ih =>
    rw [List.foldl_cons]
    by_cases hr : c.found + elementSize k ≥ rs
    · have hnl : ¬ (c.found + elementSize k < rs) := Int.not_lt.mpr hr
      have hstep : collStep rs c k = (⟨c.items ++ [k], c.found + elementSize k, c.items.length + 1, false⟩ : Coll) := by
        simp only [collStep, hs, Bool.false_eq_true, if_false, hnl, hf, if_true, List.length_append, List.length_singleton,
          Coll.mk.injEq, decide_eq_false_iff_not, true_and]
        omega
      rw [hstep, foldl_collStep_reached rs ks _ c.items.length rfl hr
        (by simp only [List.length_append, List.length_singleton]; omega)]
      simp only [reach, if_pos hr, List.append_assoc, List.singleton_append, Nat.zero_add, Nat.mul_one]
      rw [List.take_succ_cons]
    · have hlt : c.found + elementSize k < rs := Int.not_le.mp hr
      have hstep : collStep rs c k = (⟨c.items ++ [k], c.found + elementSize k, c.count, c.stop⟩ : Coll) := by
        simp only [collStep, hs, Bool.false_eq_true, if_false, hlt, if_true]
      rw [hstep, ih ⟨c.items ++ [k], c.found + elementSize k, c.count, c.stop⟩ hs hlt]
      simp only [reach, if_neg hr, reach_succ, List.length_append, List.length_singleton, List.append_assoc,
        List.singleton_append]
      cases reach rs ks (c.found + elementSize k) 0 with
      | none => rfl
      | some r =>
        have e : c.items.length + 2 * (r + 1) = (c.items.length + 1 + 2 * r) + 1 := by omega
        simp only [Option.map_some, e, List.take_succ_cons]

/-- CLOSED FORM of the collection loop of AddValues over the enumeration `order`:
    for rs ≤ 0 it takes one key; otherwise with m = the number of keys needed to reach `rs` it takes 2·m keys
    (all keys when `rs` is never reached) -/
theorem collect_eq (rs : Int) (order : List Bytes) :
    collect rs order =
      if rs ≤ 0 then order.take 1
      else match reach rs order 0 0 with
        | none => order
        | some m => order.take (2 * m) := by
  unfold collect
  by_cases h : rs ≤ 0
  · simp only [h, if_true]
    cases order with
    | nil => rfl
    | cons k ks =>
      have h0 := elementSize_nonneg k
      have hstep : collStep rs {} k = (⟨[k], elementSize k, 0, true⟩ : Coll) := by
        have h2 : ¬ ((0 : Int) < rs) := by omega
        simp [collStep, h2]; omega
      simp only [List.foldl_cons, hstep]
      rw [foldl_collStep_stop rs ks _ rfl]; simp
  · simp only [h, if_false]
    have := foldl_collStep_before rs order {} rfl (by simp; omega)
    simpa using this

def SizeSorted (a : List Bytes) : Prop := a.Pairwise (fun x y => elementSize x ≤ elementSize y)

theorem sortBySize_perm (l : List Bytes) : (sortBySize l).Perm l := List.mergeSort_perm l sizeLe

theorem sortBySize_sorted (l : List Bytes) : SizeSorted (sortBySize l) := by
  have := List.pairwise_mergeSort (le := sizeLe)
    (by intro a b c h1 h2; simp only [sizeLe, decide_eq_true_eq] at *; omega)
    (by intro a b; simp only [sizeLe, Bool.or_eq_true, decide_eq_true_eq]; omega) l
  exact this.imp (by intro x y h; simpa [sizeLe] using h)

/-- some arrangement of `a` reaches `rs` exactly with its key number w+1: slide a window of w+1 consecutive keys from the end
    of `a` towards its start until its first w keys stay below `rs`, and rotate `a` to begin there -/
theorem exists_window (rs : Int) (a : List Bytes) (w : Nat) (hwa : w + 1 ≤ a.length)
    (h1 : szSum (a.take w) < rs) (h2 : rs ≤ szSum (a.drop (a.length - (w + 1)))) :
    ∃ c : List Bytes, c.Perm a ∧ szSum (c.take w) < rs ∧ rs ≤ szSum (c.take (w + 1)) := by
  have key : ∀ u, u + (w + 1) ≤ a.length → rs ≤ szSum ((a.drop u).take (w + 1)) →
      ∃ j, j ≤ u ∧ szSum ((a.drop j).take w) < rs ∧ rs ≤ szSum ((a.drop j).take (w + 1)) := by
    intro u
    induction u with
    | zero => intro _ h; exact ⟨0, Nat.le_refl _, h1, h⟩
    | succ u ih =>
      intro hu h
      by_cases hc : rs ≤ szSum ((a.drop u).take (w + 1))
      · obtain ⟨j, hj, hj1, hj2⟩ := ih (by omega) hc
        exact ⟨j, Nat.le_succ_of_le hj, hj1, hj2⟩
      · refine ⟨u + 1, Nat.le_refl _, ?_, h⟩
        obtain ⟨x, e⟩ : ∃ x, a.drop u = x :: a.drop (u + 1) := ⟨_, List.drop_eq_getElem_cons (by omega)⟩
        rw [e, List.take_succ_cons, szSum_cons] at hc
        have := elementSize_nonneg x
        omega
  have hlast : rs ≤ szSum ((a.drop (a.length - (w + 1))).take (w + 1)) := by
    rw [List.take_of_length_le (by simp; omega)]; exact h2
  obtain ⟨j, hj, hj1, hj2⟩ := key (a.length - (w + 1)) (Nat.le_of_eq (Nat.sub_add_cancel hwa)) hlast
  have hdl : w + 1 ≤ (a.drop j).length := by
    rw [List.length_drop]; exact Nat.le_sub_of_add_le' (Nat.add_le_of_le_sub hwa hj)
  refine ⟨a.drop j ++ a.take j, ?_, ?_, ?_⟩
  · exact List.perm_append_comm.trans (List.Perm.of_eq (List.take_append_drop j a))
  · rw [List.take_append_of_le_length (Nat.le_of_succ_le hdl)]; exact hj1
  · rw [List.take_append_of_le_length hdl]; exact hj2

/-- COMPLETE: every candidate set `legalCount` accepts is what the collection loop of AddValues collects for some
    enumeration of the map -/
theorem legalCount_complete (rs : Int) (ks cands : List Bytes) (hk : ks.Nodup) (hc : cands.Nodup)
    (hsub : ∀ k ∈ cands, k ∈ ks) (h : legalCount rs ks cands = true) :
    ∃ order, order.Perm ks ∧ (collect rs order).Perm cands := by
  have hap := sortBySize_perm cands
  have hlen : (sortBySize cands).length = cands.length := hap.length_eq
  simp only [legalCount] at h
  by_cases hn : cands.length = ks.length
  · -- the whole map was collected: enumerate it by ascending size
    simp only [hn, if_true] at h
    have hall : cands.Perm ks := by
      have hp := extend_perm cands ks hc hk hsub
      have := hp.length_eq
      rw [List.length_append, hn] at this
      have hnil : ks.filter (fun x => !cands.contains x) = [] := List.length_eq_zero_iff.mp (by omega)
      rw [hnil, List.append_nil] at hp; exact hp
    refine ⟨sortBySize cands, hap.trans hall, ?_⟩
    rw [collect_eq]
    by_cases hr : rs ≤ 0
    · simp only [hr, if_true] at h ⊢
      cases ha : sortBySize cands with
      | nil => rw [ha] at hap; simpa using hap
      | cons x xs =>
        rw [ha] at h
        have h0 := elementSize_nonneg x
        simp only [reach, show (0 : Int) + elementSize x ≥ rs by omega, if_true, decide_eq_true_eq] at h
        have : xs = [] := by
          have := hlen; rw [ha, hn] at this; simp at this
          exact List.length_eq_zero_iff.mp (by omega)
        subst this
        rw [ha] at hap
        simpa using hap
    · simp only [hr, if_false] at h ⊢
      cases hm : reach rs (sortBySize cands) 0 0 with
      | none => simpa using hap
      | some m =>
        rw [hm] at h
        simp only [decide_eq_true_eq] at h
        show (List.take (2 * m) (sortBySize cands)).Perm cands
        rw [List.take_of_length_le (by rw [hlen, hn]; exact h)]; exact hap
  · simp only [hn, if_false] at h
    by_cases hr : rs ≤ 0
    · -- one candidate
      simp only [hr, if_true, decide_eq_true_eq] at h
      refine ⟨cands ++ ks.filter (fun x => !cands.contains x), extend_perm cands ks hc hk hsub, ?_⟩
      rw [collect_eq]; simp only [hr, if_true]
      rw [← h, List.take_left]
    · simp only [hr, if_false, Bool.and_eq_true, decide_eq_true_eq] at h
      obtain ⟨⟨heven, hpos⟩, hS, hT⟩ := h
      -- enumerate first an arrangement of the candidates that reaches `rs` exactly with its key number n/2
      obtain ⟨w, hw⟩ : ∃ w, cands.length / 2 = w + 1 := ⟨cands.length / 2 - 1, by omega⟩
      rw [hw, Nat.add_sub_cancel] at hS
      obtain ⟨front, hfa, hw1, hw2⟩ := exists_window rs (sortBySize cands) w (by rw [hlen]; omega) hS
        (by rw [hlen, ← hw]; exact hT)
      have hfp : front.Perm cands := hfa.trans hap
      have hfl : front.length = 2 * (w + 1) := by
        rw [hfp.length_eq, ← hw]; exact (Nat.mul_div_cancel' (Nat.dvd_of_mod_eq_zero heven)).symm
      have hreach : reach rs front 0 0 = some (w + 1) := by
        have := reach_eq_some rs front 0 0 w (by omega) (by rw [Int.zero_add]; exact hw1) (by rw [Int.zero_add]; exact hw2)
        simpa using this
      have hfn : front.Nodup := hfp.nodup_iff.mpr hc
      refine ⟨front ++ ks.filter (fun x => !front.contains x),
        extend_perm front ks hfn hk (fun k hkf => hsub k (hfp.mem_iff.mp hkf)), ?_⟩
      rw [collect_eq]; simp only [hr, if_false]
      rw [reach_append rs front _ 0 0 _ hreach]
      simp only
      rw [← hfl, List.take_left]
      exact hfp

/-- the i smallest keys weigh no more than any i distinct keys (exchange: the smallest key is taken out of both lists if it
    is in `b`, otherwise it replaces the head of `b` at no greater weight) -/
theorem sorted_prefix_min (a : List Bytes) (ha : SizeSorted a) (b : List Bytes) (hb : b.Nodup) (hsub : ∀ x ∈ b, x ∈ a) :
    szSum (a.take b.length) ≤ szSum b := by
  induction a generalizing b with
  | nil =>
    cases b with
    | nil => simp
    | cons y b' => exact absurd (hsub y (by simp)) (by simp)
  | cons x a' ih =>
    have hx := (List.pairwise_cons.mp ha).1
    have ha' := (List.pairwise_cons.mp ha).2
    have hrest : ∀ z ∈ b, z ≠ x → z ∈ a' := fun z hz hne => (List.mem_cons.mp (hsub z hz)).resolve_left hne
    by_cases hxb : x ∈ b
    · have := ih ha' (b.erase x) (hb.erase x) (fun z hz => (hb.mem_erase_iff.mp hz).elim fun hne hzb => hrest z hzb hne)
      rw [List.length_erase_of_mem hxb] at this
      have hbl : b.length = (b.length - 1) + 1 := by
        have := List.length_pos_of_mem hxb; omega
      rw [szSum_perm (List.perm_cons_erase hxb), szSum_cons, hbl, List.take_succ_cons, szSum_cons]
      omega
    · cases b with
      | nil => simp [szSum]
      | cons y b' =>
        have hin : ∀ z ∈ y :: b', z ∈ a' := fun z hz => hrest z hz (fun h => hxb (h ▸ hz))
        have := ih ha' b' (List.nodup_cons.mp hb).2 (fun z hz => hin z (List.mem_cons_of_mem _ hz))
        have hxy := hx y (hin y List.mem_cons_self)
        simp only [List.length_cons, List.take_succ_cons, szSum_cons]
        omega

theorem sorted_suffix_max (a : List Bytes) (ha : SizeSorted a) (han : a.Nodup) (b : List Bytes) (hb : b.Nodup)
    (hsub : ∀ x ∈ b, x ∈ a) : szSum b ≤ szSum (a.drop (a.length - b.length)) := by
  -- complement: a ~ b ++ c, the |c| smallest weigh at most c
  have hp := extend_perm b a hb han hsub
  let c := a.filter (fun x => !b.contains x)
  have hcn : c.Nodup := List.Sublist.nodup List.filter_sublist han
  have hcs : ∀ x ∈ c, x ∈ a := fun x hx => (List.mem_filter.mp hx).1
  have hmin := sorted_prefix_min a ha c hcn hcs
  have hlen : b.length + c.length = a.length := by
    have := hp.length_eq; rw [List.length_append] at this; exact this
  have htot : szSum a = szSum b + szSum c := by rw [← szSum_perm hp, szSum_append]
  have hsplit : szSum a = szSum (a.take c.length) + szSum (a.drop c.length) := by
    rw [← szSum_append, List.take_append_drop]
  have : a.length - b.length = c.length := by omega
  rw [this]; omega

theorem sortBySize_take_bounds (c : List Bytes) (hc : c.Nodup) (i : Nat) (hi : i ≤ c.length) :
    szSum ((sortBySize c).take i) ≤ szSum (c.take i) ∧ szSum (c.take i) ≤ szSum ((sortBySize c).drop (c.length - i)) := by
  have hap := sortBySize_perm c
  have has := sortBySize_sorted c
  have hbl : (c.take i).length = i := by rw [List.length_take]; omega
  have hbn : (c.take i).Nodup := (List.take_sublist _ _).nodup hc
  have hbs : ∀ x ∈ c.take i, x ∈ sortBySize c := fun x hx => hap.mem_iff.mpr ((List.take_sublist _ _).subset hx)
  have hmin := sorted_prefix_min _ has _ hbn hbs
  have hmax := sorted_suffix_max _ has (hap.nodup_iff.mpr hc) _ hbn hbs
  rw [hbl] at hmin
  rw [hbl, hap.length_eq] at hmax
  exact ⟨hmin, hmax⟩

/-- SOUND: whatever enumeration of the map the runtime picks, the set collected by the loop of AddValues is accepted -/
theorem legalCount_sound (rs : Int) (ks order : List Bytes) (hk : ks.Nodup) (hp : order.Perm ks) :
    legalCount rs ks (collect rs order) = true := by
  have hon : order.Nodup := hp.nodup_iff.mpr hk
  have hol : order.length = ks.length := hp.length_eq
  rw [collect_eq]
  by_cases hr : rs ≤ 0
  · simp only [hr, if_true]
    cases order with
    | nil =>
      have : ks = [] := List.length_eq_zero_iff.mp (by simpa using hol.symm)
      subst this
      simp [legalCount, sortBySize, reach]
    | cons x xs =>
      have h0 := elementSize_nonneg x
      simp only [List.take_succ_cons, List.take_zero, legalCount, List.length_singleton, sortBySize,
        List.mergeSort_singleton, reach, show (0 : Int) + elementSize x ≥ rs by omega, if_true, hr]
      split <;> simp
  · simp only [hr, if_false]
    have hpos : (0 : Int) < rs := by omega
    cases hm : reach rs order 0 0 with
    | none =>
      have htot : szSum order < rs := by simpa using (reach_none_iff rs order 0 0 hpos).mp hm
      have hnone : reach rs (sortBySize order) 0 0 = none := by
        apply (reach_none_iff rs _ 0 0 hpos).mpr
        rw [szSum_perm (sortBySize_perm order)]; simpa using htot
      simp only [legalCount, hol, if_true, hnone]
    | some m =>
      obtain ⟨j, rfl, hjl, hge, hlt⟩ := reach_spec rs order 0 0 m hm
      have hlt := hlt hpos
      simp only [Int.zero_add, Nat.zero_add] at hge hlt ⊢
      by_cases hall : order.length ≤ 2 * (j + 1)
      · -- everything was collected
        have hC : order.take (2 * (j + 1)) = order := List.take_of_length_le hall
        simp only [legalCount, hC, hol, if_true]
        cases hm' : reach rs (sortBySize order) 0 0 with
        | none => rfl
        | some m' =>
          obtain ⟨j', rfl, hjl', hge', -⟩ := reach_spec rs _ 0 0 m' hm'
          rw [Int.zero_add] at hge'
          simp only [hr, if_false, decide_eq_true_eq]
          -- j ≤ j': the j'+1 lightest keys weigh no more than the first j'+1 keys of `order`
          have hjj : j ≤ j' := Nat.le_of_not_lt fun hc => by
            have h1 := (sortBySize_take_bounds order hon (j' + 1) (by omega)).1
            have h2 := szSum_take_mono order (j' + 1) j hc
            exact Int.lt_irrefl _ (Int.lt_of_le_of_lt (Int.le_trans hge' (Int.le_trans h1 h2)) hlt)
          omega
      · -- the loop stopped after 2·(j+1) keys
        have hCl : (order.take (2 * (j + 1))).length = 2 * (j + 1) := List.length_take_of_le (Nat.le_of_not_le hall)
        have hcn : (order.take (2 * (j + 1))).Nodup := (List.take_sublist _ _).nodup hon
        have hne : ¬ (2 * (j + 1) = ks.length) := by omega
        have hd : 2 * (j + 1) / 2 = j + 1 := Nat.mul_div_cancel_left _ (by decide)
        have h1 := (sortBySize_take_bounds _ hcn j (by omega)).1
        have h2 := (sortBySize_take_bounds _ hcn (j + 1) (by omega)).2
        rw [List.take_take, Nat.min_eq_left (by omega)] at h1 h2
        rw [hCl] at h2
        simp only [legalCount, hCl, hne, if_false, hr, hd, Bool.and_eq_true, decide_eq_true_eq, Nat.add_sub_cancel]
        exact ⟨⟨Nat.mul_mod_right _ _, Nat.mul_pos (by decide) (Nat.succ_pos j)⟩, Int.lt_of_le_of_lt h1 hlt,
          Int.le_trans hge h2⟩

theorem sizes_sortBySize_perm {c1 c2 : List Bytes} (h : c1.Perm c2) :
    (sortBySize c1).map elementSize = (sortBySize c2).map elementSize := by
  apply List.Perm.eq_of_pairwise (le := (· ≤ ·)) (fun a b _ _ h1 h2 => Int.le_antisymm h1 h2)
  · exact (List.pairwise_map).mpr (sortBySize_sorted c1)
  · exact (List.pairwise_map).mpr (sortBySize_sorted c2)
  · exact ((sortBySize_perm c1).trans (h.trans (sortBySize_perm c2).symm)).map _

/-- `legalCount` looks at the candidates only through their number and their sizes: it does not depend on the order in
    which they are listed (the real code sorts them by access time after collecting them) -/
theorem legalCount_perm (rs : Int) (ks : List Bytes) {c1 c2 : List Bytes} (h : c1.Perm c2) :
    legalCount rs ks c1 = legalCount rs ks c2 := by
  have hs := sizes_sortBySize_perm h
  have hl := h.length_eq
  simp only [legalCount, hl, reach_congr rs _ _ 0 0 hs, szSum, List.map_take, List.map_drop, hs]

/-- EXACT: for a map with keys `ks`, a duplicate-free list `cands` of keys is accepted by `legalCount` iff it is (a
    rearrangement of) what the collection loop of AddValues collects for some enumeration of the map.  (The sort by access
    time that follows is checked separately by `sortedCands`.) -/
theorem legalCount_exact (rs : Int) (ks cands : List Bytes) (hk : ks.Nodup) (hc : cands.Nodup) (hsub : ∀ k ∈ cands, k ∈ ks) :
    legalCount rs ks cands = true ↔ ∃ order, order.Perm ks ∧ (collect rs order).Perm cands := by
  constructor
  · exact legalCount_complete rs ks cands hk hc hsub
  · rintro ⟨order, hp, hcp⟩
    rw [← legalCount_perm rs ks hcp]
    exact legalCount_sound rs ks order hk hp

/-- three 33-byte keys, 30 bytes to free: one key is "barely enough", the loop takes two -/
example : collect 30 [[97], [98], [99]] = [[97], [98]] := by decide +kernel

example : legalCount 30 [[97], [98], [99]] (collect 30 [[97], [98], [99]]) = true :=
  legalCount_sound 30 [[97], [98], [99]] [[97], [98], [99]] (by decide) (List.Perm.refl _)

/-- an accepted candidate set that is not a prefix of the listed keys: accepted because another enumeration collects it -/
example : legalCount 30 [[97], [98], [99]] [[99], [97]] = true :=
  (legalCount_exact 30 [[97], [98], [99]] [[99], [97]] (by decide) (by decide) (by decide)).mpr
    ⟨[[97], [99], [98]], by decide, by decide +kernel⟩

/-- RemoveByTTL: two of three entries expired, the loop may look at two entries -/
def ttlDemo : St := { cache := [([97], ⟨1, 10⟩), ([98], ⟨2, 90⟩), ([99], ⟨3, 20⟩)], maxTTL := 30 }

example : ttlRemoved ttlDemo 2 100 [[99], [98], [97]] = [[99]] := by decide +kernel

example : legalRemoved ttlDemo 2 100 (ttlRemoved ttlDemo 2 100 [[99], [98], [97]]) = true :=
  legalRemoved_sound ttlDemo 2 100 [[99], [98], [97]] (by decide) (by decide)

example : ∃ order, order.Perm (keys ttlDemo.cache) ∧ ttlRemoved ttlDemo 2 100 order = [[97], [99]] :=
  legalRemoved_complete ttlDemo 2 100 [[97], [99]] (by decide) (by decide)

end SH.C21
