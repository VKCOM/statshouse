/-
  Lemmas for C22 about where the axis ends: `endOfLOD`, the point limit, end-of-range coverage, translation by an offset, point queries, IndexOf.
-/
import SH.Lemmas.Timescale
namespace SH.C22
open SH.Timescale SH.Gen.C22

/-- `k` is the number of steps `endOfLOD` takes from `t` to reach `end_` -/
def Least (cal : Cal) (s end_ t : Int) (k : Nat) : Prop :=
  end_ ≤ segEnd cal s k t ∧ ∀ j, j < k → segEnd cal s j t < end_

theorem least_unique (cal : Cal) (s end_ t : Int) (k k' : Nat) (h : Least cal s end_ t k) (h' : Least cal s end_ t k') :
    k = k' := by
  rcases Nat.lt_trichotomy k k' with hlt | heq | hgt
  · have := h'.2 k hlt
    have := h.1
    omega
  · exact heq
  · have := h.2 k' hgt
    have := h'.1
    omega

theorem endLoop_spec (cal : Cal) (s end_ : Int) (hf : Fwd cal s) (fuel : Nat) (start : Int) (n : Nat)
    (h : (end_ - start).toNat ≤ fuel) :
    ∃ k, endLoop cal s false end_ fuel start n = (segEnd cal s k start, n + k) ∧ Least cal s end_ start k := by
  have hstop : ∀ start, ¬ start < end_ → Least cal s end_ start 0 :=
    fun start h => ⟨Int.le_of_not_gt h, fun j hj => absurd hj (Nat.not_lt_zero j)⟩
  fun_induction endLoop cal s false end_ fuel start n with
  | case1 start n => exact ⟨0, rfl, hstop start (by omega)⟩
  | case2 _ _ _ _ hb => simp at hb
  | case3 fuel start n hlt _ ih =>
    have hs := hf start
    obtain ⟨k, hk, hl⟩ := ih (by omega)
    rw [hk, Nat.add_right_comm, Nat.add_assoc]
    refine ⟨k + 1, rfl, hl.1, fun j hj => ?_⟩
    cases j with
    | zero => exact hlt
    | succ j => exact hl.2 j (Nat.lt_of_succ_lt_succ hj)
  | case4 _ start n hlt => exact ⟨0, rfl, hstop start hlt⟩

/-- `endOfLOD(…, le = true)` stops before the step that would pass `end_`: unless it does not move, at a point not after `end_` -/
theorem endLoop_le_spec (cal : Cal) (s end_ : Int) (fuel : Nat) (start : Int) (n : Nat) :
    ∃ k, (endLoop cal s true end_ fuel start n).1 = segEnd cal s k start ∧ (k = 0 ∨ segEnd cal s k start ≤ end_) := by
  fun_induction endLoop cal s true end_ fuel start n with
  | case1 => exact ⟨0, rfl, Or.inl rfl⟩
  | case2 => exact ⟨0, rfl, Or.inl rfl⟩
  | case3 fuel start n _ hb ih =>
    obtain ⟨k, hk, h2⟩ := ih
    refine ⟨k + 1, hk, Or.inr ?_⟩
    rcases h2 with rfl | h2
    · show stepForward cal start s ≤ end_
      simpa using hb
    · exact h2
  | case4 => exact ⟨0, rfl, Or.inl rfl⟩

theorem endOfLOD_spec (cal : Cal) (s : Int) (hf : Fwd cal s) (start end_ : Int) :
    ∃ k, endOfLOD cal start s end_ false = (segEnd cal s k start, k) ∧ Least cal s end_ start k := by
  obtain ⟨k, hk, hl⟩ := endLoop_spec cal s end_ hf (end_ - start).toNat start 0 (Nat.le_refl _)
  exact ⟨k, by rw [endOfLOD, hk, Nat.zero_add], hl⟩

theorem endOfLOD_reaches (cal : Cal) (s : Int) (hf : Fwd cal s) (start end_ : Int) :
    end_ ≤ (endOfLOD cal start s end_ false).1 := by
  obtain ⟨k, hk, hl⟩ := endOfLOD_spec cal s hf start end_
  rw [hk]; exact hl.1

theorem endOfLOD_done (cal : Cal) (s start end_ : Int) (h : end_ ≤ start) :
    endOfLOD cal start s end_ false = (start, 0) := by
  have : (end_ - start).toNat = 0 := by omega
  simp [endOfLOD, this, endLoop]

theorem endOfLOD_additive (cal : Cal) (s : Int) (hf : Fwd cal s) (start edge end_ : Int) (he : edge ≤ end_) :
    endOfLOD cal start s end_ false =
      ((endOfLOD cal (endOfLOD cal start s edge false).1 s end_ false).1,
       (endOfLOD cal start s edge false).2 + (endOfLOD cal (endOfLOD cal start s edge false).1 s end_ false).2) := by
  obtain ⟨k1, h1, l1⟩ := endOfLOD_spec cal s hf start edge
  rw [h1]
  obtain ⟨k2, h2, l2⟩ := endOfLOD_spec cal s hf (segEnd cal s k1 start) end_
  rw [h2]
  obtain ⟨k, h, l⟩ := endOfLOD_spec cal s hf start end_
  rw [h]
  have : Least cal s end_ start (k1 + k2) := by
    refine ⟨by rw [segEnd_add]; exact l2.1, ?_⟩
    intro j hj
    by_cases hj1 : j < k1
    · exact Int.lt_of_lt_of_le (l1.2 j hj1) he
    · obtain ⟨i, rfl⟩ : ∃ i, j = k1 + i := ⟨j - k1, (Nat.add_sub_cancel' (Nat.le_of_not_lt hj1)).symm⟩
      rw [segEnd_add]
      exact l2.2 i (Nat.lt_of_add_lt_add_left hj)
  have hk := least_unique cal s end_ start _ _ l this
  subst hk
  simp [segEnd_add]

theorem edgeOf_le (a : Args) (rs end_ : Int) : edgeOf a rs end_ ≤ end_ := by
  unfold edgeOf
  split
  · exact Int.le_refl _
  · rename_i h
    simp at h
    omega

theorem edgeOf_le_now (a : Args) (hp : isPoint a = false) (rs end_ : Int) : edgeOf a rs end_ ≤ a.now - rs := by
  unfold edgeOf
  split
  · rename_i h
    simp [hp] at h
    omega
  · exact Int.le_refl _

/-- continuing with `lod.step` from this level's start to the end fits into maxPoints (and that step moves forward, as
    `endOfLOD_spec` wants) -/
def FitsFrom (cal : Cal) (a : Args) (first : Bool) (start end_ : Int) (resLen : Nat) (lod : LOD) : Prop :=
  lod.step ≠ 0 → Fwd cal lod.step ∧
    (resLen : Int) + (endOfLOD cal (lodStartOf cal a first start lod.step) lod.step end_ false).2 ≤ maxPoints

/-- the points so far plus this LOD plus continuing with its step from `e` to the end fit into maxPoints -/
def FitsAfter (cal : Cal) (end_ : Int) (resLen : Nat) (lod : LOD) (e : Int) : Prop :=
  lod.len = 0 ∨ (resLen : Int) + lod.len + (endOfLOD cal e lod.step end_ false).2 ≤ maxPoints

theorem overLimit_false {cal : Cal} {a : Args} (hp : isPoint a = false) {resLen : Nat} {ls step edge end_ : Int}
    (h : ¬ overLimit a (pointsToEnd cal a resLen ls step edge end_) = true) :
    (resLen : Int) + (endOfLOD cal ls step edge false).2 +
      (endOfLOD cal (endOfLOD cal ls step edge false).1 step end_ false).2 ≤ maxPoints := by
  simp [overLimit, pointsToEnd, hp] at h
  omega

theorem inner_bound (cal : Cal) (a : Args) (hp : isPoint a = false) (first : Bool) (start end_ edge : Int) (resLen : Nat)
    (he : edge ≤ end_) (steps : List Int) (hf : ∀ s ∈ steps, Fwd cal s) (lod : LOD) (lodEnd : Int) (lod' : LOD) (e : Int)
    (h1 : FitsFrom cal a first start end_ resLen lod) (h2 : FitsAfter cal end_ resLen lod lodEnd)
    (h : inner cal a first start end_ edge resLen steps lod lodEnd = .done lod' e) : FitsAfter cal end_ resLen lod' e := by
  fun_induction inner cal a first start end_ edge resLen steps lod lodEnd with
  | case1 =>
    cases h
    exact h2
  | case2 step rest lod lodEnd _ ih =>
    -- the step would grow: skipped
    exact ih (fun s hs => hf s (List.mem_cons_of_mem _ hs)) h1 h2 h
  | case3 => cases h
  | case4 step rest lod lodEnd _ _ hz =>
    -- over the limit: the previous step to the end
    cases h
    obtain ⟨hfl, hb⟩ := h1 (by simpa using hz)
    refine Or.inr ?_
    show (resLen : Int) + _ + (endOfLOD cal _ lod.step end_ false).2 ≤ maxPoints
    rw [endOfLOD_done cal _ _ _ (endOfLOD_reaches cal lod.step hfl _ end_)]
    simpa using hb
  | case5 step rest lod lodEnd _ hov =>
    -- fine enough: this step to the end
    cases h
    have hfs := hf step List.mem_cons_self
    have hle := overLimit_false hp hov
    refine Or.inr ?_
    show (resLen : Int) + ((_ + _ : Nat) : Int) + (endOfLOD cal _ step end_ false).2 ≤ maxPoints
    rw [endOfLOD_done cal _ _ _ (endOfLOD_reaches cal step hfs _ end_)]
    push_cast
    omega
  | case6 step rest lod lodEnd _ hov _ ih =>
    -- too coarse: this step up to the edge, then the next one
    have hfs := hf step List.mem_cons_self
    have hle := overLimit_false hp hov
    refine ih (fun s hs => hf s (List.mem_cons_of_mem _ hs)) (fun _ => ⟨hfs, ?_⟩) (Or.inr hle) h
    show (resLen : Int) + (endOfLOD cal (lodStartOf cal a first start step) step end_ false).2 ≤ maxPoints
    rw [endOfLOD_additive cal step hfs _ edge end_ he]
    push_cast
    omega

/-- `resLen` counts the points so far; they fit, and so does continuing with the last step from `start` to the end
    (`FitsFrom`: what `inner` falls back to when a finer step is over the limit) -/
theorem outer_bound (cal : Cal) (hc : CalOK cal) (a : Args) (hp : isPoint a = false) (end_ : Int)
    (levels : List (Int × List Int)) (hpos : ∀ sw ∈ levels, ∀ s ∈ sw.2, 0 < s)
    (start : Int) (resLen : Nat) (rlods : List LOD) (lod : LOD) (r : List LOD)
    (h1 : resLen = (expand rlods.reverse).length) (h2 : (resLen : Int) ≤ maxPoints)
    (h3 : FitsFrom cal a rlods.isEmpty start end_ resLen lod)
    (h : outer cal a end_ levels start resLen rlods lod = .ok r) : ((expand r.reverse).length : Int) ≤ maxPoints := by
  fun_induction outer cal a end_ levels start resLen rlods lod with
  | case1 =>
    cases h
    rw [← h1]
    exact h2
  | case2 sw rest start resLen rlods lod _ _ ih =>
    -- the level lies behind `start`: skipped
    exact ih (fun sw hsw => hpos sw (List.mem_cons_of_mem _ hsw)) h1 h2 h3 h
  | case3 => cases h
  | case4 => cases h
  | case5 sw rest start resLen rlods lod _ _ lod' lodEnd hin hbad ih =>
    -- the LOD chosen by `inner` is appended
    have hb := inner_bound cal a hp _ start end_ _ resLen (edgeOf_le a sw.1 end_) sw.2
      (fun s hs => fwd_step cal hc s (hpos sw List.mem_cons_self s hs)) ⟨lod.step, 0⟩ 0 lod' lodEnd h3 (Or.inl rfl) hin
    have hl := badLOD_false hbad
    have hb' : (resLen : Int) + lod'.len + (endOfLOD cal lodEnd lod'.step end_ false).2 ≤ maxPoints :=
      hb.resolve_left (Nat.ne_of_gt hl.2)
    have := Int.natCast_nonneg (endOfLOD cal lodEnd lod'.step end_ false).2
    refine ih (fun sw hsw => hpos sw (List.mem_cons_of_mem _ hsw))
      (by rw [expand_appendLOD, List.length_append, List.length_replicate, h1]) (by push_cast; omega)
      (fun _ => ⟨fwd_step cal hc _ hl.1, ?_⟩) h
    rw [List.isEmpty_eq_false_iff.mpr (appendLOD_ne rlods lod')]
    push_cast
    exact hb'
  | case6 =>
    cases h
    rw [← h1]
    exact h2

theorem genLODs_bound (cal : Cal) (hc : CalOK cal) (a : Args) (hp : isPoint a = false) (lods : List LOD)
    (h : genLODs cal a = .ok lods) : ((expand lods).length : Int) ≤ maxPoints := by
  have := outer_bound cal hc a hp _ (levelsFor a) (fun sw hsw s hs => tbl_pos a s (tbl_sub a sw hsw s hs)) _ 0 [] ⟨0, 0⟩ _
    rfl (by decide) (fun h => absurd rfl h) (genLODs_outer cal a lods h)
  rwa [List.reverse_reverse] at this

theorem maxMetricRes_ge (a : Args) : 1 ≤ maxMetricRes a := by
  unfold maxMetricRes
  have : ∀ (l : List (Int × Int)) (m : Int), 1 ≤ m → 1 ≤ l.foldl (fun m p => if m < p.1 then p.1 else m) m := by
    intro l
    induction l with
    | nil =>
      intro m h
      simpa using h
    | cons p ps ih =>
      intro m h
      simp only [List.foldl_cons]
      apply ih
      split <;> omega
  exact this _ _ (Int.le_refl 1)

theorem minStep_ge (a : Args) (hp : isPoint a = false) :
    1 ≤ minStep a ∧ (isMonth a.step = true → monthStep ≤ minStep a) := by
  have := maxMetricRes_ge a
  unfold minStep
  refine ⟨?_, ?_⟩
  · split
    · exact this
    · rename_i h
      simp at h
      omega
  · intro hm
    have : a.step = monthStep := by simpa [isMonth] using hm
    split
    · rename_i h
      simp [hp] at h
      omega
    · omega

theorem getLastD_cons (s : Int) (ss : List Int) (h : ss ≠ []) : (s :: ss).getLastD 0 = ss.getLastD 0 := by
  cases ss with
  | nil => exact absurd rfl h
  | cons _ _ => rfl

/-- what the inner loop returns, `sL` being the finest (last) step of the level and `fin` saying that the level is the last:
    `e` is this level's (rounded) start stepped `len` times, all `len` points lie before `end_`, and either `end_ ≤ e` or the
    loop fell through all steps of a level that is not the last: then the step is `sL` and all points lie before `edge` -/
def WPost (cal : Cal) (a : Args) (first : Bool) (start end_ edge sL : Int) (fin : Prop) (lod : LOD) (e : Int) : Prop :=
  lod.len = 0 ∨
    (e = segEnd cal lod.step lod.len (lodStartOf cal a first start lod.step) ∧
     (∀ j, j < lod.len → segEnd cal lod.step j (lodStartOf cal a first start lod.step) < end_) ∧
     (end_ ≤ e ∨ (¬ fin ∧ lod.step = sL ∧ ∀ j, j < lod.len → segEnd cal lod.step j (lodStartOf cal a first start lod.step) < edge)))

theorem wpost_exit (cal : Cal) (a : Args) (first : Bool) (start end_ edge sL : Int) (fin : Prop) (s : Int) (hf : Fwd cal s) :
    WPost cal a first start end_ edge sL fin
      ⟨s, (endOfLOD cal (lodStartOf cal a first start s) s end_ false).2⟩
      (endOfLOD cal (lodStartOf cal a first start s) s end_ false).1 := by
  obtain ⟨k, hk, hl⟩ := endOfLOD_spec cal s hf (lodStartOf cal a first start s) end_
  rw [hk]
  right
  exact ⟨rfl, hl.2, Or.inl hl.1⟩

/-- `h0` is asked only for `steps = []`, where the loop falls through. The finest step `sL` is the last one and is never skipped
    (`hns`): when the rest is empty, the step just taken is `sL` and ran up to the edge, the fall-through clause of `WPost` -/
theorem inner_walk (cal : Cal) (hc : CalOK cal) (a : Args) (first : Bool) (start end_ edge : Int) (resLen : Nat)
    (he : edge ≤ end_) (sL : Int) (hsL : 0 < sL) (fin : Prop) (hfin : fin → sL ≤ minStep a)
    (steps : List Int) (hsl : ∀ s ∈ steps, sL ≤ s) (hlast : steps ≠ [] → steps.getLastD 0 = sL)
    (lod : LOD) (lodEnd : Int) (lod' : LOD) (e : Int) (hns : lod.step = 0 ∨ sL ≤ lod.step)
    (h0 : steps = [] → WPost cal a first start end_ edge sL fin lod lodEnd)
    (h : inner cal a first start end_ edge resLen steps lod lodEnd = .done lod' e) :
    WPost cal a first start end_ edge sL fin lod' e ∧ (lod'.step = 0 ∨ sL ≤ lod'.step) := by
  have hfw : ∀ s, sL ≤ s → Fwd cal s := fun s hs => fwd_step cal hc s (Int.lt_of_lt_of_le hsL hs)
  have hrest : ∀ (step : Int) (rest : List Int), (step :: rest).getLastD 0 = sL → rest ≠ [] → rest.getLastD 0 = sL := by
    intro step rest hl hr
    rw [← getLastD_cons step rest hr]
    exact hl
  fun_induction inner cal a first start end_ edge resLen steps lod lodEnd with
  | case1 =>
    cases h
    exact ⟨h0 rfl, hns⟩
  | case2 step rest lod lodEnd hg ih =>
    -- skipped: never the last step of the level
    refine ih (fun s hs => hsl s (List.mem_cons_of_mem _ hs))
      (hrest step rest (hlast (List.cons_ne_nil _ _))) hns ?_ h
    rintro rfl
    have : step = sL := hlast (List.cons_ne_nil _ _)
    simp [grows] at hg
    omega
  | case3 => cases h
  | case4 step rest lod lodEnd _ _ hz =>
    cases h
    exact ⟨wpost_exit cal a first start end_ edge sL fin lod.step (hfw _ (hns.resolve_left (by simpa using hz))), hns⟩
  | case5 step rest lod lodEnd =>
    cases h
    have hs := hsl step List.mem_cons_self
    have := wpost_exit cal a first start end_ edge sL fin step (hfw _ hs)
    rw [endOfLOD_additive cal step (hfw _ hs) (lodStartOf cal a first start step) edge end_ he] at this
    exact ⟨this, Or.inr hs⟩
  | case6 step rest lod lodEnd _ _ hfe ih =>
    have hs := hsl step List.mem_cons_self
    refine ih (fun s hs => hsl s (List.mem_cons_of_mem _ hs))
      (hrest step rest (hlast (List.cons_ne_nil _ _))) (Or.inr hs) ?_ h
    rintro rfl
    have hst : step = sL := hlast (List.cons_ne_nil _ _)
    obtain ⟨k, hk, hl⟩ := endOfLOD_spec cal step (hfw _ hs) (lodStartOf cal a first start step) edge
    rw [hk]
    refine Or.inr ?_
    dsimp only
    refine ⟨rfl, fun j hj => Int.lt_of_lt_of_le (hl.2 j hj) he, Or.inr ⟨fun hf' => ?_, hst, hl.2⟩⟩
    have := hfin hf'
    simp [fineEnough] at hfe
    omega

/-- the walk over `ss` from `A`: its last step is `s`, its last point lies before `end_`, and that last step reaches `end_` -/
def Covers (cal : Cal) (end_ : Int) (ss : List Int) (s A : Int) : Prop :=
  ∃ ss', ss = ss' ++ [s] ∧ (walk cal ss' A).2 < end_ ∧ end_ ≤ (walk cal ss A).2

theorem covers_walk {cal : Cal} {end_ : Int} {ss : List Int} {s A : Int} (h : Covers cal end_ ss s A) :
    ∃ pts L, walk cal ss A = (pts ++ [L], stepForward cal L s) ∧ L < end_ ∧ end_ ≤ stepForward cal L s := by
  obtain ⟨ss', rfl, hlt, hle⟩ := h
  refine ⟨(walk cal ss' A).1, _, ?_, hlt, ?_⟩
  · rw [walk_append]
    rfl
  · rw [walk_append] at hle
    exact hle

theorem covers_replicate (cal : Cal) (end_ s : Int) (n : Nat) (A : Int) (h : segEnd cal s n A < end_)
    (h' : end_ ≤ segEnd cal s (n + 1) A) : Covers cal end_ (List.replicate (n + 1) s) s A := by
  refine ⟨List.replicate n s, List.replicate_succ', ?_, ?_⟩
  · rw [← segEnd_eq_walk]
    exact h
  · rw [← segEnd_eq_walk]
    exact h'

theorem covers_prepend (cal : Cal) (end_ : Int) (xs ss : List Int) (s A : Int)
    (h : Covers cal end_ ss s (walk cal xs A).2) : Covers cal end_ (xs ++ ss) s A := by
  obtain ⟨ss', rfl, hlt, hle⟩ := h
  refine ⟨xs ++ ss', (List.append_assoc _ _ _).symm, ?_, ?_⟩
  · rw [walk_append]
    exact hlt
  · rw [walk_append]
    exact hle

/-- table facts used for coverage, per level (`b` = the finest step of the levels passed, `m` ≤ `minStep`): it has steps; its
    finest (last) step is positive, ≤ `b` and ≤ all its steps; later switch times lie at least that step earlier; that step is
    ≤ `m` for the last level and not monthly for the others -/
def LevOK (m : Int) : Int → List (Int × List Int) → Prop
  | _, [] => True
  | b, sw :: rest =>
    sw.2 ≠ [] ∧ 0 < sw.2.getLastD 0 ∧ sw.2.getLastD 0 ≤ b ∧ (∀ s ∈ sw.2, sw.2.getLastD 0 ≤ s) ∧
      (∀ sw' ∈ rest, sw.2.getLastD 0 + sw'.1 ≤ sw.1) ∧
      (rest = [] → sw.2.getLastD 0 ≤ m) ∧ (rest ≠ [] → isMonth (sw.2.getLastD 0) = false) ∧ LevOK m (sw.2.getLastD 0) rest

theorem LevOK.tail {m b : Int} {sw : Int × List Int} {rest : List (Int × List Int)} (h : LevOK m b (sw :: rest)) :
    LevOK m (sw.2.getLastD 0) rest :=
  h.2.2.2.2.2.2.2

theorem levOK_levels : LevOK 1 monthStep lodLevels := by
  simp only [LevOK, lodLevels]
  decide +kernel

theorem levOK_monthly : LevOK monthStep monthStep lodLevelsMonthly := by
  simp only [LevOK, lodLevelsMonthly]
  decide +kernel

/-- what coverage needs of the loop state: before the first LOD the "last LOD" variable has step 0; afterwards `start` has reached
    `end_` or every later level still lies ahead (`start ≤ now - relSwitch`), and the last step is at least `b` -/
def OInv (a : Args) (end_ b : Int) (rest : List (Int × List Int)) (start : Int) (rlods : List LOD) (lod : LOD) : Prop :=
  (rlods = [] → lod.step = 0) ∧
  (rlods ≠ [] → (end_ ≤ start ∨ (rest ≠ [] ∧ ∀ sw ∈ rest, start ≤ a.now - sw.1)) ∧ b ≤ lod.step)

/-- end-of-range coverage, said of the steps `ext` that the level loop still appends: none (then `start` has reached `end_`, if a
    LOD has been emitted), or they cover up to `end_`, walked from `start`, which is rounded to the first of them (`ext.headD 0`)
    while no LOD has been emitted. A level is left because the walk has reached `end_` or, if it is not the last, because all its
    points lie before its edge `now - relSwitch`: then the next, finer level is not skipped. -/
theorem outer_walk (cal : Cal) (hc : CalOK cal) (a : Args) (hp : isPoint a = false) (end_ m : Int) (hm : m ≤ minStep a)
    (levels : List (Int × List Int)) (b : Int) (hlev : LevOK m b levels)
    (start : Int) (resLen : Nat) (rlods : List LOD) (lod : LOD) (r : List LOD)
    (hI : OInv a end_ b levels start rlods lod) (h : outer cal a end_ levels start resLen rlods lod = .ok r) :
    ∃ ext, expand r.reverse = expand rlods.reverse ++ ext ∧
      ((ext = [] ∧ r = rlods ∧ (rlods ≠ [] → end_ ≤ start)) ∨
       Covers cal end_ ext (step0Of r) (lodStartOf cal a rlods.isEmpty start (ext.headD 0))) := by
  -- the next level's edge lies at least `sL` behind this one's; apart, because `omega` is slow on the context of its use
  have arith : ∀ x e r r' sL : Int, x < e → e ≤ a.now - r → sL + r' ≤ r → x + sL ≤ a.now - r' := by
    intro x e r r' sL h1 h2 h3
    omega
  have hdone : ∀ {b levels start rlods lod}, OInv a end_ b levels start rlods lod → levels = [] ∨ ¬ start < end_ →
      rlods ≠ [] → end_ ≤ start := by
    intro b levels start rlods lod hI hd hr
    rcases hd with hd | hd
    · exact (hI.2 hr).1.resolve_right (fun h => h.1 hd)
    · exact Int.not_lt.mp hd
  fun_induction outer cal a end_ levels start resLen rlods lod generalizing b with
  | case1 =>
    cases h
    exact ⟨[], (List.append_nil _).symm, Or.inl ⟨rfl, rfl, hdone hI (Or.inl rfl)⟩⟩
  | case2 sw rest start resLen rlods lod hlt hskip ih =>
    -- skipped: only before the first LOD
    refine ih _ hlev.tail ⟨hI.1, fun hr => ?_⟩ h
    rcases (hI.2 hr).1 with h3 | h3
    · exact absurd hlt (Int.not_lt.mpr h3)
    · exact absurd hskip (Int.not_lt.mpr (h3.2 sw List.mem_cons_self))
  | case3 => cases h
  | case4 => cases h
  | case5 sw rest start resLen rlods lod _ _ lod' lodEnd hin hbad ih =>
    obtain ⟨hne, hpos, hb, hge, hsw, hfin, hnm, hlev'⟩ := hlev
    have hlod : lod.step = 0 ∨ sw.2.getLastD 0 ≤ lod.step := by
      by_cases hr : rlods = []
      · exact Or.inl (hI.1 hr)
      · exact Or.inr (Int.le_trans hb (hI.2 hr).2)
    obtain ⟨hw, hstep⟩ := inner_walk cal hc a rlods.isEmpty start end_ (edgeOf a sw.1 end_) resLen (edgeOf_le a sw.1 end_)
      (sw.2.getLastD 0) hpos (rest = []) (fun hf => Int.le_trans (hfin hf) hm) sw.2 hge (fun _ => rfl) ⟨lod.step, 0⟩ 0 lod' lodEnd
      hlod (fun hnil => absurd hnil hne) hin
    obtain ⟨n, hn⟩ : ∃ n, lod'.len = n + 1 := ⟨lod'.len - 1, (Nat.sub_add_cancel (badLOD_false hbad).2).symm⟩
    obtain ⟨hw1, hw2, hw3⟩ := hw.resolve_left (by rw [hn]; exact Nat.succ_ne_zero n)
    have hstep' : sw.2.getLastD 0 ≤ lod'.step := hstep.resolve_left (Int.ne_of_gt (badLOD_false hbad).1)
    rw [hn] at hw1 hw2 hw3
    have hnext : end_ ≤ lodEnd ∨ (rest ≠ [] ∧ ∀ sw' ∈ rest, lodEnd ≤ a.now - sw'.1) := by
      rcases hw3 with hw3 | ⟨hnf, hsl, hbe⟩
      · exact Or.inl hw3
      · refine Or.inr ⟨hnf, fun sw' hsw' => ?_⟩
        have hbe' := hbe n (Nat.lt_succ_self n)
        rw [segEnd_succ_out, hsl, stepForward_fixed cal (hnm hnf)] at hw1
        rw [hsl] at hbe'
        rw [hw1]
        exact arith _ _ _ _ _ hbe' (edgeOf_le_now a hp sw.1 end_) (hsw sw' hsw')
    obtain ⟨ext, hext, hres⟩ := ih _ hlev' ⟨fun hnil => absurd hnil (appendLOD_ne _ _), fun _ => ⟨hnext, hstep'⟩⟩ h
    -- this level's `n + 1` steps from its start, then what the later levels append from where it ends
    refine ⟨List.replicate (n + 1) lod'.step ++ ext, by rw [hext, expand_appendLOD, hn, List.append_assoc], Or.inr ?_⟩
    show Covers cal end_ _ _ (lodStartOf cal a rlods.isEmpty start lod'.step)
    rcases hres with ⟨rfl, rfl, hend⟩ | hcov
    · -- nothing more is appended: the loop stopped because this level reached `end_`
      have hreach := hend (appendLOD_ne _ _)
      rw [hw1] at hreach
      rw [List.append_nil, step0Of_appendLOD]
      exact covers_replicate cal end_ _ n _ (hw2 n (Nat.lt_succ_self n)) hreach
    · rw [List.isEmpty_eq_false_iff.mpr (appendLOD_ne rlods lod'), hw1, segEnd_eq_walk] at hcov
      exact covers_prepend cal end_ _ _ _ _ hcov
  | case6 _ _ _ _ _ _ hlt =>
    cases h
    exact ⟨[], (List.append_nil _).symm, Or.inl ⟨rfl, rfl, hdone hI (Or.inr hlt)⟩⟩

/-- coverage on the range shifted by `maxOffset`, where the levels are chosen -/
theorem genLODs_cover (cal : Cal) (hc : CalOK cal) (a : Args) (hp : isPoint a = false) (lods : List LOD)
    (h : genLODs cal a = .ok lods) (hne : lods ≠ []) :
    Covers cal (a.end_ - maxOffset a) (expand lods) (lastStepOf lods)
      (startOfLOD cal (a.start - maxOffset a) (step0Of lods) a.utcOffset) := by
  obtain ⟨rest, hhead⟩ := expand_head lods (genLODs_ok cal a lods h) hne
  have ho := genLODs_outer cal a lods h
  have hms := minStep_ge a hp
  obtain ⟨m, hm, hlev⟩ : ∃ m, m ≤ minStep a ∧ LevOK m monthStep (levelsFor a) := by
    unfold levelsFor
    split
    · exact ⟨monthStep, hms.2 ‹_›, levOK_monthly⟩
    · exact ⟨1, hms.1, levOK_levels⟩
  obtain ⟨ext, hext, hres⟩ := outer_walk cal hc a hp (a.end_ - maxOffset a) m hm (levelsFor a) monthStep hlev _ _ _ _ _
    ⟨fun _ => rfl, fun hx => absurd rfl hx⟩ ho
  rw [List.reverse_reverse, hhead] at hext
  obtain rfl : step0Of lods :: rest = ext := hext
  rw [step0Of_reverse] at hres
  rw [hhead]
  exact hres.resolve_left (fun e => nomatch e.1)

/-! ### translation by an offset, non-monthly steps only: by `maxOffset` (coverage), by the `offset` argument of GetLODs (ranges) -/

theorem segEnd_translate (cal : Cal) (s : Int) (hn : isMonth s = false) (n : Nat) (t c : Int) :
    segEnd cal s n (t + c) = segEnd cal s n t + c := by
  rw [segEnd_fixed cal s hn, segEnd_fixed cal s hn]
  omega

theorem walk_translate (cal : Cal) (ss : List Int) (hn : ∀ s ∈ ss, isMonth s = false) (t c : Int) :
    walk cal ss (t + c) = ((walk cal ss t).1.map (· + c), (walk cal ss t).2 + c) := by
  induction ss generalizing t with
  | nil => rfl
  | cons s ss ih =>
    have hs := hn s List.mem_cons_self
    simp only [walk, stepForward_fixed cal hs, List.map_cons]
    rw [Int.add_right_comm, ih (fun s' h' => hn s' (List.mem_cons_of_mem _ h'))]

theorem covers_translate (cal : Cal) (end_ : Int) (ss : List Int) (s A c : Int) (hn : ∀ x ∈ ss, isMonth x = false)
    (h : Covers cal end_ ss s A) : Covers cal (end_ + c) ss s (A + c) := by
  obtain ⟨ss', rfl, hlt, hle⟩ := h
  refine ⟨ss', rfl, ?_, ?_⟩
  · rw [walk_translate cal ss' (fun x hx => hn x (List.mem_append_left _ hx))]
    exact Int.add_lt_add_right hlt c
  · rw [walk_translate cal _ hn]
    exact Int.add_le_add_right hle c

theorem lodRanges_translate (cal : Cal) (lods : List LOD) (hn : ∀ l ∈ lods, isMonth l.step = false) (t c : Int) :
    lodRanges cal lods (t + c) = (lodRanges cal lods t).map (fun r => (r.1 + c, r.2.1 + c, r.2.2)) := by
  induction lods generalizing t with
  | nil => rfl
  | cons l ls ih =>
    simp only [lodRanges, List.map_cons, segEnd_translate cal l.step (hn l List.mem_cons_self)]
    rw [ih (fun x hx => hn x (List.mem_cons_of_mem _ hx))]

theorem maxOffset_dvd (a : Args) (s0 : Int) (h : offsetsOK a s0 = true) : s0 ∣ maxOffset a := by
  simp only [offsetsOK, List.all_eq_true, beq_iff_eq] at h
  have key : ∀ (l : List (Int × Int)) (m : Int), (∀ p ∈ l, p.2.tmod s0 = 0) → s0 ∣ m →
      s0 ∣ l.foldl (fun m p => if m < p.2 then p.2 else m) m := by
    intro l
    induction l with
    | nil => exact fun _ _ hd => hd
    | cons p ps ih =>
      intro m hl hd
      refine ih _ (fun q hq => hl q (List.mem_cons_of_mem _ hq)) ?_
      show s0 ∣ if m < p.2 then p.2 else m
      split
      · exact Int.dvd_of_tmod_eq_zero (hl p List.mem_cons_self)
      · exact hd
  exact key _ _ h (Int.dvd_zero s0)

/-- coverage on the unshifted range, where the points are laid out -/
theorem cover_unshifted (cal : Cal) (hc : CalOK cal) (a : Args) (hp : isPoint a = false) (lods : List LOD)
    (h : genLODs cal a = .ok lods) (hne : lods ≠ []) (hoff : offsetsOK a (step0Of lods) = true)
    (hm : isMonth a.step = false ∨ maxOffset a = 0) :
    Covers cal a.end_ (expand lods) (lastStepOf lods) (startOfLOD cal a.start (step0Of lods) a.utcOffset) := by
  have hend := genLODs_cover cal hc a hp lods h hne
  by_cases h0 : maxOffset a = 0
  · simp only [h0, Int.sub_zero] at hend
    exact hend
  · have hnm : isMonth a.step = false := hm.resolve_right h0
    have hok := genLODs_ok cal a lods h
    have hsteps : ∀ s ∈ expand lods, isMonth s = false := fun s hs => tbl_fixed a hnm s (expand_mem_tbl hok s hs)
    have hs0m := tbl_fixed a hnm _ (step0_mem hok hne)
    have hs0p := step0_pos a lods hok hne
    have hst : startOfLOD cal a.start (step0Of lods) a.utcOffset =
        startOfLOD cal (a.start - maxOffset a) (step0Of lods) a.utcOffset + maxOffset a := by
      rw [startOfLOD_fixed cal hs0m, startOfLOD_fixed cal hs0m,
        ← roundTime_translate _ _ _ _ hs0p (maxOffset_dvd a _ hoff), Int.sub_add_cancel]
    have := covers_translate cal _ _ _ _ (maxOffset a) hsteps hend
    rw [Int.sub_add_cancel, ← hst] at this
    exact this

/-- a point query never stops at the point limit, so `inner` leaves a level only when its LOD reaches `end_` -/
theorem inner_point (cal : Cal) (a : Args) (hp : isPoint a = true) (first : Bool) (start end_ : Int) (resLen : Nat)
    (steps : List Int) (hf : ∀ s ∈ steps, Fwd cal s) (lod : LOD) (lodEnd : Int) (lod' : LOD) (e : Int)
    (h0 : lod.len = 0 ∨ end_ ≤ lodEnd) (h : inner cal a first start end_ end_ resLen steps lod lodEnd = .done lod' e) :
    lod'.len = 0 ∨ end_ ≤ e := by
  fun_induction inner cal a first start end_ end_ resLen steps lod lodEnd with
  | case1 =>
    cases h
    exact h0
  | case2 step rest lod lodEnd _ ih =>
    exact ih (fun s hs => hf s (List.mem_cons_of_mem _ hs)) h0 h
  | case3 => cases h
  | case4 step rest lod lodEnd _ hov =>
    -- over the limit: not for a point query
    simp [overLimit, hp] at hov
  | case5 step =>
    cases h
    exact Or.inr (endOfLOD_reaches cal step (hf step List.mem_cons_self) _ end_)
  | case6 step rest lod lodEnd _ _ _ ih =>
    -- the edge is `end_`
    exact ih (fun s hs => hf s (List.mem_cons_of_mem _ hs))
      (Or.inr (endOfLOD_reaches cal step (hf step List.mem_cons_self) _ end_)) h

theorem outer_point (cal : Cal) (a : Args) (hp : isPoint a = true) (end_ : Int)
    (levels : List (Int × List Int)) (hfw : ∀ sw ∈ levels, ∀ s ∈ sw.2, Fwd cal s)
    (start : Int) (resLen : Nat) (rlods : List LOD) (lod : LOD) (r : List LOD)
    (hI : rlods = [] ∨ (rlods.length = 1 ∧ end_ ≤ start))
    (h : outer cal a end_ levels start resLen rlods lod = .ok r) : r.length ≤ 1 := by
  have hdone : ∀ (rlods : List LOD) (start : Int), rlods = [] ∨ (rlods.length = 1 ∧ end_ ≤ start) → rlods.length ≤ 1 := by
    intro rlods start hI
    rcases hI with h | h
    · rw [h]
      exact Nat.zero_le _
    · omega
  fun_induction outer cal a end_ levels start resLen rlods lod with
  | case1 =>
    cases h
    exact hdone _ _ hI
  | case2 sw rest start resLen rlods lod hlt _ ih =>
    exact ih (fun s hs => hfw s (List.mem_cons_of_mem _ hs)) (Or.inl (hI.resolve_right (by omega))) h
  | case3 => cases h
  | case4 => cases h
  | case5 sw rest start resLen rlods lod hlt _ lod' lodEnd hin hbad ih =>
    -- the appended LOD is the first and reaches `end_`
    refine ih (fun s hs => hfw s (List.mem_cons_of_mem _ hs)) ?_ h
    have hnil : rlods = [] := hI.resolve_right (by omega)
    have hedge : edgeOf a sw.1 end_ = end_ := by simp [edgeOf, hp]
    rw [hedge] at hin
    have := inner_point cal a hp _ start end_ resLen sw.2 (hfw sw List.mem_cons_self) ⟨lod.step, 0⟩ 0 lod' lodEnd (Or.inl rfl) hin
    rw [hnil]
    exact Or.inr ⟨rfl, this.resolve_left (by have := (badLOD_false hbad).2; omega)⟩
  | case6 =>
    cases h
    exact hdone _ _ hI

theorem genLODs_point_single (cal : Cal) (hc : CalOK cal) (a : Args) (hp : isPoint a = true) (lods : List LOD)
    (h : genLODs cal a = .ok lods) : lods.length ≤ 1 := by
  have := outer_point cal a hp _ (levelsFor a) (fun sw hsw s hs => tbl_fwd cal hc a s (tbl_sub a sw hsw s hs)) _ _ _ _ _
    (Or.inl rfl) (genLODs_outer cal a lods h)
  rwa [List.length_reverse] at this

/-- a point result is empty or `[from, to)`: `from` is `startOfLOD(Start)` or the grid point after it, `to = endOfLOD(from, End)` -/
theorem pointTS_cases (cal : Cal) (a : Args) (lods : List LOD) (s0 : Int) :
    pointTS cal a lods s0 = TS.empty ∨
    ∃ t, ((t = startOfLOD cal a.start s0 a.utcOffset ∧ (a.extend = true ∨ a.start ≤ t)) ∨
          (a.extend = false ∧ t = stepForward cal (startOfLOD cal a.start s0 a.utcOffset) s0)) ∧
      t ≠ (endOfLOD cal t s0 a.end_ (!a.extend)).1 ∧
      pointTS cal a lods s0 = ⟨[t, (endOfLOD cal t s0 a.end_ (!a.extend)).1], lods, 0, 0, 1⟩ := by
  unfold pointTS
  dsimp only
  generalize startOfLOD cal a.start s0 a.utcOffset = t0
  generalize ht : (if (decide (t0 < a.start) && !a.extend) = true then stepForward cal t0 s0 else t0) = t
  by_cases he : (t == (endOfLOD cal t s0 a.end_ (!a.extend)).1) = true
  · exact Or.inl (if_pos he)
  · refine Or.inr ⟨t, ?_, by simpa using he, if_neg he⟩
    split at ht
    · rename_i hc
      simp only [Bool.and_eq_true, decide_eq_true_eq, Bool.not_eq_eq_eq_not, Bool.not_true] at hc
      exact Or.inr ⟨hc.2, ht.symm⟩
    · rename_i hc
      simp only [Bool.and_eq_true, decide_eq_true_eq, Bool.not_eq_eq_eq_not, Bool.not_true, not_and, Bool.not_eq_false] at hc
      refine Or.inl ⟨ht.symm, ?_⟩
      by_cases hlt : t0 < a.start
      · exact Or.inl (hc hlt)
      · exact Or.inr (ht ▸ Int.le_of_not_gt hlt)

theorem indexOf_grid (cal : Cal) (s : Int) (hf : Fwd cal s) (hp : 0 < s) (from_ to_ : Int) (i : Nat) :
    indexOf cal (from_, to_, s) (segEnd cal s i from_) = some (i : Int) := by
  unfold indexOf
  by_cases hm : isMonth s = true
  · simp only [hm, if_true]
    obtain ⟨k, hk, hl⟩ := endOfLOD_spec cal s hf from_ (segEnd cal s i from_)
    have hi : Least cal s (segEnd cal s i from_) from_ i :=
      ⟨Int.le_refl _, fun j hj => segEnd_lt cal s hf j i hj from_⟩
    have := least_unique cal s _ from_ k i hl hi
    subst this
    simp [hk]
  · have hn : isMonth s = false := by simpa using hm
    simp only [hn, Bool.false_eq_true, if_false, segEnd_fixed cal s hn]
    rw [Int.add_comm from_, Int.add_sub_cancel, Int.mul_tmod_left, Int.mul_tdiv_cancel _ (Int.ne_of_gt hp)]
    simp

end SH.C22
