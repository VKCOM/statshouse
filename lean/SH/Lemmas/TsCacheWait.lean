/-
  SH.Lemmas.TsCacheWait — message bookkeeping of the series-cache model (property C23, helper development).
  Statement vocabulary defined here: `awC`/`awCount` (awaiters a request has registered), `occ`/`cover` (in-flight loads
  covering a chunk).  Entry points: `WInv`, `Both`, `run_B`, `idle_all_finished`.

  `waitN` of an unfinished request equals the messages it still has to receive: one for its own load plus one per
  awaiter it registered; an attached chunk's `loading` equals the number of in-flight loads covering it; a chunk that has
  awaiters is covered by an in-flight load.  Hence every awaiter gets exactly one message when a load covering its
  chunk finishes (ok or error), and nobody is left waiting once no load is in flight.
-/
import SH.Lemmas.TsCachePlace
namespace SH.TsCache.Wait
open SH.TsCache SH.TsCache.Place

/-- awaiters of chunk `c` registered by loader `id` -/
def awC (id : Nat) (c : Chunk) : Int := ((c.awaiters.countP (fun a => a.req == id) : Nat) : Int)

/-- awaiters registered by loader `id` over all chunks -/
def awCount (id : Nat) : List Chunk → Int
  | [] => 0
  | c :: cs => awC id c + awCount id cs

/-- occurrences of chunk `cid` in a loader's chunk list -/
def occ (cid : Nat) (vs : List LChunk) : Int := ((vs.countP (fun v => v.cid == cid) : Nat) : Int)

/-- number of in-flight loads covering chunk `cid` -/
def cover (cid : Nat) : List Loader → Int
  | [] => 0
  | l :: ls => (if l.loadPending then occ cid l.chunks else 0) + cover cid ls

theorem awC_nonneg (id : Nat) (c : Chunk) : 0 ≤ awC id c := by simp only [awC]; omega
theorem awCount_nonneg (id : Nat) (cs : List Chunk) : 0 ≤ awCount id cs := by
  induction cs with
  | nil => simp [awCount]
  | cons c cs ih => simp only [awCount]; have := awC_nonneg id c; omega
theorem occ_nonneg (cid : Nat) (vs : List LChunk) : 0 ≤ occ cid vs := by simp only [occ]; omega
theorem cover_nonneg (cid : Nat) (ls : List Loader) : 0 ≤ cover cid ls := by
  induction ls with
  | nil => simp [cover]
  | cons l ls ih => simp only [cover]; have := occ_nonneg cid l.chunks; split <;> omega

theorem awC_noChunk (id : Nat) : awC id noChunk = 0 := by simp [awC, noChunk]

theorem awCount_modAt (id : Nat) (f : Chunk → Chunk) (i : Nat) (cs : List Chunk)
    (hd : i < cs.length ∨ awC id (f noChunk) = 0) :
    awCount id (modAt f i cs) = awCount id cs + (awC id (f (getChunk cs i)) - awC id (getChunk cs i)) := by
  induction cs generalizing i with
  | nil =>
    rcases hd with hd | hd
    · cases hd
    · simp [modAt, awCount, getChunk, hd, awC_noChunk]
  | cons c cs ih =>
    cases i with
    | zero => simp only [modAt, awCount, getChunk, List.getD_cons_zero]; omega
    | succ i =>
      have := ih i (hd.imp (fun h => by simpa using h) (fun h => h))
      simp only [modAt, awCount, getChunk, List.getD_cons_succ] at this ⊢
      omega

theorem awCount_modAt_same (id : Nat) (f : Chunk → Chunk) (hf : ∀ c, (f c).awaiters = c.awaiters) (i : Nat) (cs : List Chunk) :
    awCount id (modAt f i cs) = awCount id cs := by
  rw [awCount_modAt id f i cs (Or.inr (by simp [awC, hf, noChunk]))]
  simp [awC, hf]

theorem awCount_append (id : Nat) (cs : List Chunk) (x : Chunk) : awCount id (cs ++ [x]) = awCount id cs + awC id x := by
  induction cs with
  | nil => simp [awCount]
  | cons c cs ih => simp only [List.cons_append, awCount, ih]; omega

theorem awC_le_awCount (id : Nat) (cs : List Chunk) (i : Nat) : awC id (getChunk cs i) ≤ awCount id cs := by
  induction cs generalizing i with
  | nil => simp [getChunk, awC_noChunk, awCount]
  | cons c cs ih =>
    cases i with
    | zero => simp only [getChunk, List.getD_cons_zero, awCount]; have := awCount_nonneg id cs; omega
    | succ i =>
      have := ih i
      simp only [getChunk, List.getD_cons_succ, awCount] at this ⊢
      have := awC_nonneg id c; omega

theorem awCount_congr (id : Nat) (cs cs' : List Chunk) (hl : cs'.length = cs.length)
    (h : ∀ j, (getChunk cs' j).awaiters = (getChunk cs j).awaiters) : awCount id cs' = awCount id cs := by
  induction cs generalizing cs' with
  | nil => cases cs' with
    | nil => rfl
    | cons _ _ => simp at hl
  | cons c cs ih =>
    cases cs' with
    | nil => simp at hl
    | cons c' cs' =>
      simp only [awCount]
      have h0 := h 0
      simp only [getChunk, List.getD_cons_zero] at h0
      rw [ih cs' (by simpa using hl) (fun j => by simpa [getChunk] using h (j + 1))]
      simp only [awC, h0]

theorem awCount_zero_of (id : Nat) (cs : List Chunk) (h : ∀ j, ∀ a ∈ (getChunk cs j).awaiters, a.req ≠ id) :
    awCount id cs = 0 := by
  induction cs with
  | nil => rfl
  | cons c cs ih =>
    simp only [awCount]
    rw [ih (fun j a ha => h (j + 1) a (by simpa [getChunk] using ha))]
    have h0 := h 0
    simp only [getChunk, List.getD_cons_zero] at h0
    have : c.awaiters.countP (fun a => a.req == id) = 0 := by
      rw [List.countP_eq_zero]
      intro a ha
      simpa using h0 a ha
    simp [awC, this]

theorem occ_nil (cid : Nat) : occ cid [] = 0 := by simp [occ]

theorem occ_cons (cid : Nat) (v : LChunk) (vs : List LChunk) :
    occ cid (v :: vs) = (if v.cid = cid then 1 else 0) + occ cid vs := by
  simp only [occ, List.countP_cons, beq_iff_eq]
  split <;> omega

theorem occ_single (cid : Nat) (v : LChunk) : occ cid [v] = if v.cid = cid then 1 else 0 := by
  rw [occ_cons, occ_nil]; omega

theorem occ_append (cid : Nat) (vs ws : List LChunk) : occ cid (vs ++ ws) = occ cid vs + occ cid ws := by
  simp only [occ, List.countP_append]; omega

theorem occ_zero_of (cid : Nat) (vs : List LChunk) (h : ∀ v ∈ vs, v.cid ≠ cid) : occ cid vs = 0 := by
  induction vs with
  | nil => exact occ_nil cid
  | cons v vs ih =>
    rw [occ_cons, ih (fun w hw => h w (List.mem_cons_of_mem _ hw))]
    have := h v (List.mem_cons_self ..)
    simp only [this, if_false]; rfl

theorem cover_append (cid : Nat) (ls : List Loader) (l : Loader) :
    cover cid (ls ++ [l]) = cover cid ls + (if l.loadPending then occ cid l.chunks else 0) := by
  induction ls with
  | nil => simp [cover]
  | cons x xs ih => simp only [List.cons_append, cover, ih]; omega

theorem cover_map (cid : Nat) (f : Loader → Loader) (ls : List Loader)
    (hf : ∀ x ∈ ls, (f x).loadPending = x.loadPending ∧ (f x).chunks = x.chunks) : cover cid (ls.map f) = cover cid ls := by
  induction ls with
  | nil => rfl
  | cons x xs ih =>
    simp only [List.map_cons, cover]
    rw [ih (fun y hy => hf y (List.mem_cons_of_mem _ hy)), (hf x (List.mem_cons_self ..)).1, (hf x (List.mem_cons_self ..)).2]

theorem cover_zero_of (cid : Nat) (ls : List Loader) (h : ∀ l ∈ ls, ∀ v ∈ l.chunks, v.cid ≠ cid) : cover cid ls = 0 := by
  induction ls with
  | nil => rfl
  | cons l ls ih =>
    simp only [cover]
    rw [ih (fun x hx => h x (List.mem_cons_of_mem _ hx)), occ_zero_of cid l.chunks (h l (List.mem_cons_self ..))]
    split <;> rfl

theorem cover_zero_idle (cid : Nat) (ls : List Loader) (h : ∀ l ∈ ls, l.loadPending = false) : cover cid ls = 0 := by
  induction ls with
  | nil => rfl
  | cons l ls ih =>
    simp only [cover, h l (List.mem_cons_self ..), Bool.false_eq_true, if_false]
    rw [ih (fun x hx => h x (List.mem_cons_of_mem _ hx))]; rfl

theorem cover_pos (cid : Nat) (ls : List Loader) (h : 0 < cover cid ls) :
    ∃ l ∈ ls, l.loadPending = true ∧ ∃ v ∈ l.chunks, v.cid = cid := by
  induction ls with
  | nil => simp [cover] at h
  | cons l ls ih =>
    simp only [cover] at h
    by_cases hp : l.loadPending = true ∧ 0 < occ cid l.chunks
    · refine ⟨l, List.mem_cons_self .., hp.1, ?_⟩
      have := hp.2
      simp only [occ] at this
      have : 0 < l.chunks.countP (fun v => v.cid == cid) := by omega
      obtain ⟨v, hv, e⟩ := List.countP_pos_iff.mp this
      exact ⟨v, hv, by simpa using e⟩
    · have : 0 < cover cid ls := by
        have := occ_nonneg cid l.chunks
        split at h
        · rename_i hpp
          have : ¬ 0 < occ cid l.chunks := fun x => hp ⟨hpp, x⟩
          omega
        · omega
      obtain ⟨x, hx, r⟩ := ih this
      exact ⟨x, List.mem_cons_of_mem _ hx, r⟩


/-- bookkeeping of loader `x` when `n` awaiter messages are still owed to it -/
def WL (x : Loader) (n : Int) : Prop :=
  (x.finished = false → (x.waitN : Int) = (if x.loadPending then 1 else 0) + n ∧ x.waitN ≠ 0) ∧
  (x.finished = true → n = 0 ∧ x.loadPending = false)

theorem WL_recv {x y : Loader} {n m : Int} (hm : 0 ≤ m) (hw : y.waitN = x.waitN - 1)
    (hf : y.finished = (x.waitN - 1 == 0 || x.finished))
    (hT : (if y.loadPending then 1 else 0 : Int) + m = (if x.loadPending then 1 else 0) + n - 1) (h : WL x n) : WL y m := by
  obtain ⟨h1, h2⟩ := h
  cases hx : x.finished with
  | true =>
    obtain ⟨a, b⟩ := h2 hx
    rw [b] at hT
    simp only [Bool.false_eq_true, if_false] at hT
    split at hT <;> omega
  | false =>
    obtain ⟨e, hne⟩ := h1 hx
    rw [hx, Bool.or_false] at hf
    generalize (if x.loadPending = true then (1 : Int) else 0) = px at hT e
    generalize x.waitN = w at *
    refine ⟨fun hy => ?_, fun hy => ?_⟩
    · have hz : w - 1 ≠ 0 := by simpa [hf] using hy
      rw [hw]
      exact ⟨by omega, hz⟩
    · have hz : w - 1 = 0 := by simpa [hf] using hy
      cases hyp : y.loadPending with
      | true => simp only [hyp, if_true] at hT; omega
      | false => simp only [hyp, Bool.false_eq_true, if_false] at hT; exact ⟨by omega, rfl⟩

theorem deliver_WL (ok : Bool) (cd : List Slot) (a : Awaiter) (x : Loader) (n : Int) (hn : 0 ≤ n) (hid : x.id = a.req)
    (h : WL x (n + 1)) : WL (deliver ok cd a x) n := by
  rw [deliver_eq ok cd a x hid]
  exact WL_recv hn rfl rfl (by simp only []; omega) h

theorem ownMessage_WL (ok : Bool) (data : List Slot) (x : Loader) (n : Int) (hn : 0 ≤ n) (hp : x.loadPending = true)
    (h : WL x n) : WL (ownMessage ok data x) n := by
  rw [ownMessage_eq]
  exact WL_recv hn rfl rfl (by simp only [hp, if_true, Bool.false_eq_true, if_false]; omega) h

theorem runLoader_WL (l : Loader) (hp : l.loadPending = false) (hf : l.finished = false) : WL (runLoader l) l.waitN := by
  rw [runLoader_eq]
  cases he : l.chunks.isEmpty <;> simp [WL, hp, hf] <;> omega


/-- message bookkeeping of a state: `w1` what is owed to each request (`WL`), `w2` a chunk with awaiters is covered by an
    in-flight load, `w5` `loading` of an attached chunk counts the in-flight loads covering it, `pb` bucket chunk lists
    are duplicate-free and attached, `bkeys` bucket keys are distinct -/
structure WInv (s : St) : Prop where
  w1 : ∀ l ∈ s.loaders, WL l (awCount l.id s.chunks)
  w2 : ∀ cid, (getChunk s.chunks cid).awaiters ≠ [] → 0 < cover cid s.loaders
  w5 : ∀ cid, (getChunk s.chunks cid).detached = false → (getChunk s.chunks cid).loading = cover cid s.loaders
  pb : ∀ b ∈ s.buckets, b.cids.Nodup ∧ ∀ cid ∈ b.cids, cid < s.chunks.length ∧ (getChunk s.chunks cid).detached = false
  bkeys : (s.buckets.map (·.key)).Nodup

/-- what `w2` and `w5` say of one chunk when `n` loads in flight cover it -/
def BookAt (c : Chunk) (n : Int) : Prop := (c.awaiters ≠ [] → 0 < n) ∧ (c.detached = false → c.loading = n)

theorem BookAt_noChunk (n : Int) : BookAt noChunk n := ⟨fun h => absurd rfl h, fun h => nomatch h⟩

theorem BookAt_modAt {cs : List Chunk} {n n' : Nat → Int} (f : Chunk → Chunk) (i : Nat) (hn : ∀ cid, cid ≠ i → n' cid = n cid)
    (hi : i < cs.length → BookAt (getChunk cs i) (n i) → BookAt (f (getChunk cs i)) (n' i))
    (h : ∀ cid, BookAt (getChunk cs cid) (n cid)) (cid : Nat) : BookAt (getChunk (modAt f i cs) cid) (n' cid) := by
  by_cases e : cid = i
  · subst e
    rw [getChunk_modAt_eq]
    split
    · rename_i hlt; exact hi hlt (h cid)
    · exact BookAt_noChunk _
  · rw [getChunk_modAt_ne _ _ _ _ e, hn cid e]; exact h cid

/-- The bookkeeping of `WInv` for a store and loaders, where the chunk references `extra` count as loads in flight: the
    chunks a finishing load has still to publish (`Book_fin`), the chunks a request being set up will load (`CW`). -/
structure Book (cs : List Chunk) (ls : List Loader) (extra : List LChunk) : Prop where
  b1 : ∀ x ∈ ls, WL x (awCount x.id cs)
  ch : ∀ cid, BookAt (getChunk cs cid) (cover cid ls + occ cid extra)

theorem Book.b2 {cs : List Chunk} {ls : List Loader} {extra : List LChunk} (h : Book cs ls extra) (cid : Nat)
    (hne : (getChunk cs cid).awaiters ≠ []) : 0 < cover cid ls + occ cid extra := (h.ch cid).1 hne

theorem Book.b5 {cs : List Chunk} {ls : List Loader} {extra : List LChunk} (h : Book cs ls extra) (cid : Nat)
    (hd : (getChunk cs cid).detached = false) : (getChunk cs cid).loading = cover cid ls + occ cid extra := (h.ch cid).2 hd

/-- ids of attached chunks, without repetition -/
def AT (cs : List Chunk) (cids : List Nat) : Prop :=
  cids.Nodup ∧ ∀ cid ∈ cids, cid < cs.length ∧ (getChunk cs cid).detached = false

theorem AT_mono {cs cs' : List Chunk} {cids : List Nat} (h : Grows cs cs') (ha : AT cs cids) : AT cs' cids :=
  ⟨ha.1, fun cid hc => ⟨Nat.lt_of_lt_of_le (ha.2 cid hc).1 h.len, by
    rw [(h.old cid (ha.2 cid hc).1).2.2]
    exact (ha.2 cid hc).2⟩⟩

/-- a chunk that gets detached drops out of `b5` -/
theorem Book_frame {cs cs' : List Chunk} {ls : List Loader} {extra : List LChunk} (hl : cs'.length = cs.length)
    (hc : Each (fun c c' => c'.awaiters = c.awaiters ∧ (c'.detached = false → c.detached = false ∧ c'.loading = c.loading)) cs cs')
    (h : Book cs ls extra) : Book cs' ls extra := by
  refine ⟨fun x hx => ?_, fun cid => ⟨fun hne => ?_, fun hd => ?_⟩⟩
  · rw [awCount_congr _ _ _ hl (fun j => (hc j).1)]; exact h.b1 x hx
  · rw [(hc cid).1] at hne; exact h.b2 cid hne
  · obtain ⟨d, e⟩ := (hc cid).2 hd
    rw [e]; exact h.b5 cid d

theorem WInv.book {s : St} (h : WInv s) : Book s.chunks s.loaders [] :=
  ⟨h.w1, fun cid => ⟨fun hne => by rw [occ_nil]; have := h.w2 cid hne; omega,
    fun hd => by rw [occ_nil]; have := h.w5 cid hd; omega⟩⟩

theorem Book.winv {s : St} (h : Book s.chunks s.loaders []) (pb : ∀ b ∈ s.buckets, AT s.chunks b.cids)
    (bk : (s.buckets.map (·.key)).Nodup) : WInv s :=
  ⟨h.b1, fun cid hne => by have := h.b2 cid hne; rw [occ_nil] at this; omega,
    fun cid hd => by have := h.b5 cid hd; rw [occ_nil] at this; omega, pb, bk⟩

theorem WInv.ghost {s : St} (h : WInv s) (m so : Int) (d : Bool) (n : Nat) (c : Int) :
    WInv { s with maxSize := m, soft := so, down := d, tick := n, clock := c } :=
  ⟨h.w1, h.w2, h.w5, h.pb, h.bkeys⟩


/-- The bucket passed over keeps ids of untouched chunks (its list is duplicate-free); a chunk of another bucket carries that
    bucket's key (`PInv`), so the pass did not touch it. -/
theorem pass_W {s s' : St} (hp : TrimPass s s') (hP : PInv s) (h : WInv s) : WInv s' := by
  rcases hp with rfl | ⟨b, hb, t, bs', info', rfl, _, _, hbk⟩
  · exact h
  obtain ⟨hkeys, hbs⟩ := hbk h.bkeys
  obtain ⟨hnd, hatt⟩ := h.pb b hb
  obtain ⟨ra, rb, rc, rk⟩ := removeUnusedGo_spec t 0 0 b.cids s.chunks
  refine Book.winv (Book_frame rb ((removeUnusedGo_touched t 0 0 b.cids s.chunks).each (fun _ => ⟨rfl, fun h => ⟨h, rfl⟩⟩)
    (fun _ => ⟨rfl, fun h => nomatch h⟩)) h.book) (fun b' hb' => ?_) hkeys
  show AT (removeUnusedGo t 0 0 b.cids s.chunks).2.1 b'.cids
  rcases hbs b' hb' with ⟨_, e2⟩ | ⟨e1, e2⟩
  · rw [e2]
    refine ⟨ra.nodup hnd, fun cid hc => ?_⟩
    rw [rk hnd cid hc, rb]
    exact hatt cid (ra.subset hc)
  · obtain ⟨n1, n2⟩ := h.pb b' e1
    refine ⟨n1, fun cid hc => ?_⟩
    rcases rc cid with e | ⟨e, _⟩
    · rw [e, rb]; exact n2 cid hc
    · exact absurd ((hP.bucket e1 hc).2.symm.trans (hP.bucket hb e).2) e2

theorem opInv_W (s : St) (secs : List Int) (now : Int) (h : WInv s) : WInv (opInv s secs now) := by
  have hm := opInv_marked s secs now
  refine Book.winv (Book_frame hm.1 (hm.each (fun _ => ⟨rfl, fun h => ⟨h, rfl⟩⟩) (fun _ => ⟨rfl, fun h => ⟨h, rfl⟩⟩)) h.book)
    (fun b hb => ⟨(h.pb b hb).1, fun cid hc => ?_⟩) h.bkeys
  have kd := hm.each (R := fun c c' => c'.detached = c.detached) (fun _ => rfl) (fun _ => rfl) cid
  rw [hm.1, kd]
  exact (h.pb b hb).2 cid hc


/-- every awaiter gets exactly one message: `msg` takes one awaiter off the chunk and one message off its request -/
theorem Book_fin (cfg : Cfg) (ok : Bool) (data cells : List Slot) (base : Nat) :
    FinInv cfg ok data cells base (fun cs ls _ vs => Book cs ls vs) where
  msg := by
    intro cs ls start v rest a as hlt ha h
    have hcount : ∀ id, awCount id cs = awCount id (modAt (fun c => { c with awaiters := as }) v.cid cs) +
        (if a.req = id then 1 else 0) := by
      intro id
      rw [awCount_modAt id _ _ _ (Or.inl hlt)]
      simp only [awC, ha, List.countP_cons, beq_iff_eq]
      split <;> omega
    have hcov : ∀ cid, cover cid (ls.map (deliver ok (chunkData cfg ok data cells base start) a)) = cover cid ls :=
      fun cid => cover_map cid _ ls (fun x _ => by
        obtain ⟨d, w, e, f, hd⟩ := deliver_frame ok (chunkData cfg ok data cells base start) a x
        rw [hd]; exact ⟨rfl, rfl⟩)
    refine ⟨?_, fun cid => ?_⟩
    · intro y hy
      obtain ⟨x, hx, rfl⟩ := List.mem_map.mp hy
      have hw := h.b1 x hx
      rw [hcount] at hw
      by_cases hid : x.id = a.req
      · rw [show (deliver ok _ a x).id = x.id by rw [deliver_eq ok _ a x hid]]
        rw [if_pos hid.symm] at hw
        exact deliver_WL ok _ a x _ (awCount_nonneg _ _) hid hw
      · rw [deliver_ne ok _ a x hid]
        rwa [if_neg (fun e => hid e.symm), Int.add_zero] at hw
    · -- the chunk is still to be published: it stays covered
      rw [hcov]
      exact BookAt_modAt _ v.cid (fun _ _ => rfl)
        (fun _ hb => ⟨fun _ => hb.1 (by rw [ha]; exact List.cons_ne_nil _ _), hb.2⟩) h.ch cid
  pub := by
    intro cs ls start v rest bytes ha h
    have hnone := publish_awaiters ok (chunkData cfg ok data cells base start) bytes (getChunk cs v.cid)
    have hdet := (publish_keeps ok (chunkData cfg ok data cells base start) bytes (getChunk cs v.cid)).2.2
    have hload := publish_loading ok (chunkData cfg ok data cells base start) bytes (getChunk cs v.cid)
    have hcount : ∀ id, awCount id (modAt (publish ok (chunkData cfg ok data cells base start) bytes) v.cid cs) = awCount id cs := by
      intro id
      rw [awCount_modAt id _ _ _ (Or.inr (by simp [awC, publish_awaiters]))]
      simp only [awC, hnone, ha, Int.sub_self, Int.add_zero]
    -- the published chunk has one load less and leaves the chunks still to publish
    refine ⟨fun x hx => by rw [hcount]; exact h.b1 x hx, BookAt_modAt _ v.cid
      (fun cid e => by rw [occ_cons, if_neg (fun x => e x.symm), Int.zero_add])
      (fun _ hb => ⟨fun hne => absurd hnone hne, fun hd => ?_⟩) h.ch⟩
    have := hb.2 (hdet ▸ hd)
    rw [occ_cons, if_pos rfl] at this
    rw [hload (hdet ▸ hd)]
    omega

theorem cover_own (cid : Nat) (ok : Bool) (data : List Slot) (l0 : Loader) (ls : List Loader)
    (nd : (ls.map (·.id)).Nodup) (hl : l0 ∈ ls) (hp : l0.loadPending = true) :
    cover cid (ls.map (fun x => if x.id == l0.id then ownMessage ok data x else x)) = cover cid ls - occ cid l0.chunks := by
  induction ls with
  | nil => cases hl
  | cons x xs ih =>
    simp only [List.map_cons, List.nodup_cons, List.mem_map, not_exists, not_and] at nd
    simp only [List.map_cons, cover]
    simp only [List.mem_cons] at hl
    rcases hl with rfl | hl
    · have e1 : (ownMessage ok data l0).loadPending = false := by rw [ownMessage_eq]
      simp only [beq_self_eq_true, if_true, e1, hp, Bool.false_eq_true, if_false]
      have : cover cid (xs.map (fun x => if x.id == l0.id then ownMessage ok data x else x)) = cover cid xs := by
        apply cover_map
        intro y hy
        have : ¬ (y.id == l0.id) = true := by
          intro e; exact nd.1 y hy (by simpa using e)
        simp only [this]; exact ⟨rfl, rfl⟩
      rw [this]; omega
    · have hne : (x.id == l0.id) = false := by
        cases he : (x.id == l0.id) with
        | false => rfl
        | true => exact absurd ((by simpa using he : x.id = l0.id)).symm (nd.1 l0 hl)
      simp only [hne, Bool.false_eq_true, if_false]
      rw [ih nd.2 hl]; omega

/-- bucket id lists stay duplicate-free and attached through the post-load loop (`pb` of `finPre_W`) -/
theorem AT_fin (cfg : Cfg) (ok : Bool) (data cells : List Slot) (base : Nat) (cids : List Nat) :
    FinInv cfg ok data cells base (fun cs _ _ _ => AT cs cids) where
  msg := fun cs _ _ v _ _ as _ _ h => ⟨h.1, fun cid hc => by
    rw [length_modAt, Each_modAt (R := fun c c' => c'.detached = c.detached) (fun _ => rfl) _ v.cid cs rfl cid]
    exact h.2 cid hc⟩
  pub := fun cs _ _ v _ _ _ h => ⟨h.1, fun cid hc => by
    rw [length_modAt, Each_modAt (R := fun c c' => c'.detached = c.detached) (fun _ => rfl) _ v.cid cs (publish_keeps ..).2.2 cid]
    exact h.2 cid hc⟩

theorem finPre_W (s : St) (l : Loader) (first : LChunk) (ok : Bool) (ver : Nat) (hl : l ∈ s.loaders)
    (hpnd : l.loadPending = true) (hp : PInv s) (hw : WInv s) : WInv (finPre s l first ok ver) := by
  unfold finPre
  simp only []
  generalize (if ok = true then setRange l.data first.pos (stubCells s.cfg l.key ver l.id s.tick
      ((getChunk s.chunks first.cid).start / nsec) (l.chunks.length * s.cfg.K)) else l.data) = data
  generalize stubCells s.cfg l.key ver l.id s.tick ((getChunk s.chunks first.cid).start / nsec)
      (l.chunks.length * s.cfg.K) = cells
  have hF0 : Book s.chunks (s.loaders.map (fun x => if x.id == l.id then ownMessage ok data x else x)) l.chunks := by
    refine ⟨?_, fun cid => ⟨fun hne => ?_, fun hd => ?_⟩⟩
    · intro y hy
      rcases mem_map_own hp.nd hl _ hy with rfl | hy
      · rw [show (ownMessage ok data l).id = l.id by rw [ownMessage_eq]]
        exact ownMessage_WL ok data l _ (awCount_nonneg _ _) hpnd (hw.w1 l hl)
      · exact hw.w1 y hy
    · rw [cover_own cid ok data l s.loaders hp.nd hl hpnd]
      have := hw.w2 cid hne
      omega
    · rw [cover_own cid ok data l s.loaders hp.nd hl hpnd]
      have := hw.w5 cid hd
      omega
  have hF := (Book_fin s.cfg ok data cells first.pos).run l.chunks
    { chunks := s.chunks, loaders := s.loaders.map (fun x => if x.id == l.id then ownMessage ok data x else x),
      dsize := 0, start := first.pos } hF0
  exact Book.winv hF (fun b hb => (AT_fin s.cfg ok data cells first.pos b.cids).run l.chunks
      { chunks := s.chunks, loaders := s.loaders.map (fun x => if x.id == l.id then ownMessage ok data x else x),
        dsize := 0, start := first.pos } (hw.pb b hb)) hw.bkeys


/-- chunk-level bookkeeping while loader `id` (not yet in `ls0`) is being set up: `own` = its chunk list so far,
    `w` = its `waitN` so far -/
structure CW (ls0 : List Loader) (id : Nat) (cs : List Chunk) (own : List LChunk) (w : Int) : Prop extends Book cs ls0 own where
  iw : w = awCount id cs

theorem CW_same {ls0 : List Loader} {id : Nat} {cs : List Chunk} {own : List LChunk} {w : Int} (f : Chunk → Chunk)
    (hf : ∀ c, (f c).awaiters = c.awaiters ∧ (f c).loading = c.loading ∧ (f c).detached = c.detached) (i : Nat)
    (h : CW ls0 id cs own w) : CW ls0 id (modAt f i cs) own w :=
  ⟨Book_frame (length_modAt f i cs) (Each_modAt (fun _ => ⟨rfl, fun h => ⟨h, rfl⟩⟩) f i cs
      ⟨(hf _).1, fun hd => ⟨(hf _).2.2 ▸ hd, (hf _).2.1⟩⟩) h.toBook,
    by rw [awCount_modAt_same _ f (fun c => (hf c).1)]; exact h.iw⟩

theorem CW_start {ls0 : List Loader} {id : Nat} {cs : List Chunk} {own : List LChunk} {w : Int} (now : Int) (v : LChunk)
    (h : CW ls0 id cs own w) : CW ls0 id (modAt (startLoad now) v.cid cs) (own ++ [v]) w := by
  -- one more load covers chunk `v.cid`, and its `loading` is one more
  refine ⟨⟨fun l hl => ?_, BookAt_modAt _ v.cid
    (fun cid e => by rw [occ_append, occ_single, if_neg (fun x => e x.symm), Int.add_zero])
    (fun _ hb => ⟨fun hne => ?_, fun hd => ?_⟩) h.ch⟩, ?_⟩
  · rw [awCount_modAt_same _ (startLoad now) (fun _ => rfl)]; exact h.b1 l hl
  · have := hb.1 hne
    have := occ_nonneg v.cid [v]
    rw [occ_append]; omega
  · have := hb.2 hd
    rw [occ_append, occ_single, if_pos rfl]
    show (getChunk cs v.cid).loading + 1 = _
    omega
  · rw [awCount_modAt_same _ (startLoad now) (fun _ => rfl)]; exact h.iw

theorem CW_await {ls0 : List Loader} {id : Nat} {cs : List Chunk} {own : List LChunk} {w : Int} (a : Awaiter) (i : Nat)
    (hi : i < cs.length) (ha : a.req = id) (fresh : ∀ l ∈ ls0, l.id ≠ id) (hc : 0 < cover i ls0 + occ i own)
    (h : CW ls0 id cs own w) :
    CW ls0 id (modAt (fun c => { c with awaiters := c.awaiters ++ [a] }) i cs) own (w + 1) := by
  have hcnt : ∀ id', awCount id' (modAt (fun c => { c with awaiters := c.awaiters ++ [a] }) i cs) =
      awCount id' cs + (if a.req = id' then 1 else 0) := by
    intro id'
    rw [awCount_modAt id' _ i cs (Or.inl hi)]
    simp only [awC, List.countP_append, List.countP_cons, List.countP_nil, beq_iff_eq]
    split <;> omega
  refine ⟨⟨?_, BookAt_modAt _ i (fun _ _ => rfl) (fun _ hb => ⟨fun _ => hc, hb.2⟩) h.ch⟩, ?_⟩
  · intro l hl
    rw [hcnt]
    have : ¬ a.req = l.id := by rw [ha]; exact fun e => fresh l hl e.symm
    simp only [this, if_false, Int.add_zero]
    exact h.b1 l hl
  · rw [hcnt, h.iw]; simp only [ha, if_true]

theorem CW_append {ls0 : List Loader} {id : Nat} {cs : List Chunk} {own : List LChunk} {w : Int} (x : Chunk)
    (hx : x.awaiters = [] ∧ x.loading = 0) (h0 : cover cs.length ls0 + occ cs.length own = 0)
    (h : CW ls0 id cs own w) : CW ls0 id (cs ++ [x]) own w := by
  have haw : ∀ id', awCount id' (cs ++ [x]) = awCount id' cs := by
    intro id'; rw [awCount_append]; simp [awC, hx.1]
  refine ⟨⟨?_, fun cid => ?_⟩, ?_⟩
  · intro l hl; rw [haw]; exact h.b1 l hl
  · rcases getChunk_append_cases cs x cid with ⟨_, e⟩ | ⟨_, ⟨h2, e⟩ | e⟩
    · rw [e]; exact h.ch cid
    · rw [e, h2, h0]; exact ⟨fun hne => absurd hx.1 hne, fun _ => hx.2⟩
    · rw [e]; exact BookAt_noChunk _
  · rw [haw]; exact h.iw

/-- a chunk that will be awaited (`wait`) is covered by a load in flight or by `own`: somebody will send the message -/
def PW (ls0 : List Loader) (cs : List Chunk) (own vs : List LChunk) : Prop :=
  ∀ v ∈ vs, v.cid < cs.length ∧ (v.wait = true → 0 < cover v.cid ls0 + occ v.cid own)

theorem PW_mono {ls0 : List Loader} {cs cs' : List Chunk} {own more vs : List LChunk} (h : Grows cs cs')
    (hp : PW ls0 cs own vs) : PW ls0 cs' (own ++ more) vs := by
  intro v hv
  obtain ⟨a, b⟩ := hp v hv
  refine ⟨Nat.lt_of_lt_of_le a h.len, fun hw => ?_⟩
  have := b hw
  rw [occ_append]
  have := occ_nonneg v.cid more
  omega

theorem PW_grow {ls0 : List Loader} {cs cs' : List Chunk} {own vs : List LChunk} (h : Grows cs cs')
    (hp : PW ls0 cs own vs) : PW ls0 cs' own vs := by
  have := PW_mono (more := []) h hp
  simpa using this

theorem wait_load (c : Chunk) (force : Bool) (now stale : Int) (h : wantWait c force now stale = true) :
    wantLoad c force = true := by
  simp only [wantWait, wantLoad, Bool.or_eq_true, Bool.and_eq_true] at h ⊢
  rcases h with h | h
  · exact Or.inl (Or.inl h)
  · exact Or.inl (Or.inr h.1)

theorem nodup_insertCid (cs : List Chunk) (t : Int) (x : Nat) (l : List Nat) (hn : l.Nodup) (hx : x ∉ l) :
    (insertCid cs t x l).Nodup := by
  induction l with
  | nil => simp [insertCid]
  | cons i is ih =>
    simp only [insertCid]
    split
    · exact List.nodup_cons.mpr ⟨hx, hn⟩
    · have hn' := List.nodup_cons.mp hn
      refine List.nodup_cons.mpr ⟨?_, ih hn'.2 (fun h => hx (List.mem_cons_of_mem _ h))⟩
      intro hm
      rcases mem_insertCid _ _ _ _ _ hm with e | e
      · exact hx (e ▸ List.mem_cons_self ..)
      · exact hn'.1 e

structure VW (ls0 : List Loader) (id : Nat) (s : InitSt) : Prop where
  lid : s.l.id = id
  cw : CW ls0 id s.chunks s.l.chunks s.l.waitN
  pw : PW ls0 s.chunks s.l.chunks s.pend
  att : AT s.chunks s.cids
  ov : ∀ v ∈ s.l.chunks, v.cid < s.chunks.length              -- own chunks are in the store
  lv : ∀ l ∈ ls0, ∀ v ∈ l.chunks, v.cid < s.chunks.length     -- and so are everybody else's

theorem VW.atGrid {ls0 : List Loader} {id : Nat} {cfg : Cfg} {p : Nat} {s : InitSt} {cid : Nat} (h : VW ls0 id s)
    (hc : AtGrid cfg p s cid) : cid < s.chunks.length ∧ (getChunk s.chunks cid).detached = false := by
  rcases hc.2 with hm | ⟨a, _, b⟩
  · exact h.att.2 cid hm
  · exact ⟨a, b⟩

theorem VW_init {ls0 : List Loader} {id : Nat} (fresh : ∀ l ∈ ls0, l.id ≠ id) (cfg : Cfg) (now : Int) (n : Nat) :
    InitInv cfg now n (fun _ s => VW ls0 id s) where
  await := by
    intro p s v rest hw h
    obtain ⟨hv1, hv2⟩ := h.pw v (List.mem_cons_self ..)
    have hsk := awaitChunk_grow s v
    refine ⟨h.lid, ?_, fun w hw' => PW_grow hsk h.pw w (List.mem_cons_of_mem _ hw'), AT_mono hsk h.att,
      fun w hw' => Nat.lt_of_lt_of_le (h.ov w hw') hsk.len, fun l hl w hw' => Nat.lt_of_lt_of_le (h.lv l hl w hw') hsk.len⟩
    have := CW_await (ls0 := ls0) (id := id) { req := s.l.id, ls := v.ls, le := v.le, off := v.ls - v.pos } v.cid hv1 h.lid
      fresh (hv2 hw) h.cw
    simp only [awaitChunk]
    have e : (((s.l.waitN + 1 : Nat)) : Int) = (s.l.waitN : Int) + 1 := by omega
    rw [e]; exact this
  copy := by
    intro p s v rest _ h
    have sub : PW ls0 s.chunks s.l.chunks rest := fun w hw => h.pw w (List.mem_cons_of_mem _ hw)
    unfold copyChunk
    split <;> exact ⟨h.lid, h.cw, sub, h.att, h.ov, h.lv⟩
  adopt := by
    intro p s v rest h
    have hsk : Grows s.chunks (adoptOne now s v).chunks := Grows_startLoad now v.cid s.chunks
    refine ⟨h.lid, CW_start now v h.cw,
      fun w hw => PW_mono (more := [v]) hsk h.pw w (List.mem_cons_of_mem _ hw), AT_mono hsk h.att, ?_,
      fun l hl w hw => Nat.lt_of_lt_of_le (h.lv l hl w hw) hsk.len⟩
    intro w hw
    rcases mem_snoc hw with hw | hw
    · exact Nat.lt_of_lt_of_le (h.ov w hw) hsk.len
    · rw [hw]; exact Nat.lt_of_lt_of_le (h.pw v (List.mem_cons_self ..)).1 hsk.len
  self := by
    intro p s0 s cid lc _ hc hd hcids hpend hlc _ h0 h
    have hd2 : Grows s0.chunks (modAt (touch now) cid (modAt (startLoad now) cid s.chunks)) :=
      hd.trans ((Grows_startLoad now cid _).trans (Grows_touch now cid _))
    have hlen : s.chunks.length ≤ (modAt (touch now) cid (modAt (startLoad now) cid s.chunks)).length := by
      rw [length_modAt, length_modAt]; exact Nat.le_refl _
    refine ⟨h.lid, ?_, ?_, ?_, ?_, fun l hl w hw => Nat.lt_of_lt_of_le (h.lv l hl w hw) hlen⟩
    · have := CW_start now lc h.cw
      rw [hlc] at this
      exact CW_same (touch now) (fun _ => ⟨rfl, rfl, rfl⟩) cid this
    · intro w hw
      rw [show _ = s.pend from rfl, hpend] at hw
      cases hw
    · rw [show _ = s.cids from rfl, hcids]
      exact AT_mono hd2 h0.att
    · intro w hw
      rcases mem_snoc hw with hw | rfl
      · exact Nat.lt_of_lt_of_le (h.ov w hw) hlen
      · rw [hlc]
        exact Nat.lt_of_lt_of_le (h0.atGrid hc).1 hd2.len
  defer := by
    intro p s cid _ hc hnl h
    obtain ⟨hv1, hv2⟩ := h.atGrid hc
    have hd : Grows s.chunks (modAt (touch now) cid s.chunks) := Grows_touch now cid _
    refine ⟨h.lid, CW_same (touch now) (fun _ => ⟨rfl, rfl, rfl⟩) cid h.cw, ?_, AT_mono hd h.att, ?_, ?_⟩
    · intro w hw
      rcases mem_snoc hw with hw | rfl
      · exact PW_grow hd h.pw w hw
      · refine ⟨by rw [length_modAt]; exact hv1, fun hwait => ?_⟩
        simp only [mkLChunk] at hwait ⊢
        have hload := wait_load _ _ _ _ hwait
        have h5 := h.cw.b5 cid hv2
        -- the chunk is not loaded by this request although it has to be: somebody else's load is in flight
        have hne : (getChunk s.chunks cid).loading ≠ 0 := by
          intro e
          simp [loadsItself, mkLChunk, hload, e] at hnl
        have := cover_nonneg cid ls0
        have := occ_nonneg cid s.l.chunks
        omega
    · intro w hw; rw [length_modAt]; exact h.ov w hw
    · intro l hl w hw; rw [length_modAt]; exact h.lv l hl w hw
  make := by
    intro p s h
    have hd : Grows s.chunks (s.chunks ++ [newChunk s.l.key (s.l.timeStart + p * cfg.dur) cfg.dur]) := Grows_append ..
    refine ⟨h.lid, CW_append _ ⟨rfl, rfl⟩ ?_ h.cw, PW_grow hd h.pw, AT_mono hd h.att, ?_, ?_⟩
    · rw [cover_zero_of _ ls0 (fun l hl v hv => Nat.ne_of_lt (h.lv l hl v hv)),
        occ_zero_of _ s.l.chunks (fun v hv => Nat.ne_of_lt (h.ov v hv))]
      rfl
    · intro v hv; exact Nat.lt_of_lt_of_le (h.ov v hv) hd.len
    · intro l hl v hv; exact Nat.lt_of_lt_of_le (h.lv l hl v hv) hd.len
  ins := by
    intro p s0 s t h0 h hcids hlt _ hdet
    refine ⟨h.lid, h.cw, h.pw, ⟨nodup_insertCid _ _ _ _ h.att.1 ?_, ?_⟩, h.ov, h.lv⟩
    · rw [hcids]
      intro hm
      exact Nat.lt_irrefl _ (h0.att.2 _ hm).1
    · intro x hx
      rcases mem_insertCid _ _ _ _ _ hx with rfl | hx
      · exact ⟨hlt, hdet⟩
      · exact h.att.2 x hx

theorem initLoader_W {ls0 : List Loader} (cfg : Cfg) (now : Int) (cs : List Chunk) (cids : List Nat) (l : Loader) (n : Nat)
    (fresh : ∀ x ∈ ls0, x.id ≠ l.id) (hcw : CW ls0 l.id cs [] 0) (hl : l.chunks = [] ∧ l.waitN = 0)
    (hat : AT cs cids) (hlv : ∀ x ∈ ls0, ∀ v ∈ x.chunks, v.cid < cs.length) :
    VW ls0 l.id (initLoader cfg now cs cids l n) := by
  refine (VW_init fresh cfg now n).run cs cids l ⟨rfl, ?_, (by intro v hv; cases hv), hat, (by intro v hv; simp [hl.1] at hv), hlv⟩
  simp only [hl.1, hl.2]; exact hcw

theorem getPre_W (s : St) (key : Nat) (play now : Int) (l0 : Loader) (n : Nat)
    (fresh : ∀ l ∈ s.loaders, l.id ≠ l0.id)
    (e3 : l0.chunks = [] ∧ l0.waitN = 0 ∧ l0.loadPending = false ∧ l0.finished = false)
    (hp : PInv s) (hw : WInv s) : WInv (getPre s key play now l0 n) := by
  have hz : awCount l0.id s.chunks = 0 := awCount_zero_of _ _ (hp.unawaited fresh)
  have hcw : CW s.loaders l0.id s.chunks [] 0 := ⟨hw.book, hz.symm⟩
  have hat : AT s.chunks (bucketOf s key play).cids := by
    rcases (bucketOf_spec s key play).2 with hm | hm
    · exact hw.pb _ hm
    · rw [hm]; exact ⟨List.nodup_nil, fun _ h => by cases h⟩
  have hi := initLoader_W s.cfg now s.chunks (bucketOf s key play).cids l0 n fresh hcw ⟨e3.1, e3.2.1⟩ hat
    (fun x hx v hv => (hp.loader hx hv).1)
  obtain ⟨dle, hpf⟩ := initLoader_walk s.cfg now s.chunks (bucketOf s key play).cids l0 n
  have hkeys := keys_getPre s key play now l0 n hw.bkeys
  unfold getPre at hkeys ⊢
  simp only [] at hkeys ⊢
  generalize initLoader s.cfg now s.chunks (bucketOf s key play).cids l0 n = r at hi hpf dle hkeys ⊢
  obtain ⟨hid, cw, _, at', _, _⟩ := hi
  obtain ⟨d, w, ch, hrl⟩ := hpf
  have hpn : r.l.loadPending = false := by rw [hrl]; exact e3.2.2.1
  have r1 : WL (runLoader r.l) (awCount l0.id r.chunks) :=
    cw.iw ▸ runLoader_WL r.l hpn (by rw [hrl]; exact e3.2.2.2)
  have hcov : ∀ cid, cover cid (s.loaders ++ [runLoader r.l]) = cover cid s.loaders + occ cid r.l.chunks := by
    intro cid
    rw [cover_append, runLoader_eq]
    cases he : r.l.chunks with
    | nil => simp [hpn, occ_nil]
    | cons v vs => simp
  refine ⟨?_, ?_, ?_, ?_, hkeys⟩
  · intro l hl
    rcases mem_snoc hl with hl | rfl
    · exact cw.b1 l hl
    · rw [show (runLoader r.l).id = l0.id by rw [runLoader_eq]; exact hid]
      exact r1
  · intro cid hne; rw [hcov]; exact cw.b2 cid hne
  · intro cid hd; rw [hcov]; exact cw.b5 cid hd
  · intro b' hb'
    rcases mem_getPre_buckets hb' with rfl | e
    · exact at'
    · exact AT_mono dle (hw.pb b' e)


/-- placement and message bookkeeping together: the invariant of traces with fresh request ids -/
structure Both (s : St) : Prop where
  place : PInv s
  wait : WInv s

theorem pass_B {s s' : St} (hp : TrimPass s s') (h : Both s) : Both s' :=
  ⟨pass_P hp h.place, pass_W hp h.place h.wait⟩

theorem opInv_B (s : St) (secs : List Int) (now : Int) (h : Both s) : Both (opInv s secs now) :=
  ⟨opInv_P _ _ _ h.place, opInv_W _ _ _ h.wait⟩

theorem getPre_B (s : St) (id key : Nat) (play : Int) (force : Bool) (f t now : Int) (n : Nat) (wf : WF s.cfg)
    (fr : ∀ l ∈ s.loaders, l.id ≠ id) (h : Both s) :
    Both (getPre s key play now (mkLoader0 s id key play force f t now) n) :=
  ⟨getPre_P s key play now _ _ wf fr rfl rfl (OkData_replicate _ _ _ _) h.place,
    getPre_W s key play now _ _ fr ⟨rfl, rfl, rfl, rfl⟩ h.place h.wait⟩

theorem finPre_B (s : St) (l : Loader) (first : LChunk) (rest : List LChunk) (ok : Bool) (ver : Nat)
    (hl : l ∈ s.loaders) (hch : l.chunks = first :: rest) (hpnd : l.loadPending = true) (h : Both s) :
    Both (finPre s l first ok ver) :=
  ⟨finPre_P s l first rest ok ver hl hch h.place, finPre_W s l first ok ver hl hpnd h.place h.wait⟩

theorem Both.ghost {s : St} (h : Both s) (m so : Int) (d : Bool) (n : Nat) (c : Int) :
    Both { s with maxSize := m, soft := so, down := d, tick := n, clock := c } :=
  ⟨h.place.ghost m so d n c, h.wait.ghost m so d n c⟩

theorem step_B (s : St) (op : Op) (wf : WF s.cfg) (hf : opFresh s op) (h : Both s) : Both (step s op) :=
  step_closed (fun _ _ => pass_B) s _ op rfl (fun _ m so d n c h => h.ghost m so d n c) (fun secs now _ => opInv_B _ secs now)
    (fun id key play force f t now e _ => getPre_B _ id key play force f t now _ wf (by rw [e] at hf; exact hf))
    (fun l first rest ok ver hl hp hc h => finPre_B _ l first rest ok ver hl hc hp h) h

theorem run_B (ops : List Op) (s : St) (wf : WF s.cfg) (hf : FreshIds s ops) (h : Both s) : Both (run s ops) :=
  (foldl_ind step (fun s ops => WF s.cfg ∧ FreshIds s ops ∧ Both s)
    (fun s op _ ⟨wf, hf, h⟩ => ⟨(step_cfg s op).symm ▸ wf, hf.2, step_B s op wf hf.1 h⟩) ops s ⟨wf, hf, h⟩).2.2

theorem Both_init (cfg : Cfg) : Both (init cfg) := by
  refine ⟨PInv_init cfg, ?_, ?_, ?_, ?_, ?_⟩
  · intro l hl; simp [init] at hl
  · intro cid hne; simp [init, getChunk, noChunk] at hne
  · intro cid hd; simp [init, getChunk, noChunk] at hd
  · intro b hb; simp [init] at hb
  · simp [init]

theorem idle_all_finished (s : St) (h : WInv s) (hidle : ∀ l ∈ s.loaders, l.loadPending = false) :
    ∀ l ∈ s.loaders, l.finished = true := by
  intro l hl
  have hno : ∀ j, (getChunk s.chunks j).awaiters = [] := by
    intro j
    cases he : (getChunk s.chunks j).awaiters with
    | nil => rfl
    | cons a as =>
      have := h.w2 j (by rw [he]; simp)
      rw [cover_zero_idle j s.loaders hidle] at this
      omega
  have hz : awCount l.id s.chunks = 0 := awCount_zero_of _ _ (fun j a ha => by rw [hno j] at ha; cases ha)
  cases hf : l.finished with
  | true => rfl
  | false =>
    obtain ⟨e, hne⟩ := (h.w1 l hl).1 hf
    rw [hz, hidle l hl] at e
    simp only [Bool.false_eq_true, if_false] at e
    omega

end SH.TsCache.Wait
