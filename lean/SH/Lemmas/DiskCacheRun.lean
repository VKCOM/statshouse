/-
  SH.Lemmas.DiskCacheRun — histories: restart, the history-level specification `absStep` and its refinement by every
  operation (`step_refines`, `run_refines`); GetBucket against the live sequence; bytes of the known seconds, size accounting and
  what keeps a file on disk, for every state with the invariant; restart + drain
  of a well-formed or damaged directory; a crash tearing the last put or the 4-byte magic write of an erase.
-/
import SH.Lemmas.DiskCachePut

namespace SH.C09
open SH.DiskCache

theorem clearIds_wf (cfg : Cfg) (f : AFile) (h : (∀ r ∈ f.recs, r.WF cfg) ∧ TailStop f.tl) :
    (∀ r ∈ (clearIds f).recs, r.WF cfg) ∧ TailStop (clearIds f).tl := by
  refine ⟨?_, h.2⟩
  intro r hr
  simp only [clearIds, List.mem_map] at hr
  obtain ⟨q, hq, rfl⟩ := hr
  obtain ⟨a1, a2, a3, a4, a5, _⟩ := h.1 q hq
  exact ⟨a1, a2, a3, a4, a5, fun hid => by simp at hid⟩

def clearLive (l : List LiveE) : List LiveE := l.map (fun e => (none, e.2.1, e.2.2))

theorem clearLive_length (l : List LiveE) : (clearLive l).length = l.length := by simp [clearLive]

theorem clearLive_none (l : List LiveE) : ∀ e ∈ clearLive l, e.1 = none := by
  intro e he
  obtain ⟨_, _, rfl⟩ := List.mem_map.mp he
  rfl

theorem liveRecs_clear (cfg : Cfg) (rs : List ARec) :
    liveRecs cfg (rs.map (fun r => { r with id := none })) = clearLive (liveRecs cfg rs) := by
  induction rs with
  | nil => rfl
  | cons r rs ih =>
    simp only [liveRecs, clearLive, List.map_cons, List.filter_cons] at ih ⊢
    have : ARec.dead cfg { r with id := none } = ARec.dead cfg r := rfl
    rw [this]
    cases r.dead cfg <;> simp [ih]

theorem inv_restart_layout (cfg : Cfg) (L : List AFile) (clock : Nat) (s : Shard)
    (hn : (L.map (·.name)).Pairwise (· < ·)) (hlt : ∀ f ∈ L, f.name < clock)
    (hwf : ∀ f ∈ L, (∀ r ∈ f.recs, r.WF cfg) ∧ TailStop f.tl)
    (hd : s.disk = L.map (AFile.render cfg)) (hc : s.clock = clock) :
    Inv cfg (restart s) { wait := L.map clearIds, clock := clock } ∧
      ({ wait := L.map clearIds, clock := clock } : Abs).live cfg = clearLive (L.flatMap (fLive cfg)) := by
  constructor
  · apply inv_fresh cfg (L.map clearIds) clock s
    · rw [List.map_map]; exact hn
    · intro f hf; obtain ⟨g, hg, rfl⟩ := List.mem_map.mp hf; exact hlt g hg
    · intro f hf; obtain ⟨g, hg, rfl⟩ := List.mem_map.mp hf; exact clearIds_wf cfg g (hwf g hg)
    · intro f hf r hr
      obtain ⟨g, hg, rfl⟩ := List.mem_map.mp hf
      simp only [clearIds, List.mem_map] at hr
      obtain ⟨q, _, rfl⟩ := hr; rfl
    · rw [hd, List.map_map]
      apply List.map_congr_left
      intro g _; exact (render_clear cfg g).symm
    · exact hc
  · simp only [Abs.live, Abs.files, Abs.curL, List.nil_append, List.append_nil, List.flatMap_map, clearLive]
    rw [List.map_flatMap]
    exact flatMap_congr_left _ _ _ (fun g _ => liveRecs_clear cfg g.recs)

theorem inv_restart (cfg : Cfg) (s : Shard) (a : Abs) (inv : Inv cfg s a) :
    ∃ a', Inv cfg (restart s) a' ∧ a'.live cfg = clearLive (a.live cfg) ∧ a'.lastID = 0 :=
  have h := inv_restart_layout cfg a.files a.clock s inv.names inv.namesLt inv.wf inv.disk inv.clock
  ⟨a.restart, h.1, h.2, rfl⟩

/-- give the first second without an id the id `k` (what ReadNextTailSecond does); `none` if every second has one -/
def assignFirst (k : Nat) : List LiveE → Option (List LiveE)
  | [] => none
  | (none, t, b) :: l => some ((some k, t, b) :: l)
  | (some i, t, b) :: l => (assignFirst k l).map ((some i, t, b) :: ·)

/-- what a history leaves, by the specification `absStep`: the live sequence and the last id. Not a layout (`Abs`); `step_refines`
    ties it to one. -/
structure AbsH where
  live : List LiveE := []
  lastID : Nat := 0
deriving DecidableEq, Repr

/-- the history-level specification: put appends a second, erase removes the second with that id, get changes nothing,
    readNext hands the next id to the first second not yet handed out, restart forgets the ids -/
def absStep (h : AbsH) : Op → AbsH
  | .put t d _ => { live := h.live ++ [(some (h.lastID + 1), t, d)], lastID := h.lastID + 1 }
  | .get _ _ => h
  | .erase id => { h with live := liveErase id h.live }
  | .readNext =>
    match assignFirst (h.lastID + 1) h.live with
    | some l => { live := l, lastID := h.lastID + 1 }
    | none => h
  | .restart => { live := clearLive h.live, lastID := 0 }

def absRun (h : AbsH) (ops : List Op) : AbsH := ops.foldl absStep h

/-- the puts of a history are well-formed: 32-bit time, body within maxChunkSize -/
def OpOk : Op → Prop
  | .put t d _ => t < 2 ^ 32 ∧ d.length ≤ maxChunkSize
  | _ => True

theorem assignFirst_split (k : Nat) : ∀ (l1 l2 : List LiveE) (t : Nat) (b : Bytes), (∀ e ∈ l1, e.1 ≠ none) →
    assignFirst k (l1 ++ (none, t, b) :: l2) = some (l1 ++ (some k, t, b) :: l2) := by
  intro l1
  induction l1 with
  | nil => intro l2 t b _; rfl
  | cons e l1 ih =>
    intro l2 t b h
    obtain ⟨i, t', b'⟩ := e
    cases i with
    | none => exact absurd rfl (h (none, t', b') (by simp))
    | some i =>
      simp only [List.cons_append, assignFirst]
      rw [ih l2 t b (fun e he => h e (by simp [he]))]
      rfl

theorem assignFirst_none (k : Nat) : ∀ (l : List LiveE), (∀ e ∈ l, e.1 ≠ none) → assignFirst k l = none := by
  intro l
  induction l with
  | nil => intro _; rfl
  | cons e l ih =>
    intro h
    obtain ⟨i, t', b'⟩ := e
    cases i with
    | none => exact absurd rfl (h (none, t', b') (by simp))
    | some i => simp [assignFirst, ih (fun e he => h e (by simp [he]))]

theorem step_refines (cfg : Cfg) (hcrc : ∀ b, cfg.crc b < 2 ^ 32) (s : Shard) (a : Abs) (inv : Inv cfg s a) (op : Op) (hop : OpOk op) :
    ∃ a', Inv cfg (step cfg s op) a' ∧ (⟨a'.live cfg, a'.lastID⟩ : AbsH) = absStep ⟨a.live cfg, a.lastID⟩ op := by
  cases op with
  | put t d r =>
    obtain ⟨a', inv', hl, hi, _⟩ := inv_put cfg s a inv t d r hop.1 hop.2 (hcrc d)
    exact ⟨a', inv', by simp [absStep, hl, hi]⟩
  | get id t =>
    refine ⟨a, ?_, rfl⟩
    simp only [step, get_state cfg s a inv id t]; exact inv
  | erase id =>
    obtain ⟨a', inv', hl, hi⟩ := inv_erase cfg s a inv id
    exact ⟨a', inv', by simp [absStep, hl, hi]⟩
  | readNext =>
    obtain ⟨hp, hf⟩ := readNext_spec cfg s a inv
    simp only [step]
    cases hr : (readNext cfg s).2 with
    | fuel => exact absurd hr hf
    | none =>
      rw [hr] at hp
      obtain ⟨a', inv', hl, hi, hall⟩ := hp
      refine ⟨a', inv', ?_⟩
      simp only [absStep, assignFirst_none _ _ hall, hl, hi]
    | got t id =>
      rw [hr] at hp
      obtain ⟨a', l1, b, l2, inv', hid, hi, hsplit, hl1, hl'⟩ := hp
      refine ⟨a', inv', ?_⟩
      simp only [absStep, hsplit, assignFirst_split _ l1 l2 t b hl1, hl', hi, hid]
  | restart =>
    obtain ⟨a', inv', hl, hi⟩ := inv_restart cfg s a inv
    exact ⟨a', inv', by simp [absStep, hl, hi]⟩

theorem run_refines (cfg : Cfg) (hcrc : ∀ b, cfg.crc b < 2 ^ 32) : ∀ (ops : List Op) (s : Shard) (a : Abs), Inv cfg s a →
    (∀ op ∈ ops, OpOk op) →
    ∃ a', Inv cfg (run cfg s ops) a' ∧ (⟨a'.live cfg, a'.lastID⟩ : AbsH) = absRun ⟨a.live cfg, a.lastID⟩ ops := by
  intro ops
  induction ops with
  | nil => intro s a inv _; exact ⟨a, inv, rfl⟩
  | cons op ops ih =>
    intro s a inv hok
    obtain ⟨a1, inv1, h1⟩ := step_refines cfg hcrc s a inv op (hok op (by simp))
    obtain ⟨a2, inv2, h2⟩ := ih (step cfg s op) a1 inv1 (fun o ho => hok o (by simp [ho]))
    refine ⟨a2, inv2, ?_⟩
    rw [h2, h1]; rfl

theorem inv_init (cfg : Cfg) : Inv cfg {} {} :=
  inv_fresh cfg [] 0 {} (by simp) (by simp) (by simp) (by simp) rfl rfl

theorem run_refines_init (cfg : Cfg) (hcrc : ∀ b, cfg.crc b < 2 ^ 32) (ops : List Op) (hok : ∀ op ∈ ops, OpOk op) :
    ∃ a, Inv cfg (run cfg {} ops) a ∧ a.live cfg = (absRun {} ops).live ∧ a.lastID = (absRun {} ops).lastID := by
  obtain ⟨a, inv, h⟩ := run_refines cfg hcrc ops {} {} (inv_init cfg) hok
  exact ⟨a, inv, congrArg AbsH.live h, congrArg AbsH.lastID h⟩

theorem get_live (cfg : Cfg) (s : Shard) (a : Abs) (inv : Inv cfg s a) (k t : Nat) (d : Bytes)
    (h : (some k, t, d) ∈ a.live cfg) : DiskCache.get cfg s k t = (s, .ok d) := by
  obtain ⟨g, hg, he⟩ := List.mem_flatMap.mp h
  obtain ⟨q, hq, _, heq⟩ := live_entry_rec cfg g _ he
  obtain ⟨p1, p2, hp⟩ := List.append_of_mem hq
  simp only [Prod.mk.injEq] at heq
  obtain ⟨hid, rfl, rfl⟩ := heq
  exact get_at cfg s a inv g hg p1 p2 q k hp hid.symm

theorem get_ok_live (cfg : Cfg) (s s' : Shard) (a : Abs) (inv : Inv cfg s a) (k t : Nat) (d : Bytes)
    (h : DiskCache.get cfg s k t = (s', .ok d)) : (some k, t, d) ∈ a.live cfg := by
  obtain ⟨b, hfb, hbt, _, _, _, _⟩ := get_ok_checked cfg s s' k t d h
  obtain ⟨hbk, hbid⟩ := findB_some hfb
  have hb := (inv.known b).mp hbk
  obtain ⟨f, hf, r1, r, r2, hrec, hrid, hrt, hget⟩ := get_known cfg s a inv b hb
  rw [hbid, hbt, h] at hget
  simp only [Prod.mk.injEq, GetRes.ok.injEq] at hget
  have hrin : r ∈ f.recs := by rw [hrec]; simp
  have hdead : r.dead cfg = false := ((inv.wf f hf).1 r hrin).id_live (by rw [hrid]; simp)
  apply List.mem_flatMap.mpr
  refine ⟨f, hf, ?_⟩
  simp only [fLive, liveRecs, List.mem_map, List.mem_filter]
  refine ⟨r, ⟨hrin, by simp [hdead]⟩, ?_⟩
  rw [hrid, hbid, hrt, hbt, hget.2]

/-- bytes accounted to the known seconds = header + body of every live second that currently has an id -/
def knownBytes (l : List LiveE) : Int :=
  ((l.filter (fun e => e.1.isSome)).map (fun e => ((e.2.2.length + headerSize : Nat) : Int))).sum

theorem bucket_sum_recs (cfg : Cfg) (name : Nat) : ∀ (off : Nat) (rs : List ARec), (∀ r ∈ rs, r.id ≠ none → r.dead cfg = false) →
    ((bucketsAt cfg name off rs).map bsize).sum = knownBytes (liveRecs cfg rs) := by
  intro off rs
  induction rs generalizing off with
  | nil => intro _; rfl
  | cons r rs ih =>
    intro h
    have ih' := ih (off + r.len) (fun q hq => h q (by simp [hq]))
    simp only [bucketsAt, List.map_append, List.sum_append, ih']
    cases hid : r.id with
    | none =>
      cases hd : r.dead cfg <;> simp [bucketOf, hid, knownBytes, liveRecs, hd]
    | some k =>
      have hd : r.dead cfg = false := h r (by simp) (by rw [hid]; simp)
      simp [bucketOf, hid, knownBytes, liveRecs, hd, bsize]

theorem knownBytes_append (a b : List LiveE) : knownBytes (a ++ b) = knownBytes a + knownBytes b := by
  simp [knownBytes, List.filter_append, List.map_append, List.sum_append]

theorem Inv.knownSize_live {cfg : Cfg} {s : Shard} {a : Abs} (inv : Inv cfg s a) : s.knownSize = knownBytes (a.live cfg) := by
  rw [inv.knownSize]
  unfold Abs.buckets Abs.live
  have key : ∀ l : List AFile, (∀ f ∈ l, ∀ r ∈ f.recs, r.id ≠ none → r.dead cfg = false) →
      ((l.flatMap (fbuckets cfg)).map bsize).sum = knownBytes (l.flatMap (fLive cfg)) := by
    intro l
    induction l with
    | nil => intro _; rfl
    | cons f l ih =>
      intro h
      simp only [List.flatMap_cons, List.map_append, List.sum_append, knownBytes_append]
      rw [ih (fun g hg => h g (by simp [hg]))]
      congr 1
      exact bucket_sum_recs cfg f.name 0 f.recs (h f (by simp))
  exact key a.files inv.id_live

theorem unsent_eq_min (s : Shard) : unsent s = min (s.knownSize + s.waitingSize + readingRest s) s.total := by
  unfold unsent
  simp only
  split <;> omega

theorem Inv.size_accounting {cfg : Cfg} {s : Shard} {a : Abs} (inv : Inv cfg s a) :
    s.total = sumSizes s.disk ∧ s.knownSize = knownBytes (a.live cfg) ∧
    s.waitingSize = ((s.waiting.map (fun w => (w.size : Int))).sum) ∧
    (∀ w ∈ s.waiting, w.size = (DiskCache.fileBytes s.disk w.name).length) := by
  refine ⟨?_, inv.knownSize_live, ?_, ?_⟩
  · rw [inv.total, inv.disk, sumSizes_render]
  · rw [inv.waitingSize, inv.waiting]; simp [sizeSum, List.map_map, Function.comp_def]
  · intro w hw
    rw [inv.waiting] at hw
    obtain ⟨f, hf, rfl⟩ := List.mem_map.mp hw
    have hff : f ∈ a.files := by simp [Abs.files, hf]
    simp only
    rw [inv.fileBytes_of_mem hff]; rfl

theorem Inv.file_refs {cfg : Cfg} {s : Shard} {a : Abs} (inv : Inv cfg s a) :
    (∀ d ∈ s.disk, (∃ b ∈ s.known, b.file = d.name) ∨ s.reading = some d.name ∨ s.writing = some d.name ∨
      (∃ w ∈ s.waiting, w.name = d.name)) ∧
    (∀ name o, findO s.ofiles name = some o → 0 < o.refCount ∧ ∃ d ∈ s.disk, d.name = name) := by
  constructor
  · intro d hd
    rw [inv.disk] at hd
    obtain ⟨f, hf, rfl⟩ := List.mem_map.mp hd
    have hfn : (f.render cfg).name = f.name := rfl
    rw [hfn]
    rcases Abs.mem_files.mp hf with h | ⟨j, hc⟩ | h
    · have hp := inv.present f h
      unfold Abs.refs at hp
      by_cases hr : a.rname = some f.name
      · right; left; rw [inv.reading]; exact hr
      · by_cases hw : a.wname = some f.name
        · right; right; left; rw [inv.writing]; exact hw
        · left
          rw [if_neg hr, if_neg hw] at hp
          have hpos : 0 < idc f.recs := by omega
          rw [idc_eq_len cfg f.name 0 f.recs] at hpos
          obtain ⟨b, hb⟩ := List.exists_mem_of_length_pos hpos
          obtain ⟨_, _, _, _, _, hbe⟩ := mem_bucketsAt cfg f.name b 0 f.recs hb
          exact ⟨b, (inv.known b).mpr (List.mem_flatMap.mpr ⟨f, hf, hb⟩), by rw [hbe]⟩
    · right; left
      rw [inv.reading]; simp [Abs.rname, hc]
    · right; right; right
      exact ⟨⟨f.name, f.size cfg⟩, by rw [inv.waiting]; exact List.mem_map.mpr ⟨f, h, rfl⟩, rfl⟩
  · intro name o ho
    have h0 := inv.ofiles name
    rw [ho] at h0
    obtain ⟨_, f, hf, hfn, hrc, hpos, _, _⟩ := h0
    exact ⟨by omega, f.render cfg, by rw [inv.disk]; exact List.mem_map.mpr ⟨f, hf, rfl⟩, hfn⟩

/-- restart + drain of ANY directory that renders a well-formed layout returns its live seconds in order -/
theorem drain_layout (cfg : Cfg) (L : List AFile) (clock : Nat) (s : Shard)
    (hn : (L.map (·.name)).Pairwise (· < ·)) (hlt : ∀ f ∈ L, f.name < clock)
    (hwf : ∀ f ∈ L, (∀ r ∈ f.recs, r.WF cfg) ∧ TailStop f.tl)
    (hd : s.disk = L.map (AFile.render cfg)) (hc : s.clock = clock) (n : Nat)
    (hlen : (L.flatMap (fLive cfg)).length < n) :
    (drain cfg n (restart s)).2 = outs 0 (clearLive (L.flatMap (fLive cfg))) ∧
      ∃ a', Inv cfg (drain cfg n (restart s)).1 a' ∧ a'.live cfg = stamp 0 (clearLive (L.flatMap (fLive cfg))) := by
  obtain ⟨inv, hl⟩ := inv_restart_layout cfg L clock s hn hlt hwf hd hc
  obtain ⟨h1, a', inv', h2, -⟩ := drain_spec cfg _ [] n _ _ inv (by simp) (by simp) (hl ▸ clearLive_none _)
    (by rw [hl, clearLive_length]; exact hlen)
  rw [hl] at h1 h2
  exact ⟨h1, a', inv', h2⟩

/-- restart + drain of the directory in which file `f` of a reachable layout has been overwritten (`g`) into a well-formed
    `f'` of the same name: a crash damaged that one file -/
theorem drain_replaced (cfg : Cfg) (s s' : Shard) (a : Abs) (inv : Inv cfg s a) (F1 F2 : List AFile) (f f' : AFile)
    (g : Bytes → Bytes) (hF : a.files = F1 ++ f :: F2) (hn : f'.name = f.name)
    (hwf : (∀ r ∈ f'.recs, r.WF cfg) ∧ TailStop f'.tl)
    (hd : s'.disk = mapDisk s.disk f.name g) (hb : g (f.bytes cfg) = f'.bytes cfg) (hc : s'.clock = s.clock) (n : Nat)
    (hlen : ((F1 ++ f' :: F2).flatMap (fLive cfg)).length < n) :
    (drain cfg n (restart s')).2 = outs 0 (clearLive ((F1 ++ f' :: F2).flatMap (fLive cfg))) := by
  have hne := inv.names_split hF
  have hd' : s'.disk = (F1 ++ f' :: F2).map (AFile.render cfg) := by
    rw [hd, inv.disk, hF, mapDisk_mid cfg F1 F2 f g (fun x hx => hne x (List.mem_append_left _ hx))
      (fun x hx => hne x (List.mem_append_right _ hx)), hb, List.map_append, List.map_cons, AFile.render, hn]
  obtain ⟨h1, h2⟩ := inv.replace_file hF hn hwf
  exact (drain_layout cfg _ a.clock s' h1 (fun x hx => (h2 x hx).1) (fun x hx => (h2 x hx).2) hd' (hc.trans inv.clock) n hlen).1

theorem torn_tail_history (cfg : Cfg) (hcrc : ∀ b, cfg.crc b < 2 ^ 32) (ops : List Op) (hok : ∀ op ∈ ops, OpOk op)
    (t : Nat) (d : Bytes) (r : Bool) (hput : OpOk (.put t d r)) (n : Nat) (hn0 : 0 < n) (hn : n ≤ headerSize + d.length) :
    (drain cfg ((absRun {} ops).live.length + 1) (restart (tearNewest (run cfg {} (ops ++ [.put t d r])) n))).2 =
      outs 0 (clearLive (absRun {} ops).live) := by
  obtain ⟨a0, inv0, hl0, -⟩ := run_refines_init cfg hcrc ops hok
  have hrun : run cfg {} (ops ++ [.put t d r]) = (put cfg (run cfg {} ops) t d r).1 := by
    simp [run, List.foldl_append, step]
  rw [hrun]
  obtain ⟨a1, inv1, hl1, -, -, F0, f, hsh, htl⟩ := inv_put cfg _ a0 inv0 t d r hput.1 hput.2 (hcrc d)
  generalize (put cfg (run cfg {} ops) t d r).1 = s1 at inv1 ⊢
  generalize hpr : (⟨magicGood, t, d, some (a0.lastID + 1)⟩ : ARec) = pr at hsh
  have hprlen : pr.len = headerSize + d.length := by
    rw [← hpr]
    rfl
  let f' := f.setRecs (f.recs ++ [pr])
  -- the torn file: the records before the put, and what is left of the put as the tail
  let ft : AFile := ⟨f.name, f.recs, (pr.enc cfg).take (pr.len - n)⟩
  have htake : (f'.bytes cfg).take ((f'.bytes cfg).length - n) = ft.bytes cfg := by
    have hbytes' : f'.bytes cfg = encRecs cfg f.recs ++ pr.enc cfg := by
      simp [f', AFile.bytes, AFile.setRecs, encRecs_append, encRecs, htl]
    rw [hbytes', List.length_append, encRecs_length, ARec.enc_length, List.take_append, encRecs_length]
    have e1 : recsLen f.recs + pr.len - n - recsLen f.recs = pr.len - n := by
      rw [Nat.sub_sub, Nat.add_comm n, Nat.add_sub_add_left]
    rw [e1, List.take_of_length_le (by
      rw [encRecs_length]
      exact Nat.le_sub_of_add_le (Nat.add_le_add_left (hprlen ▸ hn) _))]
    rfl
  have htear : (tearNewest s1 n).disk = mapDisk s1.disk f'.name (fun b => b.take (b.length - n)) := by
    have hlast : s1.disk.getLast? = some (f'.render cfg) := by
      rw [inv1.disk, hsh]
      simp [f']
    simp only [tearNewest, hlast]
    rfl
  have hclock : (tearNewest s1 n).clock = s1.clock := by
    unfold tearNewest
    split <;> rfl
  have hwf : (∀ q ∈ ft.recs, q.WF cfg) ∧ TailStop ft.tl := by
    have hf' : f' ∈ a1.files := by
      rw [hsh]
      exact List.mem_append_right _ List.mem_cons_self
    refine ⟨fun q hq => (inv1.wf f' hf').1 q (List.mem_append_left _ hq), ?_⟩
    by_cases hk : pr.len - n = 0
    · left
      simp [ft, hk]
    · right
      have hpos : 0 < pr.len - n := Nat.pos_of_ne_zero hk
      refine ⟨magicGood, t, cfg.crc d, pr.len - n, d, by decide, hput.1, hcrc d, hput.2, hpos,
        hprlen ▸ Nat.sub_lt (Nat.lt_of_lt_of_le hpos (Nat.sub_le _ _)) hn0, ?_⟩
      simp [ft, ← hpr, ARec.enc]
  have hlive : (F0 ++ [ft]).flatMap (fLive cfg) = (absRun {} ops).live := by
    have h1 : a1.live cfg = (F0.flatMap (fLive cfg) ++ liveRecs cfg f.recs) ++ [(some (a0.lastID + 1), t, d)] := by
      unfold Abs.live
      rw [hsh]
      simp only [List.flatMap_append, List.flatMap_cons, List.flatMap_nil, List.append_nil, fLive, AFile.setRecs]
      rw [liveRecs_append, ← hpr]
      simp [liveRecs, ARec.dead, isDeleted_good]
    rw [hl1] at h1
    rw [← hl0, List.append_cancel_right h1]
    simp [fLive, ft]
  rw [drain_replaced cfg s1 _ a1 inv1 F0 [] f' ft _ hsh rfl hwf htear htake hclock _ (by rw [hlive]; omega), hlive]

/-- the record as the reader sees it after the first `k` bytes of the erase reached the disk -/
def ARec.torn (r : ARec) (k : Nat) : ARec := { r with magic := tornMagic k, id := none }

theorem le_tornMagic : ∀ k, k ≤ 4 → le 4 (tornMagic k) = (le 4 magicDeleted).take k ++ (le 4 magicGood).drop k := by
  decide

theorem tornMagic_lt : ∀ k, k ≤ 4 → tornMagic k < 2 ^ 32 := by
  decide

theorem tornMagic_good {k : Nat} (h : k ≤ 2) : tornMagic k = magicGood := by
  match k, h with
  | 0, _ => exact torn_erase_magic.1
  | 1, _ => exact torn_erase_magic.2.1
  | 2, _ => exact torn_erase_magic.2.2.1

theorem tornMagic_deleted (cfg : Cfg) (hfix : cfg.tornEraseOk = true) {k : Nat} (hk : k ≤ 4) (h : ¬ k ≤ 2) :
    isDeletedMagic cfg (tornMagic k) = true := by
  have hk34 : k = 3 ∨ k = 4 := by omega
  rcases hk34 with rfl | rfl
  · rw [torn_erase_magic.2.2.2.1, isDeleted_torn, hfix]
  · rw [torn_erase_magic.2.2.2.2]
    exact isDeleted_deleted cfg

theorem ARec.torn_wf (cfg : Cfg) (hfix : cfg.tornEraseOk = true) (r : ARec) (hw : r.WF cfg) {k : Nat} (hk : k ≤ 4) :
    (r.torn k).WF cfg := by
  obtain ⟨_, w2, w3, w4, _, _⟩ := hw
  refine ⟨tornMagic_lt k hk, w2, w3, w4, ?_, fun hid => absurd rfl hid⟩
  intro hd
  by_cases h2 : k ≤ 2
  · exact tornMagic_good h2
  · rw [show (r.torn k).dead cfg = true from tornMagic_deleted cfg hfix hk h2] at hd
    cases hd

theorem liveRecs_dead_mid (cfg : Cfg) (r1 r2 : List ARec) (r : ARec) (hd : r.dead cfg = true) :
    liveRecs cfg (r1 ++ r :: r2) = liveRecs cfg r1 ++ liveRecs cfg r2 := by
  simp [liveRecs, hd]

theorem torn_enc (cfg : Cfg) (pre rest : Bytes) (r : ARec) (k : Nat) (hk : k ≤ 4) (hg : r.magic = magicGood) :
    writeAt (pre ++ (r.enc cfg ++ rest)) pre.length ((le 4 magicDeleted).take k) = pre ++ ((r.torn k).enc cfg ++ rest) := by
  simp only [ARec.enc, ARec.torn, encHeader, hg, le_tornMagic k hk, List.append_assoc]
  refine (congrArg (fun x => writeAt (pre ++ x) pre.length _) ?_).trans
    (writeAt_prefix pre _ ((le 4 magicGood).take k) _ ?_)
  · rw [← List.append_assoc (List.take k _), List.take_append_drop]
  · rw [List.length_take, List.length_take, le_length, le_length]

theorem liveErase_length_le (k : Nat) (l : List LiveE) : (liveErase k l).length ≤ l.length := by
  unfold liveErase; exact List.length_filter_le _ _

theorem torn_erase_history (cfg : Cfg) (hfix : cfg.tornEraseOk = true) (hcrc : ∀ b, cfg.crc b < 2 ^ 32) (ops : List Op)
    (hok : ∀ op ∈ ops, OpOk op) (id k : Nat) (hk : k ≤ 4) :
    (drain cfg ((absRun {} ops).live.length + 1) (restart (tornErase (run cfg {} ops) id k))).2 =
      outs 0 (clearLive (if k ≤ 2 then (absRun {} ops).live else liveErase id (absRun {} ops).live)) := by
  obtain ⟨a, inv, hl, -⟩ := run_refines_init cfg hcrc ops hok
  generalize run cfg {} ops = s at inv ⊢
  rw [← hl]
  cases hfb : findB s.known id with
  | none =>
    have hbase := (drain_layout cfg a.files a.clock s inv.names inv.namesLt inv.wf inv.disk inv.clock
      ((a.live cfg).length + 1) (Nat.lt_succ_self _)).1
    have : tornErase s id k = s := by simp [tornErase, hfb]
    rw [this, hbase, liveErase_unknown cfg s a inv id hfb, ite_self]
    rfl
  | some b =>
    obtain ⟨hbk, rfl⟩ := findB_some hfb
    obtain ⟨f, r1, r, r2, ef⟩ := inv.bucketAt ((inv.known b).mp hbk)
    have hwf := inv.wf f ef.mem
    have hwr := hwf.1 r (by rw [ef.recs]; exact List.mem_append_right _ List.mem_cons_self)
    have hrdead : r.dead cfg = false := hwr.id_live (by rw [ef.id]; exact Option.some_ne_none _)
    obtain ⟨F1, F2, hF⟩ := List.append_of_mem ef.mem
    have hne := inv.names_split hF
    -- the file as the reader finds it
    let ft : AFile := f.setRecs (r1 ++ r.torn k :: r2)
    have hftb : writeAt (f.bytes cfg) (recsLen r1) ((le 4 magicDeleted).take k) = ft.bytes cfg := by
      simp only [AFile.bytes, ft, AFile.setRecs, ef.recs, encRecs_append, encRecs, List.append_assoc]
      rw [← encRecs_length cfg r1]
      exact torn_enc cfg _ _ r k hk (hwr.live_good hrdead)
    have hdisk : (tornErase s b.id k).disk =
        mapDisk s.disk f.name (fun x => writeAt x (recsLen r1) ((le 4 magicDeleted).take k)) := by
      simp only [tornErase, hfb, ef.file, ef.pos]
    have hclock : (tornErase s b.id k).clock = s.clock := by simp [tornErase, hfb]
    have hwft : (∀ q ∈ ft.recs, q.WF cfg) ∧ TailStop ft.tl := by
      refine ⟨?_, hwf.2⟩
      intro q hq
      simp only [ft, AFile.setRecs, List.mem_append, List.mem_cons] at hq
      rcases hq with h | rfl | h
      · exact hwf.1 q (by rw [ef.recs]; exact List.mem_append_left _ h)
      · exact r.torn_wf cfg hfix hwr hk
      · exact hwf.1 q (by rw [ef.recs]; exact List.mem_append_right _ (List.mem_cons_of_mem _ h))
    -- its live sequence: the torn record still counts for k ≤ 2 and is skipped like an erased one for k = 3, 4
    have hnew : (F1 ++ ft :: F2).flatMap (fLive cfg) =
        F1.flatMap (fLive cfg) ++ (liveRecs cfg (r1 ++ r.torn k :: r2) ++ F2.flatMap (fLive cfg)) := by
      rw [List.flatMap_append, List.flatMap_cons]
      rfl
    have hcl : clearLive ((F1 ++ ft :: F2).flatMap (fLive cfg)) =
        clearLive (if k ≤ 2 then a.live cfg else liveErase b.id (a.live cfg)) := by
      by_cases h2 : k ≤ 2
      · have hd : (r.torn k).dead cfg = false := by
          simp only [ARec.torn, ARec.dead, tornMagic_good h2, isDeleted_good]
        rw [if_pos h2, hnew, liveRecs_split cfg r1 r2 _ hd]
        unfold Abs.live
        rw [hF, List.flatMap_append, List.flatMap_cons, fLive, ef.recs, liveRecs_split cfg r1 r2 r hrdead]
        simp [clearLive, ARec.torn]
      · have hsub : ∀ x ∈ F1 ++ F2, eraseF b.id x = x := by
          intro x hx
          refine ef.erase_other x ?_ (fun e => hne x hx (congrArg AFile.name e))
          rw [hF]
          rcases List.mem_append.mp hx with h | h
          · exact List.mem_append_left _ h
          · exact List.mem_append_right _ (List.mem_cons_of_mem _ h)
        have e1 : F1.map (eraseF b.id) = F1 :=
          (List.map_congr_left (fun x hx => hsub x (List.mem_append_left _ hx))).trans (List.map_id F1)
        have e2 : F2.map (eraseF b.id) = F2 :=
          (List.map_congr_left (fun x hx => hsub x (List.mem_append_right _ hx))).trans (List.map_id F2)
        rw [if_neg h2, hnew, liveRecs_dead_mid cfg r1 r2 (r.torn k) (tornMagic_deleted cfg hfix hk h2),
          ← Abs.live_erase cfg a b.id inv.id_live]
        unfold Abs.live
        rw [Abs.files_erase, hF, List.map_append, List.map_cons, e1, e2, ef.erase_self, List.flatMap_append, List.flatMap_cons, fLive,
          AFile.setRecs, liveRecs_dead_mid cfg r1 r2 r.erased (isDeleted_deleted cfg)]
    have hlen : ((F1 ++ ft :: F2).flatMap (fLive cfg)).length < (a.live cfg).length + 1 := by
      rw [← clearLive_length, hcl, clearLive_length]
      split
      · exact Nat.lt_succ_self _
      · exact Nat.lt_succ_of_le (liveErase_length_le _ _)
    rw [drain_replaced cfg s _ a inv F1 F2 f ft _ hF rfl hwft hdisk hftb hclock _ hlen, hcl]

end SH.C09
