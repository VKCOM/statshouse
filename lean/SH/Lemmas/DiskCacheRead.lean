/-
  SH.Lemmas.DiskCacheRead — ReadNextTailSecond: every iteration of its loop preserves `Inv`; the loop hands out the first
  unread second of the live sequence; `readFuel` suffices; draining a state whose unread seconds are a suffix of the live
  sequence (`drain_spec`). Two steps are stated once for all their users: a record gains the next id (`inv_new_id`: tail reader
  and PutBucket) and a file leaves the directory (`inv_drop_core`: tail reader, EraseBucket and rotation).
-/
import SH.Lemmas.DiskCacheInv

namespace SH.C09
open SH.DiskCache

def Abs.openA (a : Abs) (f : AFile) (fs : List AFile) : Abs := { a with cur := some (f, 0), wait := fs }

theorem inv_open (cfg : Cfg) (s : Shard) (a : Abs) (f : AFile) (fs : List AFile) (inv : Inv cfg s a)
    (hcur : a.cur = none) (hw : a.wait = f :: fs) :
    Inv cfg (openNext s ⟨f.name, f.size cfg⟩ (fs.map (fun g => ⟨g.name, g.size cfg⟩))) (a.openA f fs) := by
  have hfiles : (a.openA f fs).files = a.files := by
    simp [Abs.openA, Abs.files, Abs.curL, hcur, hw]
  have hb : (a.openA f fs).buckets cfg = a.buckets cfg := by simp [Abs.buckets, hfiles]
  have hfm : f ∈ a.files := by simp [Abs.files, hw]
  have hfw : f ∈ a.wait := by simp [hw]
  have hrn : a.rname = none := by simp [Abs.rname, hcur]
  have hrn' : (a.openA f fs).rname = some f.name := by simp [Abs.rname, Abs.openA]
  have hwn' : (a.openA f fs).wname = a.wname := rfl
  have hwne : a.wname ≠ some f.name := by
    intro h
    obtain ⟨g, hg, hgn⟩ := Abs.wname_new h
    exact inv.wait_name_ne hfw (List.mem_append_right _ hg) hgn.symm
  have hrefs : ∀ g ∈ a.files, (a.openA f fs).refs g = a.refs g + (if g.name = f.name then 1 else 0) := by
    intro g _
    simp only [Abs.refs, hrn', hwn', hrn]
    by_cases hgn : g.name = f.name
    · simp only [hgn, if_true]; split <;> simp <;> omega
    · have : f.name ≠ g.name := fun h => hgn h.symm
      simp [hgn, this]
  refine { inv with
           disk := ?_, names := ?_, namesLt := ?_, wf := ?_, waitIds := ?_, curOk := ?_, idsLe := ?_, idsNodup := ?_,
           known := ?_, ofiles := ?_, reading := ?_, writing := ?_, waiting := ?_, total := ?_, knownSize := ?_,
           waitingSize := ?_, present := ?_ }
  · rw [hfiles]; exact inv.disk
  · rw [hfiles]; exact inv.names
  · rw [hfiles]; exact inv.namesLt
  · rw [hfiles]; exact inv.wf
  · intro g hg; exact inv.waitIds g (by simp [hw]; right; exact hg)
  · intro g j h
    simp [Abs.openA] at h
    obtain ⟨h1, h2⟩ := h
    subst h1; subst h2
    refine ⟨Nat.zero_le _, by simp, ?_⟩
    simpa using inv.waitIds f hfw
  · rw [hb]; exact inv.idsLe
  · rw [hb]; exact inv.idsNodup
  · rw [hb]; exact inv.known
  · intro name
    simp only [openNext]
    by_cases hn : f.name = name
    · subst hn
      have := findO_cons_self { name := f.name, nextPos := 0, size := f.size cfg, refCount := 1 } s.ofiles
      simp only at this
      rw [this]
      have hone : (a.openA f fs).refs f = 1 := by
        rw [hrefs f hfm]
        simp [Abs.refs, hrn, idc_none _ (inv.waitIds f hfw), hwne]
      refine ⟨rfl, f, by rw [hfiles]; exact hfm, rfl, hone.symm, hone ▸ Int.one_pos, rfl, ?_⟩
      intro j h
      simp [Abs.openA] at h
      subst h
      simp [recsLen]
    · refine inv.ofiles_other (findO_cons_ne _ _ _ hn) (fun g _ => by rw [hfiles]) ?_ ?_
      · intro g hg hgn
        rw [hrefs g hg, if_neg (fun e => hn (e.symm.trans hgn)), Int.add_zero]
      · intro g j hgn h
        cases h
        exact absurd hgn hn
  · simp [openNext, hrn']
  · simp [openNext, hwn', inv.writing]
  · simp [openNext, Abs.openA]
  · rw [hfiles]; simp [openNext, inv.total]
  · rw [hb]; simp [openNext, inv.knownSize]
  · simp [openNext, Abs.openA, inv.waitingSize, hw, sizeSum]; omega
  · intro g hg
    have hg0 : g ∈ a.pre ++ a.new := hg
    rw [hrefs g (mem_files_of_pre_new hg0)]
    have := inv.present g hg0
    split <;> omega

theorem Inv.fileBytes_of_mem {cfg : Cfg} {s : Shard} {a : Abs} (inv : Inv cfg s a) {f : AFile} (hf : f ∈ a.files) :
    DiskCache.fileBytes s.disk f.name = f.bytes cfg := by
  unfold DiskCache.fileBytes
  rw [inv.disk, List.find?_map]
  have := find?_map_nodup (fun g : AFile => g.name) a.files (nodup_of_pairwise_lt inv.names) f hf
  have e : (fun g : DFile => g.name == f.name) ∘ AFile.render cfg = fun y : AFile => y.name == f.name := by
    funext y; simp [AFile.render]
  rw [e, this]
  simp [AFile.render]

theorem Inv.hasFile_of_mem {cfg : Cfg} {s : Shard} {a : Abs} (inv : Inv cfg s a) {f : AFile} (hf : f ∈ a.files) :
    DiskCache.hasFile s.disk f.name = true := by
  rw [inv.disk, DiskCache.hasFile, List.any_eq_true]
  exact ⟨f.render cfg, List.mem_map_of_mem hf, beq_self_eq_true _⟩

/-- what `Inv` says of the file `f` under the read head (cursor before record `j`) and of its file object `o` -/
structure CurView (cfg : Cfg) (s : Shard) (a : Abs) (f : AFile) (j : Nat) (o : OFile) : Prop where
  mem : f ∈ a.files
  reading : s.reading = some f.name
  ofile : findO s.ofiles f.name = some o
  name : o.name = f.name
  size : o.size = f.size cfg
  pos : o.nextPos = recsLen (f.recs.take j)
  refs : o.refCount = a.refs f

theorem Inv.cur_view {cfg : Cfg} {s : Shard} {a : Abs} (inv : Inv cfg s a) {f : AFile} {j : Nat} (hc : a.cur = some (f, j)) :
    ∃ o, CurView cfg s a f j o := by
  have hfm : f ∈ a.files := Abs.mem_files.mpr (Or.inr (Or.inl ⟨j, hc⟩))
  have hr : a.rname = some f.name := by simp [Abs.rname, hc]
  obtain ⟨o, ho⟩ := inv.ofile_some hfm (Abs.one_le_refs_of_rname hr)
  obtain ⟨hn, hrc, -, hsz, hpos⟩ := inv.ofile_of_mem hfm ho
  exact ⟨o, hfm, by rw [inv.reading, hr], ho, hn, hsz, hpos j hc, hrc⟩

theorem Inv.cur_view_at {cfg : Cfg} {s : Shard} {a : Abs} (inv : Inv cfg s a) {f : AFile} {j : Nat} {o : OFile}
    (hc : a.cur = some (f, j)) (ho : findO s.ofiles f.name = some o) : CurView cfg s a f j o := by
  obtain ⟨o', v⟩ := inv.cur_view hc
  cases ho.symm.trans v.ofile
  exact v

theorem Inv.cur_name_ne {cfg : Cfg} {s : Shard} {a : Abs} (inv : Inv cfg s a) {f : AFile} {j : Nat} (hc : a.cur = some (f, j)) :
    ∀ g ∈ a.pre ++ (a.wait ++ a.new), g.name ≠ f.name :=
  inv.names_split (Abs.files_of_cur hc)

theorem Inv.cur_not_wait {cfg : Cfg} {s : Shard} {a : Abs} (inv : Inv cfg s a) {f : AFile} {j : Nat} (hc : a.cur = some (f, j)) :
    f ∉ a.wait :=
  fun h => inv.cur_name_ne hc f (List.mem_append_right _ (List.mem_append_left _ h)) rfl

theorem Inv.cur_wname_ne {cfg : Cfg} {s : Shard} {a : Abs} (inv : Inv cfg s a) {f : AFile} {j : Nat} (hc : a.cur = some (f, j)) :
    a.wname ≠ some f.name := by
  intro h
  obtain ⟨g, hg, hgn⟩ := Abs.wname_new h
  exact inv.cur_name_ne hc g (List.mem_append_right _ (List.mem_append_right _ hg)) hgn

theorem Inv.cur_refs {cfg : Cfg} {s : Shard} {a : Abs} (inv : Inv cfg s a) {f : AFile} {j : Nat} (hc : a.cur = some (f, j)) :
    a.refs f = (idc f.recs : Int) + 1 := by
  have hr : a.rname = some f.name := by simp [Abs.rname, hc]
  simp [Abs.refs, hr, inv.cur_wname_ne hc]

theorem Inv.cur_idc_zero {cfg : Cfg} {s : Shard} {a : Abs} (inv : Inv cfg s a) {f : AFile} {j : Nat} {o : OFile}
    (hc : a.cur = some (f, j)) (v : CurView cfg s a f j o) (hz : o.refCount - 1 = 0) : idc f.recs = 0 := by
  have h1 := v.refs
  have h2 := inv.cur_refs hc
  omega

def Abs.skipA (a : Abs) (f : AFile) (j : Nat) : Abs := { a with cur := some (f, j + 1) }

theorem inv_skip (cfg : Cfg) (s : Shard) (a : Abs) (f : AFile) (r1 r2 : List ARec) (r : ARec) (inv : Inv cfg s a)
    (hc : a.cur = some (f, r1.length)) (hrec : f.recs = r1 ++ r :: r2) (hd : unread cfg r = false) :
    Inv cfg (setNextPos s f.name (recsLen r1 + r.len)) (a.skipA f r1.length) := by
  have hfiles : (a.skipA f r1.length).files = a.files := by simp [Abs.skipA, Abs.files, Abs.curL, hc]
  have hb : (a.skipA f r1.length).buckets cfg = a.buckets cfg := by simp [Abs.buckets, hfiles]
  have hrn : (a.skipA f r1.length).rname = a.rname := by simp [Abs.rname, Abs.skipA, hc]
  have hwn : (a.skipA f r1.length).wname = a.wname := rfl
  have hrefs : ∀ g, (a.skipA f r1.length).refs g = a.refs g := by intro g; simp only [Abs.refs, hrn, hwn]
  obtain ⟨o, v⟩ := inv.cur_view hc
  obtain ⟨_, hread1, hnone2⟩ := inv.curOk f _ hc
  rw [hrec, List.take_left] at hread1
  rw [hrec, List.drop_left] at hnone2
  refine { inv with
           disk := ?_, names := ?_, namesLt := ?_, wf := ?_, curOk := ?_, idsLe := ?_, idsNodup := ?_, known := ?_,
           ofiles := ?_, reading := ?_, writing := ?_, total := ?_, knownSize := ?_, present := ?_ }
  · rw [hfiles]; exact inv.disk
  · rw [hfiles]; exact inv.names
  · rw [hfiles]; exact inv.namesLt
  · rw [hfiles]; exact inv.wf
  · intro g k h
    simp [Abs.skipA] at h
    obtain ⟨h1, h2⟩ := h
    subst h1; subst h2
    rw [hrec, take_len_succ, drop_len_succ]
    exact ⟨by simp, forall_mem_concat hread1 hd, fun q hq => hnone2 q (List.mem_cons_of_mem _ hq)⟩
  · rw [hb]; exact inv.idsLe
  · rw [hb]; exact inv.idsNodup
  · rw [hb]; exact inv.known
  · intro name
    simp only [setNextPos]
    by_cases hn : name = f.name
    · subst hn
      rw [findO_mapO s.ofiles f.name (fun g => { g with nextPos := recsLen r1 + r.len }) o (fun _ => rfl) v.ofile]
      refine ⟨v.name, f, by rw [hfiles]; exact v.mem, rfl, by rw [hrefs]; exact v.refs, ?_, v.size, ?_⟩
      · rw [hrefs]
        exact Abs.one_le_refs_of_rname (by simp [Abs.rname, hc])
      · intro k h
        simp [Abs.skipA] at h
        subst h
        simp [hrec, take_len_succ, recsLen_append, recsLen]
    · refine inv.ofiles_other (findO_mapO_ne _ _ _ _ (fun _ => rfl) hn) (fun g _ => by rw [hfiles]) (fun g _ _ => hrefs g) ?_
      intro g k hgn h
      cases h
      exact absurd hgn.symm hn
  · simp [setNextPos, hrn, inv.reading]
  · simp [setNextPos, hwn, inv.writing]
  · rw [hfiles]; simp [setNextPos, inv.total]
  · rw [hb]; simp [setNextPos, inv.knownSize]
  · intro g hg
    rw [hrefs]; exact inv.present g (by simpa [Abs.skipA] using hg)

/-- A record of file `f` gains the next id, `f ↦ f'` in place (`nb` = its bucket, `δ` = bytes added to the file): the tail reader
    hands a second out, or PutBucket appends one. The clauses of `Inv` about the segment in which `f` lies are left to the caller. -/
theorem inv_new_id (cfg : Cfg) (s s' : Shard) (a a' : Abs) (inv : Inv cfg s a) (F1 F2 : List AFile) (f f' : AFile) (o : OFile)
    (nb : Bucket) (δ : Nat) (G : OFile → OFile)
    (hF : a.files = F1 ++ f :: F2) (hF' : a'.files = F1 ++ f' :: F2) (hn : f'.name = f.name := by rfl)
    (hwf : (∀ r ∈ f'.recs, r.WF cfg) ∧ TailStop f'.tl) (hsize : f'.size cfg = f.size cfg + δ)
    (hfb : fbuckets cfg f' = fbuckets cfg f ++ [nb]) (hnb : nb.id = a.lastID + 1 := by rfl)
    (hlast : a'.lastID = a.lastID + 1 := by rfl) (hclock : a'.clock = a.clock := by rfl)
    (hrn : a'.rname = a.rname := by rfl) (hwn : a'.wname = a.wname := by rfl)
    (hpre : a'.pre = a.pre := by rfl) (hwait : a'.wait = a.wait := by rfl)
    (hnewTl : ∀ g ∈ a'.new, g.tl = []) (hnewRead : ∀ g ∈ a'.new, ∀ r ∈ g.recs, unread cfg r = false)
    (hcurOk : ∀ g j, a'.cur = some (g, j) → j ≤ g.recs.length ∧ (∀ r ∈ g.recs.take j, unread cfg r = false) ∧
      (∀ r ∈ g.recs.drop j, r.id = none))
    (hwsome : a'.writing = true → a'.new ≠ [])
    (hpn : ∀ g ∈ a'.pre ++ a'.new, g = f' ∨ g ∈ a.pre ++ a.new)
    (hcur : ∀ g j, a'.cur = some (g, j) → g = f' ∨ a.cur = some (g, j))
    (ho : findO s.ofiles f.name = some o) (hG : ∀ x, (G x).name = x.name) (hGr : (G o).refCount = o.refCount + 1 := by rfl)
    (hGs : (G o).size = o.size + δ := by rfl) (hGp : ∀ j, a'.cur = some (f', j) → (G o).nextPos = recsLen (f'.recs.take j))
    (hsd : s'.disk = a'.files.map (AFile.render cfg)) (hsc : s'.clock = s.clock := by rfl)
    (hsl : s'.lastID = s.lastID + 1 := by rfl)
    (hsk : s'.known = nb :: s.known) (hsks : s'.knownSize = s.knownSize + bsize nb)
    (hso : s'.ofiles = mapO s.ofiles f.name G := by rfl) (hsr : s'.reading = s.reading := by rfl)
    (hsw : s'.writing = s.writing := by rfl) (hswt : s'.waiting = s.waiting := by rfl)
    (hsws : s'.waitingSize = s.waitingSize := by rfl) (hst : s'.total = s.total + δ := by rfl) :
    Inv cfg s' a' := by
  have hf : f ∈ a.files := by
    rw [hF]
    exact List.mem_append_right _ List.mem_cons_self
  have hmem : ∀ g, g ∈ a'.files ↔ g = f' ∨ g ∈ F1 ++ F2 := by
    intro g
    rw [hF']
    simp only [List.mem_append, List.mem_cons]
    exact ⟨fun h => h.elim (fun h => Or.inr (Or.inl h)) (fun h => h.elim Or.inl (fun h => Or.inr (Or.inr h))),
      fun h => h.elim (fun h => Or.inr (Or.inl h)) (fun h => h.elim Or.inl (fun h => Or.inr (Or.inr h)))⟩
  have hperm : (a'.buckets cfg).Perm (nb :: a.buckets cfg) := by
    unfold Abs.buckets
    rw [hF, hF', List.flatMap_append, List.flatMap_append, List.flatMap_cons, List.flatMap_cons, hfb, List.append_assoc,
      ← List.append_assoc, ← List.append_assoc (F1.flatMap (fbuckets cfg))]
    exact List.perm_middle
  have hrefs : ∀ g, a'.refs g = a.refs g := fun g => by simp only [Abs.refs, hrn, hwn]
  have hidc : idc f'.recs = idc f.recs + 1 := by
    rw [idc_eq_len cfg f'.name 0, idc_eq_len cfg f.name 0]
    show (fbuckets cfg f').length = (fbuckets cfg f).length + 1
    rw [hfb, List.length_append]
    rfl
  have hrefs' : a'.refs f' = a.refs f + 1 := Abs.refs_succ hn hrn hwn hidc
  have hfresh : ∀ b ∈ a.buckets cfg, b.id ≠ nb.id := fun b hb =>
    hnb ▸ Nat.ne_of_lt (Nat.lt_succ_of_le (inv.idsLe b hb))
  obtain ⟨hon, horc, -, hosz, -⟩ := inv.ofile_of_mem hf ho
  refine { disk := hsd, clock := by rw [hsc, inv.clock, hclock], lastID := by rw [hsl, inv.lastID, hlast], names := ?_,
           namesLt := ?_, wf := ?_, newTl := hnewTl, preRead := hpre ▸ inv.preRead, newRead := hnewRead,
           waitIds := hwait ▸ inv.waitIds, curOk := hcurOk, idsLe := ?_, idsNodup := ?_, known := ?_, ofiles := ?_,
           reading := by rw [hsr, hrn]; exact inv.reading, writing := by rw [hsw, hwn]; exact inv.writing,
           writingSome := hwsome, waiting := by rw [hswt, hwait]; exact inv.waiting, total := ?_, knownSize := ?_,
           waitingSize := by rw [hsws, hwait]; exact inv.waitingSize, present := ?_ }
  · rw [hF']; exact (inv.replace_file hF hn hwf).1
  · intro g hg; rw [hclock]; exact ((inv.replace_file hF hn hwf).2 g (hF' ▸ hg)).1
  · intro g hg; exact ((inv.replace_file hF hn hwf).2 g (hF' ▸ hg)).2
  · intro b hb
    rw [hlast]
    rcases List.mem_cons.mp (hperm.mem_iff.mp hb) with rfl | h
    · exact Nat.le_of_eq hnb
    · exact Nat.le_succ_of_le (inv.idsLe b h)
  · rw [(hperm.map _).nodup_iff, List.map_cons, List.nodup_cons]
    refine ⟨?_, inv.idsNodup⟩
    intro hin
    obtain ⟨b, hb, hbk⟩ := List.mem_map.mp hin
    exact hfresh b hb hbk
  · intro b
    rw [hsk, List.mem_cons, hperm.mem_iff, List.mem_cons, inv.known]
  · intro name
    rw [hso]
    by_cases hn' : name = f.name
    · subst hn'
      rw [findO_mapO s.ofiles f.name G o hG ho]
      refine ⟨(hG o).trans hon, f', (hmem f').mpr (Or.inl rfl), hn, by rw [hrefs', hGr, horc], ?_, by rw [hGs, hsize, hosz], hGp⟩
      rw [hrefs']
      exact Int.lt_add_one_iff.mpr (Abs.refs_nonneg a f)
    · have hnf : ∀ g : AFile, g.name = name → g ≠ f' ∧ g ≠ f := fun g hgn =>
        ⟨fun e => hn' (hgn.symm.trans ((congrArg AFile.name e).trans hn)), fun e => hn' (hgn.symm.trans (congrArg AFile.name e))⟩
      refine inv.ofiles_other (findO_mapO_ne _ _ _ _ hG hn') ?_ (fun g _ _ => hrefs g) ?_
      · intro g hgn
        rw [hmem g, hF]
        simp only [List.mem_append, List.mem_cons, (hnf g hgn).1, (hnf g hgn).2, false_or]
      · intro g j hgn h
        exact (hcur g j h).resolve_left (hnf g hgn).1
  · rw [hst, inv.total, hF, hF']
    simp only [sizeSum, List.map_append, List.map_cons, List.sum_append, List.sum_cons, hsize]
    push_cast
    ac_rfl
  · rw [hsks, inv.knownSize, Lists.sum_perm (hperm.map bsize), List.map_cons, List.sum_cons]
    exact Int.add_comm _ _
  · intro g hg
    rcases hpn g hg with rfl | h
    · rw [hrefs']
      exact Int.lt_add_one_iff.mpr (Abs.refs_nonneg a f)
    · rw [hrefs g]
      exact inv.present g h

def ARec.withId (r : ARec) (k : Nat) : ARec := { r with id := some k }
def AFile.setRecs (f : AFile) (rs : List ARec) : AFile := { f with recs := rs }

def Abs.goodA (a : Abs) (f : AFile) (r1 : List ARec) (r : ARec) (r2 : List ARec) : Abs :=
  { a with cur := some (f.setRecs (r1 ++ r.withId (a.lastID + 1) :: r2), r1.length + 1), lastID := a.lastID + 1 }

theorem encRecs_withId (cfg : Cfg) (r1 r2 : List ARec) (r : ARec) (k : Nat) :
    encRecs cfg (r1 ++ r.withId k :: r2) = encRecs cfg (r1 ++ r :: r2) := by
  simp [encRecs_append, encRecs, ARec.enc, ARec.withId]

theorem inv_good (cfg : Cfg) (s : Shard) (a : Abs) (f : AFile) (r1 r2 : List ARec) (r : ARec) (o : OFile) (inv : Inv cfg s a)
    (hc : a.cur = some (f, r1.length)) (hrec : f.recs = r1 ++ r :: r2) (hdead : r.dead cfg = false) (hidn : r.id = none)
    (ho : findO s.ofiles f.name = some o) :
    Inv cfg (register s o (r.hdr cfg) (recsLen r1 + r.len)) (a.goodA f r1 r r2) := by
  have v := inv.cur_view_at hc ho
  have htk : f.recs.take r1.length = r1 := by rw [hrec]; simp
  have hdr : f.recs.drop r1.length = r :: r2 := by rw [hrec]; simp
  have hop := v.pos
  rw [htk] at hop
  obtain ⟨_, hread1, hnone2⟩ := inv.curOk f r1.length hc
  rw [htk] at hread1; rw [hdr] at hnone2
  have hM2 : ∀ off, bucketsAt cfg f.name off r2 = [] := fun off =>
    bucketsAt_none cfg _ _ _ (fun q hq => hnone2 q (by simp [hq]))
  have hF := Abs.files_of_cur hc
  have hF' : (a.goodA f r1 r r2).files = a.pre ++ f.setRecs (r1 ++ r.withId (a.lastID + 1) :: r2) :: (a.wait ++ a.new) := by
    simp [Abs.files, Abs.curL, Abs.goodA]
  have hbytes : (f.setRecs (r1 ++ r.withId (a.lastID + 1) :: r2)).bytes cfg = f.bytes cfg := by
    simp only [AFile.bytes, AFile.setRecs, hrec, encRecs_withId]
  refine inv_new_id cfg s _ a _ inv a.pre (a.wait ++ a.new) f _ o
    ⟨a.lastID + 1, f.name, recsLen r1, r.time, r.body.length, cfg.crc r.body⟩ 0
    (fun g => { g with refCount := g.refCount + 1, nextPos := recsLen r1 + r.len })
    hF hF' (hwf := ?hwf) (hsize := by simp only [AFile.size, hbytes, Nat.add_zero]) (hfb := ?hfb)
    (hrn := by simp [Abs.rname, Abs.goodA, hc, AFile.setRecs]) (hnewTl := inv.newTl) (hnewRead := inv.newRead) (hcurOk := ?hcurOk)
    (hwsome := inv.writingSome) (hpn := fun g hg => Or.inr hg)
    (hcur := fun g j h => Or.inl (congrArg Prod.fst (Option.some.inj h)).symm) (ho := ho) (hG := fun _ => rfl) (hGp := ?hGp)
    (hsd := ?hsd) (hsk := ?hsk) (hsks := by simp [register, bsize, ARec.hdr]) (hso := ?hso) (hst := by simp [register])
  case hwf =>
    obtain ⟨hw1, hw2⟩ := inv.wf f v.mem
    refine ⟨?_, hw2⟩
    intro q hq
    simp only [AFile.setRecs, List.mem_append, List.mem_cons] at hq
    rcases hq with h | h | h
    · exact hw1 q (by rw [hrec]; simp [h])
    · subst h
      obtain ⟨a1, a2, a3, a4, a5, _⟩ := hw1 r (by rw [hrec]; simp)
      exact ⟨a1, a2, a3, a4, a5, fun _ => hdead⟩
    · exact hw1 q (by rw [hrec]; simp [h])
  case hfb =>
    simp [fbuckets, AFile.setRecs, hrec, bucketsAt_append, bucketsAt, bucketOf, ARec.withId, hidn, hM2]
  case hcurOk =>
    intro g j h
    simp only [Abs.goodA, Option.some.injEq, Prod.mk.injEq] at h
    obtain ⟨h1, h2⟩ := h
    subst h1; subst h2
    refine ⟨by simp [AFile.setRecs], ?_, ?_⟩
    · intro q hq
      simp only [AFile.setRecs, take_len_succ, List.mem_append, List.mem_singleton] at hq
      rcases hq with h | h
      · exact hread1 q h
      · subst h; simp [unread, hasId, ARec.withId]
    · intro q hq
      simp only [AFile.setRecs, drop_len_succ] at hq
      exact hnone2 q (by simp [hq])
  case hGp =>
    intro j h
    simp only [Abs.goodA, Option.some.injEq, Prod.mk.injEq] at h
    rw [← h.2]
    simp only [AFile.setRecs, take_len_succ, recsLen_append, recsLen, ARec.len, ARec.withId]
    omega
  case hsd =>
    show s.disk = _
    rw [inv.disk, hF, hF', List.map_append, List.map_append, List.map_cons, List.map_cons]
    simp only [AFile.render, hbytes]
    rfl
  case hsk =>
    show _ :: s.known = _
    rw [inv.lastID, v.name, hop]
    rfl
  case hso =>
    show mapO s.ofiles o.name _ = _
    rw [v.name]

/-- the file named `n` leaves the directory (from `pre`, `new` or under the read cursor); `wclr`: the write head let go of it -/
def Abs.dropA (a : Abs) (n : Nat) (wclr : Bool) : Abs :=
  { a with pre := a.pre.filter (fun f => f.name != n), cur := a.cur.filter (fun p => p.1.name != n),
           new := a.new.filter (fun f => f.name != n), writing := a.writing && !wclr }

theorem Abs.cur_drop {a : Abs} {n : Nat} {w : Bool} {p : AFile × Nat} (h : (a.dropA n w).cur = some p) : a.cur = some p :=
  (Option.filter_eq_some_iff.mp h).1

theorem Abs.rname_drop (a : Abs) (n : Nat) (w : Bool) :
    (a.dropA n w).rname = if a.rname = some n then none else a.rname := by
  cases hc : a.cur with
  | none => simp [Abs.rname, Abs.dropA, hc]
  | some p => by_cases hp : p.1.name = n <;> simp [Abs.rname, Abs.dropA, hc, Option.filter, hp]

theorem Abs.files_drop (a : Abs) (n : Nat) (w : Bool) (hw : ∀ f ∈ a.wait, f.name ≠ n) :
    (a.dropA n w).files = a.files.filter (fun f => f.name != n) := by
  have h1 : (a.dropA n w).curL = a.curL.filter (fun f => f.name != n) := by
    cases hc : a.cur with
    | none => simp [Abs.curL, Abs.dropA, hc]
    | some p => by_cases hp : p.1.name = n <;> simp [Abs.curL, Abs.dropA, hc, Option.filter, hp]
  have h2 : a.wait.filter (fun f => f.name != n) = a.wait := List.filter_eq_self.mpr (fun f hf => bne_iff_ne.mpr (hw f hf))
  simp only [Abs.files, h1, List.filter_append, h2]
  rfl

theorem Inv.files_drop {cfg : Cfg} {s : Shard} {a : Abs} (inv : Inv cfg s a) {f : AFile} (hf : f ∈ a.files) (hfw : f ∉ a.wait)
    (w : Bool) : (a.dropA f.name w).files = a.files.filter (fun g => g.name != f.name) :=
  Abs.files_drop a f.name w (fun g hg e => hfw (inv.name_inj (by simp [Abs.files, hg]) hf e ▸ hg))

theorem Abs.wname_drop (a : Abs) (n : Nat) (w : Bool) (hsome : a.writing = true → a.new ≠ [])
    (hw : w = false → a.wname ≠ some n) :
    (a.dropA n w).wname = (if w then none else a.wname) ∧ ((a.dropA n w).writing = true → (a.dropA n w).new ≠ []) := by
  cases w with
  | true => simp [Abs.wname, Abs.dropA]
  | false =>
    have key : a.writing = true → ∃ x, a.new.getLast? = some x ∧ (a.new.filter (fun g => g.name != n)).getLast? = some x := by
      intro hwt
      cases hl : a.new.getLast? with
      | none => exact absurd (List.getLast?_eq_none_iff.mp hl) (hsome hwt)
      | some x =>
        have hx : x.name ≠ n := fun e => hw rfl (by simp [Abs.wname, hwt, hl, e])
        exact ⟨x, rfl, getLast?_filter_eq_some a.new _ x hl (by simp [hx])⟩
    by_cases hwt : a.writing = true
    · obtain ⟨x, h1, h2⟩ := key hwt
      constructor
      · simp [Abs.wname, Abs.dropA, hwt, h1, h2]
      · intro _ e
        rw [show a.new.filter (fun g => g.name != n) = [] from e] at h2
        cases h2
    · simp [Abs.wname, Abs.dropA, hwt]

theorem filter_map_render (cfg : Cfg) (l : List AFile) (n : Nat) :
    (l.map (AFile.render cfg)).filter (fun d => d.name != n) = (l.filter (fun f => f.name != n)).map (AFile.render cfg) := by
  rw [List.filter_map]
  rfl

/-- filtering one file name out of the directory, seen through a per-file list `g` -/
theorem flatMap_filter_name {β} (g : AFile → List β) (p : β → Bool) (n : Nat) : ∀ (l : List AFile),
    (∀ x ∈ l, x.name ≠ n → (g x).filter p = g x) → (∀ x ∈ l, x.name = n → (g x).filter p = []) →
    (l.filter (fun f => f.name != n)).flatMap g = (l.flatMap g).filter p := by
  intro l
  induction l with
  | nil => intro _ _; rfl
  | cons x l ih =>
    intro h1 h2
    have ih' := ih (fun y hy => h1 y (by simp [hy])) (fun y hy => h2 y (by simp [hy]))
    by_cases hx : x.name = n
    · simp [hx, List.flatMap_cons, List.filter_append, h2 x (by simp) hx, ih']
    · simp [hx, List.flatMap_cons, List.filter_append, h1 x (by simp) hx, ih']

theorem Inv.live_drop {cfg : Cfg} {s : Shard} {a : Abs} (inv : Inv cfg s a) {f : AFile} (hf : f ∈ a.files) (hfw : f ∉ a.wait)
    (hl : fLive cfg f = []) (w : Bool) : (a.dropA f.name w).live cfg = a.live cfg := by
  unfold Abs.live
  rw [inv.files_drop hf hfw w]
  refine (flatMap_filter_name (fLive cfg) (fun _ => true) f.name a.files (fun _ _ _ => List.filter_eq_self.mpr (fun _ _ => rfl))
    ?_).trans (List.filter_eq_self.mpr (fun _ _ => rfl))
  intro g hg hgn
  rw [inv.name_inj hg hf hgn, hl]
  rfl

theorem sizeSum_filter (cfg : Cfg) (f : AFile) (l : List AFile) (hf : f ∈ l) (hnd : (l.map (·.name)).Nodup) :
    sizeSum cfg (l.filter (fun g => g.name != f.name)) = sizeSum cfg l - f.size cfg :=
  sum_filter_key (fun g : AFile => g.name) (fun g => (g.size cfg : Int)) f l hnd hf

/-- `unref` brought the reference count of file `f` to zero: the file leaves the disk. Used when the read head closes its file,
    by EraseBucket and by rotation (`wclr = true`: the writing head let go). `k` is the id of the buckets of `f` (`hBf`), which
    leave `known` with it; a caller whose file holds no bucket passes the next id `a.lastID + 1`, for which the filter on
    `known` is the identity (`Inv.known_filter_fresh`). -/
theorem inv_drop_core (cfg : Cfg) (s s' : Shard) (a : Abs) (f : AFile) (wclr : Bool) (k : Nat) (inv : Inv cfg s a)
    (hfm : f ∈ a.files) (hfw : f ∉ a.wait)
    (hw : if wclr then a.wname = some f.name else a.wname ≠ some f.name)
    (hBf : ∀ x ∈ fbuckets cfg f, x.id = k)
    (hk : ∀ g ∈ a.files, g ≠ f → ∀ x ∈ fbuckets cfg g, x.id ≠ k)
    (hknown : s'.known = s.known.filter (fun c => c.id != k))
    (hks : s'.knownSize = s.knownSize - ((fbuckets cfg f).map bsize).sum)
    (hrd : s'.reading = if s.reading = some f.name then none else s.reading)
    (htotal : s'.total = s.total - f.size cfg)
    (hdisk : s'.disk = s.disk.filter (fun g => g.name != f.name) := by rfl)
    (hclock : s'.clock = s.clock := by rfl) (hlast : s'.lastID = s.lastID := by rfl)
    (hof : s'.ofiles = s.ofiles.filter (fun g => g.name != f.name) := by rfl)
    (hwr : s'.writing = (if wclr then none else s.writing) := by rfl)
    (hwait : s'.waiting = s.waiting := by rfl) (hwsz : s'.waitingSize = s.waitingSize := by rfl) :
    Inv cfg s' (a.dropA f.name wclr) := by
  let a2 : Abs := a.dropA f.name wclr
  have hinj : ∀ g ∈ a.files, g.name = f.name → g = f := fun g hg h => inv.name_inj hg hfm h
  have hfiles2 : a2.files = a.files.filter (fun g => g.name != f.name) := inv.files_drop hfm hfw wclr
  have hmem2 : ∀ g, g ∈ a2.files ↔ g ∈ a.files ∧ g ≠ f := by
    intro g; rw [hfiles2, List.mem_filter]
    constructor
    · rintro ⟨h1, h2⟩; exact ⟨h1, fun e => by subst e; simp at h2⟩
    · rintro ⟨h1, h2⟩; exact ⟨h1, by simp; exact fun e => h2 (hinj g h1 e)⟩
  have hB2 : a2.buckets cfg = (a.buckets cfg).filter (fun b => b.id != k) := by
    unfold Abs.buckets; rw [hfiles2]
    apply flatMap_filter_name
    · intro g hg hgn
      exact List.filter_eq_self.mpr (fun x hx => bne_iff_ne.mpr (hk g hg (fun e => hgn (by rw [e])) x hx))
    · intro g hg hgn
      have := hinj g hg hgn; subst this
      rw [List.filter_eq_nil_iff]
      intro x hx; simp [hBf x hx]
  have hBsplit : ((a.buckets cfg).map bsize).sum = ((a2.buckets cfg).map bsize).sum + ((fbuckets cfg f).map bsize).sum := by
    obtain ⟨L1, L2, hL⟩ := List.append_of_mem hfm
    have hne := inv.names_split hL
    have hfl : (a.files.filter (fun g => g.name != f.name)) = L1 ++ L2 := by
      rw [hL, List.filter_append, List.filter_cons,
        List.filter_eq_self.mpr (fun x hx => bne_iff_ne.mpr (hne x (List.mem_append_left _ hx))),
        List.filter_eq_self.mpr (fun x hx => bne_iff_ne.mpr (hne x (List.mem_append_right _ hx)))]
      simp
    unfold Abs.buckets; rw [hfiles2, hfl, hL]
    simp only [List.flatMap_append, List.flatMap_cons, List.map_append, List.sum_append]
    omega
  obtain ⟨hwn2, hsome2⟩ := Abs.wname_drop a f.name wclr inv.writingSome (fun e => by rw [e] at hw; exact hw)
  have hrefs2 : ∀ g ∈ a.files, g ≠ f → a2.refs g = a.refs g := by
    intro g hg hgf
    have hgn : f.name ≠ g.name := fun e => hgf (hinj g hg e.symm)
    simp only [a2, Abs.refs, Abs.rname_drop, hwn2]
    congr 1
    · congr 1
      by_cases hr : a.rname = some f.name
      · simp [hr, hgn]
      · rw [if_neg hr]
    · cases wclr
      · rfl
      · rw [if_pos rfl] at hw
        simp [hw, hgn]
  refine { disk := ?_, clock := by rw [hclock]; exact inv.clock, lastID := by rw [hlast]; exact inv.lastID, names := ?_,
           namesLt := ?_, wf := ?_, newTl := ?_, preRead := ?_, newRead := ?_, waitIds := inv.waitIds,
           curOk := fun g j h => inv.curOk g j (Abs.cur_drop h),
           idsLe := ?_, idsNodup := ?_, known := ?_, ofiles := ?_, reading := by rw [hrd, inv.reading, Abs.rname_drop],
           writing := ?_, writingSome := ?_, waiting := by rw [hwait]; exact inv.waiting, total := ?_, knownSize := ?_,
           waitingSize := by rw [hwsz]; exact inv.waitingSize, present := ?_ }
  · rw [hdisk, inv.disk, hfiles2, filter_map_render]
  · rw [hfiles2]
    exact inv.names.sublist ((List.filter_sublist).map _)
  · intro g hg; exact inv.namesLt g ((hmem2 g).mp hg).1
  · intro g hg; exact inv.wf g ((hmem2 g).mp hg).1
  · intro g hg; exact inv.newTl g (List.mem_filter.mp hg).1
  · intro g hg; exact inv.preRead g (List.mem_filter.mp hg).1
  · intro g hg; exact inv.newRead g (List.mem_filter.mp hg).1
  · rw [hB2]; intro x hx; exact inv.idsLe x (List.mem_filter.mp hx).1
  · rw [hB2]; exact (List.Sublist.map _ List.filter_sublist).nodup inv.idsNodup
  · intro x; rw [hB2, hknown]; simp only [List.mem_filter, inv.known x]
  · intro name
    rw [hof]
    by_cases hn : name = f.name
    · subst hn
      rw [findO_filter_self]
      intro g hg hgn
      exact absurd (hinj g ((hmem2 g).mp hg).1 hgn) ((hmem2 g).mp hg).2
    · have hne : ∀ g : AFile, g.name = name → g ≠ f := fun g hgn e => hn (hgn.symm.trans (congrArg AFile.name e))
      refine inv.ofiles_other (findO_filter_ne _ _ _ hn) ?_ (fun g hg hgn => hrefs2 g hg (hne g hgn))
        (fun g j _ h => Abs.cur_drop h)
      intro g hgn
      rw [hmem2 g]
      exact and_iff_left (hne g hgn)
  · rw [hwr, hwn2, inv.writing]
  · exact hsome2
  · rw [htotal, inv.total, hfiles2]
    rw [sizeSum_filter cfg f a.files hfm (nodup_of_pairwise_lt inv.names)]
  · rw [hks, inv.knownSize, hBsplit]
    exact Int.add_sub_cancel _ _
  · intro g hg
    have hg0 : g ∈ a.pre ++ a.new ∧ g.name ≠ f.name := by
      simp only [Abs.dropA, List.mem_append, List.mem_filter] at hg ⊢
      rcases hg with ⟨h1, h2⟩ | ⟨h1, h2⟩
      · exact ⟨Or.inl h1, by simpa using h2⟩
      · exact ⟨Or.inr h1, by simpa using h2⟩
    rw [hrefs2 g (mem_files_of_pre_new hg0.1) (fun e => hg0.2 (by rw [e]))]
    exact inv.present g hg0.1

def Abs.closeA (a : Abs) (f : AFile) : Abs := { a with cur := none, pre := a.pre ++ [f] }

/-- ids grow: no known second carries the next id -/
theorem Inv.known_filter_fresh {cfg : Cfg} {s : Shard} {a : Abs} (inv : Inv cfg s a) :
    s.known.filter (fun c => c.id != a.lastID + 1) = s.known :=
  List.filter_eq_self.mpr (fun c hc => bne_iff_ne.mpr (Nat.ne_of_lt (Nat.lt_succ_of_le (inv.idsLe c ((inv.known c).mp hc)))))

theorem inv_close_drop (cfg : Cfg) (s : Shard) (a : Abs) (f : AFile) (o : OFile) (inv : Inv cfg s a)
    (hc : a.cur = some (f, f.recs.length)) (ho : findO s.ofiles f.name = some o) (hz : o.refCount - 1 = 0) :
    Inv cfg (closeReading s f.name) (a.dropA f.name false) := by
  have v := inv.cur_view_at hc ho
  have hidc := inv.cur_idc_zero hc v hz
  have hfb : fbuckets cfg f = [] := bucketsAt_none cfg _ _ _ (idc_zero_none _ hidc)
  rw [closeReading, unref_drop ho hz]
  exact inv_drop_core cfg s _ a f false (a.lastID + 1) inv v.mem (inv.cur_not_wait hc)
    (hw := by simpa using inv.cur_wname_ne hc)
    (hBf := by intro x hx; rw [hfb] at hx; cases hx)
    (hk := fun g hg _ x hx => Nat.ne_of_lt (Nat.lt_succ_of_le (inv.idsLe x (List.mem_flatMap.mpr ⟨g, hg, hx⟩))))
    (hknown := inv.known_filter_fresh.symm) (hks := by rw [hfb]; exact (Int.sub_zero _).symm)
    (hrd := (if_pos v.reading).symm) (htotal := congrArg (s.total - ·) (congrArg Int.ofNat v.size))

theorem inv_close_keep (cfg : Cfg) (s : Shard) (a : Abs) (f : AFile) (o : OFile) (inv : Inv cfg s a)
    (hc : a.cur = some (f, f.recs.length)) (ho : findO s.ofiles f.name = some o) (hz : ¬ o.refCount - 1 = 0) :
    Inv cfg (closeReading s f.name) (a.closeA f) := by
  have v := inv.cur_view_at hc ho
  have hposf : 0 < a.refs f - 1 := pred_pos_of_ne (Abs.one_le_refs_of_rname (by simp [Abs.rname, hc])) (v.refs ▸ hz)
  have hne := inv.cur_name_ne hc
  have hfiles : (a.closeA f).files = a.files := by simp [Abs.files, Abs.curL, Abs.closeA, hc]
  have hb : (a.closeA f).buckets cfg = a.buckets cfg := by simp [Abs.buckets, hfiles]
  have hrn' : (a.closeA f).rname = none := rfl
  have hwn' : (a.closeA f).wname = a.wname := rfl
  have hrn : a.rname = some f.name := by simp [Abs.rname, hc]
  have hrefs : ∀ g, g.name ≠ f.name → (a.closeA f).refs g = a.refs g := by
    intro g hg
    have : f.name ≠ g.name := fun h => hg h.symm
    simp [Abs.refs, hrn', hwn', hrn, this]
  have hrefsf : (a.closeA f).refs f = a.refs f - 1 := by
    simp only [Abs.refs, hrn', hwn', hrn]; simp; omega
  rw [closeReading, unref_keep ho hz]
  refine { inv with
           disk := ?_, names := ?_, namesLt := ?_, wf := ?_, preRead := ?_, curOk := ?_, idsLe := ?_, idsNodup := ?_,
           known := ?_, ofiles := ?_, reading := rfl, writing := ?_, total := ?_, knownSize := ?_, present := ?_ }
  · rw [hfiles]; exact inv.disk
  · rw [hfiles]; exact inv.names
  · rw [hfiles]; exact inv.namesLt
  · rw [hfiles]; exact inv.wf
  · exact forall_mem_concat inv.preRead (by simpa using (inv.curOk f _ hc).2.1)
  · intro g j h; simp [Abs.closeA] at h
  · rw [hb]; exact inv.idsLe
  · rw [hb]; exact inv.idsNodup
  · rw [hb]; exact inv.known
  · intro name
    by_cases hn : name = f.name
    · subst hn
      rw [findO_mapO s.ofiles f.name (fun g => { g with refCount := g.refCount - 1 }) o (fun _ => rfl) ho]
      refine ⟨v.name, f, by rw [hfiles]; exact v.mem, rfl, by rw [hrefsf]; simp [v.refs], by rw [hrefsf]; exact hposf, v.size, ?_⟩
      intro j h; simp [Abs.closeA] at h
    · refine inv.ofiles_other (findO_mapO_ne _ _ _ _ (fun _ => rfl) hn) (fun g _ => by rw [hfiles])
        (fun g _ hgn => hrefs g (hgn ▸ hn)) ?_
      intro g j _ h
      cases h
  · simp [hwn', inv.writing]
  · rw [hfiles]; exact inv.total
  · rw [hb]; exact inv.knownSize
  · intro g hg
    simp only [Abs.closeA, List.mem_append, List.mem_singleton] at hg
    rcases hg with (h | h) | h
    · have : g.name ≠ f.name := hne g (by simp [h])
      rw [hrefs g this]; exact inv.present g (by simp [h])
    · subst h
      rw [hrefsf]
      exact hposf
    · have : g.name ≠ f.name := hne g (by simp [h])
      rw [hrefs g this]; exact inv.present g (by simp [h])

/-- loop iterations still needed in the worst case -/
def Abs.mu (a : Abs) : Nat :=
  (match a.cur with
   | some (f, j) => f.recs.length - j + 1
   | none => 0) + (a.wait.map (fun f => f.recs.length + 2)).sum + 1

/-- what one call of ReadNextTailSecond promises from a state with layout `a`: `.none` only if every live second has an id,
    `.got t id` for the FIRST live second without one, which gets the next id; `.fuel` promises nothing (`readNext_spec` rules it out) -/
def ReadPost (cfg : Cfg) (a : Abs) (s' : Shard) : ReadRes → Prop
  | .fuel => True
  | .none => ∃ a', Inv cfg s' a' ∧ a'.live cfg = a.live cfg ∧ a'.lastID = a.lastID ∧ (∀ e ∈ a.live cfg, e.1 ≠ none)
  | .got t id => ∃ a' l1 b l2, Inv cfg s' a' ∧ id = a.lastID + 1 ∧ a'.lastID = a.lastID + 1 ∧
      a.live cfg = l1 ++ (none, t, b) :: l2 ∧ (∀ e ∈ l1, e.1 ≠ none) ∧ a'.live cfg = l1 ++ (some id, t, b) :: l2

theorem ReadPost.transport {cfg : Cfg} {a a1 : Abs} {s' : Shard} {r : ReadRes} (hl : a1.live cfg = a.live cfg)
    (hi : a1.lastID = a.lastID) (h : ReadPost cfg a1 s' r) : ReadPost cfg a s' r := by
  cases r with
  | fuel => trivial
  | none => simp only [ReadPost, hl, hi] at h ⊢; exact h
  | got t id => simp only [ReadPost, hl, hi] at h ⊢; exact h

/-- an iteration that hands nothing out -/
theorem ReadPost.step {cfg : Cfg} {a a1 : Abs} {fuel : Nat} {res : Shard × ReadRes} (hl : a1.live cfg = a.live cfg)
    (hi : a1.lastID = a.lastID) (hmu : a1.mu + 1 ≤ a.mu) (ih : ReadPost cfg a1 res.1 res.2 ∧ (a1.mu ≤ fuel → res.2 ≠ .fuel)) :
    ReadPost cfg a res.1 res.2 ∧ (a.mu ≤ fuel + 1 → res.2 ≠ .fuel) :=
  ⟨ih.1.transport hl hi, fun h => ih.2 (Nat.le_of_succ_le_succ (Nat.le_trans hmu h))⟩

theorem Abs.mu_open {a : Abs} {f : AFile} {fs : List AFile} (hc : a.cur = none) (hw : a.wait = f :: fs) :
    (a.openA f fs).mu + 1 ≤ a.mu := by
  simp [Abs.mu, Abs.openA, hc, hw]
  omega

theorem Abs.mu_close {a : Abs} {f : AFile} {j : Nat} (hc : a.cur = some (f, j)) : (a.closeA f).mu + 1 ≤ a.mu := by
  simp [Abs.mu, Abs.closeA, hc]
  omega

theorem Abs.mu_drop {a : Abs} {f : AFile} {j : Nat} (hc : a.cur = some (f, j)) : (a.dropA f.name false).mu + 1 ≤ a.mu := by
  simp [Abs.mu, Abs.dropA, hc, Option.filter]
  omega

theorem Abs.mu_skip {a : Abs} {f : AFile} {r1 r2 : List ARec} {r : ARec} (hc : a.cur = some (f, r1.length))
    (hrec : f.recs = r1 ++ r :: r2) : (a.skipA f r1.length).mu + 1 ≤ a.mu := by
  simp [Abs.mu, Abs.skipA, hc, hrec]
  omega

theorem readLoop_spec (cfg : Cfg) : ∀ (fuel : Nat) (s : Shard) (a : Abs), Inv cfg s a →
    ReadPost cfg a (readLoop cfg fuel s).1 (readLoop cfg fuel s).2 ∧ (a.mu ≤ fuel → (readLoop cfg fuel s).2 ≠ .fuel) := by
  intro fuel
  induction fuel with
  | zero =>
    intro s a _
    refine ⟨trivial, ?_⟩
    intro h; simp [Abs.mu] at h
  | succ fuel ih =>
    intro s a inv
    cases hcur : a.cur with
    | none =>
      have hrd : s.reading = none := by rw [inv.reading]; simp [Abs.rname, hcur]
      cases hw : a.wait with
      | nil =>
        have hwt : s.waiting = [] := by rw [inv.waiting, hw]; rfl
        rw [readLoop_none_nil cfg fuel s hrd hwt]
        refine ⟨⟨a, inv, rfl, rfl, ?_⟩, by intro _; simp⟩
        intro e he
        simp only [Abs.live, Abs.files, Abs.curL, hcur, hw, List.nil_append, List.flatMap_append, List.mem_append, List.mem_flatMap] at he
        rcases he with ⟨f, hf, hef⟩ | ⟨f, hf, hef⟩
        · exact liveRecs_read cfg _ (inv.preRead f hf) e hef
        · exact liveRecs_read cfg _ (inv.newRead f hf) e hef
      | cons f fs =>
        have hwt : s.waiting = ⟨f.name, f.size cfg⟩ :: fs.map (fun g => ⟨g.name, g.size cfg⟩) := by
          rw [inv.waiting, hw]; rfl
        have hhas := inv.hasFile_of_mem (f := f) (Abs.mem_files.mpr (Or.inr (Or.inr (hw ▸ List.mem_cons_self))))
        rw [readLoop_none_cons cfg fuel s _ _ hrd hwt hhas]
        have inv1 := inv_open cfg s a f fs inv hcur hw
        have hl : (a.openA f fs).live cfg = a.live cfg := by
          simp [Abs.live, Abs.files, Abs.curL, Abs.openA, hcur, hw]
        exact ReadPost.step hl rfl (Abs.mu_open hcur hw) (ih _ _ inv1)
    | some fj =>
      obtain ⟨f, j⟩ := fj
      obtain ⟨o, v⟩ := inv.cur_view hcur
      obtain ⟨hjle, hread1, hnone2⟩ := inv.curOk f j hcur
      rw [readLoop_some cfg fuel s f.name o v.reading v.ofile, inv.fileBytes_of_mem v.mem, v.size, v.pos,
        show f.size cfg = (encRecs cfg f.recs ++ f.tl).length from rfl, show f.bytes cfg = encRecs cfg f.recs ++ f.tl from rfl]
      rcases Nat.lt_or_ge j f.recs.length with hj | hj
      · -- the cursor stands before a record
        obtain ⟨r1, r, r2, hrec, rfl⟩ := split_at f.recs j hj
        rw [hrec, List.take_left] at hread1 ⊢
        rw [hrec, List.drop_left] at hnone2
        have hr : r ∈ f.recs := by
          rw [hrec]
          simp
        have hwf := (inv.wf f v.mem).1 r hr
        -- `r` has positive length, so the cursor `recsLen r1` is inside the file and the loop's `nextPos ≥ size` test fails
        have hpos := r.len_pos
        have hin : ¬ recsLen r1 ≥ (encRecs cfg (r1 ++ r :: r2) ++ f.tl).length := by
          simp only [List.length_append, encRecs_length, recsLen_append, recsLen]
          omega
        rw [if_neg hin, look_boundary cfg r1 r2 r f.tl hwf]
        cases hd : r.dead cfg
        · simp only [Bool.false_eq_true, if_false]
          have hidn : r.id = none := hnone2 r List.mem_cons_self
          have inv1 := inv_good cfg s a f r1 r2 r o inv hcur hrec hd hidn v.ofile
          refine ⟨?_, by intro _; simp⟩
          simp only [ReadPost]
          refine ⟨_, (a.pre.flatMap (fLive cfg)) ++ liveRecs cfg r1, r.body,
            liveRecs cfg r2 ++ (a.wait ++ a.new).flatMap (fLive cfg), inv1, by rw [inv.lastID], rfl, ?_, ?_, ?_⟩
          · simp only [Abs.live, Abs.files, Abs.curL, hcur, List.flatMap_append, List.flatMap_cons, List.flatMap_nil, List.append_nil,
              fLive, hrec, liveRecs_split cfg _ _ _ hd, hidn]
            simp [ARec.hdr]
          · intro e he
            rcases List.mem_append.mp he with h | h
            · obtain ⟨g, hg, heg⟩ := List.mem_flatMap.mp h
              exact liveRecs_read cfg _ (inv.preRead g hg) e heg
            · exact liveRecs_read cfg _ hread1 e h
          · have hd' : (r.withId (a.lastID + 1)).dead cfg = false := hd
            simp only [Abs.live, Abs.files, Abs.curL, Abs.goodA, List.flatMap_append, List.flatMap_cons, List.flatMap_nil,
              List.append_nil, fLive, AFile.setRecs, liveRecs_split cfg _ _ _ hd', inv.lastID]
            simp [ARec.hdr, ARec.withId]
        · simp only [if_true]
          have inv1 := inv_skip cfg s a f r1 r2 r inv hcur hrec (by simp [unread, hd])
          have hl : (a.skipA f r1.length).live cfg = a.live cfg := by
            simp [Abs.live, Abs.files, Abs.curL, Abs.skipA, hcur]
          exact ReadPost.step hl rfl (Abs.mu_skip hcur hrec) (ih _ _ inv1)
      · -- the cursor stands behind the last record: the file is closed, at once or because the tail stops the scan
        obtain rfl := Nat.le_antisymm hjle hj
        rw [List.take_length]
        have hclose : ReadPost cfg a (readLoop cfg fuel (closeReading s f.name)).1 (readLoop cfg fuel (closeReading s f.name)).2 ∧
            (a.mu ≤ fuel + 1 → (readLoop cfg fuel (closeReading s f.name)).2 ≠ .fuel) := by
          by_cases hz : o.refCount - 1 = 0
          · have inv1 := inv_close_drop cfg s a f o inv hcur v.ofile hz
            have hl := inv.live_drop v.mem (inv.cur_not_wait hcur)
              (liveRecs_dead cfg _ (by simpa using hread1) (idc_zero_none _ (inv.cur_idc_zero hcur v hz))) false
            exact ReadPost.step hl rfl (Abs.mu_drop hcur) (ih _ _ inv1)
          · have inv1 := inv_close_keep cfg s a f o inv hcur v.ofile hz
            have hl : (a.closeA f).live cfg = a.live cfg := by
              simp [Abs.live, Abs.files, Abs.curL, Abs.closeA, hcur, List.flatMap_append]
            exact ReadPost.step hl rfl (Abs.mu_close hcur) (ih _ _ inv1)
        split
        · exact hclose
        · rename_i hge
          rcases look_end cfg f.recs f.tl (inv.wf f v.mem).2 with h | h
          · exact absurd h hge
          · rw [h]
            exact hclose

theorem length_le_recsLen (rs : List ARec) : rs.length ≤ recsLen rs := by
  induction rs with
  | nil => simp [recsLen]
  | cons r rs ih => have := ARec.len_pos r; simp [recsLen]; omega

theorem AFile.len_le_size (cfg : Cfg) (f : AFile) : f.recs.length ≤ f.size cfg := by
  have := length_le_recsLen f.recs
  simp [AFile.size, AFile.bytes, encRecs_length]; omega

theorem wait_mu_le (cfg : Cfg) (l : List AFile) :
    (l.map (fun f => f.recs.length + 2)).sum ≤
      2 * (l.map (fun f => (⟨f.name, f.size cfg⟩ : WFile))).length + ((l.map (fun f => (⟨f.name, f.size cfg⟩ : WFile))).map (·.size)).sum := by
  induction l with
  | nil => simp
  | cons f l ih =>
    have := AFile.len_le_size cfg f
    simp only [List.map_cons, List.sum_cons, List.length_cons] at ih ⊢
    omega

theorem mu_le_readFuel (cfg : Cfg) (s : Shard) (a : Abs) (inv : Inv cfg s a) : a.mu ≤ readFuel s := by
  unfold Abs.mu readFuel
  have hw := wait_mu_le cfg a.wait
  rw [← inv.waiting] at hw
  cases hc : a.cur with
  | none => simp only; omega
  | some fj =>
    obtain ⟨f, j⟩ := fj
    obtain ⟨o, v⟩ := inv.cur_view hc
    simp only [v.reading, v.ofile, v.size]
    have := AFile.len_le_size cfg f
    omega

/-- one call of ReadNextTailSecond on a state satisfying the invariant: never runs out of fuel, and
    either reports the end (nothing unread is left) or hands out the FIRST unread second of the live sequence -/
theorem readNext_spec (cfg : Cfg) (s : Shard) (a : Abs) (inv : Inv cfg s a) :
    ReadPost cfg a (readNext cfg s).1 (readNext cfg s).2 ∧ (readNext cfg s).2 ≠ .fuel := by
  obtain ⟨h1, h2⟩ := readLoop_spec cfg (readFuel s) s a inv
  exact ⟨h1, h2 (mu_le_readFuel cfg s a inv)⟩

/- what a drain does to the seconds it hands out, and what it returns: ids `k+1, k+2, …` in order. Both ignore the ids
   their argument carries. -/
def stamp : Nat → List LiveE → List LiveE
  | _, [] => []
  | k, (_, t, b) :: l => (some (k + 1), t, b) :: stamp (k + 1) l

def outs : Nat → List LiveE → List (Nat × Nat)
  | _, [] => []
  | k, (_, t, _) :: l => (t, k + 1) :: outs (k + 1) l

theorem drain_succ (cfg : Cfg) (n : Nat) (s : Shard) :
    drain cfg (n + 1) s =
      match readNext cfg s with
      | (s', .got t id) => ((drain cfg n s').1, (t, id) :: (drain cfg n s').2)
      | (s', _) => (s', []) := by
  rw [drain]
  split <;> simp_all

theorem drain_spec (cfg : Cfg) : ∀ (todo done : List LiveE) (n : Nat) (s : Shard) (a : Abs), Inv cfg s a →
    a.live cfg = done ++ todo → (∀ e ∈ done, e.1 ≠ none) → (∀ e ∈ todo, e.1 = none) → todo.length < n →
    (drain cfg n s).2 = outs a.lastID todo ∧
      ∃ a', Inv cfg (drain cfg n s).1 a' ∧ a'.live cfg = done ++ stamp a.lastID todo ∧ a'.lastID = a.lastID + todo.length := by
  intro todo
  induction todo with
  | nil =>
    intro done n s a inv hl hd _ hn
    obtain ⟨m, rfl⟩ : ∃ m, n = m + 1 := ⟨n - 1, by simp at hn; omega⟩
    obtain ⟨hp, hf⟩ := readNext_spec cfg s a inv
    rw [drain_succ]
    cases hr : readNext cfg s with
    | mk s' r =>
      rw [hr] at hp hf
      cases r with
      | fuel => exact absurd rfl hf
      | none =>
        simp only [ReadPost] at hp
        obtain ⟨a', inv', hl', hi', _⟩ := hp
        exact ⟨rfl, a', inv', by rw [hl', hl]; simp [stamp], by simp [hi']⟩
      | got t id =>
        simp only [ReadPost] at hp
        obtain ⟨a', l1, b, l2, _, _, _, hsplit, _, _⟩ := hp
        rw [hl, List.append_nil] at hsplit
        have := hd (none, t, b) (by rw [hsplit]; simp)
        simp at this
  | cons e rest ih =>
    intro done n s a inv hl hd ht hn
    obtain ⟨m, rfl⟩ : ∃ m, n = m + 1 := ⟨n - 1, by simp at hn; omega⟩
    obtain ⟨hp, hf⟩ := readNext_spec cfg s a inv
    rw [drain_succ]
    have he : e.1 = none := ht e (by simp)
    cases hr : readNext cfg s with
    | mk s' r =>
      rw [hr] at hp hf
      cases r with
      | fuel => exact absurd rfl hf
      | none =>
        simp only [ReadPost] at hp
        obtain ⟨_, _, _, _, hall⟩ := hp
        exact absurd he (hall e (by rw [hl]; simp))
      | got t id =>
        simp only [ReadPost] at hp
        obtain ⟨a', l1, b, l2, inv', hid, hi', hsplit, hl1, hl'⟩ := hp
        rw [hl] at hsplit
        obtain ⟨e1, e2, e3⟩ := Lists.first_marked_unique (·.1 = none) done l1 rest l2 e (none, t, b) hsplit hd hl1 he rfl
        subst e1; subst e3
        have hl'' : a'.live cfg = (done ++ [(some id, t, b)]) ++ rest := by rw [hl']; simp
        obtain ⟨h1, a'', inv'', h2, h3⟩ := ih (done ++ [(some id, t, b)]) m s' a' inv' hl''
          (by intro x hx; rcases List.mem_append.mp hx with h | h
              · exact hd x h
              · simp at h; subst h; simp)
          (fun x hx => ht x (by simp [hx])) (by simp at hn; omega)
        simp only
        refine ⟨?_, a'', inv'', ?_, ?_⟩
        · rw [h1, e2, hi', hid]; simp [outs]
        · rw [h2, e2, hi', hid]; simp [stamp]
        · rw [h3, hi']; simp; omega

end SH.C09
