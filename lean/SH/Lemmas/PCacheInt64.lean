/-
  SH.Lemmas.PCacheInt64 — where the model's unbounded `Int` arithmetic equals Go's int64 / time.Time arithmetic.

  The model (SH.Model.PCache) computes with mathematical integers. pcache.go computes with int64 (Unix
  nanoseconds, Unix seconds, sizes) and with time.Time. This file states the ranges of inputs for which the int64
  expressions listed in `int64_preconditions` do not wrap, and proves the two arithmetic identities the model relies on:
    * lod.go `mathDiv` (truncated division + correction) is floor division for a positive divisor;
    * `time.Unix(sec,0).Before(T)` (a lexicographic comparison of (seconds, nanoseconds)) is `sec·10⁹ < T` in
      nanoseconds.
-/
import SH.Lemmas.PCacheBase

namespace SH.C24
open SH.PCache SH.Gen.C24

/-- representable as a Go int64 -/
def I64 (x : Int) : Prop := -9223372036854775808 ≤ x ∧ x ≤ 9223372036854775807

/-- two's complement wrap-around of a mathematical result to int64 -/
def wrap64 (x : Int) : Int := (x + 9223372036854775808) % 18446744073709551616 - 9223372036854775808

theorem wrap64_id (x : Int) (h : I64 x) : wrap64 x = x := by
  unfold wrap64; unfold I64 at h; omega

/-- lod.go: `quo := a / b; if (a >= 0) == (b >= 0) || a%b == 0 { return quo }; return quo - 1` with Go's
    truncating `/` and `%` -/
def goMathDiv (a b : Int) : Int :=
  if (decide (a ≥ 0) == decide (b ≥ 0)) || decide (Int.tmod a b = 0) then Int.tdiv a b else Int.tdiv a b - 1

theorem goMathDiv_eq_floor (a b : Int) (hb : 0 < b) : goMathDiv a b = a / b := by
  -- for b > 0 Go's test `(a >= 0) == (b >= 0) || a%b == 0` is the test `0 ≤ a ∨ b ∣ a` of `Int.tdiv_eq_ediv`
  have hc : ((decide (a ≥ 0) == decide (b ≥ 0)) || decide (Int.tmod a b = 0)) = true ↔ (0 ≤ a ∨ b ∣ a) := by
    rw [decide_eq_true (le_of_lt hb), Int.dvd_iff_tmod_eq_zero]
    simp
  unfold goMathDiv
  rw [Int.tdiv_eq_ediv, Int.sign_eq_one_of_pos hb]
  by_cases h : 0 ≤ a ∨ b ∣ a
  · rw [if_pos (hc.mpr h), if_pos h]
    omega
  · rw [if_neg (mt hc.mp h), if_neg h]
    omega

/-- roundTime as Go computes it: every intermediate result wrapped to int64 -/
def roundTime64 (t step off : Int) : Int :=
  wrap64 (wrap64 (goMathDiv (wrap64 (t + off)) step * step) - off)

/-- the ranges used below: seconds within ±2^40 (beyond year 30000), utcOffset within ±2^31, steps ≤ 2^20.
    They are assumptions on the inputs, chosen here; pcache.go does not check them. -/
def SecOK (x : Int) : Prop := -1099511627776 ≤ x ∧ x ≤ 1099511627776
def OffOK (x : Int) : Prop := -2147483648 ≤ x ∧ x ≤ 2147483648
def StepOK (x : Int) : Prop := 0 < x ∧ x ≤ 1048576
/-- clock readings: Unix nanoseconds from 1970 to 2^62 ns (year 2116) -/
def ClockOK (x : Int) : Prop := 0 ≤ x ∧ x ≤ 4611686018427387904

theorem roundTime64_eq (t step off : Int) (ht : SecOK t) (hs : StepOK step) (ho : OffOK off) :
    roundTime64 t step off = roundTime t step off ∧ I64 (roundTime t step off) := by
  have hq1 := roundTime_le t step off hs.1
  have hq2 := lt_roundTime_add t step off hs.1
  unfold roundTime at hq1 hq2 ⊢
  unfold SecOK OffOK StepOK at *
  have h : I64 (t + off) ∧ I64 ((t + off) / step * step) ∧ I64 ((t + off) / step * step - off) := by
    unfold I64
    omega
  refine ⟨?_, h.2.2⟩
  unfold roundTime64
  rw [wrap64_id _ h.1, goMathDiv_eq_floor _ _ hs.1, wrap64_id _ h.2.1, wrap64_id _ h.2.2]

/-- `time.Unix(sec, 0).Before(T)` compares (seconds, nanoseconds) lexicographically, where T has seconds
    `T / 10⁹` (floor) and nanoseconds `T % 10⁹ ∈ [0,10⁹)`; the model writes `sec·10⁹ < T`. -/
theorem beforeEdge_lex (sec now : Int) :
    beforeEdge sec now = true ↔
      (sec < immutableNs now / 1000000000 ∨ (sec = immutableNs now / 1000000000 ∧ 0 < immutableNs now % 1000000000)) := by
  unfold beforeEdge nsPerSec
  simp only [decide_eq_true_eq]
  omega

/-- The int64 expressions pcache.go evaluates on clock readings `now`, `tAt` and a Unix second `sec` stay inside
    int64 (so Go's result is the model's Int result). -/
theorem int64_safe (now tAt sec : Int) (hnow : ClockOK now) (hat : ClockOK tAt) (hsec : SecOK sec)
    (hlin : 0 ≤ invalidateLingerNs ∧ invalidateLingerNs ≤ 2305843009213693952)
    (hfrom : -2305843009213693952 ≤ invalidateFromNs ∧ invalidateFromNs ≤ 0) :
    -- invalidatedAtNano + int64(invalidateLinger)
    I64 (tAt + invalidateLingerNs) ∧
    -- now.Add(invalidateFrom) as nanoseconds, and its .Unix()
    I64 (immutableNs now) ∧ I64 (edgeSec now) ∧ SecOK (edgeSec now) ∧
    -- time.Unix(sec, 0): seconds since year 1 = sec + 62135596800
    I64 (sec + 62135596800) := by
  unfold ClockOK SecOK at *
  unfold I64 edgeSec nsPerSec immutableNs
  omega

/-- the loop variables: `fromR + step`, `i += step` until `i >= toR`, `i <= to` then one more `+ step`,
    `fromNext`, `toPrev` — all within int64 when from/to/step are in range, for any offset -/
theorem loop_vars_safe (f t step off : Int) (hf : SecOK f) (ht : SecOK t) (hs : StepOK step) :
    I64 (roundTime f step off + step) ∧ I64 (roundTime t step off + step) ∧ I64 (t + step) ∧
    I64 (fromNext (roundTime f step off) step t) ∧ I64 (toPrev (roundTime t step off) f) := by
  have h1 := roundTime_le f step off hs.1
  have h2 := lt_roundTime_add f step off hs.1
  have h3 := roundTime_le t step off hs.1
  have h4 := lt_roundTime_add t step off hs.1
  unfold SecOK StepOK at *
  unfold I64
  rw [fromNext_eq, toPrev_eq]
  omega

/-- the constants generated from /repo satisfy the hypotheses of `int64_safe`, and its steps are `StepOK` -/
theorem consts_in_range :
    (0 ≤ invalidateLingerNs ∧ invalidateLingerNs ≤ 2305843009213693952) ∧
    (-2305843009213693952 ≤ invalidateFromNs ∧ invalidateFromNs ≤ 0) ∧ (∀ st ∈ steps, StepOK st) := by
  unfold StepOK; decide

end SH.C24
