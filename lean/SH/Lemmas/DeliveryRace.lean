/-
  SH.Lemmas.DeliveryRace — a request reaching its aggregator's handler (`recvHandle_ok`) preserves `SInv` and leaves agent and
  `flushed` alone (`Steps`): as operation `recv`, and inside operation `tickRace` (an inserter delayed between its oldestTime
  snapshot and its pop of historic buckets, while the ticker advances the window and a historic request arrives). Also
  operation `tick` (same inserter rounds, `AccStep.sinv`).
-/
import SH.Lemmas.Delivery
namespace SH.Delivery

theorem recvHandle_ok {s S : State} {q : Req} {g : Agg} (h0 : ArriveOk s S) (hq : q ∈ s.reqs)
    (hg : ∀ y ∈ g.recent ++ g.historic, GoodB s y) : ArriveOk s (recvHandle S q g).1 := by
  have hpark : ∀ b, GoodB s b → GoodB s (park b q.rid q.sec) := fun b hb => goodB_park hb (tag_req hq)
  unfold recvHandle
  split
  · split
    · rename_i d why _
      have hrej : ∀ t ∈ S.rejected, t ∈ (if d = true then S.rejected ++ [q.sec] else S.rejected) := by
        intro t ht
        split
        · exact List.mem_append_left _ ht
        · exact ht
      refine { h0 with rejected := fun t ht => hrej t (h0.rejected t ht), resps := fun a ha => ?_ }
      rcases List.mem_append.1 ha with ha | ha
      · exact (h0.resps a ha).imp_right fun h1 => ⟨h1.1, fun hd he => hrej _ (h1.2 hd he)⟩
      · obtain rfl := List.mem_singleton.1 ha
        refine Or.inr ⟨tag_req hq, fun hd _ => ?_⟩
        dsimp only at hd ⊢
        rw [if_pos hd]
        exact List.mem_append_right _ (List.mem_singleton_self _)
    · refine h0.set _ fun y hy => ?_
      rcases List.mem_append.1 hy with hy | hy
      · exact forall_parkAt (fun b hb => hg b (List.mem_append_left _ hb)) (fun b hb => hpark b (hg b (List.mem_append_left _ hb))) y hy
      · exact hg y (List.mem_append_right _ hy)
    · refine h0.set _ fun y hy => ?_
      rcases List.mem_append.1 hy with hy | hy
      · exact hg y (List.mem_append_left _ hy)
      · exact forall_parkHistoric (fun b hb => hg b (List.mem_append_right _ hb))
          (fun b hb => hpark b (hg b (List.mem_append_right _ hb))) (hpark _ (goodB_empty rfl)) y hy
  · exact h0

theorem steps_recv {A} {s : State} (rid : Nat) (h : SInv s []) : Steps A s (step s (.recv rid)).1 [] := by
  simp only [step, stepRecv]
  cases hr : findReq s rid with
  | none => exact Steps.refl h
  | some q =>
    have hq := find?_rid (l := s.reqs) (k := Req.rid) hr
    have href : Steps A s _ [] := steps_recvRefused rid ((Steps.refl h).arrive ((ArriveOk.refl h).dropReq rid))
    simp only
    cases hg : (dropReq s rid).aggs[q.replica]? with
    | none => exact href
    | some g =>
      simp only
      split
      · exact href
      · exact (Steps.refl h).arrive (recvHandle_ok ((ArriveOk.refl h).dropReq rid) hq.1 (goodB_of_agg h (List.mem_of_getElem? hg)))

theorem sinv_recv {s : State} (rid : Nat) (h : SInv s []) : SInv (step s (.recv rid)).1 [] :=
  (steps_recv (A := fun _ => True) rid h).sinv

theorem raceArrive_ok {s : State} {r : Nat} {g2 : Agg} {rid : Nat} (h : SInv s [])
    (hg2 : ∀ y ∈ g2.recent ++ g2.historic, GoodB s y) :
    ArriveOk s (raceArrive (setAgg s r g2) r g2 rid).1 := by
  have base : ArriveOk s (setAgg s r g2) := (ArriveOk.refl h).set r hg2
  unfold raceArrive
  cases hr : findReq (setAgg s r g2) rid with
  | none => exact base
  | some q =>
    simp only
    split
    · exact recvHandle_ok (base.dropReq rid) (find?_rid (l := s.reqs) (k := Req.rid) hr).1 hg2
    · exact base

/-- a round of inserter iterations on top of a state `S` reached by aggregator-side changes -/
theorem AccStep.sinv {s S : State} {src h0 : List Bucket} {acc : TickAcc} {r : Nat} {g' : Agg} (h : SInv s []) (ar : ArriveOk s S)
    (hacc : AccStep src { historic := h0, resps := [], inserted := [], rejected := [], evs := [] } acc)
    (hsrc : ∀ x ∈ src, GoodB s x) (hh : ∀ x ∈ h0, GoodB s x) (hrec : ∀ y ∈ g'.recent, GoodB s y) :
    SInv { (setAgg S r { g' with historic := acc.historic }) with
           resps := S.resps ++ acc.resps, inserted := S.inserted ++ acc.inserted,
           rejected := S.rejected ++ acc.rejected } [] := by
  refine SInv.aggStep h ar.ag ar.next ar.flushed (fun t ht => List.mem_append_left _ (ar.inserted ▸ ht))
    (fun t ht => List.mem_append_left _ (ar.rejected t ht)) ar.reqs (fun x hx => ?_)
    (goodB_set ar.aggs fun y hy => (List.mem_append.1 hy).elim (hrec y) fun hy => hh y (hacc.hist y hy))
  rcases List.mem_append.1 hx with hx | hx
  · exact (ar.resps x hx).imp_right fun h1 => ⟨h1.1, fun hd he => Or.inr (List.mem_append_left _ (h1.2 hd he))⟩
  · refine Or.inr ⟨?_, fun hd he => ?_⟩
    · obtain ⟨y, hy, hp⟩ := (hacc.tags x hx).resolve_left List.not_mem_nil
      exact ((List.mem_append.1 hy).elim (hsrc y) (hh y)).1 _ hp
    · exact (((hacc.just (fun y hy => (hsrc y hy).2) (fun y hy => (hh y hy).2) x hx).resolve_left List.not_mem_nil) hd he).imp
        (List.mem_append_right _) (List.mem_append_right _)

theorem steps_tick {A} {s : State} (r now : Nat) (ok : Bool) (h : SInv s []) : Steps A s (step s (.tick r now ok)).1 [] := by
  simp only [step, stepTick]
  cases hg : s.aggs[r]? with
  | none => exact Steps.refl h
  | some g =>
    simp only
    split
    · exact Steps.refl h
    · have hgG := goodB_of_agg h (List.mem_of_getElem? hg)
      have hadv := goodB_advance (now := now) (sw := s.shortWindow) fun y hy => hgG y (List.mem_append_left _ hy)
      generalize advance g.recent now s.shortWindow = adv at hadv ⊢
      exact ⟨AccStep.sinv (g' := { g with recent := adv.2 }) h (ArriveOk.refl h) (tickBuckets_accStep ..) (fun x hx => hadv x (Or.inl hx))
        (fun x hx => hgG x (List.mem_append_right _ hx)) (fun y hy => hadv y (Or.inr hy)), fun _ ht => ht, Extra.refl⟩

theorem sinv_tick {s : State} (r now : Nat) (ok : Bool) (h : SInv s []) : SInv (step s (.tick r now ok)).1 [] :=
  (steps_tick (A := fun _ => True) r now ok h).sinv

theorem fromFirstOurs_mem {k : Nat} {l : List Bucket} {x : Bucket} (h : x ∈ fromFirstOurs k l) : x ∈ l := by
  induction l with
  | nil => simp [fromFirstOurs] at h
  | cons b bs ih =>
    unfold fromFirstOurs at h
    split at h
    · exact h
    · exact List.mem_cons_of_mem _ (ih h)

theorem raceAcc_accStep (k : Nat) (will : Bool) (snap1 snap2 w : Nat) (ok : Bool) (ready1 ready2 hist : List Bucket) :
    AccStep (fromFirstOurs k ready1 ++ ready2) { historic := hist, resps := [], inserted := [], rejected := [], evs := [] }
      (raceAcc k will snap1 snap2 w ok ready1 ready2 hist) := by
  unfold raceAcc
  split
  · rename_i heq
    rw [heq]
    exact tickBuckets_accStep ..
  · rename_i b rest heq
    rw [heq]
    exact (tickOne_accStep ..).cons (tickBuckets_accStep ..)

theorem steps_tickRace {A} {s : State} (r now1 now2 rid : Nat) (ok : Bool) (h : SInv s []) :
    Steps A s (step s (.tickRace r now1 now2 rid ok)).1 [] := by
  simp only [step, stepTickRace]
  cases hg : s.aggs[r]? with
  | none => exact Steps.refl h
  | some g =>
    simp only
    split
    · exact Steps.refl h
    · have hgG := goodB_of_agg h (List.mem_of_getElem? hg)
      have hadv1 := goodB_advance (now := now1) (sw := s.shortWindow) fun y hy => hgG y (List.mem_append_left _ hy)
      generalize advance g.recent now1 s.shortWindow = adv1 at hadv1 ⊢
      have hadv2 := goodB_advance (now := now2) (sw := s.shortWindow) fun y hy => hadv1 y (Or.inr hy)
      generalize advance adv1.2 now2 s.shortWindow = adv2 at hadv2 ⊢
      have ar := raceArrive_ok (r := r) (g2 := { g with recent := adv2.2 }) (rid := rid) h
        (fun y hy => (List.mem_append.1 hy).elim (fun hy => hadv2 y (Or.inr hy)) (fun hy => hgG y (List.mem_append_right _ hy)))
      generalize (raceArrive (setAgg s r { g with recent := adv2.2 }) r { g with recent := adv2.2 } rid) = a at ar ⊢
      cases hg3 : a.1.aggs[r]? with
      | none => exact Steps.refl h
      | some g3 =>
        simp only
        have hg3G := ar.aggs g3 (List.mem_of_getElem? hg3)
        exact ⟨AccStep.sinv h ar (raceAcc_accStep ..)
          (fun x hx => (List.mem_append.1 hx).elim (fun hx => hadv1 x (Or.inl (fromFirstOurs_mem hx))) (fun hx => hadv2 x (Or.inl hx)))
          (fun x hx => hg3G x (List.mem_append_right _ hx)) (fun y hy => hg3G y (List.mem_append_left _ hy)),
          fun _ ht => ar.flushed.symm ▸ ht, ar.ag.symm ▸ Extra.refl⟩

theorem sinv_tickRace {s : State} (r now1 now2 rid : Nat) (ok : Bool) (h : SInv s []) :
    SInv (step s (.tickRace r now1 now2 rid ok)).1 [] :=
  (steps_tickRace (A := fun _ => True) r now1 now2 rid ok h).sinv

end SH.Delivery
