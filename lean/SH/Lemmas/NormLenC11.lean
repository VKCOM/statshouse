/-
  SH.Lemmas.NormLenC11 — no input length is special to normalisation: byte strings that are whole runes (`Encoded`),
  whitespace runs of any length (`WsOnly`) in front of a value and inside it, what precedes a run.
-/
import SH.Lemmas.NormC11

namespace SH.Norm

/-- the bytes are the UTF-8 encodings of the scalar values `rs`, one after another.  No theorem links this to `runesOf`
    or `utf8Valid` -/
inductive Encoded : List UInt8 → List Nat → Prop
  | nil : Encoded [] []
  | cons (r : Nat) (b : List UInt8) (rs : List Nat) : Scalar r → Encoded b rs → Encoded (encodeRune r ++ b) (r :: rs)

/-- whitespace only: the encodings of any number of runes that the table calls spaces -/
def WsOnly (T : Tables) (ws : List UInt8) : Prop := ∃ rs, Encoded ws rs ∧ ∀ r ∈ rs, T.isSpace r = true

theorem encoded_append {a b : List UInt8} {ra rb : List Nat} (ha : Encoded a ra) (hb : Encoded b rb) :
    Encoded (a ++ b) (ra ++ rb) := by
  induction ha with
  | nil => simpa using hb
  | cons r a' rs hr _ ih => rw [List.append_assoc]; exact Encoded.cons r _ _ hr ih

theorem encoded_replicate (r : Nat) (hr : Scalar r) (k : Nat) :
    Encoded (List.flatten (List.replicate k (encodeRune r))) (List.replicate k r) := by
  induction k with
  | zero => exact Encoded.nil
  | succ k ih => simp only [List.replicate_succ, List.flatten_cons]; exact Encoded.cons r _ _ hr ih

theorem wsOnly_nil (T : Tables) : WsOnly T [] := ⟨[], Encoded.nil, by simp⟩

theorem wsOnly_append (T : Tables) {a b : List UInt8} (ha : WsOnly T a) (hb : WsOnly T b) : WsOnly T (a ++ b) := by
  obtain ⟨ra, ea, sa⟩ := ha
  obtain ⟨rb, eb, sb⟩ := hb
  refine ⟨ra ++ rb, encoded_append ea eb, ?_⟩
  intro r hr
  rcases List.mem_append.1 hr with h | h
  · exact sa r h
  · exact sb r h

theorem wsOnly_replicate (T : Tables) (r : Nat) (hr : Scalar r) (hs : T.isSpace r = true) (k : Nat) :
    WsOnly T (List.flatten (List.replicate k (encodeRune r))) :=
  ⟨_, encoded_replicate r hr k, by intro x hx; rw [List.eq_of_mem_replicate hx]; exact hs⟩

theorem wsOnly_replicate_ascii (T : Tables) (c : UInt8) (h : c.toNat < 0x80) (hs : T.isSpace c.toNat = true) (k : Nat) :
    WsOnly T (List.replicate k c) := by
  have := wsOnly_replicate T c.toNat (scalar_ascii _ h) hs k
  rwa [encode_ascii_byte c h, List.flatten_replicate_singleton] at this

theorem wsOnly_spaces (T : Tables) (hT : T.Sane) (k : Nat) : WsOnly T (List.replicate k 0x20) :=
  wsOnly_replicate_ascii T 0x20 (by decide) (space_is_space T hT) k

theorem encoded_ascii (l : List UInt8) (h : ∀ c ∈ l, c.toNat < 0x80) : Encoded l (l.map (·.toNat)) := by
  induction l with
  | nil => exact Encoded.nil
  | cons c rest ih =>
    have hc := h c (by simp)
    have := Encoded.cons c.toNat rest _ (scalar_ascii _ hc) (ih (fun x hx => h x (by simp [hx])))
    rwa [encode_ascii_byte c hc] at this

theorem classify_space (T : Tables) (r : Nat) (hs : T.isSpace r = true) (prev : Bool) :
    classify T r prev = if prev then none else some (0x20, true) := by
  simp [classify, hs]

theorem slow_skip_ws (T : Tables) (maxLen : Nat) (ws : List UInt8) (hws : WsOnly T ws) (s out : List UInt8) :
    slowL T maxLen (ws ++ s) out true = slowL T maxLen s out true := by
  obtain ⟨rs, he, hs⟩ := hws
  induction he with
  | nil => rfl
  | cons r b rs' hr _ ih =>
    rw [List.append_assoc, slowL_rune T maxLen r hr, classify_space T r (hs r (by simp))]
    exact ih (fun x hx => hs x (by simp [hx]))

theorem slow_ws_run (T : Tables) (hT : T.Sane) (maxLen : Nat) (ws : List UInt8) (hws : WsOnly T ws) (hne : ws ≠ [])
    (s out : List UInt8) (prev : Bool) :
    slowL T maxLen (ws ++ s) out prev = slowL T maxLen ((0x20 : UInt8) :: s) out prev := by
  obtain ⟨rs, he, hs⟩ := hws
  have h20 : slowL T maxLen ((0x20 : UInt8) :: s) out prev = slowL T maxLen (encodeRune 0x20 ++ s) out prev := by
    rw [encode_space]; rfl
  rw [h20, slowL_rune T maxLen 0x20 scalar_space, classify_space T 0x20 (space_is_space T hT)]
  cases he with
  | nil => exact absurd rfl hne
  | cons r b rs' hr hb =>
    rw [List.append_assoc, slowL_rune T maxLen r hr, classify_space T r (hs r (by simp))]
    have hskip := fun o => slow_skip_ws T maxLen b ⟨rs', hb, fun x hx => hs x (by simp [hx])⟩ s o
    cases prev with
    | true => exact hskip out
    | false =>
      simp only [Bool.false_eq_true, ↓reduceIte]
      split
      · rfl
      · exact hskip _

theorem slow_prefix_congr (T : Tables) (maxLen : Nat) (a : List UInt8) (ra : List Nat) (ha : Encoded a ra)
    (x y : List UInt8) (hxy : ∀ out prev, slowL T maxLen x out prev = slowL T maxLen y out prev) :
    ∀ out prev, slowL T maxLen (a ++ x) out prev = slowL T maxLen (a ++ y) out prev := by
  induction ha with
  | nil => exact hxy
  | cons r b rs hr _ ih =>
    intro out prev
    rw [List.append_assoc, List.append_assoc, slowL_rune T maxLen r hr, slowL_rune T maxLen r hr]
    cases classify T r prev with
    | none => exact ih out prev
    | some p =>
      obtain ⟨w, sp⟩ := p
      simp only
      split
      · rfl
      · exact ih _ _

end SH.Norm
