/-
  SH.Lemmas.UniqueTrie — the bit trie of SH.Model.Unique as a finite set:
  keys (abstraction to Finset ℕ), membership, insert, size = card, thin = filter by divisibility, toList.
-/
import SH.Model.Unique
import Mathlib.Data.Finset.Card
import Mathlib.Data.Finset.Image
import Mathlib.Tactic.Ring
namespace SH.C04
open SH.Unique

/-- the set of values stored in a trie with `d` bits left -/
def keys : Nat → Trie → Finset ℕ
  | _, .nil => ∅
  | 0, .node h _ _ => if h then {0} else ∅
  | d + 1, .node _ z o => (keys d z).image (fun y => 2 * y) ∪ (keys d o).image (fun y => 2 * y + 1)

theorem keys_nil (d : Nat) : keys d .nil = ∅ := by cases d <;> rfl

theorem keys_succ (d : Nat) (t : Trie) :
    keys (d + 1) t = (keys d t.zc).image (fun y => 2 * y) ∪ (keys d t.oc).image (fun y => 2 * y + 1) := by
  cases t with
  | nil => simp [keys, Trie.zc, Trie.oc, keys_nil]
  | node h z o => simp [keys, Trie.zc, Trie.oc]

theorem keys_zero (t : Trie) : keys 0 t = if t.hr then {0} else ∅ := by
  cases t with
  | nil => simp [keys, Trie.hr]
  | node h z o => cases h <;> simp [keys, Trie.hr]

theorem mem_keys_succ (d : Nat) (t : Trie) (x : Nat) :
    x ∈ keys (d + 1) t ↔ (x % 2 = 0 ∧ x / 2 ∈ keys d t.zc) ∨ (x % 2 = 1 ∧ x / 2 ∈ keys d t.oc) := by
  rw [keys_succ]
  simp only [Finset.mem_union, Finset.mem_image]
  constructor
  · rintro (⟨y, hy, rfl⟩ | ⟨y, hy, rfl⟩)
    · refine Or.inl ⟨by omega, ?_⟩
      rw [show 2 * y / 2 = y by omega]
      exact hy
    · refine Or.inr ⟨by omega, ?_⟩
      rw [show (2 * y + 1) / 2 = y by omega]
      exact hy
  · rintro (⟨h, hy⟩ | ⟨h, hy⟩)
    · exact Or.inl ⟨x / 2, hy, by omega⟩
    · exact Or.inr ⟨x / 2, hy, by omega⟩

theorem keys_lt (d : Nat) : ∀ (t : Trie) (x : Nat), x ∈ keys d t → x < 2 ^ d := by
  induction d with
  | zero =>
    intro t x h
    rw [keys_zero] at h
    split at h <;> simp at h
    omega
  | succ d ih =>
    intro t x h
    rw [mem_keys_succ] at h
    rw [Nat.pow_succ]
    rcases h with ⟨_, h⟩ | ⟨_, h⟩
    · have := ih _ _ h; omega
    · have := ih _ _ h; omega

theorem mem_iff (d : Nat) : ∀ (t : Trie) (x : Nat), x < 2 ^ d → (t.mem d x = true ↔ x ∈ keys d t) := by
  induction d with
  | zero =>
    intro t x hx
    have : x = 0 := by simp at hx; omega
    subst this
    rw [keys_zero]; simp only [Trie.mem]
    split <;> simp_all
  | succ d ih =>
    intro t x hx
    rw [mem_keys_succ]
    simp only [Trie.mem]
    rw [Nat.pow_succ] at hx
    split
    · rename_i h
      rw [ih _ _ (by omega)]
      constructor
      · exact fun hh => Or.inl ⟨h, hh⟩
      · rintro (⟨_, hh⟩ | ⟨h', _⟩)
        · exact hh
        · omega
    · rename_i h
      rw [ih _ _ (by omega)]
      constructor
      · exact fun hh => Or.inr ⟨by omega, hh⟩
      · rintro (⟨h', _⟩ | ⟨_, hh⟩)
        · omega
        · exact hh

theorem keys_insert (d : Nat) : ∀ (t : Trie) (x : Nat), x < 2 ^ d → keys d (t.insert d x) = insert x (keys d t) := by
  induction d with
  | zero =>
    intro t x hx
    have : x = 0 := by simp at hx; omega
    subst this
    rw [keys_zero t]
    simp only [Trie.insert, keys]
    cases t.hr <;> simp
  | succ d ih =>
    intro t x hx
    rw [Nat.pow_succ] at hx
    rw [keys_succ, keys_succ d t]
    simp only [Trie.insert]
    split
    · simp only [Trie.zc, Trie.oc]
      rw [ih _ _ (by omega), Finset.image_insert, Finset.insert_union, show 2 * (x / 2) = x by omega]
    · simp only [Trie.zc, Trie.oc]
      rw [ih _ _ (by omega), Finset.image_insert, Finset.union_insert, show 2 * (x / 2) + 1 = x by omega]

theorem keys_foldl_insert (d : Nat) : ∀ (xs : List Nat) (t : Trie), (∀ x ∈ xs, x < 2 ^ d) →
    keys d (xs.foldl (fun t x => t.insert d x) t) = keys d t ∪ xs.toFinset := by
  intro xs
  induction xs with
  | nil => intro t _; simp
  | cons x xs ih =>
    intro t h
    rw [List.forall_mem_cons] at h
    rw [List.foldl_cons, ih _ h.2, keys_insert d t x h.1, List.toFinset_cons, Finset.insert_union, Finset.union_insert]

theorem size_nil (d : Nat) : Trie.size d .nil = 0 := by cases d <;> rfl

theorem size_eq (d : Nat) : ∀ (t : Trie), t.size d = (keys d t).card := by
  induction d with
  | zero =>
    intro t; cases t with
    | nil => simp [Trie.size, keys]
    | node h z o => simp only [Trie.size, keys]; split <;> simp
  | succ d ih =>
    intro t; cases t with
    | nil => simp [Trie.size, keys]
    | node h z o =>
      simp only [Trie.size, keys]
      rw [Finset.card_union_of_disjoint, Finset.card_image_of_injective, Finset.card_image_of_injective, ih, ih]
      · intro a b h; simp only at h; omega
      · intro a b h; simp only at h; omega
      · rw [Finset.disjoint_left]
        intro a ha hb
        simp only [Finset.mem_image] at ha hb
        obtain ⟨y, _, rfl⟩ := ha
        obtain ⟨z, _, hz⟩ := hb
        omega

/-- the values divisible by 2^k -/
def fil (k : Nat) (U : Finset ℕ) : Finset ℕ := U.filter (fun y => y % 2 ^ k = 0)

theorem mem_fil (k : Nat) (U : Finset ℕ) (y : Nat) : y ∈ fil k U ↔ y ∈ U ∧ y % 2 ^ k = 0 := by
  simp [fil]

theorem fil_zero (U : Finset ℕ) : fil 0 U = U := Finset.filter_true_of_mem (fun y _ => Nat.mod_one y)

theorem good_iff (k y : Nat) : good k y = true ↔ y % 2 ^ k = 0 := by simp [good]

theorem good_zero (k : Nat) : good k 0 = true := by simp [good]

theorem fil_succ_image (k : Nat) (S T : Finset ℕ) :
    fil (k + 1) (S.image (fun y => 2 * y) ∪ T.image (fun y => 2 * y + 1)) = (fil k S).image (fun y => 2 * y) := by
  have hp : (2:ℕ) ^ (k + 1) = 2 * 2 ^ k := by rw [Nat.pow_succ, Nat.mul_comm]
  ext y
  simp only [mem_fil, Finset.mem_union, Finset.mem_image, hp]
  constructor
  · rintro ⟨⟨z, hz, rfl⟩ | ⟨z, hz, rfl⟩, hm⟩
    · rw [Nat.mul_mod_mul_left] at hm
      exact ⟨z, ⟨hz, by omega⟩, rfl⟩
    · have := Nat.mod_mod_of_dvd (2 * z + 1) (Dvd.intro (2 ^ k) rfl : 2 ∣ 2 * 2 ^ k)
      omega
  · rintro ⟨z, ⟨hz, hm⟩, rfl⟩
    exact ⟨Or.inl ⟨z, hz, rfl⟩, by rw [Nat.mul_mod_mul_left, hm]⟩

theorem keys_thin (d : Nat) : ∀ (k : Nat) (t : Trie), keys d (t.thin d k) = fil k (keys d t) := by
  induction d with
  | zero =>
    intro k t
    cases k with
    | zero => rw [fil_zero]; rfl
    | succ k =>
      cases t with
      | nil => rfl
      | node h z o =>
        refine (Finset.filter_true_of_mem (fun y hy => ?_)).symm
        have := keys_lt 0 _ _ hy
        have : y = 0 := by omega
        rw [this]
        exact Nat.zero_mod _
  | succ d ih =>
    intro k t
    cases k with
    | zero => rw [fil_zero]; rfl
    | succ k =>
      cases t with
      | nil => rfl
      | node h z o =>
        rw [keys_succ d (.node h z o), fil_succ_image]
        simp only [Trie.thin, keys, Trie.zc, ih, keys_nil, Finset.image_empty, Finset.union_empty]

theorem mem_toList (d : Nat) : ∀ (t : Trie) (x : Nat), x ∈ t.toList d ↔ x ∈ keys d t := by
  induction d with
  | zero =>
    intro t x; cases t with
    | nil => simp [Trie.toList, keys]
    | node h z o => simp only [Trie.toList, keys]; split <;> simp
  | succ d ih =>
    intro t x; cases t with
    | nil => simp [Trie.toList, keys]
    | node h z o =>
      simp only [Trie.toList, keys, List.mem_append, List.mem_map, Finset.mem_union, Finset.mem_image, ih]

end SH.C04
