/-
  SH.Lemmas.Lists — facts about lists that several property families need and Lean core does not state:
  sums of integers under permutation, injectivity on a list with duplicate-free images, the first marked element of
  a list, and sorted insertion for any function `ins` with the two defining equations that the insertion loops of the
  models share (`Sampler.insertBy`, `Table.insertRow`, `PromEval.insertSorted`, `StringTop.insDesc`, `Meta.insertById`,
  `MetaIndex.insertSorted`, ...: a family instantiates `ins` at its function, the equations hold by `rfl`).
  No model file is imported.
-/
namespace SH.Lists

theorem sum_perm {l₁ l₂ : List Int} (h : l₁.Perm l₂) : l₁.sum = l₂.sum :=
  h.foldr_eq' (f := (· + ·)) (fun _ _ _ _ z => Int.add_left_comm _ _ z) 0

theorem nodup_map_inj {α β} (g : α → β) {l : List α} (h : (l.map g).Nodup) :
    ∀ x ∈ l, ∀ y ∈ l, g x = g y → x = y :=
  have p : l.Pairwise (fun a b => g a = g b → a = b) := (List.pairwise_map.1 h).imp fun hne e => absurd e hne
  List.Pairwise.forall_of_forall_of_flip (fun _ _ _ => rfl) p (p.imp fun f e => (f e.symm).symm)

/-- a list is cut in one way only at its first marked element -/
theorem first_marked_unique {α} (P : α → Prop) : ∀ (a b r r' : List α) (x y : α),
    a ++ x :: r = b ++ y :: r' → (∀ e ∈ a, ¬ P e) → (∀ e ∈ b, ¬ P e) → P x → P y → a = b ∧ x = y ∧ r = r' := by
  intro a
  induction a with
  | nil =>
    intro b r r' x y h _ hb hx _
    cases b with
    | nil => exact ⟨rfl, (List.cons.inj h).1, (List.cons.inj h).2⟩
    | cons z b => exact absurd ((List.cons.inj h).1 ▸ hx) (hb z List.mem_cons_self)
  | cons z a ih =>
    intro b r r' x y h ha hb hx hy
    cases b with
    | nil => exact absurd ((List.cons.inj h).1 ▸ hy) (ha z List.mem_cons_self)
    | cons w b =>
      obtain ⟨h1, h2, h3⟩ := ih b r r' x y (List.cons.inj h).2 (fun e he => ha e (List.mem_cons_of_mem _ he))
        (fun e he => hb e (List.mem_cons_of_mem _ he)) hx hy
      exact ⟨by rw [(List.cons.inj h).1, h1], h2, h3⟩

/-! ### sorted insertion

  `ins` puts `x` in front of the first `y` with `p x y`. It always permutes; where `p` decides a relation `R` that is
  transitive on a set `S` holding all elements concerned (`S := fun _ => True` when `R` is transitive everywhere), it
  keeps a list sorted by `R`. -/

section
variable {α : Type _} (p : α → α → Prop) [DecidableRel p] (ins : α → List α → List α) (h0 : ∀ x, ins x [] = [x])
  (h1 : ∀ x y ys, ins x (y :: ys) = if p x y then x :: y :: ys else y :: ins x ys)
include h0 h1

theorem ins_perm (x : α) (l : List α) : (ins x l).Perm (x :: l) := by
  induction l with
  | nil => rw [h0]
  | cons y ys ih =>
    rw [h1]
    split
    · exact List.Perm.refl _
    · exact (List.Perm.cons y ih).trans (List.Perm.swap x y ys)

theorem ins_pairwise (R : α → α → Prop) (S : α → Prop) (tr : ∀ a b c, S a → S b → S c → R a b → R b c → R a c)
    (hp : ∀ x y, S x → S y → p x y → R x y) (hn : ∀ x y, S x → S y → ¬ p x y → R y x) (x : α) (hx : S x) (l : List α)
    (hl : ∀ y ∈ l, S y) (hs : l.Pairwise R) : (ins x l).Pairwise R := by
  induction l with
  | nil => rw [h0]; exact List.pairwise_singleton _ _
  | cons y ys ih =>
    have q := List.pairwise_cons.1 hs
    have hy := hl y List.mem_cons_self
    have hys : ∀ z ∈ ys, S z := fun z hz => hl z (List.mem_cons_of_mem _ hz)
    rw [h1]
    split
    · rename_i h
      refine List.pairwise_cons.2 ⟨fun z hz => ?_, hs⟩
      rcases List.mem_cons.1 hz with rfl | hz
      · exact hp _ _ hx hy h
      · exact tr _ _ _ hx hy (hys z hz) (hp _ _ hx hy h) (q.1 z hz)
    · rename_i h
      refine List.pairwise_cons.2 ⟨fun z hz => ?_, ih hys q.2⟩
      rcases List.mem_cons.1 ((ins_perm p ins h0 h1 x ys).mem_iff.1 hz) with rfl | hz
      · exact hn _ _ hx hy h
      · exact q.1 z hz

/-- insertion sort (`foldr ins []`) gives a sorted permutation -/
theorem foldr_ins_spec (R : α → α → Prop) (S : α → Prop) (tr : ∀ a b c, S a → S b → S c → R a b → R b c → R a c)
    (hp : ∀ x y, S x → S y → p x y → R x y) (hn : ∀ x y, S x → S y → ¬ p x y → R y x) (l : List α) (hl : ∀ y ∈ l, S y) :
    (l.foldr ins []).Perm l ∧ (l.foldr ins []).Pairwise R := by
  induction l with
  | nil => exact ⟨List.Perm.refl _, List.Pairwise.nil⟩
  | cons x xs ih =>
    obtain ⟨i1, i2⟩ := ih fun y hy => hl y (List.mem_cons_of_mem _ hy)
    exact ⟨(ins_perm p ins h0 h1 x _).trans (List.Perm.cons x i1),
      ins_pairwise p ins h0 h1 R S tr hp hn x (hl x List.mem_cons_self) _
        (fun y hy => hl y (List.mem_cons_of_mem _ (i1.mem_iff.1 hy))) i2⟩

end

end SH.Lists
