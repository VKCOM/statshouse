/-
  SH.Lemmas.Binlog — lemmas for Props/C18 (fsbinlog): the two equations of the reader's loop body (`readStep_kind`, `readStep_short`),
  a continuing reader step only drops some `n ≥ 0` bytes and sums them (`readStep_cont`, for `reach_consumed` of Props/C18),
  byte-level encode/decode facts, the reader's step on an event record, and the vocabulary of the single-file statement (`Ev`,
  `wnext`, `writeAll`, `NoRotate`, `offsets`; `crcPart`).
-/
import SH.Model.Binlog
open SH.Binlog
namespace SH.C18

/-- `s'` is `s` after `n` bytes were consumed, whatever the bytes are -/
def Consumed (cfg : Cfg) (s s' : RS) (n : Nat) : Prop :=
  s'.rest = s.rest.drop n ∧ s'.crc = cfg.upd s.crc (s.rest.take n)

@[simp] theorem commit_rest (s : RS) : s.commit.rest = s.rest := by unfold RS.commit; split <;> rfl
@[simp] theorem commit_crc (s : RS) : s.commit.crc = s.crc := by unfold RS.commit; split <;> rfl
@[simp] theorem commit_pos (s : RS) : s.commit.pos = s.pos := by unfold RS.commit; split <;> rfl
@[simp] theorem commit_slack (s : RS) : s.commit.slack = s.slack := by unfold RS.commit; split <;> rfl
@[simp] theorem commit_dk (s : RS) : s.commit.dk = s.dk := by unfold RS.commit; split <;> rfl
@[simp] theorem commit_evs (s : RS) : s.commit.eng.evs = s.eng.evs := by unfold RS.commit; split <;> rfl
@[simp] theorem commit_off (s : RS) : s.commit.eng.off = s.eng.off := by unfold RS.commit; split <;> rfl
@[simp] theorem pre_rest (s : RS) : (preCommit s).rest = s.rest := by unfold preCommit; split <;> simp
@[simp] theorem pre_crc (s : RS) : (preCommit s).crc = s.crc := by unfold preCommit; split <;> simp
@[simp] theorem pre_pos (s : RS) : (preCommit s).pos = s.pos := by unfold preCommit; split <;> simp
@[simp] theorem pre_slack (s : RS) : (preCommit s).slack = s.slack := by unfold preCommit; split <;> simp
@[simp] theorem pre_dk (s : RS) : (preCommit s).dk = s.dk := by unfold preCommit; split <;> simp
@[simp] theorem pre_evs (s : RS) : (preCommit s).eng.evs = s.eng.evs := by unfold preCommit; split <;> simp
@[simp] theorem pre_off (s : RS) : (preCommit s).eng.off = s.eng.off := by unfold preCommit; split <;> simp

theorem atLeast_iff (b : Bytes) (n : Nat) : atLeast b n = true ↔ n ≤ b.length := by
  induction b generalizing n with
  | nil => cases n <;> simp [atLeast]
  | cons a t ih => cases n <;> simp [atLeast, ih]

theorem readStep_kind (cfg : Cfg) {s : RS} (h4 : 4 ≤ s.rest.length) :
    readStep cfg s = stepKind cfg (preCommit s) (kindOf (rd32 s.rest)) := by
  have a4 : atLeast s.rest 4 = true := (atLeast_iff _ _).mpr h4
  simp only [readStep, pre_rest, a4, Bool.not_true, Bool.false_eq_true, if_false]

theorem readStep_short (cfg : Cfg) {s : RS} (h4 : s.rest.length < 4) : readStep cfg s = .eof (preCommit s) := by
  have a4 : atLeast s.rest 4 = false := by rw [Bool.eq_false_iff, ne_eq, atLeast_iff]; omega
  simp only [readStep, pre_rest, a4, Bool.not_false, if_true]

theorem ite_cont {c : Prop} [Decidable c] {a b : Step} {s' : RS} (h : (if c then a else b) = .cont s') :
    a = .cont s' ∨ b = .cont s' := by
  by_cases hc : c
  · exact .inl (by rwa [if_pos hc] at h)
  · exact .inr (by rwa [if_neg hc] at h)

theorem skipLev_cont {cfg : Cfg} {s s' : RS} {n : Nat} (h : skipLev cfg s n = .cont s') : Consumed cfg s s' n := by
  rcases ite_cont h with h | h
  · cases h
  · cases h
    exact ⟨rfl, rfl⟩

theorem applyStep_cont {cfg : Cfg} {s s' : RS} (h : applyStep cfg s = .cont s') : ∃ n, Consumed cfg s s' n := by
  unfold applyStep at h
  rcases ite_cont h with h | h
  · cases h
  · revert h
    generalize engApply cfg.evMagic s.slack s.rest = r
    intro h
    rcases ite_cont h with h | h
    · cases h
    · rcases ite_cont h with h | h
      · cases h
      · cases r with
        | ok n =>
          rcases ite_cont h with h | h
          · cases h
          · cases h
            exact ⟨_, rfl, rfl⟩
        | notEnough => cases h
        | unknown =>
          cases h
          exact ⟨_, rfl, rfl⟩

theorem stepKind_cont {cfg : Cfg} {s s' : RS} {k : Kind} (h : stepKind cfg s k = .cont s') : ∃ n, Consumed cfg s s' n := by
  cases k
  · rcases ite_cont h with h | h
    · exact ⟨_, skipLev_cont h⟩
    · cases h
  · rcases ite_cont h with h | h
    · exact ⟨_, (skipLev_cont h : Consumed cfg { s with ts := _ } s' _)⟩
    · cases h
  · cases h
  · rcases ite_cont h with h | h
    · exact ⟨_, skipLev_cont h⟩
    · cases h
  · rcases ite_cont h with h | h
    · rcases ite_cont h with h | h
      · cases h
      · exact ⟨_, (skipLev_cont h : Consumed cfg { s with ts := _ } s' _)⟩
    · cases h
  · rcases ite_cont h with h | h
    · exact ⟨_, (skipLev_cont h : Consumed cfg { s with ts := _ } s' _)⟩
    · cases h
  · rcases ite_cont h with h | h
    · rcases ite_cont h with h | h <;> cases h
    · cases h
  · cases h
  · cases h
  · cases h
  · exact applyStep_cont h

theorem readStep_cont {cfg : Cfg} {s s' : RS} (h : readStep cfg s = .cont s') : ∃ n, Consumed cfg s s' n := by
  by_cases h4 : 4 ≤ s.rest.length
  · rw [readStep_kind cfg h4] at h
    obtain ⟨n, a, b⟩ := stepKind_cont h
    exact ⟨n, by simpa using a, by simpa using b⟩
  · rw [readStep_short cfg (Nat.lt_of_not_le h4)] at h
    cases h

theorem pad4_ge (x : Nat) : x ≤ pad4 x := by unfold pad4; omega
theorem pad4_lt (x : Nat) : pad4 x < x + 4 := by unfold pad4; omega
theorem pad4_mod (x : Nat) : pad4 x % 4 = 0 := by unfold pad4; omega
theorem pad4_pad4 (x : Nat) : pad4 (pad4 x) = pad4 x := by unfold pad4; omega
theorem pad4_of_mod {x : Nat} (h : x % 4 = 0) : pad4 x = x := by unfold pad4; omega

@[simp] theorem le32_length (x : Nat) : (le32 x).length = 4 := rfl
@[simp] theorem le64_length (x : Nat) : (le64 x).length = 8 := rfl
@[simp] theorem encEvent_length (m : Nat) (b : Bytes) : (encEvent m b).length = 8 + b.length := by
  simp [encEvent]; omega
@[simp] theorem encCrc_length (ts pos : Nat) (c : UInt32) : (encCrc ts pos c).length = 20 := by simp [encCrc]
@[simp] theorem padded_length (x : Bytes) : (padded x).length = pad4 x.length := by
  simp [padded]; have := pad4_ge x.length; omega
theorem padded_of_mod {x : Bytes} (h : x.length % 4 = 0) : padded x = x := by
  simp [padded, pad4_of_mod h]

theorem toNat_ofNat_mod (x : Nat) : (UInt8.ofNat (x % 256)).toNat = x % 256 := by
  rw [UInt8.toNat_ofNat', Nat.mod_mod_of_dvd _ (by decide)]

theorem rd32_le32 (m : Nat) (h : m < 4294967296) (t : Bytes) : rd32 (le32 m ++ t) = m := by
  show (UInt8.ofNat (m % 256)).toNat + 256 * (UInt8.ofNat (m / 256 % 256)).toNat + 65536 * (UInt8.ofNat (m / 65536 % 256)).toNat
    + 16777216 * (UInt8.ofNat (m / 16777216 % 256)).toNat = m
  rw [toNat_ofNat_mod, toNat_ofNat_mod, toNat_ofNat_mod, toNat_ofNat_mod, ← Nat.mod_mul (a := 256) (b := 256),
    ← Nat.mod_mul (a := 65536) (b := 256), ← Nat.mod_mul (a := 16777216) (b := 256), Nat.mod_eq_of_lt h]

theorem rd32_event (m : Nat) (hm : m < 4294967296) (b R : Bytes) : rd32 (padded (encEvent m b) ++ R) = m := by
  simp only [padded, encEvent, List.append_assoc]; exact rd32_le32 m hm _

theorem rd32_crc_magic (ts p : Nat) (c : UInt32) (R : Bytes) : rd32 (encCrc ts p c ++ R) = magicCrc := by
  simp only [encCrc, List.append_assoc]; exact rd32_le32 _ (by decide) _

/-! `rd32` looks at four bytes only: the decode facts at an offset (`rd32_event_len`, `rd32_crc_crc`) are `rd32_le32` once the
  lists are unfolded that far -/

theorem rd32_event_len (m : Nat) (b R : Bytes) (hb : b.length < 4294967296) :
    rd32 ((padded (encEvent m b) ++ R).drop 4) = b.length :=
  rd32_le32 b.length hb []

theorem rd32_crc_crc (ts p : Nat) (c : UInt32) (R : Bytes) : UInt32.ofNat (rd32 ((encCrc ts p c ++ R).drop 16)) = c := by
  rw [show rd32 ((encCrc ts p c ++ R).drop 16) = c.toNat from rd32_le32 _ (UInt32.toNat_lt c) []]
  exact UInt32.ofNat_toNat

theorem kindOf_user {m : Nat} (h : m ∉ serviceMagics) : kindOf m = .user := by
  simp only [serviceMagics, List.mem_cons, List.not_mem_nil, or_false, not_or] at h
  obtain ⟨a, b, c, d, e, f, g, i, j, k⟩ := h
  simp [kindOf, a, b, c, d, e, f, g, i, j, k]

theorem take_padded (x R : Bytes) : (padded x ++ R).take (pad4 x.length) = padded x := by
  rw [List.take_append_of_le_length (by simp)]; simp [List.take_of_length_le]
theorem drop_padded (x R : Bytes) : (padded x ++ R).drop (pad4 x.length) = R := by
  have : pad4 x.length = (padded x).length := by simp
  rw [this, List.drop_left]
theorem take_unpadded (x R : Bytes) : (padded x ++ R).take x.length = x := by
  simp [padded, List.append_assoc, List.take_left']

/-- the reader behind the event with body `b`; `R` is what follows the event's padding -/
def afterEvent (cfg : Cfg) (s : RS) (b R : Bytes) : RS :=
  { s with pos := s.pos + pad4 (8 + b.length), crc := cfg.upd s.crc (padded (encEvent cfg.evMagic b)), rest := R, dk := false,
           eng := { s.eng with off := s.eng.off + pad4 (8 + b.length), evs := (s.eng.off, encEvent cfg.evMagic b) :: s.eng.evs } }

theorem engApply_event (m sl : Nat) (b R : Bytes) (hm : m < 4294967296) (hb : b.length < 4294967296) (hsl : sl ≤ R.length) :
    engApply m sl (padded (encEvent m b) ++ R) = .ok (8 + b.length) := by
  unfold engApply
  rw [rd32_event m hm, rd32_event_len m b R hb]
  have h1 : atLeast (padded (encEvent m b) ++ R) (8 + sl) = true := by
    rw [atLeast_iff]
    simp
    have := pad4_ge (8 + b.length)
    omega
  have h2 : atLeast (padded (encEvent m b) ++ R) (8 + b.length + sl) = true := by
    rw [atLeast_iff]
    simp
    have := pad4_ge (8 + b.length)
    omega
  simp [h1, h2]

theorem readStep_event (cfg : Cfg) (s : RS) (b R : Bytes) (hm : cfg.evMagic < 4294967296) (hk : kindOf cfg.evMagic = .user)
    (hb : b.length < 4294967296) (hrest : s.rest = padded (encEvent cfg.evMagic b) ++ R) (hdk : s.dk = false)
    (hoff : s.eng.off = s.pos) (hsl : s.slack ≤ R.length) :
    readStep cfg s = .cont (afterEvent cfg (preCommit s) b R) := by
  have h4 : 4 ≤ s.rest.length := by
    rw [hrest]
    simp
    have := pad4_ge (8 + b.length)
    omega
  have hrb : atLeast s.rest (pad4 (8 + b.length) + s.slack) = true := by
    rw [atLeast_iff, hrest]; simp; omega
  have hp : pad4 (8 + b.length) ≠ 0 := by have := pad4_ge (8 + b.length); omega
  rw [readStep_kind cfg h4, hrest, rd32_event _ hm, hk]
  simp only [stepKind, applyStep, pre_dk, hdk, Bool.false_eq_true, if_false, pre_rest, pre_slack]
  rw [hrest, engApply_event _ _ _ _ hm hb hsl]
  simp only [pre_off, pre_pos, hoff]
  have e1 : ¬ (s.pos + ((pad4 (8 + b.length) : Nat) : Int) < s.pos) := by omega
  have e2 : (s.pos + ((pad4 (8 + b.length) : Nat) : Int) - s.pos).toNat = pad4 (8 + b.length) := by omega
  simp only [e1, if_false, e2]
  rw [← hrest, hrb]
  simp only [Bool.not_true, Bool.false_eq_true, if_false, hp]
  simp only [afterEvent, RS.advance, pad4_pad4, pre_crc, pre_pos, pre_off, pre_evs, pre_slack, hrest, hoff]
  have t1 := take_padded (encEvent cfg.evMagic b) R
  have t2 := drop_padded (encEvent cfg.evMagic b) R
  have t3 := take_unpadded (encEvent cfg.evMagic b) R
  simp only [encEvent_length] at t1 t2 t3
  rw [t1, t2, t3]

/-- `Ev`, `evBytes`, `wnext`, `writeAll`, `NoRotate`, `offsets`: the single-file vocabulary, used by the statement of `replay_all`
    only.  The general one is `Ap`, `apNext`, `runAll`, `NoRotR`, `offsR` (BinlogSim, BinlogCut); `ev_ap` (BinlogAll) ties the two. -/
structure Ev where
  body : Bytes
  asap : Bool
  ts : Nat

def evBytes (cfg : Cfg) (e : Ev) : Bytes := encEvent cfg.evMagic e.body

/-- one accepted `Append`: `putBody` of the model (hash inputs are irrelevant without rotation) -/
def wnext (cfg : Cfg) (w : WS) (e : Ev) : WS := putBody cfg w (evBytes cfg e) e.asap e.ts 0 0

def writeAll (cfg : Cfg) (w : WS) : List Ev → WS
  | [] => w
  | e :: es => writeAll cfg (wnext cfg w e) es

/-- no append of the list takes the `Add Rotate Levs` branch -/
def NoRotate (cfg : Cfg) (w : WS) : List Ev → Prop
  | [] => True
  | e :: es => needRotate cfg (putCrc cfg w (evBytes cfg e) e.ts) = false ∧ NoRotate cfg (wnext cfg w e) es

/-- (offset the writer assigned, framed event): the offset is `offsetGlobal` when the Append was accepted, i.e. the value
    the previous Append returned -/
def offsets (cfg : Cfg) (w : WS) : List Ev → List (Int × Bytes)
  | [] => []
  | e :: es => ((w.offG : Int), evBytes cfg e) :: offsets cfg (wnext cfg w e) es

/-- the crc record an append adds when one is due; part of `apA` (through `Ap.ev`) -/
def crcPart (cfg : Cfg) (w : WS) (e : Ev) : Bytes :=
  let w1 := appendLev cfg w (evBytes cfg e)
  if needCrc cfg w1 then encCrc e.ts w1.offG w1.crc else []

theorem appendLev_buff (cfg : Cfg) (w : WS) (d : Bytes) : (appendLev cfg w d).buff = w.buff ++ padded d := rfl

end SH.C18
