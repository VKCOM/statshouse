/-
  SH.Lemmas.JournalConv — one hop of the metadata chain: an upstream journal `U` that only grows (events with
  increasing versions are added: the source, or any journal that is not rolled back) and a replica `R` (compact or not)
  with its journal file, under ANY schedule of
      upAdd      a new upstream event
      deliver    diff with any item / byte limits, cut anywhere, transported, applied with `applyUpdate`
      save       `Save()`
      restart    truncate the file at any byte offset, `load` into a fresh journal
  The invariant `Conv` ("R holds, for every upstream entry up to R's loaderVersion, the stored form of exactly that
  content; R holds nothing the upstream does not know") is preserved by every op (`stepW_inv`), hence by every
  schedule (`runW_inv`); when R's loaderVersion reaches the upstream version the two journals hold the same entities
  with contents related by `storedAs` (transport, then compaction for compact replicas) (`synced_contents`).
-/
import SH.Lemmas.Journal

namespace SH.C20
open SH.Journal

/-- what a replica stores for upstream content `k`: the transported content, compacted when the replica is compact -/
def storedAs (tab : Nat → Content) (c : Bool) (k : Nat) : Option Nat :=
  if c then (tab (tab k).t).c else some (tab k).t

/-- properties of the observed functions (transport `t`, compaction `c`) the convergence argument relies on:
    they keep the entity (type, id); whether compaction discards depends on the entity only; sizes are positive.
    One more assumption is built into the *type* of `tab` rather than being a field: `t` and `c` are FUNCTIONS of the
    content — compacting / transporting the same event always gives the same event. `synced_same_hash` and
    `replicas_same_hash` depend on it (two replicas store `storedAs tab c k` for the same `k`). It is a fact about the Go
    code (e.g. `compactJournalEvent` must serialise the `tags_draft` map in a fixed order), checked by cmd/verif-c20 on the
    real functions for every generated content (oracles `compaction-not-deterministic`, `transport-not-deterministic`,
    `stored-content-unpredicted`), together with the fields below (`table-assumption-violated`).
    `tkey` is read by no one-hop proof (for non-compact replicas it is `key`); the chain theorems assume it separately
    (`KeepsKey`). `sz` is what makes `save` put every entry into a chunk (`packChunks_flatten`). -/
structure TabOK (tab : Nat → Content) (c : Bool) : Prop where
  key : ∀ k f, storedAs tab c k = some f → (tab f).typ = (tab k).typ ∧ (tab f).id = (tab k).id
  tkey : ∀ k, (tab (tab k).t).typ = (tab k).typ ∧ (tab (tab k).t).id = (tab k).id
  drop : ∀ k k', (tab k).typ = (tab k').typ → (tab k).id = (tab k').id →
    (storedAs tab c k = none ↔ storedAs tab c k' = none)
  sz : ∀ k, 0 < (tab k).sz

/-- entries are built by `mkEntry` (true of everything the model ever stores) -/
def WF (tab : Nat → Content) (es : List Entry) : Prop := ∀ e ∈ es, e = mkEntry tab e.ver e.k

theorem wf_fields (tab : Nat → Content) (e : Entry) (h : e = mkEntry tab e.ver e.k) :
    e.typ = (tab e.k).typ ∧ e.id = (tab e.k).id ∧ e.sz = (tab e.k).sz ∧ e.hash = (tab e.k).hash := by
  rw [h]; simp [mkEntry]

/-- `JInv` plus what the bounds on versions rest on: versions are positive, and currentVersion is the version of some
    entry (0 for the empty journal), so a bound on the entries bounds `cur` (`deliver_cases`, `addAll_of_prefix`) -/
structure JX (j : J) : Prop where
  inv : JInv j
  pos : ∀ e ∈ j.entries, 0 < e.ver
  last : (j.entries = [] ∧ j.cur = 0) ∨ (∃ e ∈ j.entries, e.ver = j.cur)

theorem JX.cur_nonneg {j : J} (h : JX j) : 0 ≤ j.cur := by
  rcases h.last with ⟨_, h0⟩ | ⟨e, he, hv⟩
  · omega
  · have := h.pos e he; omega

theorem jx_empty (c : Bool) : JX { compact := c } :=
  ⟨jinv_empty c, by intro e he; simp at he, Or.inl ⟨rfl, rfl⟩⟩

theorem add_jx (j j' : J) (e : Entry) (hi : JX j) (h : add j e = some j') : JX j' := by
  obtain ⟨i1, c1, l1⟩ := add_inv j j' e hi.inv h
  have hm := fun x => mem_add j j' e x h
  refine ⟨i1, ?_, Or.inr ⟨e, (hm e).mpr (Or.inl rfl), c1.symm⟩⟩
  intro x hx
  rcases (hm x).mp hx with rfl | ⟨a, _⟩
  · have := hi.cur_nonneg; omega
  · exact hi.pos x a

theorem addAll_jx (es : List Entry) (j j' : J) (hi : JX j) (h : addAll j es = some j') : JX j' :=
  addAll_preserves JX add_jx es j j' hi h

theorem jx_congr (j j' : J) (h : JX j) (he : j'.entries = j.entries) (hh : j'.hash = j.hash) (hc : j'.cur = j.cur) : JX j' :=
  ⟨jinv_congr j j' h.inv he hh hc, by rw [he]; exact h.pos, by rw [he, hc]; exact h.last⟩

structure Conv (tab : Nat → Content) (R U : J) : Prop where
  /-- complete up to loaderVersion: every upstream entry up to R's loaderVersion is held in its stored form (with a
      version that is not newer — compaction keeps the old version when the stored form did not change) -/
  c1 : ∀ u ∈ U.entries, u.ver ≤ R.lv → ∀ f, storedAs tab R.compact u.k = some f →
        ∃ r ∈ R.entries, sameKey r u = true ∧ r.k = f ∧ r.ver ≤ u.ver ∧ (R.compact = false → r.ver = u.ver)
  /-- nothing invented: every entry of R belongs to an entity the upstream holds and does not discard -/
  c2 : ∀ r ∈ R.entries, ∃ u ∈ U.entries, sameKey r u = true ∧ storedAs tab R.compact u.k ≠ none
  /-- the replica has asked for everything it holds, and for nothing the upstream does not have yet -/
  c3 : R.cur ≤ R.lv ∧ R.lv ≤ U.cur
  wfR : WF tab R.entries
  wfU : WF tab U.entries

theorem conv_empty (tab : Nat → Content) (c : Bool) (U : J) (hU : JX U) (hw : WF tab U.entries) :
    Conv tab { compact := c } U := by
  refine ⟨?_, by intro r hr; simp at hr, ⟨Int.le_refl _, hU.cur_nonneg⟩, by intro e he; simp at he, hw⟩
  -- the fresh replica's loaderVersion is 0 and every upstream version is positive: nothing to be complete about
  intro u hu hle
  have := hU.pos u hu
  simp at hle
  omega

theorem conv_upAdd (tab : Nat → Content) (R U U' : J) (v : Int) (k : Nat) (hT : TabOK tab R.compact)
    (hc : Conv tab R U) (h : add U (mkEntry tab v k) = some U') (hU : JX U) : Conv tab R U' := by
  obtain ⟨_, c1, l1⟩ := add_inv U U' _ hU.inv h
  have hm := fun x => mem_add U U' (mkEntry tab v k) x h
  refine ⟨?_, ?_, ⟨hc.c3.1, ?_⟩, hc.wfR, ?_⟩
  · intro u hu hle f hf
    rcases (hm u).mp hu with rfl | ⟨a, _⟩
    · exact absurd (Int.le_trans hle hc.c3.2) (Int.not_le.mpr l1)
    · exact hc.c1 u a hle f hf
  · intro r hr
    obtain ⟨u, hu, hs, hn⟩ := hc.c2 r hr
    by_cases hk : sameKey (mkEntry tab v k) u = true
    · refine ⟨mkEntry tab v k, (hm _).mpr (Or.inl rfl), ?_, ?_⟩
      · rw [sameKey_comm] at hk; exact sameKey_trans hs hk
      · intro hnone
        apply hn
        have hw := wf_fields tab u (hc.wfU u hu)
        rw [sameKey_iff] at hk
        have e1 : (tab k).typ = (tab u.k).typ := by rw [← hw.1]; exact hk.1
        have e2 : (tab k).id = (tab u.k).id := by rw [← hw.2.1]; exact hk.2
        exact (hT.drop k u.k e1 e2).mp hnone
    · exact ⟨u, (hm u).mpr (Or.inr ⟨hu, by simpa using hk⟩), hs, hn⟩
  · rw [c1]
    exact Int.le_of_lt (Int.lt_of_le_of_lt hc.c3.2 l1)
  · intro x hx
    rcases (hm x).mp hx with rfl | ⟨a, _⟩
    · rfl
    · exact hc.wfU x a

theorem kept_sound (tab : Nat → Content) (R : J) (q : List Entry) (x : Entry)
    (hx : x ∈ keptOf tab R (transport tab q)) :
    ∃ u ∈ q, ∃ f, storedAs tab R.compact u.k = some f ∧ x = mkEntry tab u.ver f := by
  unfold keptOf at hx
  split at hx
  · rename_i hc
    simp only [compactFilter, transport, List.mem_filterMap, List.mem_map] at hx
    obtain ⟨_, ⟨u, hu, rfl⟩, hco⟩ := hx
    cases hf : (tab (tab u.k).t).c with
    | none => simp [compactOne, mkEntry, hf] at hco
    | some f =>
      refine ⟨u, hu, f, by simp [storedAs, hc, hf], ?_⟩
      simp only [compactOne, mkEntry, hf] at hco
      split at hco
      · rename_i old _
        by_cases hk : old.k = f
        · simp [hk] at hco
        · simp [hk] at hco
          exact hco.symm
      · exact (Option.some.inj hco).symm
  · rename_i hc
    simp only [transport, List.mem_map] at hx
    obtain ⟨u, hu, rfl⟩ := hx
    exact ⟨u, hu, (tab u.k).t, by simp [storedAs, hc], rfl⟩

/-- a delivered entry that is not discarded is kept in its stored form, or skipped because the replica already holds
    exactly that form -/
theorem kept_complete (tab : Nat → Content) (R : J) (q : List Entry) (u : Entry) (hu : u ∈ q) (f : Nat)
    (hf : storedAs tab R.compact u.k = some f) :
    mkEntry tab u.ver f ∈ keptOf tab R (transport tab q) ∨
    (R.compact = true ∧ ∃ old ∈ R.entries, sameKey (mkEntry tab u.ver f) old = true ∧ old.k = f) := by
  unfold keptOf
  split
  · rename_i hc
    have hf' : (tab (tab u.k).t).c = some f := by simpa [storedAs, hc] using hf
    have ht : mkEntry tab u.ver (tab u.k).t ∈ transport tab q := by
      simp only [transport, List.mem_map]; exact ⟨u, hu, rfl⟩
    by_cases hold : ∃ old, findKey R.entries (mkEntry tab u.ver f) = some old ∧ old.k = f
    · obtain ⟨old, hfk, hk⟩ := hold
      exact Or.inr ⟨hc, old, List.mem_of_find?_eq_some hfk, List.find?_some hfk, hk⟩
    · refine Or.inl (List.mem_filterMap.mpr ⟨_, ht, ?_⟩)
      simp only [compactOne, mkEntry, hf']
      split
      · rename_i old ho
        exact if_neg (fun h => hold ⟨old, ho, h⟩)
      · rfl
  · rename_i hc
    left
    have : f = (tab u.k).t := by simpa [storedAs, hc] using hf.symm
    subst this
    simp only [transport, List.mem_map]; exact ⟨u, hu, rfl⟩

theorem stored_sameKey (tab : Nat → Content) (c : Bool) (hT : TabOK tab c) (u : Entry) (hu : u = mkEntry tab u.ver u.k)
    (f : Nat) (hf : storedAs tab c u.k = some f) (v : Int) : sameKey (mkEntry tab v f) u = true := by
  have hw := wf_fields tab u hu
  have hk := hT.key u.k f hf
  rw [sameKey_iff]
  simp only [mkEntry]
  exact ⟨hk.1.trans hw.1.symm, hk.2.trans hw.2.1.symm⟩

theorem keys_distinct_of_sorted (us es : List Entry) (hk : KeysUnique us) (hs : es.Pairwise (fun a b => a.ver < b.ver))
    (h : ∀ x ∈ es, ∃ u ∈ us, sameKey x u = true ∧ x.ver = u.ver) : KeysUnique es := by
  refine hs.imp_of_mem ?_
  intro a b ha hb hlt
  obtain ⟨ua, hua, ka, va⟩ := h a ha
  obtain ⟨ub, hub, kb, vb⟩ := h b hb
  apply Bool.eq_false_iff.mpr
  intro hs
  have h3 : sameKey ua ub = true :=
    sameKey_trans (sameKey_symm ka) (sameKey_trans hs kb)
  have := unique_of_sameKey us hk ua ub hua hub h3
  rw [this] at va
  omega

/-- One delivery taken apart: nothing arrives, or a non-empty list `q` of entries of `U` does — exactly those with
    versions in (R.lv, L], L the last one's; what `applyUpdate` keeps of `q` is added, and L becomes the loaderVersion. -/
theorem deliver_cases (tab : Nat → Content) (U R R' : J) (applied : List Entry) (mi mb cut : Nat) (lk : Int)
    (hU : JX U) (hR : JX R) (hlo : R.cur ≤ R.lv)
    (h : applyUpdate tab R ((transport tab (diff U R.lv mi mb)).take cut) lk = some (R', applied)) :
    R' = R ∨ ∃ q j1, q ≠ [] ∧
      (∀ e ∈ q, e ∈ U.entries ∧ R.lv < e.ver ∧ e.ver ≤ lastVer q R.lv) ∧
      (∀ e ∈ U.entries, R.lv < e.ver → e.ver ≤ lastVer q R.lv → e ∈ q) ∧
      addAll R (keptOf tab R (transport tab q)) = some j1 ∧ R' = { j1 with lv := lastVer q R.lv, lk := lk } ∧
      JX j1 ∧ j1.cur ≤ lastVer q R.lv ∧ lastVer q R.lv ≤ U.cur := by
  rw [transport_take] at h
  obtain ⟨D1, D2, _⟩ := delivery_never_skips U hU.inv.sorted R.lv mi mb cut
  have hsub : ((diff U R.lv mi mb).take cut).Sublist U.entries :=
    (List.take_sublist _ _).trans ((diff_prefix _ _ _ _).sublist.trans List.filter_sublist)
  generalize (diff U R.lv mi mb).take cut = q at h D1 D2 hsub
  rcases (applyUpdate_eq_some tab R R' _ applied lk).mp h with ⟨_, rfl, _⟩ | ⟨hsrc, _, j1, h1, rfl⟩
  · exact Or.inl rfl
  · have hne : q ≠ [] := by
      intro h0
      exact hsrc (by rw [h0]; rfl)
    have hmax := lastVer_max q R.lv (hU.inv.sorted.sublist hsub)
    have hjx1 : JX j1 := addAll_jx _ R j1 hR h1
    obtain ⟨x, hx, hv⟩ := lastVer_mem q R.lv hne
    refine Or.inr ⟨q, j1, hne, fun e he => ⟨(D2 e he).1, (D2 e he).2, hmax e he⟩, D1 hne, h1, ?_, hjx1, ?_, ?_⟩
    · rw [lastVer_transport tab q 0 R.lv hne]
    · have hlt : R.lv < lastVer q R.lv := hv ▸ (D2 x hx).2
      rcases hjx1.last with ⟨_, h0⟩ | ⟨e, he, hve⟩
      · rw [h0]
        exact Int.le_of_lt (Int.lt_of_le_of_lt (Int.le_trans hR.cur_nonneg hlo) hlt)
      · rw [← hve]
        rcases (mem_addAll _ R j1 e h1).1 he with hk | hold
        · obtain ⟨u, hu, f, _, rfl⟩ := kept_sound tab R q e hk
          exact hmax u hu
        · exact Int.le_of_lt (Int.lt_of_le_of_lt (Int.le_trans (hR.inv.bound e hold) hlo) hlt)
    · rw [← hv]
      exact hU.inv.bound x (D2 x hx).1

/-- C20 (one delivery, any limits, any cut, compact or not) keeps the convergence invariant -/
theorem conv_deliver (tab : Nat → Content) (R R' U : J) (applied : List Entry) (mi mb cut : Nat)
    (hT : TabOK tab R.compact) (hc : Conv tab R U) (hR : JX R) (hU : JX U)
    (h : applyUpdate tab R ((transport tab (diff U R.lv mi mb)).take cut) U.cur = some (R', applied)) :
    Conv tab R' U ∧ JX R' ∧ R'.compact = R.compact := by
  rcases deliver_cases tab U R R' applied mi mb cut U.cur hU hR hc.c3.1 h with rfl |
    ⟨q, j1, hne, D2, D1, h1, rfl, hjx1, hcur, hL⟩
  · exact ⟨hc, hR, rfl⟩
  have hcomp1 : j1.compact = R.compact := addAll_compact _ R j1 h1
  have hmem := fun x => mem_addAll _ R j1 x h1
  have skey := fun u hu f hf v => stored_sameKey tab R.compact hT u (hc.wfU u hu) f hf v
  -- every kept entry is the stored form of a delivered entry of the same entity
  have kkey : ∀ x ∈ keptOf tab R (transport tab q), ∃ u ∈ q, sameKey x u = true ∧
      ∃ f, storedAs tab R.compact u.k = some f ∧ x = mkEntry tab u.ver f := by
    intro x hx
    obtain ⟨u, hu, f, hf, rfl⟩ := kept_sound tab R q x hx
    exact ⟨u, hu, skey u (D2 u hu).1 f hf u.ver, f, hf, rfl⟩
  have kdistinct : KeysUnique (keptOf tab R (transport tab q)) := by
    refine keys_distinct_of_sorted U.entries _ hU.inv.keys (addAll_inv _ R j1 hR.inv h1).2.2.2 ?_
    intro x hx
    obtain ⟨u, hu, ks, f, _, rfl⟩ := kkey x hx
    exact ⟨u, (D2 u hu).1, ks, rfl⟩
  -- an old entry of `R` survives unless a delivered entry of its entity is kept
  have keep : ∀ r ∈ R.entries, ∀ u ∈ U.entries, sameKey r u = true →
      (∀ f, storedAs tab R.compact u.k = some f → mkEntry tab u.ver f ∈ keptOf tab R (transport tab q) → False) →
      r ∈ j1.entries := by
    intro r hr u hu hs hno
    refine (hmem r).2.1 hr ?_
    intro e he
    obtain ⟨u', hu', ke, f', hf', rfl⟩ := kkey e he
    apply Bool.eq_false_iff.mpr
    intro hse
    have h3 : sameKey u' u = true :=
      sameKey_trans (sameKey_symm ke) (sameKey_trans hse hs)
    have heq := unique_of_sameKey U.entries hU.inv.keys u' u (D2 u' hu').1 hu h3
    subst heq
    exact hno f' hf' he
  refine ⟨⟨?_, ?_, ⟨hcur, hL⟩, ?_, hc.wfU⟩, jx_congr j1 _ hjx1 rfl rfl rfl, hcomp1⟩
  · intro u hu hle f hf
    simp only [hcomp1] at hf ⊢
    by_cases hold : u.ver ≤ R.lv
    · obtain ⟨r, hr, hs, hk, hv, hv2⟩ := hc.c1 u hu hold f hf
      refine ⟨r, keep r hr u hu hs ?_, hs, hk, hv, hv2⟩
      intro f' _ hin
      obtain ⟨u', hu', _, _, _, e⟩ := kkey _ hin
      rw [(Entry.mk.inj e).1] at hold
      exact Int.not_le.mpr (D2 u' hu').2.1 hold
    · have huq : u ∈ q := D1 u hu (Int.not_le.mp hold) hle
      by_cases hk : mkEntry tab u.ver f ∈ keptOf tab R (transport tab q)
      · exact ⟨_, (hmem _).2.2 hk kdistinct, skey u hu f hf u.ver, rfl, Int.le_refl _, fun _ => rfl⟩
      · -- skipped: the replica already holds this stored form, under an older version
        rcases kept_complete tab R q u huq f hf with hin | ⟨hcomp, old, hold', hso, hko⟩
        · exact absurd hin hk
        · have hso' : sameKey old u = true := sameKey_trans (sameKey_symm hso) (skey u hu f hf u.ver)
          refine ⟨old, keep old hold' u hu hso' ?_, hso', hko, ?_, by rw [hcomp]; intro h; cases h⟩
          · intro f' hf' hin
            rw [hf] at hf'
            injection hf' with hf'
            subst hf'
            exact hk hin
          · exact Int.le_of_lt (Int.lt_of_le_of_lt (Int.le_trans (hR.inv.bound old hold') hc.c3.1) (Int.not_le.mp hold))
  · intro r hr
    simp only [hcomp1]
    rcases (hmem r).1 hr with hk | hold
    · obtain ⟨u, hu, ks, f, hf, _⟩ := kkey r hk
      exact ⟨u, (D2 u hu).1, ks, by rw [hf]; simp⟩
    · exact hc.c2 r hold
  · intro x hx
    rcases (hmem x).1 hx with hk | hold
    · obtain ⟨u, _, f, _, rfl⟩ := kept_sound tab R q x hk
      rfl
    · exact hc.wfR x hold

theorem saveFile_flatten (tab : Nat → Content) (hsz : ∀ k, 0 < (tab k).sz) (R : J) (hw : WF tab R.entries) :
    ((saveFile R).chunks.map (·.evs)).flatten = R.entries := by
  have := packChunks_flatten R.entries headerBytes [] (by simp [headerBytes])
    (fun e he => (wf_fields tab e (hw e he)).2.2.1 ▸ hsz _)
  simpa [saveFile] using this

theorem addAll_of_prefix (c : Bool) (es : List Entry) (Rs j : J) (hRs : JX Rs) (hpre : es <+: Rs.entries)
    (h : addAll { compact := c } es = some j) :
    JX j ∧ j.compact = c ∧ (∀ x, x ∈ j.entries ↔ x ∈ es) ∧ j.cur ≤ Rs.cur ∧
    (∀ r ∈ Rs.entries, r.ver ≤ j.cur → r ∈ j.entries) := by
  have hm := fun x => mem_addAll es { compact := c } j x h
  have hjx : JX j := addAll_jx es _ j (jx_empty c) h
  have hin : ∀ x, x ∈ j.entries ↔ x ∈ es := by
    intro x
    refine ⟨fun hx => ?_, fun hx => (hm x).2.2 hx (hRs.inv.keys.sublist hpre.sublist)⟩
    rcases (hm x).1 hx with h | h
    · exact h
    · simp at h
  refine ⟨hjx, addAll_compact es _ j h, hin, ?_, ?_⟩
  · rcases hjx.last with ⟨_, h0⟩ | ⟨e, he, hv⟩
    · exact h0 ▸ hRs.cur_nonneg
    · exact hv ▸ hRs.inv.bound e (hpre.subset ((hin e).mp he))
  · intro r hr hle
    rcases hjx.last with ⟨_, h0⟩ | ⟨e, he, hv⟩
    · exact absurd (h0 ▸ hle) (Int.not_le.mpr (hRs.pos r hr))
    · exact (hin r).mpr (prefix_mem_le _ _ hpre hRs.inv.sorted e ((hin e).mp he) r hr (hv ▸ hle))

/-- restart from a file holding a prefix of the entries of `Rs` under `Rs`'s header: the reloaded journal is `Rs` cut back -/
theorem load_of_prefix (c : Bool) (f : File) (Rs R' : J) (bs : List (List Entry)) (err : Bool) (hRs : JX Rs)
    (hlo : Rs.cur ≤ Rs.lv) (hpre : (f.chunks.map (·.evs)).flatten <+: Rs.entries) (hlv : f.lv = Rs.lv)
    (hcur : f.cur = Rs.cur) (hl : load c f = some (R', bs, err)) :
    JX R' ∧ R'.compact = c ∧ (∀ x ∈ R'.entries, x ∈ Rs.entries) ∧ R'.cur ≤ R'.lv ∧ R'.lv ≤ Rs.lv ∧
    (∀ r ∈ Rs.entries, r.ver ≤ R'.lv → r ∈ R'.entries) := by
  obtain ⟨j, h1, _, rfl, _⟩ := load_some c f R' bs err hl
  obtain ⟨hjx, hjc, hin, hcurle, hP⟩ := addAll_of_prefix c _ Rs j hRs hpre h1
  refine ⟨jx_congr j _ hjx rfl rfl rfl, hjc, fun x hx => hpre.subset ((hin x).mp hx), ?_⟩
  simp only
  rcases load_lv_cases f j.cur with h | ⟨a, b, h⟩ <;> rw [h]
  · exact ⟨Int.le_refl _, Int.le_trans hcurle hlo, hP⟩
  · refine ⟨b, Int.le_of_eq hlv, fun r hr _ => hP r hr ?_⟩
    rw [← a, hcur]
    exact hRs.inv.bound r hr

/-- C20 (reload, the header is believed only after a complete read). The file holds a STRICT prefix (at chunk
    granularity) of the saved journal `Rs`, whether or not `load` sees an error (a partial chunk). Then the reported
    loaderVersion is the version of the last event read, never the header's: the lost tail will be asked for again. -/
theorem load_strict_prefix_lv (c : Bool) (f : File) (Rs R' : J) (bs : List (List Entry)) (err : Bool) (hRs : JX Rs)
    (hpre : (f.chunks.map (·.evs)).flatten <+: Rs.entries) (hstrict : (f.chunks.map (·.evs)).flatten ≠ Rs.entries)
    (hcur : f.cur = Rs.cur) (hl : load c f = some (R', bs, err)) : R'.lv = R'.cur := by
  obtain ⟨j, h1, _, rfl, _⟩ := load_some c f R' bs err hl
  obtain ⟨_, _, hin, _, hP⟩ := addAll_of_prefix c _ Rs j hRs hpre h1
  rcases load_lv_cases f j.cur with h | ⟨a, _, _⟩
  · exact h
  · -- the header's currentVersion was reached: then every entry of `Rs` was read, the prefix is not strict
    exfalso
    obtain ⟨t, ht⟩ := hpre
    cases t with
    | nil => exact hstrict (by simpa using ht)
    | cons x t =>
      have hxR : x ∈ Rs.entries := by rw [← ht]; simp
      have hx := (hin x).mp (hP x hxR (by rw [← a, hcur]; exact hRs.inv.bound x hxR))
      have hs := hRs.inv.sorted
      rw [← ht] at hs
      exact Int.lt_irrefl _ ((List.pairwise_append.mp hs).2.2 x hx x (by simp))

/-- the journal file holds (a prefix of) a snapshot of a journal that satisfied the invariant -/
def FileOK (tab : Nat → Content) (f : File) (c : Bool) (U : J) : Prop :=
  ∃ Rs : J, JX Rs ∧ Conv tab Rs U ∧ Rs.compact = c ∧ (f.chunks.map (·.evs)).flatten <+: Rs.entries ∧
    f.lv = Rs.lv ∧ f.cur = Rs.cur

theorem fileok_empty (tab : Nat → Content) (c : Bool) (U : J) (hU : JX U) (hw : WF tab U.entries) :
    FileOK tab {} c U :=
  ⟨{ compact := c }, jx_empty c, conv_empty tab c U hU hw, rfl, by simp, rfl, rfl⟩

theorem fileok_save (tab : Nat → Content) (hsz : ∀ k, 0 < (tab k).sz) (R U : J) (hR : JX R) (hc : Conv tab R U) :
    FileOK tab (saveFile R) R.compact U := by
  refine ⟨R, hR, hc, rfl, ?_, rfl, rfl⟩
  rw [saveFile_flatten tab hsz R hc.wfR]
  exact List.prefix_refl _

theorem fileok_truncate (tab : Nat → Content) (f : File) (c : Bool) (U : J) (keep : Nat) (h : FileOK tab f c U) :
    FileOK tab (truncate f keep) c U := by
  obtain ⟨Rs, a, b, d, e, g1, g2⟩ := h
  obtain ⟨t1, t2, t3⟩ := truncate_flatten f keep
  exact ⟨Rs, a, b, d, t1.trans e, t2.trans g1, t3.trans g2⟩

theorem conv_congrU (tab : Nat → Content) (R U U' : J) (he : U'.entries = U.entries) (hc : U'.cur = U.cur)
    (h : Conv tab R U) : Conv tab R U' :=
  ⟨by rw [he]; exact h.c1, by rw [he]; exact h.c2, ⟨h.c3.1, by rw [hc]; exact h.c3.2⟩, h.wfR, by rw [he]; exact h.wfU⟩

/-- the file sees the upstream only through its snapshot: whatever keeps `Conv` for every replica keeps `FileOK` -/
theorem fileok_mono (tab : Nat → Content) (f : File) (c : Bool) (U U' : J)
    (hm : ∀ R, R.compact = c → Conv tab R U → Conv tab R U') (h : FileOK tab f c U) : FileOK tab f c U' := by
  obtain ⟨Rs, a, b, d, e⟩ := h
  exact ⟨Rs, a, hm Rs d b, d, e⟩

theorem conv_upAddAll (tab : Nat → Content) (c : Bool) (hT : TabOK tab c) : ∀ (es : List Entry) (U U' : J),
    WF tab es → JX U → addAll U es = some U' → ∀ R, R.compact = c → Conv tab R U → Conv tab R U' := by
  intro es
  induction es with
  | nil => intro U U' _ _ h; simp [addAll] at h; subst h; exact fun _ _ x => x
  | cons e r ih =>
    intro U U' hw hU h R hc hconv
    obtain ⟨U1, h1, h⟩ := (addAll_cons_eq_some U U' e r).mp h
    rw [hw e (by simp)] at h1
    exact ih U1 U' (fun x hx => hw x (List.mem_cons_of_mem _ hx)) (add_jx _ _ _ hU h1) h R hc
      (conv_upAdd tab R U U1 e.ver e.k (hc ▸ hT) hconv h1 hU)

/-- a delivery to an intermediate journal: for the replicas below it, their upstream grew by well-formed entries -/
theorem conv_upDeliver (tab : Nat → Content) (c : Bool) (hT : TabOK tab c) (U U' : J) (q applied : List Entry) (lk : Int)
    (hU : JX U) (h : applyUpdate tab U (transport tab q) lk = some (U', applied)) :
    ∀ R, R.compact = c → Conv tab R U → Conv tab R U' := by
  rcases (applyUpdate_eq_some tab U U' _ applied lk).mp h with ⟨_, rfl, _⟩ | ⟨_, _, j1, hj1, rfl⟩
  · exact fun _ _ x => x
  · have hw : WF tab (keptOf tab U (transport tab q)) := by
      intro e he
      obtain ⟨u, _, f, _, rfl⟩ := kept_sound tab U q e he
      rfl
    exact fun R hc x => conv_congrU tab R j1 _ rfl rfl (conv_upAddAll tab c hT _ U j1 hw hU hj1 R hc x)

/-- C20 (restart from a possibly truncated file): the reloaded journal has the convergence invariant again -/
theorem conv_load (tab : Nat → Content) (f : File) (c : Bool) (U R' : J) (bs : List (List Entry)) (err : Bool)
    (hf : FileOK tab f c U) (hl : load c f = some (R', bs, err)) :
    Conv tab R' U ∧ JX R' ∧ R'.compact = c := by
  obtain ⟨Rs, hRs, hconv, hcomp, hpre, hlv, hcur⟩ := hf
  obtain ⟨hjx, hjc, hsub, hlo, hhi, hall⟩ := load_of_prefix c f Rs R' bs err hRs hconv.c3.1 hpre hlv hcur hl
  have hk : R'.compact = Rs.compact := hjc.trans hcomp.symm
  refine ⟨⟨?_, ?_, ⟨hlo, Int.le_trans hhi hconv.c3.2⟩, fun x hx => hconv.wfR x (hsub x hx), hconv.wfU⟩, hjx, hjc⟩
  · intro u hu hlu g hg
    rw [hk] at hg ⊢
    obtain ⟨r, hr, hs, hk, hv, hv2⟩ := hconv.c1 u hu (Int.le_trans hlu hhi) g hg
    exact ⟨r, hall r hr (Int.le_trans hv hlu), hs, hk, hv, hv2⟩
  · intro r hr
    rw [hk]
    exact hconv.c2 r (hsub r hr)

inductive Op
  | upAdd (ver : Int) (k : Nat)              -- a new upstream event (content `k` at version `ver`)
  | deliver (items bytes cut : Nat)          -- diff with limits, its first `cut` events (verif-c20: `evs[:cut]`), transport, applyUpdate (lastKnownVersion := U.cur; no theorem reads it)
  | save                                     -- Save()
  | restart (keep : Nat)                     -- file = file[:keep] (it stays cut); load into a fresh journal
deriving DecidableEq, Repr

structure W where
  U : J := {}
  R : J := {}
  file : File := {}
deriving DecidableEq, Repr

/-- one op on (upstream, replica, replica's file); `none` = the Go code panics -/
def stepW (tab : Nat → Content) (w : W) : Op → Option W
  | .upAdd v k =>
    match add w.U (mkEntry tab v k) with
    | some U' => some { w with U := U' }
    | none => none
  | .deliver i b c =>
    match applyUpdate tab w.R ((transport tab (diff w.U w.R.lv i b)).take c) w.U.cur with
    | some p => some { w with R := p.1 }
    | none => none
  | .save => some { w with R := (save w.R w.file).1, file := (save w.R w.file).2.1 }
  | .restart keep =>
    match load w.R.compact (truncate w.file keep) with
    | some p => some { w with R := p.1, file := truncate w.file keep }
    | none => none

def runW (tab : Nat → Content) : W → List Op → Option W
  | w, [] => some w
  | w, op :: r =>
    match stepW tab w op with
    | some w' => runW tab w' r
    | none => none

structure WInv (tab : Nat → Content) (w : W) : Prop where
  jU : JX w.U
  jR : JX w.R
  conv : Conv tab w.R w.U
  file : FileOK tab w.file w.R.compact w.U

theorem winv_init (tab : Nat → Content) (cU c : Bool) : WInv tab { U := { compact := cU }, R := { compact := c } } :=
  ⟨jx_empty cU, jx_empty c, conv_empty tab c _ (jx_empty cU) (by intro e he; simp at he),
   fileok_empty tab c _ (jx_empty cU) (by intro e he; simp at he)⟩

theorem stepW_inv (tab : Nat → Content) (w w' : W) (op : Op) (hT : TabOK tab w.R.compact) (hi : WInv tab w)
    (h : stepW tab w op = some w') : WInv tab w' ∧ w'.R.compact = w.R.compact := by
  cases op with
  | upAdd v k =>
    simp only [stepW] at h
    split at h
    · rename_i U' hU'
      injection h with h; subst h
      exact ⟨⟨add_jx _ _ _ hi.jU hU', hi.jR, conv_upAdd tab _ _ _ v k hT hi.conv hU' hi.jU,
        fileok_mono tab _ _ _ _ (fun Rs hc x => conv_upAdd tab Rs _ _ v k (hc ▸ hT) x hU' hi.jU) hi.file⟩, rfl⟩
    · simp at h
  | deliver i b c =>
    simp only [stepW] at h
    split at h
    · rename_i p hp
      injection h with h; subst h
      obtain ⟨a1, a2, a3⟩ := conv_deliver tab w.R p.1 w.U p.2 i b c hT hi.conv hi.jR hi.jU hp
      exact ⟨⟨hi.jU, a2, a1, a3.symm ▸ hi.file⟩, a3⟩
    · simp at h
  | save =>
    simp only [stepW] at h
    injection h with h; subst h
    rcases save_cases w.R w.file with hs | hs <;> rw [hs]
    · exact ⟨hi, rfl⟩
    · -- only `saved` differs, which no invariant reads
      exact ⟨⟨hi.jU, jx_congr _ _ hi.jR rfl rfl rfl, ⟨hi.conv.c1, hi.conv.c2, hi.conv.c3, hi.conv.wfR, hi.conv.wfU⟩,
        fileok_save tab hT.sz w.R w.U hi.jR hi.conv⟩, rfl⟩
  | restart keep =>
    simp only [stepW] at h
    split at h
    · rename_i p hp
      injection h with h; subst h
      have hf := fileok_truncate tab w.file w.R.compact w.U keep hi.file
      obtain ⟨a1, a2, a3⟩ := conv_load tab _ _ w.U p.1 p.2.1 p.2.2 hf hp
      exact ⟨⟨hi.jU, a2, a1, a3.symm ▸ hf⟩, a3⟩
    · simp at h

theorem runW_inv (tab : Nat → Content) : ∀ (ops : List Op) (w w' : W), TabOK tab w.R.compact → WInv tab w →
    runW tab w ops = some w' → WInv tab w' ∧ w'.R.compact = w.R.compact := by
  intro ops
  induction ops with
  | nil => intro w w' _ hi h; simp [runW] at h; subst h; exact ⟨hi, rfl⟩
  | cons op r ih =>
    intro w w' hT hi h
    simp only [runW] at h
    split at h
    · rename_i w1 h1
      obtain ⟨i1, c1⟩ := stepW_inv tab w w1 op hT hi h1
      obtain ⟨i2, c2⟩ := ih w1 w' (by rw [c1]; exact hT) i1 h
      exact ⟨i2, c2.trans c1⟩
    · simp at h

/-- caught up (`U.cur ≤ R.lv`): same entities, the replica's contents are the stored forms of the upstream's -/
theorem synced_contents (tab : Nat → Content) (R U : J) (hc : Conv tab R U) (hR : JX R) (hUj : JX U)
    (hs : U.cur ≤ R.lv) :
    (∀ u ∈ U.entries, ∀ f, storedAs tab R.compact u.k = some f →
        ∃ r ∈ R.entries, sameKey r u = true ∧ r.k = f ∧ r.ver ≤ u.ver ∧ (R.compact = false → r.ver = u.ver)) ∧
    (∀ r ∈ R.entries, ∃ u ∈ U.entries, sameKey r u = true ∧ storedAs tab R.compact u.k = some r.k) := by
  have first := fun u hu => hc.c1 u hu (Int.le_trans (hUj.inv.bound u hu) hs)
  refine ⟨first, ?_⟩
  intro r hr
  obtain ⟨u, hu, hsk, hn⟩ := hc.c2 r hr
  cases hf : storedAs tab R.compact u.k with
  | none => exact absurd hf hn
  | some f =>
    obtain ⟨r', hr', hs', hk', _⟩ := first u hu f hf
    have : r = r' := unique_of_sameKey R.entries hR.inv.keys r r' hr hr'
      (sameKey_trans hsk (sameKey_symm hs'))
    exact ⟨u, hu, hsk, by rw [this, hk']; exact hf⟩

theorem synced_match (tab : Nat → Content) (Ra Rb U : J) (hca : Conv tab Ra U) (hcb : Conv tab Rb U)
    (ha : JX Ra) (hb : JX Rb) (hU : JX U) (hk : Ra.compact = Rb.compact) (sa : U.cur ≤ Ra.lv) (sb : U.cur ≤ Rb.lv) :
    ∀ x ∈ Ra.entries, ∃ y ∈ Rb.entries, sameKey x y = true ∧ x.hash = y.hash := by
  intro x hx
  obtain ⟨u, hu, hs, hst⟩ := (synced_contents tab Ra U hca ha hU sa).2 x hx
  rw [hk] at hst
  obtain ⟨y, hy, hsy, hky, _⟩ := (synced_contents tab Rb U hcb hb hU sb).1 u hu x.k hst
  refine ⟨y, hy, sameKey_trans hs (sameKey_symm hsy), ?_⟩
  rw [(wf_fields tab x (hca.wfR x hx)).2.2.2, (wf_fields tab y (hcb.wfR y hy)).2.2.2, hky]

/-- two caught-up replicas of one kind over one upstream journal: same state hash, whatever their own histories -/
theorem synced_same_hash (tab : Nat → Content) (R1 R2 U : J) (hc1 : Conv tab R1 U) (hc2 : Conv tab R2 U)
    (h1 : JX R1) (h2 : JX R2) (hU : JX U) (hk : R1.compact = R2.compact)
    (s1 : U.cur ≤ R1.lv) (s2 : U.cur ≤ R2.lv) : R1.hash = R2.hash := by
  rw [h1.inv.hash, h2.inv.hash]
  exact xorAll_match _ _ h1.inv.keys h2.inv.keys (synced_match tab R1 R2 U hc1 hc2 h1 h2 hU hk s1 s2)
    (synced_match tab R2 R1 U hc2 hc1 h2 h1 hU hk.symm s2 s1)

end SH.C20
