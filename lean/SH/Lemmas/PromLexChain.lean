/-
  SH.Lemmas.PromLexChain — chaining the whole-lexer step lemmas. `Lexes`: a derivation of justified `lexStep`s to the end of
  input in a state accepted as EOF; it determines `lexAll` (`Lexes.lexAll`). `Seg`: a segment from one lexer state and text to
  another, said through `Lexes`: every derivation from its end extends to one from its start. `Seg.nil` / `.tok` / `.skip` build
  segments from justified steps, `Seg.trans` composes them, `Seg.lexAll` closes one at EOF. `Ready`: the states between tokens,
  outside braces and brackets; the segments for a word and for a range `[<n>s]` start from one and return to it.
  `lexAll_range_offset`: the character-level instance `name[<n>s] offset <m>s`.
-/
import SH.Lemmas.PromLexAllSteps
namespace SH.PromLex.Chain
open SH.PromLex SH.PromLex.Steps SH.PromLex.Num

/-- `Lexes n st text ts`: from state `st` the lexer steps through `text` in `n` steps, yielding the tokens `ts`, and ends at the
    end of input in a state that is accepted as EOF. Every step is justified by a `lexStep` fact (the step lemmas). -/
inductive Lexes : Nat → LexState → List Nat → List RawTok → Prop
  | done (st : LexState) (h1 : plain st) (h2 : st.depth = 0) (h3 : st.bracket = false) : Lexes 0 st [] []
  | tok {n st st' text rest name len ts} (h : lexStep text st = .tok name len rest st') (hl : rest.length < text.length)
      (hr : Lexes n st' rest ts) : Lexes (n + 1) st text (⟨name, len⟩ :: ts)
  | skip {n st st' text rest ts} (h : lexStep text st = .skip rest st') (hl : rest.length < text.length)
      (hr : Lexes n st' rest ts) : Lexes (n + 1) st text ts

theorem Lexes.steps_le {n st text ts} (h : Lexes n st text ts) : n ≤ text.length := by
  induction h with
  | done => exact Nat.le_refl _
  | tok _ hl _ ih => omega
  | skip _ hl _ ih => omega

theorem Lexes.loop {n st text ts} (h : Lexes n st text ts) : ∀ f, n < f → lexLoop f text st = (ts, .eof) := by
  induction h with
  | done st h1 h2 h3 =>
    intro f hf
    obtain ⟨f', rfl⟩ := Nat.exists_eq_add_one_of_ne_zero (Nat.ne_of_gt hf)
    have : stepStatements [] st = .eof := by
      obtain ⟨_, _, _, _, _⟩ := st
      cases h2
      cases h3
      rfl
    rw [lexLoop, lexStep_plain h1, this]
  | tok hstep _ _ ih =>
    intro f hf
    obtain ⟨f', rfl⟩ := Nat.exists_eq_add_one_of_ne_zero (Nat.ne_of_gt (Nat.zero_lt_of_lt hf))
    simp only [lexLoop, hstep, ih f' (by omega)]
  | skip hstep _ _ ih =>
    intro f hf
    obtain ⟨f', rfl⟩ := Nat.exists_eq_add_one_of_ne_zero (Nat.ne_of_gt (Nat.zero_lt_of_lt hf))
    simp only [lexLoop, hstep, ih f' (by omega)]

theorem Lexes.lexAll {n text ts} (h : Lexes n {} text ts) : lexAll text = (ts, .eof) :=
  h.loop _ (by have := h.steps_le; omega)

/-- a segment from (st, text) to (st', rest), yielding `ts`: every derivation `Lexes` has from (st', rest) extends to one from
    (st, text) with `ts` in front. That extension is all `Seg` promises; a run of justified steps is what `Seg.nil`, `Seg.tok`,
    `Seg.skip` build one from -/
structure Seg (st : LexState) (text : List Nat) (ts : List RawTok) (st' : LexState) (rest : List Nat) : Prop where
  ext : ∀ {n ts'}, Lexes n st' rest ts' → ∃ m, Lexes m st text (ts ++ ts')

theorem Seg.nil (st : LexState) (text : List Nat) : Seg st text [] st text := ⟨fun h => ⟨_, h⟩⟩

theorem Seg.tok {st st1 st' text mid rest name len ts} (h : lexStep text st = .tok name len mid st1)
    (hl : mid.length < text.length) (hr : Seg st1 mid ts st' rest) : Seg st text (⟨name, len⟩ :: ts) st' rest :=
  ⟨fun h' => (hr.ext h').elim fun _ hm => ⟨_, .tok h hl hm⟩⟩

theorem Seg.skip {st st1 st' text mid rest ts} (h : lexStep text st = .skip mid st1) (hl : mid.length < text.length)
    (hr : Seg st1 mid ts st' rest) : Seg st text ts st' rest :=
  ⟨fun h' => (hr.ext h').elim fun _ hm => ⟨_, .skip h hl hm⟩⟩

theorem Seg.trans {st st1 st2 text mid rest ts1 ts2} (h1 : Seg st text ts1 st1 mid) (h2 : Seg st1 mid ts2 st2 rest) :
    Seg st text (ts1 ++ ts2) st2 rest :=
  ⟨fun h' => (h2.ext h').elim fun _ hm => List.append_assoc .. ▸ h1.ext hm⟩

theorem Seg.lexAll {text ts} (h : Seg {} text ts {} []) : lexAll text = (ts, .eof) :=
  (h.ext (.done {} ⟨rfl, rfl⟩ rfl rfl)).elim fun _ hn => (List.append_nil ts ▸ hn).lexAll

/-- the lexer is between tokens, outside braces and brackets. `gotColon = false` belongs to it because `[` resets that flag:
    only from such a state does `[<n>s]` lead back to the state it started from (`seg_range`) -/
def Ready (st : LexState) : Prop := plain st ∧ st.bracket = false ∧ st.gotColon = false

theorem Ready.plain {st : LexState} (h : Ready st) : plain st := h.1

theorem Ready.wantDur {st : LexState} (h : Ready st) : st.wantDur = false := h.1.1

theorem seg_word (st : LexState) (hr : Ready st) (c : Nat) (w rest : List Nat)
    (hc : (isAlphaB c || c == 58) = true) (hw : ∀ x ∈ w, isWordB x = true) (hs : Stops isWordB rest) :
    Seg st (c :: w ++ rest) [⟨wordName (c :: w), w.length + 1⟩] st rest :=
  .tok (step_word st hr.plain hr.2.1 c w rest hc hw hs) (by simp; omega) (.nil st rest)

theorem seg_range (st : LexState) (hr : Ready st) (n : Nat) (rest : List Nat) :
    Seg st (91 :: (printSeconds n ++ 93 :: rest))
      [⟨"LEFT_BRACKET", 1⟩, ⟨"DURATION", (printSeconds n).length⟩, ⟨"RIGHT_BRACKET", 1⟩] st rest := by
  obtain ⟨h1, h2, h3⟩ := steps_range st hr.plain hr.2.1 hr.2.2 n rest
  obtain ⟨d, ds, hn, _⟩ := printSeconds_cons n
  exact .tok h1 (by simp) (.tok h2 (by simp [hn]; omega) (.tok h3 (by simp) (.nil st rest)))

theorem seg_blank (st : LexState) (hw : st.wantDur = false) (T : List Nat) (hT : Stops isSpaceB T) :
    Seg st (32 :: T) [] st T := by
  have h := step_blank st hw T
  rw [show T.dropWhile isSpaceB = T from (span_run isSpaceB [] T (by simp) hT).2] at h
  exact .skip h (by simp) (.nil st _)

def offsetWord : List Nat := [111, 102, 102, 115, 101, 116]

/-- character level, for every identifier `c w`, range n and offset m: the text `name[<n>s] offset <m>s` (what the printer
    writes for a range selector with an offset) is lexed, by chaining the step lemmas through the bracket mode and the
    blanks, to exactly the six tokens of the printed expression -/
theorem lexAll_range_offset (c : Nat) (w : List Nat) (n m : Nat) (hc : (isAlphaB c || c == 58) = true)
    (hw : ∀ x ∈ w, isWordB x = true) :
    lexAll (c :: w ++ 91 :: (printSeconds n ++ 93 :: 32 :: (offsetWord ++ 32 :: printSeconds m))) =
      ([⟨wordName (c :: w), w.length + 1⟩, ⟨"LEFT_BRACKET", 1⟩, ⟨"DURATION", (printSeconds n).length⟩, ⟨"RIGHT_BRACKET", 1⟩,
        ⟨"OFFSET", 6⟩, ⟨"DURATION", (printSeconds m).length⟩], .eof) := by
  obtain ⟨dm, dms, hm, hdm⟩ := printSeconds_cons m
  have h0 : Ready ({} : LexState) := ⟨⟨rfl, rfl⟩, rfl, rfl⟩
  have s1 := seg_word {} h0 c w (91 :: (printSeconds n ++ 93 :: 32 :: (offsetWord ++ 32 :: printSeconds m))) hc hw
    (stops_cons rfl _)
  have s2 := seg_range {} h0 n (32 :: (offsetWord ++ 32 :: printSeconds m))
  have s3 := seg_blank {} rfl (offsetWord ++ 32 :: printSeconds m) (stops_cons rfl _)
  have s4 := seg_word {} h0 111 [102, 102, 115, 101, 116] (32 :: printSeconds m) rfl (by decide) (stops_cons rfl _)
  rw [show wordName [111, 102, 102, 115, 101, 116] = "OFFSET" by decide +kernel] at s4
  have s5 := seg_blank {} rfl (printSeconds m) (hm ▸ stops_cons (word_not_space (word_of_digit hdm)) _)
  have s6 : Seg {} (printSeconds m) [⟨"DURATION", (printSeconds m).length⟩] {} [] := by
    have h := step_dur {} h0.plain m [] rfl
    rw [List.append_nil] at h
    exact .tok h (by simp [hm]) (.nil _ _)
  exact (s1.trans (s2.trans (s3.trans (s4.trans (s5.trans s6))))).lexAll

end SH.PromLex.Chain
