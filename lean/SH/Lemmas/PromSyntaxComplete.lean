/-
  SH.Lemmas.PromSyntaxComplete — completeness of the model parser on printed text (used by SH.Props.C28.parse_print): for every
  well-formed tree `e`, parsing `printExpr .fixed e` gives `norm e` back. The file declares into the namespace SH.Props.C28.

  The parser is written with fuel and in continuation style: `parseExpr` parses an operand (`parseAtom`), its postfix modifiers
  (`parsePostfix`), then hands over to the operator loop `parseLoop`. `print_parse_both` says the same of printed text, by
  structural recursion on `e`: on `printExpr .fixed e ++ rest`, `parseExpr (F + kk e) p` IS `parseLoop F p (norm e) rest`
  (`ExprStmt`), and for an operand `atomPost (G + jc e)` IS `parsePostfix G (norm e) R` (`AtomStmt`), provided what follows cannot
  be taken for a part of `e`; where the loop returns at once `ExprStmt` is used as `expr_some`, over `Sound.Edge`.
  In front of it: one lemma `parseX_print` / `post_*` for each non-recursive parser on its printed input; predicates on how a
  token list starts, by which a parser knows where its input ends — `startOk sign` (first token of a printed tree; `sign`: a
  leading `+`/`-` is allowed) ⇒ `noModStart`, `notSign`; `inert` (after a complete expression) ⇒ `postOk` (or the `[` of a
  subquery) ⇒ `nameFollow` (after a metric name); the fuel: `kk e` loop iterations on the left spine, `jc e` postfix steps,
  `need e` for everything below. `need_le`: the default fuel of `parse` covers them.
-/
import SH.Model.PromSyntax
import SH.Lemmas.PromSyntaxSound
namespace SH.Props.C28
open SH.PromSyntax

theorem sepBy_one (sep : Tok) (x : List Tok) : sepBy sep [x] = x := rfl
theorem sepBy_cons (sep : Tok) (x : List Tok) (xs : List (List Tok)) :
    sepBy sep (x :: xs) = x ++ xs.flatMap (sep :: ·) := by
  induction xs generalizing x with
  | nil => simp [sepBy]
  | cons y ys ih =>
    show x ++ sep :: sepBy sep (y :: ys) = _
    rw [ih, List.flatMap_cons, List.cons_append]

theorem mkSel_shown (s : Sel) : mkSel s.name (shownMatchers .fixed s) =
    { normSel s with atm := .none, off := 0, offEx := [] } := by
  by_cases hn : s.name = "" <;> simp [mkSel, shownMatchers, normSel, hn]

theorem normSel_fields (s : Sel) :
    (normSel s).name = s.name ∧ (normSel s).atm = s.atm ∧ (normSel s).off = s.off ∧ (normSel s).offEx = s.offEx := by
  by_cases h : s.name = "" <;> simp [normSel, h]

theorem normSel_eq (s : Sel) : normSel s = { s with ms := (normSel s).ms } := by
  cases s
  unfold normSel
  split <;> rfl

theorem normSel_idem (s : Sel) : normSel (normSel s) = normSel s := by
  by_cases hn : s.name = ""
  · simp [normSel, hn]
  · simp [normSel, hn, List.filter_append, List.filter_filter]

theorem shown_normSel (s : Sel) : shownMatchers .fixed (normSel s) = shownMatchers .fixed s := by
  by_cases hn : s.name = ""
  · simp [normSel, hn]
  · simp [normSel, shownMatchers, hn, List.filter_append, List.filter_filter]

theorem normArgs_length : (a : Args) → (normArgs a).length = a.length
  | .nil => rfl
  | .cons _ r => by simp [normArgs, Args.length, normArgs_length r]

theorem mkRange_operand (x : Expr) (h : isOperand x = true) (r st : Nat) :
    mkRange (norm x) r st = some (.sub (norm x) r st .none 0) := by
  cases x <;> simp [isOperand] at h <;> simp [norm, mkRange]

theorem isNum_norm (x : Expr) : isNum (norm x) = isNum x := by
  cases x <;> rfl

theorem fitsAt_mono (p q : Nat) (e : Expr) (h : fitsAt q e = true) (hpq : p ≤ q) : fitsAt p e = true := by
  cases e <;> simp [fitsAt] at h ⊢
  omega

theorem fitsAt_zero (e : Expr) : fitsAt 0 e = true := by
  cases e <;> simp [fitsAt]

theorem binOpOfTok_opTok (o : BinOp) : binOpOfTok (opTok o) = some o := by
  cases o <;> decide +kernel

theorem printArgs_cons2 (v : Variant) (e e' : Expr) (r' : Args) :
    printArgs v (.cons e (.cons e' r')) = printExpr v e ++ .comma :: printArgs v (.cons e' r') := by
  simp only [printArgs]

theorem printDurS_cases (x : Int) (h : okSecs x.natAbs = true) :
    (printDurS x = [.dur (some x.natAbs)] ∧ (x.natAbs : Int) = x) ∨
    (printDurS x = [.sym .sub, .dur (some x.natAbs)] ∧ -(x.natAbs : Int) = x) := by
  by_cases hneg : x < 0
  · exact Or.inr ⟨by simp [printDurS, signToks, hneg, durTok, h], by omega⟩
  · exact Or.inl ⟨by simp [printDurS, signToks, hneg, durTok, h], by omega⟩

theorem parseOffList_print (l : List Int) (hl : l ≠ []) (h0 : ∀ x ∈ l, okSecs x.natAbs = true) (rest : List Tok) :
    parseOffList (sepBy .comma (l.map printDurS) ++ .rb :: rest) = some (l, rest) := by
  obtain ⟨x, xs, rfl⟩ := List.exists_cons_of_ne_nil hl
  rw [List.map_cons, sepBy_cons]
  induction xs generalizing x with
  | nil => rcases printDurS_cases x (h0 x (by simp)) with ⟨hp, hv⟩ | ⟨hp, hv⟩ <;> simp [hp, parseOffList, hv]
  | cons y ys ih =>
    have ih' := ih y (by simp) (fun z hz => h0 z (List.mem_cons_of_mem _ hz))
    simp only [List.map_cons, List.flatMap_cons, List.append_assoc, List.cons_append] at ih' ⊢
    rcases printDurS_cases x (h0 x (by simp)) with ⟨hp, hv⟩ | ⟨hp, hv⟩ <;>
      simp only [hp, List.cons_append, List.nil_append, parseOffList, ih', hv]

theorem parseLabelList_print (ls : List String) (hl : ls ≠ []) (h : ∀ l ∈ ls, okLabel l = true) (rest : List Tok) :
    parseLabelList (sepBy .comma (ls.map (fun l => [wordTok l])) ++ .rp :: rest) = some (ls, rest) := by
  obtain ⟨x, xs, rfl⟩ := List.exists_cons_of_ne_nil hl
  rw [List.map_cons, sepBy_cons]
  induction xs generalizing x with
  | nil =>
    have hx : labelOfTok (wordTok x) = some x := by simpa [okLabel] using h x (by simp)
    simp only [wordTok] at hx
    simp [wordTok, parseLabelList, hx]
  | cons y ys ih =>
    have hx : labelOfTok (wordTok x) = some x := by simpa [okLabel] using h x (by simp)
    have ih' := ih y (by simp) (fun z hz => h z (List.mem_cons_of_mem _ hz))
    simp only [List.map_cons, List.flatMap_cons, List.cons_append, List.nil_append, wordTok] at hx ih' ⊢
    simp only [parseLabelList, hx, ih']
theorem parseLabels_print (ls : List String) (h : ∀ l ∈ ls, okLabel l = true) (rest : List Tok) :
    parseLabels (printLabels ls ++ rest) = some (ls, rest) := by
  cases ls with
  | nil => simp [printLabels, sepBy, parseLabels]
  | cons x xs =>
    have := parseLabelList_print (x :: xs) (by simp) h rest
    simp only [printLabels, List.map_cons, sepBy_cons, List.cons_append, List.nil_append, List.append_assoc, wordTok] at this ⊢
    simp only [parseLabels, this]

theorem parseMatcher_print (m : Matcher) (R : List Tok) : parseMatcher (printMatcher m ++ R) = some (m, R) := by
  obtain ⟨n, ty, v⟩ := m
  cases ty <;> simp [printMatcher, matchTok, parseMatcher, mkMatcher, matchTyOfTok, MatchTy.isRegex]

theorem parseMatcherList_print (ms : List Matcher) (hl : ms ≠ []) (rest : List Tok) :
    ∀ f, ms.length ≤ f → parseMatcherList f (sepBy .comma (ms.map printMatcher) ++ .rk :: rest) = some (ms, rest) := by
  obtain ⟨x, xs, rfl⟩ := List.exists_cons_of_ne_nil hl
  rw [List.map_cons, sepBy_cons]
  induction xs generalizing x with
  | nil =>
    intro f hf
    obtain ⟨f, rfl⟩ := Nat.exists_eq_add_one_of_ne_zero (Nat.ne_of_gt hf)
    simp only [List.map_nil, List.flatMap_nil, List.append_nil, parseMatcherList, parseMatcher_print]
  | cons y ys ih =>
    intro f hf
    obtain ⟨f, rfl⟩ := Nat.exists_eq_add_one_of_ne_zero (Nat.ne_of_gt (Nat.zero_lt_of_lt hf))
    have ih' := ih y (by simp) f (by simp at hf ⊢; omega)
    have hx := parseMatcher_print x (.comma :: (printMatcher y ++ (List.flatMap (Tok.comma :: ·) (ys.map printMatcher) ++ .rk :: rest)))
    simp only [List.map_cons, List.flatMap_cons, List.cons_append, printMatcher, List.nil_append] at hx ih' ⊢
    simp only [parseMatcherList, hx, ih']

def kwText (name : String) : String :=
  match SH.Gen.C28.keywords.find? (fun e => e.2 == name) with | some (w, _) => w | none => name

theorem kwTok_eq (n : String) : kwTok n = .word (.kw n) (kwText n) := rfl

def modKws : List String := ["BOOL", "ON", "IGNORING", "GROUP_LEFT", "GROUP_RIGHT"]

/-- the token after a binary operator's modifiers (the first token of the right operand) is not itself a modifier keyword -/
def noModStart : List Tok → Bool
  | .word (.kw n) _ :: _ => !modKws.contains n
  | _ => true

theorem parseGroup_other (b on : Bool) (ls : List String) (rest : List Tok) (hr : noModStart rest = true) :
    parseGroup b on ls rest = some (⟨b, 0, on, ls, []⟩, rest) := by
  unfold parseGroup
  split
  · simp [noModStart, modKws] at hr
    simp [hr]
  · rfl

theorem parseOn_other (b : Bool) (rest : List Tok) (hr : noModStart rest = true) :
    parseOn b rest = some (⟨b, 0, false, [], []⟩, rest) := by
  unfold parseOn
  split
  · simp [noModStart, modKws] at hr
    simp [hr]
  · rfl

/-- `bool` is consumed iff it was printed: what stands in its place otherwise is not `bool` -/
theorem parseBool_print (b : Bool) (X : List Tok) (hX : ∀ t X', X ≠ .word (.kw "BOOL") t :: X') :
    parseBool ((if b then [kwTok "BOOL"] else []) ++ X) = (b, X) := by
  cases b
  · show parseBool X = (false, X)
    unfold parseBool
    split
    · rename_i n t ts
      rw [if_neg (fun hn : n = "BOOL" => hX t ts (hn ▸ rfl))]
    · rfl
  · rfl

theorem parseGroup_print (b on : Bool) (ls : List String) (m : BinMod) (hm : wfMod m = true) (rest : List Tok)
    (hr : noModStart rest = true) :
    parseGroup b on ls (printCard m ++ rest) = some (⟨b, m.card, on, ls, m.incl⟩, rest) := by
  obtain ⟨hc, hi, _, hincl⟩ := Sound.wfMod_iff.mp hm
  obtain ⟨mb, card, mon, labels, incl⟩ := m
  have hcases : card = 0 ∨ card = 1 ∨ card = 2 := by simp only at hc; omega
  have h := parseLabels_print incl hincl rest
  simp only [printLabels, List.cons_append, List.append_assoc, List.nil_append] at h
  rcases hcases with rfl | rfl | rfl
  · have : incl = [] := by simpa using hi
    subst this
    exact parseGroup_other b on ls rest hr
  · simp only [printCard, kwTok_eq, if_true, List.cons_append, parseGroup, printLabels, List.append_assoc, List.nil_append]
    simp [h]
  · simp only [printCard, kwTok_eq, parseGroup, printLabels, List.cons_append]
    simp [h]

theorem parseOn_print (b : Bool) (m : BinMod) (hm : wfMod m = true) (rest : List Tok) (hr : noModStart rest = true) :
    parseOn b ((if showMatching .fixed m then kwTok (if m.on then "ON" else "IGNORING") :: printLabels m.labels ++ printCard m else []) ++ rest)
      = some (⟨b, m.card, m.on, m.labels, m.incl⟩, rest) := by
  obtain ⟨hc, hi, hlab, _⟩ := Sound.wfMod_iff.mp hm
  by_cases hs : showMatching .fixed m = true
  · have hl := parseLabels_print m.labels hlab (printCard m ++ rest)
    have hg := parseGroup_print b m.on m.labels m hm rest hr
    simp only [hs, if_true, kwTok_eq, List.cons_append, List.append_assoc]
    cases hon : m.on <;> simp [parseOn, hl, hon] at hg ⊢ <;> exact hg
  · have hs' : showMatching .fixed m = false := by simpa using hs
    obtain ⟨mb, card, mon, labels, incl⟩ := m
    simp [showMatching] at hs'
    obtain ⟨⟨hl, hon⟩, hc1, hc2⟩ := hs'
    have hc0 : card = 0 := by simp only at hc; omega
    subst hc0 hl hon
    have hi' : incl = [] := by simpa using hi
    subst hi'
    simpa [showMatching] using parseOn_other b rest hr

theorem parseMods_print (m : BinMod) (hm : wfMod m = true) (rest : List Tok) (hr : noModStart rest = true) :
    parseMods (printBinMod .fixed m ++ rest) = some (m, rest) := by
  have hX : ∀ t X', (if showMatching .fixed m then kwTok (if m.on then "ON" else "IGNORING") :: printLabels m.labels ++ printCard m
      else []) ++ rest ≠ .word (.kw "BOOL") t :: X' := by
    intro t X' h
    by_cases hs : showMatching .fixed m = true
    · -- `on` / `ignoring` follows
      cases hon : m.on <;> simp [hs, hon, kwTok_eq] at h
    · -- `rest` follows, which starts with no modifier keyword
      simp only [hs, Bool.false_eq_true, if_false, List.nil_append] at h
      rw [h] at hr
      cases hr
  simp only [parseMods, printBinMod, List.append_assoc, parseBool_print m.bool _ hX, parseOn_print m.bool m hm rest hr]

/-- `rest` can follow a complete expression: end of input, `)`, `,` or a binary operator -/
def inert : List Tok → Bool
  | [] => true
  | t :: _ => t == .rp || t == .comma || (binOpOfTok t).isSome

theorem wordOp_table : ∀ n ∈ ["OFFSET", "BY", "WITHOUT"], (wordOp? n).isSome = false := by decide +kernel

theorem wordOp_not_postfixKw (n : String) (h : (wordOp? n).isSome = true) : n ≠ "OFFSET" ∧ isGroupingKw n = false := by
  constructor
  · rintro rfl
    rw [wordOp_table _ (by simp)] at h
    cases h
  · cases hg : isGroupingKw n with
    | false => rfl
    | true =>
      simp [isGroupingKw] at hg
      rcases hg with rfl | rfl <;> rw [wordOp_table _ (by simp)] at h <;> cases h

theorem postfixStep_inert (e : Expr) (rest : List Tok) (h : inert rest = true) : postfixStep e rest = .done := by
  unfold postfixStep
  split
  · rw [if_neg (wordOp_not_postfixKw _ (by simpa [inert, binOpOfTok] using h)).1]
  · simp [inert, binOpOfTok] at h
  · simp [inert, binOpOfTok] at h
  · rfl

theorem post_done (e : Expr) (rest : List Tok) (h : inert rest = true) (G : Nat) :
    parsePostfix (G + 1) e rest = some (e, rest) := by
  simp [parsePostfix, postfixStep_inert e rest h]

theorem post_range (e e' : Expr) (r : Nat) (hr : okSecs r = true) (h : mkRange e r 0 = some e') (G : Nat) (rest : List Tok) :
    parsePostfix (G + 1) e (.lb :: durTok r :: .rb :: rest) = parsePostfix G e' rest := by
  simp [parsePostfix, postfixStep, durTok, hr, h, stepOpt]

theorem post_subrange (e e' : Expr) (r st : Nat) (hr : okSecs r = true) (hst : st ≤ 1) (h : mkRange e r st = some e')
    (G : Nat) (rest : List Tok) :
    parsePostfix (G + 1) e (.lb :: durTok r :: .colon :: ((if st = 0 then [] else [durTok st]) ++ .rb :: rest))
      = parsePostfix G e' rest := by
  have : st = 0 ∨ st = 1 := by omega
  have h1 : okSecs 1 = true := by decide
  rcases this with rfl | rfl <;> simp [parsePostfix, postfixStep, durTok, hr, h1, h, stepOpt]

/-! Fuel accounting for the model parser (fuel = recursion depth). `parseExpr (F + kk e)` on the printed text of `e` reaches
    `parseLoop F` with `norm e` as left operand: -/

/-- length of the left spine of binary operators: each `.bin` on it is one iteration of the operator loop, one unit of fuel -/
def kk : Expr → Nat
  | .bin _ _ l _ => kk l + 1
  | _ => 1

mutual
/-- fuel that suffices for everything inside `e`: the deepest chain of `parseExpr` / `parseAtom` / `parsePostfix` /
    `parseMatcherList` calls below the spine counted by `kk`. The constants are not tight; they dominate what the cases of
    `print_parse_both` ask of their callees: `selHead_parse` the shown matchers + 2, each printed modifier one unit (`jc`) and
    the closing `.done` step one more (`jc_lt_need`), an inner `parseExpr` its own `kk` behind one or two calls -/
def need : Expr → Nat
  | .num _ => 3
  | .str _ => 3
  | .vec s => (shownMatchers .fixed s).length + 6
  | .mat s _ => (shownMatchers .fixed s).length + 7
  | .sub e _ _ _ _ => need e + 3
  | .par e => need e + kk e + 3
  | .un _ x => need x + kk x + 2
  | .bin _ _ l r => need l + need r + kk r + 2
  | .agg _ _ _ a => needArgs a + 3
  | .call _ a => needArgs a + 3
def needArgs : Args → Nat
  | .nil => 1
  | .cons e r => need e + kk e + needArgs r + 2
end

theorem parseLoop_return (G p : Nat) (x : Expr) (rest : List Tok)
    (hs : ∀ o, Sound.nextOp rest = some o → o.prec < p) : parseLoop (G + 1) p x rest = some (x, rest) := by
  cases rest with
  | nil => simp [parseLoop]
  | cons t ts =>
    cases hb : binOpOfTok t with
    | none => simp [parseLoop, hb]
    | some o =>
      have := hs o (by simp [Sound.nextOp, hb])
      simp [parseLoop, hb, this]

/-- what may follow a metric name: not `(` (call / aggregation), not `{`, not `by`/`without` -/
def nameFollow : List Tok → Bool
  | .lp :: _ => false
  | .lk :: _ => false
  | .word (.kw n) _ :: _ => !isGroupingKw n
  | _ => true

theorem parseWord_sel (pa : List Tok → Option (Args × List Tok)) (F : Nat) (k : WKind) (t : String) (ts : List Tok)
    (hk : isMetricIdent k = true) (hag : startsAgg ts = false) :
    parseWordWith pa F k t ts = parseSelector F t ts := by
  cases k with
  | num v a b => simp [Sound.isMetricIdent_num] at hk
  | ident =>
    -- `startsAgg` is true on `(`, so the call branch is not taken
    simp only [parseWordWith]
    split
    · cases hag
    · rfl
  | mident => simp [parseWordWith]
  | kw n => simp [parseWordWith, hag, hk]

theorem startsAgg_of_nameFollow (R : List Tok) (h : nameFollow R = true) : startsAgg R = false ∧ ∀ ts', R ≠ .lk :: ts' := by
  refine ⟨?_, ?_⟩
  · unfold startsAgg
    split
    · cases h
    · simpa [nameFollow] using h
    · rfl
  · rintro ts' rfl
    cases h

theorem okSel_name (s : Sel) (h : okSel s = true) : s.name = "" ∨ isMetricIdent (classifyKind s.name) = true :=
  ((SH.PromSyntax.Sound.okSel_iff s).mp h).1

theorem selHead_parse (s : Sel) (hok : okSel s = true) (F : Nat) (R : List Tok)
    (hF : (shownMatchers .fixed s).length + 2 ≤ F) (hR : nameFollow R = true) :
    parseAtom F (printSelHead .fixed s ++ R) = some (.vec (mkSel s.name (shownMatchers .fixed s)), R) := by
  obtain ⟨F, rfl⟩ := Nat.exists_eq_add_one_of_ne_zero (Nat.ne_of_gt (Nat.zero_lt_of_lt hF))
  obtain ⟨hag, hlk⟩ := startsAgg_of_nameFollow R hR
  have hname := okSel_name s hok
  cases hsh : shownMatchers .fixed s with
  | nil =>
    by_cases hn : s.name = ""
    · simp [printSelHead, hsh, hn, parseAtom, parseSelector, parseMatchers]
    · simp only [printSelHead, hsh, hn, nameToks, wordTok, Bool.false_and, Bool.false_eq_true, decide_false, if_false,
        List.cons_append, List.nil_append, parseAtom]
      rw [parseWord_sel _ _ _ _ _ (hname.resolve_left hn) hag]
      unfold parseSelector
      split
      · exact absurd rfl (hlk _)
      · rfl
  | cons m ms =>
    rw [hsh] at hF
    have hpm := parseMatcherList_print (m :: ms) (by simp) R F (by simp at hF ⊢; omega)
    rw [List.map_cons, sepBy_cons] at hpm
    simp only [printSelHead, hsh, List.map_cons, sepBy_cons, printMatcher, List.cons_append, List.nil_append, List.append_assoc] at hpm ⊢
    by_cases hn : s.name = ""
    · simp only [hn, nameToks, if_true, List.nil_append, parseAtom, parseSelector, parseMatchers, hpm]
    · simp only [hn, nameToks, wordTok, if_false, List.cons_append, List.nil_append, parseAtom]
      rw [parseWord_sel _ _ _ _ _ (hname.resolve_left hn) (by simp [startsAgg])]
      simp only [parseSelector, parseMatchers, hpm]

/-! optional modifiers `@`, `offset [..]`, `offset`: each costs one unit of postfix fuel when present (`atJ`, `exJ`, `offJ`;
    `selJ` for the three of a selector, `selPost` their printed text). `c` is the tree as a function of the modifier's value;
    parsing starts from `c` of the absent value, so the absent case is `rfl` -/

def atJ (a : AtMod) : Nat := if a = .none then 0 else 1
def exJ (l : List Int) : Nat := if l = [] then 0 else 1
def offJ (o : Int) : Nat := if o = 0 then 0 else 1

theorem post_at (c : AtMod → Expr) (hc : ∀ a, setAt (c .none) a = some (c a)) (a : AtMod) (G : Nat) (rest : List Tok) :
    parsePostfix (G + atJ a) (c .none) (printAt a ++ rest) = parsePostfix G (c a) rest := by
  cases a with
  | none => rfl
  | ts n =>
    by_cases hneg : n < 0
    · have : (-(n.natAbs : Int)) = n := by omega
      simp [atJ, parsePostfix, printAt, signToks, hneg, postfixStep, this, hc, stepOpt]
    · have : ((n.natAbs : Int)) = n := by omega
      simp [atJ, parsePostfix, printAt, signToks, hneg, postfixStep, this, hc, stepOpt]
  | start => simp [atJ, parsePostfix, printAt, kwTok_eq, postfixStep, atOfKw, hc, stepOpt]
  | stop => simp [atJ, parsePostfix, printAt, kwTok_eq, postfixStep, atOfKw, hc, stepOpt]

theorem post_offex (c : List Int → Expr) (hc : ∀ l, addOffsetList (c []) l = some (c l)) (l : List Int)
    (h0 : ∀ x ∈ l, okSecs x.natAbs = true) (G : Nat) (rest : List Tok) :
    parsePostfix (G + exJ l) (c []) (printOffEx .fixed l ++ rest) = parsePostfix G (c l) rest := by
  cases l with
  | nil => rfl
  | cons x xs =>
    have hp := parseOffList_print (x :: xs) (by simp) h0 rest
    simp only [List.map_cons] at hp
    simp only [exJ, reduceCtorEq, if_false, printOffEx, kwTok_eq, List.cons_append, List.append_assoc, parsePostfix, postfixStep,
      List.map_cons]
    simp [hp, hc, stepOpt]

theorem post_off (c : Int → Expr) (hc : ∀ o, addOffset (c 0) o = some (c o)) (o : Int) (hb : o.natAbs ≤ maxSecs)
    (G : Nat) (rest : List Tok) :
    parsePostfix (G + offJ o) (c 0) (printOffset true o ++ rest) = parsePostfix G (c o) rest := by
  by_cases ho : o = 0
  · subst ho; rfl
  · have hna : okSecs o.natAbs = true := by
      have : o.natAbs ≠ 0 := by omega
      simp [okSecs, this, hb]
    rcases printDurS_cases o hna with ⟨hp, hv⟩ | ⟨hp, hv⟩ <;>
      simp [offJ, parsePostfix, printOffset, ho, kwTok_eq, hp, postfixStep, hv, hc, stepOpt]

def selPost (s : Sel) : List Tok := printAt s.atm ++ printOffEx .fixed s.offEx ++ printOffset true s.off
def selJ (s : Sel) : Nat := atJ s.atm + exJ s.offEx + offJ s.off

/-- the three modifiers of a selector, for `.vec` and `(.mat · r)` alike: `c` is the tree as a function of the selector -/
theorem selPost_parse (c : Sel → Expr)
    (hat : ∀ (s : Sel) a, setAt (c { s with atm := .none }) a = some (c { s with atm := a }))
    (hex : ∀ (s : Sel) l, addOffsetList (c { s with off := 0, offEx := [] }) l = some (c { s with off := 0, offEx := l }))
    (hoff : ∀ (s : Sel) o, addOffset (c { s with off := 0 }) o = some (c { s with off := o }))
    (s : Sel) (hok : okSel s = true) (G : Nat) (rest : List Tok) :
    parsePostfix (G + selJ s) (c { s with atm := .none, off := 0, offEx := [] }) (selPost s ++ rest) = parsePostfix G (c s) rest := by
  obtain ⟨_, hx, ho⟩ := (Sound.okSel_iff s).mp hok
  simp only [selPost, selJ, List.append_assoc]
  rw [show G + (atJ s.atm + exJ s.offEx + offJ s.off) = (G + offJ s.off + exJ s.offEx) + atJ s.atm by omega,
    post_at (fun a => c { s with atm := a, off := 0, offEx := [] }) (fun a => hat { s with off := 0, offEx := [] } a),
    post_offex (fun l => c { s with off := 0, offEx := l }) (hex s) _ hx,
    post_off (fun o => c { s with off := o }) (hoff s) _ ho]

theorem selPost_vec (s : Sel) (hok : okSel s = true) (G : Nat) (rest : List Tok) :
    parsePostfix (G + selJ s) (.vec (mkSel s.name (shownMatchers .fixed s))) (selPost s ++ rest)
      = parsePostfix G (.vec (normSel s)) rest := by
  rw [mkSel_shown, normSel_eq s]
  exact selPost_parse (fun t => .vec { t with ms := (normSel s).ms }) (fun _ _ => rfl) (fun _ _ => rfl) (fun _ _ => rfl) s hok G rest

theorem selPost_mat (s : Sel) (r : Nat) (hok : okSel s = true) (hr : okSecs r = true) (G : Nat) (rest : List Tok) :
    parsePostfix (G + selJ s + 1) (.vec (mkSel s.name (shownMatchers .fixed s)))
        (.lb :: durTok r :: .rb :: (selPost s ++ rest))
      = parsePostfix G (.mat (normSel s) r) rest := by
  rw [mkSel_shown, normSel_eq s,
    post_range _ (.mat { s with ms := (normSel s).ms, atm := .none, off := 0, offEx := [] } r) r hr (by simp [mkRange, AtMod.isTs])]
  exact selPost_parse (fun t => .mat { t with ms := (normSel s).ms } r) (fun _ _ => rfl) (fun _ _ => rfl) (fun _ _ => rfl) s hok G rest

def startOk (sign : Bool) : List Tok → Bool
  | .word (.kw n) _ :: _ => !modKws.contains n
  | .word _ _ :: _ => true
  | .str _ _ _ :: _ => true
  | .lp :: _ => true
  | .lk :: _ => true
  | .sym .add :: _ => sign
  | .sym .sub :: _ => sign
  | _ => false

theorem modKws_table : ∀ n ∈ modKws, isMetricIdent (.kw n) = false ∧ isAggOp n = false := by decide +kernel

theorem not_mod_of_table (n : String) (h : isMetricIdent (.kw n) = true ∨ isAggOp n = true) : modKws.contains n = false := by
  cases hc : modKws.contains n with
  | false => rfl
  | true =>
    obtain ⟨h1, h2⟩ := modKws_table n (List.contains_iff_mem.mp hc)
    rw [h1, h2] at h
    exact h.elim nofun nofun

theorem startOk_word (sign : Bool) (k : WKind) (t : String) (R : List Tok)
    (h : ∀ n, k = .kw n → modKws.contains n = false) : startOk sign (.word k t :: R) = true := by
  cases k with
  | kw n => have := h n rfl; simp only [startOk, this]; rfl
  | _ => simp [startOk]

theorem startOk_selHead (sign : Bool) (s : Sel) (hok : okSel s = true) (R : List Tok) :
    startOk sign (printSelHead .fixed s ++ R) = true := by
  have hname := okSel_name s hok
  by_cases hn : s.name = ""
  · cases hsh : shownMatchers .fixed s <;> simp [printSelHead, hsh, hn, nameToks, startOk]
  · have hk := hname.resolve_left hn
    have : ∃ X, printSelHead .fixed s ++ R = Tok.word (classifyKind s.name) s.name :: X := by
      cases hsh : shownMatchers .fixed s <;> simp [printSelHead, hsh, hn, nameToks, wordTok]
    obtain ⟨X, hX⟩ := this
    rw [hX]
    apply startOk_word
    intro n hkn
    rw [hkn] at hk
    exact not_mod_of_table n (.inl hk)

theorem printSel_eq (s : Sel) : printSel .fixed s = printSelHead .fixed s ++ selPost s := by
  simp [printSel, selPost]

theorem printMat_eq (s : Sel) (r : Nat) : printMat .fixed s r = printSelHead .fixed s ++ .lb :: durTok r :: .rb :: selPost s := by
  simp [printMat, selPost]

/-- operands (sign = false) and all well-formed trees (sign = true) start with a token that begins an expression and
    is not a modifier keyword -/
theorem startOk_print (e : Expr) (hwf : wf e = true) (sign : Bool) (hs : sign = true ∨ isOperand e = true ∨ isVec e = true)
    (R : List Tok) : startOk sign (printExpr .fixed e ++ R) = true := by
  match e with
  | .num n =>
    cases hneg : n.neg
    · simp [printExpr, printNum, hneg, numTok, startOk]
    · rcases hs with rfl | h | h
      · simp [printExpr, printNum, hneg, startOk]
      · simp [isOperand, hneg] at h
      · simp [isVec] at h
  | .str v => simp [printExpr, startOk]
  | .vec s => simp only [printExpr, printSel_eq, List.append_assoc]; exact startOk_selHead _ s (Sound.wf_vec.mp hwf) _
  | .mat s r =>
    simp only [printExpr, printMat_eq, List.append_assoc]
    exact startOk_selHead _ s (Sound.wf_mat.mp hwf).1 _
  | .sub x r st a o =>
    simp only [printExpr, List.append_assoc]
    exact startOk_print x (Sound.wf_sub.mp hwf).1 sign (Or.inr (Or.inl (Sound.wf_sub.mp hwf).2.1)) _
  | .par x => simp [printExpr, startOk]
  | .un n x =>
    rcases hs with rfl | h | h
    · cases n <;> simp [printExpr, startOk]
    · simp [isOperand] at h
    · simp [isVec] at h
  | .bin o m l r =>
    rcases hs with rfl | h | h
    · simp only [printExpr, List.append_assoc]
      exact startOk_print l (Sound.wf_bin.mp hwf).1 true (Or.inl rfl) _
    · simp [isOperand] at h
    · simp [isVec] at h
  | .agg op wo g a =>
    simp only [printExpr, kwTok_eq, List.cons_append]
    exact startOk_word _ _ _ _ (fun n hn => by cases hn; exact not_mod_of_table _ (.inr (Sound.wf_agg.mp hwf).1))
  | .call f a =>
    simp only [printExpr, wordTok, List.cons_append, (Sound.wf_call.mp hwf).2.1]
    simp [startOk]

theorem noModStart_of_startOk (sign : Bool) (ts : List Tok) (h : startOk sign ts = true) : noModStart ts = true := by
  unfold noModStart
  split
  · simpa [startOk] using h
  · rfl

def notSign : List Tok → Bool
  | .sym .add :: _ => false
  | .sym .sub :: _ => false
  | _ => true

theorem notSign_of_startOk (ts : List Tok) (h : startOk false ts = true) : notSign ts = true := by
  unfold notSign
  split
  · cases h
  · cases h
  · rfl

theorem not_rp_of_startOk (sign : Bool) (ts : List Tok) (h : startOk sign ts = true) : ∀ X, ts ≠ .rp :: X := by
  intro X hX; subst hX; simp [startOk] at h

/-- operand followed by its postfix modifiers, as `parseExpr` runs them -/
def atomPost (F : Nat) (ts : List Tok) : Option (Expr × List Tok) :=
  match parseAtom F ts with
  | some (a, ts1) => parsePostfix F a ts1
  | none => none

/-- unary_expr: a sign, then an operand parsed above the level of MUL -/
theorem parseExpr_sign (neg : Bool) (F p : Nat) (ts1 : List Tok) :
    parseExpr (F + 1) p (.sym (if neg then .sub else .add) :: ts1) = match parseExpr F unaryOperandPrec ts1 with
      | some (x, ts2) => parseLoop F p (mkUnary neg x) ts2
      | none => none := by
  cases neg <;> simp only [parseExpr] <;> rfl

theorem parseExpr_atomPost (F p : Nat) (ts : List Tok) (h : notSign ts = true) :
    parseExpr (F + 1) p ts = match atomPost F ts with
      | some (a', ts2) => parseLoop F p a' ts2
      | none => none := by
  unfold atomPost parseExpr
  split
  · cases h
  · cases h
  · cases parseAtom F ts <;> rfl

/-- number of postfix modifiers printed after the operand's head -/
def jc : Expr → Nat
  | .vec s => selJ s
  | .mat s _ => selJ s + 1
  | .sub x _ _ a o => jc x + 1 + atJ a + offJ o
  | _ => 0

/-- what may follow an operand: the tokens after a complete expression, or the `[` of a subquery range -/
def postOk (R : List Tok) : Prop := inert R = true ∨ ∃ R', R = .lb :: R'

theorem inert_nameFollow (R : List Tok) (h : inert R = true) : nameFollow R = true := by
  unfold nameFollow
  split
  · simp [inert, binOpOfTok] at h
  · simp [inert, binOpOfTok] at h
  · rw [(wordOp_not_postfixKw _ (by simpa [inert, binOpOfTok] using h)).2]
    rfl
  · rfl

theorem postOk_nameFollow (R : List Tok) (h : postOk R) : nameFollow R = true := by
  rcases h with h | ⟨R', rfl⟩
  · exact inert_nameFollow R h
  · rfl

theorem nameFollow_selPost (s : Sel) (R : List Tok) (h : inert R = true) : nameFollow (selPost s ++ R) = true := by
  unfold selPost
  by_cases ha : s.atm = .none
  · by_cases hx : s.offEx = []
    · by_cases ho : s.off = 0
      · simp [ha, hx, ho, printAt, printOffEx, printOffset, inert_nameFollow R h]
      · simp [ha, hx, ho, printAt, printOffEx, printOffset, kwTok_eq, nameFollow, isGroupingKw]
    · cases hl : s.offEx with
      | nil => exact absurd hl hx
      | cons x xs => simp [ha, printAt, printOffEx, kwTok_eq, nameFollow, isGroupingKw]
  · cases hat : s.atm with
    | none => exact absurd hat ha
    | ts n => simp [printAt, nameFollow]
    | start => simp [printAt, nameFollow]
    | stop => simp [printAt, nameFollow]

theorem aggSuffix_none (op : String) (args : Args) (R : List Tok) (h : postOk R) :
    parseAggSuffix op args R = mkAgg op false [] args R := by
  have := postOk_nameFollow R h
  unfold parseAggSuffix
  split
  · simp [nameFollow] at this
    simp [this]
  · rfl

theorem parseArgsWith_of (pa : List Tok → Option (Args × List Tok)) (a : Args) (hwf : wfArgs a = true) (R : List Tok)
    (h : a ≠ .nil → pa (printArgs .fixed a ++ .rp :: R) = some (normArgs a, R)) :
    parseArgsWith pa (printArgs .fixed a ++ .rp :: R) = some (normArgs a, R) := by
  cases a with
  | nil => simp [printArgs, parseArgsWith, normArgs]
  | cons e r =>
    have hh := h (by simp)
    have hst : ∃ X, printArgs .fixed (.cons e r) ++ .rp :: R = printExpr .fixed e ++ X := by
      cases r with
      | nil => exact ⟨.rp :: R, by simp [printArgs]⟩
      | cons e' r' => exact ⟨.comma :: (printArgs .fixed (.cons e' r') ++ .rp :: R), by simp [printArgs]⟩
    obtain ⟨X, hX⟩ := hst
    have hso := startOk_print e (Sound.wfArgs_cons.mp hwf).1 true (Or.inl rfl) X
    rw [← hX] at hso
    unfold parseArgsWith
    split
    · rename_i ts heq
      exact absurd heq (not_rp_of_startOk true _ hso ts)
    · exact hh

theorem atJ_le (a : AtMod) : atJ a ≤ 1 := by
  unfold atJ
  split <;> omega

theorem offJ_le (o : Int) : offJ o ≤ 1 := by
  unfold offJ
  split <;> omega

theorem selJ_le (s : Sel) : selJ s ≤ 3 := by
  have := atJ_le s.atm
  have := offJ_le s.off
  simp only [selJ, exJ]
  split <;> omega

theorem jc_lt_need : (e : Expr) → jc e + 1 ≤ need e
  | .vec s => by have := selJ_le s; simp only [jc, need]; omega
  | .mat s r => by have := selJ_le s; simp only [jc, need]; omega
  | .sub x r st a o => by
    have := jc_lt_need x
    have := atJ_le a
    have := offJ_le o
    simp only [jc, need]; omega
  | .num _ | .str _ | .par _ | .un _ _ | .bin _ _ _ _ | .agg _ _ _ _ | .call _ _ => by simp [jc, need]

theorem kk_atom (e : Expr) (h : isOperand e = true ∨ isVec e = true) : kk e = 1 := by
  cases e <;> simp [isOperand, isVec] at h <;> rfl

/-- `e` ends in the operand `x` behind an operator of right precedence `Q`: an operator that leaves `e` intact leaves `x`
    intact and binds weaker than `Q` -/
theorem stopsBefore_inner {e x : Expr} {Q : Nat} (he : ∀ q, stopsBefore e q = (decide (q < Q) && stopsBefore x q)) {rest : List Tok}
    (hs : ∀ o, Sound.nextOp rest = some o → stopsBefore e o.prec = true) : Sound.Edge Q x rest := by
  simp only [he, Bool.and_eq_true, decide_eq_true_eq] at hs
  exact hs

/-- first conjunct of `print_parse_both`: an operand followed by further postfix input -/
def AtomStmt (e : Expr) : Prop :=
  ∀ (G : Nat) (R : List Tok), (isOperand e = true ∨ isVec e = true) → need e ≤ G + jc e → postOk R →
    (isVec e = true → inert R = true) → atomPost (G + jc e) (printExpr .fixed e ++ R) = parsePostfix G (norm e) R

/-- second conjunct of `print_parse_both`: any tree in front of what can follow a complete expression -/
def ExprStmt (e : Expr) : Prop :=
  ∀ (F p : Nat) (rest : List Tok), need e ≤ F → fitsAt p e = true → inert rest = true →
    (∀ o, Sound.nextOp rest = some o → stopsBefore e o.prec = true) →
    parseExpr (F + kk e) p (printExpr .fixed e ++ rest) = parseLoop F p (norm e) rest

/-- for an operand `ExprStmt` rests on `AtomStmt`: no sign in front, its modifiers, then nothing more -/
theorem both_of_atom (e : Expr) (hwf : wf e = true) (hop : isOperand e = true ∨ isVec e = true) (hatom : AtomStmt e) :
    AtomStmt e ∧ ExprStmt e := by
  refine ⟨hatom, fun F p rest hF _ hi _ => ?_⟩
  have hj := jc_lt_need e
  obtain ⟨G, rfl⟩ : ∃ G, F = (G + 1) + jc e := ⟨F - jc e - 1, by omega⟩
  rw [kk_atom e hop, parseExpr_atomPost _ _ _ (notSign_of_startOk _ (startOk_print e hwf false (Or.inr hop) rest)),
    hatom (G + 1) rest hop (by omega) (Or.inl hi) (fun _ => hi), post_done _ _ hi]

/-- `ExprStmt` where the loop returns at once: what follows binds weaker than `p` -/
theorem expr_some {x : Expr} (h : ExprStmt x) (G p : Nat) (rest : List Tok) (hG : need x + kk x + 1 ≤ G) (hp : fitsAt p x = true)
    (hi : inert rest = true) (he : Sound.Edge p x rest) : parseExpr G p (printExpr .fixed x ++ rest) = some (norm x, rest) := by
  obtain ⟨F, rfl⟩ : ∃ F, G = (F + 1) + kk x := ⟨G - kk x - 1, by omega⟩
  rw [h (F + 1) p rest (by omega) hp hi fun o ho => (he o ho).2, parseLoop_return _ _ _ _ fun o ho => (he o ho).1]

mutual
/-- By structural recursion on `e`, `AtomStmt` and `ExprStmt` at once (for an operand the latter rests on the former for the
    SAME `e`, `both_of_atom`): an operand constructor proves `AtomStmt`, the others (negative number, `.un`, `.bin`) `ExprStmt`. -/
theorem print_parse_both : (e : Expr) → wf e = true → AtomStmt e ∧ ExprStmt e
  | .num ⟨false, mag⟩, hwf => both_of_atom _ hwf (Or.inl rfl) fun G R _ hG _ _ => by
    obtain ⟨G', rfl⟩ : ∃ G', G = G' + 1 := ⟨G - 1, by simp [need, jc] at hG; omega⟩
    simp [jc, printExpr, printNum, numTok, atomPost, parseAtom, parseWordWith, norm]
  | .str v, hwf => both_of_atom _ hwf (Or.inl rfl) fun G R _ hG _ _ => by
    obtain ⟨G', rfl⟩ : ∃ G', G = G' + 1 := ⟨G - 1, by simp [need, jc] at hG; omega⟩
    simp [jc, printExpr, atomPost, parseAtom, norm]
  | .vec s, hwf => both_of_atom _ hwf (Or.inr rfl) fun G R _ hG _ hRv => by
    have hok := Sound.wf_vec.mp hwf
    have hin := hRv rfl
    simp only [jc, printExpr, printSel_eq, List.append_assoc, norm]
    unfold atomPost
    rw [selHead_parse s hok _ _ (by simp [need, jc] at hG; omega) (nameFollow_selPost s R hin)]
    exact selPost_vec s hok G R
  | .mat s r, hwf => both_of_atom _ hwf (Or.inl rfl) fun G R _ hG _ _ => by
    have hw := Sound.wf_mat.mp hwf
    simp only [jc, printExpr, printMat_eq, List.append_assoc, norm, List.cons_append]
    unfold atomPost
    rw [selHead_parse s hw.1 _ _ (by simp [need, jc] at hG; omega) rfl]
    exact selPost_mat s r hw.1 hw.2 G R
  | .sub x r st a o, hwf => both_of_atom _ hwf (Or.inl rfl) fun G R _ hG _ _ => by
    obtain ⟨hwx, hox, hr, hst, hob⟩ := Sound.wf_sub.mp hwf
    simp only [jc, printExpr, printSubSuffix, List.append_assoc, norm, List.cons_append]
    rw [show G + (jc x + 1 + atJ a + offJ o) = (G + offJ o + atJ a + 1) + jc x by omega]
    rw [(print_parse_both x hwx).1 (G + offJ o + atJ a + 1) _ (Or.inl hox) (by simp [need, jc] at hG; omega) (Or.inr ⟨_, rfl⟩)
        (by intro hv; cases x <;> simp [isOperand, isVec] at hox hv)]
    rw [post_subrange (norm x) _ r st hr hst (mkRange_operand x hox r st)]
    rw [post_at (fun a => .sub (norm x) r st a 0) (fun _ => rfl), post_off (fun o => .sub (norm x) r st a o) (fun _ => rfl) _ hob]
  | .par x, hwf => both_of_atom _ hwf (Or.inl rfl) fun G R _ hG _ _ => by
    have hwx := Sound.wf_par.mp hwf
    simp only [jc, printExpr, norm, List.cons_append, List.append_assoc, List.nil_append, Nat.add_zero]
    simp only [need, jc, Nat.add_zero] at hG
    obtain ⟨G', rfl⟩ : ∃ G', G = G' + 1 := ⟨G - 1, by omega⟩
    simp [atomPost, parseAtom, expr_some (print_parse_both x hwx).2 G' 0 (.rp :: R) (by omega) (fitsAt_zero x) rfl nofun]
  | .agg op wo g a, hwf => both_of_atom _ hwf (Or.inl rfl) fun G R _ hG hR _ => by
    obtain ⟨hop', hg, hwa, hlen⟩ := Sound.wf_agg.mp hwf
    simp only [need, jc, Nat.add_zero] at hG
    obtain ⟨G', rfl⟩ : ∃ G', G = G' + 1 := ⟨G - 1, by omega⟩
    have hargs : ∀ R', parseArgsWith (parseArgs1 G') (printArgs .fixed a ++ .rp :: R') = some (normArgs a, R') := fun R' =>
      parseArgsWith_of _ a hwa R' (fun hne => parse_args_print a hwa hne G' R' (by omega))
    have hmk : mkAgg op wo g (normArgs a) R = some (.agg op wo g (normArgs a), R) := by
      simp [mkAgg, normArgs_length, hlen]
    simp only [jc, printExpr, norm, kwTok_eq, List.cons_append, List.append_assoc, List.nil_append, Nat.add_zero]
    unfold atomPost
    simp only [parseAtom, parseWordWith]
    have hl := parseLabels_print g hg (.lp :: (printArgs .fixed a ++ .rp :: R))
    cases hwo : wo
    · by_cases hge : g = []
      · subst hge hwo
        simp [printAggMod, hop', startsAgg, parseAggWith, hargs, aggSuffix_none _ _ _ hR, hmk]
      · subst hwo
        simp [printAggMod, hge, kwTok_eq, hop', startsAgg, isGroupingKw, parseAggWith, hl, hargs, hmk]
    · subst hwo
      simp [printAggMod, kwTok_eq, hop', startsAgg, isGroupingKw, parseAggWith, hl, hargs, hmk]
  | .call f a, hwf => both_of_atom _ hwf (Or.inl rfl) fun G R _ hG _ _ => by
    obtain ⟨hf, hk, hwa⟩ := Sound.wf_call.mp hwf
    simp only [need, jc, Nat.add_zero] at hG
    obtain ⟨G', rfl⟩ : ∃ G', G = G' + 1 := ⟨G - 1, by omega⟩
    have hargs : parseArgsWith (parseArgs1 G') (printArgs .fixed a ++ .rp :: R) = some (normArgs a, R) :=
      parseArgsWith_of _ a hwa R (fun hne => parse_args_print a hwa hne G' R (by omega))
    simp only [jc, printExpr, norm, wordTok, hk, List.cons_append, List.append_assoc, List.nil_append, Nat.add_zero]
    simp [atomPost, parseAtom, parseWordWith, hf, hargs]
  | .num ⟨true, mag⟩, hwf => ⟨fun _ _ hop => by simp [isOperand, isVec] at hop, fun F p rest hF _ hi hs => by
    have hnan : mag ≠ "NaN" := Sound.wf_num.mp hwf rfl
    simp only [need] at hF
    obtain ⟨F', rfl⟩ : ∃ F', F = F' + 2 := ⟨F - 2, by omega⟩
    have hq : ∀ o, Sound.nextOp rest = some o → o.prec < unaryOperandPrec := by
      intro o ho
      simpa [stopsBefore] using hs o ho
    have h1 : parseExpr (F' + 1 + 1) unaryOperandPrec (numTok mag :: rest) = some (.num ⟨false, mag⟩, rest) := by
      rw [parseExpr_atomPost _ _ _ rfl]
      simp [atomPost, numTok, parseAtom, parseWordWith, post_done _ _ hi, parseLoop_return _ _ _ _ hq]
    simp only [kk, printExpr, printNum, if_true, List.cons_append, List.nil_append, norm]
    rw [show Tok.sym .sub = .sym (if true then .sub else .add) from rfl, parseExpr_sign true, h1]
    simp [mkUnary, negNum, hnan]⟩
  | .un n x, hwf => ⟨fun _ _ hop => by simp [isOperand, isVec] at hop, fun F p rest hF _ hi hs => by
    obtain ⟨hwx, hnx, hfx⟩ := Sound.wf_un.mp hwf
    simp only [need] at hF
    simp only [kk, printExpr, norm, List.cons_append]
    rw [parseExpr_sign, expr_some (print_parse_both x hwx).2 F unaryOperandPrec rest (by omega) hfx hi
      (stopsBefore_inner (fun _ => rfl) hs)]
    simp only [Sound.mkUnary_not_num n _ ((isNum_norm x).trans hnx)]⟩
  | .bin o m l r, hwf => ⟨fun _ _ hop => by simp [isOperand, isVec] at hop, fun F p rest hF hp hi hs => by
    obtain ⟨hwl, hwr, hwm, hfl, hsl, hfr⟩ := Sound.wf_bin.mp hwf
    have hpo : p ≤ o.prec := by simpa [fitsAt] using hp
    simp only [need] at hF
    simp only [kk, printExpr, norm, List.append_assoc, List.cons_append]
    rw [show F + (kk l + 1) = (F + 1) + kk l by omega]
    rw [(print_parse_both l hwl).2 (F + 1) p _ (by omega) (fitsAt_mono p o.prec l hfl hpo)
        (by simp [inert, binOpOfTok_opTok]) (by simp [Sound.nextOp, binOpOfTok_opTok, hsl])]
    have hmods := parseMods_print m hwm (printExpr .fixed r ++ rest)
      (noModStart_of_startOk true _ (startOk_print r hwr true (Or.inl rfl) rest))
    have ihr := expr_some (print_parse_both r hwr).2 F (rhsPrec o) rest (by omega) hfr hi (stopsBefore_inner (fun _ => rfl) hs)
    have hnlt : ¬ o.prec < p := by omega
    simp [parseLoop, binOpOfTok_opTok, hnlt, hmods, ihr]⟩

theorem parse_args_print (a : Args) (hwf : wfArgs a = true) (hne : a ≠ .nil) (F : Nat) (rest : List Tok)
    (hF : needArgs a ≤ F) :
    parseArgs1 F (printArgs .fixed a ++ .rp :: rest) = some (normArgs a, rest) := by
  match a with
  | .nil => exact absurd rfl hne
  | .cons e r =>
    have hw := Sound.wfArgs_cons.mp hwf
    simp only [needArgs] at hF
    obtain ⟨F', rfl⟩ : ∃ F', F = F' + 1 := ⟨F - 1, by omega⟩
    have ihr := fun hne' hF' => parse_args_print r hw.2 hne' F' rest hF'
    have ihe := fun R hR => expr_some (print_parse_both e hw.1).2 F' 0 R (by omega) (fitsAt_zero e) hR
    cases r with
    | nil =>
      have ih := ihe (.rp :: rest) rfl nofun
      simp [printArgs, parseArgs1, ih, normArgs]
    | cons e' r' =>
      have ih := ihe (.comma :: (printArgs .fixed (.cons e' r') ++ .rp :: rest)) rfl nofun
      have ihr' := ihr (by simp) (by simp only [needArgs] at hF ⊢; omega)
      rw [printArgs_cons2]
      simp only [List.append_assoc, List.cons_append, parseArgs1, ih, ihr']
      simp only [normArgs]
end

theorem atom_post (e : Expr) (hwf : wf e = true) (hop : isOperand e = true ∨ isVec e = true) (G : Nat) (R : List Tok)
    (hG : need e ≤ G + jc e) (hR : postOk R) (hRv : isVec e = true → inert R = true) :
    atomPost (G + jc e) (printExpr .fixed e ++ R) = parsePostfix G (norm e) R :=
  (print_parse_both e hwf).1 G R hop hG hR hRv

theorem parseFuel_print (e : Expr) (hwf : wf e = true) (f : Nat) (hf : need e + kk e ≤ f) :
    parseFuel f (printExpr .fixed e) = some (norm e) := by
  obtain ⟨F, rfl⟩ : ∃ F, f = (F + 1) + kk e := ⟨f - kk e - 1, by have := jc_lt_need e; omega⟩
  have h := (print_parse_both e hwf).2 (F + 1) 0 [] (by have := jc_lt_need e; omega) (fitsAt_zero e) rfl (fun _ h => nomatch h)
  rw [List.append_nil] at h
  simp [parseFuel, h, parseLoop]

theorem sepBy_length_ge (sep : Tok) (l : List (List Tok)) (h : ∀ x ∈ l, 1 ≤ x.length) :
    l.length ≤ (sepBy sep l).length := by
  cases l with
  | nil => simp [sepBy]
  | cons x xs =>
    rw [sepBy_cons]
    have := h x (by simp)
    induction xs with
    | nil => simp; omega
    | cons y ys ih =>
      have := ih (fun z hz => h z (by simp at hz ⊢; rcases hz with rfl | hz <;> simp [*]))
      simp only [List.flatMap_cons, List.length_append, List.length_cons] at this ⊢
      omega
theorem selHead_len (s : Sel) : (shownMatchers .fixed s).length + 4 ≤ 6 * (printSelHead .fixed s).length := by
  cases hsh : shownMatchers .fixed s with
  | nil =>
    by_cases hn : s.name = "" <;> simp [printSelHead, hsh, hn, nameToks]
  | cons m ms =>
    have := sepBy_length_ge .comma ((m :: ms).map printMatcher) (by intro x hx; simp at hx; rcases hx with rfl | ⟨a, _, rfl⟩ <;> simp [printMatcher])
    simp only [printSelHead, hsh, List.length_append, List.length_cons, List.length_map] at this ⊢
    omega

mutual
theorem need_le (e : Expr) : need e + kk e ≤ 6 * (printExpr .fixed e).length + 3 := by
  match e with
  | .num n => simp only [need, kk, printExpr, printNum]; split <;> simp <;> omega
  | .str v => simp [need, kk, printExpr]
  | .vec s =>
    have := selHead_len s
    simp only [need, kk, printExpr, printSel, List.length_append]; omega
  | .mat s r =>
    have := selHead_len s
    simp only [need, kk, printExpr, printMat, List.length_append, List.length_cons]; omega
  | .sub x r st a o =>
    have := need_le x
    simp only [need, kk, printExpr, printSubSuffix, List.length_append, List.length_cons]; omega
  | .par x =>
    have := need_le x
    simp only [need, kk, printExpr, List.length_append, List.length_cons, List.length_nil]; omega
  | .un n x =>
    have := need_le x
    simp only [need, kk, printExpr, List.length_cons]; omega
  | .bin o m l r =>
    have := need_le l
    have := need_le r
    simp only [need, kk, printExpr, List.length_append, List.length_cons]; omega
  | .agg op wo g a =>
    have := needArgs_le a
    simp only [need, kk, printExpr, List.length_append, List.length_cons, List.length_nil]; omega
  | .call f a =>
    have := needArgs_le a
    simp only [need, kk, printExpr, List.length_append, List.length_cons, List.length_nil]; omega
theorem needArgs_le (a : Args) : needArgs a ≤ 6 * (printArgs .fixed a).length + 6 := by
  match a with
  | .nil => simp [needArgs]
  | .cons e .nil =>
    have := need_le e
    simp only [needArgs, printArgs]; omega
  | .cons e (.cons e' r') =>
    have := need_le e
    have := needArgs_le (.cons e' r')
    rw [printArgs_cons2]
    simp only [needArgs, List.length_append, List.length_cons] at this ⊢; omega
end

end SH.Props.C28
