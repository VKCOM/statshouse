/-
  SH.Lemmas.DiskCachePad — GetBucket's result does not depend on what the caller's (reused) scratch pad held before.
-/
import SH.Lemmas.DiskCacheBytes

namespace SH.C09
open SH.DiskCache

theorem resliced_length (pad : Bytes) (n : Nat) : (resliced pad n).length = n := by
  unfold resliced; split
  · simp [List.length_take]; omega
  · simp

/-- a read that fills the whole resliced pad leaves nothing of the pad's previous contents in the result -/
theorem overwrite_resliced (pad body : Bytes) (n : Nat) (h : body.length = n) : overwrite (resliced pad n) body = body := by
  unfold overwrite
  rw [resliced_length, ← h, List.take_length, List.drop_of_length_le (by rw [resliced_length]; omega)]
  simp

/-- C09 "identical bytes" for the reused scratch pad: for EVERY state, id, time and EVERY previous contents of the pad, the code
    as it is (`.asIs`) returns exactly what `get` returns (the bytes on disk as a value) and leaves the same state. -/
theorem getP_eq_get (cfg : Cfg) (s : Shard) (id time : Nat) (pad : Bytes) :
    (getP .asIs cfg s id time pad).1 = (DiskCache.get cfg s id time).1 ∧
    (getP .asIs cfg s id time pad).2.1 = (DiskCache.get cfg s id time).2 := by
  unfold getP DiskCache.get
  cases hfb : findB s.known id with
  | none => simp
  | some b =>
    simp only
    by_cases ht : (b.time != time) = true
    · simp [ht]
    · simp only [ht]
      have hv : ((GetVariant.asIs == GetVariant.emptyFastPath) && (b.size == 0)) = false := by
        have : (GetVariant.asIs == GetVariant.emptyFastPath) = false := by decide
        simp [this]
      simp only [hv, Bool.false_eq_true, if_false]
      by_cases hl : (readBody (fileBytes s.disk b.file) b).length < b.size
      · simp [hl]
      · simp only [hl, if_false]
        have hle := readBody_length_le (fileBytes s.disk b.file) b
        have heq : (readBody (fileBytes s.disk b.file) b).length = b.size := by omega
        rw [overwrite_resliced pad _ b.size heq]
        split <;> simp

theorem getP_pad_independent (cfg : Cfg) (s : Shard) (id time : Nat) (pad1 pad2 : Bytes) :
    (getP .asIs cfg s id time pad1).2.1 = (getP .asIs cfg s id time pad2).2.1 := by
  rw [(getP_eq_get cfg s id time pad1).2, (getP_eq_get cfg s id time pad2).2]

/-- the seeded variant (fast path for an empty body before the pad is resliced) breaks it: a second put with an empty body is
    returned as the previous contents of the pad -/
theorem emptyFastPath_returns_stale_bytes :
    (getP .asIs cfg0 (run cfg0 {} [.put 5 [] false]) 1 5 [7, 7]).2.1 = .ok [] ∧
    (getP .emptyFastPath cfg0 (run cfg0 {} [.put 5 [] false]) 1 5 [7, 7]).2.1 = .ok [7, 7] := by decide +kernel

end SH.C09
