/-
  SH.Lemmas.PCacheEvict — facts behind the exact size accounting (`Exact` in SH.Props.C24), the size bound and the
  termination of the eviction loop (`for c.size+len(c.cache) >= c.approxMaxSize { c.size -= c.evictLocked() }` in
  pointsCache.get): distinct keys, distinct ranges of an entry, an entry with the smallest lru, what one eviction and one
  insert do to the accounted size.
-/
import SH.Lemmas.PCacheBase

namespace SH.C24
open SH.PCache SH.Gen.C24

/-- the key of a stored range in Go's map `e.rows` -/
def rng (c : CRows) : Int × Int := (c.tFrom, c.tTo)

theorem isRange_iff (c : CRows) (f t : Int) : isRange c f t = true ↔ rng c = (f, t) := by
  unfold isRange rng; simp

theorem findEntry_of_mem : ∀ (c : List Entry) (e : Entry), (c.map (·.key)).Nodup → e ∈ c → findEntry c e.key = some e := by
  intro c
  induction c with
  | nil => intro e _ h; simp at h
  | cons x r ih =>
    intro e hnd he
    simp only [List.map_cons, List.nodup_cons] at hnd
    simp only [findEntry]
    rcases List.mem_cons.mp he with h | h
    · subst h; simp
    · have : x.key ≠ e.key := by
        intro hk; exact hnd.1 (by rw [hk]; exact List.mem_map_of_mem h)
      simp only [this, if_false]; exact ih e hnd.2 h

theorem costSum_filter_eq : ∀ (c : List Entry) (k : Nat) (e : Entry), (c.map (·.key)).Nodup → findEntry c k = some e →
    costSum (c.filter (fun x => x.key ≠ k)) = costSum c - entryCost e := by
  intro c
  induction c with
  | nil => intro k e _ h; simp [findEntry] at h
  | cons x r ih =>
    intro k e hnd h
    simp only [List.map_cons, List.nodup_cons] at hnd
    simp only [findEntry] at h
    by_cases hk : x.key = k
    · rw [if_pos hk] at h
      injection h with h; subst h
      have hid : r.filter (fun y => y.key ≠ k) = r := List.filter_eq_self.mpr (fun y hy => by
        have : y.key ≠ k := fun hyk => hnd.1 (by rw [hk, ← hyk]; exact List.mem_map_of_mem hy)
        simpa using this)
      rw [List.filter_cons_of_neg (by simpa using hk), hid, costSum_cons]
      omega
    · rw [if_neg hk] at h
      rw [List.filter_cons_of_pos (by simpa using hk), costSum_cons, costSum_cons, ih k e hnd.2 h]
      omega

theorem costSum_update : ∀ (c : List Entry) (key : Nat) (F : Entry → Entry) (e : Entry),
    (c.map (·.key)).Nodup → findEntry c key = some e →
    costSum (c.map (fun x => if x.key = key then F x else x)) = costSum c - entryCost e + entryCost (F e) := by
  intro c
  induction c with
  | nil => intro key F e _ h; simp [findEntry] at h
  | cons x r ih =>
    intro key F e hnd h
    simp only [List.map_cons, List.nodup_cons] at hnd
    simp only [findEntry] at h
    rw [List.map_cons, costSum_cons, costSum_cons]
    by_cases hk : x.key = key
    · rw [if_pos hk] at h ⊢
      injection h with h
      subst h
      have hid : r.map (fun y => if y.key = key then F y else y) = r := by
        conv_rhs => rw [← List.map_id r]
        exact List.map_congr_left (fun y hy =>
          if_neg (fun hyk => hnd.1 (by rw [hk, ← hyk]; exact List.mem_map_of_mem hy)))
      rw [hid]
      omega
    · rw [if_neg hk] at h ⊢
      rw [ih key F e hnd.2 h]
      omega

theorem evictOne_length_lt (s : State) (k : Nat) (e : Entry) (h : findEntry s.cache k = some e) :
    (evictOne s k).cache.length < s.cache.length := by
  obtain ⟨hmem, hkey⟩ := findEntry_mem s.cache k e h
  unfold evictOne
  rw [h]
  exact List.length_filter_lt_length_iff_exists.mpr ⟨e, hmem, by simp [hkey]⟩

/-- the ranges of one entry are pairwise different (Go: keys of the map `e.rows`) -/
def RangesNodup (rows : List CRows) : Prop := (rows.map rng).Nodup

/-- replacing the range `[f,t]` removes exactly one stored range if it is present and none otherwise -/
theorem filter_range_len : ∀ (rows : List CRows) (f t : Int), RangesNodup rows →
    (rows.filter (fun x => !isRange x f t)).length + (hasRange rows f t).toNat = rows.length := by
  intro rows
  induction rows with
  | nil => intro f t _; rfl
  | cons c r ih =>
    intro f t hnd
    unfold RangesNodup at hnd
    simp only [List.map_cons, List.nodup_cons] at hnd
    by_cases hc : isRange c f t = true
    · have hid : r.filter (fun x => !isRange x f t) = r := by
        apply List.filter_eq_self.mpr
        intro y hy
        have : ¬ isRange y f t = true := by
          intro hy2
          rw [isRange_iff] at hc hy2
          exact hnd.1 (by rw [hc, ← hy2]; exact List.mem_map_of_mem hy)
        simpa using this
      simp [List.filter, hasRange, findRows, hc, hid]
    · have := ih f t hnd.2
      simp only [hasRange, findRows, List.filter, hc, Bool.false_eq_true, if_false, Bool.not_false,
        List.length_cons] at this ⊢
      omega

theorem putEntry_cost_eq (e : Entry) (tLru : Int) (cr : CRows) (hnd : RangesNodup e.rows) :
    entryCost (putEntry e tLru cr) = entryCost e + sizeDelta e cr := by
  have := filter_range_len e.rows cr.tFrom cr.tTo hnd
  unfold entryCost putEntry putRange sizeDelta
  simp only [List.length_cons]
  cases h : hasRange e.rows cr.tFrom cr.tTo
  · simp only [h, Bool.toNat_false, Bool.false_eq_true, if_false] at this ⊢
    omega
  · simp only [h, Bool.toNat_true, if_true] at this ⊢
    omega

theorem putRange_nodup (rows : List CRows) (cr : CRows) (hnd : RangesNodup rows) : RangesNodup (putRange rows cr) := by
  unfold RangesNodup putRange at *
  simp only [List.map_cons, List.nodup_cons]
  constructor
  · intro hm
    obtain ⟨y, hy, hr⟩ := List.mem_map.mp hm
    have h1 := (List.mem_filter.mp hy).2
    have : isRange y cr.tFrom cr.tTo = true := (isRange_iff y _ _).mpr (by rw [hr]; rfl)
    simp [this] at h1
  · exact List.Nodup.sublist (List.Sublist.map _ List.filter_sublist) hnd

/-- evictLocked can always pick an entry with the smallest lru, whatever the map order and the sample -/
theorem min_lru_legal (c : List Entry) (e : Entry) (hnd : (c.map (·.key)).Nodup) (he : e ∈ c)
    (hmin : ∀ x ∈ c, e.lru ≤ x.lru) : evictLegal c e.key = true := by
  unfold evictLegal
  rw [findEntry_of_mem c e hnd he]
  have : c.filter (fun x => decide (x.lru < e.lru)) = [] := by
    apply List.filter_eq_nil_iff.mpr
    intro x hx
    have := hmin x hx
    simp; omega
  simp [this]

theorem evictOne_load_le (s : State) (k : Nat) : load (evictOne s k) ≤ load s := by
  unfold evictOne; split
  · exact le_refl _
  · rename_i e _
    unfold load; simp only
    have h1 := entryCost_nonneg e
    have h2 : (s.cache.filter (fun x => x.key ≠ k)).length ≤ s.cache.length := List.length_filter_le _ _
    omega

theorem insertRows_bound (s : State) (key : Nat) (tLru : Int) (cr : CRows) (hn : needEvict s = false) :
    load (insertRows s key tLru cr) ≤ s.maxSize + 1 + (cr.n : Int) := by
  obtain ⟨e, _, hi⟩ := insertRows_eq s key tLru cr
  rw [hi]
  have hlen : (addKey s.cache key).length ≤ s.cache.length + 1 := by
    rcases addKey_eq s.cache key with ⟨_, _, h'⟩ | ⟨_, h'⟩ <;> rw [h']
    · exact Nat.le_succ _
    · rw [List.length_append]; exact le_refl _
  have hd : sizeDelta e cr ≤ 1 + (cr.n : Int) := by
    unfold sizeDelta
    split
    · exact Int.le_add_of_nonneg_left (by decide)
    · exact le_refl _
  unfold needEvict at hn
  simp only [decide_eq_false_iff_not] at hn
  unfold load
  simp only [List.length_map]
  omega

theorem sum_actual_le : ∀ (c : List Entry), (∀ e ∈ c, rowsTotal e.rows ≤ (e.rowsSize : Int)) →
    (c.map actualEntry).sum ≤ (c.length : Int) + costSum c := by
  intro c
  induction c with
  | nil => intro _; exact le_refl _
  | cons x r ih =>
    intro h
    have h1 := h x List.mem_cons_self
    have h2 := ih (fun e he => h e (List.mem_cons_of_mem _ he))
    rw [List.map_cons, List.sum_cons, List.length_cons, costSum_cons, Nat.cast_succ,
      show actualEntry x = 1 + (x.rows.length : Int) + rowsTotal x.rows from rfl,
      show entryCost x = (x.rowsSize : Int) + (x.rows.length : Int) from rfl]
    omega

end SH.C24
