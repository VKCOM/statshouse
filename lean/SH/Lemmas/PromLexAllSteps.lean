/-
  SH.Lemmas.PromLexAllSteps — the per-token-class lexical theorems lifted to the whole lexer state machine
  (SH.Model.PromLexAll.lexStep): for these kinds of token the printer writes — durations (after `[` and elsewhere), numbers,
  %q strings (outside and inside braces), words, label names, blanks, brackets with their mode switches, parentheses with the
  depth counter, braces, comma, `@`, match operators — one step of the lexer on the printed text of the token
  followed by `rest` yields exactly that token, the right successor state, and `rest`. `lex_range_suffix` composes three of
  them across the `[` … `]` mode. Not here: the binary operators written with symbols (`step_bop` in SH.Lemmas.PromLexFrag, for
  an operator followed by a blank) and a sign directly in front of a number, duration or operand (no step lemma).

  On a literal character `stepStatements` / `stepBraces` is an if-chain that evaluates (`rfl`, once the state fields the branch
  reads are fixed); for a character known only by its class the chain is walked with `word_ne`.
-/
import SH.Model.PromLexAll
import SH.Lemmas.PromLexNum
import SH.Lemmas.PromLexStr
namespace SH.PromLex.Steps
open SH.PromLex SH.PromLex.Num

/-- the state of the lexer between tokens, outside braces and not right after `[` (inside `[ … ]` or not: a step lemma that
    depends on it takes `st.bracket` as a further hypothesis) -/
def plain (st : LexState) : Prop := st.wantDur = false ∧ st.brace = false

theorem lexStep_plain {st : LexState} (hst : plain st) (cs : List Nat) : lexStep cs st = stepStatements cs st := by
  simp only [lexStep, hst.1, hst.2, Bool.false_eq_true, if_false]

theorem lexStep_braces {st : LexState} (hw : st.wantDur = false) (hb : st.brace = true) (cs : List Nat) :
    lexStep cs st = stepBraces cs st := by
  simp only [lexStep, hw, hb, Bool.false_eq_true, if_false, if_true]

theorem word_ne {c : Nat} (hc : isWordB c = true) {k : Nat} (hk : isWordB k = false) : c ≠ k := by
  rintro rfl
  rw [hc] at hk
  cases hk

theorem word_not_space {c : Nat} (hc : isWordB c = true) : isSpaceB c = false := by
  simp only [isSpaceB, beq_eq_false_iff_ne.mpr (word_ne hc (k := 32) rfl), beq_eq_false_iff_ne.mpr (word_ne hc (k := 9) rfl),
    beq_eq_false_iff_ne.mpr (word_ne hc (k := 10) rfl), beq_eq_false_iff_ne.mpr (word_ne hc (k := 13) rfl), Bool.or_self]

theorem word_of_alnum {c : Nat} (hc : isAlnumB c = true) : isWordB c = true := by
  simp only [isWordB, hc, Bool.true_or]

theorem word_of_digit {c : Nat} (hc : isDigitB c = true) : isWordB c = true := by
  simp only [isWordB, isAlnumB, hc, Bool.or_true, Bool.true_or]

theorem word_of_start {c : Nat} (hc : (isAlphaB c || c == 58) = true) : isWordB c = true := by
  simp only [isWordB, isAlnumB, Bool.or_eq_true] at hc ⊢
  exact hc.elim (fun h => Or.inl (Or.inl h)) Or.inr

/-- a duration the printer wrote, right after `[` (lexDuration) -/
theorem step_dur_bracket (st : LexState) (hst : st.wantDur = true) (n : Nat) (rest : List Nat) (hr : headAlnum rest = false) :
    lexStep (printSeconds n ++ rest) st = .tok "DURATION" (printSeconds n).length rest { st with wantDur := false } := by
  simp only [lexStep, hst, if_true, (lex_printSeconds n rest hr).2, List.drop_left]

/-- lexStatements hands a text that starts with a digit to lexNumberOrDuration -/
theorem statements_digit (c : Nat) (t : List Nat) (st : LexState) (hc : isDigitB c = true) :
    stepStatements (c :: t) st = stepNum (c :: t) st := by
  have hw := word_of_digit hc
  unfold stepStatements
  dsimp only
  repeat rw [if_neg (word_ne hw rfl)]
  rw [word_not_space hw, if_neg Bool.false_ne_true]
  repeat rw [if_neg (word_ne hw rfl)]
  rw [hc, Bool.true_or, if_pos rfl]

theorem statements_dq (t : List Nat) (st : LexState) : stepStatements (cDq :: t) st = stepString (cDq :: t) st := rfl

/-- lexStatements hands a text that starts with a letter, `_` or `:` to lexKeywordOrIdentifier (outside brackets) -/
theorem statements_word (c : Nat) (t : List Nat) (st : LexState) (hc : (isAlphaB c || c == 58) = true) (hb : st.bracket = false) :
    stepStatements (c :: t) st =
      .tok (wordName (lexWord (c :: t)).1) (lexWord (c :: t)).1.length (lexWord (c :: t)).2 st := by
  have hw := word_of_start hc
  have hd : isDigitB c = false := by
    simp only [isAlphaB, Bool.or_eq_true, Bool.and_eq_true, beq_iff_eq, decide_eq_true_eq] at hc
    simp only [isDigitB, Bool.and_eq_false_iff, decide_eq_false_iff_not]
    omega
  have hq : ¬ (c = cDq ∨ c = cSq ∨ c = cBt) := fun h => h.elim (word_ne hw rfl) (fun h => h.elim (word_ne hw rfl) (word_ne hw rfl))
  unfold stepStatements
  dsimp only
  repeat rw [if_neg (word_ne hw rfl)]
  rw [word_not_space hw, if_neg Bool.false_ne_true]
  repeat rw [if_neg (word_ne hw rfl)]
  rw [hd, beq_eq_false_iff_ne.mpr (word_ne hw (k := 46) rfl), Bool.false_and, Bool.or_false, if_neg Bool.false_ne_true, if_neg hq,
    if_pos hc, hb]
  rfl

theorem printSeconds_cons (n : Nat) : ∃ d ds, printSeconds n = d :: ds ∧ isDigitB d = true := by
  obtain ⟨_, hd, hne⟩ := natDigits_spec n
  obtain ⟨d0, ds, hds⟩ := List.exists_cons_of_ne_nil hne
  exact ⟨d0, ds ++ [115], by simp [printSeconds, hds], hd d0 (by simp [hds])⟩

/-- a duration the printer wrote, elsewhere (after `offset`, after `:` or `,` inside brackets): lexNumberOrDuration -/
theorem step_dur (st : LexState) (hst : plain st) (n : Nat) (rest : List Nat) (hr : headAlnum rest = false) :
    lexStep (printSeconds n ++ rest) st = .tok "DURATION" (printSeconds n).length rest st := by
  obtain ⟨d, ds, hn, hd⟩ := printSeconds_cons n
  rw [lexStep_plain hst, hn, List.cons_append, statements_digit d _ st hd, ← List.cons_append, ← hn]
  simp only [stepNum, (lex_printSeconds n rest hr).1, List.drop_left]

theorem step_num (st : LexState) (hst : plain st) (sh : NumShape) (hok : sh.ok = true) (rest : List Nat)
    (hr : numFollow rest = true) :
    lexStep (sh.render ++ rest) st = .tok "NUMBER" sh.render.length rest st := by
  obtain ⟨d, ds, hn, hd⟩ := render_cons sh hok
  rw [lexStep_plain hst, hn, List.cons_append, statements_digit d _ st hd, ← List.cons_append, ← hn]
  simp only [stepNum, lexNumOrDur_shape sh hok rest hr, List.drop_left]

theorem step_string (st : LexState) (hst : plain st) (items : List QItem) (hok : ∀ i ∈ items, i.ok = true) (rest : List Nat) :
    lexStep (cDq :: (renderQ items ++ cDq :: rest)) st = .tok "STRING" ((renderQ items).length + 2) rest st := by
  simp only [lexStep_plain hst, statements_dq, stepString, SH.PromLex.Str.lexStringTok_quoted items hok rest, List.length_cons,
    List.length_append, List.length_nil]

theorem step_string_braces (st : LexState) (hw : st.wantDur = false) (hb : st.brace = true) (items : List QItem)
    (hok : ∀ i ∈ items, i.ok = true) (rest : List Nat) :
    lexStep (cDq :: (renderQ items ++ cDq :: rest)) st = .tok "STRING" ((renderQ items).length + 2) rest st := by
  have : stepBraces (cDq :: (renderQ items ++ cDq :: rest)) st = stepString (cDq :: (renderQ items ++ cDq :: rest)) st := rfl
  simp only [lexStep_braces hw hb, this, stepString, SH.PromLex.Str.lexStringTok_quoted items hok rest, List.length_cons,
    List.length_append, List.length_nil]

/-- a word (identifier, metric identifier, keyword, `Inf`, `NaN`) followed by something that does not continue it -/
theorem step_word (st : LexState) (hst : plain st) (hb : st.bracket = false) (c : Nat) (w rest : List Nat)
    (hc : (isAlphaB c || c == 58) = true) (hw : ∀ x ∈ w, isWordB x = true) (hr : Stops isWordB rest) :
    lexStep (c :: w ++ rest) st = .tok (wordName (c :: w)) (w.length + 1) rest st := by
  have hl := lexWord_run (c :: w) rest (List.forall_mem_cons.mpr ⟨word_of_start hc, hw⟩) hr
  rw [lexStep_plain hst, List.cons_append, statements_word c _ st hc hb, ← List.cons_append, hl]
  rfl

theorem step_blank (st : LexState) (hw : st.wantDur = false) (rest : List Nat) :
    lexStep (32 :: rest) st = .skip (rest.dropWhile isSpaceB) st := by
  cases hb : st.brace
  · exact lexStep_plain ⟨hw, hb⟩ _
  · exact lexStep_braces hw hb _

/-- `[` switches to lexDuration for the next token -/
theorem step_lbracket (st : LexState) (hst : plain st) (hb : st.bracket = false) (rest : List Nat) :
    lexStep (91 :: rest) st = .tok "LEFT_BRACKET" 1 (rest.dropWhile isSpaceB)
      { st with gotColon := false, bracket := true, wantDur := true } := by
  rw [lexStep_plain hst]
  obtain ⟨_, _, _, _, _⟩ := st
  cases hb
  rfl

theorem step_rbracket (st : LexState) (hst : plain st) (hb : st.bracket = true) (rest : List Nat) :
    lexStep (93 :: rest) st = .tok "RIGHT_BRACKET" 1 rest { st with bracket := false } := by
  rw [lexStep_plain hst]
  obtain ⟨_, _, _, _, _⟩ := st
  cases hb
  rfl

theorem step_colon (st : LexState) (hst : plain st) (hb : st.bracket = true) (hg : st.gotColon = false) (rest : List Nat) :
    lexStep (58 :: rest) st = .tok "COLON" 1 rest { st with gotColon := true } := by
  rw [lexStep_plain hst]
  obtain ⟨_, _, _, _, _⟩ := st
  cases hb
  cases hg
  rfl

theorem step_lparen (st : LexState) (hst : plain st) (rest : List Nat) :
    lexStep (40 :: rest) st = .tok "LEFT_PAREN" 1 rest { st with depth := st.depth + 1 } :=
  lexStep_plain hst _

theorem step_rparen (st : LexState) (hst : plain st) (hd : st.depth ≠ 0) (rest : List Nat) :
    lexStep (41 :: rest) st = .tok "RIGHT_PAREN" 1 rest { st with depth := st.depth - 1 } :=
  (lexStep_plain hst _).trans (if_neg hd)

theorem step_lbrace (st : LexState) (hst : plain st) (rest : List Nat) :
    lexStep (123 :: rest) st = .tok "LEFT_BRACE" 1 rest { st with brace := true } :=
  lexStep_plain hst _

theorem step_rbrace (st : LexState) (hw : st.wantDur = false) (hb : st.brace = true) (rest : List Nat) :
    lexStep (125 :: rest) st = .tok "RIGHT_BRACE" 1 rest { st with brace := false } :=
  lexStep_braces hw hb _

theorem step_comma (st : LexState) (hw : st.wantDur = false) (rest : List Nat) :
    lexStep (44 :: rest) st = .tok "COMMA" 1 rest st := by
  cases hb : st.brace
  · exact lexStep_plain ⟨hw, hb⟩ _
  · exact lexStep_braces hw hb _

theorem step_at (st : LexState) (hst : plain st) (rest : List Nat) : lexStep (64 :: rest) st = .tok "AT" 1 rest st :=
  lexStep_plain hst _

theorem step_matchop (st : LexState) (hw : st.wantDur = false) (hb : st.brace = true) (rest : List Nat) :
    lexStep (61 :: cDq :: rest) st = .tok "EQL" 1 (cDq :: rest) st ∧ lexStep (33 :: 61 :: rest) st = .tok "NEQ" 2 rest st ∧
    lexStep (61 :: 126 :: rest) st = .tok "EQL_REGEX" 2 rest st ∧ lexStep (33 :: 126 :: rest) st = .tok "NEQ_REGEX" 2 rest st :=
  ⟨lexStep_braces hw hb _, lexStep_braces hw hb _, lexStep_braces hw hb _, lexStep_braces hw hb _⟩

theorem step_lname (st : LexState) (hw : st.wantDur = false) (hb : st.brace = true) (c : Nat) (w rest : List Nat)
    (hc : isAlnumB c = true) (hws : ∀ x ∈ w, isAlnumB x = true) (hr : ∀ x t, rest = x :: t → isAlnumB x = false) :
    lexStep (c :: w ++ rest) st = .tok "IDENTIFIER" (w.length + 1) rest st := by
  have hrun := span_run isAlnumB (c :: w) rest (List.forall_mem_cons.mpr ⟨hc, hws⟩) hr
  have hcw := word_of_alnum hc
  rw [lexStep_braces hw hb, List.cons_append]
  unfold stepBraces
  dsimp only
  rw [if_neg (word_ne hcw rfl), word_not_space hcw, if_neg Bool.false_ne_true, if_pos hc, ← List.cons_append, hrun.1, hrun.2]
  rfl

theorem steps_range (st : LexState) (hst : plain st) (hb : st.bracket = false) (hg : st.gotColon = false) (n : Nat)
    (rest : List Nat) :
    lexStep (91 :: (printSeconds n ++ 93 :: rest)) st =
      .tok "LEFT_BRACKET" 1 (printSeconds n ++ 93 :: rest) { st with gotColon := false, bracket := true, wantDur := true } ∧
    lexStep (printSeconds n ++ 93 :: rest) { st with gotColon := false, bracket := true, wantDur := true } =
      .tok "DURATION" (printSeconds n).length (93 :: rest) { st with gotColon := false, bracket := true, wantDur := false } ∧
    lexStep (93 :: rest) { st with gotColon := false, bracket := true, wantDur := false } = .tok "RIGHT_BRACKET" 1 rest st := by
  obtain ⟨d, ds, hn, hd⟩ := printSeconds_cons n
  refine ⟨?_, step_dur_bracket _ rfl n (93 :: rest) rfl, ?_⟩
  · rw [step_lbracket st hst hb, hn, List.cons_append,
      List.dropWhile_cons_of_neg (Bool.eq_false_iff.mp (word_not_space (word_of_digit hd)))]
  · rw [step_rbracket { st with gotColon := false, bracket := true, wantDur := false } ⟨rfl, hst.2⟩ rfl]
    obtain ⟨_, _, _, _, _⟩ := st
    obtain ⟨hw, _⟩ := hst
    cases hw
    cases hb
    cases hg
    rfl

/-- composition across the bracket mode: the range `[<n>s]` the printer writes after a selector is lexed to
    LEFT_BRACKET DURATION RIGHT_BRACKET and the lexer is back in the state it started from -/
theorem lex_range_suffix (f : Nat) (st : LexState) (hst : plain st) (hb : st.bracket = false) (hg : st.gotColon = false)
    (n : Nat) (rest : List Nat) :
    lexLoop (f + 3) (91 :: (printSeconds n ++ 93 :: rest)) st =
      (⟨"LEFT_BRACKET", 1⟩ :: ⟨"DURATION", (printSeconds n).length⟩ :: ⟨"RIGHT_BRACKET", 1⟩ :: (lexLoop f rest st).1,
       (lexLoop f rest st).2) := by
  obtain ⟨h1, h2, h3⟩ := steps_range st hst hb hg n rest
  rw [lexLoop, h1]
  dsimp only
  rw [lexLoop, h2]
  dsimp only
  rw [lexLoop, h3]

end SH.PromLex.Steps
