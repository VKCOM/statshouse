/-
  SH.Lemmas.PromWindowG — the window cursor (newWindow / moveOneLeft / setValueAtRight / fillPrefixWith as modelled in
  SH.Model.PromEval) on ARBITRARY time grids (in particular the two-LOD grids of a query that crosses a table boundary):
  the cursor is monotone, so if `L r` is the left edge the range selects for point `r` (characterised by the very test the
  cursor evaluates, with that point's own bucket width `sOf r` = t[r+1] − t[r]), the cursor-driven evaluation returns at
  every point the function of exactly the points L r … r.  `gridCtx` instantiates `L` for the non-strict functions on every
  non-decreasing grid, SH.Lemmas.PromWindow for all functions on a uniform grid.
-/
import SH.Model.PromEval
import Mathlib.Tactic.Linarith

namespace SH.PromWindowG
open SH.PromEval

/-- number of present points among v[a], …, v[b-1] -/
def cnt (v : List Val) (a b : Nat) : Nat := (present ((v.take b).drop a)).length

theorem slice_count (v : List Val) (l r : Nat) : (present (slice v l r)).length = cnt v l (r + 1) := by
  rw [slice, cnt, List.drop_take]

theorem cnt_self (v : List Val) (a : Nat) : cnt v a a = 0 := by
  rw [cnt, List.drop_take, Nat.sub_self]
  rfl

theorem cnt_add (v : List Val) (a b c : Nat) (h1 : a ≤ b) (h2 : b ≤ c) : cnt v a c = cnt v a b + cnt v b c := by
  unfold cnt present
  rw [List.drop_take, List.drop_take, List.drop_take, ← Nat.sub_add_sub_cancel h2 h1, Nat.add_comm, List.take_add,
    List.filterMap_append, List.length_append, List.drop_drop, Nat.add_sub_of_le h1]

theorem cnt_succ (v : List Val) (a b : Nat) (h : a ≤ b) : cnt v a (b + 1) = cnt v a b + (isPresent v b).toNat := by
  rw [cnt_add v a b (b + 1) h (Nat.le_succ b)]
  congr 1
  unfold cnt isPresent present
  rw [List.drop_take, Nat.add_sub_cancel_left, List.getD_eq_getElem?_getD, ← Nat.zero_add 1, List.take_add_one,
    List.getElem?_drop]
  rcases v[b + 0]? with _ | _ | x <;> rfl

theorem cnt_set (v : List Val) (r : Nat) (x : Val) (a b : Nat) (h : b ≤ r) : cnt (v.set r x) a b = cnt v a b := by
  rw [cnt, cnt, List.take_set_of_le h]

theorem isPresent_set_self (v : List Val) (r : Nat) (x : Val) (h : r < v.length) : isPresent (v.set r x) r = x.isSome := by
  unfold isPresent
  rw [List.getD_eq_getElem?_getD, List.getElem?_set_self (by simpa using h)]
  rfl

/-- the test of the left-boundary loop as a function of the bucket width `s` of the current point -/
def wideAt (t : List Int) (w : Int) (strict : Bool) (s : Int) (r l : Nat) : Bool :=
  decide (w ≤ tAt t r - tAt t l + s) || (strict && decide (w < tAt t r - tAt t (l - 1) + s))

theorem wideEnough_eq_wideAt (t : List Int) (wd : Wnd) (r l : Nat) : wideEnough t wd r l = wideAt t wd.w wd.strict wd.s r l := rfl

/-- a grid, a range and the left edges the range selects.  `hstep`: the bucket width of a point is the distance to the next
    point (what `finishMove` stores in `Wnd.s` for the next move); `hnarrow`: a strict function's range is not narrower than
    any bucket — otherwise the code forces an empty window at that point, which `L` does not describe.  Index 0 is a guard
    point: the left-boundary loop runs while 0 < l, so 0 is never a left edge and `L r = 0` says that point r has no window. -/
structure GCtx where
  t : List Int
  w : Int
  strict : Bool
  sOf : Nat → Int           -- bucket width of point r
  L : Nat → Nat             -- left edge of the window of point r; 0 = no complete window right of the guard point
  hw : 0 < w
  hL : ∀ r, L r ≤ r
  hwide : ∀ r l, 1 ≤ l → l ≤ r → r < t.length → wideAt t w strict (sOf r) r l = decide (l ≤ L r)
  hmono : ∀ r, r + 1 < t.length → L r ≤ L (r + 1)
  hstep : ∀ r, 1 ≤ r → r < t.length → tAt t r - tAt t (r - 1) = sOf (r - 1)
  hnarrow : ∀ r, r < t.length → (strict && decide (w < sOf r)) = false

/-- the left-boundary loop stops at the largest `l` that passes its test: if the test at `l` says `l ≤ L`, the search from
    any `l ≥ L` ends at `L`, having counted the present points it walked over; it fails iff it reaches 0 -/
theorem searchLeft_eq (t : List Int) (v : List Val) (wd : Wnd) (r L : Nat)
    (hw : ∀ l, 1 ≤ l → l ≤ r → wideEnough t wd r l = decide (l ≤ L)) :
    ∀ l n, L ≤ l → l ≤ r → searchLeft t v wd r l n = (L, cnt v L l + n, decide (L ≠ 0)) := by
  intro l
  induction l with
  | zero =>
    intro n hL _
    obtain rfl : L = 0 := Nat.le_zero.mp hL
    rw [cnt_self, Nat.zero_add]
    rfl
  | succ l ih =>
    intro n hL hlr
    rw [searchLeft, hw (l + 1) (Nat.succ_pos l) hlr]
    by_cases h : l + 1 ≤ L
    · obtain rfl : L = l + 1 := Nat.le_antisymm hL h
      rw [decide_eq_true h, if_pos rfl, cnt_self, Nat.zero_add]
      rfl
    · have hLl : L ≤ l := Nat.le_of_lt_succ (Nat.lt_of_not_le h)
      rw [decide_eq_false h, if_neg Bool.false_ne_true, ih _ hLl (Nat.le_of_succ_le hlr), cnt_succ v L l hLl]
      cases isPresent v l
      · rfl
      · show (L, cnt v L l + (n + 1), _) = (L, cnt v L l + 1 + n, _)
        rw [Nat.add_comm n 1, Nat.add_assoc]

/-- the cursor before the move to point `r`: the fields that never change, `s` = the bucket width of point r (the finest LOD
    step before the first move, then t[r+1] − t[r], stored by the previous move), and either the left edge is about to be
    reset (first move, one-point window) or the cursor holds the window of point r + 1 with `n` its number of present points -/
structure CursorBefore (c : GCtx) (v : List Val) (wd : Wnd) (r : Nat) : Prop where
  w : wd.w = c.w
  strict : wd.strict = c.strict
  notDone : wd.done = false
  right : wd.r = r + 1
  s : wd.s = c.sOf r
  left : r < wd.l ∨ (r + 1 < c.t.length ∧ wd.l = c.L (r + 1) ∧ wd.n = cnt v wd.l (r + 2))

theorem leftStart_spec (c : GCtx) (v : List Val) (wd : Wnd) (r : Nat) (h : CursorBefore c v wd r) (hr : r < c.t.length) :
    countStart v wd r = cnt v (leftStart wd r) (r + 1) ∧ c.L r ≤ leftStart wd r ∧ leftStart wd r ≤ r := by
  unfold countStart leftStart
  by_cases hl : wd.l > r
  · simp only [if_pos hl]
    rw [h.w, h.strict, h.s, c.hnarrow r hr, cnt_succ v r r (Nat.le_refl r), cnt_self]
    refine ⟨?_, c.hL r, Nat.le_refl r⟩
    cases isPresent v r <;> rfl
  · obtain ⟨hRlt, hlL, hn⟩ := h.left.resolve_left hl
    have hm := c.hmono r hRlt
    simp only [if_neg hl]
    refine ⟨?_, hlL ▸ hm, Nat.le_of_not_lt hl⟩
    rw [cnt_succ v wd.l (r + 1) (Nat.le_succ_of_le (Nat.le_of_not_lt hl))] at hn
    rw [h.right, hn]
    cases isPresent v (r + 1) <;> simp

/-- one move from that state: it fails exactly when point r has no complete window right of the guard point, and
    otherwise lands on the window L r … r -/
theorem moveOneLeft_eq (c : GCtx) (v : List Val) (wd : Wnd) (r : Nat) (h : CursorBefore c v wd r) (hr : r < c.t.length) :
    moveOneLeft c.t v wd =
      if c.L r = 0 then none
      else some { wd with l := c.L r, r := r, n := cnt v (c.L r) (r + 1), s := c.sOf (r - 1) } := by
  obtain ⟨hn0, hlo, hhi⟩ := leftStart_spec c v wd r h hr
  have hsearch := searchLeft_eq c.t v wd r (c.L r)
    (fun l h1 h2 => by
      rw [wideEnough_eq_wideAt, h.w, h.strict, h.s]
      exact c.hwide r l h1 h2 hr)
    _ (countStart v wd r) hlo hhi
  rw [hn0, ← cnt_add v (c.L r) _ (r + 1) hlo (Nat.le_succ_of_le hhi)] at hsearch
  have hw0 : decide (wd.w ≤ 0) = false := decide_eq_false (by rw [h.w]; exact not_le.mpr c.hw)
  unfold moveOneLeft
  simp only [h.notDone, Bool.false_eq_true, if_false, h.right, Nat.add_sub_cancel, hw0, Bool.false_and, finishMove]
  rw [hn0, hsearch]
  by_cases hL0 : c.L r = 0
  · simp [hL0]
  · have hL := c.hL r
    simp [hL0, c.hstep r (by omega) hr]

theorem setRight_n (v : List Val) (wd : Wnd) (x : Val) (hlr : wd.l ≤ wd.r) (hr : wd.r < v.length)
    (hn : wd.n = cnt v wd.l (wd.r + 1)) : (setRight v wd x).2.n = cnt (v.set wd.r x) wd.l (wd.r + 1) := by
  rw [cnt_succ v wd.l wd.r hlr] at hn
  rw [cnt_succ _ wd.l wd.r hlr, cnt_set v wd.r x wd.l wd.r (Nat.le_refl _), isPresent_set_self v wd.r x hr]
  show (if (!isPresent v wd.r && !x.isNone) = true then wd.n + 1
    else if (!!isPresent v wd.r && x.isNone) = true then wd.n - 1 else wd.n) = _
  rw [hn]
  cases x <;> cases isPresent v wd.r <;> simp

theorem slice_eq_of_take (v o : List Val) (l r : Nat) (h : v.take (r + 1) = o.take (r + 1)) : slice v l r = slice o l r := by
  unfold slice
  rw [← List.drop_take, ← List.drop_take, h]

/-- the definition: the function applied to the points L i … i, the nil value where none of them is present -/
def expAtG (c : GCtx) (fn : List Val → Val) (nilV : Val) (orig : List Val) (i : Nat) : Val :=
  if (present (slice orig (c.L i) i)).length = 0 then nilV else fn (slice orig (c.L i) i)

/-- the loop invariant before the move to point `r`: the cursor state, the values up to r untouched, the values right of r
    final (and each of those points has a complete window) -/
structure LoopInv (c : GCtx) (fn : List Val → Val) (nilV : Val) (orig v : List Val) (wd : Wnd) (r : Nat) : Prop where
  cursor : CursorBefore c v wd r
  inGrid : r < c.t.length
  length : v.length = c.t.length
  untouched : v.take (r + 1) = orig.take (r + 1)
  final : ∀ i, r < i → i < c.t.length → 1 ≤ c.L i ∧ v.getD i none = expAtG c fn nilV orig i

/-- `wd'` is what `moveOneLeft_eq` gives for the move to point r + 1 -/
theorem loopInv_step (c : GCtx) (fn : List Val → Val) (nilV : Val) (orig v : List Val) (wd : Wnd) (r : Nat)
    (h : LoopInv c fn nilV orig v wd (r + 1)) (hL0 : c.L (r + 1) ≠ 0) :
    let wd' : Wnd := { wd with l := c.L (r + 1), r := r + 1, n := cnt v (c.L (r + 1)) (r + 2), s := c.sOf r }
    let out := if wd'.n ≠ 0 then fn (slice v wd'.l wd'.r) else nilV
    LoopInv c fn nilV orig (setRight v wd' out).1 (setRight v wd' out).2 r := by
  intro wd' out
  have hLle := c.hL (r + 1)
  have hout : out = expAtG c fn nilV orig (r + 1) := by
    show (if cnt v (c.L (r + 1)) (r + 2) ≠ 0 then fn (slice v (c.L (r + 1)) (r + 1)) else nilV) = _
    rw [← slice_count, slice_eq_of_take v orig _ _ h.untouched, ite_not]
    rfl
  have hn := setRight_n v wd' out hLle (h.length ▸ h.inGrid) rfl
  refine {
    cursor := { h.cursor with right := rfl, s := rfl, left := Or.inr ⟨h.inGrid, rfl, hn⟩ }
    inGrid := Nat.lt_of_succ_lt h.inGrid
    length := ?_
    untouched := ?_
    final := ?_ }
  · show (v.set (r + 1) _).length = _
    rw [List.length_set, h.length]
  · show (v.set (r + 1) out).take (r + 1) = _
    have := congrArg (List.take (r + 1)) h.untouched
    rwa [List.take_take, List.take_take, Nat.min_eq_left (Nat.le_succ _),
      ← List.take_set_of_le (a := out) (Nat.le_refl _)] at this
  · intro i hi hiN
    show 1 ≤ c.L i ∧ (v.set (r + 1) out).getD i none = _
    rw [List.getD_eq_getElem?_getD]
    by_cases hie : i = r + 1
    · subst hie
      rw [List.getElem?_set_self (h.length ▸ hiN)]
      exact ⟨Nat.pos_of_ne_zero hL0, hout⟩
    · rw [List.getElem?_set_ne (Ne.symm hie), ← List.getD_eq_getElem?_getD]
      exact h.final i (by omega) hiN

theorem otLoop_spec (c : GCtx) (fn : List Val → Val) (nilV : Val) (orig : List Val) :
    ∀ (fuel r : Nat) (v : List Val) (wd : Wnd), LoopInv c fn nilV orig v wd r → r + 2 ≤ fuel →
      ∃ rf, c.L rf = 0 ∧ LoopInv c fn nilV orig (otLoop c.t fn nilV fuel v wd).1 (otLoop c.t fn nilV fuel v wd).2 rf := by
  intro fuel
  induction fuel with
  | zero => intro r v wd _ hf; omega
  | succ fuel ih =>
    intro r v wd h hf
    rw [otLoop, moveOneLeft_eq c v wd r h.cursor h.inGrid]
    by_cases hL0 : c.L r = 0
    · rw [if_pos hL0]
      exact ⟨r, hL0, h⟩
    · rw [if_neg hL0]
      have hL := c.hL r
      obtain ⟨r, rfl⟩ : ∃ r', r = r' + 1 := ⟨r - 1, by omega⟩
      exact ih r _ _ (loopInv_step c fn nilV orig v wd r h hL0) (by omega)

theorem mono_of_step {α : Type} [Preorder α] (f : Nat → α) (n : Nat) (h : ∀ i, i + 1 < n → f i ≤ f (i + 1)) :
    ∀ a b, a ≤ b → b < n → f a ≤ f b := by
  intro a b hab
  induction b, hab using Nat.le_induction with
  | base => exact fun _ => le_refl _
  | succ b _ ih => exact fun hb => le_trans (ih (by omega)) (h b hb)

theorem getD_map_range (n : Nat) (f : Nat → Val) (i : Nat) (h : i < n) : ((List.range n).map f).getD i none = f i := by
  rw [List.getD_eq_getElem?_getD, List.getElem?_map, List.getElem?_range h]
  rfl

/-- **the cursor-driven evaluation on an arbitrary grid**: point `i` carries the function of the points L i … i (the nil
    value when none is present); it is missing exactly where no complete window exists right of the guard point (L i = 0). -/
theorem overTimeWith_general (c : GCtx) (fn : List Val → Val) (nilV : Val) (orig : List Val) (hN : orig.length = c.t.length)
    (i : Nat) (hi : i < c.t.length) :
    (overTimeWith c.t c.w (c.sOf (c.t.length - 1)) c.strict fn nilV orig).getD i none =
      if c.L i = 0 then none else expAtG c fn nilV orig i := by
  obtain ⟨n, hn⟩ : ∃ n, c.t.length = n + 1 := ⟨c.t.length - 1, by omega⟩
  have hinit : LoopInv c fn nilV orig orig (newWindow c.t.length c.w (c.sOf (c.t.length - 1)) c.strict) n :=
    { cursor := { w := rfl, strict := rfl, notDone := decide_eq_false (by omega), right := hn, s := by rw [hn]; rfl,
                  left := Or.inl (by show n < c.t.length; omega) }
      inGrid := by omega
      length := hN
      untouched := rfl
      final := fun j h1 h2 => by omega }
  obtain ⟨rf, hLf, hend⟩ := otLoop_spec c fn nilV orig (orig.length + 1) _ _ _ hinit (by omega)
  unfold overTimeWith fillPrefix
  simp only []
  rw [hend.length, getD_map_range _ _ i hi, hend.cursor.right]
  by_cases hik : i < rf + 1
  · have := mono_of_step c.L c.t.length c.hmono i rf (Nat.le_of_lt_succ hik) hend.inGrid
    rw [if_pos hik, if_pos (by omega)]
  · have := hend.final i (by omega) hi
    rw [if_neg hik, if_neg (by omega)]
    exact this.2

-- the shape of a move in any cursor state (no `GCtx`); SH.Props.C27.moveOneLeft_shape rests on these two
theorem searchLeft_le {α : Type} (t : List Int) (v : List (Option α)) (wd : Wnd) (r l n : Nat) :
    (searchLeft t v wd r l n).1 ≤ l := by
  induction l generalizing n with
  | zero => exact Nat.le_refl _
  | succ l ih =>
    unfold searchLeft
    split
    · exact Nat.le_refl _
    · exact Nat.le_succ_of_le (ih _)

theorem finishMove_shape (t : List Int) (wd wd' : Wnd) (r l n : Nat) (f : Bool) (h : finishMove t wd r l n f = some wd') :
    wd'.r = r ∧ wd'.l = l ∧ wd'.w = wd.w ∧ wd'.strict = wd.strict := by
  unfold finishMove at h
  split at h
  · split at h
    · cases h
      exact ⟨rfl, rfl, rfl, rfl⟩
    · cases h
  · cases h
    exact ⟨rfl, rfl, rfl, rfl⟩

theorem otLoop_length {α : Type} (t : List Int) (fn : List (Option α) → Option α) (nilV : Option α) :
    ∀ (fuel : Nat) (v : List (Option α)) (wd : Wnd), (otLoop t fn nilV fuel v wd).1.length = v.length
  | 0, _, _ => rfl
  | fuel + 1, v, wd => by
    rw [otLoop]
    cases moveOneLeft t v wd with
    | none => rfl
    | some wd' => exact (otLoop_length t fn nilV fuel _ _).trans (List.length_set ..)

theorem length_overTimeWith {α : Type} (t : List Int) (range lodStep : Int) (strict : Bool) (fn : List (Option α) → Option α)
    (nilV : Option α) (v : List (Option α)) : (overTimeWith t range lodStep strict fn nilV v).length = v.length := by
  unfold overTimeWith fillPrefix
  simp only []
  rw [List.length_map, List.length_range, otLoop_length]

theorem wideAt_false (t : List Int) (w s : Int) (r l : Nat) : wideAt t w false s r l = decide (w ≤ tAt t r - tAt t l + s) :=
  Bool.or_false _

/-- not strict: the monotonicity of the left edge follows from its characterisation — the window of point r, closed at
    t[r] + sOf r = t[r+1], is contained in the window of point r+1 -/
theorem mono_of_wide_nonstrict (t : List Int) (w : Int) (sOf : Nat → Int) (L : Nat → Nat)
    (hL : ∀ r, L r ≤ r)
    (hwide : ∀ r l, 1 ≤ l → l ≤ r → r < t.length → wideAt t w false (sOf r) r l = decide (l ≤ L r))
    (hstep : ∀ r, 1 ≤ r → r < t.length → tAt t r - tAt t (r - 1) = sOf (r - 1))
    (hs : ∀ r, r < t.length → 0 ≤ sOf r) :
    ∀ r, r + 1 < t.length → L r ≤ L (r + 1) := by
  intro r hr
  by_contra hc
  have hlr := hL r
  have h1 := hwide r (L r) (by omega) hlr (by omega)
  have h2 := hwide (r + 1) (L r) (by omega) (by omega) hr
  rw [wideAt_false, decide_eq_true (Nat.le_refl _), decide_eq_true_eq] at h1
  rw [wideAt_false, decide_eq_false hc, decide_eq_false_iff_not] at h2
  have hst := hstep (r + 1) (by omega) hr
  have hs1 := hs (r + 1) hr
  rw [Nat.add_sub_cancel] at hst
  linarith

/-- the largest l in 1..n with P l, 0 if there is none -/
def findL (P : Nat → Bool) : Nat → Nat
  | 0 => 0
  | l + 1 => if P (l + 1) then l + 1 else findL P l

theorem findL_le (P : Nat → Bool) (n : Nat) : findL P n ≤ n := by
  induction n with
  | zero => exact Nat.le_refl _
  | succ n ih =>
    unfold findL
    split <;> omega

theorem findL_spec (P : Nat → Bool) (n : Nat) (hanti : ∀ l l', 1 ≤ l → l ≤ l' → l' ≤ n → P l' = true → P l = true) (l : Nat)
    (hl : 1 ≤ l) (hln : l ≤ n) : (l ≤ findL P n) ↔ P l = true := by
  induction n with
  | zero => omega
  | succ n ih =>
    unfold findL
    by_cases hp : P (n + 1) = true
    · rw [if_pos hp]
      exact ⟨fun _ => hanti l (n + 1) hl hln (Nat.le_refl _) hp, fun _ => hln⟩
    · rw [if_neg hp]
      by_cases he : l = n + 1
      · subst he
        have := findL_le P n
        exact ⟨fun h => by omega, fun h => absurd h hp⟩
      · exact ih (fun a b h1 h2 h3 h4 => hanti a b h1 h2 (by omega) h4) (by omega)

/-- bucket width of point r: the distance to the next point, the finest LOD step for the last one -/
def sOfGrid (t : List Int) (lodStep : Int) (r : Nat) : Int :=
  if r + 1 < t.length then tAt t (r + 1) - tAt t r else lodStep

/-- **the window edge in closed (computable) form**: the largest l ≥ 1 with w ≤ t_r − t_l + (bucket width of r) -/
def Lgrid (t : List Int) (w lodStep : Int) (r : Nat) : Nat :=
  findL (fun l => decide (w ≤ tAt t r - tAt t l + sOfGrid t lodStep r)) r

theorem grid_wide (t : List Int) (w lodStep : Int) (hgrid : ∀ i, i + 1 < t.length → tAt t i ≤ tAt t (i + 1))
    (r l : Nat) (hl : 1 ≤ l) (hlr : l ≤ r) (hr : r < t.length) :
    wideAt t w false (sOfGrid t lodStep r) r l = decide (l ≤ Lgrid t w lodStep r) := by
  rw [wideAt_false, Lgrid, decide_eq_decide, findL_spec _ r _ l hl hlr, decide_eq_true_eq]
  intro a b _ hab hbr hb
  rw [decide_eq_true_eq] at hb ⊢
  have := mono_of_step (tAt t) t.length hgrid a b hab (by omega)
  linarith

theorem grid_step (t : List Int) (lodStep : Int) (r : Nat) (h1 : 1 ≤ r) (hr : r < t.length) :
    tAt t r - tAt t (r - 1) = sOfGrid t lodStep (r - 1) := by
  have e : r - 1 + 1 = r := by omega
  rw [sOfGrid, e, if_pos hr]

theorem grid_width_nonneg (t : List Int) (lodStep : Int) (hlod : 0 ≤ lodStep)
    (hgrid : ∀ i, i + 1 < t.length → tAt t i ≤ tAt t (i + 1)) (r : Nat) : 0 ≤ sOfGrid t lodStep r := by
  unfold sOfGrid
  split
  · exact sub_nonneg.mpr (hgrid r ‹_›)
  · exact hlod

/-- every non-decreasing grid (in particular a coarse LOD followed by a finer one) with a positive range satisfies the
    hypotheses of the general cursor theorem for the functions that are not strict, with L = Lgrid: no per-grid check -/
def gridCtx (t : List Int) (w lodStep : Int) (hw : 0 < w) (hlod : 0 ≤ lodStep)
    (hgrid : ∀ i, i + 1 < t.length → tAt t i ≤ tAt t (i + 1)) : GCtx where
  t := t
  w := w
  strict := false
  sOf := sOfGrid t lodStep
  L := Lgrid t w lodStep
  hw := hw
  hL := fun r => findL_le _ r
  hwide := grid_wide t w lodStep hgrid
  hmono := mono_of_wide_nonstrict t w (sOfGrid t lodStep) (Lgrid t w lodStep) (fun r => findL_le _ r)
    (grid_wide t w lodStep hgrid) (grid_step t lodStep) (fun r _ => grid_width_nonneg t lodStep hlod hgrid r)
  hstep := grid_step t lodStep
  hnarrow := fun _ _ => rfl

end SH.PromWindowG
