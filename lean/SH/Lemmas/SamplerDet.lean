/-
  SH.Lemmas.SamplerDet — deterministic selection (the repo tests' SelectF = ⌊len/sf⌋, RoundF = floor) keeps at most
  the budget: the development behind `det_kept_le_budget` in SH.Props.C06. Induction over the partition tree:
  leaf (whales + selected rows ≤ len/sf rows), one group of the sampling loop (kept*denom ≤ budget), the sampling
  loop (Σ ⌊B'·w/W'⌋ ≤ B'), the keep loop (kept ≤ B - B' plus the fixed budgets used), `run` by induction on the remaining depth.
  `partition_no_fixed` is also used by the share theorems of SH.Props.C06.
-/
import SH.Lemmas.SamplerTree
import Mathlib.Tactic.Linarith

namespace SH.Sampler

/-- bytes kept by a list of callbacks (`quota` is `p.Size` of the row at its callback) -/
def keptSize (a : List Act) : Int := (((evs a).filter (·.kept)).map (·.quota)).sum

@[simp] theorem keptSize_nil : keptSize [] = 0 := rfl

theorem keptSize_append (a b : List Act) : keptSize (a ++ b) = keptSize a + keptSize b := by
  simp [keptSize, List.filter_append, List.map_append, List.sum_append]

theorem keptSize_err (w : String) (r : List Act) : keptSize (.err w :: r) = keptSize r := rfl

theorem keptSize_of_evs_nil (a : List Act) (h : evs a = []) : keptSize a = 0 := by simp [keptSize, h]

theorem keptSize_cons_ev (e : Ev) (r : List Act) :
    keptSize (.ev e :: r) = (if e.kept then e.quota else 0) + keptSize r := by
  simp only [keptSize, evs_ev, List.filter_cons]
  split <;> simp

theorem keptSize_map_ev (f : Item → Ev) (l : List Item) :
    keptSize (l.map fun it => Act.ev (f it)) = (l.map fun it => if (f it).kept then (f it).quota else 0).sum := by
  induction l with
  | nil => rfl
  | cons x xs ih => rw [List.map_cons, keptSize_cons_ev, ih, List.map_cons, List.sum_cons]

theorem keptSize_keepAll (l : List Item) : keptSize (keepAll l) = sumSizes l :=
  keptSize_map_ev keepEv l

theorem keptSize_sfKept (num den : Int) (l : List Item) :
    keptSize (l.map (fun it => Act.ev (sfEv it true num den))) = sumSizes l :=
  keptSize_map_ev _ l

theorem keptSize_map_dropped (f : Item → Ev) (h : ∀ it, (f it).kept = false) (l : List Item) :
    keptSize (l.map fun it => Act.ev (f it)) = 0 := by
  induction l with
  | nil => rfl
  | cons x xs ih =>
    rw [List.map_cons, keptSize_cons_ev, ih, h x]
    rfl

theorem sumSizes_uniform (l : List Item) (s : Int) (h : ∀ it ∈ l, it.size = s) : sumSizes l = l.length * s := by
  induction l with
  | nil => simp [sumSizes]
  | cons x xs ih =>
    rw [List.forall_mem_cons] at h
    have := ih h.2
    simp only [sumSizes, List.map_cons, List.sum_cons, List.length_cons] at *
    rw [this, h.1, Int.natCast_succ, Int.add_mul, Int.one_mul]
    omega

theorem detCount_le_len (n : Nat) (num den : Int) : detCount n num den ≤ n :=
  Nat.min_le_left _ _

theorem detCount_mul_le (n : Nat) (num den : Int) (hn : 0 < num) (hd : 0 ≤ den) :
    (detCount n num den : Int) * num ≤ n * den := by
  unfold detCount
  have h0 : 0 ≤ (n : Int) * den / num := Int.ediv_nonneg (Int.mul_nonneg (Int.natCast_nonneg n) hd) (Int.le_of_lt hn)
  have h2 : ((min n ((n : Int) * den / num).toNat : Nat) : Int) ≤ (n : Int) * den / num := by
    omega
  exact Int.le_trans (Int.mul_le_mul_of_nonneg_right h2 (Int.le_of_lt hn)) (Int.ediv_mul_le _ (Int.ne_of_gt hn))

theorem keptSize_selectDet (cfg : Cfg) (hm : cfg.mode = .det) (num den : Int) (l : List Item) (ds : List Nat) (s : Int)
    (hu : ∀ it ∈ l, it.size = s) :
    keptSize (selectPart cfg num den l ds).1 = (detCount l.length num den : Int) * s := by
  simp only [selectPart, hm, keptSize_append, keptSize_sfKept, keptSize_map_dropped (sfEv · false num den) (fun _ => rfl),
    Int.add_zero]
  rw [sumSizes_uniform _ s (fun it hit => hu it (List.mem_of_mem_take hit)), List.length_take,
    Nat.min_eq_left (detCount_le_len l.length num den)]

theorem whalePos_bound (g : Group) :
    (whalePos g : Int) ≤ (g.items.length : Int) * sfDenOf g / sfNumOf g / 2 ∧ whalePos g ≤ g.items.length := by
  unfold whalePos
  have hn := sfNumOf_ge g
  have hden := sfDenOf_ge g
  have h0 : 0 ≤ (g.items.length : Int) * sfDenOf g / sfNumOf g / 2 :=
    Int.ediv_nonneg (Int.ediv_nonneg (Int.mul_nonneg (Int.natCast_nonneg _) (by omega)) (by omega)) (by omega)
  omega

/-- whales plus deterministically selected rows are at most len/sf rows: with `q = ⌊n·den/num⌋`, `2·pos ≤ q` and
    `k·2·num ≤ (n-pos)·den` add up to `2·(pos+k)·num ≤ q·num + n·den ≤ 2·n·den` -/
theorem whales_plus_det_le (n : Nat) (num den : Int) (hn : 0 < num) (hd : 0 ≤ den) (pos : Nat)
    (hpos : (pos : Int) ≤ (n : Int) * den / num / 2) (hle : pos ≤ n) :
    ((pos + detCount (n - pos) (2 * num) den : Nat) : Int) * num ≤ n * den := by
  have hk := detCount_mul_le (n - pos) (2 * num) den (by omega) hd
  have h2 := Int.ediv_mul_le ((n : Int) * den) (Int.ne_of_gt hn)
  have h3 : 2 * (pos : Int) * num ≤ (n : Int) * den / num * num :=
    Int.mul_le_mul_of_nonneg_right (by omega) (Int.le_of_lt hn)
  have h4 : 0 ≤ (pos : Int) * den := Int.mul_nonneg (Int.natCast_nonneg _) hd
  rw [Int.natCast_sub hle, Int.sub_mul, ← Int.mul_assoc, Int.mul_right_comm] at hk
  rw [Int.mul_assoc] at h3
  rw [Int.natCast_add, Int.add_mul]
  omega

/-- count bound ⇒ size bound for `c` kept rows of a leaf of `n` rows of size `s ≥ 2`; with budget 0 the clamp `sfDen = 1`
    still forces `c = 0`, because `sfNum ≥ 2n` -/
theorem count_to_size (n c : Int) (s d b : Int) (hn : 0 < n) (hc : 0 ≤ c) (hs : 2 ≤ s) (hden : 1 ≤ d) (hb : 0 ≤ b)
    (h : c * (d * (n * s)) ≤ n * (if b < 1 then 1 else b)) : c * s * d ≤ b := by
  rw [Int.mul_left_comm d, Int.mul_left_comm c, Int.mul_comm d, ← Int.mul_assoc c] at h
  have h' := Int.le_of_mul_le_mul_left h hn
  split at h'
  · have hsd : 1 * 2 ≤ d * s := Int.mul_le_mul hden hs (by omega) (by omega)
    have hc0 : c = 0 := by
      by_contra hne
      have : 1 * (1 * 2) ≤ c * (d * s) := Int.mul_le_mul (by omega) hsd (by omega) hc
      rw [Int.mul_comm d s, ← Int.mul_assoc c] at this
      omega
    rw [hc0, Int.zero_mul, Int.zero_mul]
    exact hb
  · exact h'

theorem sampleRows_det_count (cfg : Cfg) (hm : cfg.mode = .det) (hks : cfg.keepSingle = false) (q : Group) (ds : List Nat)
    (s : Int) (hu : ∀ it ∈ q.items, it.size = s) :
    ∃ c : Nat, keptSize (sampleRows cfg q ds).1 = c * s ∧ (c : Int) * sfNumOf q ≤ q.items.length * sfDenOf q := by
  have hn := sfNumOf_ge q
  have hden := sfDenOf_ge q
  rcases sampleRows_cases cfg q ds with ⟨hwhy, h⟩ | ⟨_, ⟨_, h⟩ | h⟩ <;> rw [h]
  · refine ⟨q.items.length, by rw [keptSize_keepAll, sumSizes_uniform _ s hu], ?_⟩
    rcases hwhy with h0 | h1 | hfit
    · rw [h0, List.length_nil, Int.natCast_zero, Int.zero_mul, Int.zero_mul]
    · simp [keepSingleHit, hks] at h1
    · simp only [fitShortcut, Bool.and_eq_true, decide_eq_true_eq] at hfit
      exact Int.mul_le_mul_of_nonneg_left hfit.2 (Int.natCast_nonneg _)
  · have hperm := isort_perm whaleLe q.items
    have hus : ∀ it ∈ isort whaleLe q.items, it.size = s := fun it hit => hu it (hperm.mem_iff.1 hit)
    have hw := whalePos_bound q
    refine ⟨whalePos q + detCount (q.items.length - whalePos q) (2 * sfNumOf q) (sfDenOf q), ?_,
      whales_plus_det_le _ _ _ (by omega) (by omega) _ hw.1 hw.2⟩
    rw [keptSize_append, keptSize_keepAll,
      sumSizes_uniform _ s (fun it hit => hus it (List.mem_of_mem_take hit)),
      keptSize_selectDet cfg hm _ _ _ _ s (fun it hit => hus it (List.mem_of_mem_drop hit)),
      List.length_take, List.length_drop, hperm.length_eq, Nat.min_eq_left hw.2, Int.natCast_add, Int.add_mul]
  · exact ⟨_, keptSize_selectDet cfg hm _ _ _ _ s hu, detCount_mul_le _ _ _ (by omega) (by omega)⟩

theorem sampleRows_det_le (cfg : Cfg) (hm : cfg.mode = .det) (hks : cfg.keepSingle = false) (q : Group) (ds : List Nat)
    (s : Int) (hs : 2 ≤ s) (hu : ∀ it ∈ q.items, it.size = s) (hsum : q.sumSize = sumSizes q.items)
    (hden : 1 ≤ q.denom) (hb : 0 ≤ q.budget) :
    keptSize (sampleRows cfg q ds).1 * q.denom ≤ q.budget := by
  cases hq : q.items with
  | nil => simpa [sampleRows, hq] using hb
  | cons x xs =>
    obtain ⟨c, hc, hle⟩ := sampleRows_det_count cfg hm hks q ds s hu
    have hlen : 1 ≤ (q.items.length : Int) := by
      rw [hq, List.length_cons]
      omega
    have hnum : sfNumOf q = q.denom * (q.items.length * s) := by
      unfold sfNumOf
      rw [hsum, sumSizes_uniform _ s hu]
      have : 0 < q.denom * ((q.items.length : Int) * s) := Int.mul_pos (by omega) (Int.mul_pos (by omega) (by omega))
      exact if_neg (by omega)
    rw [hnum] at hle
    rw [hc]
    exact count_to_size _ c s q.denom q.budget (by omega) (Int.natCast_nonneg c) hs hden hb hle

theorem handle_det_le (cfg : Cfg) (hm : cfg.mode = .det) (hks : cfg.keepSingle = false)
    (hns : cfg.agent = false ∨ cfg.disableNoSample = true)
    (rec : Group → List Nat → List Act × List Nat) (q : Group)
    (hden : 1 ≤ q.denom) (hbud : 0 ≤ q.budget) (hfx : q.fixed = true → q.denom = 1)
    (hleaf : recurses cfg q = false → ∃ s : Int, 2 ≤ s ∧ (∀ it ∈ q.items, it.size = s) ∧ q.sumSize = sumSizes q.items)
    (hrec : recurses cfg q = true → ∀ (b : Int) (ds' : List Nat), 0 ≤ b →
      keptSize (rec { q with budget := b, denom := 1 } ds').1 ≤ b)
    (ds : List Nat) :
    keptSize (handle cfg rec q ds).1 * q.denom ≤ q.budget := by
  have hnoS : noSampleHit cfg q = false := by
    rcases hns with h | h <;> simp [noSampleHit, h]
  cases hr : recurses cfg q with
  | true =>
    obtain ⟨b, -, hb, h⟩ := rounded_eq cfg q ds hfx
    rw [handle_recurses hnoS hr, keptSize_append, keptSize_of_evs_nil _ (evs_rounded cfg q ds), Int.zero_add, h, hb hm]
    have := hrec hr (q.budget / q.denom) (rounded cfg q ds).2.1 (Int.ediv_nonneg hbud (by omega))
    exact Int.le_trans (Int.mul_le_mul_of_nonneg_right this (by omega)) (Int.ediv_mul_le q.budget (by omega))
  | false =>
    obtain ⟨s, hs, hu, hsum⟩ := hleaf hr
    rw [handle_leaf hnoS hr, leaf_of_not_quota (by rw [hm]; decide)]
    exact sampleRows_det_le cfg hm hks q ds s hs hu hsum hden hbud

/-- sum of the fixed budgets of the groups that have one -/
def fxBudget : List Group → Int
  | [] => 0
  | g :: gs => (if g.fixed then g.budget else 0) + fxBudget gs

theorem fxBudget_nonneg (s : List Group) (h : ∀ p ∈ s, p.fixed = true → 0 ≤ p.budget) : 0 ≤ fxBudget s := by
  induction s with
  | nil => simp [fxBudget]
  | cons g gs ih =>
    rw [List.forall_mem_cons] at h
    have := ih h.2
    simp only [fxBudget]
    split
    · have := h.1 ‹_›
      omega
    · omega

theorem fxBudget_perm {a b : List Group} (h : a.Perm b) : fxBudget a = fxBudget b :=
  perm_sum_eq fxBudget _ (fun _ _ => rfl) h

theorem fxBudget_no_fixed (s : List Group) (h : ∀ p ∈ s, p.fixed = false) : fxBudget s = 0 := by
  induction s with
  | nil => rfl
  | cons g gs ih => simp [fxBudget, h g (by simp), ih (fun x hx => h x (by simp [hx]))]

/-- what the induction needs to know about a partition `p` handled by the sampling loop; `rec` is `run` one level deeper -/
def DetOK (cfg : Cfg) (rec : Group → List Nat → List Act × List Nat) (p : Group) : Prop :=
  0 < p.weight ∧ (p.fixed = true → p.denom = 1 ∧ 0 ≤ p.budget) ∧
  (recurses cfg p = false → ∃ s : Int, 2 ≤ s ∧ (∀ it ∈ p.items, it.size = s) ∧ p.sumSize = sumSizes p.items) ∧
  (recurses cfg p = true → ∀ (q' : Group) (ds' : List Nat), q'.items = p.items → q'.depth = p.depth → q'.denom = 1 →
      q'.sumSize = p.sumSize → 0 ≤ q'.budget → keptSize (rec q' ds').1 ≤ q'.budget)

/-- the sampling loop keeps at most the floor-rounded shares `⌊B*w/W⌋` of the groups without fixed budget, which sum to
    at most `⌊B*Σw/W⌋`, plus the fixed budgets; once only groups with a fixed budget are left `W` may be 0 and is not used -/
theorem sampleLoop_det_le (cfg : Cfg) (hm : cfg.mode = .det) (hks : cfg.keepSingle = false)
    (hns : cfg.agent = false ∨ cfg.disableNoSample = true)
    (rec : Group → List Nat → List Act × List Nat) (B W : Int) (hB : 0 ≤ B) :
    ∀ (gs : List Group) (ds : List Nat), (∀ p ∈ gs, DetOK cfg rec p) → (∀ p ∈ gs, p.fixed = false → 1 ≤ W) →
      keptSize (sampleLoop cfg rec B W gs ds).1 ≤ B * nfWeight gs / W + fxBudget gs := by
  intro gs
  induction gs with
  | nil =>
    intro ds _ _
    simp [sampleLoop, nfWeight, fxBudget]
  | cons p gs ih =>
    intro ds hok hW
    rw [List.forall_mem_cons] at hok hW
    obtain ⟨hpw, hpfx, hpleaf, hprec⟩ := hok.1
    -- the sampling loop hands `p` to `rec` with a new budget and denominator 1
    replace hprec : recurses cfg p = true → ∀ (b : Int) (ds' : List Nat), 0 ≤ b →
        keptSize (rec { p with budget := b, denom := 1 } ds').1 ≤ b :=
      fun hr b ds' hb => hprec hr _ ds' rfl rfl rfl rfl hb
    have ih' := ih (handle cfg rec (assign B W p) ds).2 hok.2 hW.2
    simp only [sampleLoop, keptSize_append, keptSize_of_evs_nil _ (evs_markSample _ _), nfWeight, fxBudget]
    -- `assign` changes budget and denominator only, which `hpleaf` and `hprec` do not mention
    cases hpf : p.fixed with
    | true =>
      have := handle_det_le cfg hm hks hns rec p (Int.le_of_eq (hpfx hpf).1.symm) (hpfx hpf).2 (fun _ => (hpfx hpf).1)
        hpleaf hprec ds
      rw [(hpfx hpf).1, Int.mul_one] at this
      rw [assign_fixed B W hpf] at ih' ⊢
      rw [if_pos rfl, if_pos rfl, Int.zero_add (nfWeight gs)]
      omega
    | false =>
      have hW1 := hW.1 hpf
      have : keptSize (handle cfg rec { p with budget := B * p.weight, denom := W } ds).1 * W ≤ B * p.weight :=
        handle_det_le cfg hm hks hns rec { p with budget := B * p.weight, denom := W } hW1
          (Int.mul_nonneg hB (by omega)) (fun h => absurd (hpf.symm.trans h) (by decide)) hpleaf hprec ds
      have h1 := Int.le_ediv_of_mul_le (by omega) this
      have h2 := Int.ediv_add_ediv_le_add_ediv (x := B * p.weight) (y := B * nfWeight gs) (z := W) (by omega)
      rw [← Int.mul_add] at h2
      rw [assign_not_fixed B W hpf] at ih' ⊢
      rw [if_neg Bool.false_ne_true, if_neg Bool.false_ne_true]
      omega

theorem keepLoop_budget (s : List Group) (B W : Int) (hB : 0 ≤ B) (hgood : ∀ g ∈ s, GoodPart g) (hW : nfWeight s ≤ W) :
    keptSize (keptActs B W s) + restB B W s + fxBudget (restGroups B W s) ≤ B + fxBudget s ∧
    0 ≤ restB B W s ∧ nfWeight (restGroups B W s) ≤ restW B W s := by
  induction s generalizing B W with
  | nil =>
    simp only [keptActs, restB, restGroups, restW, fxBudget, keptSize_nil, Int.zero_add]
    exact ⟨Int.le_refl _, hB, hW⟩
  | cons g gs ih =>
    rw [List.forall_mem_cons] at hgood
    cases hg : fits (assign B W g) with
    | false =>
      simp only [keptActs, restB, restGroups, restW, hg, Bool.false_eq_true, if_false, keptSize_nil]
      exact ⟨by omega, hB, hW⟩
    | true =>
      have hsW := stepW_sub W g gs
      -- a kept group is paid from its own fixed budget, or from `B`
      have hpaid : g.sumSize + stepB B g + fxBudget gs ≤ B + fxBudget (g :: gs) ∧ 0 ≤ stepB B g := by
        cases hgf : g.fixed with
        | true =>
          have := (fits_assign_fixed B W g hgf (hgood.1.fixed_denom hgf)).1 hg
          simp only [stepB, fxBudget, hgf, if_true]
          omega
        | false =>
          have hfit := (fits_assign_not_fixed B W g hgf).1 hg
          have hnn := nfWeight_nonneg gs fun x hx => (hgood.2 x hx).weight_pos
          have hgw := hgood.1.weight_pos
          simp only [nfWeight, hgf, Bool.false_eq_true, if_false] at hW
          have h1 : B * g.weight ≤ B * W := Int.mul_le_mul_of_nonneg_left (by omega) hB
          have hle : g.sumSize ≤ B :=
            Int.le_of_mul_le_mul_left (Int.le_trans hfit (Int.mul_comm B W ▸ h1)) (by omega)
          simp only [stepB, fxBudget, hgf, Bool.false_eq_true, if_false]
          omega
      obtain ⟨h1, h2, h3⟩ := ih (stepB B g) (stepW W g) hpaid.2 hgood.2 (by omega)
      simp only [keptActs, restB, restGroups, restW, hg, if_true, keptSize_append, keptSize_of_evs_nil _ (evs_markKeep _), keptSize_keepAll,
        ← hgood.1.size_eq]
      exact ⟨by omega, h2, h3⟩

theorem nfWeight_le_partWeight (cfg : Cfg) (g : Group) : nfWeight (partition cfg g) ≤ partWeight cfg g := by
  rcases partWeight_cases cfg g with h | ⟨h1, hall⟩
  · exact Int.le_of_eq h.symm
  · rw [h1, nfWeight_all_fixed _ hall]
    decide

theorem level_det_le (cfg : Cfg) (hm : cfg.mode = .det) (hks : cfg.keepSingle = false)
    (hns : cfg.agent = false ∨ cfg.disableNoSample = true) (fuel : Nat) (g : Group) (ds : List Nat)
    (hB : 0 ≤ g.budget) (hw : ∀ it ∈ g.items, 0 < it.wMetric) (hs : ∀ it ∈ g.items, 0 ≤ it.size)
    (hok : ∀ p ∈ partition cfg g, DetOK cfg (run fuel cfg) p) :
    keptSize (run (fuel + 1) cfg g ds).1 ≤ g.budget + fxBudget (partition cfg g) := by
  have hgood := partition_good cfg g hw hs
  have hWle := nfWeight_le_partWeight cfg g
  have hperm := isort_perm groupLe (partition cfg g)
  have hmem := fun p => (hperm.mem_iff (a := p)).1
  rw [run_succ_fst, keptSize_append, ← fxBudget_perm hperm]
  rw [← nfWeight_perm hperm] at hWle
  generalize isort groupLe (partition cfg g) = s at *
  generalize partWeight cfg g = W at *
  obtain ⟨h1, h2, h3⟩ := keepLoop_budget s g.budget W hB (fun p hp => hgood p (hmem p hp)) hWle
  have hsub := restGroups_subset g.budget W s
  have hrestw : ∀ p ∈ restGroups g.budget W s, 0 < p.weight := fun p hp => (hgood p (hmem p (hsub p hp))).weight_pos
  -- kept ≤ (B − B') + ⌊B'·Σw/W'⌋ + fixed budgets ≤ B + fixed budgets, with (B', W') what the keep loop left
  have h4 := sampleLoop_det_le cfg hm hks hns (run fuel cfg) _ (restW g.budget W s) h2 _ ds
    (fun p hp => hok p (hmem p (hsub p hp)))
    (fun p hp hpf => by
      have := weight_le_nfWeight _ hrestw p hp hpf
      have := hrestw p hp
      omega)
  have h5 : restB g.budget W s * nfWeight (restGroups g.budget W s) / restW g.budget W s ≤ restB g.budget W s := by
    by_cases hWpos : 0 < restW g.budget W s
    · exact Int.ediv_le_of_le_mul hWpos (Int.mul_le_mul_of_nonneg_left h3 h2)
    · have := nfWeight_nonneg _ hrestw
      rw [show nfWeight (restGroups g.budget W s) = 0 by omega, Int.mul_zero, Int.zero_ediv]
      exact h2
  omega

theorem partition_fixed_budget (cfg : Cfg) (g : Group) : ∀ p ∈ partition cfg g, p.fixed = true → 0 ≤ p.budget :=
  fun p hp hf => Int.le_of_lt ((partition_part cfg g p hp).fixed_budget hf)

theorem partition_no_fixed (cfg : Cfg) (g : Group) (hk : kindAt cfg g.depth ≠ .byBudget) :
    ∀ p ∈ partition cfg g, p.fixed = false :=
  fun p hp => Bool.eq_false_iff.2 fun hf => hk ((partition_part cfg g p hp).fixed_byBudget hf)

def Homog (l : List Item) : Prop := ∀ x ∈ l, ∀ y ∈ l, x.metric = y.metric

/-- rows of one metric have one size (the hypothesis under which kept COUNT bounds are kept SIZE bounds) -/
def MetricUniform (l : List Item) : Prop := ∀ a ∈ l, ∀ b ∈ l, a.metric = b.metric → a.size = b.size

/-- a group is at or below the metric level, or above it with enough fuel left to reach it -/
def HInv (cfg : Cfg) (fuel : Nat) (g : Group) : Prop :=
  Homog g.items ∨ (g.depth < nPart cfg ∧ nPart cfg ≤ g.depth + fuel)

theorem homog_uniform (l : List Item) (hh : Homog l) (hu : MetricUniform l) (h2 : ∀ it ∈ l, 2 ≤ it.size) :
    ∃ s : Int, 2 ≤ s ∧ ∀ it ∈ l, it.size = s := by
  cases l with
  | nil => exact ⟨2, by omega, by simp⟩
  | cons x xs =>
    exact ⟨x.size, h2 x (by simp), fun it hit => hu it hit x (by simp) (hh it hit x (by simp))⟩

/-- the partitions of `g` are `DetOK` once `run` with one unit of fuel less satisfies the induction statement `ih` -/
theorem detOK_of_partition (cfg : Cfg) (n : Nat) (g : Group)
    (hinv : HInv cfg (n + 1) g) (hrows : ∀ it ∈ g.items, 0 < it.wMetric ∧ 2 ≤ it.size) (hu : MetricUniform g.items)
    (ih : ∀ (q : Group) (ds : List Nat), q.denom = 1 → 0 ≤ q.budget → 1 ≤ q.depth → q.sumSize = sumSizes q.items →
      HInv cfg n q → (∀ it ∈ q.items, 0 < it.wMetric ∧ 2 ≤ it.size) → MetricUniform q.items →
      keptSize (run n cfg q ds).1 ≤ q.budget) :
    ∀ p ∈ partition cfg g, DetOK cfg (run n cfg) p := by
  intro p hp
  have hpart := partition_part cfg g p hp
  have hdgt := hpart.depth_gt
  have hprows : ∀ it ∈ p.items, 0 < it.wMetric ∧ 2 ≤ it.size := fun it hit => hrows it (hpart.sub it hit)
  have hpu : MetricUniform p.items := PerMetric.subset (f := (·.size)) hu hpart.sub
  have hcase : Homog p.items ∨ (p.depth < nPart cfg ∧ nPart cfg ≤ p.depth + n) := by
    rcases hinv with hh | ⟨hlt, hf⟩
    · exact Or.inl (fun x hx y hy => hh x (hpart.sub x hx) y (hpart.sub y hy))
    · rcases hpart.flag hlt with ⟨hmet, _⟩ | ⟨_, hpd⟩
      · exact Or.inl (fun x hx y hy => by rw [hmet x hx, hmet y hy])
      · exact Or.inr ⟨hpd, by omega⟩
  refine ⟨hpart.weight_pos fun it hit => (hrows it hit).1,
    fun hf => ⟨hpart.fixed_denom hf, Int.le_of_lt (hpart.fixed_budget hf)⟩, ?_, ?_⟩
  · intro hr
    have hh : Homog p.items := by
      rcases hcase with hh | ⟨hpd, _⟩
      · exact hh
      · simp only [recurses, decide_eq_false_iff_not] at hr
        omega
    obtain ⟨s, hs2, hs⟩ := homog_uniform p.items hh hpu (fun it hit => (hprows it hit).2)
    exact ⟨s, hs2, hs, hpart.size_eq⟩
  · intro _ q' ds' hitems hdepth hden hsz hbud
    rw [← hitems] at hcase hprows hpu
    rw [← hdepth] at hcase
    have hsum : q'.sumSize = sumSizes q'.items := by
      rw [hsz, hitems]
      exact hpart.size_eq
    exact ih q' ds' hden hbud (by omega) hsum hcase hprows hpu

/-- the induction over the partition tree, for groups of depth ≥ 1 (no fixed budgets there): kept ≤ budget -/
theorem run_det_child (cfg : Cfg) (hm : cfg.mode = .det) (hks : cfg.keepSingle = false)
    (hns : cfg.agent = false ∨ cfg.disableNoSample = true) (fuel : Nat) :
    ∀ (q : Group) (ds : List Nat), q.denom = 1 → 0 ≤ q.budget → 1 ≤ q.depth → q.sumSize = sumSizes q.items →
      HInv cfg fuel q → (∀ it ∈ q.items, 0 < it.wMetric ∧ 2 ≤ it.size) → MetricUniform q.items →
      keptSize (run fuel cfg q ds).1 ≤ q.budget := by
  induction fuel with
  | zero =>
    intro q ds hden hbud _ hsum hinv hrows hu
    have hh : Homog q.items := by
      rcases hinv with hh | ⟨h1, h2⟩
      · exact hh
      · omega
    obtain ⟨s, hs2, hs⟩ := homog_uniform q.items hh hu (fun it hit => (hrows it hit).2)
    rw [run_zero_fst, keptSize_err, leaf_of_not_quota (by rw [hm]; decide)]
    have := sampleRows_det_le cfg hm hks q ds s hs2 hs hsum (by omega) hbud
    rw [hden] at this
    omega
  | succ n ih =>
    intro q ds hden hbud hdep hsum hinv hrows hu
    have hk := kindAt_ne_byBudget_of_pos cfg q.depth hdep
    have hok := detOK_of_partition cfg n q hinv hrows hu ih
    have := level_det_le cfg hm hks hns n q ds hbud (fun it hit => (hrows it hit).1)
      (fun it hit => by have := (hrows it hit).2; omega) hok
    rw [fxBudget_no_fixed _ (partition_no_fixed cfg q hk)] at this
    omega

/-- any level; below the top level there are no fixed budgets (`run_det_child`) -/
theorem run_det_le (cfg : Cfg) (hm : cfg.mode = .det) (hks : cfg.keepSingle = false)
    (hns : cfg.agent = false ∨ cfg.disableNoSample = true) (n : Nat) (g : Group) (ds : List Nat) (hB : 0 ≤ g.budget)
    (hinv : HInv cfg (n + 1) g) (hrows : ∀ it ∈ g.items, 0 < it.wMetric ∧ 2 ≤ it.size) (hu : MetricUniform g.items) :
    keptSize (run (n + 1) cfg g ds).1 ≤ g.budget + fxBudget (partition cfg g) :=
  level_det_le cfg hm hks hns n g ds hB (fun it hit => (hrows it hit).1)
    (fun it hit => by have := (hrows it hit).2; omega)
    (detOK_of_partition cfg n g hinv hrows hu (run_det_child cfg hm hks hns n))

end SH.Sampler
