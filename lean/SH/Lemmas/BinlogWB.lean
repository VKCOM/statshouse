/-
  SH.Lemmas.BinlogWB — `writeBuffer` writes exactly the chunks of the layout (contents, not only byte counts), for Props/C18:
  two equations of `writeBuffer` for a buffer that grows at its end (`writeBuffer_append`, `writeBuffer_rot`), under `WF`
  (Lemmas/BinlogWriter) of the rotation positions for the buffer before it grew, then the batch taken apart from its last append
  (`writeBuffer_runAll`).
-/
import SH.Lemmas.BinlogAll
import SH.Lemmas.BinlogWriter
open SH.Binlog
namespace SH.C18

theorem slice_pre (x y z : Bytes) (i : Nat) (hi : i ≤ x.length) :
    slice (x ++ (y ++ z)) i (x.length + y.length) = x.drop i ++ y := by
  unfold slice
  rw [List.drop_append_of_le_length hi, ← List.append_assoc, List.take_append_of_le_length (by simp; omega)]
  rw [List.take_of_length_le (by simp; omega)]

theorem slice_mid (x y z : Bytes) : slice (x ++ (y ++ z)) x.length (x.length + y.length) = y := by
  have := slice_pre x y z x.length (Nat.le_refl _)
  simpa using this

theorem slice_append_left (b X : Bytes) (i : Nat) {j : Nat} (hj : j ≤ b.length) : slice (b ++ X) i j = slice b i j := by
  unfold slice
  by_cases hi : i ≤ b.length
  · have hl : j - i ≤ (b.drop i).length := by
      rw [List.length_drop]
      omega
    rw [List.drop_append_of_le_length hi, List.take_append_of_le_length hl]
  · rw [show j - i = 0 by omega, List.take_zero, List.take_zero]

/-- the slices `writeBuffer` takes at a rotation position that lies 36 bytes behind `b`: the buffer is `b ++ RT ++ RF`; nothing is
    left behind them for the current file (the `[]` case of `writeBuffer`) -/
theorem slices_rot (b RT RF : Bytes) (prev : Nat) (hT : RT.length = 36) (hF : RF.length = 36) :
    slice (b ++ (RT ++ RF)) prev (b.length + 36 - levRotateSize) = b.drop prev ∧
    slice (b ++ (RT ++ RF)) (b.length + 36 - levRotateSize) (b.length + 36) = RT ∧
    slice (b ++ (RT ++ RF)) (b.length + 36) (b.length + 36 + levRotateSize) = RF ∧
    (b ++ (RT ++ RF)).drop (b.length + 36 + levRotateSize) = [] := by
  have e : b.length + 36 - levRotateSize = b.length := rfl
  rw [e]
  refine ⟨?_, ?_, ?_, ?_⟩
  · have hl : (b.drop prev).length ≤ b.length - prev := by
      rw [List.length_drop]
      exact Nat.le_refl _
    rw [slice_append_left _ _ _ (Nat.le_refl _), slice, List.take_of_length_le hl]
  · rw [← hT]
    exact slice_mid _ _ _
  · rw [show b ++ (RT ++ RF) = (b ++ RT) ++ (RF ++ []) by simp only [List.append_assoc, List.append_nil],
      show b.length + 36 = (b ++ RT).length by rw [List.length_append, hT], show levRotateSize = RF.length from hF.symm]
    exact slice_mid _ _ _
  · apply List.drop_of_length_le
    simp only [List.length_append, hT, hF, levRotateSize]
    omega

/-- bytes appended to the buffer behind the last rotation position go to the current file -/
theorem writeBuffer_append (buff X : Bytes) : ∀ (ps : List Nat) (l : LS) (prev : Nat), WF buff.length prev ps →
    writeBuffer l (buff ++ X) prev ps = { writeBuffer l buff prev ps with cur := (writeBuffer l buff prev ps).cur.write X }
  | [], l, prev, h => by
    simp only [writeBuffer, List.drop_append_of_le_length h, FileS.write, List.append_assoc]
  | p :: ps, l, prev, ⟨_, hb, c⟩ => by
    rw [writeBuffer, writeBuffer, levRotateSize, slice_append_left _ _ _ (by omega), slice_append_left _ _ _ (by omega),
      slice_append_left _ _ _ hb]
    exact writeBuffer_append buff X ps _ _ c

/-- a ROTATE_TO/ROTATE_FROM pair appended to the buffer, with its rotation position: one more `rotate` -/
theorem writeBuffer_rot (b RT RF : Bytes) (hT : RT.length = 36) (hF : RF.length = 36) :
    ∀ (ps : List Nat) (l : LS) (prev : Nat), WF b.length prev ps →
      writeBuffer l (b ++ (RT ++ RF)) prev (ps ++ [b.length + 36]) = rotateFS (writeBuffer l b prev ps) RT RF
  | [], l, prev, _ => by
    obtain ⟨s1, s2, s3, s4⟩ := slices_rot b RT RF prev hT hF
    simp only [List.nil_append, writeBuffer, s1, s2, s3, s4, FileS.write, List.append_nil]
  | p :: ps, l, prev, ⟨_, hb, c⟩ => by
    rw [List.cons_append, writeBuffer, writeBuffer, levRotateSize, slice_append_left _ _ _ (by omega),
      slice_append_left _ _ _ (by omega), slice_append_left _ _ _ hb]
    exact writeBuffer_rot b RT RF hT hF ps _ _ c

/-- what a batch of appends left in an empty buffer: its rotation positions are well formed for it (`WF`, what the two equations
    above ask for), and `writeBuffer` on it writes the chunks of `splitC`; `c` is the current chunk.
    By the last append of the batch (`rs` is the batch reversed): `apNext_buff_rotPos` says what it added. -/
theorem writeBuffer_runAll (cfg : Cfg) (l : LS) (w0 : WS) (hb : w0.buff = []) (hr : w0.rotPos = []) (c : Cur)
    (hc : c.bytes = l.cur.data) : ∀ (rs : List Ap),
      WF (runAll cfg w0 rs.reverse).buff.length 0 (runAll cfg w0 rs.reverse).rotPos ∧
      (writeBuffer l (runAll cfg w0 rs.reverse).buff 0 (runAll cfg w0 rs.reverse).rotPos).cur.data
        = (splitC cfg w0 rs.reverse c).2.bytes ∧
      (writeBuffer l (runAll cfg w0 rs.reverse).buff 0 (runAll cfg w0 rs.reverse).rotPos).older.map (·.data)
        = (splitC cfg w0 rs.reverse c).1.reverse ++ l.older.map (·.data)
  | [] => by
    simp only [List.reverse_nil, runAll, splitC, hb, hr, writeBuffer, FileS.write, hc]
    exact ⟨Nat.le_refl _, by simp, rfl⟩
  | r :: rs => by
    obtain ⟨iw, ic, io⟩ := writeBuffer_runAll cfg l w0 hb hr c hc rs
    obtain ⟨eb, ep⟩ := apNext_buff_rotPos cfg (runAll cfg w0 rs.reverse) r
    obtain ⟨e1, e2⟩ := splitC_append cfg rs.reverse [r] w0 c
    have iw' : WF ((runAll cfg w0 rs.reverse).buff ++ apA cfg (runAll cfg w0 rs.reverse) r).length 0
        (runAll cfg w0 rs.reverse).rotPos := by
      refine WF_mono ?_ iw
      rw [List.length_append]
      exact Nat.le_add_right _ _
    rw [List.reverse_cons, runAll_append, e1, e2, show ∀ w, runAll cfg w [r] = apNext cfg w r from fun _ => rfl, eb, ep]
    cases hrot : rotates cfg (runAll cfg w0 rs.reverse) r with
    | false =>
      simp only [Bool.false_eq_true, if_false, List.append_nil, splitC, hrot]
      rw [writeBuffer_append _ _ _ _ _ iw]
      refine ⟨iw', ?_, by simpa using io⟩
      simp only [FileS.write, ic, Cur.bytes, List.append_assoc]
    | true =>
      have hT : (apRT cfg (runAll cfg w0 rs.reverse) r).length = 36 := encRotTo_length ..
      have hF : (apRF cfg (runAll cfg w0 rs.reverse) r).length = 36 := encRotFrom_length ..
      simp only [if_true, splitC, hrot]
      rw [List.length_append (bs := apRT cfg (runAll cfg w0 rs.reverse) r), hT, writeBuffer_rot _ _ _ hT hF _ _ _ iw',
        writeBuffer_append _ _ _ _ _ iw]
      refine ⟨WF_snoc (len := ((runAll cfg w0 rs.reverse).buff ++ apA cfg (runAll cfg w0 rs.reverse) r).length)
          (Nat.le_refl _) ?_ iw', ?_, ?_⟩
      · simp only [List.length_append, hT, hF]
        omega
      · simp [rotateFS, rfCur, Cur.bytes]
      · simp [rotateFS, FileS.write, FileS.sync, ic, io, List.append_assoc]

end SH.C18
