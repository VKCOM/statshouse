/-
  SH.Lemmas.UniqueTable — the concrete open-addressing table (SH.Model.UniqueTable).
  As a multiset: reinsertImpl, rehash and resize permute the non-empty slots, rehash drops exactly the values not divisible
  by 2^skipDegree. The probe is characterised by the path it walks (`probe_path`, `probe_stops`); what a sweep (either pass of
  rehash, the relocation loop of resize) does to one slot is the relation `Visit` (`*_visit`, one induction per loop: `*_ind`).
  As a set: `WF` (lookups, insertImpl; what the parts of the executable `wfb` say), `tvals` and the refinement `Refines` to SH.Model.Unique, with which
  insertImpl, rehash, resize, shrinkIfNeed, insertHash commute; the empty table, Merge and MarshallAppend in those terms.
-/
import SH.Model.UniqueTable
import SH.Lemmas.UniqueTrie
import Mathlib.Data.Finset.Card
import Mathlib.Data.List.Perm.Basic
namespace SH.C04
open SH.UTable
open SH.Unique (Params good Sk)

def slots (t : Tb) : List Nat := t.buf.toList
def nz (x : Nat) : Bool := x != 0
/-- the values stored in the table (non-empty slots, in slot order) -/
def items (t : Tb) : List Nat := (slots t).filter nz

theorem get_eq (t : Tb) (i : Nat) : get t i = (slots t).getD i 0 := by
  unfold UTable.get slots
  simp [Array.getD_eq_getD_getElem?]

theorem slots_put (t : Tb) (i v : Nat) : slots (put t i v) = (slots t).set i v := by
  simp [slots, put]

theorem getD_set (l : List Nat) (i v j : Nat) : (l.set i v).getD j 0 = if i = j ∧ i < l.length then v else l.getD j 0 := by
  simp [List.getD, List.getElem?_set]
  split <;> split <;> simp_all

theorem get_put (t : Tb) (i v j : Nat) : get (put t i v) j = if i = j ∧ i < (slots t).length then v else get t j := by
  rw [get_eq, slots_put, getD_set, get_eq]

theorem get_put_lt (t : Tb) (i v : Nat) (hi : i < (slots t).length) (j : Nat) :
    get (put t i v) j = if j = i then v else get t j := by
  rw [get_put]
  by_cases c : j = i
  · rw [if_pos c, if_pos ⟨c.symm, hi⟩]
  · rw [if_neg c, if_neg (fun h => c h.1.symm)]

theorem get_put_self (t : Tb) (i v : Nat) (hi : i < (slots t).length) : get (put t i v) i = v := by
  rw [get_put, if_pos ⟨rfl, hi⟩]

theorem get_put_ne (t : Tb) (i v j : Nat) (h : j ≠ i) : get (put t i v) j = get t j := by
  rw [get_put, if_neg (fun c => h c.1.symm)]

theorem put_comm (t : Tb) (i q v w : Nat) (h : i ≠ q) : put (put t q v) i w = put (put t i w) q v := by
  unfold put
  simp only [Array.setIfInBounds_comm _ _ h.symm]

theorem length_slots_put (t : Tb) (i v : Nat) : (slots (put t i v)).length = (slots t).length := by
  simp [put, slots]

/-- same sizeDegree, skipDegree, zero flag and allocation (itemsCount is not part of it) -/
structure SameHdr (a b : Tb) : Prop where
  sd : a.sd = b.sd
  k : a.k = b.k
  zero : a.zero = b.zero
  alloc : a.alloc = b.alloc

theorem SameHdr.trans {a b c : Tb} (h2 : SameHdr a b) (h1 : SameHdr b c) : SameHdr a c :=
  ⟨h2.sd.trans h1.sd, h2.k.trans h1.k, h2.zero.trans h1.zero, h2.alloc.trans h1.alloc⟩

theorem put_hdr (t : Tb) (i v : Nat) : SameHdr (put t i v) t :=
  ⟨rfl, rfl, rfl, rfl⟩

theorem size_congr {a b : Tb} (h : a.sd = b.sd) : size a = size b := by unfold size; rw [h]

theorem shape_put (t : Tb) (i v : Nat) (hs : (slots t).length = size t) : (slots (put t i v)).length = size (put t i v) := by
  rw [length_slots_put, size_congr (put_hdr t i v).sd]
  exact hs

theorem getD_lt (l : List Nat) (i : Nat) (h : l.getD i 0 ≠ 0) : i < l.length := by
  by_contra hc
  simp [List.getD, List.getElem?_eq_none (by omega : l.length ≤ i)] at h

theorem getD_of_lt (l : List Nat) (i : Nat) (hi : i < l.length) : l.getD i 0 = l[i] := by
  simp [List.getD, List.getElem?_eq_getElem hi]

theorem put_put_self (t : Tb) (i : Nat) (hi : i < (slots t).length) : put (put t i 0) i (get t i) = t := by
  have hs : slots (put (put t i 0) i (get t i)) = slots t := by
    rw [slots_put, slots_put, List.set_set, get_eq, getD_of_lt _ _ hi, List.set_getElem_self]
  cases t
  simp only [put, slots, Tb.mk.injEq, true_and, and_true] at hs ⊢
  exact Array.ext' hs

theorem set_perm (l : List Nat) (i b : Nat) (hi : i < l.length) : (l[i] :: l.set i b).Perm (b :: l) := by
  rw [List.set_eq_take_append_cons_drop, if_pos hi]
  conv_rhs => rw [← List.take_append_drop i l, List.drop_eq_getElem_cons hi]
  exact (List.Perm.cons _ List.perm_middle).trans ((List.Perm.swap _ _ _).trans (List.Perm.cons _ List.perm_middle.symm))

theorem size_pos (t : Tb) : 0 < size t := Nat.two_pow_pos _
theorem place_lt (P : Params) (t : Tb) (x : Nat) : place P t x < size t := Nat.mod_lt _ (size_pos t)
theorem next_lt (t : Tb) (p : Nat) : next t p < size t := Nat.mod_lt _ (size_pos t)

/-- number of steps from slot `p` to slot `i` (with wrap-around); only the field `WF.reach`, which is stated in offsets, speaks of
    it: `wf_reach_iff` translates that field into paths (`Reachable`) -/
def cdist (n p i : Nat) : Nat := (i + n - p) % n

theorem mod_cases (a n : Nat) (ha : a < 2 * n) : (a < n ∧ a % n = a) ∨ (n ≤ a ∧ a % n = a - n) := by
  by_cases h : a < n
  · exact Or.inl ⟨h, Nat.mod_eq_of_lt h⟩
  · right
    refine ⟨by omega, ?_⟩
    rw [Nat.mod_eq_sub_mod (by omega), Nat.mod_eq_of_lt (by omega)]

theorem cdist_val (n h j : Nat) (hj : j < n) :
    (h ≤ j ∧ cdist n h j = j - h) ∨ (j < h ∧ cdist n h j = j + n - h) := by
  unfold cdist
  have := mod_cases (j + n - h) n (by omega)
  omega

/-- slot `s` lies on the probe path from home `h` to (excluding) slot `j`; the path wraps around when `j < h` -/
def OnPath (h j s : Nat) : Prop := (h ≤ s ∧ s < j) ∨ (j < h ∧ (h ≤ s ∨ s < j))

theorem onPath_of_lt (n h j d : Nat) (hh : h < n) (hj : j < n) (hd : d < cdist n h j) :
    OnPath h j ((h + d) % n) ∧ (h + d) % n < n := by
  have hc := cdist_val n h j hj
  have hm := mod_cases (h + d) n (by omega)
  unfold OnPath
  omega

theorem onPath_idx (n h j s : Nat) (hh : h < n) (hj : j < n) (hs : s < n) (hp : OnPath h j s) :
    ∃ d < cdist n h j, (h + d) % n = s := by
  have hc := cdist_val n h j hj
  unfold OnPath at hp
  by_cases hsh : h ≤ s
  · refine ⟨s - h, by omega, ?_⟩
    rw [show h + (s - h) = s by omega]
    exact Nat.mod_eq_of_lt hs
  · refine ⟨s + n - h, by omega, ?_⟩
    rw [show h + (s + n - h) = s + n by omega, Nat.add_mod_right]
    exact Nat.mod_eq_of_lt hs

theorem reach_iff (n : Nat) (g : Nat → Nat) (h j : Nat) (hh : h < n) (hj : j < n) :
    (∀ e < cdist n h j, g ((h + e) % n) ≠ 0) ↔ (∀ s < n, OnPath h j s → g s ≠ 0) := by
  constructor
  · intro hr s hs hp
    obtain ⟨d, hd, e⟩ := onPath_idx n h j s hh hj hs hp
    rw [← e]; exact hr d hd
  · intro hr e he
    obtain ⟨a, b⟩ := onPath_of_lt n h j e hh hj he
    exact hr _ b a

/-- `n` slots, `g` the slot contents, `pl` the home slot of a value: the value in slot `j` is reachable from its home slot.
    `WF.reach` in the form the proofs work with (`wf_reach_iff`): slots on a path instead of offsets modulo the size -/
def Reachable (n : Nat) (pl g : Nat → Nat) (j : Nat) : Prop := ∀ s < n, OnPath (pl (g j)) j s → g s ≠ 0

theorem wf_reach_iff (P : Params) (t : Tb) (i : Nat) (hi : i < size t) :
    (∀ e < cdist (size t) (place P t (get t i)) i, get t ((place P t (get t i) + e) % size t) ≠ 0) ↔
      Reachable (size t) (place P t) (get t) i :=
  reach_iff (size t) (get t) _ i (place_lt P t _) hi

theorem reachable_home (n : Nat) (pl g : Nat → Nat) (i : Nat) (h : pl (g i) = i) : Reachable n pl g i := by
  intro s _ hps
  unfold OnPath at hps
  omega

theorem reachable_fill (n : Nat) (pl g g' : Nat → Nat) (q x : Nat) (hx : x ≠ 0) (hG : ∀ s < n, g' s = if s = q then x else g s)
    (j : Nat) (hj : j < n) (hjq : j ≠ q) (hr : Reachable n pl g j) : Reachable n pl g' j := by
  intro s hs hps
  rw [hG j hj, if_neg hjq] at hps
  rw [hG s hs]
  split
  · exact hx
  · exact hr s hs hps

theorem next_val (t : Tb) (p : Nat) (hp : p < size t) :
    (p + 1 < size t ∧ next t p = p + 1) ∨ (p + 1 = size t ∧ next t p = 0) := by
  unfold next
  by_cases h : p + 1 < size t
  · exact Or.inl ⟨h, Nat.mod_eq_of_lt h⟩
  · have e : p + 1 = size t := by omega
    exact Or.inr ⟨e, e ▸ Nat.mod_self _⟩

theorem probe_path (t : Tb) (x : Nat) : ∀ (f p q : Nat), p < size t → probe t x f p = some q →
    q < size t ∧ (get t q = x ∨ get t q = 0) ∧ ∀ s < size t, OnPath p q s → get t s ≠ x ∧ get t s ≠ 0 := by
  intro f
  induction f with
  | zero =>
    intro p q _ h
    cases h
  | succ f ih =>
    intro p q hp h
    by_cases hh : get t p = x ∨ get t p = 0
    · simp only [probe, if_pos hh, Option.some.injEq] at h
      subst h
      refine ⟨hp, hh, fun s _ hps => ?_⟩
      unfold OnPath at hps
      omega
    · simp only [probe, if_neg hh] at h
      obtain ⟨a, b, c⟩ := ih _ q (next_lt t p) h
      refine ⟨a, b, fun s hs hps => ?_⟩
      by_cases hsp : s = p
      · exact hsp ▸ ⟨fun e => hh (Or.inl e), fun e => hh (Or.inr e)⟩
      · refine c s hs ?_
        have := next_val t p hp
        unfold OnPath at hps ⊢
        omega

/-- slot `j` would stop the probe: with more fuel than there are steps from `p` to `j` (`cdist (size t) p j < f`, the wrap-around
    case written out so that `omega` sees it) the probe succeeds, at `j` or before it -/
theorem probe_stops_fuel (t : Tb) (x j : Nat) (hj : j < size t) (hstop : get t j = x ∨ get t j = 0) : ∀ (f p : Nat), p < size t →
    (p ≤ j ∧ j < p + f ∨ j < p ∧ j + size t < p + f) → ∃ q, probe t x f p = some q ∧ (q = j ∨ OnPath p j q) := by
  intro f
  induction f with
  | zero =>
    intro p _ h
    omega
  | succ f ih =>
    intro p hp hd
    by_cases hh : get t p = x ∨ get t p = 0
    · refine ⟨p, by simp only [probe, if_pos hh], ?_⟩
      unfold OnPath
      omega
    · have hpj : p ≠ j := fun e => hh (e ▸ hstop)
      have hn := next_val t p hp
      obtain ⟨q, hq, hqj⟩ := ih (next t p) (next_lt t p) (by omega)
      have hpr : probe t x (f + 1) p = some q := by
        simp only [probe, if_neg hh]
        exact hq
      refine ⟨q, hpr, hqj.imp_right (fun c => ?_)⟩
      unfold OnPath at c ⊢
      omega

theorem probe_stops (t : Tb) (x p j : Nat) (hp : p < size t) (hj : j < size t) (hstop : get t j = x ∨ get t j = 0) :
    ∃ q, probe t x (size t) p = some q ∧ (q = j ∨ OnPath p j q) :=
  probe_stops_fuel t x j hj hstop (size t) p hp (by omega)

/-- table shape: as many slots as sizeDegree says -/
def Shape (t : Tb) : Prop := (slots t).length = size t

theorem items_put_zero (t : Tb) (i : Nat) (h : get t i ≠ 0) : (items t).Perm (get t i :: items (put t i 0)) := by
  unfold items
  rw [slots_put, get_eq] at *
  have hi := getD_lt _ i h
  have := (set_perm (slots t) i 0 hi).filter nz
  rw [← getD_of_lt _ i hi, List.filter_cons_of_pos (by simpa [nz] using h), List.filter_cons_of_neg (by simp [nz])] at this
  exact this.symm

theorem items_put_fill (t : Tb) (q b : Nat) (hq : q < (slots t).length) (h : get t q = 0) (hb : b ≠ 0) :
    (items (put t q b)).Perm (b :: items t) := by
  unfold items
  rw [slots_put]
  rw [get_eq] at h
  have := (set_perm (slots t) q b hq).filter nz
  rwa [← getD_of_lt _ q hq, h, List.filter_cons_of_neg (by simp [nz]), List.filter_cons_of_pos (by simpa [nz] using hb)] at this

theorem mem_items (t : Tb) (x : Nat) : x ∈ items t ↔ x ≠ 0 ∧ ∃ i < (slots t).length, get t i = x := by
  unfold items
  rw [List.mem_filter]
  constructor
  · rintro ⟨hm, hz⟩
    obtain ⟨n, hn, hget⟩ := List.mem_iff_getElem.mp hm
    refine ⟨by simpa [nz] using hz, n, hn, ?_⟩
    rw [get_eq, getD_of_lt _ _ hn, hget]
  · rintro ⟨hx, i, hi, hget⟩
    refine ⟨?_, by simpa [nz] using hx⟩
    rw [get_eq, getD_of_lt _ _ hi] at hget
    rw [← hget]; exact List.getElem_mem hi

theorem zero_not_mem_items (t : Tb) : 0 ∉ items t := by
  intro h; exact ((mem_items t 0).mp h).1 rfl

theorem nodup_filter_iff (l : List Nat) : (l.filter nz).Nodup ↔
    ∀ i j, i < l.length → j < l.length → l.getD i 0 ≠ 0 → l.getD i 0 = l.getD j 0 → i = j := by
  rw [List.Nodup, List.pairwise_filter, List.pairwise_iff_getElem]
  constructor
  · intro h i j hi hj hne he
    rw [getD_of_lt l i hi] at hne he
    rw [getD_of_lt l j hj] at he
    have hzi : nz l[i] = true := by simpa [nz] using hne
    have hzj : nz l[j] = true := he ▸ hzi
    rcases Nat.lt_trichotomy i j with c | c | c
    · exact absurd he (h i j hi hj c hzi hzj)
    · exact c
    · exact absurd he.symm (h j i hj hi c hzj hzi)
  · intro h i j hi hj hij hzi _ he
    have := h i j hi hj (by rw [getD_of_lt l i hi]; simpa [nz] using hzi)
      (by rw [getD_of_lt l i hi, getD_of_lt l j hj]; exact he)
    omega

theorem inj_of_items_nodup (t : Tb) (hs : Shape t) (hn : (items t).Nodup) :
    ∀ i j, i < size t → j < size t → get t i ≠ 0 → get t i = get t j → i = j := by
  intro i j hi hj hne he
  have hl : (slots t).length = size t := hs
  rw [get_eq] at hne he; rw [get_eq] at he
  exact (nodup_filter_iff (slots t)).mp hn i j (by rw [hl]; exact hi) (by rw [hl]; exact hj) hne he

theorem reinsert_eq (P : Params) (t : Tb) (x j : Nat) (hj : j < size t) (h0 : get t j = 0) :
    ∃ q < size t, reinsertImpl P t x = put t q x ∧ get t q = 0 ∧ (q = j ∨ OnPath (place P t x) j q) ∧
      ∀ s < size t, OnPath (place P t x) q s → get t s ≠ 0 := by
  have hp := place_lt P t x
  obtain ⟨q, hq, hqp⟩ := probe_stops t 0 _ j hp hj (Or.inr h0)
  obtain ⟨hqlt, hq0, hfull⟩ := probe_path t 0 _ _ q hp hq
  exact ⟨q, hqlt, by unfold reinsertImpl; rw [hq], hq0.elim id id, hqp, fun s hs hps => (hfull s hs hps).2⟩

/-- itemsCount = occupied slots (+1 for the zero item) -/
def CntOk (t : Tb) : Prop := t.cnt = (items t).length + (if t.zero then 1 else 0)

/-- `t'` is `t` with its stored values moved between slots -/
structure Moves (t' t : Tb) : Prop where
  shape : Shape t'
  hdr : SameHdr t' t
  cnt : CntOk t'
  perm : (items t').Perm (items t)

theorem Moves.refl {t : Tb} (hs : Shape t) (hc : CntOk t) : Moves t t :=
  ⟨hs, ⟨rfl, rfl, rfl, rfl⟩, hc, List.Perm.refl _⟩

theorem Moves.trans {a b c : Tb} (h2 : Moves a b) (h1 : Moves b c) : Moves a c :=
  ⟨h2.shape, h2.hdr.trans h1.hdr, h2.cnt, h2.perm.trans h1.perm⟩

theorem Moves.cnt_eq {a b : Tb} (m : Moves a b) (hb : CntOk b) : a.cnt = b.cnt := by
  have ha := m.cnt
  unfold CntOk at ha hb
  rw [ha, hb, m.hdr.zero, m.perm.length_eq]


theorem get_moved (t : Tb) (i q x s : Nat) (hs : Shape t) (hi : i < size t) (hq : q < size t) :
    get (put (put t i 0) q x) s = if s = q then x else if s = i then 0 else get t s := by
  have hl : (slots t).length = size t := hs
  rw [get_put_lt _ q x (by rw [length_slots_put, hl]; exact hq), get_put_lt t i 0 (hl ▸ hi)]

/-- `g'` is `g` after the value of slot `i` was moved into the first free slot `q` from its home, an empty slot on the path to `i` -/
structure Moved (n : Nat) (pl g g' : Nat → Nat) (i q : Nat) : Prop where
  hi : i < n
  hq : q < n
  hx : g i ≠ 0
  hG : ∀ s < n, g' s = if s = q then g i else if s = i then 0 else g s
  q0 : g q = 0
  qp : OnPath (pl (g i)) i q
  full : ∀ s < n, OnPath (pl (g i)) q s → g s ≠ 0 ∧ s ≠ i

namespace Moved
variable {n : Nat} {pl g g' : Nat → Nat} {i q : Nat} (m : Moved n pl g g' i q)
include m

theorem at_q : g' q = g i := by
  rw [m.hG q m.hq, if_pos rfl]

theorem old (s : Nat) (hs : s < n) (hsq : s ≠ q) (hne : g' s ≠ 0) : g' s = g s ∧ s ≠ i := by
  rw [m.hG s hs, if_neg hsq] at hne ⊢
  by_cases c : s = i
  · rw [if_pos c] at hne
    exact absurd rfl hne
  · rw [if_neg c]
    exact ⟨rfl, c⟩

theorem keep (s : Nat) (hs : s < n) (hne : g s ≠ 0) (hsi : s ≠ i) : g' s ≠ 0 := by
  rw [m.hG s hs]
  by_cases c : s = q
  · rw [if_pos c]
    exact m.hx
  · rw [if_neg c, if_neg hsi]
    exact hne

theorem reach : Reachable n pl g' q := by
  intro s hs hps
  rw [m.at_q] at hps
  obtain ⟨a, b⟩ := m.full s hs hps
  exact m.keep s hs a b

theorem reach_old (j : Nat) (hj : j < n) (hjq : j ≠ q) (hg : g' j ≠ 0) (hr : Reachable n pl g j)
    (hi : ¬ OnPath (pl (g j)) j i) : Reachable n pl g' j := by
  intro s hs hps
  rw [(m.old j hj hjq hg).1] at hps
  exact m.keep s hs (hr s hs hps) (fun c => hi (c ▸ hps))

end Moved

/-- a sweep (either pass of rehash, the relocation loop of resize) visits slot `i`: nothing changes, because the slot is empty
    or its value is reachable where it is, or the value moves into the first free slot from its home -/
inductive Visit (P : Params) (t : Tb) (i : Nat) : Tb → Prop
  | skip : (get t i = 0 ∨ Reachable (size t) (place P t) (get t) i) → Visit P t i t
  | move (q : Nat) : Moved (size t) (place P t) (get t) (get (put (put t i 0) q (get t i))) i q →
      Visit P t i (put (put t i 0) q (get t i))

theorem Visit.same {P : Params} {t t' : Tb} {i : Nat} (v : Visit P t i t') (hs : Shape t) :
    Shape t' ∧ SameHdr t' t ∧ t'.cnt = t.cnt ∧ (items t').Perm (items t) := by
  cases v with
  | skip _ => exact ⟨hs, ⟨rfl, rfl, rfl, rfl⟩, rfl, List.Perm.refl _⟩
  | move q m =>
    have hl : (slots t).length = size t := hs
    have hq0 : get (put t i 0) q = 0 := by
      rw [get_put_ne _ _ _ _ (fun e : q = i => m.hx (e ▸ m.q0))]
      exact m.q0
    exact ⟨shape_put _ q _ (shape_put t i 0 hs), (put_hdr _ q _).trans (put_hdr t i 0), rfl,
      (items_put_fill _ q _ (by rw [length_slots_put, hl]; exact m.hq) hq0 m.hx).trans (items_put_zero t i m.hx).symm⟩

theorem Visit.moves {P : Params} {t t' : Tb} {i : Nat} (v : Visit P t i t') (hs : Shape t) (hc : CntOk t) : Moves t' t := by
  obtain ⟨a, b, e, c⟩ := v.same hs
  exact ⟨a, b, by unfold CntOk; rw [c.length_eq, b.zero, e]; exact hc, c⟩

/-- the "fix" of both rehash passes; a value that comes back to slot `i` has left the table unchanged -/
theorem fix_visit (P : Params) (t : Tb) (i : Nat) (hs : Shape t) (hi : i < size t) (hx : get t i ≠ 0) :
    Visit P t i (reinsertImpl P (put t i 0) (get t i)) := by
  have hl : (slots t).length = size t := hs
  have hgi : get (put t i 0) i = 0 := get_put_self t i 0 (by rw [hl]; exact hi)
  obtain ⟨q, hqlt, req, hq0, hqp, hfull⟩ := reinsert_eq P (put t i 0) (get t i) i hi hgi
  have hocc : ∀ s < size t, OnPath (place P t (get t i)) q s → get t s ≠ 0 ∧ s ≠ i := by
    intro s hs' hps
    have := hfull s hs' hps
    have hsi : s ≠ i := by intro c; rw [c] at this; exact this hgi
    rw [get_put_ne _ _ _ _ hsi] at this
    exact ⟨this, hsi⟩
  rw [req]
  by_cases c : q = i
  · rw [c, put_put_self t i (hl ▸ hi)]
    exact .skip (Or.inr (fun s hs' hps => (hocc s hs' (c ▸ hps)).1))
  · exact .move q { hi := hi, hq := hqlt, hx := hx, hG := fun s _ => get_moved t i q (get t i) s hs hi hqlt,
                    q0 := by rw [← get_put_ne t i 0 q c]; exact hq0, qp := hqp.resolve_left c, full := hocc }

theorem rehashStep_zero (P : Params) (t : Tb) (i : Nat) (h : get t i = 0) : rehashStep P t i = t := by
  simp [rehashStep, h]

theorem rehashStep_bad (P : Params) (t : Tb) (i : Nat) (h : get t i ≠ 0) (hg : good t.k (get t i) = false) :
    rehashStep P t i = { put t i 0 with cnt := t.cnt - 1 } := by
  simp [rehashStep, h, hg]

theorem rehashStep_move (P : Params) (t : Tb) (i : Nat) (h : get t i ≠ 0) (hg : good t.k (get t i) = true)
    (hp : i ≠ place P t (get t i)) : rehashStep P t i = reinsertImpl P (put t i 0) (get t i) := by
  simp [rehashStep, h, hg, hp]

theorem rehashStep_stay (P : Params) (t : Tb) (i : Nat) (h : get t i ≠ 0) (hg : good t.k (get t i) = true)
    (hp : i = place P t (get t i)) : rehashStep P t i = t := by
  simp only [rehashStep, h, hg, if_false, Bool.not_true, Bool.false_eq_true]
  rw [if_neg (by simpa using hp)]

theorem rehashLoop2_zero (P : Params) (f i : Nat) (t : Tb) (h : get t i = 0) : rehashLoop2 P (f + 1) i t = t := by
  simp [rehashLoop2, h]

theorem rehashLoop2_move (P : Params) (f i : Nat) (t : Tb) (h : get t i ≠ 0) (hp : i ≠ place P t (get t i)) :
    rehashLoop2 P (f + 1) i t = rehashLoop2 P f (i + 1) (reinsertImpl P (put t i 0) (get t i)) := by
  simp [rehashLoop2, h, hp]

theorem rehashLoop2_stay (P : Params) (f i : Nat) (t : Tb) (h : get t i ≠ 0) (hp : i = place P t (get t i)) :
    rehashLoop2 P (f + 1) i t = rehashLoop2 P f (i + 1) t := by
  simp only [rehashLoop2, h, if_false]
  rw [if_neg (by simpa using hp)]

theorem rehashStep_visit (P : Params) (t : Tb) (i : Nat) (hs : Shape t) (hi : i < size t)
    (hg : good t.k (get t i) = true) : Visit P t i (rehashStep P t i) := by
  by_cases h0 : get t i = 0
  · rw [rehashStep_zero P t i h0]
    exact .skip (Or.inl h0)
  · by_cases hp : i ≠ place P t (get t i)
    · rw [rehashStep_move P t i h0 hg hp]
      exact fix_visit P t i hs hi h0
    · have hp' : i = place P t (get t i) := by simpa using hp
      rw [rehashStep_stay P t i h0 hg hp']
      exact .skip (Or.inr (reachable_home _ _ _ i hp'.symm))

theorem rehashLoop1_ind (P : Params) (I : Nat → Tb → Prop)
    (hv : ∀ i t t', Shape t → i < size t → good t.k (get t i) = true → I i t → Visit P t i t' → I (i + 1) t')
    (hd : ∀ i t, Shape t → i < size t → I i t → get t i ≠ 0 → good t.k (get t i) = false →
      I (i + 1) { put t i 0 with cnt := t.cnt - 1 }) :
    ∀ (f i : Nat) (t : Tb), Shape t → i + f ≤ size t → I i t →
      Shape (rehashLoop1 P f i t) ∧ I (i + f) (rehashLoop1 P f i t) := by
  intro f
  induction f with
  | zero => intro i t hs _ h; exact ⟨hs, h⟩
  | succ f ih =>
    intro i t hs hf h
    simp only [rehashLoop1]
    rw [show i + (f + 1) = i + 1 + f by omega]
    by_cases hg : good t.k (get t i) = true
    · have v := rehashStep_visit P t i hs (by omega) hg
      obtain ⟨s', h', _, _⟩ := v.same hs
      exact ih (i + 1) _ s' (by rw [size_congr h'.sd]; omega) (hv i t _ hs (by omega) hg h v)
    · have hg' : good t.k (get t i) = false := by simpa using hg
      have h0 : get t i ≠ 0 := fun c => hg (c ▸ good_zero _)
      rw [rehashStep_bad P t i h0 hg']
      exact ih (i + 1) _ (shape_put t i 0 hs) (by rw [show size ({ put t i 0 with cnt := t.cnt - 1 } : Tb) = size t from rfl]; omega)
        (hd i t hs (by omega) h h0 hg')

theorem rehashLoop2_ind (P : Params) (I : Nat → Tb → Prop)
    (hv : ∀ i t t', Shape t → i < size t → get t i ≠ 0 → I i t → Visit P t i t' → I (i + 1) t') :
    ∀ (f i : Nat) (t : Tb), Shape t → I i t →
      ∃ j, I j (rehashLoop2 P f i t) ∧ (j = i + f ∨ get (rehashLoop2 P f i t) j = 0) := by
  intro f
  induction f with
  | zero => intro i t hs h; exact ⟨i, h, Or.inl rfl⟩
  | succ f ih =>
    intro i t hs h
    by_cases h0 : get t i = 0
    · rw [rehashLoop2_zero P f i t h0]
      exact ⟨i, h, Or.inr h0⟩
    · have hi : i < size t := by
        have hl : (slots t).length = size t := hs
        rw [← hl]
        exact getD_lt _ _ (by rw [← get_eq]; exact h0)
      have key : ∀ t', Visit P t i t' → ∃ j, I j (rehashLoop2 P f (i + 1) t') ∧
          (j = i + (f + 1) ∨ get (rehashLoop2 P f (i + 1) t') j = 0) := by
        intro t' v
        obtain ⟨j, a, c⟩ := ih (i + 1) t' (v.same hs).1 (hv i t t' hs hi h0 h v)
        exact ⟨j, a, c.imp_left (fun e => by omega)⟩
      by_cases hp : i ≠ place P t (get t i)
      · rw [rehashLoop2_move P f i t h0 hp]
        exact key _ (fix_visit P t i hs hi h0)
      · have hp' : i = place P t (get t i) := by simpa using hp
        rw [rehashLoop2_stay P f i t h0 hp']
        exact key _ (.skip (Or.inr (reachable_home _ _ _ i hp'.symm)))

theorem rehashLoop1_spec (P : Params) (t : Tb) (hs : Shape t) (hc : CntOk t) :
    Shape (rehashLoop1 P (size t) 0 t) ∧ SameHdr (rehashLoop1 P (size t) 0 t) t ∧ CntOk (rehashLoop1 P (size t) 0 t) ∧
    ((items (rehashLoop1 P (size t) 0 t)).filter (good t.k)).Perm ((items t).filter (good t.k)) ∧
    (∀ j < size t, good t.k (get (rehashLoop1 P (size t) 0 t) j) = true) := by
  have := rehashLoop1_ind P (fun i t' => SameHdr t' t ∧ CntOk t' ∧ ((items t').filter (good t.k)).Perm ((items t).filter (good t.k)) ∧
      ∀ j < i, good t.k (get t' j) = true) ?_ ?_ (size t) 0 t hs (by omega)
      ⟨⟨rfl, rfl, rfl, rfl⟩, hc, List.Perm.refl _, fun j hj => by omega⟩
  · rw [Nat.zero_add] at this
    exact this
  · intro i a a' sa hi hg ⟨h1, c1, p1, g1⟩ v
    obtain ⟨_, h2, _, p2⟩ := v.same sa
    refine ⟨h2.trans h1, (v.moves sa c1).cnt, (p2.filter _).trans p1, fun j hj => ?_⟩
    rw [h1.k] at hg
    cases v with
    | skip _ =>
      by_cases e : j = i
      · exact e ▸ hg
      · exact g1 j (by omega)
    | move q m =>
      rw [m.hG j (by omega)]
      split
      · exact hg
      · split
        · exact good_zero _
        · exact g1 j (by omega)
  · intro i a sa hi ⟨h1, c1, p1, g1⟩ h0 hg
    have hperm := items_put_zero a i h0
    have hl : (slots a).length = size a := sa
    refine ⟨⟨h1.sd, h1.k, h1.zero, h1.alloc⟩, ?_, ?_, fun j hj => ?_⟩
    · unfold CntOk at *
      have hl2 := hperm.length_eq
      simp only [List.length_cons] at hl2
      show a.cnt - 1 = (items (put a i 0)).length + (if (put a i 0).zero = true then 1 else 0)
      rw [(put_hdr a i 0).zero]
      omega
    · have := hperm.filter (good t.k)
      rw [h1.k] at hg
      simp only [List.filter_cons, hg] at this
      exact this.symm.trans p1
    · show good t.k (get (put a i 0) j) = true
      rw [get_put_lt a i 0 (hl ▸ hi)]
      split
      · exact good_zero _
      · exact g1 j (by omega)

/-- the second loop ("process the first collision resolution chain once again") only moves values -/
theorem rehashLoop2_spec (P : Params) (f i : Nat) (t : Tb) (hs : Shape t) (hc : CntOk t) : Moves (rehashLoop2 P f i t) t := by
  obtain ⟨_, m, _⟩ := rehashLoop2_ind P (fun _ t' => Moves t' t) (fun i a a' sa _ _ m v => (v.moves sa m.cnt).trans m) f i t hs
    (Moves.refl hs hc)
  exact m

theorem rehash_items (P : Params) (t : Tb) (hs : Shape t) (hc : CntOk t) :
    Shape (rehash P t) ∧ SameHdr (rehash P t) t ∧ CntOk (rehash P t) ∧
    (items (rehash P t)).Perm ((items t).filter (good t.k)) := by
  unfold rehash
  obtain ⟨s1, h1, c1, p1, g1⟩ := rehashLoop1_spec P t hs hc
  have hsz : size (rehashLoop1 P (size t) 0 t) = size t := size_congr h1.sd
  obtain ⟨s2, h2, c2, p2⟩ := rehashLoop2_spec P (size t) 0 _ s1 c1
  refine ⟨s2, h2.trans h1, c2, ?_⟩
  have hall : (items (rehashLoop1 P (size t) 0 t)).filter (good t.k) = items (rehashLoop1 P (size t) 0 t) := by
    rw [List.filter_eq_self]
    intro a ha
    obtain ⟨_, n, hn, e⟩ := (mem_items _ a).mp ha
    exact e ▸ g1 n (by rw [← hsz, ← s1]; exact hn)
  rw [hall] at p1
  exact p2.trans p1


theorem resizeStep_zero (P : Params) (t : Tb) (i : Nat) (h : get t i = 0) : resizeStep P t i = t := by
  simp [resizeStep, h]

theorem resizeStep_visit (P : Params) (t : Tb) (i : Nat) (hs : Shape t) (hi : i < size t)
    (hinj : ∀ a b, a < size t → b < size t → get t a ≠ 0 → get t a = get t b → a = b) :
    Visit P t i (resizeStep P t i) := by
  by_cases hx : get t i = 0
  · rw [resizeStep_zero P t i hx]
    exact .skip (Or.inl hx)
  have hp := place_lt P t (get t i)
  unfold resizeStep
  simp only [hx, if_false]
  by_cases hpl : place P t (get t i) = i
  · rw [if_pos hpl]
    exact .skip (Or.inr (reachable_home _ _ _ i hpl))
  · rw [if_neg hpl]
    obtain ⟨q, hq, hqp⟩ := probe_stops t _ _ i hp hi (Or.inl rfl)
    obtain ⟨hqlt, hv, hfull⟩ := probe_path t _ _ _ q hp hq
    rw [hq]
    simp only
    by_cases hqx : get t q = get t i
    · -- the probe found the value itself: it is reachable where it is
      rw [if_pos hqx]
      have hqi : q = i := hinj q i hqlt hi (by rw [hqx]; exact hx) hqx
      exact .skip (Or.inr (fun s hs' hps => (hfull s hs' (hqi ▸ hps)).2))
    · rw [if_neg hqx]
      have hq0 : get t q = 0 := hv.resolve_left hqx
      have hqi : q ≠ i := fun c => hx (c ▸ hq0)
      rw [put_comm t i q _ _ (fun c => hqi c.symm)]
      exact .move q { hi := hi, hq := hqlt, hx := hx, hG := fun s _ => get_moved t i q (get t i) s hs hi hqlt, q0 := hq0,
                      qp := hqp.resolve_left hqi,
                      full := fun s hs' hps => ⟨(hfull s hs' hps).2, fun c => (hfull s hs' hps).1 (c ▸ rfl)⟩ }

theorem resizeLoop_ind (v : ResizeV) (P : Params) (old : Nat) (I : Nat → Tb → Prop)
    (hv : ∀ i t t', Shape t → i < size t → (i < old ∨ (v = .full ∧ get t i ≠ 0)) → I i t → Visit P t i t' → I (i + 1) t') :
    ∀ (f i : Nat) (t : Tb), Shape t → (items t).Nodup → i + f ≤ size t → I i t →
      ∃ j, I j (resizeLoop v P old f i t) ∧
        (j = i + f ∨ ¬ (j < old ∨ (v = .full ∧ get (resizeLoop v P old f i t) j ≠ 0))) := by
  intro f
  induction f with
  | zero => intro i t hs _ _ h; exact ⟨i, h, Or.inl rfl⟩
  | succ f ih =>
    intro i t hs hnd hf h
    simp only [resizeLoop]
    split
    · rename_i hcond
      have vis := resizeStep_visit P t i hs (by omega) (inj_of_items_nodup t hs hnd)
      obtain ⟨s', h', _, p'⟩ := vis.same hs
      obtain ⟨j, a, c⟩ := ih (i + 1) _ s' (p'.nodup_iff.mpr hnd) (by rw [size_congr h'.sd]; omega)
        (hv i t _ hs (by omega) hcond h vis)
      exact ⟨j, a, c.imp_left (fun e => by omega)⟩
    · rename_i hcond
      exact ⟨i, h, Or.inr hcond⟩

theorem resizeLoop_spec (v : ResizeV) (P : Params) (old f i : Nat) (t : Tb) (hs : Shape t) (hc : CntOk t) (hnd : (items t).Nodup)
    (hf : i + f ≤ size t) : Moves (resizeLoop v P old f i t) t := by
  obtain ⟨_, m, _⟩ := resizeLoop_ind v P old (fun _ t' => Moves t' t) (fun i a a' sa _ _ m vis => (vis.moves sa m.cnt).trans m)
    f i t hs hnd hf (Moves.refl hs hc)
  exact m

theorem filter_append_replicate_zero (l : List Nat) (n : Nat) : (l ++ List.replicate n 0).filter nz = l.filter nz := by
  rw [List.filter_append]
  have : (List.replicate n 0).filter nz = [] := by
    rw [List.filter_eq_nil_iff]; intro a ha; rw [List.eq_of_mem_replicate ha]; simp [nz]
  rw [this, List.append_nil]

/-- the table `resize` starts its relocation loop from: the buffer grown by empty slots -/
def grown (t : Tb) (newSd : Nat) : Tb := { t with sd := newSd, buf := t.buf ++ Array.replicate (2 ^ newSd - t.buf.size) 0 }

theorem grown_spec (t : Tb) (newSd : Nat) (hs : Shape t) (hge : t.sd ≤ newSd) :
    slots (grown t newSd) = slots t ++ List.replicate (2 ^ newSd - 2 ^ t.sd) 0 ∧ Shape (grown t newSd) ∧
    items (grown t newSd) = items t := by
  have hl : (slots t).length = 2 ^ t.sd := hs
  have hbs : t.buf.size = 2 ^ t.sd := by simpa [slots] using hl
  have hpow : 2 ^ t.sd ≤ 2 ^ newSd := Nat.pow_le_pow_right (by omega) hge
  have hslots : slots (grown t newSd) = slots t ++ List.replicate (2 ^ newSd - 2 ^ t.sd) 0 := by simp [slots, grown, hbs]
  refine ⟨hslots, ?_, ?_⟩
  · unfold Shape size
    rw [hslots, List.length_append, List.length_replicate, hl]
    show _ = 2 ^ newSd
    omega
  · unfold items
    rw [hslots]
    exact filter_append_replicate_zero _ _

theorem resize_items (v : ResizeV) (P : Params) (t : Tb) (newSd : Nat) (hs : Shape t) (hc : CntOk t) (hnd : (items t).Nodup)
    (hge : t.sd ≤ newSd) : Moves (resize v P t newSd) (grown t newSd) ∧ CntOk (grown t newSd) := by
  obtain ⟨_, hs1, hitems⟩ := grown_spec t newSd hs hge
  have hc1 : CntOk (grown t newSd) := by unfold CntOk; rw [hitems]; exact hc
  exact ⟨resizeLoop_spec v P (size t) (2 ^ newSd) 0 (grown t newSd) hs1 hc1 (hitems ▸ hnd) (by rw [Nat.zero_add]; exact Nat.le_refl _), hc1⟩


/-- well-formed table: the right number of slots; no value stored twice; every stored value is reachable from its home
    slot without crossing an empty slot; itemsCount = occupied slots (+1 for the zero item) -/
structure WF (P : Params) (t : Tb) : Prop where
  shape : Shape t
  inj : ∀ i j, i < size t → j < size t → get t i ≠ 0 → get t i = get t j → i = j
  reach : ∀ i < size t, get t i ≠ 0 →
    ∀ e < cdist (size t) (place P t (get t i)) i, get t ((place P t (get t i) + e) % size t) ≠ 0
  cnt : CntOk t

theorem wf_nodup (P : Params) (t : Tb) (h : WF P t) : (items t).Nodup := by
  refine (nodup_filter_iff _).mpr ?_
  intro i j hi hj hn he
  have hl : (slots t).length = size t := h.shape
  rw [← get_eq] at hn he
  rw [← get_eq] at he
  exact h.inj i j (by rw [← hl]; exact hi) (by rw [← hl]; exact hj) hn he

theorem wf_of_parts (P : Params) (t : Tb) (hs : Shape t) (hc : CntOk t) (hn : (items t).Nodup)
    (hr : ∀ j < size t, get t j ≠ 0 → Reachable (size t) (place P t) (get t) j) : WF P t :=
  { shape := hs, inj := inj_of_items_nodup t hs hn, cnt := hc,
    reach := fun i hi hx => (wf_reach_iff P t i hi).mpr (hr i hi hx) }

theorem WF.reachable {P : Params} {t : Tb} (w : WF P t) (i : Nat) (hi : i < size t) (hx : get t i ≠ 0) :
    Reachable (size t) (place P t) (get t) i := (wf_reach_iff P t i hi).mp (w.reach i hi hx)

theorem lookup_complete (P : Params) (t : Tb) (h : WF P t) (i : Nat) (hi : i < size t) (hx : get t i ≠ 0) :
    probe t (get t i) (size t) (place P t (get t i)) = some i := by
  have hp := place_lt P t (get t i)
  obtain ⟨q, hq, hqi⟩ := probe_stops t _ _ i hp hi (Or.inl rfl)
  obtain ⟨hqlt, hv, _⟩ := probe_path t _ _ _ q hp hq
  rw [hq]
  -- a stop before slot `i` would be an empty slot on the path to `i`, or a second copy of the value
  refine congrArg some (hqi.elim id (fun hon => ?_))
  have hne := WF.reachable h i hi hx q hqlt hon
  exact h.inj q i hqlt hi hne (hv.resolve_right hne)

/-- a slot the probe reports lies inside the table (what it holds and what the probe passed: `probe_path`) -/
theorem lookup_sound (t : Tb) (x p q : Nat) (hp : p < size t) (h : probe t x (size t) p = some q) (hx : get t q = x) :
    q < size t ∧ get t q = x := by
  exact ⟨(probe_path t x _ p q hp h).1, hx⟩

theorem insertImpl_present (P : Params) (t : Tb) (h : WF P t) (i : Nat) (hi : i < size t) (hx : get t i ≠ 0) :
    insertImpl P t (get t i) = t := by
  unfold insertImpl
  rw [if_neg hx, lookup_complete P t h i hi hx]
  simp

theorem insertImpl_new (P : Params) (t : Tb) (h : WF P t) (x : Nat) (hx : x ≠ 0)
    (hnew : ∀ i < size t, get t i ≠ x) (j : Nat) (hj : j < size t) (hj0 : get t j = 0) :
    WF P (insertImpl P t x) ∧ (items (insertImpl P t x)).Perm (x :: items t) ∧ SameHdr (insertImpl P t x) t ∧
    (insertImpl P t x).cnt = t.cnt + 1 := by
  have hl : (slots t).length = size t := h.shape
  have hp := place_lt P t x
  obtain ⟨q, hq, _⟩ := probe_stops t x _ j hp hj (Or.inr hj0)
  obtain ⟨hqlt, hv, hfull⟩ := probe_path t x _ _ q hp hq
  have hq0 : get t q = 0 := hv.resolve_left (hnew q hqlt)
  have hne : get t q ≠ x := by rw [hq0]; exact fun c => hx c.symm
  unfold insertImpl
  rw [if_neg hx, hq]
  simp only [hne, if_false]
  have hperm := items_put_fill t q x (by rw [hl]; exact hqlt) hq0 hx
  have hG : ∀ s < size t, get (put t q x) s = if s = q then x else get t s :=
    fun s _ => get_put_lt t q x (hl ▸ hqlt) s
  have hnd : (items (put t q x)).Nodup := hperm.nodup_iff.mpr (List.nodup_cons.mpr
    ⟨fun c => by obtain ⟨_, i, hi, e⟩ := (mem_items t x).mp c; exact hnew i (hl ▸ hi) e, wf_nodup P t h⟩)
  have hc : CntOk ({ put t q x with cnt := t.cnt + 1 } : Tb) := by
    have := h.cnt
    unfold CntOk at this ⊢
    show t.cnt + 1 = (items (put t q x)).length + (if (put t q x).zero = true then 1 else 0)
    rw [hperm.length_eq, (put_hdr t q x).zero, List.length_cons]
    omega
  refine ⟨wf_of_parts P _ (shape_put t q x h.shape) hc hnd (fun a ha hna => ?_), hperm, ⟨rfl, rfl, rfl, rfl⟩, trivial⟩
  show Reachable (size t) (place P t) (get (put t q x)) a
  by_cases haq : a = q
  · intro s hs hps
    rw [haq, hG q hqlt, if_pos rfl] at hps
    rw [hG s hs]
    split
    · exact hx
    · exact (hfull s hs hps).2
  · refine reachable_fill _ _ _ _ q x hx hG a ha haq (WF.reachable h a ha ?_)
    have := hG a ha
    rw [if_neg haq] at this
    rw [← this]
    exact hna


theorem findsAll_iff (P : Params) (t : Tb) :
    findsAll P t = true ↔ ∀ i < size t, get t i ≠ 0 → probe t (get t i) (size t) (place P t (get t i)) = some i := by
  unfold findsAll
  rw [List.all_eq_true]
  constructor
  · intro h i hi hn
    have := h i (List.mem_range.mpr hi)
    simpa [hn] using this
  · intro h i hi
    by_cases hn : get t i = 0
    · simp [hn]
    · simp [h i (List.mem_range.mp hi) hn]

theorem wf_of_finds (P : Params) (t : Tb) (hs : Shape t) (hc : CntOk t)
    (hf : ∀ i < size t, get t i ≠ 0 → probe t (get t i) (size t) (place P t (get t i)) = some i) : WF P t := by
  refine { shape := hs, inj := ?_, reach := ?_, cnt := hc }
  · intro i j hi hj hn he
    have a := hf i hi hn
    have b := hf j hj (by rw [← he]; exact hn)
    rw [← he] at b
    rw [a] at b; exact Option.some.inj b
  · intro i hi hn
    exact (wf_reach_iff P t i hi).mpr (fun s hs hps => ((probe_path t _ _ _ i (place_lt P t _) (hf i hi hn)).2.2 s hs hps).2)


/-- the set of values the table stands for -/
def tvals (t : Tb) : Finset ℕ := (items t).toFinset ∪ (if t.zero then {0} else ∅)

theorem card_tvals (t : Tb) (hn : (items t).Nodup) : (tvals t).card = (items t).length + (if t.zero then 1 else 0) := by
  unfold tvals
  have h0 : (0 : ℕ) ∉ (items t).toFinset := by rw [List.mem_toFinset]; exact zero_not_mem_items t
  split
  · rw [Finset.card_union_of_disjoint (by simpa using h0), List.toFinset_card_of_nodup hn]; simp
  · simp [List.toFinset_card_of_nodup hn]

/-- `s` (set model) is the abstraction of the table `t` -/
structure Refines (P : Params) (t : Tb) (s : Sk) : Prop where
  alloc : s.alloc = t.alloc
  k : s.k = t.k
  sd : s.sd = t.sd
  cnt : s.cnt = t.cnt
  vals : keys P.bits s.items = tvals t
  bound : ∀ x ∈ tvals t, x < 2 ^ P.bits

theorem has_iff_tvals (P : Params) (t : Tb) (s : Sk) (r : Refines P t s) (x : Nat) (hx : x < 2 ^ P.bits) :
    Unique.has P s x = true ↔ x ∈ tvals t := by
  unfold Unique.has; rw [mem_iff _ _ _ hx, r.vals]

theorem tvals_mem_zero (t : Tb) : (0 : ℕ) ∈ tvals t ↔ t.zero = true := by
  unfold tvals
  cases hz : t.zero <;> simp [zero_not_mem_items t]

theorem tvals_mem_of_ne (t : Tb) (x : Nat) (hx : x ≠ 0) : x ∈ tvals t ↔ x ∈ items t := by
  unfold tvals
  cases hz : t.zero <;> simp [hx]

theorem insertImpl_of_mem (P : Params) (t : Tb) (w : WF P t) (x : Nat) (h : x ∈ tvals t) : UTable.insertImpl P t x = t := by
  by_cases hx0 : x = 0
  · subst hx0
    unfold UTable.insertImpl
    rw [if_pos rfl, if_pos ((tvals_mem_zero t).mp h)]
  · obtain ⟨_, i, hi, hget⟩ := (mem_items t x).mp ((tvals_mem_of_ne t x hx0).mp h)
    rw [← hget]
    exact insertImpl_present P t w i (by rw [← w.shape]; exact hi) (by rw [hget]; exact hx0)

theorem insertImpl_spec (P : Params) (t : Tb) (w : WF P t) (x j : Nat) (hj : j < size t) (hj0 : get t j = 0) :
    WF P (UTable.insertImpl P t x) ∧ tvals (UTable.insertImpl P t x) = insert x (tvals t) ∧
    (UTable.insertImpl P t x).cnt = (if x ∈ tvals t then t.cnt else t.cnt + 1) ∧
    (items (UTable.insertImpl P t x)).length ≤ (items t).length + 1 ∧
    (UTable.insertImpl P t x).sd = t.sd ∧ (UTable.insertImpl P t x).k = t.k ∧
    (UTable.insertImpl P t x).alloc = t.alloc := by
  have hl : (slots t).length = size t := w.shape
  by_cases hin : x ∈ tvals t
  · rw [insertImpl_of_mem P t w x hin, if_pos hin, Finset.insert_eq_of_mem hin]
    exact ⟨w, rfl, rfl, Nat.le_succ _, rfl, rfl, rfl⟩
  · rw [if_neg hin]
    by_cases hx0 : x = 0
    · subst hx0
      have hz : t.zero = false := (Bool.not_eq_true _).mp (fun c => hin ((tvals_mem_zero t).mpr c))
      unfold UTable.insertImpl
      rw [if_pos rfl, if_neg (Bool.not_eq_true _ |>.mpr hz)]
      refine ⟨{ shape := w.shape, inj := w.inj, reach := w.reach, cnt := ?_ }, ?_, rfl, Nat.le_succ _, rfl, rfl, rfl⟩
      · have := w.cnt
        unfold CntOk at this ⊢
        show t.cnt + 1 = (items t).length + 1
        rw [this, hz]
        rfl
      · show (items t).toFinset ∪ {0} = insert 0 (tvals t)
        unfold tvals
        rw [hz, if_neg Bool.false_ne_true, Finset.union_empty, Finset.union_comm]
        rfl
    · have hst : x ∉ items t := fun c => hin ((tvals_mem_of_ne t x hx0).mpr c)
      have hnew : ∀ i < size t, get t i ≠ x := by
        intro i hi hc
        exact hst ((mem_items t x).mpr ⟨hx0, i, by rw [hl]; exact hi, hc⟩)
      obtain ⟨w', hperm, hdr, hcnt⟩ := insertImpl_new P t w x hx0 hnew j hj hj0
      refine ⟨w', ?_, hcnt, by rw [hperm.length_eq]; rfl, hdr.sd, hdr.k, hdr.alloc⟩
      unfold tvals
      rw [hdr.zero, List.toFinset_eq_of_perm _ _ hperm, List.toFinset_cons, Finset.insert_union]

theorem insertImpl_refines (P : Params) (t : Tb) (s : Sk) (w : WF P t) (r : Refines P t s) (x : Nat) (hx : x < 2 ^ P.bits)
    (j : Nat) (hj : j < size t) (hj0 : get t j = 0) :
    WF P (UTable.insertImpl P t x) ∧ Refines P (UTable.insertImpl P t x) (Unique.insertImpl P s x) := by
  obtain ⟨w', htv, hcnt, _, hsd, hk, hal⟩ := insertImpl_spec P t w x j hj hj0
  have hbound : ∀ y ∈ tvals (UTable.insertImpl P t x), y < 2 ^ P.bits := by
    intro y hy
    rw [htv] at hy
    rcases Finset.mem_insert.mp hy with h | h
    · rw [h]
      exact hx
    · exact r.bound y h
  refine ⟨w', ?_⟩
  unfold Unique.insertImpl
  by_cases hin : x ∈ tvals t
  · rw [if_pos ((has_iff_tvals P t s r x hx).mpr hin)]
    rw [if_pos hin] at hcnt
    exact { alloc := r.alloc.trans hal.symm, k := r.k.trans hk.symm, sd := r.sd.trans hsd.symm, cnt := r.cnt.trans hcnt.symm,
            vals := by rw [htv, Finset.insert_eq_of_mem hin]; exact r.vals, bound := hbound }
  · rw [if_neg (fun c => hin ((has_iff_tvals P t s r x hx).mp c))]
    rw [if_neg hin] at hcnt
    exact { alloc := r.alloc.trans hal.symm, k := r.k.trans hk.symm, sd := r.sd.trans hsd.symm,
            cnt := by show s.cnt + 1 = _; rw [hcnt, r.cnt],
            vals := by show keys P.bits (s.items.insert P.bits x) = _; rw [keys_insert _ _ _ hx, r.vals, htv],
            bound := hbound }


/-- what rehash and resize need and keep for either bound of the resize loop -/
structure Tidy (t : Tb) : Prop where
  shape : Shape t
  cnt : CntOk t
  nodup : (items t).Nodup

theorem wf_tidy (P : Params) (t : Tb) (w : WF P t) : Tidy t := ⟨w.shape, w.cnt, wf_nodup P t w⟩

theorem tidy_cnt (t : Tb) (h : Tidy t) : t.cnt = (tvals t).card := by
  rw [card_tvals t h.nodup]; exact h.cnt

theorem rehash_refines (P : Params) (t : Tb) (s : Sk) (h : Tidy t) (r : Refines P t s) (k' : Nat) :
    Tidy (UTable.rehash P { t with k := k' }) ∧
    Refines P (UTable.rehash P { t with k := k' }) (Unique.rehash P { s with k := k' }) := by
  obtain ⟨s1, h1, c1, p1⟩ := rehash_items P { t with k := k' } h.shape h.cnt
  have hperm : (items (UTable.rehash P { t with k := k' })).Perm ((items t).filter (good k')) := p1
  have hnd : (items (UTable.rehash P { t with k := k' })).Nodup := hperm.nodup_iff.mpr (h.nodup.filter _)
  have tidy' : Tidy (UTable.rehash P { t with k := k' }) := ⟨s1, c1, hnd⟩
  have hz : (UTable.rehash P { t with k := k' }).zero = t.zero := h1.zero
  have htv : tvals (UTable.rehash P { t with k := k' }) = fil k' (tvals t) := by
    ext y
    unfold tvals
    rw [hz, mem_fil]
    simp only [Finset.mem_union, List.mem_toFinset, hperm.mem_iff, List.mem_filter, good_iff]
    constructor
    · rintro (⟨a, b⟩ | c)
      · exact ⟨Or.inl a, b⟩
      · refine ⟨Or.inr c, ?_⟩
        split at c
        · rw [Finset.mem_singleton.mp c]; simp
        · simp at c
    · rintro ⟨a | c, b⟩
      · exact Or.inl ⟨a, b⟩
      · exact Or.inr c
  have habs : keys P.bits (Unique.rehash P { s with k := k' }).items = fil k' (tvals t) := by
    show keys P.bits (s.items.thin P.bits k') = _
    rw [keys_thin, r.vals]
  refine ⟨tidy', { alloc := r.alloc.trans h1.alloc.symm, k := h1.k.symm, sd := r.sd.trans h1.sd.symm, cnt := ?_,
                   vals := by rw [habs, htv], bound := ?_ }⟩
  · show s.cnt - (s.items.size P.bits - (s.items.thin P.bits k').size P.bits) = _
    rw [tidy_cnt _ tidy', htv, size_eq, size_eq, keys_thin, r.vals, r.cnt, tidy_cnt t h]
    have : (fil k' (tvals t)).card ≤ (tvals t).card := Finset.card_le_card (Finset.filter_subset _ _)
    omega
  · intro y hy; rw [htv] at hy; exact r.bound y ((mem_fil _ _ _).mp hy).1

theorem resize_refines (v : ResizeV) (P : Params) (t : Tb) (s : Sk) (h : Tidy t) (r : Refines P t s) (n : Nat) (hn : t.sd ≤ n) :
    Tidy (resize v P t n) ∧ Refines P (resize v P t n) { s with sd := n } := by
  obtain ⟨m, hc1⟩ := resize_items v P t n h.shape h.cnt h.nodup hn
  have p1 : (items (resize v P t n)).Perm (items t) := (grown_spec t n h.shape hn).2.2 ▸ m.perm
  have htv : tvals (resize v P t n) = tvals t := by
    unfold tvals
    rw [m.hdr.zero, List.toFinset_eq_of_perm _ _ p1]
    rfl
  exact ⟨⟨m.shape, m.cnt, p1.nodup_iff.mpr h.nodup⟩,
    { alloc := r.alloc.trans m.hdr.alloc.symm, k := r.k.trans m.hdr.k.symm, sd := m.hdr.sd.symm,
      cnt := r.cnt.trans (m.cnt_eq hc1).symm, vals := by rw [htv]; exact r.vals,
      bound := by intro y hy; rw [htv] at hy; exact r.bound y hy }⟩


theorem thinLoop_refines (P : Params) : ∀ (f : Nat) (t : Tb) (s : Sk), Tidy t → Refines P t s →
    Tidy (UTable.thinLoop P f t) ∧ Refines P (UTable.thinLoop P f t) (Unique.thinLoop P f s) := by
  intro f
  induction f with
  | zero => intro t s h r; exact ⟨h, r⟩
  | succ f ih =>
    intro t s h r
    simp only [UTable.thinLoop, Unique.thinLoop]
    by_cases hov : Unique.limit P < t.cnt
    · have hov' : Unique.overLimit P s = true := by simp [Unique.overLimit, r.cnt, hov]
      rw [if_pos hov, if_pos hov', r.k]
      obtain ⟨h', r'⟩ := rehash_refines P t s h r (t.k + 1)
      exact ih _ _ h' r'
    · have hov' : ¬ (Unique.overLimit P s = true) := by simp [Unique.overLimit, r.cnt, hov]
      rw [if_neg hov, if_neg hov']
      exact ⟨h, r⟩

theorem shrinkIfNeed_refines (v : ResizeV) (P : Params) (t : Tb) (s : Sk) (h : Tidy t) (r : Refines P t s) :
    Tidy (UTable.shrinkIfNeed v P t) ∧ Refines P (UTable.shrinkIfNeed v P t) (Unique.shrinkIfNeed P s) := by
  unfold UTable.shrinkIfNeed Unique.shrinkIfNeed
  by_cases hfit : t.cnt ≤ UTable.maxFill t
  · have hfit' : Unique.fits s = true := by
      simp only [Unique.fits, Unique.maxFill, decide_eq_true_eq, r.cnt, r.sd]; exact hfit
    rw [if_pos hfit, if_pos hfit']; exact ⟨h, r⟩
  · have hfit' : ¬ (Unique.fits s = true) := by
      simp only [Unique.fits, Unique.maxFill, decide_eq_true_eq, r.cnt, r.sd]; exact hfit
    rw [if_neg hfit, if_neg hfit']
    by_cases hov : Unique.limit P < t.cnt
    · have hov' : Unique.overLimit P s = true := by simp [Unique.overLimit, r.cnt, hov]
      rw [if_pos hov, if_pos hov']
      exact thinLoop_refines P _ t s h r
    · have hov' : ¬ (Unique.overLimit P s = true) := by simp [Unique.overLimit, r.cnt, hov]
      rw [if_neg hov, if_neg hov', r.sd]
      exact resize_refines v P t s h r (t.sd + 1) (by omega)

theorem insertHash_refines_values (v : ResizeV) (P : Params) (t : Tb) (s : Sk) (w : WF P t) (r : Refines P t s) (x : Nat)
    (hx : x < 2 ^ P.bits) (j : Nat) (hj : j < size t) (hj0 : get t j = 0) :
    Tidy (UTable.insertHash v P t x) ∧ Refines P (UTable.insertHash v P t x) (Unique.insertHash P s x) := by
  unfold UTable.insertHash Unique.insertHash
  rw [r.k]
  by_cases hg : good t.k x = true
  · rw [if_pos hg, if_pos hg]
    obtain ⟨w', r'⟩ := insertImpl_refines P t s w r x hx j hj hj0
    exact shrinkIfNeed_refines v P _ _ (wf_tidy P _ w') r'
  · rw [if_neg hg, if_neg hg]
    exact ⟨wf_tidy P t w, r⟩


theorem blank_wf (P : Params) (t : Tb) (hb : t.buf = Array.replicate (2 ^ t.sd) 0) (hz : t.zero = false) (hc : t.cnt = 0) :
    WF P t ∧ items t = [] ∧ tvals t = ∅ := by
  have hget : ∀ i, get t i = 0 := by
    intro i
    unfold UTable.get
    simp [hb, Array.getD]
  have hitems : items t = [] := by
    unfold items slots nz
    simp [hb]
  refine ⟨?_, hitems, by unfold tvals; rw [hitems, hz]; rfl⟩
  exact { shape := by unfold Shape slots UTable.size; simp [hb],
          inj := fun i _ _ _ h => absurd (hget i) h,
          reach := fun i _ h => absurd (hget i) h,
          cnt := by unfold CntOk; rw [hitems, hz, hc]; rfl }

theorem ensure_alloc (P : Params) (t : Tb) (h : t.alloc = true) : UTable.ensure P t = t := by
  unfold UTable.ensure; rw [if_pos h]

theorem merge_ensure (P : Params) (ch rhs : Tb) (ha : rhs.alloc = true) :
    UTable.merge .full P ch rhs = UTable.merge .full P (UTable.ensure P ch) rhs := by
  have e : UTable.ensure P (UTable.ensure P ch) = UTable.ensure P ch := by
    unfold UTable.ensure; split
    · simp
    · simp [UTable.reset]
  unfold UTable.merge
  have hna : ¬ ((!rhs.alloc) = true) := by simp [ha]
  rw [if_neg hna, if_neg hna]
  simp only [e]

/-- the zero step of Merge is `insertHash` of the value 0 when the sender holds it: a receiver that holds 0 already is
    within its fill bound and stays as it is -/
theorem zeroStep_fold (P : Params) (c rhs : Tb) (hf : c.cnt ≤ UTable.maxFill c) :
    (if (!c.zero && rhs.zero) = true then UTable.shrinkIfNeed .full P { c with zero := true, cnt := c.cnt + 1 } else c) =
      (if rhs.zero = true then [0] else []).foldl (UTable.insertHash .full P) c := by
  cases hr : rhs.zero
  · simp
  · cases hc : c.zero
    · simp [UTable.insertHash, UTable.insertImpl, good, hc]
    · simp [UTable.insertHash, UTable.insertImpl, good, hc, UTable.shrinkIfNeed, hf]

theorem foldl_mergeSlot (P : Params) : ∀ (l : List Nat) (c : Tb),
    l.foldl (UTable.mergeSlot .full P) c = (l.filter nz).foldl (UTable.insertHash .full P) c := by
  intro l
  induction l with
  | nil => intro c; rfl
  | cons x l ih =>
    intro c
    simp only [List.foldl_cons, List.filter]
    by_cases hx : x = 0
    · have : nz x = false := by simp [nz, hx]
      rw [this]
      have e : UTable.mergeSlot .full P c x = c := by unfold UTable.mergeSlot; simp [hx]
      rw [e]; exact ih c
    · have : nz x = true := by simp [nz, hx]
      rw [this]
      simp only [List.foldl_cons]
      have e : UTable.mergeSlot .full P c x = UTable.insertHash .full P c x := by
        unfold UTable.mergeSlot UTable.insertHash
        by_cases hg : good c.k x = true
        · simp [hx, hg]
        · simp [hg]
      rw [e]; exact ih _

theorem tmarshal_xs (t : Tb) (ha : t.alloc = true) :
    (UTable.marshal t).k = t.k ∧ (UTable.marshal t).ic = t.cnt ∧
    (UTable.marshal t).xs = (if t.zero then [0] else []) ++ items t ∧ (UTable.marshal t).xs.toFinset = tvals t := by
  have e : (UTable.marshal t).xs = (if t.zero then [0] else []) ++ items t := by
    unfold UTable.marshal items slots nz; rw [if_pos ha]
  refine ⟨by unfold UTable.marshal; rw [if_pos ha], by unfold UTable.marshal; rw [if_pos ha], e, ?_⟩
  rw [e]; unfold tvals
  ext y; cases hz : t.zero <;> simp

end SH.C04
