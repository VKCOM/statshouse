/-
  SH.Lemmas.WireMP — MessagePack round trip for Props/C13: the canonical client encoder of SH.Model.Wire,
  decoded by the model of msgpack.go, gives back the batch.
-/
import SH.Lemmas.Wire
namespace SH.Wire

theorem be_length (n v : Nat) : (be n v).length = n := by simp [be, le_length]

theorem rdBE_be (n v : Nat) : rdBE (be n v) = v % 256 ^ n := by simp [rdBE, be, rdLE_le]

theorem rdBE_be_of_lt {n v : Nat} (h : v < 256 ^ n) : rdBE (be n v) = v := by
  rw [rdBE_be, Nat.mod_eq_of_lt h]

theorem take_be_append (n v : Nat) (r : Bytes) : (be n v ++ r).take n = be n v := List.take_left' (be_length n v)

theorem drop_be_append (n v : Nat) (r : Bytes) : (be n v ++ r).drop n = r := List.drop_left' (be_length n v)

theorem mpLenPayload_enc (h : Nat) (s r : Bytes) (hs : s.length < 256 ^ h) :
    mpLenPayload h (be h s.length ++ (s ++ r)) = .ok (s, r) := by
  unfold mpLenPayload
  have h1 : ¬ (be h s.length ++ (s ++ r)).length < h := by simp [be_length]
  rw [if_neg h1, take_be_append, drop_be_append, rdBE_be_of_lt hs]
  have h2 : ¬ (s ++ r).length < s.length := by simp
  rw [if_neg h2, List.take_left, List.drop_left]

/-- The dispatch on a literal lead byte, evaluated once per byte (here and for the other readers below); left to the
    unifier inside the round-trip proofs the same evaluation is slow to check. -/
theorem mpStr_d9 (r : Bytes) : mpStr (0xd9 :: r) = mpLenPayload 1 r := rfl
theorem mpStr_da (r : Bytes) : mpStr (0xda :: r) = mpLenPayload 2 r := rfl
theorem mpStr_db (r : Bytes) : mpStr (0xdb :: r) = mpLenPayload 4 r := rfl

theorem mpStr_enc (s r : Bytes) (hs : s.length < 2 ^ 32) : mpStr (mpEncStr s ++ r) = .ok (s, r) := by
  unfold mpEncStr
  by_cases h1 : s.length ≤ 31
  · rw [if_pos h1]
    show mpStr ((0xa0 + s.length) :: (s ++ r)) = _
    simp only [mpStr]
    have a : (0xa0 + s.length) / 32 = 5 := by omega
    have b : (0xa0 + s.length) % 32 = s.length := by omega
    have c : ¬ (s ++ r).length < s.length := by simp
    rw [if_pos a, b, if_neg c, List.take_left, List.drop_left]
  rw [if_neg h1]
  by_cases h2 : s.length ≤ 255
  · rw [if_pos h2]
    exact (mpStr_d9 _).trans (mpLenPayload_enc 1 s r (by omega))
  rw [if_neg h2]
  by_cases h3 : s.length ≤ 65535
  · rw [if_pos h3]
    exact (mpStr_da _).trans (mpLenPayload_enc 2 s r (by omega))
  rw [if_neg h3]
  exact (mpStr_db _).trans (mpLenPayload_enc 4 s r hs)

theorem mpEncStr_length_pos (s : Bytes) : 1 ≤ (mpEncStr s).length :=
  length_pos_ite length_cons_pos <| length_pos_ite length_cons_pos <| length_pos_ite length_cons_pos length_cons_pos

theorem mpKey_enc (s r : Bytes) (hs : s.length < 2 ^ 32) : mpKey (mpEncStr s ++ r) = .ok (s, r) := by
  unfold mpKey; rw [mpStr_enc s r hs]

theorem mpFixed_enc (n v : Nat) (r : Bytes) (g : Nat → Except Err Nat) (y : Nat) (hv : v < 256 ^ n) (hg : g v = .ok y) :
    mpFixed n (be n v ++ r) g = .ok (y, r) := by
  unfold mpFixed
  have a : ¬ (be n v ++ r).length < n := by simp [be_length]
  rw [if_neg a, take_be_append, drop_be_append, rdBE_be_of_lt hv, hg]

theorem mpMapHdr_de (r : Bytes) : mpMapHdr (0xde :: r) = mpFixed 2 r .ok := rfl
theorem mpMapHdr_df (r : Bytes) : mpMapHdr (0xdf :: r) = mpFixed 4 r .ok := rfl
theorem mpArrHdr_dc (r : Bytes) : mpArrHdr (0xdc :: r) = mpFixed 2 r .ok := rfl
theorem mpArrHdr_dd (r : Bytes) : mpArrHdr (0xdd :: r) = mpFixed 4 r .ok := rfl

theorem mpMapHdr_enc (n : Nat) (r : Bytes) (hn : n < 2 ^ 32) : mpMapHdr (mpEncHdr true n ++ r) = .ok (n, r) := by
  unfold mpEncHdr
  by_cases h1 : n ≤ 15
  · rw [if_pos h1]
    show mpMapHdr ((0x80 + n) :: r) = _
    simp only [mpMapHdr]
    have a : (0x80 + n) / 16 = 8 := by omega
    have b : (0x80 + n) % 16 = n := by omega
    rw [if_pos a, b]
  rw [if_neg h1]
  by_cases h2 : n ≤ 65535
  · rw [if_pos h2]
    exact (mpMapHdr_de _).trans (mpFixed_enc 2 n r _ n (by omega) rfl)
  rw [if_neg h2]
  exact (mpMapHdr_df _).trans (mpFixed_enc 4 n r _ n hn rfl)

theorem mpArrHdr_enc (n : Nat) (r : Bytes) (hn : n < 2 ^ 32) : mpArrHdr (mpEncHdr false n ++ r) = .ok (n, r) := by
  unfold mpEncHdr
  by_cases h1 : n ≤ 15
  · rw [if_pos h1]
    show mpArrHdr ((0x90 + n) :: r) = _
    simp only [mpArrHdr]
    have a : (0x90 + n) / 16 = 9 := by omega
    have b : (0x90 + n) % 16 = n := by omega
    rw [if_pos a, b]
  rw [if_neg h1]
  by_cases h2 : n ≤ 65535
  · rw [if_pos h2]
    exact (mpArrHdr_dc _).trans (mpFixed_enc 2 n r _ n (by omega) rfl)
  rw [if_neg h2]
  exact (mpArrHdr_dd _).trans (mpFixed_enc 4 n r _ n hn rfl)

theorem mpF64_enc (x : Nat) (r : Bytes) (hx : x < 2 ^ 64) : mpF64 (mpEncF64 x ++ r) = .ok (x, r) := by
  show mpF64 (0xcb :: (be 8 x ++ r)) = _
  simp only [mpF64]
  have a : ¬ (0xcb :: (be 8 x ++ r)).length < 9 := by simp [be_length]
  rw [if_neg a, if_neg (by decide), take_be_append, drop_be_append, rdBE_be_of_lt hx]

theorem mpU64_cc (r : Bytes) : mpU64 (0xcc :: r) = mpFixed 1 r .ok := rfl
theorem mpU64_cd (r : Bytes) : mpU64 (0xcd :: r) = mpFixed 2 r .ok := rfl
theorem mpU64_ce (r : Bytes) : mpU64 (0xce :: r) = mpFixed 4 r .ok := rfl

theorem mpU32_enc (t : Nat) (r : Bytes) (ht : t < 2 ^ 32) : mpU32 (mpEncUint t ++ r) = .ok (t, r) := by
  have key : mpU64 (mpEncUint t ++ r) = .ok (t, r) := by
    unfold mpEncUint
    by_cases h1 : t ≤ 127
    · rw [if_pos h1]
      exact if_pos (by omega)
    rw [if_neg h1]
    by_cases h2 : t ≤ 255
    · rw [if_pos h2]
      exact (mpU64_cc _).trans (mpFixed_enc 1 t r _ t (by omega) rfl)
    rw [if_neg h2]
    by_cases h3 : t ≤ 65535
    · rw [if_pos h3]
      exact (mpU64_cd _).trans (mpFixed_enc 2 t r _ t (by omega) rfl)
    rw [if_neg h3, if_pos (by omega)]
    exact (mpU64_ce _).trans (mpFixed_enc 4 t r _ t ht rfl)
  unfold mpU32
  rw [key]
  simp only []
  rw [if_neg (by omega)]

theorem sext1 (v : Nat) : sext 1 v = if v < 128 then v else 18446744073709551616 - 256 + v := rfl
theorem sext2 (v : Nat) : sext 2 v = if v < 32768 then v else 18446744073709551616 - 65536 + v := rfl
theorem sext4 (v : Nat) : sext 4 v = if v < 2147483648 then v else 18446744073709551616 - 4294967296 + v := rfl

theorem mpI64_d0 (r : Bytes) : mpI64 (0xd0 :: r) = mpFixed 1 r fun v => .ok (sext 1 v) := rfl
theorem mpI64_d1 (r : Bytes) : mpI64 (0xd1 :: r) = mpFixed 2 r fun v => .ok (sext 2 v) := rfl
theorem mpI64_d2 (r : Bytes) : mpI64 (0xd2 :: r) = mpFixed 4 r fun v => .ok (sext 4 v) := rfl
theorem mpI64_d3 (r : Bytes) : mpI64 (0xd3 :: r) = mpFixed 8 r .ok := rfl

/-- values are two's complements in [0, 2^64) -/
theorem mpI64_enc (x : Nat) (r : Bytes) (hx : x < 2 ^ 64) : mpI64 (mpEncInt x ++ r) = .ok (x, r) := by
  have big : mpI64 (0xd3 :: be 8 x ++ r) = .ok (x, r) := (mpI64_d3 _).trans (mpFixed_enc 8 x r _ x hx rfl)
  unfold mpEncInt
  by_cases hp : x < 2 ^ 63
  · rw [if_pos hp]
    by_cases h1 : x ≤ 127
    · rw [if_pos h1]
      exact if_pos (by omega)
    rw [if_neg h1]
    by_cases h2 : x ≤ 32767
    · rw [if_pos h2]
      exact (mpI64_d1 _).trans (mpFixed_enc 2 x r _ x (by omega) (by rw [sext2, if_pos (by omega)]))
    rw [if_neg h2]
    by_cases h3 : x ≤ 2 ^ 31 - 1
    · rw [if_pos h3]
      exact (mpI64_d2 _).trans (mpFixed_enc 4 x r _ x (by omega) (by rw [sext4, if_pos (by omega)]))
    rw [if_neg h3]
    exact big
  · rw [if_neg hp]
    by_cases h1 : x ≥ 2 ^ 64 - 32
    · rw [if_pos h1]
      show mpI64 (x % 256 :: r) = _
      simp only [mpI64]
      rw [if_neg (by omega), if_pos (by omega), sext1, if_neg (by omega)]
      congr 2
      omega
    rw [if_neg h1]
    by_cases h2 : x ≥ 2 ^ 64 - 128
    · rw [if_pos h2]
      exact (mpI64_d0 _).trans (mpFixed_enc 1 _ r _ x (by omega) (by rw [sext1, if_neg (by omega)]; congr 1; omega))
    rw [if_neg h2]
    by_cases h3 : x ≥ 2 ^ 64 - 32768
    · rw [if_pos h3]
      exact (mpI64_d1 _).trans (mpFixed_enc 2 _ r _ x (by omega) (by rw [sext2, if_neg (by omega)]; congr 1; omega))
    rw [if_neg h3]
    by_cases h4 : x ≥ 2 ^ 64 - 2 ^ 31
    · rw [if_pos h4]
      exact (mpI64_d2 _).trans (mpFixed_enc 4 _ r _ x (by omega) (by rw [sext4, if_neg (by omega)]; congr 1; omega))
    rw [if_neg h4]
    exact big

theorem mpTag_enc (t : Bytes × Bytes) (h1 : t.1.length < 2 ^ 32) (h2 : t.2.length < 2 ^ 32) (r : Bytes) :
    mpTag (mpEncStr t.1 ++ mpEncStr t.2 ++ r) = .ok (t, r) := by
  unfold mpTag
  rw [List.append_assoc, mpStr_enc _ _ h1]
  simp only []
  rw [mpStr_enc _ _ h2]

theorem mpBucket_enc (p : Nat × Nat) (h1 : p.1 < 2 ^ 64) (h2 : p.2 < 2 ^ 64) (r : Bytes) :
    mpBucket (mpEncHdr false 2 ++ (mpEncF64 p.1 ++ mpEncF64 p.2) ++ r) = .ok (p, r) := by
  unfold mpBucket
  rw [List.append_assoc, List.append_assoc, mpArrHdr_enc 2 _ (by decide)]
  simp only [ne_eq, not_true_eq_false, if_false]
  rw [mpF64_enc _ _ h1]
  simp only []
  rw [mpF64_enc _ _ h2]

theorem mpColl_enc (v : Variant) (isMap : Bool) (n : Nat) (r : Bytes) (hn : n < 2 ^ 32) (hr : n ≤ r.length) :
    mpColl v isMap (mpEncHdr isMap n ++ r) = .ok (n, r) := by
  unfold mpColl
  cases isMap with
  | true =>
    simp only [if_true]
    rw [mpMapHdr_enc n r hn]
    simp [mpCheckLen, hr]
  | false =>
    simp only [Bool.false_eq_true, if_false]
    rw [mpArrHdr_enc n r hn]
    simp [mpCheckLen, hr]

theorem mapR_ok_eq {α β : Type} {x : R α} {a : α} {r : Bytes} {f : α → β} (h : x = .ok (a, r)) : mapR x f = .ok (f a, r) := by
  rw [h]; rfl

theorem mpCollField_enc {α : Type} (v : Variant) (isMap : Bool) (item : Bytes → R α) (enc : α → Bytes) (xs : List α)
    (upd : List α → Metric) (r : Bytes) (hn : xs.length < 2 ^ 32)
    (hi : ∀ x ∈ xs, ∀ r, item (enc x ++ r) = .ok (x, r)) (h1 : ∀ x ∈ xs, 1 ≤ (enc x).length) :
    (mpCollField v isMap item (mpEncHdr isMap xs.length ++ (catMap enc xs ++ r)) upd).res = .ok (upd xs, r) := by
  unfold mpCollField
  have hl := catMap_length_ge enc 1 xs h1
  rw [mpColl_enc v isMap xs.length _ hn (by simp; omega)]
  simp only []
  exact mapR_ok_eq (readN_catMap item enc xs hi r)

theorem MPR.eq_of_res {α : Type} {x : MPR α} {r : R α} (h : x.res = r) : x = ⟨x.alloc, r⟩ := by
  cases x
  cases h
  rfl

theorem mpr_eta {α : Type} (x : MPR α) : x = ⟨x.alloc, x.res⟩ := MPR.eq_of_res rfl

theorem mpFields_step (v : Variant) (n : Nat) (m m' : Metric) (k t t' : Bytes) (hk : k.length < 2 ^ 32)
    (hf : (mpField v m k t).res = .ok (m', t')) :
    (mpFields v (n + 1) m (mpEncStr k ++ t)).res = (mpFields v n m' t').res := by
  simp only [mpFields]
  rw [mpKey_enc k t hk]
  simp only []
  rw [MPR.eq_of_res hf]

theorem mpField_kName (v : Variant) (m : Metric) (b : Bytes) :
    mpField v m kName b = ⟨0, mapR (mpStr b) (fun s => { m with name := s })⟩ := rfl
theorem mpField_kTags (v : Variant) (m : Metric) (b : Bytes) :
    mpField v m kTags b = mpCollField v true mpTag b (fun ts => { m with tags := ts }) := rfl
theorem mpField_kCounter (v : Variant) (m : Metric) (b : Bytes) :
    mpField v m kCounter b = ⟨0, mapR (mpF64 b) (fun x => { m with counter := x, mask := setBit m.mask 0 })⟩ := rfl
theorem mpField_kTs (v : Variant) (m : Metric) (b : Bytes) :
    mpField v m kTs b = ⟨0, mapR (mpU32 b) (fun x => { m with ts := x, mask := setBit m.mask 4 })⟩ := rfl
theorem mpField_kValue (v : Variant) (m : Metric) (b : Bytes) :
    mpField v m kValue b = mpCollField v false mpF64 b (fun xs => { m with value := xs, mask := setBit m.mask 1 }) := rfl
theorem mpField_kUnique (v : Variant) (m : Metric) (b : Bytes) :
    mpField v m kUnique b = mpCollField v false mpI64 b (fun xs => { m with unique := xs, mask := setBit m.mask 2 }) := rfl
theorem mpField_kHistogram (v : Variant) (m : Metric) (b : Bytes) :
    mpField v m kHistogram b = mpCollField v false mpBucket b (fun xs => { m with hist := xs, mask := setBit m.mask 3 }) :=
  rfl

theorem mpField_name_enc (v : Variant) (m : Metric) (s r : Bytes) (hs : s.length < 2 ^ 32) :
    (mpField v m kName (mpEncStr s ++ r)).res = .ok ({ m with name := s }, r) := by
  rw [mpField_kName]
  exact mapR_ok_eq (mpStr_enc s r hs)

theorem mpField_tags_enc (v : Variant) (m : Metric) (ts : List (Bytes × Bytes)) (r : Bytes) (hn : ts.length < 2 ^ 32)
    (ht : ∀ t ∈ ts, t.1.length < 2 ^ 32 ∧ t.2.length < 2 ^ 32) :
    (mpField v m kTags (mpEncHdr true ts.length ++ (catMap (fun t => mpEncStr t.1 ++ mpEncStr t.2) ts ++ r))).res
      = .ok ({ m with tags := ts }, r) := by
  rw [mpField_kTags]
  exact mpCollField_enc v true mpTag (fun t => mpEncStr t.1 ++ mpEncStr t.2) ts _ r hn
    (fun t h r => mpTag_enc t (ht t h).1 (ht t h).2 r)
    (fun t _ => by have := mpEncStr_length_pos t.1; simp; omega)

theorem mpField_counter_enc (v : Variant) (m : Metric) (x : Nat) (r : Bytes) (hx : x < 2 ^ 64) :
    (mpField v m kCounter (mpEncF64 x ++ r)).res = .ok ({ m with counter := x, mask := setBit m.mask 0 }, r) := by
  rw [mpField_kCounter]
  dsimp only
  exact mapR_ok_eq (mpF64_enc x r hx)

theorem mpField_ts_enc (v : Variant) (m : Metric) (x : Nat) (r : Bytes) (hx : x < 2 ^ 32) :
    (mpField v m kTs (mpEncUint x ++ r)).res = .ok ({ m with ts := x, mask := setBit m.mask 4 }, r) := by
  rw [mpField_kTs]
  dsimp only
  exact mapR_ok_eq (mpU32_enc x r hx)

theorem mpEncF64_length (x : Nat) : (mpEncF64 x).length = 9 := by simp [mpEncF64, be_length]

theorem mpEncInt_length_pos (x : Nat) : 1 ≤ (mpEncInt x).length :=
  length_pos_ite
    (length_pos_ite length_cons_pos <| length_pos_ite length_cons_pos <| length_pos_ite length_cons_pos length_cons_pos)
    (length_pos_ite length_cons_pos <| length_pos_ite length_cons_pos <| length_pos_ite length_cons_pos <|
      length_pos_ite length_cons_pos length_cons_pos)

theorem mpField_value_enc (v : Variant) (m : Metric) (xs : List Nat) (r : Bytes) (hn : xs.length < 2 ^ 32)
    (hx : ∀ x ∈ xs, x < 2 ^ 64) :
    (mpField v m kValue (mpEncHdr false xs.length ++ (catMap mpEncF64 xs ++ r))).res
      = .ok ({ m with value := xs, mask := setBit m.mask 1 }, r) := by
  rw [mpField_kValue]
  exact mpCollField_enc v false mpF64 mpEncF64 xs _ r hn (fun x h r => mpF64_enc x r (hx x h))
    (fun x _ => by rw [mpEncF64_length]; omega)

theorem mpField_unique_enc (v : Variant) (m : Metric) (xs : List Nat) (r : Bytes) (hn : xs.length < 2 ^ 32)
    (hx : ∀ x ∈ xs, x < 2 ^ 64) :
    (mpField v m kUnique (mpEncHdr false xs.length ++ (catMap mpEncInt xs ++ r))).res
      = .ok ({ m with unique := xs, mask := setBit m.mask 2 }, r) := by
  rw [mpField_kUnique]
  exact mpCollField_enc v false mpI64 mpEncInt xs _ r hn (fun x h r => mpI64_enc x r (hx x h))
    (fun x _ => mpEncInt_length_pos x)

theorem mpField_hist_enc (v : Variant) (m : Metric) (hs : List (Nat × Nat)) (r : Bytes) (hn : hs.length < 2 ^ 32)
    (hx : ∀ h ∈ hs, h.1 < 2 ^ 64 ∧ h.2 < 2 ^ 64) :
    (mpField v m kHistogram (mpEncHdr false hs.length
        ++ (catMap (fun h => mpEncHdr false 2 ++ (mpEncF64 h.1 ++ mpEncF64 h.2)) hs ++ r))).res
      = .ok ({ m with hist := hs, mask := setBit m.mask 3 }, r) := by
  rw [mpField_kHistogram]
  exact mpCollField_enc v false mpBucket (fun h => mpEncHdr false 2 ++ (mpEncF64 h.1 ++ mpEncF64 h.2)) hs _ r hn
    (fun h hh r => mpBucket_enc h (hx h hh).1 (hx h hh).2 r)
    (fun h _ => by simp [mpEncF64_length])

theorem mpFields_optional (v : Variant) (k : Nat) (c : Bool) (m m' : Metric) (enc r : Bytes)
    (h : ∀ n, (mpFields v (n + 1) m (enc ++ r)).res = (mpFields v n m' r).res) :
    (mpFields v (k + (if c then 1 else 0)) m ((if c then enc else []) ++ r)).res
      = (mpFields v k (if c then m' else m) r).res := by
  cases c with
  | true => simp only [if_true]; exact h k
  | false => simp

/-- `mpD1 … mpD6`: the decoder's accumulator after each field of `mpEncMetric` -/
def mpD1 (m : Metric) : Metric := { ({} : Metric) with name := m.name }
def mpD2 (m : Metric) : Metric := { mpD1 m with tags := m.tags }
def mpD3 (m : Metric) : Metric :=
  if hasBit m.mask 0 then { mpD2 m with counter := m.counter, mask := setBit (mpD2 m).mask 0 } else mpD2 m
def mpD4 (m : Metric) : Metric :=
  if hasBit m.mask 4 then { mpD3 m with ts := m.ts, mask := setBit (mpD3 m).mask 4 } else mpD3 m
def mpD5 (m : Metric) : Metric :=
  if hasBit m.mask 1 then { mpD4 m with value := m.value, mask := setBit (mpD4 m).mask 1 } else mpD4 m
def mpD6 (m : Metric) : Metric :=
  if hasBit m.mask 2 then { mpD5 m with unique := m.unique, mask := setBit (mpD5 m).mask 2 } else mpD5 m
/-- what the MessagePack decoder makes of the encoding of `m`: the same content, the mask rebuilt from the fields present -/
def mpDecoded (m : Metric) : Metric :=
  if hasBit m.mask 3 then { mpD6 m with hist := m.hist, mask := setBit (mpD6 m).mask 3 } else mpD6 m

/-- the field count in the shape in which `mpMetric_enc` peels it: `+ 1` for name and for tags, an `if` per optional
    field, outermost first -/
theorem mpFieldCount_eq (c0 c4 c1 c2 c3 : Bool) :
    2 + countTrue [c0, c4, c1, c2, c3] =
      ((((((0 + (if c3 then 1 else 0)) + (if c2 then 1 else 0)) + (if c1 then 1 else 0)) + (if c4 then 1 else 0))
        + (if c0 then 1 else 0)) + 1) + 1 := by
  cases c0 <;> cases c4 <;> cases c1 <;> cases c2 <;> cases c3 <;> rfl

theorem countTrue_le (l : List Bool) : countTrue l ≤ l.length := by
  unfold countTrue; exact List.length_filter_le _ _

theorem mpMetric_enc (v : Variant) (m : Metric) (w : m.WF) (r : Bytes) :
    (mpMetric v (mpEncMetric m ++ r)).res = .ok (mpDecoded m, r) := by
  unfold mpMetric mpEncMetric
  simp only [List.append_assoc]
  have hN : 2 + countTrue [hasBit m.mask 0, hasBit m.mask 4, hasBit m.mask 1, hasBit m.mask 2, hasBit m.mask 3] < 2 ^ 32 := by
    have := countTrue_le [hasBit m.mask 0, hasBit m.mask 4, hasBit m.mask 1, hasBit m.mask 2, hasBit m.mask 3]
    simp at this; omega
  rw [mpMapHdr_enc _ _ hN]
  simp only []
  rw [mpFieldCount_eq]
  rw [mpFields_step v _ _ _ kName _ _ (by decide) (mpField_name_enc v _ m.name _ w.name)]
  rw [mpFields_step v _ _ _ kTags _ _ (by decide) (mpField_tags_enc v _ m.tags _ w.tagsLen w.tags)]
  rw [mpFields_optional v _ (hasBit m.mask 0) _ _ (mpEncStr kCounter ++ mpEncF64 m.counter) _ fun n => by
    rw [List.append_assoc]
    exact mpFields_step v n _ _ kCounter _ _ (by decide) (mpField_counter_enc v _ _ _ w.counter)]
  rw [mpFields_optional v _ (hasBit m.mask 4) _ _ (mpEncStr kTs ++ mpEncUint m.ts) _ fun n => by
    rw [List.append_assoc]
    exact mpFields_step v n _ _ kTs _ _ (by decide) (mpField_ts_enc v _ _ _ w.ts)]
  rw [mpFields_optional v _ (hasBit m.mask 1) _ _ _ _ fun n => by
    simp only [List.append_assoc]
    exact mpFields_step v n _ _ kValue _ _ (by decide) (mpField_value_enc v _ m.value _ w.valueLen w.value)]
  rw [mpFields_optional v _ (hasBit m.mask 2) _ _ _ _ fun n => by
    simp only [List.append_assoc]
    exact mpFields_step v n _ _ kUnique _ _ (by decide) (mpField_unique_enc v _ m.unique _ w.uniqueLen w.unique)]
  rw [mpFields_optional v _ (hasBit m.mask 3) _ _ _ _ fun n => by
    simp only [List.append_assoc]
    exact mpFields_step v n _ _ kHistogram _ _ (by decide) (mpField_hist_enc v _ m.hist _ w.histLen w.hist)]
  rfl

theorem sem_mpDecoded (m : Metric) (w : m.WF) : sem (mpDecoded m) = sem m := by
  -- one optional field at a time: a field absent from the mask holds the zero value the decoder starts from
  have h3 : sem (mpD3 m) = { name := m.name, tags := m.tags, counter := m.counter } := by
    unfold mpD3
    cases hb : hasBit m.mask 0
    · rw [w.counter0 hb]
      rfl
    · rfl
  have h4 : sem (mpD4 m) = { name := m.name, tags := m.tags, counter := m.counter, ts := m.ts } := by
    unfold mpD4
    cases hb : hasBit m.mask 4
    · rw [w.ts0 hb]
      exact h3
    · exact congrArg (fun a : Metric => { a with ts := m.ts }) h3
  have h5 : sem (mpD5 m) = { name := m.name, tags := m.tags, counter := m.counter, ts := m.ts, value := m.value } := by
    unfold mpD5
    cases hb : hasBit m.mask 1
    · rw [w.value0 hb]
      exact h4
    · exact congrArg (fun a : Metric => { a with value := m.value }) h4
  have h6 : sem (mpD6 m) =
      { name := m.name, tags := m.tags, counter := m.counter, ts := m.ts, value := m.value, unique := m.unique } := by
    unfold mpD6
    cases hb : hasBit m.mask 2
    · rw [w.unique0 hb]
      exact h5
    · exact congrArg (fun a : Metric => { a with unique := m.unique }) h5
  unfold mpDecoded
  cases hb : hasBit m.mask 3
  · rw [show sem m = { sem m with hist := m.hist } from rfl, w.hist0 hb]
    exact h6
  · exact congrArg (fun a : Metric => { a with hist := m.hist }) h6

theorem mpEncHdr_length_pos (isMap : Bool) (n : Nat) : 1 ≤ (mpEncHdr isMap n).length :=
  length_pos_ite length_cons_pos <| length_pos_ite length_cons_pos length_cons_pos

theorem mpEncMetric_length_pos (m : Metric) : 1 ≤ (mpEncMetric m).length := by
  unfold mpEncMetric
  simp only [List.length_append]
  have := mpEncHdr_length_pos true (2 + countTrue [hasBit m.mask 0, hasBit m.mask 4, hasBit m.mask 1, hasBit m.mask 2, hasBit m.mask 3])
  omega

theorem mpMetrics_enc (v : Variant) (ms : List Metric) (hw : ∀ m ∈ ms, m.WF) (r : Bytes) :
    (mpMetrics v ms.length (catMap mpEncMetric ms ++ r)).res = .ok (ms.map mpDecoded, r) := by
  induction ms with
  | nil => rfl
  | cons m ms ih =>
    simp only [List.length_cons, catMap, List.append_assoc, mpMetrics]
    rw [MPR.eq_of_res (mpMetric_enc v m (hw m (by simp)) (catMap mpEncMetric ms ++ r))]
    simp only []
    rw [ih (fun x hx => hw x (by simp [hx]))]
    rfl

theorem mpBatch_enc (v : Variant) (ms : List Metric) (hn : ms.length < 2 ^ 32) (hw : ∀ m ∈ ms, m.WF) (r : Bytes) :
    (mpBatch v (mpEncBatch ms ++ r)).res = .ok (ms.map mpDecoded, r) := by
  unfold mpBatch mpEncBatch
  simp only [List.append_assoc]
  rw [mpMapHdr_enc 1 _ (by decide)]
  simp only [mpBatchFields]
  rw [mpKey_enc kMetrics _ (by decide)]
  simp only [if_true]
  have hl := catMap_length_ge mpEncMetric 1 ms (fun m _ => mpEncMetric_length_pos m)
  rw [mpColl_enc v false ms.length _ hn (by simp; omega)]
  simp only []
  rw [MPR.eq_of_res (mpMetrics_enc v ms hw r)]

theorem detect_mpEnc (ms : List Metric) : detect (mpEncBatch ms) = .msgpack := by
  -- the packet starts with `mpEncHdr true 1`, the byte 0x81: a map header
  show detect (0x81 :: _) = _
  exact detect_cons 0x81 _ (by decide) (by decide) (by decide)

theorem parse_mpEnc (v : Variant) (ms : List Metric) (hn : ms.length < 2 ^ 32) (hw : ∀ m ∈ ms, m.WF) :
    (parse v (mpEncBatch ms)).fmt = .msgpack ∧ (parse v (mpEncBatch ms)).delivered = ms.map mpDecoded ∧
    (parse v (mpEncBatch ms)).err = none ∧ (parse v (mpEncBatch ms)).perr = false := by
  have hd := detect_mpEnc ms
  have hne : mpEncBatch ms ≠ [] := by
    show 0x81 :: _ ≠ []
    nofun
  have hb := mpBatch_enc v ms hn hw []
  rw [List.append_nil] at hb
  unfold parse
  rw [hd]
  simp only []
  rw [batchLoop_one _ _ _ _ _ hne (MPR.eq_of_res hb)]
  exact ⟨rfl, rfl, rfl, rfl⟩

end SH.Wire
