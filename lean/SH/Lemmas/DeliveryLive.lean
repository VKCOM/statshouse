/-
  SH.Lemmas.DeliveryLive — schedule-existence liveness for C01: the schedule `finishOps`, its hypotheses `FinishReady` and
  `can_finish_oldest`, which `can_always_finish_partial` reads off.
-/
import SH.Lemmas.Delivery
namespace SH.Delivery
open SH.Gen.C01

theorem three_consecutive (n r : Nat) (hr : r < 3) : n % 3 = r ∨ (n + 1) % 3 = r ∨ (n + 2) % 3 = r := by
  have key : ∀ m, m < 3 → ∀ r, r < 3 → m = r ∨ (m + 1) % 3 = r ∨ (m + 2) % 3 = r := by decide
  have := key (n % 3) (Nat.mod_lt _ (by decide)) r hr
  rwa [Nat.mod_add_mod, Nat.mod_add_mod] at this

theorem chooseReplica_spec {a : Agent} {t r : Nat} {sp : Bool} (h : chooseReplica a t = some (r, sp)) :
    isAlive a r = true ∧ r < 3 ∧ (sp = false → r = t % 3) ∧ (sp = true → r ≠ t % 3) := by
  unfold chooseReplica at h
  by_cases h1 : isAlive a (t % 3) = true
  · simp [h1] at h
    obtain ⟨rfl, rfl⟩ := h
    exact ⟨h1, Nat.mod_lt _ (by decide), fun _ => rfl, fun hf => Bool.noConfusion hf⟩
  · by_cases h2 : isAlive a ((t + 1 + t % 2) % 3) = true
    · simp [h1, h2] at h
      obtain ⟨rfl, rfl⟩ := h
      -- the spare is one or two replicas further on, never the primary
      exact ⟨h2, Nat.mod_lt _ (by decide), fun hf => Bool.noConfusion hf, fun _ => by omega⟩
    · simp [h1, h2] at h

theorem oldestPos_first {cs : List Cbd} {i b best : Nat} (h : ∀ d ∈ cs, ¬ d.sec < best) : oldestPos cs i b best = b := by
  induction cs generalizing i with
  | nil => rfl
  | cons d ds ih =>
    unfold oldestPos
    have := h d (by simp)
    simp only [this, if_false]
    exact ih (fun e he => h e (List.mem_cons_of_mem _ he))

theorem readNext_frame (a : Agent) :
    (readNext a).now = a.now ∧ (readNext a).window = a.window ∧ (readNext a).disk = a.disk ∧ (readNext a).live = a.live := by
  rcases readNext_cases a with he | ⟨_, _, _, _, _, _, _, he⟩ <;> rw [he] <;> exact ⟨rfl, rfl, rfl, rfl⟩

theorem pop_head {a : Agent} {c : Cbd} {cs : List Cbd} {now : Nat} (hh : a.hist = c :: cs) (hmin : ∀ d ∈ cs, ¬ d.sec < c.sec)
    (hnow : c.sec < now) :
    ∃ a', pop a now = (a', some c) ∧ a'.now = a.now ∧ a'.window = a.window ∧ a'.disk = a.disk ∧ a'.live = a.live := by
  unfold pop
  simp only [hh]
  rw [oldestPos_first hmin]
  have : (c :: cs)[0]? = some c := rfl
  simp only [this]
  have hf : inFuture now c = false := by unfold inFuture; simp; omega
  simp only [hf, Bool.false_eq_true, if_false]
  exact ⟨_, rfl, readNext_frame { a with hist := swapRemove (c :: cs) 0, memSize := a.memSize - sz c }⟩

theorem chooseReplica_congr {a a' : Agent} (h : a'.live = a.live) (t : Nat) : chooseReplica a' t = chooseReplica a t := by
  unfold chooseReplica isAlive; rw [h]

/-- the fault-free schedule for the oldest queued second, as a function of the state: a historic sender pops it, the request
reaches the replica the agent chose, and that replica's clock reaches the second at which its three oldest recent buckets
are ready (one of them is its own, so an inserter runs and takes the waiting historic bucket along) -/
def finishOps (s : State) : List Op :=
  match s.ag.hist with
  | [] => []
  | c :: _ => match chooseReplica s.ag c.sec with
    | none => []
    | some (r, _) => match s.aggs[r]? with
      | none => []
      | some g => match g.recent.head? with
        | none => []
        | some b0 => [.pop (c.sec + 1), .recv s.nextRid, .tick r (b0.time + s.shortWindow + 3) true]

theorem finishOps_length (s : State) : (finishOps s).length ≤ 3 := by
  unfold finishOps; (repeat' split) <;> simp

/-- what the partial theorem assumes about the state (beyond being reachable) -/
structure FinishReady (s : State) (c : Cbd) (r : Nat) (g : Agg) (b0 nb : Bucket) : Prop where
  hist : ∃ cs, s.ag.hist = c :: cs ∧ ∀ d ∈ cs, ¬ d.sec < c.sec        -- c is the (first) oldest second of the historic queue
  inAgent : outOfWindow s.ag.now c.sec s.ag.window = false            -- inside the agent's historic window
  data : c.mem = true ∨ s.ag.disk = true
  replica : ∃ sp, chooseReplica s.ag c.sec = some (r, sp)             -- its primary or its spare replica is believed alive
  agg : s.aggs[r]? = some g
  up : g.up = true                                                    -- … and is up
  noBacklog : g.historic = []                                         -- … with no other historic bucket waiting  (PARTIAL)
  window : ∃ b1 b2 b3 rest, g.recent = b0 :: b1 :: b2 :: b3 :: rest ∧ b1.time = b0.time + 1 ∧ b2.time = b0.time + 2 ∧
             b3.time = b0.time + 3 ∧ (b0 :: b1 :: b2 :: b3 :: rest).getLast? = some nb
  accept : aggDecide true c.sec b0.time nb.time s.aggWindow r = .joinHistoric   -- older than the recent window, inside the aggregator's historic window
  slack : b0.time + 3 ≤ c.sec + s.aggWindow                          -- … and still inside it 3 seconds later

/-- step 1 of the schedule: the historic sender pops the second and sends it to the live replica -/
theorem pop_launches {s : State} {c : Cbd} {cs : List Cbd} {r : Nat} {sp : Bool} (now : Nat)
    (hh : s.ag.hist = c :: cs) (hmin : ∀ d ∈ cs, ¬ d.sec < c.sec) (hnow : c.sec < now)
    (hin : outOfWindow s.ag.now c.sec s.ag.window = false) (hdata : c.mem = true ∨ s.ag.disk = true)
    (hrep : chooseReplica s.ag c.sec = some (r, sp)) :
    ∃ a1, (step s (.pop now)).1 =
      { s with ag := a1, reqs := s.reqs ++ [{ rid := s.nextRid, sec := c.sec, historic := true, spare := sp, replica := r }],
               nextRid := s.nextRid + 1 } := by
  obtain ⟨a', hp, h1, h2, h3, h4⟩ := pop_head (now := now) hh hmin hnow
  simp only [step, stepPop, hp, stepHistoricAttempt, historicAttempt]
  rw [h1, h2, h3, chooseReplica_congr h4, hrep]
  have hnd : (!c.mem && !s.ag.disk) = false := by rcases hdata with h | h <;> simp [h]
  simp only [hin, hnd, Bool.false_eq_true, if_false, launch, reqOf]
  exact ⟨_, rfl⟩

theorem find?_append_new {l : List Req} {q : Req} (h : ∀ x ∈ l, x.rid ≠ q.rid) :
    (l ++ [q]).find? (fun x => x.rid == q.rid) = some q := by
  rw [List.find?_append]
  have : l.find? (fun x => x.rid == q.rid) = none := by
    rw [List.find?_eq_none]; intro x hx; simpa using h x hx
  simp [this]

theorem extend_head {fuel want : Nat} {b : Bucket} {l : List Bucket} : (extend fuel want (b :: l)).head? = some b := by
  induction fuel generalizing l with
  | zero => rfl
  | succ n ih =>
    unfold extend
    simp only
    split
    · exact ih
    · rfl

/-- the clock reaches oldest + shortWindow + 3: exactly the three oldest recent buckets become ready -/
theorem advance_three {b0 b1 b2 b3 : Bucket} {rest : List Bucket} {sw : Nat}
    (h1 : b1.time = b0.time + 1) (h2 : b2.time = b0.time + 2) (h3 : b3.time = b0.time + 3) :
    (advance (b0 :: b1 :: b2 :: b3 :: rest) (b0.time + sw + 3) sw).1 = [b0, b1, b2] ∧
    (advance (b0 :: b1 :: b2 :: b3 :: rest) (b0.time + sw + 3) sw).2.head? = some b3 := by
  have hd : dropReady (b0 :: b1 :: b2 :: b3 :: rest).length (b0.time + sw + 3) sw (b0 :: b1 :: b2 :: b3 :: rest) =
      ([b0, b1, b2], b3 :: rest) := by
    simp only [List.length_cons]
    have e0 : b0.time + sw + 3 > b0.time + sw := by omega
    have e1 : b0.time + sw + 3 > b1.time + sw := by omega
    have e2 : b0.time + sw + 3 > b2.time + sw := by omega
    have e3 : ¬ b0.time + sw + 3 > b3.time + sw := by omega
    simp [dropReady, e0, e1, e2, e3]
  unfold advance
  simp only [hd, List.isEmpty_cons, Bool.false_eq_true, if_false]
  exact ⟨trivial, extend_head⟩

theorem insertOne_takes_single (b hb : Bucket) (oldest w : Nat) (hs : isStale oldest w hb = false) :
    ∀ t ∈ hb.secs, t ∈ (insertOne b [hb] oldest w true).body := by
  intro t ht
  -- of the generated constants only `fuel ≥ 1` and `insertHistoricWhen ≠ 0` matter
  obtain ⟨n, h12⟩ := Nat.exists_eq_add_one.2 (show 0 < maxHistoricBatch by decide)
  have hw : (insertHistoricWhen == 0) = false := by decide
  unfold insertOne
  simp only [List.isEmpty_cons, hw, Bool.or_false, Bool.false_eq_true, if_false]
  rw [h12]
  unfold takeHistoric
  simp only [List.filter_cons, hs, Bool.false_eq_true, if_false, List.filter_nil, Bool.not_false, if_true, minTime, beq_self_eq_true,
    bne_self_eq_false]
  split <;> simp [ht]

theorem tick_inserts_single (k oldest w : Nat) (hb : Bucket) (hs : isStale oldest w hb = false) (t : Nat) (ht : t ∈ hb.secs)
    (l : List Bucket) (acc : TickAcc) (hacc : acc.historic = [hb]) (hex : ∃ b ∈ l, isOurs b k = true) :
    t ∈ (tickBuckets k oldest w true l acc).inserted := by
  induction l generalizing acc with
  | nil =>
    obtain ⟨b, hb', _⟩ := hex
    exact absurd hb' List.not_mem_nil
  | cons b bs ih =>
    rw [tickBuckets_cons]
    by_cases ho : isOurs b k = true
    · rw [if_pos ho]
      apply (tickBuckets_accStep ..).inserted
      have hbody := insertOne_takes_single b hb oldest w hs t ht
      rw [insertOne_eq] at hbody
      simp only [tickOne, hacc, if_true]
      exact List.mem_append_right _ hbody
    · rw [if_neg ho]
      obtain ⟨b', hb', ho'⟩ := hex
      rcases List.mem_cons.1 hb' with rfl | hb'
      · exact absurd ho' ho
      · exact ih acc hacc ⟨b', hb', ho'⟩

/-- step 2 of the schedule: the historic request is parked in a new historic bucket of its replica -/
theorem recv_parks_historic {S : State} {q : Req} {l : List Req} {g : Agg} {b0 nb : Bucket}
    (hreqs : S.reqs = l ++ [q]) (hfresh : ∀ x ∈ l, x.rid ≠ q.rid) (hq : q.historic = true)
    (hagg : S.aggs[q.replica]? = some g) (hup : g.up = true) (hnb : g.historic = [])
    (hhead : g.recent.head? = some b0) (hlast : g.recent.getLast? = some nb)
    (hacc : aggDecide true q.sec b0.time nb.time S.aggWindow q.replica = .joinHistoric) :
    (step S (.recv q.rid)).1.aggs = S.aggs.set q.replica { g with historic := [park (mkBucket q.sec) q.rid q.sec] } ∧
    (step S (.recv q.rid)).1.shortWindow = S.shortWindow ∧ (step S (.recv q.rid)).1.aggWindow = S.aggWindow := by
  have hfind : findReq S q.rid = some q := by
    unfold findReq; rw [hreqs]; exact find?_append_new hfresh
  simp only [step, stepRecv, hfind, dropReq, hagg, hup, Bool.not_true, Bool.false_eq_true, if_false, recvHandle, hhead, hlast, hq,
    hacc, setAgg, hnb, parkHistoric]
  exact ⟨trivial, trivial, trivial⟩

theorem can_finish_oldest {s : State} {c : Cbd} {r : Nat} {g : Agg} {b0 nb : Bucket} (h : SInv s []) (hf : FinishReady s c r g b0 nb) :
    c.sec ∈ (run s (finishOps s)).inserted := by
  obtain ⟨cs, hh, hmin⟩ := hf.hist
  obtain ⟨sp, hrep⟩ := hf.replica
  obtain ⟨b1, b2, b3, rest, hw, t1, t2, t3, hlast⟩ := hf.window
  have hr3 := (chooseReplica_spec hrep).2.1
  have hops : finishOps s = [.pop (c.sec + 1), .recv s.nextRid, .tick r (b0.time + s.shortWindow + 3) true] := by
    unfold finishOps; simp only [hh, hrep, hf.agg, hw, List.head?_cons]
  rw [hops]
  simp only [run, List.foldl_cons, List.foldl_nil]
  obtain ⟨a1, h1⟩ := pop_launches (s := s) (c.sec + 1) hh hmin (Nat.lt_succ_self _) hf.inAgent hf.data hrep
  generalize (step s (.pop (c.sec + 1))).1 = S1 at h1 ⊢
  have hfresh : ∀ x ∈ s.reqs, x.rid ≠ s.nextRid := by
    intro x hx he
    have := h.ridLt (x.rid, x.sec) (tag_req hx)
    simp only at this; omega
  have h2 := recv_parks_historic (S := S1) (q := { rid := s.nextRid, sec := c.sec, historic := true, spare := sp, replica := r })
    (l := s.reqs) (g := g) (b0 := b0) (nb := nb) (by rw [h1]) hfresh rfl (by rw [h1]; exact hf.agg) hf.up hf.noBacklog
    (by rw [hw]; rfl) (by rw [hw]; exact hlast) (by rw [h1]; exact hf.accept)
  simp only at h2
  generalize (step S1 (.recv s.nextRid)).1 = s2 at h2 ⊢
  obtain ⟨hagg2, hsw2, hw2⟩ := h2
  subst h1
  dsimp only at hagg2 hsw2 hw2
  have hrlen : r < s.aggs.length := (List.getElem?_eq_some_iff.1 hf.agg).1
  have hg2 : s2.aggs[r]? = some { g with historic := [park (mkBucket c.sec) s.nextRid c.sec] } := by
    rw [hagg2]; simp [hrlen]
  have adv := advance_three (b0 := b0) (b1 := b1) (b2 := b2) (b3 := b3) (rest := rest) (sw := s.shortWindow) t1 t2 t3
  simp only [step, stepTick, hg2, hf.up, Bool.not_true, Bool.false_eq_true, if_false, hsw2, hw2, hw]
  simp only [List.mem_append]
  right
  rw [adv.1, adv.2]
  simp only
  apply tick_inserts_single r b3.time s.aggWindow (park (mkBucket c.sec) s.nextRid c.sec)
  · have hsl := hf.slack
    have : ¬ (c.sec < b3.time - s.aggWindow) := by omega
    simp [isStale, park, mkBucket, this]
  · simp [park, mkBucket]
  · rfl
  · rcases three_consecutive b0.time r hr3 with h0 | h0 | h0
    · exact ⟨b0, by simp, by simp [isOurs, h0]⟩
    · exact ⟨b1, by simp, by simp [isOurs, t1, h0]⟩
    · exact ⟨b2, by simp, by simp [isOurs, t2, h0]⟩

end SH.Delivery
