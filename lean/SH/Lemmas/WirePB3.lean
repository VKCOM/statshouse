/-
  SH.Lemmas.WirePB3 — Protobuf round trip: a whole metric, the batch, parser.parse.
-/
import SH.Lemmas.WirePB2
namespace SH.Wire

/-- `maskN 3` on the length (`histMask_eq_maskN`) -/
def histMask : List (Nat × Nat) → Nat → Nat
  | [], mk => mk
  | _ :: hs, mk => histMask hs (setBit mk 3)

theorem histMask_eq_maskN : ∀ (hs : List (Nat × Nat)) (mk : Nat), histMask hs mk = maskN 3 hs.length mk
  | [], _ => rfl
  | _ :: hs, mk => histMask_eq_maskN hs (setBit mk 3)

/-- `pbP1 … pbP6`: the decoder's accumulator after each record kind of `pbEncMetric` -/
def pbP1 (m : Metric) : Metric := if m.name = [] then {} else { ({} : Metric) with name := m.name }
def pbP2 (m : Metric) : Metric := { pbP1 m with tags := (pbP1 m).tags ++ m.tags }
def pbP3 (m : Metric) : Metric :=
  if m.counter = 0 then pbP2 m else { pbP2 m with counter := m.counter, mask := setBit (pbP2 m).mask 0 }
def pbP4 (m : Metric) : Metric :=
  if m.ts = 0 then pbP3 m else { pbP3 m with ts := m.ts, mask := setBit (pbP3 m).mask 4 }
def pbP5 (m : Metric) : Metric :=
  if m.value = [] then pbP4 m else { pbP4 m with value := (pbP4 m).value ++ m.value, mask := setBit (pbP4 m).mask 1 }
def pbP6 (m : Metric) : Metric :=
  if m.unique = [] then pbP5 m else { pbP5 m with unique := (pbP5 m).unique ++ m.unique, mask := setBit (pbP5 m).mask 2 }
/-- the metric the Protobuf decoder builds from the proto3 encoding of `m` -/
def pbDecoded (m : Metric) : Metric :=
  { pbP6 m with hist := (pbP6 m).hist ++ m.hist, mask := histMask m.hist (pbP6 m).mask }

theorem sem_pbDecoded (m : Metric) : sem (pbDecoded m) = sem m := by
  -- one record kind at a time: an omitted field is the zero value the decoder starts from
  have h1 : sem (pbP1 m) = { name := m.name } := by
    unfold pbP1
    by_cases h : m.name = []
    · rw [if_pos h, h]
      rfl
    · rw [if_neg h]
      rfl
  have h2 : sem (pbP2 m) = { name := m.name, tags := m.tags } :=
    congrArg (fun a : Metric => { a with tags := a.tags ++ m.tags }) h1
  have h3 : sem (pbP3 m) = { name := m.name, tags := m.tags, counter := m.counter } := by
    unfold pbP3
    by_cases h : m.counter = 0
    · rw [if_pos h, h]
      exact h2
    · rw [if_neg h]
      exact congrArg (fun a : Metric => { a with counter := m.counter }) h2
  have h4 : sem (pbP4 m) = { name := m.name, tags := m.tags, counter := m.counter, ts := m.ts } := by
    unfold pbP4
    by_cases h : m.ts = 0
    · rw [if_pos h, h]
      exact h3
    · rw [if_neg h]
      exact congrArg (fun a : Metric => { a with ts := m.ts }) h3
  have h5 : sem (pbP5 m) = { name := m.name, tags := m.tags, counter := m.counter, ts := m.ts, value := m.value } := by
    unfold pbP5
    by_cases h : m.value = []
    · rw [if_pos h, h]
      exact h4
    · rw [if_neg h]
      exact congrArg (fun a : Metric => { a with value := a.value ++ m.value }) h4
  have h6 : sem (pbP6 m) =
      { name := m.name, tags := m.tags, counter := m.counter, ts := m.ts, value := m.value, unique := m.unique } := by
    unfold pbP6
    by_cases h : m.unique = []
    · rw [if_pos h, h]
      exact h5
    · rw [if_neg h]
      exact congrArg (fun a : Metric => { a with unique := a.unique ++ m.unique }) h5
  exact congrArg (fun a : Metric => { a with hist := a.hist ++ m.hist }) h6

theorem pbMetric_enc (v : Variant) (m : Metric) (w : m.WF) :
    pbMetric v ((pbEncMetric m).length + 1) {} (pbEncMetric m) = .ok (pbDecoded m) := by
  -- the seven parts of `pbEncMetric`, each with what the loop makes of it
  have name := Stretch.opt (L := pbMetric v) (m.name = [])
    (.one (pbEncLen_length_pos 1 _) fun f m' t => pbTurn_name v f m' m.name t w.name)
  have tags := Stretch.run (L := pbMetric v) pbTagRec (fun m ts => { m with tags := m.tags ++ ts }) _ (fun m => by simp)
    (fun m x xs => by simp) (fun _ => pbEncLen_length_pos 2 _) (fun f m kv t h => pbTurn_tag v f m kv t h.1 h.2) m.tags w.tags
  have counter := Stretch.opt (L := pbMetric v) (m.counter = 0)
    (.one (pbEncTag_append_length_pos 3 1 _) fun f m' t => pbTurn_counter v f m' m.counter t w.counter)
  have ts := Stretch.opt (L := pbMetric v) (m.ts = 0)
    (.one (pbEncTag_append_length_pos 4 0 _) fun f m' t => pbTurn_ts v f m' m.ts t w.ts)
  have value := Stretch.opt (L := pbMetric v) (m.value = [])
    (.one (pbEncLen_length_pos 5 _) fun f m' t => pbTurn_valuePacked v f m' m.value t w.valueLen w.value)
  have unique := Stretch.opt (L := pbMetric v) (m.unique = [])
    (.one (pbEncLen_length_pos 6 _) fun f m' t => pbTurn_uniquePacked v f m' m.unique t w.uniqueLen w.unique)
  have hist := Stretch.run (L := pbMetric v) pbHistRec
    (fun m hs => { m with hist := m.hist ++ hs, mask := histMask hs m.mask }) _ (fun m => by simp [histMask])
    (fun m x xs => by simp [histMask]) (fun _ => pbEncLen_length_pos 7 _)
    (fun f m h t hh => pbTurn_hist v f m h t hh.1 hh.2) m.hist w.hist
  obtain ⟨_, e⟩ := ((((((name.append tags).append counter).append ts).append value).append unique).append hist).whole {}
  -- by unfolding: the parts make up `pbEncMetric m`, their effects on `{}` are `pbP1 m` … `pbDecoded m`, and on the
  -- empty rest the loop returns its state
  exact e.trans rfl

/-- a metric record of `pbEncBatch` -/
def pbBatchRec (m : Metric) : Bytes := pbEncLen 13337 (pbEncMetric m)

theorem pbBatch_step (v : Variant) (f : Nat) (acc : List Metric) (m : Metric) (w : m.WF)
    (hsz : (pbEncMetric m).length < 2 ^ 32) (t : Bytes) :
    pbBatch v (f + 1) acc (pbBatchRec m ++ t) = pbBatch v f (acc ++ [pbDecoded m]) t := by
  unfold pbBatchRec
  simp only [pbBatch]
  rw [if_neg (pbEncLen_ne_nil 13337 _ t), pbTag_encLen 13337 _ t (by decide) (by decide)]
  simp only [and_self, if_true]
  rw [pbBytes_enc _ t (Nat.lt_trans hsz (by decide))]
  simp only []
  rw [pbMetric_enc v m w]

theorem pbBatch_enc (v : Variant) (ms : List Metric) (h : ∀ m ∈ ms, m.WF ∧ (pbEncMetric m).length < 2 ^ 32) :
    pbBatch v ((pbEncBatch ms).length + 1) [] (pbEncBatch ms) = .ok (ms.map pbDecoded) := by
  have records := Stretch.run (L := pbBatch v) pbBatchRec (fun acc ms => acc ++ ms.map pbDecoded) _ (fun acc => by simp)
    (fun acc x xs => by simp) (fun _ => pbEncLen_length_pos 13337 _) (fun f acc m t h => pbBatch_step v f acc m h.1 h.2 t) ms h
  obtain ⟨_, e⟩ := records.whole []
  exact e.trans rfl

theorem detect_pbEnc (m : Metric) (ms : List Metric) : detect (pbEncBatch (m :: ms)) = .pb := by
  -- the packet starts with `pbEncTag 13337 2`, whose first byte is 0xca: no map header
  show detect (0xca :: _) = _
  exact detect_cons 0xca _ (by decide) (by decide) (by decide)

theorem parse_pbEnc (v : Variant) (ms : List Metric) (h : ∀ x ∈ ms, x.WF ∧ (pbEncMetric x).length < 2 ^ 32) :
    (parse v (pbEncBatch ms)).delivered = ms.map pbDecoded ∧ (parse v (pbEncBatch ms)).err = none ∧
    (ms ≠ [] → (parse v (pbEncBatch ms)).fmt = .pb) := by
  cases ms with
  | nil => exact ⟨rfl, rfl, fun h => absurd rfl h⟩
  | cons m ms =>
    unfold parse
    rw [detect_pbEnc m ms]
    simp only []
    rw [pbBatch_enc v (m :: ms) h]
    exact ⟨rfl, rfl, fun _ => rfl⟩

end SH.Wire
