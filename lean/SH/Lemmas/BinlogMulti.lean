/-
  SH.Lemmas.BinlogMulti — the file list in its general shape: chunks `D0` closed by earlier writer sessions, the chunk being
  written, the layout of further appends with an arbitrary continuation `k1` of the last chunk (a cut).  The invariant `Good` of
  that shape: appends keep it (`good_append`) and it makes the directory scan (`scan_good`); the equations of `seek`
  (readAndUpdateCRCIfNeed); `readAllFromPosition` reduced to the loop once the scan is known (`readAll_at`, `files_at`).
-/
import SH.Lemmas.BinlogAll
open SH.Binlog
namespace SH.C18

/-- the current chunk `cur` continued by the layout with continuation `(k1, [])`, then the later chunks -/
def allFilesK (cfg : Cfg) (w : WS) (as : List Ap) (cur k1 : Bytes) : List Bytes :=
  (cur ++ (layoutC cfg w as (k1, [])).1) :: (layoutC cfg w as (k1, [])).2

theorem allFilesK_append (cfg : Cfg) (k1 : Bytes) : ∀ (pre post : List Ap) (w : WS) (c : Cur),
    allFilesK cfg w (pre ++ post) c.bytes k1 =
      (splitC cfg w pre c).1 ++ allFilesK cfg (runAll cfg w pre) post (splitC cfg w pre c).2.bytes k1
  | [], post, w, c => by simp [splitC, runAll]
  | a :: as, post, w, c => by
    cases hr : rotates cfg w a with
    | true =>
      have ih := allFilesK_append cfg k1 as post (apNext cfg w a) (rfCur cfg w a)
      simp only [allFilesK, List.cons_append, layoutC, hr, if_true, splitC, runAll] at ih ⊢
      rw [← ih]
      simp [rfCur, Cur.bytes, List.append_assoc]
    | false =>
      have ih := allFilesK_append cfg k1 as post (apNext cfg w a) { c with body := c.body ++ apA cfg w a }
      simp only [allFilesK, List.cons_append, layoutC, hr, Bool.false_eq_true, if_false, splitC, runAll] at ih ⊢
      rw [← ih]
      simp [Cur.bytes, List.append_assoc]

theorem allFilesK_split (cfg : Cfg) (k1 : Bytes) (as : List Ap) (w : WS) (c : Cur) :
    allFilesK cfg w as c.bytes k1 = (splitC cfg w as c).1 ++ [(splitC cfg w as c).2.bytes ++ k1] := by
  have h := allFilesK_append cfg k1 as [] w c
  rwa [List.append_nil] at h

/-- chunks closed earlier: they scan, their positions increase and lie in front of position `p` -/
def PreOK (cfg : Cfg) (D0 : List Bytes) (p : Nat) : Prop :=
  (∀ d ∈ D0, scanHeader cfg d = .ok (gh d)) ∧ Inc (D0.map gh) ∧ ∀ h ∈ D0.map gh, h.pos < (p : Int)

theorem preOK_nil (cfg : Cfg) (p : Nat) : PreOK cfg [] p := ⟨by simp, List.Pairwise.nil, by simp⟩

theorem PreOK.snoc {cfg : Cfg} {D0 : List Bytes} {p p' : Nat} (h : PreOK cfg D0 p) (d : Bytes)
    (hs : scanHeader cfg d = .ok (gh d)) (hd : (gh d).pos = (p : Int)) (hp : p < p') : PreOK cfg (D0 ++ [d]) p' := by
  refine ⟨fun x hx => ?_, ?_, fun x hx => ?_⟩
  · rcases List.mem_append.mp hx with hx | hx
    · exact h.1 x hx
    · rw [List.mem_singleton.mp hx]; exact hs
  · rw [List.map_append]
    refine List.pairwise_append.mpr ⟨h.2.1, List.pairwise_singleton _ _, fun x hx y hy => ?_⟩
    rw [List.mem_singleton.mp hy, hd]
    exact h.2.2 x hx
  · rw [List.map_append] at hx
    rcases List.mem_append.mp hx with hx | hx
    · have := h.2.2 x hx; omega
    · rw [List.mem_singleton.mp hx, hd]; omega

/-- what the file list and the writer satisfy at any moment of any history of sessions: the closed chunks scan and lie in
    front of the current chunk, the current chunk accounts for the writer's position and checksum, its header scans -/
structure Good (cfg : Cfg) (D0 : List Bytes) (w : WS) (c : Cur) : Prop where
  pre : PreOK cfg D0 c.pos
  acc : Acc cfg w c
  ok : CurOK cfg c

theorem good_append (cfg : Cfg) (hupd : ∀ c a b, cfg.upd (cfg.upd c a) b = cfg.upd c (a ++ b)) :
    ∀ (as : List Ap) (D0 : List Bytes) (w : WS) (c : Cur), (runAll cfg w as).offG < 9223372036854775808 → Good cfg D0 w c →
      Good cfg (D0 ++ (splitC cfg w as c).1) (runAll cfg w as) (splitC cfg w as c).2
  | [], D0, _, _, _, h => by simpa [splitC, runAll] using h
  | a :: as, D0, w, c, hb, h => by
    have hcw : c.pos ≤ w.offG := by have := h.acc.1; omega
    cases hr : rotates cfg w a with
    | true =>
      obtain ⟨p1, -, p3⟩ := rot_pos hr as
      have hf := h.ok.bytes (apA cfg w a ++ apRT cfg w a)
      rw [← List.append_assoc] at hf
      have ih := good_append cfg hupd as (D0 ++ [c.bytes ++ apA cfg w a ++ apRT cfg w a]) (apNext cfg w a) (rfCur cfg w a) hb
        ⟨h.pre.snoc _ hf.1 hf.2.1 (Nat.lt_of_le_of_lt hcw p1), rfCur_acc cfg w a hr, rfCur_ok cfg w a (Nat.lt_trans p3 hb)⟩
      simpa only [splitC, hr, if_true, runAll, List.append_assoc, List.singleton_append] using ih
    | false =>
      obtain ⟨ho, hc, -, -⟩ := apNext_noRot hr
      simp only [splitC, hr, Bool.false_eq_true, if_false, runAll]
      refine good_append cfg hupd as D0 _ _ hb ⟨h.pre, ⟨?_, ?_⟩, fun x => h.ok x⟩
      · rw [ho, (apMid_cases cfg w a).1, ← h.acc.1]
        simp only [Cur.bytes, List.length_append]; omega
      · rw [hc, apMid_crc_apA cfg hupd, ← h.acc.2]
        simp only [Cur.bytes]; rw [hupd, List.append_assoc]

theorem mapM_scan (cfg : Cfg) (g : Bytes → Hdr) : ∀ (l : List Bytes), (∀ d ∈ l, scanHeader cfg d = .ok (g d)) →
    l.mapM (scanHeader cfg) = .ok (l.map g)
  | [], _ => rfl
  | d :: ds, h => by
    have h1 := h d (List.mem_cons_self ..)
    have h2 := mapM_scan cfg g ds (fun x hx => h x (List.mem_cons_of_mem _ hx))
    simp only [List.mapM_cons, h1, h2, List.map_cons]
    rfl

theorem scan_good {cfg : Cfg} {D : List Bytes} {w : WS} {c : Cur} (h : Good cfg D w c) (x : Bytes) :
    scan cfg (D ++ [c.bytes ++ x]) = .ok ((D ++ [c.bytes ++ x]).map gh) := by
  have hc := h.ok.bytes x
  have hp := h.pre.snoc (c.bytes ++ x) hc.1 hc.2.1 (Nat.lt_succ_self _)
  simp only [scan, mapM_scan cfg gh _ hp.1, sortHdrs_inc _ hp.2.1]

/-- the second step of `seek`: from `curPos` (checksum `crc`, bytes `rest`) forward to `startPos` -/
def seekFrom (cfg : Cfg) (startPos curPos : Int) (crc : UInt32) (rest : Bytes) (ts : Nat) : Except Err (Int × UInt32 × Bytes × Nat) :=
  if curPos < startPos then
    let need := (startPos - curPos).toNat
    if !atLeast rest need then .error .seek
    else .ok (startPos, cfg.upd crc (rest.take need), rest.drop need, ts)
  else .ok (curPos, crc, rest, ts)

theorem seek_none (cfg : Cfg) (h : Hdr) (p : Int) (ts : Nat) : seek cfg h p none ts = seekFrom cfg p h.pos h.crc h.data ts := rfl

theorem seekFrom_here (cfg : Cfg) (p : Int) (crc : UInt32) (rest : Bytes) (ts : Nat) :
    seekFrom cfg p p crc rest ts = .ok (p, crc, rest, ts) := by
  rw [seekFrom, if_neg (Int.lt_irrefl p)]

theorem seekFrom_skip (cfg : Cfg) (p q : Int) (crc : UInt32) (A R : Bytes) (ts : Nat) (hq : q = p + A.length) (ha : A.length ≠ 0) :
    seekFrom cfg q p crc (A ++ R) ts = .ok (q, cfg.upd crc A, R, ts) := by
  have h1 : p < q := by omega
  have h3 : (q - p).toNat = A.length := by omega
  have h4 : atLeast (A ++ R) A.length = true := by rw [atLeast_iff, List.length_append]; exact Nat.le_add_right ..
  simp only [seekFrom, h1, if_true, h3, h4, Bool.not_true, Bool.false_eq_true, if_false, List.take_left, List.drop_left]

/-- the meta names the position behind `A` and the checksum up to there: `readAndUpdateCRCIfNeed` re-computes the checksum over
    `A`, accepts, and goes on from the meta's position -/
theorem seek_meta (cfg : Cfg) (h : Hdr) (A R : Bytes) (m : Meta) (p : Int) (ts : Nat) (hd : h.data = A ++ R)
    (hpos : m.pos = h.pos + A.length) (hcrc : cfg.upd h.crc A = m.crc) (hp : m.pos ≤ p) :
    seek cfg h p (some m) ts = seekFrom cfg p m.pos m.crc R m.ts := by
  have h1 : ¬ (m.pos > p) := Int.not_lt.mpr hp
  have h2 : h.pos ≤ m.pos := by omega
  have h3 : (m.pos - h.pos).toNat = A.length := by omega
  have h4 : atLeast (A ++ R) A.length = true := by rw [atLeast_iff, List.length_append]; exact Nat.le_add_right ..
  simp only [seek, hd, h1, h2, h3, h4, if_true, Bool.not_true, Bool.false_eq_true, if_false, List.take_left, List.drop_left, hcrc,
    ne_eq, not_true_eq_false]
  rfl

theorem indexByPos_split (p : Int) (h : Hdr) (H2 : List Hdr) (hh : h.pos ≤ p) (hgt : ∀ x ∈ H2.head?, p < x.pos) :
    ∀ (H1 : List Hdr) (i idx : Nat), (∀ x ∈ H1, x.pos ≤ p) → indexByPos p (H1 ++ h :: H2) i idx = i + H1.length
  | [], i, idx, _ => by
    rw [List.nil_append, indexByPos, if_neg (Int.not_lt.mpr hh)]
    cases H2 with
    | nil => rfl
    | cons x xs => rw [indexByPos, if_pos (hgt x rfl)]; rfl
  | x :: H1, i, idx, hle => by
    rw [List.cons_append, indexByPos, if_neg (Int.not_lt.mpr (hle x (List.mem_cons_self ..))),
      indexByPos_split p h H2 hh hgt H1 (i + 1) i (fun y hy => hle y (List.mem_cons_of_mem _ hy)), List.length_cons]
    omega

/-- once the scan is known: `h` is the chunk `getBinlogIndexByPosition` picks (`hle`, `hp`, `hgt`), a meta inside that chunk is kept
    (`hsi`), and `readAll` is the loop on what the seek leaves, followed by the later files -/
theorem readAll_at (cfg : Cfg) (files : List Bytes) (H1 : List Hdr) (h : Hdr) (H2 : List Hdr) (p : Nat) (crc : UInt32) (rest : Bytes)
    (si : Option Meta) (ts ts' : Nat) (hscan : scan cfg files = .ok (H1 ++ h :: H2)) (hle : ∀ x ∈ H1, x.pos ≤ h.pos)
    (hp : h.pos ≤ (p : Int)) (hgt : ∀ x ∈ H2.head?, (p : Int) < x.pos) (hsi : ∀ m, si = some m → h.pos ≤ m.pos ∧ m.pos ≤ (p : Int))
    (hseek : seek cfg h p si ts = .ok ((p : Int), crc, rest, ts')) :
    ∃ (s : RS) (fuel : Nat), At s p crc rest ∧ rest.length / 4 + 2 ≤ fuel ∧ s.eng.evs = [] ∧
      (let r := readAll cfg files p si ts ⟨p, [], []⟩
       let f := finish cfg (readLoop cfg fuel s) H2
       r.pos = f.1 ∧ r.crc = f.2.1 ∧ r.err = f.2.2.1 ∧ r.eng = f.2.2.2.1) := by
  obtain ⟨h0, hs, hcons, h0le⟩ : ∃ h0 hs, H1 ++ h :: H2 = h0 :: hs ∧ ¬ ((p : Int) < h0.pos) := by
    cases H1 with
    | nil => exact ⟨h, H2, rfl, Int.not_lt.mpr hp⟩
    | cons x xs => exact ⟨x, xs ++ h :: H2, rfl, Int.not_lt.mpr (Int.le_trans (hle x (List.mem_cons_self ..)) hp)⟩
  have hidx := indexByPos_split p h H2 hp hgt H1 0 0 (fun x hx => Int.le_trans (hle x hx) hp)
  have hdrop : (H1 ++ h :: H2).drop H1.length = h :: H2 := List.drop_left
  rw [Nat.zero_add, hcons] at hidx
  rw [hcons] at hscan hdrop
  refine ⟨{ pos := (p : Int), crc := crc, rest := rest, slack := rest.length % 4, dk := false, ts := ts', commitPos := 0,
            eng := ⟨p, [], []⟩ }, rest.length / 2 + 4, ⟨rfl, rfl, rfl, rfl, rfl, rfl⟩, by omega, rfl, ?_⟩
  cases si with
  | none =>
    simp only [readAll, hscan, h0le, if_false, hidx, hdrop, readFiles_first, readFile, hseek, and_self]
  | some m =>
    obtain ⟨m1, m2⟩ := hsi m rfl
    have hidxm := indexByPos_split m.pos h H2 m1 (fun x hx => Int.lt_of_le_of_lt m2 (hgt x hx)) H1 0 0
      (fun x hx => Int.le_trans (hle x hx) m1)
    rw [Nat.zero_add, hcons] at hidxm
    simp only [readAll, hscan, h0le, if_false, hidx, hidxm, Int.not_lt.mpr m2, or_false, ne_eq, not_true_eq_false, hdrop,
      readFiles_first, readFile, hseek, and_self]

/-- the scanned file list of a history, split at the chunk in which the appends `pre` end -/
theorem files_at (cfg : Cfg) (hupd : ∀ c a b, cfg.upd (cfg.upd c a) b = cfg.upd c (a ++ b))
    (D0 : List Bytes) (pre post : List Ap) (w : WS) (c0 : Cur) (k1 : Bytes)
    (hb : (runAll cfg w (pre ++ post)).offG < 9223372036854775808) (hg : Good cfg D0 w c0) :
    ∃ (H1 : List Hdr) (h : Hdr),
      scan cfg (D0 ++ allFilesK cfg w (pre ++ post) c0.bytes k1)
        = .ok (H1 ++ h :: (layoutC cfg (runAll cfg w pre) post (k1, [])).2.map hdrOf) ∧
      (∀ x ∈ H1, x.pos ≤ h.pos) ∧
      (∀ x ∈ ((layoutC cfg (runAll cfg w pre) post (k1, [])).2.map hdrOf).head?, ((runAll cfg w pre).offG : Int) < x.pos) ∧
      h.pos = ((splitC cfg w pre c0).2.pos : Int) ∧ h.crc = (splitC cfg w pre c0).2.crc ∧
      h.data = (splitC cfg w pre c0).2.bytes ++ (layoutC cfg (runAll cfg w pre) post (k1, [])).1 ∧
      Good cfg (D0 ++ (splitC cfg w pre c0).1) (runAll cfg w pre) (splitC cfg w pre c0).2 := by
  have hbk : (runAll cfg (runAll cfg w pre) post).offG < 9223372036854775808 := by rw [← runAll_append]; exact hb
  have g1 := good_append cfg hupd pre D0 w c0 (Nat.lt_of_le_of_lt (runAll_mono cfg post _) hbk) hg
  -- the invariant after all appends makes the whole directory scan
  have hscan := scan_good (good_append cfg hupd post _ _ _ hbk g1) k1
  obtain ⟨l2, l4⟩ := layout_later cfg k1 post (runAll cfg w pre)
  have hh := g1.ok.bytes (layoutC cfg (runAll cfg w pre) post (k1, [])).1
  rw [List.append_assoc, ← allFilesK_split] at hscan
  refine ⟨(D0 ++ (splitC cfg w pre c0).1).map gh, gh ((splitC cfg w pre c0).2.bytes ++ (layoutC cfg (runAll cfg w pre) post (k1, [])).1),
    ?_, fun x hx => ?_, fun x hx => l4 hbk x (List.mem_of_mem_head? hx), hh.2.1, hh.2.2, gh_data _, g1⟩
  · rw [allFilesK_append, ← List.append_assoc, hscan, List.map_append, allFilesK, List.map_cons, l2]
  · rw [hh.2.1]
    exact Int.le_of_lt (g1.pre.2.2 x hx)

end SH.C18
