/-
  SH.Lemmas.DiskCachePutFail — fault "the body write of a put fails after k bytes": the file that can still be appended to is always exactly its
  records, and the failed put leaves no file open for appending; a concrete run of the seeded variant that keeps the file.
-/
import SH.Lemmas.DiskCachePut

namespace SH.C09
open SH.DiskCache

/-- in every state satisfying the invariant (hence after every history) the file that can still be appended to is exactly the
    concatenation of its well-formed records: no stray byte sits behind the last valid record -/
theorem writing_file_is_records (cfg : Cfg) (s : Shard) (a : Abs) (inv : Inv cfg s a) (w : Nat) (hw : s.writing = some w) :
    ∃ recs : List ARec, (∀ r ∈ recs, r.WF cfg) ∧ DiskCache.fileBytes s.disk w = encRecs cfg recs := by
  obtain ⟨f, o, v⟩ := inv.writing_view hw
  refine ⟨f.recs, (inv.wf f v.mem).1, ?_⟩
  rw [← v.name, inv.fileBytes_of_mem v.mem, AFile.bytes, inv.newTl f v.new]; simp

/-- C09 `failed_put_leaves_no_garbage`: a put whose body write fails after `k` bytes leaves NO file that can still be appended to
    (the writing file is dropped; the next put opens a new, empty file). That is all the statement says: what the bytes left on
    disk do at the next restart is not stated (no bound on `k`, no invariant for the state after `putFail`). -/
theorem failed_put_leaves_no_garbage (cfg : Cfg) (s : Shard) (a : Abs) (inv : Inv cfg s a) (t : Nat) (d : Bytes) (r : Bool) (k : Nat)
    (hd : tooBig d = false) : (putFail false cfg s t d r k).writing = none := by
  obtain ⟨_, w, o, _, _, _, hw, ho⟩ := inv_ensure cfg s a inv d.length r
  unfold putFail
  rw [hd]
  simp only [Bool.false_eq_true, if_false, hw, ho]

/-- the seeded variant keeps appending to the same file: a failed body that contains the image of a stored second (time 28),
    followed by a shorter put, brings back after a restart a second that was never put; the code as it is returns only the real one -/
def imgBody : Bytes := encHeader magicGood 28 1 1 ++ [9] ++ [0, 0, 0]
theorem keepFile_resurrects_phantom :
    (drain cfg0 4 (restart (put cfg0 (putFail true cfg0 {} 7 imgBody false 22) 8 [] false).1)).2 = [(8, 1), (28, 2)] ∧
    (drain cfg0 4 (restart (put cfg0 (putFail false cfg0 {} 7 imgBody false 22) 8 [] false).1)).2 = [(8, 1)] := by decide +kernel

end SH.C09
