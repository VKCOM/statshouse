/-
  SH.Lemmas.EngineChain — the invariant of SH.Model.Engine (property C17): what a chain says about `upTo`/`above`; `Inv` (the
  database is the applied binlog prefix) and the contiguity `Ch` of the model's binlog, preserved together by every step
  (`step_good`); then the replay loop of a restart (loop invariant `Rd`, on which restart_catches_up rests). The model's own
  writer (`writeOK`, `appendStep`) produces contiguous binlogs, deliveries/flushes/crashes keep them; for the real fsbinlog this
  is its reader/writer contract (C18).  Defines for the property statements: `replayOps`, `Rd`, `isDelivery`.
-/
import SH.Lemmas.Engine
namespace SH.Engine

theorem chain_nil (p : Nat) : Chain p [] := trivial

theorem chain_upTo_all (l : List Rec) (p c : Nat) (h : Chain p l) (hc : p + total l ≤ c) : upTo c l = l :=
  upTo_eq_self c l (fun r hr => by have := (chain_bounds l p h r hr).2; omega)

theorem chain_upTo_nil (l : List Rec) (p c : Nat) (h : Chain p l) (hc : c ≤ p) : upTo c l = [] :=
  upTo_eq_nil c l (fun r hr => by have := (chain_bounds l p h r hr).1; omega)

/-- a contiguous binlog is sorted by end offset -/
theorem chain_split : ∀ (l : List Rec) (p c : Nat), Chain p l →
    upTo c l ++ above c l = l ∧ Chain p (upTo c l) := by
  intro l
  induction l with
  | nil => intro p c _; simp [upTo, above, Chain]
  | cons a t ih =>
    intro p c h
    by_cases hc : a.eo ≤ c
    · obtain ⟨i1, i2⟩ := ih a.eo c h.2.2
      have e1 : upTo c (a :: t) = a :: upTo c t := List.filter_cons_of_pos (decide_eq_true hc)
      have e2 : above c (a :: t) = above c t :=
        List.filter_cons_of_neg fun hd => Nat.not_lt.2 hc (of_decide_eq_true hd)
      rw [e1, e2, List.cons_append, i1]
      exact ⟨rfl, h.1, h.2.1, i2⟩
    · have hb : ∀ r ∈ a :: t, c < r.eo := fun r hr => (List.mem_cons.1 hr).elim (fun e => e ▸ Nat.lt_of_not_le hc)
        fun hr => Nat.lt_trans (Nat.lt_of_not_le hc) (chain_bounds t a.eo h.2.2 r hr).1
      rw [upTo_eq_nil c _ hb, above_eq_self c _ hb]
      exact ⟨rfl, trivial⟩

/-- contiguity, over components like `InvC`: consumed, queued and undelivered records are three chains laid end to end (c1-c4) -/
structure ChC (coff toff dbo : Nat) (done rest : List Rec) (len : Nat) (aq : List QItem) : Prop where
  c1 : Chain 0 done
  c2 : total done = dbo
  c3 : Chain dbo (flat aq)
  c4 : Chain (rpos dbo aq) rest
  c5 : total (upTo toff done) = toff      -- the offset row of the write transaction is a record boundary
  c6 : total (upTo coff done) = coff      -- so is the committed one
  c7 : rpos dbo aq + total rest = len     -- the binlog ends where its last record ends

def Ch (s : St) : Prop := ChC s.com.off s.tx.off s.dbo s.done s.rest s.len s.aq

theorem ChC.all {coff toff dbo : Nat} {done rest : List Rec} {len : Nat} {aq : List QItem}
    (h : ChC coff toff dbo done rest len aq) : Chain 0 (allR done aq rest) ∧ total (allR done aq rest) = len := by
  constructor
  · rw [allR, List.append_assoc, chain_append, chain_append, Nat.zero_add, h.c2]
    exact ⟨h.c1, h.c3, h.c4⟩
  · rw [allR, List.append_assoc, total_append, total_append, h.c2, ← Nat.add_assoc]
    exact h.c7

/-- the converse of `ChC.all`: one chain from 0 to `len`, with `dbo` marked as the end of `done` and the two offset rows as ends of
    prefixes of `done`.  `ch_enqueue`, `consume_good` keep `allR` and show the marks; `ch_crash`, `ch_append` show the chain and keep the marks -/
theorem ChC.of_all {coff toff dbo : Nat} {done rest : List Rec} {len : Nat} {aq : List QItem}
    (a : Chain 0 (allR done aq rest)) (t : total (allR done aq rest) = len) (c2 : total done = dbo)
    (c5 : total (upTo toff done) = toff) (c6 : total (upTo coff done) = coff) : ChC coff toff dbo done rest len aq := by
  rw [allR, List.append_assoc, chain_append, chain_append, Nat.zero_add, c2] at a
  rw [allR, List.append_assoc, total_append, total_append, c2, ← Nat.add_assoc] at t
  exact ⟨a.1, c2, a.2.1, a.2.2, c5, c6, t⟩

/-- the offset bounds `rpl`, `ql`, `rl`, `ln` of `InvC`, and that consumed records end at or before `dbo` -/
theorem ChC.layout {coff toff dbo : Nat} {done rest : List Rec} {len : Nat} {aq : List QItem}
    (h : ChC coff toff dbo done rest len aq) :
    rpos dbo aq ≤ len ∧ (∀ r ∈ flat aq, dbo < r.eo ∧ r.eo ≤ rpos dbo aq) ∧ (∀ r ∈ rest, rpos dbo aq < r.eo) ∧
    (∀ r ∈ allR done aq rest, r.eo ≤ len) ∧ ∀ r ∈ done, r.eo ≤ dbo :=
  ⟨h.c7 ▸ Nat.le_add_right .., chain_bounds _ _ h.c3, fun r hr => (chain_bounds _ _ h.c4 r hr).1,
    fun r hr => h.all.2 ▸ Nat.zero_add (total _) ▸ (chain_bounds _ _ h.all.1 r hr).2,
    fun r hr => h.c2 ▸ Nat.zero_add (total _) ▸ (chain_bounds _ _ h.c1 r hr).2⟩

theorem upTo_done_all {s : St} (h : Ch s) (c : Nat) (hc : s.dbo ≤ c) : upTo c s.done = s.done :=
  chain_upTo_all s.done 0 c h.c1 (by rw [h.c2]; omega)

theorem done_extend {done recs : List Rec} {dbo coff : Nat} (c1 : Chain 0 done) (c2 : total done = dbo)
    (hr : Chain dbo recs) (c6 : total (upTo coff done) = coff) (hco : coff ≤ dbo) :
    Chain 0 (done ++ recs) ∧ total (done ++ recs) = dbo + total recs ∧ total (upTo coff (done ++ recs)) = coff ∧
    total (upTo (dbo + total recs) (done ++ recs)) = dbo + total recs := by
  have hch : Chain 0 (done ++ recs) := (chain_append _ _ 0).2 ⟨c1, by rw [Nat.zero_add, c2]; exact hr⟩
  have htot : total (done ++ recs) = dbo + total recs := by rw [total_append, c2]
  refine ⟨hch, htot, ?_, ?_⟩
  · rw [upTo_append, chain_upTo_nil _ _ _ hr hco, List.append_nil]
    exact c6
  · rw [chain_upTo_all _ 0 _ hch (Nat.le_of_eq (by rw [Nat.zero_add, htot])), htot]

theorem ch_comTx {s : St} (h : Ch s) : ChC s.tx.off s.tx.off s.dbo s.done s.rest s.len s.aq :=
  ⟨h.c1, h.c2, h.c3, h.c4, h.c5, h.c5, h.c7⟩

theorem comTx_inv0 {s : St} (h : Inv0 s) (hd : s.tx.off ≤ s.dur) :
    InvC s.tx s.tx s.dbo s.done s.rest s.len s.dur s.ci s.waitQ s.ackedW s.q s.aq :=
  { h with i1 := by rw [h.i2, evsUpTo_eq_evIds _ _ h.i3], i6a := Nat.le_refl _, i7a := hd }

/-- direct apply and the flush of a non-empty queue are one move: the next records `recs` of the binlog behind `done` (queued or
    undelivered) are consumed, nothing stays queued, the offset row is the new `dbo`.  Over components: the two end states differ
    in `q`, and in `aq` (the flush resets it, direct apply finds it empty: `aq'`) -/
theorem consume_good {com tx : DB} {dbo : Nat} {done rest : List Rec} {len dur ci : Nat} {waitQ : List Waiter}
    {ackedW : List Nat} {q : Bool} {aq : List QItem}
    (h : InvC com tx dbo done rest len dur ci waitQ ackedW q aq) (hc : ChC com.off tx.off dbo done rest len aq)
    {recs rest' : List Rec} (hs : flat aq ++ rest = recs ++ rest') (q' : Bool) {aq' : List QItem} (haq : aq' = []) :
    InvC com ⟨tx.rows ++ evIds recs, dbo + total recs⟩ (dbo + total recs) (done ++ recs) rest' len dur ci waitQ ackedW q' aq' ∧
    ChC com.off (dbo + total recs) (dbo + total recs) (done ++ recs) rest' len aq' := by
  subst haq
  have hall : allR (done ++ recs) [] rest' = allR done aq rest := by
    rw [allR, allR, flat_nil, List.append_nil, List.append_assoc, ← hs, List.append_assoc]
  have hch : Chain dbo (recs ++ rest') := hs ▸ (chain_append _ _ _).2 ⟨hc.c3, hc.c4⟩
  have hco : com.off ≤ dbo := Nat.le_trans h.i6a h.i6b
  obtain ⟨_, e2, e3, e4⟩ := done_extend hc.c1 hc.c2 ((chain_append _ _ _).1 hch).1 hc.c6 hco
  have c := ChC.of_all (hall ▸ hc.all.1) (hall ▸ hc.all.2) e2 e4 e3
  obtain ⟨l1, l2, l3, l4, l5⟩ := c.layout
  refine ⟨{ h with
    i1 := by
      rw [evsUpTo_append_above _ fun r hr =>
        Nat.lt_of_le_of_lt hco (chain_bounds _ _ hch r (List.mem_append_left _ hr)).1]
      exact h.i1
    i2 := by rw [evIds_append, h.i2]
    i3 := fun r hr _ => l5 r hr
    i6a := Nat.le_trans hco (Nat.le_add_right ..)
    i6b := Nat.le_refl _
    rpl := l1, ql := l2, rl := l3, ln := l4
    qs := fun r hr => nomatch hr
    q0 := fun _ => rfl
    ack := hall ▸ h.ack
    wq := fun w hw hrd =>
      have ⟨r, hr, hh⟩ := h.wq w hw hrd
      ⟨r, List.mem_append_left _ hr, hh⟩ }, c⟩

theorem flushQ_good {s : St} (h : Inv0 s) (hc : Ch s) : Inv (flushQ s) ∧ Ch (flushQ s) := by
  by_cases he : s.aq = []
  · -- nothing is queued: only `q` is reset
    have e : flushQ s = { s with q := false } := by
      unfold flushQ
      rw [he]
      rfl
    rw [e]
    exact ⟨⟨{ h with q0 := fun _ => he }, fun hq => nomatch hq⟩, hc⟩
  · rw [flushQ_eq, if_neg he, itemsIds_eq _ h.qs]
    obtain ⟨a, b⟩ := consume_good h hc rfl false rfl
    exact ⟨⟨a, fun hq => nomatch hq⟩, b⟩

theorem announce_inv0 {s : St} (h : Inv0 s) (k : Nat) (hk : k ≤ s.len) : Inv0 (announce s k) := by
  unfold Inv0 announce
  exact { h with
    i7a := Nat.le_trans h.i7a (Nat.le_max_left ..)
    i7b := Nat.le_trans h.i7b (Nat.le_max_left ..)
    dl := Nat.max_le.2 ⟨h.dl, hk⟩
    ack := fun id hid =>
      have ⟨r, hr, h1, h2, h3⟩ := h.ack id hid
      ⟨r, hr, h1, h2, Nat.le_trans h3 (Nat.le_max_left ..)⟩ }

theorem notify_inv0 {s : St} (h : Inv0 s) (k : Nat) (hk : k ≤ s.dur) : Inv0 (notify s k) := by
  unfold Inv0 notify
  refine { h with i7b := hk, ack := fun id hid => ?_, wq := fun w hw => h.wq w ((List.dropWhile_sublist _).subset hw) }
  simp only [List.mem_append, List.mem_map, List.mem_filter] at hid
  rcases hid with hid | ⟨w, ⟨hw, hrd⟩, rfl⟩
  · exact h.ack id hid
  · -- a released write: its record ends at or before its own offset, which the commit covers
    have hrel := List.all_eq_true.1 (List.all_takeWhile (l := s.waitQ) (p := relOK k)) w hw
    have hrd' : w.rd = false := by simpa using hrd
    obtain ⟨r, hr, h1, h2, h3⟩ := h.wq w ((List.takeWhile_sublist _).subset hw) hrd'
    have : w.off ≤ k := by simpa [relOK, hrd'] using hrel
    exact ⟨r, mem_allR.2 (Or.inl hr), h1, h2, Nat.le_trans h3 (Nat.le_trans this hk)⟩

theorem commitStep_good {s : St} (hi : Inv s) (hc : Ch s) (k : Nat) (hk : k ≤ s.len) :
    Inv (commitStep s k) ∧ Ch (commitStep s k) := by
  have hd := announce_inv0 hi.1 k hk
  have hn : Inv0 (notify (announce s k) k) := notify_inv0 hd k (Nat.le_max_right ..)
  have htx : s.dbo ≤ k → s.tx.off ≤ max s.dur k := fun hle => Nat.le_trans hi.1.i6b (Nat.le_trans hle (Nat.le_max_right ..))
  -- `announce` and `notify` write no field `Ch` mentions (`dsimp` first: unifying the states themselves is slow)
  have hcn : Ch (notify (announce s k) k) := by
    dsimp only [Ch, notify, announce]
    exact hc
  have hct : Ch { notify (announce s k) k with com := s.tx } := by
    dsimp only [Ch, notify, announce]
    exact ch_comTx hc
  refine commitStep_cases (P := fun t => Inv t ∧ Ch t) s k (fun _ => ⟨⟨hd, hi.2⟩, hc⟩) (fun _ _ hle => ?_)
    (fun _ hq _ hle => ?_) fun _ hq => ⟨⟨hn, hq⟩, hcn⟩
  · exact flushQ_good (comTx_inv0 hn (htx hle)) hct
  · exact ⟨⟨comTx_inv0 hn (htx hle), fun hq' => absurd (hq ▸ hq') Bool.false_ne_true⟩, hct⟩

theorem direct_aq_nil {s : St} (h : Inv s) (hq : queueCond s = false ∨ s.q = false) : s.aq = [] := by
  refine hq.elim (fun hq => ?_) h.1.q0
  cases hqq : s.q with
  | false => exact h.1.q0 hqq
  | true =>
    have := h.2 hqq
    simp [queueCond, hqq, this] at hq

/-- stated on the plain lists: `allR …` and `allRecs …` of the states concerned both unfold to them -/
theorem allRecs_move (done : List Rec) (aq : List QItem) (rest : List Rec) (n : Nat) (it : QItem)
    (hit : itemRecs it = rest.take n) : done ++ flat (aq ++ [it]) ++ rest.drop n = done ++ flat aq ++ rest := by
  simp only [flat_append, flat_cons, flat_nil, hit, List.append_nil, List.append_assoc, List.take_append_drop]

theorem allRecs_take (done : List Rec) {aq : List QItem} (rest : List Rec) (n : Nat) (haq : aq = []) :
    done ++ rest.take n ++ flat aq ++ rest.drop n = done ++ flat aq ++ rest := by
  rw [haq, flat_nil, List.append_nil, List.append_nil, List.append_assoc, List.take_append_drop]

theorem ch_enqueue {s : St} (h : Ch s) (n : Nat) (it : QItem) (m : Nat) (hit : itemRecs it = s.rest.take n) :
    Ch (enqueue { s with rest := s.rest.drop n } it m) := by
  have hall : allR s.done (s.aq ++ [it]) (s.rest.drop n) = allR s.done s.aq s.rest := allRecs_move _ _ _ n it hit
  dsimp only [Ch, enqueue]
  exact ChC.of_all (hall ▸ h.all.1) (hall ▸ h.all.2) h.c2 h.c5 h.c6

theorem enqueue_inv {s : St} (hi : Inv s) (n : Nat) (it : QItem) (m : Nat) (hit : itemRecs it = s.rest.take n)
    (hskip : ∀ r, it = .skip r → r.isEv = false) (hq : queueCond s = true ∨ s.q = true)
    (hc : Ch (enqueue { s with rest := s.rest.drop n } it m)) : Inv (enqueue { s with rest := s.rest.drop n } it m) := by
  refine ⟨?_, fun _ => hq.elim queueCond_lt hi.2⟩
  obtain ⟨l1, l2, l3, l4, _⟩ := ChC.layout hc
  have hall : allR s.done (s.aq ++ [it]) (s.rest.drop n) = allR s.done s.aq s.rest := allRecs_move _ _ _ n it hit
  obtain ⟨h, _⟩ := hi
  dsimp only [Inv0, enqueue]
  exact { h with
    rpl := l1, ql := l2, rl := l3, ln := l4
    qs := fun r hr => (List.mem_append.1 hr).elim (h.qs r) fun hr => hskip r (List.mem_singleton.1 hr).symm
    q0 := fun hq => nomatch hq
    ack := hall ▸ h.ack }

theorem direct_good {s : St} (hi : Inv s) (hc : Ch s) (n : Nat) (hq : queueCond s = false ∨ s.q = false) :
    Inv (applyDirect { s with rest := s.rest.drop n } (s.rest.take n)) ∧
    Ch (applyDirect { s with rest := s.rest.drop n } (s.rest.take n)) := by
  have haq := direct_aq_nil hi hq
  have hs : flat s.aq ++ s.rest = s.rest.take n ++ s.rest.drop n := by
    rw [haq, flat_nil, List.nil_append, List.take_append_drop]
  obtain ⟨a, b⟩ := consume_good hi.1 hc hs s.q haq
  exact ⟨⟨a, fun hq' => Nat.lt_of_lt_of_le (hi.2 hq') (Nat.le_add_right ..)⟩, b⟩

theorem canWrite_empty {s : St} (h : Inv0 s) (hc : canWrite s = true) : flat s.aq = [] ∧ s.rest = [] :=
  ⟨by rw [h.q0 (canWrite_iff.1 hc).2.2.1]; rfl, (canWrite_iff.1 hc).2.2.2⟩

theorem ch_writeOK {s : St} (hi : Inv s) (h : Ch s) (hc : canWrite s = true) (id ln extra : Nat) :
    Ch (writeOK s id ln extra) := by
  obtain ⟨hflat, hrest⟩ := canWrite_empty hi.1 hc
  obtain ⟨n1, n2, n3, _⟩ := newRecs_spec s id ln extra
  obtain ⟨e1, e2, e3, _⟩ := done_extend h.c1 h.c2 n1 h.c6 (Nat.le_trans hi.1.i6a hi.1.i6b)
  unfold Ch
  rw [writeOK_done]
  dsimp only [writeOK]
  exact {
    c1 := e1
    c2 := by rw [e2, n2, Nat.add_assoc]
    c3 := by rw [hflat]; trivial
    c4 := by rw [hrest]; trivial
    c5 := by rw [upTo_append, upTo_done_all h _ (Nat.le_add_right ..), total_append, h.c2, n3]
    c6 := e3
    c7 := by rw [rpos, hflat, hrest, total_nil]; rfl }

theorem writeOK_inv {s : St} (hi : Inv s) (hw : canWrite s = true) (id ln extra : Nat)
    (hc : Ch (writeOK s id ln extra)) : Inv (writeOK s id ln extra) := by
  refine ⟨?_, fun hq => Nat.lt_of_lt_of_le (hi.2 hq) (Nat.le_trans (Nat.le_add_right ..) (Nat.le_add_right ..))⟩
  obtain ⟨h, _⟩ := hi
  obtain ⟨l1, l2, l3, l4, _⟩ := ChC.layout hc
  obtain ⟨n1, _, _, hev, hids⟩ := newRecs_spec s id ln extra
  obtain ⟨hflat, hrest⟩ := canWrite_empty h hw
  have hall : allR (s.done ++ newRecs s id ln extra) s.aq s.rest = allR s.done s.aq s.rest ++ newRecs s id ln extra := by
    rw [allR, allR, hflat, hrest, List.append_nil, List.append_nil, List.append_nil, List.append_nil]
  have hco : s.com.off ≤ s.dbo := Nat.le_trans h.i6a h.i6b
  unfold Inv0
  rw [writeOK_done] at l4 ⊢
  dsimp only [writeOK] at l1 l2 l3 l4 ⊢
  exact { h with
    i1 := by
      rw [evsUpTo_append_above _ fun r hr => Nat.lt_of_le_of_lt hco (chain_bounds _ _ n1 r hr).1]
      exact h.i1
    i2 := by rw [evIds_append, hids, h.i2]
    i3 := fun r hr hev' => (List.mem_append.1 hr).elim
      (fun hr => Nat.le_trans (h.i3 r hr hev') (Nat.le_trans h.i6b (Nat.le_add_right ..))) fun hr => hev r hr hev'
    i6a := Nat.le_trans hco (Nat.le_add_right ..)
    i6b := Nat.le_add_right ..
    dl := Nat.le_trans h.dl ((canWrite_iff.1 hw).2.1 ▸ Nat.le_trans (Nat.le_add_right ..) (Nat.le_add_right ..))
    rpl := l1, ql := l2, rl := l3, ln := l4
    ack := fun id' hid =>
      have ⟨r, hr, hh⟩ := h.ack id' hid
      ⟨r, hall ▸ List.mem_append_left _ hr, hh⟩
    wq := fun w hw hrd =>
      have ⟨r, hr, hh⟩ := h.wq w hw hrd
      ⟨r, List.mem_append_left _ hr, hh⟩ }

theorem park_inv0 {s : St} (h : Inv0 s) (id off : Nat) (rd : Bool)
    (hw : rd = false → ∃ r ∈ s.done, r.isEv = true ∧ r.id = id ∧ r.eo ≤ off) : Inv0 (park s id off rd) := by
  unfold Inv0 park
  refine { h with wq := fun w hw' hrd => ?_ }
  rcases List.mem_append.1 hw' with hw' | hw'
  · exact h.wq w hw' hrd
  · cases List.mem_singleton.1 hw'
    exact hw hrd

theorem ackNow_inv0 {s : St} (h : Inv0 s) (id : Nat) (w : Bool)
    (hw : w = true → ∃ r ∈ allR s.done s.aq s.rest, r.isEv = true ∧ r.id = id ∧ r.eo ≤ s.dur) : Inv0 (ackNow s id w) := by
  unfold Inv0 ackNow
  refine { h with ack := fun id' hid => ?_ }
  cases w with
  | false => exact h.ack id' hid
  | true => exact (List.mem_append.1 hid).elim (h.ack id') fun hid => List.mem_singleton.1 hid ▸ hw rfl

theorem parkWrite_inv {s : St} {id ln extra : Nat} (hw : Inv (writeOK s id ln extra)) :
    Inv (park (writeOK s id ln extra) id (s.dbo + plen ln) false) :=
  ⟨park_inv0 hw.1 id _ false fun _ => ⟨_, writeOK_rec_mem s id ln extra, rfl, rfl, Nat.le_refl _⟩, hw.2⟩

theorem allRecs_crash {s : St} (h : Ch s) (d : Nat) (hd : s.com.off ≤ d) :
    allRecs (crashStep s d) = upTo d (allRecs s) := by
  obtain ⟨e, _⟩ := chain_split s.done 0 s.com.off h.c1
  have h1 : upTo d (upTo s.com.off s.done) = upTo s.com.off s.done :=
    upTo_eq_self d _ (fun r hr => by have := (mem_upTo.1 hr).2; omega)
  show upTo s.com.off s.done ++ flat [] ++ upTo d (above s.com.off s.done ++ flat s.aq ++ s.rest) = upTo d (s.done ++ flat s.aq ++ s.rest)
  conv => rhs; rw [← e]
  simp only [flat_nil, List.append_nil, upTo_append, h1, List.append_assoc]

theorem ch_crash {s : St} (h : Ch s) (d : Nat) (hb : s.com.off + total (keptRest s d) = d) :
    Ch (crashStep s d) := by
  have hoff : total (upTo s.com.off (upTo s.com.off s.done)) = s.com.off := by
    rw [upTo_upTo]
    exact h.c6
  refine ChC.of_all ?_ ?_ h.c6 hoff hoff
  · rw [← allRecs_eq, allRecs_crash h d (Nat.le.intro hb)]
    exact (chain_split _ 0 d h.all.1).2
  · show total (upTo s.com.off s.done ++ flat [] ++ keptRest s d) = d
    rw [flat_nil, List.append_nil, total_append, h.c6]
    exact hb

theorem crashStep_inv {s : St} (hi : Inv s) (hcs : Ch s) (d : Nat) (hd : s.dur ≤ d) (hc : Ch (crashStep s d)) :
    Inv (crashStep s d) := by
  refine ⟨?_, fun hq => nomatch hq⟩
  obtain ⟨l1, l2, l3, l4, _⟩ := ChC.layout hc
  have hall := allRecs_crash hcs d (Nat.le_trans hi.1.i7a hd)
  obtain ⟨h, _⟩ := hi
  unfold Inv0
  exact {
    i1 := by
      show s.com.rows = evsUpTo (upTo s.com.off s.done) s.com.off
      rw [evsUpTo, upTo_upTo]; exact h.i1
    i2 := h.i1
    i3 := fun r hr _ => (mem_upTo.1 hr).2
    i6a := Nat.le_refl _
    i6b := Nat.le_refl _
    i7a := h.i7a
    i7b := Nat.zero_le _
    dl := hd
    rpl := l1, ql := l2, rl := l3, ln := l4
    qs := fun r hr => nomatch hr
    q0 := fun _ => rfl
    ack := fun id hid =>
      have ⟨r, hr, h1, h2, h3⟩ := h.ack id hid
      ⟨r, (hall ▸ mem_upTo.2 ⟨hr, Nat.le_trans h3 hd⟩ : r ∈ allRecs (crashStep s d)), h1, h2, h3⟩
    wq := fun w hw => nomatch hw }

theorem ch_append {s : St} (h : Ch s) (l : List (Bool × Nat × Nat)) (hl : ∀ x ∈ l, 0 < x.2.2) : Ch (appendStep s l) := by
  have hall : allR s.done s.aq (s.rest ++ mkRecs s.len l) = allR s.done s.aq s.rest ++ mkRecs s.len l := by
    simp only [allR, List.append_assoc]
  dsimp only [Ch, appendStep]
  refine ChC.of_all ?_ ?_ h.c2 h.c5 h.c6
  · rw [hall, chain_append, Nat.zero_add, h.all.2]
    exact ⟨h.all.1, mkRecs_chain l s.len hl⟩
  · rw [hall, total_append, h.all.2]

theorem appendStep_inv {s : St} (hi : Inv s) (l : List (Bool × Nat × Nat)) (hc : Ch (appendStep s l)) :
    Inv (appendStep s l) := by
  obtain ⟨h, h1⟩ := hi
  obtain ⟨l1, _, l3, l4, _⟩ := ChC.layout hc
  have hall : allR s.done s.aq (s.rest ++ mkRecs s.len l) = allR s.done s.aq s.rest ++ mkRecs s.len l := by
    simp only [allR, List.append_assoc]
  refine ⟨?_, h1⟩
  unfold Inv0 appendStep
  exact { h with
    dl := Nat.le_trans h.dl (Nat.le_add_right ..)
    rpl := l1, rl := l3, ln := l4
    ack := fun id hid =>
      have ⟨r, hr, hh⟩ := h.ack id hid
      ⟨r, hall ▸ List.mem_append_left _ hr, hh⟩ }

theorem fresh_eq (w r : Bool) (l : List (Bool × Nat × Nat)) : fresh w r l = appendStep (init w r [] 0) l := by
  simp [appendStep, fresh, init]

theorem ch_init (w r : Bool) : Ch (init w r [] 0) := ⟨trivial, rfl, trivial, trivial, rfl, rfl, rfl⟩

theorem ch_fresh (w r : Bool) (l : List (Bool × Nat × Nat)) (hl : ∀ x ∈ l, 0 < x.2.2) : Ch (fresh w r l) :=
  fresh_eq w r l ▸ ch_append (ch_init w r) l hl

theorem fresh_inv (w r : Bool) (l : List (Bool × Nat × Nat)) (hl : ∀ x ∈ l, 0 < x.2.2) : Inv (fresh w r l) :=
  fresh_eq w r l ▸ appendStep_inv (inv_init w r) l (ch_append (ch_init w r) l hl)

theorem step_good {s : St} (hi : Inv s) (hc : Ch s) (op : Op) : Inv (step s op).1 ∧ Ch (step s op).1 := by
  have hwr : ∀ id ln extra, canWrite s = true → Inv (writeOK s id ln extra) ∧ Ch (writeOK s id ln extra) :=
    fun id ln extra hw =>
      have c := ch_writeOK hi hc hw id ln extra
      ⟨writeOK_inv hi hw id ln extra c, c⟩
  apply step_cases (P := fun t => Inv t ∧ Ch t) s op ⟨hi, hc⟩
  case wAck =>
    intro id ln extra b _ hw hci
    have h := hwr id ln extra hw
    refine ⟨⟨ackNow_inv0 h.1.1 id b fun hb => ?_, h.1.2⟩, h.2⟩
    exact ⟨_, mem_allR.2 (Or.inl (writeOK_rec_mem s id ln extra)), rfl, rfl, Nat.le_trans (hci hb) hi.1.i7b⟩
  case wPark =>
    intro id ln extra _ hw
    exact ⟨parkWrite_inv (hwr id ln extra hw).1, (hwr id ln extra hw).2⟩
  case rPark =>
    intro id _ _
    exact ⟨⟨park_inv0 hi.1 id _ true (fun e => nomatch e), hi.2⟩, hc⟩
  case rAck =>
    intro id
    exact ⟨⟨ackNow_inv0 hi.1 id false (fun e => nomatch e), hi.2⟩, hc⟩
  case now =>
    intro id ln extra _ hw
    exact commitStep_good (parkWrite_inv (hwr id ln extra hw).1) (hwr id ln extra hw).2 _ (Nat.le_refl _)
  case commit =>
    intro k hk
    exact commitStep_good hi hc k hk
  case comTx =>
    intro t ht hle
    exact ⟨⟨comTx_inv0 ht.1.1 (Nat.le_trans (hle.elim id (Nat.le_trans ht.1.1.i6b)) ht.1.1.i7b), ht.1.2⟩, ch_comTx ht.2⟩
  case enq =>
    intro n it m _ hit hskip hq
    have c := ch_enqueue hc n it m hit
    exact ⟨enqueue_inv hi n it m hit hskip hq c, c⟩
  case direct =>
    intro n _ hq
    exact direct_good hi hc n hq
  case append =>
    intro l _ hl
    have c := ch_append hc l hl
    exact ⟨appendStep_inv hi l c, c⟩
  case flags =>
    intro t ht _ _ _
    exact ht
  case crash =>
    intro d hok
    have c := ch_crash hc d (crashOK_iff.1 hok).2.2
    exact ⟨crashStep_inv hi hc d (crashOK_iff.1 hok).1 c, c⟩
  case torn =>
    intro d _ ht
    -- tornStep differs from crashStep only in `closed` and `down`, which neither invariant mentions
    exact ht
  case ready =>
    intro _
    exact flushQ_good hi.1 hc

/-- canonical replay: the reader hands over one record per call (an event through Apply, a service record through Skip) -/
def replayOps : List Rec → List Op
  | [] => []
  | r :: t => (if r.isEv then Op.dApply 1 else Op.dSkip r.ln) :: replayOps t

/-- loop invariant of the replay: engine up, binlog `A` of length `L`, offset row = in-memory offset -/
structure Rd (A : List Rec) (L : Nat) (s : St) : Prop where
  inv : Inv s
  ch : Ch s
  off : s.tx.off = s.dbo
  up : s.closed = false ∧ s.ptx = false ∧ s.down = false
  all : allRecs s = A
  len : s.len = L

/-- under `Ch` the reader's guard always holds: the "mismatch" answers of the model are unreachable from `fresh` -/
theorem readerOK_chain {s : St} (h : Ch s) (n : Nat) : readerOK s n = true := by
  have c4 := h.c4
  have c7 := h.c7
  have hsplit : s.rest = s.rest.take n ++ s.rest.drop n := (List.take_append_drop n s.rest).symm
  rw [hsplit, chain_append] at c4
  rw [hsplit, total_append] at c7
  have hb1 := chain_bounds _ _ c4.1
  have hb2 := chain_bounds _ _ c4.2
  have hrp := rp_eq s
  simp only [readerOK, recsOK, restOK, Bool.and_eq_true, List.all_eq_true, decide_eq_true_eq, hrp]
  refine ⟨⟨?_, ?_⟩, ?_⟩
  · intro x hx; exact hb1 x hx
  · intro x hx; exact (hb2 x hx).1
  · omega

/-- ops the binlog reader may issue while it re-reads: payloads cut anywhere, whole-record payloads, skips of service
    records and its periodic Commit of the position reached -/
def isDelivery : Op → Bool
  | .dApplyBuf _ | .dApply _ | .dSkip _ | .commit _ => true
  | _ => false

theorem commitStep_rd {A : List Rec} {L : Nat} {s : St} (h : Rd A L s) (k : Nat) (hk : k ≤ s.len) :
    Rd A L (commitStep s k) := by
  obtain ⟨hi, hc, hoff, hup, hall, hlen⟩ := h
  -- `Inv`, `Ch` of the result are known; the motive carries them to the case where the other fields are compared
  refine commitStep_cases (P := fun t => Inv t → Ch t → Rd A L t) s k (fun _ hI hC => ?_) (fun _ _ _ hI hC => ?_)
    (fun _ _ hp => absurd (hup.2.1 ▸ hp) Bool.false_ne_true) (fun _ _ hI hC => ?_) (commitStep_good hi hc k hk).1
    (commitStep_good hi hc k hk).2
  · refine ⟨hI, hC, ?_, ?_, ?_, ?_⟩
    all_goals dsimp only [allRecs, announce]
    · exact hoff
    · exact hup
    · exact hall
    · exact hlen
  · refine ⟨hI, hC, flushQ_off ?_, ?_, ?_, ?_⟩
    · dsimp only [notify, announce]
      exact hoff
    · rw [flushQ_eq]
      dsimp only [notify, announce]
      exact hup
    · rw [flushQ_allRecs]
      dsimp only [allRecs, notify, announce]
      exact hall
    · rw [flushQ_eq]
      dsimp only [notify, announce]
      exact hlen
  · refine ⟨hI, hC, ?_, ?_, ?_, ?_⟩
    all_goals dsimp only [allRecs, notify, announce]
    · exact hoff
    · exact hup
    · exact hall
    · exact hlen

theorem delivery_rd {A : List Rec} {L : Nat} {s : St} (h : Rd A L s) (op : Op) (hop : isDelivery op = true) :
    Rd A L (step s op).1 := by
  obtain ⟨hinv, hch⟩ := step_good h.inv h.ch op
  have hd := deliver_cases (P := fun t => Inv t → Ch t → Rd A L t) s (fun _ _ => h)
    (fun n it m _ hit _ _ hI hC => ⟨hI, hC, h.off, h.up, (allRecs_move s.done s.aq s.rest n it hit).trans h.all, h.len⟩)
    (fun n _ hq hI hC =>
      ⟨hI, hC, rfl, h.up, (allRecs_take s.done s.rest n (direct_aq_nil h.inv hq)).trans h.all, h.len⟩)
  cases op with
  | dApplyBuf m => exact hd.2.1 m hinv hch
  | dApply n => exact hd.1 n hinv hch
  | dSkip n => exact hd.2.2 n hinv hch
  | commit k =>
    refine fst_ite (fun _ => h) fun hg => ?_
    simp only [Bool.or_eq_true, decide_eq_true_eq, not_or, Nat.not_lt] at hg
    exact commitStep_rd h k hg.2
  | _ => exact absurd hop Bool.false_ne_true

theorem deliveries_rd : ∀ (del : List Op) (A : List Rec) (L : Nat) (s : St), Rd A L s → del.all isDelivery = true →
    Rd A L (run s del) := by
  intro del
  induction del with
  | nil => intro A L s h _; exact h
  | cons op t ih =>
    intro A L s h hd
    simp only [List.all_cons, Bool.and_eq_true] at hd
    exact ih A L _ (delivery_rd h op hd.1) hd.2

theorem replay_one {A : List Rec} {L : Nat} {s : St} {r : Rec} {t : List Rec} (h : Rd A L s) (hrest : s.rest = r :: t) :
    Rd A L (step s (if r.isEv then Op.dApply 1 else Op.dSkip r.ln)).1 ∧
    (step s (if r.isEv then Op.dApply 1 else Op.dSkip r.ln)).1.rest = t := by
  have hr := readerOK_chain h.ch 1
  have hpos : 0 < r.ln := by have := h.ch.c4; rw [hrest] at this; exact this.1
  obtain ⟨hcl, hptx, _⟩ := h.up
  cases hev : r.isEv with
  | true =>
    have hb : badApply s 1 = false := by simp [badApply, hrest, hev, hcl, hptx]
    refine ⟨delivery_rd h _ rfl, ?_⟩
    show (deliverApply s 1).1.rest = t
    rw [deliverApply_eq hb hr]
    have ht : s.rest.drop 1 = t := by rw [hrest]; rfl
    exact iteInduction (motive := fun x : St => x.rest = t) (fun _ => ht) fun _ => ht
  | false =>
    have hb : badSkip s r.ln = false := by
      have : r.ln ≠ 0 := by omega
      simp [badSkip, hrest, hev, hcl, hptx, this]
    refine ⟨delivery_rd h _ rfl, ?_⟩
    show (deliverSkip s r.ln).1.rest = t
    rw [deliverSkip_eq hrest hb hr]
    exact iteInduction (motive := fun x : St => x.rest = t) (fun _ => rfl) fun _ => rfl

theorem replay_all : ∀ (rest : List Rec) (A : List Rec) (L : Nat) (s : St), Rd A L s → s.rest = rest →
    Rd A L (run s (replayOps rest)) ∧ (run s (replayOps rest)).rest = [] := by
  intro rest
  induction rest with
  | nil => intro A L s h hr; exact ⟨h, hr⟩
  | cons r t ih =>
    intro A L s h hr
    obtain ⟨h1, h2⟩ := replay_one h hr
    exact ih A L _ h1 h2

/-- the final `Commit(len)` of the reader + `ChangeRole(ready)`: whatever is still queued is applied -/
theorem replay_finish {A : List Rec} {L : Nat} {s : St} (h : Rd A L s) (hrest : s.rest = []) :
    let s' := run s [Op.commit L, Op.ready]
    Rd A L s' ∧ s'.rest = [] ∧ s'.aq = [] := by
  have hi := h.inv
  have hlen := h.len
  subst hlen
  have hci : ¬ s.len < s.ci := Nat.not_lt.2 (Nat.le_trans hi.1.i7b hi.1.dl)
  have hdbo : s.dbo ≤ s.len := Nat.le_trans (Nat.le_add_right ..) hi.1.rpl
  have hstep : (step s (Op.commit s.len)).1 = commitStep s s.len := by
    simp [step, h.up.1]
  have hq : (commitStep s s.len).q = false ∧ (commitStep s s.len).aq = [] ∧ (commitStep s s.len).rest = [] := by
    refine commitStep_cases (P := fun t => t.q = false ∧ t.aq = [] ∧ t.rest = []) s s.len (fun hlt => absurd hlt hci)
      (fun _ _ _ => ?_) (fun _ _ hp _ => ?_) fun _ hq => ?_
    · rw [flushQ_eq]
      dsimp only [notify, announce]
      exact ⟨rfl, rfl, hrest⟩
    · exact absurd (h.up.2.1 ▸ hp) Bool.false_ne_true
    · have hqf : s.q = false := Bool.eq_false_iff.2 fun hq' => Nat.lt_irrefl _ (Nat.lt_of_lt_of_le (hq hq') hdbo)
      dsimp only [notify, announce]
      exact ⟨hqf, hi.1.q0 hqf, hrest⟩
  have hready : (step (commitStep s s.len) Op.ready).1 = commitStep s s.len := by
    simp [step, readyStep, hq.1]
  show Rd A s.len (run s [Op.commit s.len, Op.ready]) ∧ _
  simp only [run, hstep, hready]
  exact ⟨commitStep_rd h _ (Nat.le_refl _), hq.2.2, hq.2.1⟩

end SH.Engine
