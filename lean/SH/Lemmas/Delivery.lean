/-
  SH.Lemmas.Delivery — the inductive invariant behind C01's `no_silent_loss`: `AInv` for the agent (preserved through
  `keeps_of`), `SInv` for the system (preserved through `SInv.step`), with the notions the property statements use (`heldSecs`,
  `safeX`, `AInv`). `Steps` is the invariant together with what the operation has done so far to `flushed`, the disk records
  and `dropped`; an agent sub-step enters it through `KeepsT` (`Keeps`, `Extra`: a record goes only after an acknowledgement
  or as a recorded drop, and no new blocked sender; composed functions get it by `KeepsT.trans`). Eight operations are taken apart once each in `steps_<op>`, `alive`/`ballast`/`diskOk` in
  `steps_agentFrame`, with `sinv_<op>` the first component; the restart is proved apart (`sinv_agentRestart`). Aggregator side:
  `GoodB`, `ArriveOk` (steps that insert nothing), `AccStep` (inserter rounds).
  Everything is in "membership form" (∀ x ∈ list, …) so that it survives the list surgery of the model
  (swap-remove, filters, appends) by plain subset arguments.
-/
import SH.Model.Delivery

namespace SH.Delivery
open SH.Gen.C01

/-- seconds the agent still holds: historic queue, blocked senders, live disk records -/
def heldSecs (a : Agent) : List Nat := a.hist.map (·.sec) ++ a.flights.map (·.cbd.sec) ++ a.recs.map (·.sec)

/-- bucket descriptors the agent works with: `x` = those currently in the hands of a running sender -/
def cbds (a : Agent) (x : List Cbd) : List Cbd := x ++ a.hist ++ a.flights.map (·.cbd)

/-- accounted for without being held: in storage / rejected (P, state level) or in the agent's deliberate-drop sets -/
def accA (P : Nat → Prop) (a : Agent) (t : Nat) : Prop := P t ∨ t ∈ a.dropped ∨ t ∈ a.lostMem

/-- held by the agent or by a running sender (`x`) -/
def heldX (a : Agent) (x : List Cbd) (t : Nat) : Prop := t ∈ x.map (·.sec) ∨ t ∈ heldSecs a

/-- what `no_silent_loss` says of a flushed second while descriptors `x` are in a sender's hands -/
def safeX (P : Nat → Prop) (a : Agent) (x : List Cbd) (t : Nat) : Prop := heldX a x t ∨ accA P a t

theorem mem_heldSecs {a : Agent} {t : Nat} :
    t ∈ heldSecs a ↔ (∃ c ∈ a.hist, c.sec = t) ∨ (∃ f ∈ a.flights, f.cbd.sec = t) ∨ (∃ r ∈ a.recs, r.sec = t) := by
  simp [heldSecs]

theorem mem_cbds {a : Agent} {x : List Cbd} {c : Cbd} :
    c ∈ cbds a x ↔ c ∈ x ∨ c ∈ a.hist ∨ (∃ f ∈ a.flights, f.cbd = c) := by
  simp [cbds]

/-- the agent-level invariant: disk ids are fresh, an id names one second, a descriptor with an id has its record on
disk unless its second is already accounted for, and a descriptor without data in memory has an id -/
structure AInv (P : Nat → Prop) (a : Agent) (x : List Cbd) : Prop where
  recLe : ∀ r ∈ a.recs, r.id ≤ a.lastId
  cbdLe : ∀ c ∈ cbds a x, c.id ≤ a.lastId
  recFun : ∀ r1 ∈ a.recs, ∀ r2 ∈ a.recs, r1.id = r2.id → r1.id ≠ 0 → r1.sec = r2.sec
  cbdRec : ∀ c ∈ cbds a x, ∀ r ∈ a.recs, r.id = c.id → c.id ≠ 0 → r.sec = c.sec
  hasRec : ∀ c ∈ cbds a x, c.id ≠ 0 → (∃ r ∈ a.recs, r.id = c.id) ∨ accA P a c.sec
  data : ∀ c ∈ cbds a x, c.mem = true ∨ c.id ≠ 0

/-- result of an agent transition: invariant kept, nothing safe becomes unsafe -/
def Keeps (Q : Nat → Prop) (a : Agent) (x : List Cbd) (a' : Agent) (x' : List Cbd) : Prop :=
  AInv Q a' x' ∧ ∀ t, safeX Q a x t → safeX Q a' x' t

theorem Keeps.trans {Q a x a1 x1 a2 x2} (h1 : Keeps Q a x a1 x1) (h2 : AInv Q a1 x1 → Keeps Q a1 x1 a2 x2) :
    Keeps Q a x a2 x2 :=
  ⟨(h2 h1.1).1, fun t ht => (h2 h1.1).2 t (h1.2 t ht)⟩

theorem Keeps.refl {Q a x} (h : AInv Q a x) : Keeps Q a x a x := ⟨h, fun _ h => h⟩

theorem heldX_iff {a : Agent} {x : List Cbd} {t : Nat} :
    heldX a x t ↔ (∃ c ∈ cbds a x, c.sec = t) ∨ (∃ r ∈ a.recs, r.sec = t) := by
  simp only [heldX, heldSecs, cbds, List.mem_append, List.mem_map, or_and_right, exists_or, or_assoc]
  grind

/-- The preservation argument shared by all agent operations: ids and drop sets only grow; a record is old or has a fresh
id; a descriptor is old, stands for an old one, is new in memory, or names a record; what goes away is accounted for. -/
theorem keeps_of {Q : Nat → Prop} {a a' : Agent} {x x' : List Cbd} (h : AInv Q a x)
    (hl : a.lastId ≤ a'.lastId) (hd : ∀ t ∈ a.dropped, t ∈ a'.dropped) (hm : ∀ t ∈ a.lostMem, t ∈ a'.lostMem)
    (hnewR : ∀ r' ∈ a'.recs, r'.id ≤ a'.lastId ∧ (r' ∈ a.recs ∨ a.lastId < r'.id))
    (hfresh : ∀ r1 ∈ a'.recs, ∀ r2 ∈ a'.recs, a.lastId < r1.id → r1.id = r2.id → r1.sec = r2.sec)
    (holdR : ∀ r ∈ a.recs, r ∈ a'.recs ∨ accA Q a' r.sec ∨ (r.id = 0 ∧ ∃ r' ∈ a'.recs, r'.sec = r.sec))
    (hnewC : ∀ c' ∈ cbds a' x', c' ∈ cbds a x ∨
      (∃ c ∈ cbds a x, c.sec = c'.sec ∧ c.id = c'.id ∧ (c'.mem = true ∨ c'.id ≠ 0)) ∨
      (c'.id = 0 ∧ c'.mem = true) ∨ (c'.id ≠ 0 ∧ ∃ r ∈ a'.recs, r.id = c'.id ∧ r.sec = c'.sec))
    (holdC : ∀ c ∈ cbds a x, (∃ c' ∈ cbds a' x', c'.sec = c.sec) ∨ c.id ≠ 0 ∨ accA Q a' c.sec) :
    Keeps Q a x a' x' := by
  have hacc : ∀ t, accA Q a t → accA Q a' t := fun t ht => ht.imp_right (Or.imp (hd t) (hm t))
  have recFun' : ∀ r1 ∈ a'.recs, ∀ r2 ∈ a'.recs, r1.id = r2.id → r1.id ≠ 0 → r1.sec = r2.sec := by
    intro r1 h1 r2 h2 he hne
    rcases (hnewR r1 h1).2 with o1 | f1
    · rcases (hnewR r2 h2).2 with o2 | f2
      · exact h.recFun r1 o1 r2 o2 he hne
      · exact (hfresh r2 h2 r1 h1 f2 he.symm).symm
    · exact hfresh r1 h1 r2 h2 f1 he
  -- an old descriptor with a disk id: its record, or the account of its second, is still there
  have kept : ∀ c ∈ cbds a x, c.id ≠ 0 → (∃ r ∈ a'.recs, r.id = c.id ∧ r.sec = c.sec) ∨ accA Q a' c.sec := by
    intro c hc hne
    rcases h.hasRec c hc hne with ⟨r, hr, he⟩ | hac
    · have hs := h.cbdRec c hc r hr he hne
      rcases holdR r hr with h1 | h1 | h1
      · exact Or.inl ⟨r, h1, he, hs⟩
      · exact Or.inr (hs ▸ h1)
      · exact absurd (he ▸ h1.1) hne
    · exact Or.inr (hacc _ hac)
  have hnewC' : ∀ c' ∈ cbds a' x', (∃ c ∈ cbds a x, c.sec = c'.sec ∧ c.id = c'.id) ∨ c'.id = 0 ∨
      ∃ r ∈ a'.recs, r.id = c'.id ∧ r.sec = c'.sec := by
    intro c' hc'
    rcases hnewC c' hc' with ho | ⟨c, hc, hs, hi, _⟩ | h0 | hn
    · exact Or.inl ⟨c', ho, rfl, rfl⟩
    · exact Or.inl ⟨c, hc, hs, hi⟩
    · exact Or.inr (Or.inl h0.1)
    · exact Or.inr (Or.inr hn.2)
  refine ⟨⟨fun r hr => (hnewR r hr).1, ?_, recFun', ?_, ?_, ?_⟩, ?_⟩
  · intro c' hc'
    rcases hnewC' c' hc' with ⟨c, hc, _, he⟩ | h0 | ⟨r, hr, he, _⟩
    · exact he ▸ Nat.le_trans (h.cbdLe c hc) hl
    · exact h0 ▸ Nat.zero_le _
    · exact he ▸ (hnewR r hr).1
  · intro c' hc' r' hr' he hne
    rcases hnewC' c' hc' with ⟨c, hc, hs, hi⟩ | h0 | ⟨r, hr, hi, hs⟩
    · rcases (hnewR r' hr').2 with o | f
      · exact hs ▸ h.cbdRec c hc r' o (he.trans hi.symm) (hi ▸ hne)
      · have := h.cbdLe c hc; omega
    · exact absurd h0 hne
    · exact hs ▸ recFun' r' hr' r hr (he.trans hi.symm) (he ▸ hne)
  · intro c' hc' hne
    rcases hnewC' c' hc' with ⟨c, hc, hs, hi⟩ | h0 | ⟨r, hr, hi, _⟩
    · rcases kept c hc (hi ▸ hne) with ⟨r, hr, he, _⟩ | hac
      · exact Or.inl ⟨r, hr, he.trans hi⟩
      · exact Or.inr (hs ▸ hac)
    · exact absurd h0 hne
    · exact Or.inl ⟨r, hr, hi⟩
  · intro c' hc'
    rcases hnewC c' hc' with ho | ⟨_, _, _, _, hdata⟩ | h0 | hn
    · exact h.data c' ho
    · exact hdata
    · exact Or.inl h0.2
    · exact Or.inr hn.1
  · intro t ht
    rcases ht with ht | ht
    · rcases heldX_iff.1 ht with ⟨c, hc, rfl⟩ | ⟨r, hr, rfl⟩
      · rcases holdC c hc with ⟨c', hc', hs⟩ | hne | hac
        · exact Or.inl (heldX_iff.2 (Or.inl ⟨c', hc', hs⟩))
        · rcases kept c hc hne with ⟨r, hr, _, hs⟩ | hac
          · exact Or.inl (heldX_iff.2 (Or.inr ⟨r, hr, hs⟩))
          · exact Or.inr hac
        · exact Or.inr hac
      · rcases holdR r hr with h1 | h1 | ⟨_, r', hr', hs⟩
        · exact Or.inl (heldX_iff.2 (Or.inr ⟨r, h1, rfl⟩))
        · exact Or.inr h1
        · exact Or.inl (heldX_iff.2 (Or.inr ⟨r', hr', hs⟩))
    · exact Or.inr (hacc t ht)

theorem keeps_move {Q : Nat → Prop} {a a' : Agent} {x x' : List Cbd} (h : AInv Q a x)
    (hr : a'.recs = a.recs) (hl : a'.lastId = a.lastId)
    (hd : ∀ t ∈ a.dropped, t ∈ a'.dropped) (hm : ∀ t ∈ a.lostMem, t ∈ a'.lostMem)
    (hnewC : ∀ c' ∈ cbds a' x', c' ∈ cbds a x ∨
      (∃ c ∈ cbds a x, c.sec = c'.sec ∧ c.id = c'.id ∧ (c'.mem = true ∨ c'.id ≠ 0)) ∨ (c'.id = 0 ∧ c'.mem = true))
    (holdC : ∀ c ∈ cbds a x, (∃ c' ∈ cbds a' x', c'.sec = c.sec) ∨ c.id ≠ 0 ∨ accA Q a' c.sec) :
    Keeps Q a x a' x' :=
  keeps_of h (Nat.le_of_eq hl.symm) hd hm (fun r hr' => ⟨hl ▸ h.recLe r (hr ▸ hr'), Or.inl (hr ▸ hr')⟩)
    (fun r1 h1 _ _ hf => absurd (h.recLe r1 (hr ▸ h1)) (Nat.not_le_of_lt hf)) (fun _ h' => Or.inl (hr ▸ h'))
    (fun c' hc' => (hnewC c' hc').imp_right (Or.imp_right Or.inl)) holdC

theorem keeps_frame {Q : Nat → Prop} {a a' : Agent} {x : List Cbd} (h : AInv Q a x)
    (hr : a'.recs = a.recs) (hl : a'.lastId = a.lastId) (hh : a'.hist = a.hist) (hf : a'.flights = a.flights)
    (hd : ∀ t ∈ a.dropped, t ∈ a'.dropped) (hm : ∀ t ∈ a.lostMem, t ∈ a'.lostMem) : Keeps Q a x a' x := by
  have hc : cbds a' x = cbds a x := by rw [cbds, hh, hf, cbds]
  exact keeps_move h hr hl hd hm (fun c hc' => Or.inl (hc ▸ hc')) (fun c hc' => Or.inl ⟨c, hc ▸ hc', rfl⟩)

theorem keeps_newId {Q : Nat → Prop} {a a' : Agent} {x x' : List Cbd} {sec : Nat} (h : AInv Q a x)
    (hl : a'.lastId = a.lastId + 1) (hd : ∀ t ∈ a.dropped, t ∈ a'.dropped) (hm : ∀ t ∈ a.lostMem, t ∈ a'.lostMem)
    (hrecs : ∀ r ∈ a'.recs, r ∈ a.recs ∨ r = ⟨sec, a.lastId + 1⟩)
    (holdR : ∀ r ∈ a.recs, r ∈ a'.recs ∨ accA Q a' r.sec ∨ (r.id = 0 ∧ ∃ r' ∈ a'.recs, r'.sec = r.sec))
    (hnewC : ∀ c' ∈ cbds a' x', c' ∈ cbds a x ∨
      (∃ c ∈ cbds a x, c.sec = c'.sec ∧ c.id = c'.id ∧ (c'.mem = true ∨ c'.id ≠ 0)) ∨
      (c'.id = 0 ∧ c'.mem = true) ∨ (c'.id ≠ 0 ∧ ∃ r ∈ a'.recs, r.id = c'.id ∧ r.sec = c'.sec))
    (holdC : ∀ c ∈ cbds a x, (∃ c' ∈ cbds a' x', c'.sec = c.sec) ∨ c.id ≠ 0 ∨ accA Q a' c.sec) :
    Keeps Q a x a' x' := by
  refine keeps_of h (hl ▸ Nat.le_succ _) hd hm ?_ ?_ holdR hnewC holdC
  · intro r hr
    rcases hrecs r hr with ho | rfl
    · exact ⟨hl ▸ Nat.le_succ_of_le (h.recLe r ho), Or.inl ho⟩
    · exact ⟨Nat.le_of_eq hl.symm, Or.inr (Nat.lt_succ_self _)⟩
  · intro r1 h1 r2 h2 hf he
    rcases hrecs r1 h1 with ho | rfl
    · exact absurd (h.recLe r1 ho) (Nat.not_le_of_lt hf)
    · rcases hrecs r2 h2 with ho | rfl
      · have := h.recLe r2 ho
        simp only at he
        omega
      · rfl

theorem keeps_diskPut {Q : Nat → Prop} {a : Agent} {c : Cbd} {x : List Cbd} (h : AInv Q a (c :: x)) :
    Keeps Q a (c :: x) (diskPut a c).1 ((diskPut a c).2 :: x) := by
  unfold diskPut
  split
  · refine keeps_newId (sec := c.sec) h rfl (fun _ ht => ht) (fun _ ht => ht)
      (fun r hr => (List.mem_append.1 hr).imp_right List.mem_singleton.1) (fun r hr => Or.inl (List.mem_append_left _ hr)) ?_ ?_
    · intro c' hc'
      rcases List.mem_cons.1 hc' with rfl | hc'
      · exact Or.inr (Or.inr (Or.inr ⟨Nat.succ_ne_zero _, _, List.mem_append_right _ (List.mem_singleton_self _), rfl, rfl⟩))
      · exact Or.inl (List.mem_cons_of_mem _ hc')
    · intro c0 hc0
      rcases List.mem_cons.1 hc0 with rfl | hc0
      · exact Or.inl ⟨_, List.mem_cons_self .., rfl⟩
      · exact Or.inl ⟨c0, List.mem_cons_of_mem _ hc0, rfl⟩
  · exact Keeps.refl h

theorem diskPut_frame (a : Agent) (c : Cbd) :
    (diskPut a c).1.hist = a.hist ∧ (diskPut a c).1.flights = a.flights ∧ (diskPut a c).1.dropped = a.dropped ∧
    (diskPut a c).1.lostMem = a.lostMem ∧ (diskPut a c).2.sec = c.sec := by
  unfold diskPut; split <;> simp

theorem diskPut_disk (a : Agent) (c : Cbd) : (diskPut a c).1.disk = a.disk ∧ (diskPut a c).1.diskOk = a.diskOk := by
  unfold diskPut; split <;> simp

theorem diskPut_recs_mem {a : Agent} {c : Cbd} {r : Rec} (h : r ∈ a.recs) : r ∈ (diskPut a c).1.recs := by
  unfold diskPut; split <;> simp [h]

theorem diskPut_saves {a : Agent} {c : Cbd} (h0 : c.id = 0) (hd : a.disk = true) (ho : a.diskOk = true) :
    ∃ r ∈ (diskPut a c).1.recs, r.sec = c.sec := by
  have hc : canPut a c = true := by simp [canPut, h0, hd, ho]
  rw [diskPut, if_pos hc]
  exact ⟨_, List.mem_append_right _ (List.mem_singleton_self _), rfl⟩

theorem keeps_release {Q : Nat → Prop} {a a' : Agent} {c : Cbd} {x : List Cbd} (h : AInv Q a (c :: x))
    (hr : a'.recs = a.recs) (hl : a'.lastId = a.lastId) (hh : a'.hist = a.hist) (hf : a'.flights = a.flights)
    (hd : ∀ t ∈ a.dropped, t ∈ a'.dropped) (hm : ∀ t ∈ a.lostMem, t ∈ a'.lostMem) (hc : c.id ≠ 0 ∨ accA Q a' c.sec) :
    Keeps Q a (c :: x) a' x := by
  have hcb : cbds a' x = cbds a x := by rw [cbds, hh, hf, cbds]
  refine keeps_move h hr hl hd hm (fun e he => Or.inl (List.mem_cons_of_mem _ ?_)) (fun e he => ?_)
  · rwa [hcb] at he
  · rcases List.mem_cons.1 he with rfl | he
    · exact Or.inr hc
    · exact Or.inl ⟨e, by rwa [hcb], rfl⟩

/-- the sender hands its descriptor over (to the historic queue, to a blocked sender) as `c'` -/
theorem keeps_hand {Q : Nat → Prop} {a a' : Agent} {c c' : Cbd} {x : List Cbd} (h : AInv Q a (c :: x))
    (hr : a'.recs = a.recs) (hl : a'.lastId = a.lastId) (hd : a'.dropped = a.dropped) (hm : a'.lostMem = a.lostMem)
    (hc' : c'.sec = c.sec ∧ c'.id = c.id ∧ (c'.mem = true ∨ c'.id ≠ 0 ∨ c' = c))
    (hcb : ∀ e, e ∈ cbds a' x ↔ e = c' ∨ e ∈ cbds a x) : Keeps Q a (c :: x) a' x := by
  refine keeps_move h hr hl (fun _ ht => hd ▸ ht) (fun _ ht => hm ▸ ht) (fun e he => ?_) (fun e he => ?_)
  · rcases (hcb e).1 he with rfl | he
    · rcases hc'.2.2 with hmem | hid | rfl
      · exact Or.inr (Or.inl ⟨c, List.mem_cons_self .., hc'.1.symm, hc'.2.1.symm, Or.inl hmem⟩)
      · exact Or.inr (Or.inl ⟨c, List.mem_cons_self .., hc'.1.symm, hc'.2.1.symm, Or.inr hid⟩)
      · exact Or.inl (List.mem_cons_self ..)
    · exact Or.inl (List.mem_cons_of_mem _ he)
  · rcases List.mem_cons.1 he with rfl | he
    · exact Or.inl ⟨c', (hcb c').2 (Or.inl rfl), hc'.1⟩
    · exact Or.inl ⟨e, (hcb e).2 (Or.inr he), rfl⟩

theorem mem_cbds_hist {a a' : Agent} {x : List Cbd} {d : Cbd} (hh : a'.hist = a.hist ++ [d]) (hf : a'.flights = a.flights)
    (e : Cbd) : e ∈ cbds a' x ↔ e = d ∨ e ∈ cbds a x := by
  simp only [mem_cbds, hh, hf, List.mem_append, List.mem_singleton]
  grind

theorem mem_cbds_flight {a a' : Agent} {x : List Cbd} {f : Flight} (hh : a'.hist = a.hist) (hf : a'.flights = a.flights ++ [f])
    (e : Cbd) : e ∈ cbds a' x ↔ e = f.cbd ∨ e ∈ cbds a x := by
  simp only [mem_cbds, hh, hf, List.mem_append, List.mem_singleton]
  grind

theorem appendHist_cases (a : Agent) (c : Cbd) :
    (overflows a c = true ∧ c.id = 0 ∧ appendHist a c = { a with dropped := a.dropped ++ [c.sec] }) ∨
    (overflows a c = true ∧ c.id ≠ 0 ∧ appendHist a c = { a with hist := a.hist ++ [{ c with mem := false }] }) ∨
    (overflows a c = false ∧ appendHist a c = { a with hist := a.hist ++ [c], memSize := a.memSize + sz c }) := by
  unfold appendHist
  cases ho : overflows a c
  · exact Or.inr (Or.inr ⟨rfl, rfl⟩)
  · by_cases hz : c.id = 0
    · exact Or.inl ⟨rfl, hz, by simp [hz]⟩
    · exact Or.inr (Or.inl ⟨rfl, hz, by simp [hz]⟩)

theorem keeps_appendHist {Q : Nat → Prop} {a : Agent} {c : Cbd} {x : List Cbd} (h : AInv Q a (c :: x)) :
    Keeps Q a (c :: x) (appendHist a c) x := by
  rcases appendHist_cases a c with ⟨_, _, he⟩ | ⟨_, hz, he⟩ | ⟨_, he⟩ <;> rw [he]
  · exact keeps_release h rfl rfl rfl rfl (fun _ ht => List.mem_append_left _ ht) (fun _ ht => ht)
      (Or.inr (Or.inr (Or.inl (List.mem_append_right _ (List.mem_singleton_self _)))))
  · exact keeps_hand (c' := { c with mem := false }) h rfl rfl rfl rfl ⟨rfl, rfl, Or.inr (Or.inl hz)⟩ (mem_cbds_hist rfl rfl)
  · exact keeps_hand h rfl rfl rfl rfl ⟨rfl, rfl, Or.inr (Or.inr rfl)⟩ (mem_cbds_hist rfl rfl)

theorem keeps_addFlight {Q : Nat → Prop} {a : Agent} {c : Cbd} {x : List Cbd} (f : Flight)
    (hf : f.cbd.sec = c.sec ∧ f.cbd.id = c.id ∧ (f.cbd.mem = true ∨ f.cbd = c)) (h : AInv Q a (c :: x)) :
    Keeps Q a (c :: x) { a with flights := a.flights ++ [f] } x :=
  keeps_hand h rfl rfl rfl rfl ⟨hf.1, hf.2.1, hf.2.2.imp_right Or.inr⟩ (mem_cbds_flight rfl rfl)

theorem keeps_diskErase {Q : Nat → Prop} {a : Agent} {c : Cbd} {x : List Cbd} (hacc : accA Q a c.sec) (h : AInv Q a (c :: x)) :
    Keeps Q a (c :: x) (diskErase a c.id) x := by
  unfold diskErase
  split
  · exact keeps_release h rfl rfl rfl rfl (fun _ ht => ht) (fun _ ht => ht) (Or.inr hacc)
  · next hz =>
    refine keeps_of h (Nat.le_refl _) (fun _ ht => ht) (fun _ ht => ht)
      (fun r hr => ⟨h.recLe r (List.mem_filter.1 hr).1, Or.inl (List.mem_filter.1 hr).1⟩)
      (fun r1 h1 _ _ hf => absurd (h.recLe r1 (List.mem_filter.1 h1).1) (Nat.not_le_of_lt hf)) ?_
      (fun c' hc' => Or.inl (List.mem_cons_of_mem _ hc')) ?_
    · intro r hr
      by_cases he : r.id = c.id
      · exact Or.inr (Or.inl (h.cbdRec c (List.mem_cons_self ..) r hr he (by simpa using hz) ▸ hacc))
      · exact Or.inl (List.mem_filter.2 ⟨hr, by simpa using he⟩)
    · intro c0 hc0
      rcases List.mem_cons.1 hc0 with rfl | hc0
      · exact Or.inr (Or.inr hacc)
      · exact Or.inl ⟨c0, hc0, rfl⟩

theorem keeps_removeFlight {Q : Nat → Prop} {a : Agent} {x : List Cbd} {f : Flight} (h : AInv Q a x) (hf : f ∈ a.flights)
    (hrid : ∀ f2 ∈ a.flights, f2.rid = f.rid → f2.cbd.sec = f.cbd.sec) :
    Keeps Q a x (removeFlight a f.rid) (f.cbd :: x) := by
  unfold removeFlight
  refine keeps_move h rfl rfl (fun _ ht => ht) (fun _ ht => ht) ?_ ?_
  · grind [mem_cbds]
  · intro c0 hc0
    rcases mem_cbds.1 hc0 with hx | hh | ⟨g, hg, rfl⟩
    · exact Or.inl ⟨c0, mem_cbds.2 (Or.inl (List.mem_cons_of_mem _ hx)), rfl⟩
    · exact Or.inl ⟨c0, mem_cbds.2 (Or.inr (Or.inl hh)), rfl⟩
    · by_cases he : g.rid = f.rid
      · exact Or.inl ⟨f.cbd, List.mem_cons_self .., (hrid g hg he).symm⟩
      · exact Or.inl ⟨g.cbd, mem_cbds.2 (Or.inr (Or.inr ⟨g, List.mem_filter.2 ⟨hg, by simpa using he⟩, rfl⟩)), rfl⟩

theorem AInv.mono {Q R : Nat → Prop} {a : Agent} {x : List Cbd} (hqr : ∀ t, Q t → R t) (h : AInv Q a x) : AInv R a x :=
  ⟨h.recLe, h.cbdLe, h.recFun, h.cbdRec, fun c hc hne => (h.hasRec c hc hne).imp_right (Or.imp_left (hqr _)), h.data⟩

theorem AInv.of_unread {Q : Nat → Prop} {a : Agent} (hh : a.hist = []) (hf : a.flights = []) (hid : ∀ r ∈ a.recs, r.id = 0) :
    AInv Q a [] := by
  have hc : ∀ c ∈ cbds a [], False := by simp [cbds, hh, hf]
  exact ⟨fun r hr => hid r hr ▸ Nat.zero_le _, fun c hc' => (hc c hc').elim, fun r1 h1 _ _ _ hne => absurd (hid r1 h1) hne,
    fun c hc' => (hc c hc').elim, fun c hc' => (hc c hc').elim, fun c hc' => (hc c hc').elim⟩

theorem safeX_mono {Q R : Nat → Prop} {a : Agent} {x : List Cbd} {t : Nat} (hqr : ∀ t, Q t → R t) (h : safeX Q a x t) :
    safeX R a x t :=
  h.imp_right (Or.imp_left (hqr _))

theorem mem_swapRemove {l : List Cbd} {i : Nat} {d : Cbd} (h : d ∈ swapRemove l i) : d ∈ l := by
  unfold swapRemove at h
  cases hl : l.getLast? with
  | none => simp [hl] at h
  | some lastC =>
    simp only [hl] at h
    have h' := List.mem_of_mem_take h
    rcases List.mem_or_eq_of_mem_set h' with h'' | rfl
    · exact h''
    · exact List.mem_of_getLast? hl

theorem swapRemove_covers {l : List Cbd} {i : Nat} {c d : Cbd} (hi : l[i]? = some c) (hd : d ∈ l) :
    d = c ∨ d ∈ swapRemove l i := by
  obtain ⟨j, hj, rfl⟩ := List.getElem_of_mem hd
  obtain ⟨hil, rfl⟩ := List.getElem?_eq_some_iff.1 hi
  have hlast : l.getLast? = some l[l.length - 1] := by
    rw [List.getLast?_eq_getElem?, List.getElem?_eq_getElem]
  simp only [swapRemove, hlast]
  by_cases hji : j = i
  · exact Or.inl (by subst hji; rfl)
  -- entry j stays where it is, unless it is the last one, which has moved to position i
  · by_cases hjl : j < l.length - 1
    · refine Or.inr (List.mem_of_getElem? (i := j) ?_)
      rw [List.getElem?_take_of_lt hjl, List.getElem?_set_ne (Ne.symm hji), List.getElem?_eq_getElem]
    · refine Or.inr (List.mem_of_getElem? (i := i) ?_)
      have hj' : j = l.length - 1 := by omega
      subst hj'
      rw [List.getElem?_take_of_lt (by omega), List.getElem?_set_self hil]

theorem assignFirstUnread_spec {id : Nat} {l rs : List Rec} {s : Nat} (h : assignFirstUnread id l = some (s, rs)) :
    ∃ pre r post, l = pre ++ r :: post ∧ r.id = 0 ∧ r.sec = s ∧ rs = pre ++ { r with id := id } :: post := by
  induction l generalizing rs s with
  | nil => simp [assignFirstUnread] at h
  | cons r l ih =>
    unfold assignFirstUnread at h
    by_cases hz : (r.id == 0) = true
    · simp only [hz, if_true, Option.some.injEq, Prod.mk.injEq] at h
      exact ⟨[], r, l, rfl, by simpa using hz, h.1, by simp [h.2.symm]⟩
    · simp only [hz, Bool.false_eq_true, if_false] at h
      cases hrec : assignFirstUnread id l with
      | none => simp [hrec] at h
      | some p =>
        obtain ⟨s', rs'⟩ := p
        simp only [hrec, Option.some.injEq, Prod.mk.injEq] at h
        obtain ⟨pre, r0, post, hl, h0, hs, hrs⟩ := ih hrec
        exact ⟨r :: pre, r0, post, by simp [hl], h0, by rw [hs]; exact h.1, by simp [h.2.symm, hrs]⟩

theorem mem_append_cons_swap {α : Type} {pre post : List α} {x y r : α} (h : r ∈ pre ++ x :: post) :
    r ∈ pre ++ y :: post ∨ r = x := by
  simp only [List.mem_append, List.mem_cons] at h ⊢
  rcases h with h | rfl | h
  · exact Or.inl (Or.inl h)
  · exact Or.inr rfl
  · exact Or.inl (Or.inr (Or.inr h))

/-- `rs` is `a.recs` with the first unread record `r0` given the next disk id -/
theorem readNext_cases (a : Agent) : readNext a = a ∨ ∃ r0 rs, r0 ∈ a.recs ∧ r0.id = 0 ∧
    (⟨r0.sec, a.lastId + 1⟩ : Rec) ∈ rs ∧ (∀ r ∈ rs, r ∈ a.recs ∨ r = ⟨r0.sec, a.lastId + 1⟩) ∧ (∀ r ∈ a.recs, r ∈ rs ∨ r = r0) ∧
    readNext a = { a with recs := rs, lastId := a.lastId + 1,
                          hist := a.hist ++ [{ sec := r0.sec, id := a.lastId + 1, mem := false }] } := by
  unfold readNext
  split
  · exact Or.inl rfl
  · cases hu : assignFirstUnread (a.lastId + 1) a.recs with
    | none => exact Or.inl rfl
    | some p =>
      obtain ⟨s, rs⟩ := p
      obtain ⟨pre, r0, post, hl, h0, rfl, rfl⟩ := assignFirstUnread_spec hu
      refine Or.inr ⟨r0, _, hl ▸ ?_, h0, ?_, fun r hr => hl ▸ mem_append_cons_swap hr, fun r hr => mem_append_cons_swap (hl ▸ hr), rfl⟩
      · exact List.mem_append_right _ (List.mem_cons_self ..)
      · exact List.mem_append_right _ (List.mem_cons_self ..)

theorem keeps_readNext {Q : Nat → Prop} {a : Agent} {x : List Cbd} (h : AInv Q a x) : Keeps Q a x (readNext a) x := by
  rcases readNext_cases a with he | ⟨r0, rs, _, h0, hnew, hsub, hcov, he⟩ <;> rw [he]
  · exact Keeps.refl h
  · refine keeps_newId (sec := r0.sec) h rfl (fun _ ht => ht) (fun _ ht => ht) hsub ?_ ?_ ?_
    · intro r hr
      rcases hcov r hr with hr | rfl
      · exact Or.inl hr
      · exact Or.inr (Or.inr ⟨h0, _, hnew, rfl⟩)
    · intro c' hc'
      simp only [mem_cbds, List.mem_append, List.mem_singleton] at hc'
      rcases hc' with hx | (hh | rfl) | hf
      · exact Or.inl (mem_cbds.2 (Or.inl hx))
      · exact Or.inl (mem_cbds.2 (Or.inr (Or.inl hh)))
      · exact Or.inr (Or.inr (Or.inr ⟨Nat.succ_ne_zero _, _, hnew, rfl, rfl⟩))
      · exact Or.inl (mem_cbds.2 (Or.inr (Or.inr hf)))
    · grind [mem_cbds]

theorem keeps_readN {Q : Nat → Prop} {x : List Cbd} (n : Nat) {a : Agent} (h : AInv Q a x) : Keeps Q a x (readN n a) x := by
  induction n generalizing a with
  | zero => exact Keeps.refl h
  | succ n ih => exact (keeps_readNext h).trans ih

theorem pop_cases (a : Agent) (now : Nat) : pop a now = (a, none) ∨ ∃ i d, a.hist[i]? = some d ∧
    pop a now = (readNext { a with hist := swapRemove a.hist i, memSize := a.memSize - sz d }, some d) := by
  unfold pop
  split
  · exact Or.inl rfl
  · next c0 cs hh =>
    dsimp only
    split
    · exact Or.inl rfl
    · next d hi =>
      split
      · exact Or.inl rfl
      · exact Or.inr ⟨_, d, hi, rfl⟩

theorem keeps_pop {Q : Nat → Prop} {a a' : Agent} {x : List Cbd} {now : Nat} {c : Cbd} (h : AInv Q a x)
    (hp : pop a now = (a', some c)) : Keeps Q a x a' (c :: x) := by
  rcases pop_cases a now with he | ⟨i, d, hi, he⟩
  · rw [he] at hp
    cases hp
  · rw [he] at hp
    obtain ⟨rfl, hc⟩ := Prod.mk.inj hp
    obtain rfl := Option.some.inj hc
    have hmem : d ∈ a.hist := List.mem_of_getElem? hi
    have hsub : ∀ e ∈ swapRemove a.hist i, e ∈ a.hist := fun e he => mem_swapRemove he
    have hcov : ∀ e ∈ a.hist, e = d ∨ e ∈ swapRemove a.hist i := fun e he => swapRemove_covers hi he
    refine Keeps.trans (a1 := { a with hist := swapRemove a.hist i, memSize := a.memSize - sz d }) (x1 := d :: x) ?_ keeps_readNext
    -- every new descriptor is an old one (`hmem`, `hsub`) and every old one is still there, `d` in the sender's hands (`hcov`)
    generalize swapRemove a.hist i = l' at hsub hcov
    refine keeps_move h rfl rfl (fun _ ht => ht) (fun _ ht => ht) ?_ ?_
    · grind [mem_cbds]
    · grind [mem_cbds]

/-- accounted for at system level: in the body of a successful INSERT, or deliberately rejected by an aggregator -/
def P (s : State) (t : Nat) : Prop := t ∈ s.inserted ∨ t ∈ s.rejected

def parked (s : State) : List (Nat × Nat) := s.aggs.flatMap (fun g => (g.recent ++ g.historic).flatMap (·.reqs))

/-- every (request id, second) pair the system knows about -/
def ridTags (s : State) : List (Nat × Nat) :=
  s.ag.flights.map (fun f => (f.rid, f.cbd.sec)) ++ s.reqs.map (fun q => (q.rid, q.sec)) ++
  s.resps.map (fun a => (a.rid, a.sec)) ++ parked s

/-- the system invariant; `x` = descriptors in the hands of a sender in the middle of a step: `x = []` between operations
(every `steps_<op>` and `sinv_<op>` is stated so), `x ≠ []` only between the sub-steps of one -/
structure SInv (s : State) (x : List Cbd) : Prop where
  ag : AInv (P s) s.ag x
  ridFun : ∀ p ∈ ridTags s, ∀ q ∈ ridTags s, p.1 = q.1 → p.2 = q.2
  ridLt : ∀ p ∈ ridTags s, p.1 < s.nextRid
  resp : ∀ a ∈ s.resps, a.discard = true → a.err = false → P s a.sec
  bucket : ∀ g ∈ s.aggs, ∀ b ∈ g.recent ++ g.historic, ∀ p ∈ b.reqs, p.2 ∈ b.secs
  safe : ∀ t ∈ s.flushed, safeX (P s) s.ag x t

/-- generic preservation: what a transition from `s` to `s'` has to show; the operations reach it through `SInv.setAg`,
`sinv_launch`, `sinv_addFlushed` and `SInv.aggStep` -/
theorem SInv.step {s s' : State} {x x' : List Cbd} (h : SInv s x)
    (hP : ∀ t, P s t → P s' t)
    (hag : AInv (P s') s.ag x → Keeps (P s') s.ag x s'.ag x')
    (hnext : s.nextRid ≤ s'.nextRid)
    (hrid : ∃ sec0, ∀ p ∈ ridTags s', p ∈ ridTags s ∨ (p = (s.nextRid, sec0) ∧ s.nextRid < s'.nextRid))
    (hresp : ∀ a ∈ s'.resps, a ∈ s.resps ∨ (a.discard = true → a.err = false → P s' a.sec))
    (hbucket : ∀ g ∈ s'.aggs, ∀ b ∈ g.recent ++ g.historic, ∀ p ∈ b.reqs, p.2 ∈ b.secs)
    (hfl : ∀ t ∈ s'.flushed, t ∈ s.flushed ∨ safeX (P s') s'.ag x' t) : SInv s' x' := by
  obtain ⟨sec0, hrid⟩ := hrid
  have hk := hag (h.ag.mono hP)
  refine ⟨hk.1, ?_, ?_, ?_, hbucket, ?_⟩
  · intro p hp q hq he
    rcases hrid p hp with hp' | ⟨rfl, _⟩ <;> rcases hrid q hq with hq' | ⟨rfl, _⟩
    · exact h.ridFun p hp' q hq' he
    · have := h.ridLt p hp'
      simp only at he
      omega
    · have := h.ridLt q hq'
      simp only at he
      omega
    · rfl
  · intro p hp
    rcases hrid p hp with hp' | ⟨rfl, hlt⟩
    · have := h.ridLt p hp'
      omega
    · exact hlt
  · intro a ha hd he
    rcases hresp a ha with ha' | ha'
    · exact hP _ (h.resp a ha' hd he)
    · exact ha' hd he
  · intro t ht
    rcases hfl t ht with ht' | ht'
    · exact hk.2 t (safeX_mono hP (h.safe t ht'))
    · exact ht'

theorem forall_ridTags {s : State} {Q : Nat × Nat → Prop} :
    (∀ p ∈ ridTags s, Q p) ↔ (∀ f ∈ s.ag.flights, Q (f.rid, f.cbd.sec)) ∧ (∀ q ∈ s.reqs, Q (q.rid, q.sec)) ∧
      (∀ a ∈ s.resps, Q (a.rid, a.sec)) ∧ (∀ p ∈ parked s, Q p) := by
  simp only [ridTags, List.forall_mem_append, List.forall_mem_map, and_assoc]

theorem tag_flight {s : State} {f : Flight} (h : f ∈ s.ag.flights) : (f.rid, f.cbd.sec) ∈ ridTags s :=
  (forall_ridTags.1 fun _ h => h).1 f h

theorem tag_req {s : State} {q : Req} (h : q ∈ s.reqs) : (q.rid, q.sec) ∈ ridTags s :=
  (forall_ridTags.1 fun _ h => h).2.1 q h

theorem tag_resp {s : State} {a : Resp} (h : a ∈ s.resps) : (a.rid, a.sec) ∈ ridTags s :=
  (forall_ridTags.1 fun _ h => h).2.2.1 a h

theorem tag_parked {s : State} {p : Nat × Nat} (h : p ∈ parked s) : p ∈ ridTags s :=
  (forall_ridTags.1 fun _ h => h).2.2.2 p h

theorem mem_parked {s : State} {p : Nat × Nat} : p ∈ parked s ↔ ∃ g ∈ s.aggs, ∃ b ∈ g.recent ++ g.historic, p ∈ b.reqs := by
  simp only [parked, List.mem_flatMap]

theorem mem_parked_setAgg {s : State} {r : Nat} {g : Agg} {p : Nat × Nat} (h : p ∈ parked (setAgg s r g)) :
    p ∈ parked s ∨ p ∈ (g.recent ++ g.historic).flatMap (·.reqs) := by
  obtain ⟨g', hg', y, hy, hp⟩ := mem_parked.1 h
  rcases List.mem_or_eq_of_mem_set hg' with hg' | rfl
  · exact Or.inl (mem_parked.2 ⟨g', hg', y, hy, hp⟩)
  · exact Or.inr (List.mem_flatMap.2 ⟨y, hy, hp⟩)

theorem tags_setAgg {s : State} {r : Nat} {g : Agg} {p : Nat × Nat} (h : p ∈ ridTags (setAgg s r g)) :
    p ∈ ridTags s ∨ p ∈ (g.recent ++ g.historic).flatMap (·.reqs) :=
  (forall_ridTags (s := setAgg s r g)).2
    ⟨fun _ hf => Or.inl (tag_flight (s := s) hf), fun _ hq => Or.inl (tag_req (s := s) hq), fun _ ha => Or.inl (tag_resp (s := s) ha),
      fun _ hp => (mem_parked_setAgg hp).imp_left tag_parked⟩ p h

/-- a step that only changes the agent and creates no new request ids -/
theorem SInv.setAg {s : State} {a a' : Agent} {x x' : List Cbd} (h : SInv { s with ag := a } x)
    (hk : AInv (P s) a x → Keeps (P s) a x a' x')
    (hfl : ∀ f ∈ a'.flights, ∃ f0 ∈ a.flights, f0.rid = f.rid ∧ f0.cbd.sec = f.cbd.sec) :
    SInv { s with ag := a' } x' := by
  refine h.step (s' := { s with ag := a' }) (fun _ ht => ht) hk (Nat.le_refl _) ⟨0, fun p hp => Or.inl ?_⟩
    (fun _ ha => Or.inl ha) h.bucket (fun _ ht => Or.inl ht)
  refine (forall_ridTags (s := { s with ag := a' })).2
    ⟨fun f hf => ?_, fun _ hq => tag_req (s := { s with ag := a }) hq, fun _ ha => tag_resp (s := { s with ag := a }) ha,
      fun _ hp => tag_parked (s := { s with ag := a }) hp⟩ p hp
  obtain ⟨f0, hf0, hr, hs⟩ := hfl f hf
  exact hr ▸ hs ▸ tag_flight (s := { s with ag := a }) hf0

theorem SInv.setAg_sub {s : State} {a a' : Agent} {x x' : List Cbd} (h : SInv { s with ag := a } x)
    (hk : AInv (P s) a x → Keeps (P s) a x a' x') (hfl : ∀ f ∈ a'.flights, f ∈ a.flights) : SInv { s with ag := a' } x' :=
  h.setAg hk fun f hf => ⟨f, hfl f hf, rfl, rfl⟩

theorem SInv.eta {s : State} {x} (h : SInv s x) : SInv { s with ag := s.ag } x := h

/-- launch: what the sender holds goes into a blocked sender with a fresh request id -/
theorem sinv_launch {s : State} {a : Agent} {x : List Cbd} {f : Flight} (h : SInv { s with ag := a } x)
    (hk : AInv (P s) a x → Keeps (P s) a x { a with flights := a.flights ++ [f] } [])
    (hrid : f.rid = s.nextRid) : SInv (launch s a f).1 [] := by
  refine h.step (fun t ht => ht) hk (Nat.le_succ _) ⟨f.cbd.sec, forall_ridTags.2 ⟨?_, ?_, ?_, ?_⟩⟩
    (fun a ha => Or.inl ha) h.bucket (fun t ht => Or.inl ht)
  · intro g hg
    rcases List.mem_append.1 hg with hg | hg
    · exact Or.inl (tag_flight (s := { s with ag := a }) hg)
    · exact Or.inr ⟨by rw [List.mem_singleton.1 hg, hrid], Nat.lt_succ_self _⟩
  · intro q hq
    rcases List.mem_append.1 hq with hq | hq
    · exact Or.inl (tag_req (s := { s with ag := a }) hq)
    · exact Or.inr ⟨by rw [List.mem_singleton.1 hq, reqOf, hrid], Nat.lt_succ_self _⟩
  · exact fun r hr => Or.inl (tag_resp (s := { s with ag := a }) hr)
  · exact fun p hp => Or.inl (tag_parked (s := { s with ag := a }) hp)

theorem diskErase_with (a : Agent) (id : Nat) (d : List Nat) (o : Nat) :
    { diskErase a id with dropped := d, oow := o } = diskErase { a with dropped := d, oow := o } id := by
  unfold diskErase; split <;> rfl

theorem diskErase_flights (a : Agent) (id : Nat) : (diskErase a id).flights = a.flights := by
  unfold diskErase; split <;> rfl

theorem appendHist_flights (a : Agent) (c : Cbd) : (appendHist a c).flights = a.flights := by
  rcases appendHist_cases a c with ⟨_, _, he⟩ | ⟨_, _, he⟩ | ⟨_, he⟩ <;> rw [he]

theorem recordSend_frame (a : Agent) (r : Nat) (ok : Bool) :
    (recordSend a r ok).recs = a.recs ∧ (recordSend a r ok).lastId = a.lastId ∧ (recordSend a r ok).hist = a.hist ∧
    (recordSend a r ok).flights = a.flights ∧ (recordSend a r ok).dropped = a.dropped ∧ (recordSend a r ok).lostMem = a.lostMem := by
  unfold recordSend; split <;> simp

theorem appendHist_recs (a : Agent) (c : Cbd) : (appendHist a c).recs = a.recs := by
  rcases appendHist_cases a c with ⟨_, _, he⟩ | ⟨_, _, he⟩ | ⟨_, he⟩ <;> rw [he]

theorem appendHist_dropped_mono {a : Agent} {c : Cbd} {t : Nat} (h : t ∈ a.dropped) : t ∈ (appendHist a c).dropped := by
  rcases appendHist_cases a c with ⟨_, _, he⟩ | ⟨_, _, he⟩ | ⟨_, he⟩ <;> rw [he]
  · exact List.mem_append_left _ h
  · exact h
  · exact h

theorem toHistoric_recs_mem {a : Agent} {c : Cbd} {r : Rec} (h : r ∈ a.recs) : r ∈ (toHistoric a c).recs := by
  unfold toHistoric
  rw [appendHist_recs]
  exact diskPut_recs_mem h

theorem readNext_recs_mem {a : Agent} {r : Rec} (h : r ∈ a.recs) (hid : r.id ≠ 0) : r ∈ (readNext a).recs := by
  rcases readNext_cases a with he | ⟨r0, rs, _, h0, _, _, hcov, he⟩ <;> rw [he]
  · exact h
  · exact (hcov r h).resolve_right fun e => hid (e ▸ h0)

theorem readNext_dropped (a : Agent) : (readNext a).dropped = a.dropped := by
  rcases readNext_cases a with he | ⟨_, _, _, _, _, _, _, he⟩ <;> rw [he]

theorem pop_recs_mem {a a' : Agent} {now : Nat} {oc : Option Cbd} {r : Rec} (hp : pop a now = (a', oc)) (h : r ∈ a.recs)
    (hid : r.id ≠ 0) : r ∈ a'.recs := by
  rcases pop_cases a now with he | ⟨_, _, _, he⟩
  · rw [he] at hp
    cases hp
    exact h
  · rw [he] at hp
    cases hp
    exact readNext_recs_mem h hid

theorem pop_dropped (a : Agent) (now : Nat) : (pop a now).1.dropped = a.dropped := by
  rcases pop_cases a now with he | ⟨_, _, _, he⟩ <;> rw [he]
  exact readNext_dropped _

theorem diskErase_recs_mem {a : Agent} {x : Nat} {r : Rec} (h : r ∈ a.recs) (hne : r.id ≠ x) : r ∈ (diskErase a x).recs := by
  unfold diskErase
  split
  · exact h
  · simp only [List.mem_filter]
    exact ⟨h, by simpa using hne⟩

theorem diskErase_dropped (a : Agent) (x : Nat) : (diskErase a x).dropped = a.dropped := by
  unfold diskErase
  split <;> rfl

theorem dropErase_recs_mem {a : Agent} {c : Cbd} {r : Rec} (o : Nat) (h : r ∈ a.recs) :
    r ∈ ({ diskErase a c.id with dropped := a.dropped ++ [c.sec], oow := o } : Agent).recs ∨
    (r.id = c.id ∧ c.sec ∈ ({ diskErase a c.id with dropped := a.dropped ++ [c.sec], oow := o } : Agent).dropped) := by
  by_cases he : r.id = c.id
  · exact Or.inr ⟨he, List.mem_append_right _ (List.mem_singleton_self _)⟩
  · rw [diskErase_with]
    exact Or.inl (diskErase_recs_mem h he)

/-- what an agent step may do to the disk cache, for the erase-trace property: `dropped` only grows, and a record with a disk id
stays unless its second is acknowledged (`A`) or recorded as dropped -/
def Extra (A : Nat → Prop) (a a' : Agent) : Prop :=
  (∀ t ∈ a.dropped, t ∈ a'.dropped) ∧ ∀ r ∈ a.recs, r.id ≠ 0 → r ∈ a'.recs ∨ A r.sec ∨ r.sec ∈ a'.dropped

theorem Extra.refl {A a} : Extra A a a := ⟨fun _ h => h, fun _ h _ => Or.inl h⟩

theorem Extra.trans {A a a1 a2} (h1 : Extra A a a1) (h2 : Extra A a1 a2) : Extra A a a2 :=
  ⟨fun t ht => h2.1 t (h1.1 t ht), fun r hr hid =>
    (h1.2 r hr hid).elim (fun h => h2.2 r h hid) fun h => Or.inr (h.imp_right (h2.1 _))⟩

/-- an agent step keeps the invariant (`Keeps`), erases only what `Extra` allows and blocks no new sender (only `launch` does) -/
def KeepsT (A Q : Nat → Prop) (a : Agent) (x : List Cbd) (a' : Agent) (x' : List Cbd) : Prop :=
  Keeps Q a x a' x' ∧ Extra A a a' ∧ ∀ f ∈ a'.flights, f ∈ a.flights

theorem KeepsT.trans {A Q a x a1 x1 a2 x2} (h1 : KeepsT A Q a x a1 x1) (h2 : AInv Q a1 x1 → KeepsT A Q a1 x1 a2 x2) :
    KeepsT A Q a x a2 x2 :=
  ⟨h1.1.trans fun hA => (h2 hA).1, h1.2.1.trans (h2 h1.1.1).2.1, fun f hf => h1.2.2 f ((h2 h1.1.1).2.2 f hf)⟩

theorem keepsT_of_recs {A Q a x a' x'} (hk : Keeps Q a x a' x') (hr : a'.recs = a.recs) (hd : ∀ t ∈ a.dropped, t ∈ a'.dropped)
    (hf : ∀ f ∈ a'.flights, f ∈ a.flights) : KeepsT A Q a x a' x' := ⟨hk, ⟨hd, fun _ h _ => Or.inl (hr ▸ h)⟩, hf⟩

/-- the only agent function that removes a disk record: the second of `c` must be accounted for (`hacc`, for `Keeps`) and
acknowledged or already recorded as dropped (`hA`, for `Extra`) -/
theorem keepsT_diskErase {A Q : Nat → Prop} {a : Agent} {c : Cbd} {x : List Cbd} (hacc : accA Q a c.sec)
    (hA : A c.sec ∨ c.sec ∈ a.dropped) (h : AInv Q a (c :: x)) : KeepsT A Q a (c :: x) (diskErase a c.id) x := by
  have hd := diskErase_dropped a c.id
  refine ⟨keeps_diskErase hacc h, ⟨fun t ht => hd ▸ ht, fun r hr hid => ?_⟩, fun _ hg => diskErase_flights a c.id ▸ hg⟩
  by_cases he : r.id = c.id
  · exact Or.inr (h.cbdRec c (List.mem_cons_self ..) r hr he (he ▸ hid) ▸ hd ▸ hA)
  · exact Or.inl (diskErase_recs_mem hr he)

/-- a deliberate drop: the second is recorded, then its disk record is erased -/
theorem keepsT_dropErase {A Q : Nat → Prop} {a : Agent} {c : Cbd} {x : List Cbd} (o : Nat) (h : AInv Q a (c :: x)) :
    KeepsT A Q a (c :: x) { diskErase a c.id with dropped := a.dropped ++ [c.sec], oow := o } x := by
  rw [diskErase_with]
  have hc : c.sec ∈ a.dropped ++ [c.sec] := List.mem_append_right _ (List.mem_singleton_self _)
  have h1 : KeepsT A Q a (c :: x) { a with dropped := a.dropped ++ [c.sec], oow := o } (c :: x) :=
    keepsT_of_recs (keeps_frame h rfl rfl rfl rfl (fun t ht => List.mem_append_left _ ht) (fun t ht => ht)) rfl
      (fun t ht => List.mem_append_left _ ht) (fun _ hg => hg)
  exact h1.trans (keepsT_diskErase (Or.inr (Or.inl hc)) (Or.inr hc))

theorem keepsT_diskPut {A Q : Nat → Prop} {a : Agent} {c : Cbd} {x : List Cbd} (h : AInv Q a (c :: x)) :
    KeepsT A Q a (c :: x) (diskPut a c).1 ((diskPut a c).2 :: x) := by
  obtain ⟨_, hf, hd, _⟩ := diskPut_frame a c
  exact ⟨keeps_diskPut h, ⟨fun _ ht => hd ▸ ht, fun _ hr _ => Or.inl (diskPut_recs_mem hr)⟩, fun _ hg => hf ▸ hg⟩

theorem keepsT_appendHist {A Q : Nat → Prop} {a : Agent} {c : Cbd} {x : List Cbd} (h : AInv Q a (c :: x)) :
    KeepsT A Q a (c :: x) (appendHist a c) x :=
  ⟨keeps_appendHist h, ⟨fun _ ht => appendHist_dropped_mono ht, fun _ hr _ => Or.inl (appendHist_recs a c ▸ hr)⟩,
    fun _ hg => appendHist_flights a c ▸ hg⟩

theorem keepsT_toHistoric {A Q : Nat → Prop} {a : Agent} {c : Cbd} {x : List Cbd} (h : AInv Q a (c :: x)) :
    KeepsT A Q a (c :: x) (toHistoric a c) x :=
  (keepsT_diskPut h).trans keepsT_appendHist

theorem readNext_flights (a : Agent) : (readNext a).flights = a.flights := by
  rcases readNext_cases a with he | ⟨_, _, _, _, _, _, _, he⟩ <;> rw [he]

theorem pop_flights (a : Agent) (now : Nat) : (pop a now).1.flights = a.flights := by
  rcases pop_cases a now with he | ⟨_, _, _, he⟩ <;> rw [he]
  exact readNext_flights _

theorem keepsT_pop {A Q : Nat → Prop} {a a' : Agent} {x : List Cbd} {now : Nat} {c : Cbd} (h : AInv Q a x)
    (hp : pop a now = (a', some c)) : KeepsT A Q a x a' (c :: x) :=
  have hd : a'.dropped = a.dropped := by rw [← pop_dropped a now, hp]
  have hf : a'.flights = a.flights := by rw [← pop_flights a now, hp]
  ⟨keeps_pop h hp, ⟨fun t ht => hd ▸ ht, fun _ hr hid => Or.inl (pop_recs_mem hp hr hid)⟩, fun _ hg => hf ▸ hg⟩

/-- the state `s` reached from `s0` in the middle of an operation: the invariant, and what the operation has done so far to
`flushed`, the disk records and `dropped` (`A`: what counts as an acknowledgement, as in `Extra`) -/
structure Steps (A : Nat → Prop) (s0 s : State) (x : List Cbd) : Prop where
  sinv : SInv s x
  flushed : ∀ t ∈ s0.flushed, t ∈ s.flushed
  extra : Extra A s0.ag s.ag

theorem Steps.refl {A s x} (h : SInv s x) : Steps A s s x := ⟨h, fun _ h => h, Extra.refl⟩

theorem Steps.eta {A s0 s x} (h : Steps A s0 s x) : Steps A s0 { s with ag := s.ag } x := h

theorem Steps.setAg_sub {A s0} {s : State} {a a' : Agent} {x x' : List Cbd} (h : Steps A s0 { s with ag := a } x)
    (hk : AInv (P s) a x → KeepsT A (P s) a x a' x') : Steps A s0 { s with ag := a' } x' :=
  ⟨h.sinv.setAg_sub (fun hA => (hk hA).1) (hk h.sinv.ag).2.2, h.flushed, h.extra.trans (hk h.sinv.ag).2.1⟩

/-- a launch touches neither the records nor `dropped`: plain `Keeps` is asked for and `extra` is carried over -/
theorem steps_launch {A s0} {s : State} {a : Agent} {x : List Cbd} {f : Flight} (h : Steps A s0 { s with ag := a } x)
    (hk : AInv (P s) a x → Keeps (P s) a x { a with flights := a.flights ++ [f] } [])
    (hrid : f.rid = s.nextRid) : Steps A s0 (launch s a f).1 [] :=
  ⟨sinv_launch h.sinv hk hrid, h.flushed, h.extra⟩

/-- sendHistoric, one iteration up to the rpc: dropped as out of window, forgotten (its data is nowhere), or a request goes out -/
theorem historicAttempt_cases (a : Agent) (c : Cbd) (rid : Nat) :
    (outOfWindow a.now c.sec a.window = true ∧
      historicAttempt a c rid = ({ diskErase a c.id with dropped := a.dropped ++ [c.sec], oow := a.oow + 1 }, none)) ∨
    (outOfWindow a.now c.sec a.window = false ∧ c.mem = false ∧ a.disk = false ∧ historicAttempt a c rid = (a, none)) ∨
    (outOfWindow a.now c.sec a.window = false ∧ (c.mem = true ∨ a.disk = true) ∧
      ∃ f, historicAttempt a c rid = (a, some f) ∧ f.rid = rid ∧ f.cbd = { c with mem := true }) := by
  unfold historicAttempt
  by_cases ho : outOfWindow a.now c.sec a.window = true
  · exact Or.inl ⟨ho, by rw [if_pos ho]⟩
  · rw [if_neg ho]
    have ho' := Bool.eq_false_iff.2 ho
    by_cases hn : (!c.mem && !a.disk) = true
    · rw [if_pos hn]
      simp only [Bool.and_eq_true, Bool.not_eq_true'] at hn
      exact Or.inr (Or.inl ⟨ho', hn.1, hn.2, rfl⟩)
    · rw [if_neg hn]
      refine Or.inr (Or.inr ⟨ho', ?_, ?_⟩)
      · cases hm : c.mem
        · exact Or.inr (by simpa [hm] using hn)
        · exact Or.inl rfl
      · cases chooseReplica a c.sec with
        | none => exact ⟨_, rfl, rfl, rfl⟩
        | some p => exact ⟨_, rfl, rfl, rfl⟩

theorem steps_stepHistoricAttempt {A s0} {s : State} {a : Agent} {c : Cbd} (h : Steps A s0 { s with ag := a } [c]) :
    Steps A s0 (stepHistoricAttempt s a c).1 [] := by
  unfold stepHistoricAttempt
  rcases historicAttempt_cases a c s.nextRid with ⟨_, he⟩ | ⟨_, hm, _, he⟩ | ⟨_, _, f, he, hr, hc⟩ <;> rw [he]
  · exact h.setAg_sub (keepsT_dropErase _)
  · refine h.setAg_sub fun hA => keepsT_of_recs (keeps_release hA rfl rfl rfl rfl (fun _ ht => ht) (fun _ ht => ht) (Or.inl ?_)) rfl
      (fun _ ht => ht) (fun _ hg => hg)
    exact (hA.data c (List.mem_cons_self ..)).resolve_left (by simp [hm])
  · exact steps_launch h (keeps_addFlight f ⟨by rw [hc], by rw [hc], Or.inl (by rw [hc])⟩) hr

/-- the agent when the sender of `f` is back from the rpc: its flight is gone and, for a primary recent send, the outcome is
recorded in the replica's liveness window -/
def afterRpc (a : Agent) (f : Flight) (err : Bool) : Agent :=
  if f.historic || f.spare then removeFlight a f.rid else recordSend (removeFlight a f.rid) f.replica (!err)

theorem agentContinue_cases (s : State) (f : Flight) (err discard : Bool) :
    ((!err && discard) = true ∧
      agentContinue s f err discard = ({ s with ag := diskErase (afterRpc s.ag f err) f.cbd.id }, [.done])) ∨
    ((!err && discard) = false ∧ f.historic = true ∧
      agentContinue s f err discard = stepHistoricAttempt s (removeFlight s.ag f.rid) f.cbd) ∨
    ((!err && discard) = false ∧ f.historic = false ∧
      agentContinue s f err discard = ({ s with ag := toHistoric (afterRpc s.ag f err) f.cbd }, [.done])) := by
  unfold agentContinue afterRpc
  cases hh : f.historic <;> cases ha : (!err && discard) <;> simp

theorem afterRpc_frame (a : Agent) (f : Flight) (err : Bool) :
    (afterRpc a f err).recs = a.recs ∧ (afterRpc a f err).lastId = a.lastId ∧ (afterRpc a f err).hist = a.hist ∧
    (afterRpc a f err).flights = (removeFlight a f.rid).flights ∧ (afterRpc a f err).dropped = a.dropped ∧
    (afterRpc a f err).lostMem = a.lostMem := by
  unfold afterRpc
  split
  · exact ⟨rfl, rfl, rfl, rfl, rfl, rfl⟩
  · exact recordSend_frame (removeFlight a f.rid) f.replica (!err)

theorem steps_agentContinue {A s0} {s : State} {f : Flight} {err discard : Bool} (h : Steps A s0 s []) (hf : f ∈ s.ag.flights)
    (hack : (!err && discard) = true → P s f.cbd.sec ∧ A f.cbd.sec) : Steps A s0 (agentContinue s f err discard).1 [] := by
  have h1 : Steps A s0 { s with ag := removeFlight s.ag f.rid } [f.cbd] :=
    h.eta.setAg_sub fun hA => keepsT_of_recs
      (keeps_removeFlight hA hf (fun g hg he => h.sinv.ridFun _ (tag_flight hg) _ (tag_flight hf) he)) rfl (fun _ ht => ht)
      (fun _ hg => (List.mem_filter.1 hg).1)
  obtain ⟨hr, hl, hh, hfl, hd, hm⟩ := afterRpc_frame s.ag f err
  have h2 : Steps A s0 { s with ag := afterRpc s.ag f err } [f.cbd] :=
    h1.setAg_sub fun hA => keepsT_of_recs (keeps_frame hA hr hl hh hfl (fun t ht => hd ▸ ht) (fun t ht => hm ▸ ht)) hr
      (fun t ht => hd ▸ ht) (fun _ hg => hfl ▸ hg)
  rcases agentContinue_cases s f err discard with ⟨ha, he⟩ | ⟨_, _, he⟩ | ⟨_, _, he⟩ <;> rw [he]
  · exact h2.setAg_sub (keepsT_diskErase (Or.inl (hack ha).1) (Or.inl (hack ha).2))
  · exact steps_stepHistoricAttempt h1
  · exact h2.setAg_sub keepsT_toHistoric

theorem sinv_agentContinue {s : State} {f : Flight} {err discard : Bool} (h : SInv s []) (hf : f ∈ s.ag.flights)
    (hack : (!err && discard) = true → P s f.cbd.sec) : SInv (agentContinue s f err discard).1 [] :=
  (steps_agentContinue (A := fun _ => True) (Steps.refl h) hf fun ha => ⟨hack ha, trivial⟩).sinv

theorem safeX_new {Q : Nat → Prop} {a : Agent} {c : Cbd} {x : List Cbd} : safeX Q a (c :: x) c.sec :=
  Or.inl (Or.inl (List.mem_map.2 ⟨c, List.mem_cons_self .., rfl⟩))

/-- a new second enters the send path with its descriptor in a sender's hands -/
theorem sinv_addFlushed {s : State} (t : Nat) (h : SInv s []) :
    SInv (addFlushed s t) [{ sec := t, id := 0, mem := true }] := by
  unfold addFlushed
  refine h.step (s' := { s with flushed := s.flushed ++ [t] }) (fun t ht => ht) ?_ (Nat.le_refl _) ⟨0, fun p hp => Or.inl hp⟩
    (fun a ha => Or.inl ha) h.bucket ?_
  · intro hA
    refine keeps_move hA rfl rfl (fun _ ht => ht) (fun _ ht => ht) ?_ (fun c hc => Or.inl ⟨c, List.mem_cons_of_mem _ hc, rfl⟩)
    intro c' hc'
    rcases List.mem_cons.1 hc' with rfl | hc'
    · exact Or.inr (Or.inr ⟨rfl, rfl⟩)
    · exact Or.inl hc'
  · intro u hu
    rcases List.mem_append.1 hu with hu | hu
    · exact Or.inl hu
    · exact Or.inr (List.mem_singleton.1 hu ▸ safeX_new)

theorem steps_addFlushed {A} {s : State} (t : Nat) (h : SInv s []) :
    Steps A s (addFlushed s t) [{ sec := t, id := 0, mem := true }] :=
  ⟨sinv_addFlushed t h, fun _ hu => List.mem_append_left _ hu, Extra.refl⟩

theorem steps_overflow {A} {s : State} (t : Nat) (h : SInv s []) : Steps A s (step s (.overflow t)).1 [] :=
  (steps_addFlushed t h).eta.setAg_sub keepsT_toHistoric

theorem sinv_overflow {s : State} (t : Nat) (h : SInv s []) : SInv (step s (.overflow t)).1 [] :=
  (steps_overflow (A := fun _ => True) t h).sinv

theorem steps_recentSend {A s0} {s : State} {a : Agent} {c : Cbd} (t : Nat) (h : Steps A s0 { s with ag := a } [c]) :
    Steps A s0 (recentSend s a c t).1 [] := by
  have toH : Steps A s0 { s with ag := toHistoric a c } [] := h.setAg_sub keepsT_toHistoric
  unfold recentSend
  split
  · exact toH
  · split
    · exact toH
    · exact steps_launch h (keeps_addFlight _ ⟨rfl, rfl, Or.inr rfl⟩) rfl

theorem steps_recent {A} {s : State} (t : Nat) (h : SInv s []) : Steps A s (step s (.recent t)).1 [] := by
  have h1 : Steps A s (addFlushed s t) _ := steps_addFlushed t h
  simp only [step, stepRecent]
  split
  · exact steps_recentSend t (h1.eta.setAg_sub keepsT_diskPut)
  · exact steps_recentSend t h1

theorem sinv_recent {s : State} (t : Nat) (h : SInv s []) : SInv (step s (.recent t)).1 [] :=
  (steps_recent (A := fun _ => True) t h).sinv

/-- messages disappear, aggregator memory is lost: nothing the invariant relies on -/
theorem SInv.shrink {s s' : State} {x : List Cbd} (h : SInv s x) (hag : s'.ag = s.ag) (hn : s'.nextRid = s.nextRid)
    (hi : s'.inserted = s.inserted) (hr : s'.rejected = s.rejected) (hf : s'.flushed = s.flushed)
    (htags : ∀ p ∈ ridTags s', p ∈ ridTags s) (hresp : ∀ a ∈ s'.resps, a ∈ s.resps)
    (hb : ∀ g ∈ s'.aggs, ∀ b ∈ g.recent ++ g.historic, ∀ p ∈ b.reqs, p.2 ∈ b.secs) : SInv s' x :=
  h.step (fun t ht => by rw [P, hi, hr]; exact ht) (fun hA => by rw [hag]; exact Keeps.refl hA) (Nat.le_of_eq hn.symm)
    ⟨0, fun p hp => Or.inl (htags p hp)⟩ (fun a ha => Or.inl (hresp a ha)) hb (fun t ht => Or.inl (hf ▸ ht))

/-- rows of every parked contributor are in the bucket -/
def BI (b : Bucket) : Prop := ∀ p ∈ b.reqs, p.2 ∈ b.secs

/-- a bucket whose contributors are all known request tags of state s and have their rows in it -/
def GoodB (s : State) (y : Bucket) : Prop := (∀ p ∈ y.reqs, p ∈ ridTags s) ∧ BI y

theorem goodB_of_agg {s : State} {g : Agg} (h : SInv s []) (hg : g ∈ s.aggs) : ∀ y ∈ g.recent ++ g.historic, GoodB s y :=
  fun y hy => ⟨fun _ hp => tag_parked (mem_parked.2 ⟨g, hg, y, hy, hp⟩), h.bucket g hg y hy⟩

theorem goodB_empty {s : State} {y : Bucket} (h : y.reqs = []) : GoodB s y :=
  ⟨fun _ hp => absurd (h ▸ hp) List.not_mem_nil, fun _ hp => absurd (h ▸ hp) List.not_mem_nil⟩

theorem goodB_set {s : State} {l : List Agg} {r : Nat} {g' : Agg} (hl : ∀ g ∈ l, ∀ y ∈ g.recent ++ g.historic, GoodB s y)
    (hg : ∀ y ∈ g'.recent ++ g'.historic, GoodB s y) : ∀ g ∈ l.set r g', ∀ y ∈ g.recent ++ g.historic, GoodB s y := by
  intro g hgm
  rcases List.mem_or_eq_of_mem_set hgm with hgm | rfl
  · exact hl g hgm
  · exact hg

theorem bucket_setAgg {s : State} {r : Nat} {g : Agg}
    (h : ∀ g ∈ s.aggs, ∀ b ∈ g.recent ++ g.historic, ∀ p ∈ b.reqs, p.2 ∈ b.secs)
    (hg : ∀ b ∈ g.recent ++ g.historic, ∀ p ∈ b.reqs, p.2 ∈ b.secs) :
    ∀ g1 ∈ (setAgg s r g).aggs, ∀ b ∈ g1.recent ++ g1.historic, ∀ p ∈ b.reqs, p.2 ∈ b.secs := by
  intro g' hg'
  rcases List.mem_or_eq_of_mem_set hg' with hg'' | rfl
  · exact h g' hg''
  · exact hg

theorem SInv.aggStep {s s' : State} (h : SInv s []) (hag : s'.ag = s.ag) (hn : s'.nextRid = s.nextRid)
    (hf : s'.flushed = s.flushed) (hi : ∀ t ∈ s.inserted, t ∈ s'.inserted) (hr : ∀ t ∈ s.rejected, t ∈ s'.rejected)
    (hq : ∀ q ∈ s'.reqs, q ∈ s.reqs)
    (hresp : ∀ a ∈ s'.resps, a ∈ s.resps ∨ ((a.rid, a.sec) ∈ ridTags s ∧ (a.discard = true → a.err = false → P s' a.sec)))
    (hb : ∀ g ∈ s'.aggs, ∀ y ∈ g.recent ++ g.historic, GoodB s y) : SInv s' [] := by
  refine h.step (fun t ht => ht.imp (hi t) (hr t)) (fun hA => by rw [hag]; exact Keeps.refl hA) (Nat.le_of_eq hn.symm) ⟨0, fun p hp => Or.inl ?_⟩
    (fun a ha => (hresp a ha).imp_right And.right) (fun g hg y hy => (hb g hg y hy).2) (fun t ht => Or.inl (hf ▸ ht))
  refine forall_ridTags.2 ⟨fun f hf' => tag_flight (hag ▸ hf'), fun q hq' => tag_req (hq q hq'), ?_, ?_⟩ p hp
  · intro a ha
    rcases hresp a ha with ha | ha
    · exact tag_resp ha
    · exact ha.1
  · intro p hp
    obtain ⟨g, hg, y, hy, hpy⟩ := mem_parked.1 hp
    exact (hb g hg y hy).1 p hpy

/-- `s3` is `s` after changes on the wire and in the aggregators that insert nothing and create no request tag (a request handled,
an answer or request gone, longpolls cancelled, a replica up or down); `GoodB s` refers to the base state `s` -/
structure ArriveOk (s s3 : State) : Prop where
  ag : s3.ag = s.ag
  next : s3.nextRid = s.nextRid
  flushed : s3.flushed = s.flushed
  inserted : s3.inserted = s.inserted
  rejected : ∀ t ∈ s.rejected, t ∈ s3.rejected
  reqs : ∀ q ∈ s3.reqs, q ∈ s.reqs
  resps : ∀ a ∈ s3.resps, a ∈ s.resps ∨ ((a.rid, a.sec) ∈ ridTags s ∧ (a.discard = true → a.err = false → a.sec ∈ s3.rejected))
  aggs : ∀ g' ∈ s3.aggs, ∀ y ∈ g'.recent ++ g'.historic, GoodB s y
  sw : s3.shortWindow = s.shortWindow ∧ s3.aggWindow = s.aggWindow

theorem ArriveOk.refl {s : State} (h : SInv s []) : ArriveOk s s :=
  ⟨rfl, rfl, rfl, rfl, fun _ ht => ht, fun _ hq => hq, fun _ ha => Or.inl ha, fun _ hg => goodB_of_agg h hg, ⟨rfl, rfl⟩⟩

theorem ArriveOk.set {s S : State} (h0 : ArriveOk s S) (r : Nat) {g : Agg} (hg : ∀ y ∈ g.recent ++ g.historic, GoodB s y) :
    ArriveOk s (setAgg S r g) :=
  { h0 with aggs := goodB_set h0.aggs hg }

theorem ArriveOk.dropReq {s S : State} (h0 : ArriveOk s S) (rid : Nat) : ArriveOk s (dropReq S rid) :=
  { h0 with reqs := fun q hq => h0.reqs q (List.mem_filter.1 hq).1 }

theorem ArriveOk.sinv {s S : State} (h0 : ArriveOk s S) (h : SInv s []) : SInv S [] :=
  h.aggStep h0.ag h0.next h0.flushed (fun _ ht => h0.inserted ▸ ht) h0.rejected h0.reqs
    (fun x hx => (h0.resps x hx).imp_right fun h1 => ⟨h1.1, fun hd he => Or.inr (h1.2 hd he)⟩) h0.aggs

/-- aggregator side and wire: agent and `flushed` untouched -/
theorem Steps.arrive {A s0 s S} (h : Steps A s0 s []) (h0 : ArriveOk s S) : Steps A s0 S [] :=
  ⟨h0.sinv h.sinv, h0.flushed ▸ h.flushed, h0.ag ▸ h.extra⟩

/-- g' has the buckets of g with possibly fewer contributors (CancelLongpoll) -/
def AggSub (g' g : Agg) : Prop :=
  ∀ b' ∈ g'.recent ++ g'.historic, ∃ b ∈ g.recent ++ g.historic, b'.secs = b.secs ∧ ∀ p ∈ b'.reqs, p ∈ b.reqs

theorem AggSub.trans {g1 g2 g3 : Agg} (h12 : AggSub g1 g2) (h23 : AggSub g2 g3) : AggSub g1 g3 := by
  intro b1 hb1
  obtain ⟨b2, hb2, hs2, hr2⟩ := h12 b1 hb1
  obtain ⟨b3, hb3, hs3, hr3⟩ := h23 b2 hb2
  exact ⟨b3, hb3, hs2.trans hs3, fun p hp => hr3 p (hr2 p hp)⟩

theorem aggSub_unpark (g : Agg) (rid : Nat) : AggSub (unpark g rid) g := by
  intro b' hb'
  simp only [unpark, List.mem_append, List.mem_map] at hb'
  rcases hb' with ⟨b, hb, rfl⟩ | ⟨b, hb, rfl⟩
  · exact ⟨b, List.mem_append_left _ hb, rfl, fun p hp => (List.mem_filter.1 hp).1⟩
  · exact ⟨b, List.mem_append_right _ hb, rfl, fun p hp => (List.mem_filter.1 hp).1⟩

theorem parked_unpark {aggs : List Agg} {rid : Nat} {p : Nat × Nat}
    (h : p ∈ (aggs.map (unpark · rid)).flatMap (fun g => (g.recent ++ g.historic).flatMap (·.reqs))) :
    p ∈ aggs.flatMap (fun g => (g.recent ++ g.historic).flatMap (·.reqs)) := by
  simp only [List.mem_flatMap, List.mem_map] at h ⊢
  obtain ⟨_, ⟨g, hg, rfl⟩, b', hb', hp⟩ := h
  obtain ⟨b, hb, _, hr⟩ := aggSub_unpark g rid b' hb'
  exact ⟨g, hg, b, hb, hr p hp⟩

theorem bucket_unpark {aggs : List Agg} {rid : Nat}
    (h : ∀ g ∈ aggs, ∀ b ∈ g.recent ++ g.historic, ∀ p ∈ b.reqs, p.2 ∈ b.secs) :
    ∀ g ∈ aggs.map (unpark · rid), ∀ b ∈ g.recent ++ g.historic, ∀ p ∈ b.reqs, p.2 ∈ b.secs := by
  intro g' hg' b' hb' p hp
  obtain ⟨g, hg, rfl⟩ := List.mem_map.1 hg'
  obtain ⟨b, hb, hs, hr⟩ := aggSub_unpark g rid b' hb'
  exact hs ▸ h g hg b hb p (hr p hp)

theorem aggSub_foldl (rids : List Nat) (g : Agg) : AggSub (rids.foldl unpark g) g := by
  induction rids generalizing g with
  | nil => exact fun b hb => ⟨b, hb, rfl, fun _ hp => hp⟩
  | cons r rs ih => exact (ih (unpark g r)).trans (aggSub_unpark g r)

theorem goodB_map_sub {s : State} {F : Agg → Agg} (hF : ∀ g, AggSub (F g) g) (h : SInv s []) :
    ∀ g ∈ s.aggs.map F, ∀ y ∈ g.recent ++ g.historic, GoodB s y := by
  intro g' hg' y' hy'
  obtain ⟨g, hg, rfl⟩ := List.mem_map.1 hg'
  obtain ⟨y, hy, hs, hr⟩ := hF g y' hy'
  obtain ⟨ht, hb⟩ := goodB_of_agg h hg y hy
  exact ⟨fun p hp => ht p (hr p hp), fun p hp => hs ▸ hb p (hr p hp)⟩

theorem find?_rid {α : Type} {l : List α} {k : α → Nat} {rid : Nat} {x : α} (h : l.find? (fun y => k y == rid) = some x) :
    x ∈ l ∧ k x = rid :=
  ⟨List.mem_of_find?_eq_some h, by simpa using List.find?_some h⟩

theorem find?_flight {a : Agent} {rid : Nat} {f : Flight} (h : findFlight a rid = some f) : f ∈ a.flights ∧ f.rid = rid :=
  find?_rid (l := a.flights) (k := Flight.rid) h

theorem SInv.resp_sec {s : State} {x : List Cbd} (h : SInv s x) {a : Resp} {f : Flight} (ha : a ∈ s.resps)
    (hf : f ∈ s.ag.flights) (he : a.rid = f.rid) : a.sec = f.cbd.sec :=
  h.ridFun _ (tag_resp ha) _ (tag_flight hf) he

/-- `hA`: `A` holds of the second of a sender that gets a discard answer without rpc error; `steps_step` takes
`A := AckDelivered s (.resp rid)`, of which `hA` is the introduction -/
theorem steps_resp {A} {s : State} (rid : Nat) (h : SInv s [])
    (hA : ∀ a ∈ s.resps, ∀ f ∈ s.ag.flights, a.rid = rid → f.rid = rid → a.discard = true → a.err = false → a.sec = f.cbd.sec →
      A f.cbd.sec) : Steps A s (step s (.resp rid)).1 [] := by
  simp only [step, stepResp]
  cases hr : findResp s rid with
  | none => exact Steps.refl h
  | some a =>
    simp only
    have ha := find?_rid (l := s.resps) (k := Resp.rid) hr
    have h1 : Steps A s { s with resps := s.resps.filter (fun x => x.rid != rid) } [] :=
      (Steps.refl h).arrive { ArriveOk.refl h with resps := fun _ hb => Or.inl (List.mem_filter.1 hb).1 }
    cases hf : findFlight s.ag rid with
    | none => exact h1
    | some f =>
      have hff := find?_flight hf
      have hsec := h.resp_sec ha.1 hff.1 (ha.2.trans hff.2.symm)
      refine steps_agentContinue h1 hff.1 (fun hack => ?_)
      simp only [Bool.and_eq_true, Bool.not_eq_true'] at hack
      exact ⟨hsec ▸ h.resp a ha.1 hack.2 hack.1, hA a ha.1 f hff.1 ha.2 hff.2 hack.2 hack.1 hsec⟩

theorem sinv_resp {s : State} (rid : Nat) (h : SInv s []) : SInv (step s (.resp rid)).1 [] :=
  (steps_resp (A := fun _ => True) rid h fun _ _ _ _ _ _ _ _ _ => trivial).sinv

theorem steps_drop {A} {s : State} (rid : Nat) (h : SInv s []) : Steps A s (step s (.drop rid)).1 [] := by
  simp only [step, stepDrop]
  cases hf : findFlight s.ag rid with
  | none => exact Steps.refl h
  | some f =>
    -- the sender gives the rpc up: a late answer and its longpoll entries disappear
    refine steps_agentContinue ((Steps.refl h).arrive ?_) (find?_flight hf).1 (by simp)
    exact { ArriveOk.refl h with resps := fun _ hb => Or.inl (List.mem_filter.1 hb).1,
                                 aggs := goodB_map_sub (fun g => aggSub_unpark g rid) h }

theorem sinv_drop {s : State} (rid : Nat) (h : SInv s []) : SInv (step s (.drop rid)).1 [] :=
  (steps_drop (A := fun _ => True) rid h).sinv

theorem steps_pop {A} {s : State} (now : Nat) (h : SInv s []) : Steps A s (step s (.pop now)).1 [] := by
  simp only [step, stepPop]
  cases hp : pop s.ag now with
  | mk a' oc =>
    cases oc with
    | none => exact Steps.refl h
    | some c =>
      exact steps_stepHistoricAttempt ((Steps.refl h).eta.setAg_sub fun hA => keepsT_pop hA hp)

theorem sinv_pop {s : State} (now : Nat) (h : SInv s []) : SInv (step s (.pop now)).1 [] :=
  (steps_pop (A := fun _ => True) now h).sinv

theorem steps_agentFrame {A} {s : State} {a' : Agent} (h : SInv s [])
    (hr : a'.recs = s.ag.recs) (hl : a'.lastId = s.ag.lastId) (hh : a'.hist = s.ag.hist) (hf : a'.flights = s.ag.flights)
    (hd : a'.dropped = s.ag.dropped) (hm : a'.lostMem = s.ag.lostMem) : Steps A s { s with ag := a' } [] :=
  (Steps.refl h).eta.setAg_sub fun hA => keepsT_of_recs (keeps_frame hA hr hl hh hf (fun _ ht => hd ▸ ht) (fun _ ht => hm ▸ ht)) hr
    (fun _ ht => hd ▸ ht) (fun _ hg => hf ▸ hg)

theorem sinv_alive {s : State} (r : Nat) (b : Bool) (h : SInv s []) : SInv (step s (.alive r b)).1 [] :=
  (steps_agentFrame (A := fun _ => True) (a' := (step s (.alive r b)).1.ag) h rfl rfl rfl rfl rfl rfl).sinv
theorem sinv_ballast {s : State} (k : Nat) (h : SInv s []) : SInv (step s (.ballast k)).1 [] :=
  (steps_agentFrame (A := fun _ => True) (a' := (step s (.ballast k)).1.ag) h rfl rfl rfl rfl rfl rfl).sinv
theorem sinv_diskOk {s : State} (b : Bool) (h : SInv s []) : SInv (step s (.diskOk b)).1 [] :=
  (steps_agentFrame (A := fun _ => True) (a' := (step s (.diskOk b)).1.ag) h rfl rfl rfl rfl rfl rfl).sinv

theorem steps_bad {A} {s : State} (r : Nat) (h : SInv s []) : Steps A s (step s (.bad r)).1 [] := by
  simp only [step, stepBad]
  split
  · exact Steps.refl h
  · split <;> exact Steps.refl h

theorem sinv_bad {s : State} (r : Nat) (h : SInv s []) : SInv (step s (.bad r)).1 [] :=
  (steps_bad (A := fun _ => True) r h).sinv

theorem extend_new {fuel want : Nat} {l : List Bucket} {b : Bucket} (hb : b ∈ extend fuel want l) : b ∈ l ∨ b.reqs = [] := by
  induction fuel generalizing l with
  | zero => exact Or.inl hb
  | succ n ih =>
    unfold extend at hb
    cases l with
    | nil => simp at hb
    | cons b0 bs =>
      simp only at hb
      split at hb
      · rcases ih hb with h | h
        · simp only [List.mem_append, List.mem_singleton] at h
          rcases h with h | rfl
          · exact Or.inl h
          · exact Or.inr rfl
        · exact Or.inr h
      · exact Or.inl hb

theorem dropReady_append (fuel now sw : Nat) (l : List Bucket) :
    (dropReady fuel now sw l).1 ++ (dropReady fuel now sw l).2 = l := by
  induction fuel generalizing l with
  | zero => rfl
  | succ n ih =>
    cases l with
    | nil => rfl
    | cons b bs =>
      rw [dropReady]
      split
      · exact congrArg (b :: ·) (ih bs)
      · rfl

theorem advance_mem {recent : List Bucket} {now sw : Nat} {b : Bucket}
    (hb : b ∈ (advance recent now sw).1 ∨ b ∈ (advance recent now sw).2) : b ∈ recent ∨ b.reqs = [] := by
  unfold advance at hb
  simp only at hb
  have hdr := dropReady_append recent.length now sw recent
  rcases hb with hb | hb
  · exact Or.inl (hdr ▸ List.mem_append_left _ hb)
  · rcases extend_new hb with h | h
    · split at h
      · exact Or.inr (List.mem_singleton.1 h ▸ rfl)
      · exact Or.inl (hdr ▸ List.mem_append_right _ h)
    · exact Or.inr h

theorem goodB_advance {s : State} {l : List Bucket} {now sw : Nat} (hl : ∀ y ∈ l, GoodB s y) :
    ∀ x, x ∈ (advance l now sw).1 ∨ x ∈ (advance l now sw).2 → GoodB s x :=
  fun x hx => (advance_mem hx).elim (hl x) goodB_empty

theorem steps_up {A} {s : State} (r now : Nat) (h : SInv s []) : Steps A s (step s (.up r now)).1 [] := by
  simp only [step, stepUp]
  split
  · exact Steps.refl h
  · split
    · exact Steps.refl h
    · refine (Steps.refl h).arrive ((ArriveOk.refl h).set r fun y hy => ?_)
      simp only [List.append_nil] at hy
      exact goodB_advance (fun _ hn => absurd hn List.not_mem_nil) y (Or.inr hy)

theorem sinv_up {s : State} (r now : Nat) (h : SInv s []) : SInv (step s (.up r now)).1 [] :=
  (steps_up (A := fun _ => True) r now h).sinv

theorem steps_failFlights {A s0} {s : State} (fs : List Flight) (h : Steps A s0 s []) : Steps A s0 (failFlights fs s).1 [] := by
  induction fs generalizing s with
  | nil => exact h
  | cons f fs ih =>
    unfold failFlights
    cases hf : findFlight s.ag f.rid with
    | none => exact ih h
    | some f' => exact ih (steps_agentContinue h (find?_flight hf).1 (by simp))

theorem steps_down {A} {s : State} (r : Nat) (h : SInv s []) : Steps A s (step s (.down r)).1 [] := by
  simp only [step, stepDown]
  split
  · exact Steps.refl h
  · exact steps_failFlights _ ((Steps.refl h).arrive ((ArriveOk.refl h).set r fun _ hy => absurd hy List.not_mem_nil))

theorem sinv_down {s : State} (r : Nat) (h : SInv s []) : SInv (step s (.down r)).1 [] :=
  (steps_down (A := fun _ => True) r h).sinv

theorem goodB_park {s : State} {b : Bucket} {rid sec : Nat} (hb : GoodB s b) (hq : (rid, sec) ∈ ridTags s) :
    GoodB s (park b rid sec) := by
  constructor
  · intro p hp
    rcases List.mem_append.1 hp with hp | hp
    · exact hb.1 p hp
    · exact List.mem_singleton.1 hp ▸ hq
  · intro p hp
    rcases List.mem_append.1 hp with hp | hp
    · exact List.mem_append_left _ (hb.2 p hp)
    · exact List.mem_append_right _ (List.mem_singleton.1 hp ▸ List.mem_singleton_self _)

theorem forall_parkAt {Q : Bucket → Prop} {l : List Bucket} {i rid sec : Nat} (hl : ∀ y ∈ l, Q y)
    (hp : ∀ b ∈ l, Q (park b rid sec)) : ∀ y ∈ parkAt l i rid sec, Q y := by
  induction l generalizing i with
  | nil => exact fun _ hy => absurd hy List.not_mem_nil
  | cons b bs ih =>
    obtain ⟨hb, hbs⟩ := List.forall_mem_cons.1 hl
    obtain ⟨pb, pbs⟩ := List.forall_mem_cons.1 hp
    cases i with
    | zero => exact List.forall_mem_cons.2 ⟨pb, hbs⟩
    | succ n => exact List.forall_mem_cons.2 ⟨hb, ih hbs pbs⟩

theorem forall_parkHistoric {Q : Bucket → Prop} {l : List Bucket} {rid sec : Nat} (hl : ∀ y ∈ l, Q y)
    (hp : ∀ b ∈ l, Q (park b rid sec)) (hnew : Q (park (mkBucket sec) rid sec)) : ∀ y ∈ parkHistoric l rid sec, Q y := by
  induction l with
  | nil => exact List.forall_mem_cons.2 ⟨hnew, fun _ hy => absurd hy List.not_mem_nil⟩
  | cons b bs ih =>
    obtain ⟨hb, hbs⟩ := List.forall_mem_cons.1 hl
    obtain ⟨pb, pbs⟩ := List.forall_mem_cons.1 hp
    rw [parkHistoric]
    split
    · exact List.forall_mem_cons.2 ⟨pb, hbs⟩
    · exact List.forall_mem_cons.2 ⟨hb, ih hbs pbs⟩

theorem steps_recvRefused {A s0} {s : State} (rid : Nat) (h : Steps A s0 s []) : Steps A s0 (recvRefused s rid).1 [] := by
  unfold recvRefused
  cases hf : findFlight s.ag rid with
  | none => exact h
  | some f => exact steps_agentContinue h (find?_flight hf).1 (by simp)

theorem takeHistoric_spec (fuel : Nat) (h : List Bucket) (oldest w rc hc : Nat) :
    (∀ b ∈ (takeHistoric fuel h oldest w rc hc).historic, b ∈ h) ∧
    (∀ b ∈ (takeHistoric fuel h oldest w rc hc).taken, b ∈ h) ∧
    (∀ b ∈ (takeHistoric fuel h oldest w rc hc).stale, b ∈ h ∧ isStale oldest w b = true) := by
  induction fuel generalizing h hc with
  | zero => simp [takeHistoric]
  | succ n ih =>
    unfold takeHistoric
    dsimp only
    have f1 : ∀ b ∈ h.filter (isStale oldest w), b ∈ h ∧ isStale oldest w b = true := fun b hb => List.mem_filter.1 hb
    have f2 : ∀ b ∈ h.filter (fun b => !isStale oldest w b), b ∈ h := fun b hb => (List.mem_filter.1 hb).1
    split
    · exact ⟨f2, by simp, f1⟩
    · rename_i m _
      have f3 : ∀ b ∈ (h.filter (fun b => !isStale oldest w b)).filter (fun b => b.time == m), b ∈ h :=
        fun b hb => f2 b (List.mem_filter.1 hb).1
      have f4 : ∀ b ∈ (h.filter (fun b => !isStale oldest w b)).filter (fun b => b.time != m), b ∈ h :=
        fun b hb => f2 b (List.mem_filter.1 hb).1
      split
      · exact ⟨f4, f3, f1⟩
      · refine ⟨fun b hb => f4 b ((ih _ _).1 b hb), fun b hb => ?_, fun b hb => ?_⟩
        · rcases List.mem_append.1 hb with hb | hb
          · exact f3 b hb
          · exact f4 b ((ih _ _).2.1 b hb)
        · rcases List.mem_append.1 hb with hb | hb
          · exact f1 b hb
          · exact ⟨f4 b ((ih _ _).2.2 b hb).1, ((ih _ _).2.2 b hb).2⟩

theorem takeHistoric_sub (fuel : Nat) (h : List Bucket) (oldest w rc hc : Nat) :
    (∀ b ∈ (takeHistoric fuel h oldest w rc hc).historic, b ∈ h) ∧
    (∀ b ∈ (takeHistoric fuel h oldest w rc hc).taken, b ∈ h) ∧
    (∀ b ∈ (takeHistoric fuel h oldest w rc hc).stale, b ∈ h) :=
  have hs := takeHistoric_spec fuel h oldest w rc hc
  ⟨hs.1, hs.2.1, fun b hb => (hs.2.2 b hb).1⟩

theorem mem_answersOf {b : Bucket} {d e : Bool} {why : Why} {r : Resp} (h : r ∈ answersOf b d e why) :
    r.discard = d ∧ r.err = e ∧ r.why = why ∧ (r.rid, r.sec) ∈ b.reqs := by
  obtain ⟨q, hq, rfl⟩ := List.mem_map.mp h
  exact ⟨rfl, rfl, rfl, hq⟩

theorem insertOne_eq (b : Bucket) (h : List Bucket) (oldest w : Nat) (ok : Bool) :
    insertOne b h oldest w ok = insertOneW (!(h.isEmpty || insertHistoricWhen == 0)) b h oldest w ok := by
  unfold insertOne insertOneW
  rw [Bool.not_not]

/-- the historic buckets an inserter iteration takes along or classes as stale (`will`: were there any when it decided) -/
def batchOf (will : Bool) (b : Bucket) (h : List Bucket) (oldest w : Nat) : Batch :=
  if !will then { historic := h, taken := [], stale := [] } else takeHistoric maxHistoricBatch h oldest w b.joined 0

theorem batchOf_sub (will : Bool) (b : Bucket) (h : List Bucket) (oldest w : Nat) :
    (∀ x ∈ (batchOf will b h oldest w).historic, x ∈ h) ∧ (∀ x ∈ (batchOf will b h oldest w).taken, x ∈ h) ∧
    (∀ x ∈ (batchOf will b h oldest w).stale, x ∈ h ∧ isStale oldest w x = true) := by
  unfold batchOf
  split
  · exact ⟨fun _ hx => hx, fun _ hx => absurd hx List.not_mem_nil, fun _ hx => absurd hx List.not_mem_nil⟩
  · exact takeHistoric_spec _ _ _ _ _ _

theorem mem_insertOneW_resps {will : Bool} {b : Bucket} {h : List Bucket} {oldest w : Nat} {ok : Bool} {a : Resp} :
    a ∈ (insertOneW will b h oldest w ok).resps ↔
      (∃ x ∈ (batchOf will b h oldest w).stale, a ∈ answersOf x true false .stale) ∨
      (∃ x ∈ b :: (batchOf will b h oldest w).taken, a ∈ answersOf x ok (!ok) (if ok then .inserted else .insertFailed)) := by
  simp only [insertOneW, batchOf, List.mem_append, ← List.flatMap_def, List.mem_flatMap]

theorem insertOneW_facts (will : Bool) (b : Bucket) (h : List Bucket) (oldest w : Nat) (ok : Bool) :
    (∀ x ∈ (insertOneW will b h oldest w ok).historic, x ∈ h) ∧
    (∀ a ∈ (insertOneW will b h oldest w ok).resps, ∃ x ∈ b :: h, (a.rid, a.sec) ∈ x.reqs) ∧
    (BI b → (∀ x ∈ h, BI x) → ∀ a ∈ (insertOneW will b h oldest w ok).resps, a.discard = true → a.err = false →
        a.why = .stale ∨ (ok = true ∧ a.sec ∈ (insertOneW will b h oldest w ok).body)) := by
  obtain ⟨hsub, htaken, hstale⟩ := batchOf_sub will b h oldest w
  have hall : ∀ x ∈ b :: (batchOf will b h oldest w).taken, x ∈ b :: h := by
    intro x hx
    rcases List.mem_cons.1 hx with rfl | hx
    · exact List.mem_cons_self ..
    · exact List.mem_cons_of_mem _ (htaken x hx)
  refine ⟨hsub, fun a ha => ?_, fun hb hh a ha hd _ => ?_⟩
  · rcases mem_insertOneW_resps.1 ha with ⟨x, hx, ha⟩ | ⟨x, hx, ha⟩
    · exact ⟨x, List.mem_cons_of_mem _ (hstale x hx).1, (mem_answersOf ha).2.2.2⟩
    · exact ⟨x, hall x hx, (mem_answersOf ha).2.2.2⟩
  · rcases mem_insertOneW_resps.1 ha with ⟨x, hx, ha⟩ | ⟨x, hx, ha⟩
    · exact Or.inl (mem_answersOf ha).2.2.1
    · obtain ⟨hd', _, _, hp⟩ := mem_answersOf ha
      have hbi : BI x := (List.mem_cons.1 (hall x hx)).elim (fun e => e ▸ hb) (hh x)
      exact Or.inr ⟨hd'.symm.trans hd, List.mem_flatten.2 ⟨x.secs, List.mem_map.2 ⟨x, hx, rfl⟩, hbi _ hp⟩⟩

theorem insertOne_facts (b : Bucket) (h : List Bucket) (oldest w : Nat) (ok : Bool) (hb : BI b) (hh : ∀ x ∈ h, BI x) :
    (∀ x ∈ (insertOne b h oldest w ok).historic, x ∈ h) ∧
    (∀ a ∈ (insertOne b h oldest w ok).resps, ∃ x ∈ b :: h, (a.rid, a.sec) ∈ x.reqs) ∧
    (∀ a ∈ (insertOne b h oldest w ok).resps, a.discard = true → a.err = false →
        a.why = .stale ∨ (ok = true ∧ a.sec ∈ (insertOne b h oldest w ok).body)) := by
  rw [insertOne_eq]
  have f := insertOneW_facts (!(h.isEmpty || insertHistoricWhen == 0)) b h oldest w ok
  exact ⟨f.1, f.2.1, f.2.2 hb hh⟩

/-- what inserter iterations for the ready buckets `src` do to the accumulator -/
structure AccStep (src : List Bucket) (acc acc' : TickAcc) : Prop where
  hist : ∀ x ∈ acc'.historic, x ∈ acc.historic
  tags : ∀ a ∈ acc'.resps, a ∈ acc.resps ∨ ∃ x ∈ src ++ acc.historic, (a.rid, a.sec) ∈ x.reqs
  just : (∀ x ∈ src, BI x) → (∀ x ∈ acc.historic, BI x) → ∀ a ∈ acc'.resps,
    a ∈ acc.resps ∨ (a.discard = true → a.err = false → a.sec ∈ acc'.inserted ∨ a.sec ∈ acc'.rejected)
  inserted : ∀ t ∈ acc.inserted, t ∈ acc'.inserted
  rejected : ∀ t ∈ acc.rejected, t ∈ acc'.rejected

theorem AccStep.refl (src : List Bucket) (acc : TickAcc) : AccStep src acc acc :=
  ⟨fun _ h => h, fun _ h => Or.inl h, fun _ _ _ h => Or.inl h, fun _ h => h, fun _ h => h⟩

theorem AccStep.cons {b : Bucket} {l : List Bucket} {acc a1 a2 : TickAcc} (h1 : AccStep [b] acc a1) (h2 : AccStep l a1 a2) :
    AccStep (b :: l) acc a2 := by
  refine ⟨fun x hx => h1.hist x (h2.hist x hx), fun a ha => ?_, fun hl hh a ha => ?_, fun t ht => h2.inserted t (h1.inserted t ht),
    fun t ht => h2.rejected t (h1.rejected t ht)⟩
  · rcases h2.tags a ha with ha | ⟨x, hx, hp⟩
    · rcases h1.tags a ha with ha | ⟨x, hx, hp⟩
      · exact Or.inl ha
      · refine Or.inr ⟨x, ?_, hp⟩
        rcases List.mem_append.1 hx with hx | hx
        · exact List.mem_append_left _ (List.mem_singleton.1 hx ▸ List.mem_cons_self ..)
        · exact List.mem_append_right _ hx
    · refine Or.inr ⟨x, ?_, hp⟩
      rcases List.mem_append.1 hx with hx | hx
      · exact List.mem_append_left _ (List.mem_cons_of_mem _ hx)
      · exact List.mem_append_right _ (h1.hist x hx)
  · rcases h2.just (fun x hx => hl x (List.mem_cons_of_mem _ hx)) (fun x hx => hh x (h1.hist x hx)) a ha with ha | hj
    · exact (h1.just (fun x hx => hl x (List.mem_singleton.1 hx ▸ List.mem_cons_self ..)) hh a ha).imp_right
        fun hj hd he => (hj hd he).imp (h2.inserted _) (h2.rejected _)
    · exact Or.inr hj

theorem tickOne_accStep (will : Bool) (oldest w : Nat) (ok : Bool) (b : Bucket) (acc : TickAcc) :
    AccStep [b] acc (tickOne will oldest w ok b acc) := by
  have fo := insertOneW_facts will b acc.historic oldest w ok
  unfold tickOne
  generalize insertOneW will b acc.historic oldest w ok = o at fo ⊢
  refine ⟨fo.1, fun a ha => ?_, fun hb hh a ha => ?_, fun t ht => ?_, fun t ht => List.mem_append_left _ ht⟩
  · exact (List.mem_append.1 ha).imp_right (fo.2.1 a)
  · refine (List.mem_append.1 ha).imp_right fun ha hd he => ?_
    rcases fo.2.2 (hb b (List.mem_singleton_self _)) hh a ha hd he with hs | ⟨hok, hbody⟩
    · exact Or.inr (List.mem_append_right _ (List.mem_map.2 ⟨a, List.mem_filter.2 ⟨ha, by simp [hs]⟩, rfl⟩))
    · refine Or.inl ?_
      dsimp only
      rw [if_pos hok]
      exact List.mem_append_right _ hbody
  · dsimp only
    split
    · exact List.mem_append_left _ ht
    · exact ht

theorem tickBuckets_cons (k oldest w : Nat) (ok : Bool) (b : Bucket) (bs : List Bucket) (acc : TickAcc) :
    tickBuckets k oldest w ok (b :: bs) acc = tickBuckets k oldest w ok bs
      (if isOurs b k then tickOne (!(acc.historic.isEmpty || insertHistoricWhen == 0)) oldest w ok b acc else acc) := by
  rw [tickBuckets]
  cases isOurs b k
  · rfl
  · simp only [tickOne, insertOne_eq, Bool.not_true, Bool.false_eq_true, if_false, if_true]

theorem tickBuckets_accStep (k oldest w : Nat) (ok : Bool) (l : List Bucket) (acc : TickAcc) :
    AccStep l acc (tickBuckets k oldest w ok l acc) := by
  induction l generalizing acc with
  | nil => exact AccStep.refl [] acc
  | cons b bs ih =>
    rw [tickBuckets_cons]
    split
    · exact (tickOne_accStep _ oldest w ok b acc).cons (ih _)
    · exact (AccStep.refl [b] acc).cons (ih acc)

theorem tickBuckets_facts (k oldest w : Nat) (ok : Bool) (l : List Bucket) (acc : TickAcc)
    (hl : ∀ x ∈ l, BI x) (hh : ∀ x ∈ acc.historic, BI x) :
    (∀ x ∈ (tickBuckets k oldest w ok l acc).historic, x ∈ acc.historic) ∧
    (∀ a ∈ (tickBuckets k oldest w ok l acc).resps, a ∈ acc.resps ∨ ∃ x ∈ l ++ acc.historic, (a.rid, a.sec) ∈ x.reqs) ∧
    (∀ a ∈ (tickBuckets k oldest w ok l acc).resps, a ∈ acc.resps ∨ (a.discard = true → a.err = false →
        a.sec ∈ (tickBuckets k oldest w ok l acc).inserted ∨ a.sec ∈ (tickBuckets k oldest w ok l acc).rejected)) ∧
    (∀ t ∈ acc.inserted, t ∈ (tickBuckets k oldest w ok l acc).inserted) ∧
    (∀ t ∈ acc.rejected, t ∈ (tickBuckets k oldest w ok l acc).rejected) :=
  have h := tickBuckets_accStep k oldest w ok l acc
  ⟨h.hist, h.tags, h.just hl hh, h.inserted, h.rejected⟩

theorem flushFlights_facts (fs : List Flight) (a : Agent) :
    (∀ r ∈ a.recs, r ∈ (flushFlights fs a).recs) ∧
    (flushFlights fs a).dropped = a.dropped ∧ (flushFlights fs a).lostMem = a.lostMem ∧
    (∀ f ∈ fs, f.historic = false → f.cbd.id = 0 → a.disk = true → a.diskOk = true →
        ∃ r ∈ (flushFlights fs a).recs, r.sec = f.cbd.sec) := by
  induction fs generalizing a with
  | nil => exact ⟨fun _ hr => hr, rfl, rfl, fun _ hf => absurd hf List.not_mem_nil⟩
  | cons f fs ih =>
    rw [flushFlights]
    split
    · next hh =>
      obtain ⟨i1, i2, i3, i4⟩ := ih a
      refine ⟨i1, i2, i3, fun f' hf' hn => ?_⟩
      rcases List.mem_cons.1 hf' with rfl | hf'
      · exact absurd (hh.symm.trans hn) Bool.noConfusion
      · exact i4 f' hf' hn
    · obtain ⟨i1, i2, i3, i4⟩ := ih (diskPut a f.cbd).1
      obtain ⟨_, _, hdr, hlm, _⟩ := diskPut_frame a f.cbd
      obtain ⟨hdisk, hok⟩ := diskPut_disk a f.cbd
      refine ⟨fun r hr => i1 r (diskPut_recs_mem hr), i2.trans hdr, i3.trans hlm, fun f' hf' hn h0 hd ho => ?_⟩
      rcases List.mem_cons.1 hf' with rfl | hf'
      · obtain ⟨r, hr, hs⟩ := diskPut_saves (a := a) h0 hd ho
        exact ⟨r, i1 r hr, hs⟩
      · exact i4 f' hf' hn h0 (hdisk.trans hd) (hok.trans ho)

theorem readN_flights (n : Nat) (a : Agent) : (readN n a).flights = a.flights := by
  induction n generalizing a with
  | zero => rfl
  | succ n ih => unfold readN; rw [ih, readNext_flights]

theorem mem_resetIds {l : List Rec} {r : Rec} (h : r ∈ l) : ⟨r.sec, 0⟩ ∈ resetIds l := by
  simp only [resetIds, List.mem_map]; exact ⟨r, h, rfl⟩

theorem mem_memOnly {a : Agent} {graceful : Bool} {t : Nat} : t ∈ memOnly a graceful ↔
    (∃ c ∈ a.hist, c.id = 0 ∧ c.sec = t) ∨
    (∃ f ∈ a.flights, f.cbd.id = 0 ∧ (f.historic = true ∨ graceful = false ∨ a.disk = false ∨ a.diskOk = false) ∧ f.cbd.sec = t) := by
  simp [memOnly, and_assoc, or_assoc]

/-- the process image after exec: a descriptor without disk id is reported lost or was saved on the way out, one with a disk id
is found again through its record -/
theorem keeps_restarted {Q : Nat → Prop} {a b : Agent} {lost : List Nat} (h : AInv Q a [])
    (hrec : ∀ r ∈ a.recs, r ∈ b.recs) (hd : b.dropped = a.dropped) (hm : b.lostMem = a.lostMem)
    (hlost : ∀ c ∈ cbds a [], c.id = 0 → c.sec ∈ lost ∨ ∃ r ∈ b.recs, r.sec = c.sec) :
    Keeps Q a [] (restarted b lost) [] := by
  have hid : ∀ r ∈ (restarted b lost).recs, r.id = 0 := by
    intro r hr
    obtain ⟨r0, _, rfl⟩ := List.mem_map.1 hr
    rfl
  have hheld : ∀ r ∈ b.recs, safeX Q (restarted b lost) [] r.sec :=
    fun r hr => Or.inl (heldX_iff.2 (Or.inr ⟨_, mem_resetIds hr, rfl⟩))
  have hacc : ∀ t, accA Q a t → safeX Q (restarted b lost) [] t :=
    fun t ht => Or.inr (ht.imp_right (Or.imp (hd ▸ id) (fun hl => List.mem_append_left _ (hm ▸ hl))))
  refine ⟨AInv.of_unread rfl rfl hid, ?_⟩
  intro t ht
  rcases ht with ht | ht
  · rcases heldX_iff.1 ht with ⟨c, hcm, rfl⟩ | ⟨r, hr, rfl⟩
    · by_cases hz : c.id = 0
      · rcases hlost c hcm hz with hl | ⟨r, hr, hs⟩
        · exact Or.inr (Or.inr (Or.inr (List.mem_append_right _ hl)))
        · exact hs ▸ hheld r hr
      · rcases h.hasRec c hcm hz with ⟨r, hr, he⟩ | hac
        · exact h.cbdRec c hcm r hr he hz ▸ hheld r (hrec r hr)
        · exact hacc _ hac
    · exact hheld r (hrec r hr)
  · exact hacc t ht

theorem sinv_agentRestart {s : State} (crash : Bool) (h : SInv s []) : SInv (step s (.agentRestart crash)).1 [] := by
  simp only [step, stepAgentRestart]
  generalize hb : (if crash = true then s.ag else flushFlights s.ag.flights s.ag) = b
  obtain ⟨hrec, hdr, hlm, hsaved⟩ : (∀ r ∈ s.ag.recs, r ∈ b.recs) ∧ b.dropped = s.ag.dropped ∧ b.lostMem = s.ag.lostMem ∧
      (crash = false → ∀ f ∈ s.ag.flights, f.historic = false → f.cbd.id = 0 → s.ag.disk = true → s.ag.diskOk = true →
        ∃ r ∈ b.recs, r.sec = f.cbd.sec) := by
    rw [← hb]
    cases crash
    · obtain ⟨i1, i2, i3, i4⟩ := flushFlights_facts s.ag.flights s.ag
      exact ⟨i1, i2, i3, fun _ => i4⟩
    · exact ⟨fun _ hr => hr, rfl, rfl, fun hc => nomatch hc⟩
  -- the aggregators and the wire forget the agent's requests (`ArriveOk`); on top of that only the agent changes
  refine SInv.setAg_sub (s := { s with aggs := _, resps := _ }) (a := s.ag)
    (ArriveOk.sinv { ArriveOk.refl h with resps := fun _ ha => Or.inl (List.mem_filter.1 ha).1,
                                          aggs := goodB_map_sub (fun g => aggSub_foldl _ g) h } h) (fun hA => ?_) (fun f hf => ?_)
  · refine (keeps_restarted hA hrec hdr hlm ?_).trans (keeps_readN startupReads)
    intro c hc hz
    rcases mem_cbds.1 hc with hx | hh | ⟨f, hf, rfl⟩
    · exact absurd hx List.not_mem_nil
    · exact Or.inl (mem_memOnly.2 (Or.inl ⟨c, hh, hz, rfl⟩))
    -- a sender that `memOnly` does not list is a recent one, stopped gracefully with a working disk cache
    · by_cases hl : f.historic = true ∨ (!crash) = false ∨ s.ag.disk = false ∨ s.ag.diskOk = false
      · exact Or.inl (mem_memOnly.2 (Or.inr ⟨f, hf, hz, hl, rfl⟩))
      · simp only [not_or, Bool.not_eq_true, Bool.not_eq_false, Bool.not_eq_false'] at hl
        obtain ⟨hrecent, hgraceful, hdisk, hok⟩ := hl
        exact Or.inr (hsaved hgraceful f hf hrecent hz hdisk hok)
  · rw [readN_flights] at hf
    exact absurd hf List.not_mem_nil

end SH.Delivery
