/-
  SH.Lemmas.MetaIndex — the index half of C20 (SH.Model.MetaIndex: MetricsStorage.ApplyEvent), in this order: association
  lists; `I1` through `renameOut` / `upsert` (both variants); source histories (`Latest`, `UniqueNames`, `Stable`, `Valid`);
  the invariant of one index pair against a source history (`IdxInv`) and of the storage (`StoreInv`), fixed variant;
  `applyTied` with its loop principle `applyTied_induction`; the bytewise order, `sortGroups_spec`, and what ApplyEvent
  maintains about groups inside its event loop and between calls (`GroupsOK`).
-/
import SH.Model.MetaIndex
import SH.Lemmas.Lists

namespace SH.C20
open SH.MetaIndex

theorem get_set_same {κ} [DecidableEq κ] (m : List (κ × Ent)) (k : κ) (v : Ent) : aget (aset m k v) k = some v := by
  induction m with
  | nil => simp [aset, aget]
  | cons p r ih =>
    obtain ⟨k', v'⟩ := p
    by_cases h : k' = k <;> simp [aset, aget, h, ih]

theorem get_set_other {κ} [DecidableEq κ] (m : List (κ × Ent)) (k k' : κ) (v : Ent) (h : k' ≠ k) :
    aget (aset m k v) k' = aget m k' := by
  induction m with
  | nil => simp [aset, aget, Ne.symm h]
  | cons p r ih =>
    obtain ⟨k0, v0⟩ := p
    by_cases h0 : k0 = k
    · subst h0; simp [aset, aget, Ne.symm h]
    · by_cases h1 : k0 = k'
      · subst h1; simp [aset, aget, h0]
      · simp [aset, aget, h0, h1, ih]

theorem get_set_some {κ} [DecidableEq κ] (m : List (κ × Ent)) (k k' : κ) (v v' : Ent)
    (h : aget (aset m k v) k' = some v') : (k' = k ∧ v' = v) ∨ (k' ≠ k ∧ aget m k' = some v') := by
  by_cases hk : k' = k
  · subst hk
    rw [get_set_same] at h
    exact Or.inl ⟨rfl, (Option.some.inj h).symm⟩
  · rw [get_set_other _ _ _ _ hk] at h
    exact Or.inr ⟨hk, h⟩

theorem get_del {κ} [DecidableEq κ] (m : List (κ × Ent)) (k k' : κ) :
    aget (adel m k) k' = if k' = k then none else aget m k' := by
  induction m with
  | nil => simp [adel, aget]
  | cons p r ih =>
    obtain ⟨k0, v0⟩ := p
    unfold adel at ih ⊢
    by_cases h0 : k0 = k
    · subst h0
      rw [List.filter_cons_of_neg (by simp), ih]
      by_cases h1 : k' = k0
      · simp [h1]
      · simp [aget, h1, Ne.symm h1]
    · rw [List.filter_cons_of_pos (by simp [h0])]
      by_cases h1 : k0 = k'
      · subst h1; simp [aget, h0]
      · simp only [aget, h1, if_false]; exact ih

theorem get_del_same {κ} [DecidableEq κ] (m : List (κ × Ent)) (k : κ) : aget (adel m k) k = none := by
  simp [get_del]

theorem get_del_other {κ} [DecidableEq κ] (m : List (κ × Ent)) (k k' : κ) (h : k' ≠ k) :
    aget (adel m k) k' = aget m k' := by
  simp [get_del, h]

theorem get_del_some {κ} [DecidableEq κ] (m : List (κ × Ent)) (k k' : κ) (v : Ent) (h : aget (adel m k) k' = some v) :
    aget m k' = some v ∧ k' ≠ k := by
  by_cases hk : k' = k
  · subst hk; rw [get_del_same] at h; simp at h
  · rw [get_del_other _ _ _ hk] at h; exact ⟨h, hk⟩

theorem get_map {κ} [DecidableEq κ] (m : List (κ × Ent)) (f : Ent → Ent) (k : κ) :
    aget (m.map (fun p => (p.1, f p.2))) k = (aget m k).map f := by
  induction m with
  | nil => simp [aget]
  | cons p r ih =>
    obtain ⟨k0, v0⟩ := p
    by_cases h0 : k0 = k <;> simp [aget, h0, ih]

theorem aget_mem {κ} [DecidableEq κ] (l : List (κ × Ent)) (k : κ) (v : Ent) (h : aget l k = some v) : (k, v) ∈ l := by
  induction l with
  | nil => simp [aget] at h
  | cons p r ih =>
    obtain ⟨k0, v0⟩ := p
    by_cases h0 : k0 = k
    · subst h0; simp [aget] at h; simp [h]
    · simp [aget, h0] at h; exact List.mem_cons_of_mem _ (ih h)

def KeysNodup {κ} (l : List (κ × Ent)) : Prop := (l.map (·.1)).Nodup

theorem aget_of_mem {κ} [DecidableEq κ] (l : List (κ × Ent)) (k : κ) (v : Ent) (hn : KeysNodup l) (hm : (k, v) ∈ l) :
    aget l k = some v := by
  induction l with
  | nil => simp at hm
  | cons p r ih =>
    obtain ⟨k0, v0⟩ := p
    unfold KeysNodup at hn
    simp only [List.map_cons, List.nodup_cons] at hn
    rcases List.mem_cons.mp hm with h | h
    · injection h with h1 h2; subst h1; subst h2; simp [aget]
    · have hk : k0 ≠ k := by
        intro he; subst he
        exact hn.1 (List.mem_map.mpr ⟨(k0, v), h, rfl⟩)
      simp only [aget, hk, if_false]
      exact ih hn.2 h

theorem aset_keys {κ} [DecidableEq κ] (l : List (κ × Ent)) (k : κ) (v : Ent) :
    (aset l k v).map (·.1) = if k ∈ l.map (·.1) then l.map (·.1) else l.map (·.1) ++ [k] := by
  induction l with
  | nil => simp [aset]
  | cons p r ih =>
    obtain ⟨k0, v0⟩ := p
    by_cases h0 : k0 = k
    · subst h0; simp [aset]
    · have hne : ¬ k = k0 := fun h => h0 h.symm
      simp only [aset, h0, if_false, List.map_cons, List.mem_cons, hne, false_or, ih]
      split <;> simp

theorem aset_nodup {κ} [DecidableEq κ] (l : List (κ × Ent)) (k : κ) (v : Ent) (h : KeysNodup l) : KeysNodup (aset l k v) := by
  unfold KeysNodup at *
  rw [aset_keys]
  split
  · exact h
  · rename_i hk
    refine List.nodup_append.mpr ⟨h, by simp, ?_⟩
    -- the appended list is `[k]`, and `k` is not among the old keys
    intro a ha b hb
    simp at hb
    subst hb
    intro hab
    subst hab
    exact hk ha

/-- I1: `byName[n] = m` implies `m.Name = n` and `byID[m.ID] = m` -/
def I1 (x : Idx) : Prop := ∀ n m, aget x.byName n = some m → m.name = n ∧ aget x.byId m.id = some m

theorem renameOut_byId (v : Variant) (x : Idx) (id : Int) (name : Name) : (renameOut v x id name).byId = x.byId := by
  unfold renameOut
  split
  · split <;> rfl
  · rfl

theorem renameOut_byName (v : Variant) (x : Idx) (id : Int) (name n : Name) (m : Ent) :
    aget (renameOut v x id name).byName n = some m ↔
      aget x.byName n = some m ∧
      ∀ old, aget x.byId id = some old → old.name ≠ name → dropsOld v x old = true → n ≠ old.name := by
  unfold renameOut
  cases aget x.byId id with
  | none => exact ⟨fun h => ⟨h, fun _ h1 => nomatch h1⟩, fun h => h.1⟩
  | some old =>
    simp only [Option.some.injEq, forall_eq']
    split
    · rename_i hc
      rw [get_del]
      split
      · rename_i hn
        exact ⟨fun h => (nomatch h), fun h => absurd hn (h.2 hc.1 hc.2)⟩
      · rename_i hn
        exact ⟨fun h => ⟨h, fun _ _ => hn⟩, fun h => h.1⟩
    · rename_i hc
      exact ⟨fun h => ⟨h, fun h2 h3 => absurd ⟨h2, h3⟩ hc⟩, fun h => h.1⟩

theorem upsert_byId (v : Variant) (x : Idx) (e : Ent) : (upsert v x e).byId = aset x.byId e.id e := by
  simp only [upsert, put, renameOut_byId]

theorem upsert_byId_cases (v : Variant) (x : Idx) (e : Ent) {P : Int → Ent → Prop} (hnew : P e.id e)
    (hold : ∀ id m, id ≠ e.id → aget x.byId id = some m → P id m) :
    ∀ id m, aget (upsert v x e).byId id = some m → P id m := by
  intro id m hm
  rw [upsert_byId] at hm
  rcases get_set_some _ _ _ _ _ hm with ⟨rfl, rfl⟩ | ⟨hid, hm⟩
  · exact hnew
  · exact hold id m hid hm

theorem upsert_I1 (v : Variant) (x : Idx) (e : Ent) (hI : I1 x) : I1 (upsert v x e) := by
  intro n m h
  simp only [upsert, put] at h ⊢
  by_cases hn : n = e.name
  · subst hn
    rw [get_set_same] at h
    injection h with h
    subst h
    exact ⟨rfl, get_set_same _ _ _⟩
  · rw [get_set_other _ _ _ _ hn] at h
    obtain ⟨h0, hkeep⟩ := (renameOut_byName v x e.id e.name n m).mp h
    obtain ⟨h1, h2⟩ := hI n m h0
    refine ⟨h1, ?_⟩
    rw [renameOut_byId]
    by_cases hid : m.id = e.id
    · -- `m` is the stored version of `e`'s entity under another name: the rename step has deleted it
      exfalso
      have hd : dropsOld v x m = true := by
        cases v
        · simp [dropsOld, h1, h0]
        · simp [dropsOld]
      exact hkeep m (hid ▸ h2) (h1 ▸ hn) hd h1.symm
    · rw [get_set_other _ _ _ _ hid]; exact h2

/-- one version of one entity at the source -/
structure SEv where
  typ : Int
  id : Int
  name : Name
  ver : Int
deriving DecidableEq, Repr

def srcOf (e : IEv) : SEv := { typ := e.typ, id := e.id, name := e.name, ver := e.ver }

/-- `e` is the version of its entity in force at source version `v` -/
def Latest (H : List SEv) (e : SEv) (v : Int) : Prop :=
  e ∈ H ∧ e.ver ≤ v ∧ ∀ e' ∈ H, e'.typ = e.typ → e'.id = e.id → e'.ver ≤ v → e'.ver ≤ e.ver

/-- at every source version, two different entities of one type never hold the same name AT THE SAME TIME. A name
    freed by a rename may be taken by another entity later (reuse is allowed: `wH_unique`, `valid_unique`). -/
def UniqueNames (H : List SEv) : Prop :=
  ∀ v e1 e2, Latest H e1 v → Latest H e2 v → e1.typ = e2.typ → e1.name = e2.name → e1.id = e2.id

/-- every source version of entity (t,id) from `ver` on carries `name` -/
def Stable (H : List SEv) (t id : Int) (name : Name) (ver : Int) : Prop :=
  ∀ e ∈ H, e.typ = t → e.id = id → ver ≤ e.ver → e.name = name

/-- histories a name-checking source (the metadata engine's UNIQUE(type, name)) can produce: events come with increasing
    versions, and an event is accepted iff, at that moment, no OTHER entity of the type holds the name. A name that was
    freed by a rename may be taken by anybody afterwards. (A model of the engine's constraint, not tied to its code.) -/
inductive Valid : List SEv → Prop
  | nil : Valid []
  | snoc (H : List SEv) (e : SEv) : Valid H → (∀ e' ∈ H, e'.ver < e.ver) →
      (∀ e2, Latest H e2 e.ver → e2.typ = e.typ → e2.name = e.name → e2.id = e.id) → Valid (H ++ [e])

theorem latest_before (H : List SEv) (e x : SEv) (v : Int) (hv : v < e.ver) (h : Latest (H ++ [e]) x v) : Latest H x v := by
  obtain ⟨h1, h2, h3⟩ := h
  have hx : x ∈ H := by
    rcases List.mem_append.mp h1 with a | a
    · exact a
    · simp at a; subst a; omega
  exact ⟨hx, h2, fun e' he' => h3 e' (List.mem_append_left _ he')⟩

theorem latest_after (H : List SEv) (e x : SEv) (v : Int) (hnew : ∀ e' ∈ H, e'.ver < e.ver) (hv : e.ver ≤ v)
    (h : Latest (H ++ [e]) x v) : x = e ∨ Latest H x e.ver := by
  obtain ⟨h1, h2, h3⟩ := h
  rcases List.mem_append.mp h1 with a | a
  · right
    have := hnew x a
    refine ⟨a, by omega, ?_⟩
    intro e' he' t1 t2 _
    exact h3 e' (List.mem_append_left _ he') t1 t2 (by have := hnew e' he'; omega)
  · left; simpa using a

theorem valid_unique (H : List SEv) (h : Valid H) : UniqueNames H := by
  induction h with
  | nil => intro v e1 e2 l1; exact absurd l1.1 (by simp)
  | snoc H e _ hnew hacc ih =>
    intro v e1 e2 l1 l2 ht hn
    by_cases hv : v < e.ver
    · exact ih v e1 e2 (latest_before H e e1 v hv l1) (latest_before H e e2 v hv l2) ht hn
    · have hv' : e.ver ≤ v := by omega
      rcases latest_after H e e1 v hnew hv' l1 with h1 | a1 <;>
        rcases latest_after H e e2 v hnew hv' l2 with h2 | a2
      · rw [h1, h2]
      · rw [h1] at ht hn ⊢; exact (hacc e2 a2 ht.symm hn.symm).symm
      · rw [h2] at ht hn ⊢; exact hacc e1 a1 ht hn
      · exact ih e.ver e1 e2 a1 a2 ht hn

/-- one index pair of a replica that has applied source events of type `t` up to version `L` -/
structure IdxInv (H : List SEv) (t : Int) (x : Idx) (L : Int) : Prop where
  i1 : I1 x
  key : ∀ id m, aget x.byId id = some m → m.id = id
  bound : ∀ id m, aget x.byId id = some m → m.ver ≤ L
  /-- what is stored (built-ins at version 0 aside) is a source version of its entity -/
  src : ∀ id m, aget x.byId id = some m → 0 < m.ver → ({ typ := t, id := m.id, name := m.name, ver := m.ver } : SEv) ∈ H
  /-- an entity whose source name has not changed since the stored version is found under that name -/
  reach : ∀ id m, aget x.byId id = some m → 0 < m.ver → Stable H t m.id m.name m.ver → aget x.byName m.name = some m

theorem IdxInv.mono {H t x L L'} (h : IdxInv H t x L) (hl : L ≤ L') : IdxInv H t x L' :=
  { h with bound := fun id m hm => Int.le_trans (h.bound id m hm) hl }

theorem exists_max_ver (p : SEv → Prop) [DecidablePred p] (H : List SEv) (h : ∃ e ∈ H, p e) :
    ∃ e ∈ H, p e ∧ ∀ e' ∈ H, p e' → e'.ver ≤ e.ver := by
  have hin : ∀ e, e ∈ H.filter p ↔ e ∈ H ∧ p e := fun e => by simp
  cases hmax : ((H.filter p).map (·.ver)).max? with
  | none =>
    obtain ⟨e, he, hp⟩ := h
    rw [List.max?_eq_none_iff, List.map_eq_nil_iff] at hmax
    exact absurd ((hin e).mpr ⟨he, hp⟩) (hmax ▸ List.not_mem_nil)
  | some v =>
    obtain ⟨hv, hle⟩ := List.max?_eq_some_iff.mp hmax
    obtain ⟨e, he, rfl⟩ := List.mem_map.mp hv
    exact ⟨e, ((hin e).mp he).1, ((hin e).mp he).2,
      fun e' he' hp' => hle _ (List.mem_map.mpr ⟨e', (hin e').mpr ⟨he', hp'⟩, rfl⟩)⟩

theorem idxInv_upsert (H : List SEv) (t : Int) (x : Idx) (L : Int) (hU : UniqueNames H) (hinv : IdxInv H t x L)
    (e : SEv) (he : e ∈ H) (ht : e.typ = t) (hL : L < e.ver) (grp : Int) (dis : Bool) :
    IdxInv H t (upsert .fixed x { id := e.id, name := e.name, ver := e.ver, grp := grp, dis := dis }) e.ver := by
  refine ⟨upsert_I1 _ _ _ hinv.i1, upsert_byId_cases _ _ _ rfl (fun id m _ hm => hinv.key id m hm),
    upsert_byId_cases _ _ _ (Int.le_refl _)
      (fun id m _ hm => Int.le_of_lt (Int.lt_of_le_of_lt (hinv.bound id m hm) hL)),
    upsert_byId_cases _ _ _ (fun _ => ht ▸ he) (fun id m _ hm => hinv.src id m hm),
    upsert_byId_cases _ _ _ (fun _ _ => by simp [upsert, put, get_set_same]) ?_⟩
  intro id m hid hm hpos hst
  have hmid := hinv.key id m hm
  have hold := hinv.reach id m hm hpos hst
  have hsrc := hinv.src id m hm hpos
  have hb : m.ver ≤ e.ver := Int.le_of_lt (Int.lt_of_le_of_lt (hinv.bound id m hm) hL)
  -- `m` keeps its name at the source up to `e.ver`, where `e` holds the new name: the names differ
  have hne : m.name ≠ e.name := by
    intro heq
    obtain ⟨es, hes, ⟨g1, g2, g3⟩, g4⟩ := exists_max_ver (fun x => x.typ = t ∧ x.id = m.id ∧ x.ver ≤ e.ver) H
      ⟨_, hsrc, rfl, rfl, hb⟩
    have hge : m.ver ≤ es.ver := g4 _ hsrc ⟨rfl, rfl, hb⟩
    have hname : es.name = m.name := hst es hes g1 g2 hge
    have l1 : Latest H es e.ver := ⟨hes, g3, fun e' he' a b c => g4 e' he' ⟨a.trans g1, b.trans g2, c⟩⟩
    have l2 : Latest H e e.ver := ⟨he, Int.le_refl _, fun e' _ _ _ c => c⟩
    have := hU e.ver es e l1 l2 (g1.trans ht.symm) (by rw [hname, heq])
    exact hid (by rw [← hmid, ← g2, this])
  simp only [upsert, put]
  rw [get_set_other _ _ _ _ hne]
  -- the rename step deletes under `old.name` only the entry of `old`'s own entity, and `m` belongs to another
  refine (renameOut_byName .fixed x e.id e.name m.name m).mpr ⟨hold, fun old ho _ hd heq => ?_⟩
  simp only [dropsOld, ← heq, hold] at hd
  exact hid (hmid.symm.trans ((beq_iff_eq.mp hd).trans (hinv.key _ old ho)))


/-- regrouping changes `grp` only, which the invariant does not read -/
theorem idxInv_regroup (H : List SEv) (t : Int) (x x' : Idx) (L : Int) (o : List Ent)
    (hid : ∀ id, aget x'.byId id = (aget x.byId id).map (regroup o))
    (hnm : ∀ n, aget x'.byName n = (aget x.byName n).map (regroup o))
    (hinv : IdxInv H t x L) : IdxInv H t x' L := by
  have pre : ∀ id m', aget x'.byId id = some m' → ∃ m, aget x.byId id = some m ∧ regroup o m = m' := by
    intro id m' h
    rw [hid] at h
    exact Option.map_eq_some_iff.mp h
  refine ⟨?_, ?_, ?_, ?_, ?_⟩
  · intro n m' h
    rw [hnm] at h
    obtain ⟨m, hm, rfl⟩ := Option.map_eq_some_iff.mp h
    obtain ⟨a, b⟩ := hinv.i1 n m hm
    exact ⟨a, (hid m.id).trans (congrArg (Option.map (regroup o)) b)⟩
  · intro id m' h
    obtain ⟨m, hm, rfl⟩ := pre id m' h
    exact hinv.key id m hm
  · intro id m' h
    obtain ⟨m, hm, rfl⟩ := pre id m' h
    exact hinv.bound id m hm
  · intro id m' h hpos
    obtain ⟨m, hm, rfl⟩ := pre id m' h
    exact hinv.src id m hm hpos
  · intro id m' h hpos hst
    obtain ⟨m, hm, rfl⟩ := pre id m' h
    exact (hnm m.name).trans (congrArg (Option.map (regroup o)) (hinv.reach id m hm hpos hst))

open SH.Gen.C20 in
structure StoreInv (H : List SEv) (st : Store) (L : Int) : Prop where
  m : IdxInv H metricEvent st.metrics L
  g : IdxInv H metricsGroupEvent st.groups L
  n : IdxInv H namespaceEvent st.nss L

theorem StoreInv.mono {H st L L'} (h : StoreInv H st L) (hl : L ≤ L') : StoreInv H st L' :=
  ⟨h.m.mono hl, h.g.mono hl, h.n.mono hl⟩

theorem applyOne_cases (v : Variant) (s : Store × Bool) (e : IEv) :
    applyOne v s e = s ∨
    (isMetric e = true ∧ applyOne v s e = (applyMetric v s.1 e, s.2)) ∨
    (isGroup e = true ∧ applyOne v s e = (applyGroup v s.1 e, s.2 || groupChanged s.1 e)) ∨
    (isNs e = true ∧ applyOne v s e = (applyNs v s.1 e, s.2)) := by
  unfold applyOne
  by_cases h0 : (!e.ok) = true
  · rw [if_pos h0]
    exact Or.inl rfl
  rw [if_neg h0]
  by_cases h1 : isMetric e = true
  · rw [if_pos h1]
    exact Or.inr (Or.inl ⟨h1, rfl⟩)
  rw [if_neg h1]
  by_cases h2 : isGroup e = true
  · rw [if_pos h2]
    exact Or.inr (Or.inr (Or.inl ⟨h2, rfl⟩))
  rw [if_neg h2]
  by_cases h3 : isNs e = true
  · rw [if_pos h3]
    exact Or.inr (Or.inr (Or.inr ⟨h3, rfl⟩))
  rw [if_neg h3]
  exact Or.inl rfl

theorem storeInv_applyOne (H : List SEv) (hU : UniqueNames H) (s : Store × Bool) (L : Int) (e : IEv)
    (he : srcOf e ∈ H) (hL : L < e.ver) (hs : StoreInv H s.1 L) :
    StoreInv H (applyOne .fixed s e).1 e.ver := by
  have hle : L ≤ e.ver := Int.le_of_lt hL
  have up := fun t x (hx : IdxInv H t x L) (ht : e.typ = t) => idxInv_upsert H t x L hU hx (srcOf e) he ht hL
  rcases applyOne_cases .fixed s e with h | ⟨ht, h⟩ | ⟨ht, h⟩ | ⟨ht, h⟩ <;> rw [h]
  · exact hs.mono hle
  · exact ⟨up _ _ hs.m (of_decide_eq_true ht) _ _, hs.g.mono hle, hs.n.mono hle⟩
  · exact ⟨hs.m.mono hle, up _ _ hs.g (of_decide_eq_true ht) _ _, hs.n.mono hle⟩
  · exact ⟨hs.m.mono hle, hs.g.mono hle, up _ _ hs.n (of_decide_eq_true ht) _ _⟩

theorem storeInv_rebuild (H : List SEv) (tie : List Int) (st : Store) (L : Int) (hs : StoreInv H st L) :
    StoreInv H (rebuild .fixed tie st) L := by
  refine ⟨?_, hs.g, hs.n⟩
  have hid : ∀ id, aget (rebuild .fixed tie st).metrics.byId id
      = (aget st.metrics.byId id).map (regroup (orderedOf tie st.groups)) := by
    intro id; simp only [rebuild]; exact get_map _ _ _
  refine idxInv_regroup H _ st.metrics _ L (orderedOf tie st.groups) hid ?_ hs.m
  intro n
  refine (get_map st.metrics.byName (fun m => (aget (rebuild .fixed tie st).metrics.byId m.id).getD
    (regroup (orderedOf tie st.groups) m)) n).trans ?_
  cases h : aget st.metrics.byName n with
  | none => rfl
  | some m =>
    obtain ⟨_, hb⟩ := hs.m.i1 n m h
    simp only [Option.map_some]
    rw [hid, hb]
    rfl

/-- a MetricsStorage object lives through a sequence of ApplyEvent calls; each call comes with the tie order observed -/
def applyTied (v : Variant) (st : Store) (bs : List (List Int × List IEv)) : Store :=
  bs.foldl (fun st b => applyBatch v b.1 st b.2) st

def allEvents (bs : List (List Int × List IEv)) : List IEv := (bs.map (·.2)).flatten

/-- `Q` holds between ApplyEvent calls, `P` inside the event loop (where it may depend on `changedGroups`); both may
    speak of the events still to come. A call ends without (`hkeep`) or with (`hreb`) the regrouping pass. -/
theorem applyTied_induction (v : Variant) (P : Store × Bool → List IEv → Prop) (Q : Store → List IEv → Prop)
    (hstart : ∀ st r, Q st r → P (st, false) r) (hone : ∀ s e r, P s (e :: r) → P (applyOne v s e) r)
    (hkeep : ∀ s r, P s r → s.2 = false → Q s.1 r) (hreb : ∀ tie s r, P s r → s.2 = true → Q (rebuild v tie s.1) r) :
    ∀ (bs : List (List Int × List IEv)) (st : Store), Q st (allEvents bs) → Q (applyTied v st bs) [] := by
  have loop : ∀ (evs : List IEv) (s : Store × Bool) (r : List IEv), P s (evs ++ r) → P (evs.foldl (applyOne v) s) r := by
    intro evs
    induction evs with
    | nil => intro s r h; exact h
    | cons e t ih => intro s r h; exact ih _ r (hone s e _ h)
  have hfin : ∀ tie s r, P s r → Q (finish v tie s) r := by
    intro tie s r h
    unfold finish
    split
    · rename_i hc
      exact hreb tie s r h hc
    · rename_i hc
      exact hkeep s r h (Bool.eq_false_iff.mpr hc)
  intro bs
  induction bs with
  | nil => intro st h; exact h
  | cons b r ih =>
    intro st h
    have hall : allEvents (b :: r) = b.2 ++ allEvents r := by simp [allEvents]
    rw [hall] at h
    exact ih _ (hfin b.1 _ _ (loop b.2 _ _ (hstart st _ h)))

/-- the storage invariant at some version below all events still to come, which are source events in ascending order -/
def StoreInvEv (H : List SEv) (st : Store) (r : List IEv) : Prop :=
  ∃ L, StoreInv H st L ∧ (∀ e ∈ r, srcOf e ∈ H ∧ L < e.ver) ∧ r.Pairwise (fun a b => a.ver < b.ver)

theorem storeInv_applyTied (H : List SEv) (hU : UniqueNames H) (bs : List (List Int × List IEv)) (st : Store)
    (h : StoreInvEv H st (allEvents bs)) : ∃ L', StoreInv H (applyTied .fixed st bs) L' := by
  have hone : ∀ (s : Store × Bool) e r, StoreInvEv H s.1 (e :: r) → StoreInvEv H (applyOne .fixed s e).1 r := by
    rintro s e r ⟨L, hs, hall, hp⟩
    obtain ⟨hpe, hpr⟩ := List.pairwise_cons.mp hp
    obtain ⟨he, hL⟩ := hall e (by simp)
    exact ⟨e.ver, storeInv_applyOne H hU s L e he hL hs,
      fun x hx => ⟨(hall x (List.mem_cons_of_mem _ hx)).1, hpe x hx⟩, hpr⟩
  have hreb : ∀ tie (s : Store × Bool) r, StoreInvEv H s.1 r → s.2 = true → StoreInvEv H (rebuild .fixed tie s.1) r := by
    rintro tie s r ⟨L, hs, hr⟩ _
    exact ⟨L, storeInv_rebuild H tie _ L hs, hr⟩
  obtain ⟨L', hs', _⟩ := applyTied_induction .fixed (fun s r => StoreInvEv H s.1 r) (StoreInvEv H) (fun _ _ h => h) hone
    (fun _ _ h _ => h) hreb bs st h
  exact ⟨L', hs'⟩

theorem idxInv_of_list (H : List SEv) (t : Int) (gs : List Ent) (hid : KeysNodup (gs.map (fun g => (g.id, g))))
    (hver : ∀ g ∈ gs, g.ver = 0) :
    IdxInv H t { byId := gs.map (fun g => (g.id, g)), byName := gs.map (fun g => (g.name, g)) } 0 := by
  have hb : ∀ id m, aget (gs.map (fun g => (g.id, g))) id = some m → m ∈ gs ∧ m.id = id := by
    intro id m h
    obtain ⟨g, hg, e⟩ := List.mem_map.mp (aget_mem _ _ _ h)
    injection e with e1 e2
    subst e2
    exact ⟨hg, e1⟩
  have h0 := fun id m h => hver m (hb id m h).1
  refine ⟨?_, fun id m h => (hb id m h).2, fun id m h => Int.le_of_eq (h0 id m h), ?_, ?_⟩
  · intro n m h
    obtain ⟨g, hg, e⟩ := List.mem_map.mp (aget_mem _ _ _ h)
    injection e with e1 e2
    subst e2
    exact ⟨e1, aget_of_mem _ _ _ hid (List.mem_map.mpr ⟨g, hg, rfl⟩)⟩
  · intro id m h hp
    rw [h0 id m h] at hp
    omega
  · intro id m h hp
    rw [h0 id m h] at hp
    omega

theorem init_groups_keys : KeysNodup MetaIndex.init.groups.byId := by
  show (MetaIndex.init.groups.byId.map (·.1)).Nodup
  decide

theorem storeInv_init (H : List SEv) : StoreInv H MetaIndex.init 0 := by
  have hv : ∀ {α} (l : List α) (f : α → Ent), (∀ a, (f a).ver = 0) → ∀ g ∈ l.map f, g.ver = 0 := by
    intro α l f hf g hg
    obtain ⟨a, _, rfl⟩ := List.mem_map.mp hg
    exact hf a
  refine ⟨idxInv_of_list H _ [] List.nodup_nil (by simp), idxInv_of_list H _ _ init_groups_keys (hv _ _ (fun _ => rfl)),
    idxInv_of_list H _ _ ?_ (hv _ _ (fun _ => rfl))⟩
  show (MetaIndex.init.nss.byId.map (·.1)).Nodup
  decide

theorem lexLt_iff : ∀ a b : Name, lexLt a b = true ↔ a < b
  | [], [] => by simp [lexLt]
  | [], _ :: _ => by simp [lexLt]
  | _ :: _, [] => by simp [lexLt]
  | x :: as, y :: bs => by
    rw [List.cons_lt_cons_iff, ← lexLt_iff as bs]
    simp only [lexLt]
    by_cases h1 : x < y
    · simp [h1]
    · by_cases h2 : x = y <;> simp [h1, h2]

/-- `a ≤ b` in the bytewise order -/
def lexLe (a b : Name) : Bool := !lexLt b a

theorem lexLe_iff (a b : Name) : lexLe a b = true ↔ a ≤ b := by
  rw [lexLe, Bool.not_eq_true', ← Bool.not_eq_true, lexLt_iff, List.not_lt]

/-- name-descending: no element is followed by a lexicographically greater name -/
def Desc (l : List Ent) : Prop := l.Pairwise (fun a b => lexLe b.name a.name = true)

theorem before_le (tie : List Int) (g h : Ent) (hb : before tie g h = true) : h.name ≤ g.name := by
  unfold before at hb
  split at hb
  · rename_i he
    rw [he]
    exact List.le_refl _
  · exact List.le_of_lt ((lexLt_iff _ _).mp hb)

theorem not_before_le (tie : List Int) (g h : Ent) (hb : before tie g h = false) : g.name ≤ h.name := by
  unfold before at hb
  split at hb
  · rename_i he
    rw [he]
    exact List.le_refl _
  · rw [← List.not_lt, ← lexLt_iff, hb]
    simp

theorem sortGroups_spec (tie : List Int) (gs : List Ent) : (sortGroups tie gs).Perm gs ∧ Desc (sortGroups tie gs) :=
  SH.Lists.foldr_ins_spec (fun g h => before tie g h = true) (insertSorted tie) (fun _ => rfl) (fun _ _ _ => rfl)
    (fun a b => lexLe b.name a.name = true) (fun _ => True)
    (fun a b c _ _ _ hab hbc => (lexLe_iff _ _).mpr (List.le_trans ((lexLe_iff _ _).mp hbc) ((lexLe_iff _ _).mp hab)))
    (fun x y _ _ h => (lexLe_iff _ _).mpr (before_le tie x y h))
    (fun x y _ _ h => (lexLe_iff _ _).mpr (not_before_le tie x y (by simpa using h)))
    gs (fun _ _ => trivial)

def Grouped (st : Store) : Prop := ∀ id m, aget st.metrics.byId id = some m → m.grp = calcGroup st.ordered m.name

theorem rebuild_keeps_groups (v : Variant) (tie : List Int) (st : Store) : (rebuild v tie st).groups = st.groups := by
  cases v <;> rfl

/-- the key invariant of groupsByID: keys are the ids, no key twice -/
def GK (st : Store) : Prop := KeysNodup st.groups.byId ∧ ∀ id g, aget st.groups.byId id = some g → g.id = id

/-- groupsOrdered = the enabled user groups (as (id, name) pairs; the stored copies may be older versions) -/
def GOrd (st : Store) : Prop :=
  (∀ g ∈ st.ordered, userEnabled g = true ∧
      ∃ g', aget st.groups.byId g.id = some g' ∧ g'.name = g.name ∧ userEnabled g' = true) ∧
  (∀ id g', aget st.groups.byId id = some g' → userEnabled g' = true → ∃ g ∈ st.ordered, g.id = id ∧ g.name = g'.name)

theorem groupChanged_false (st : Store) (e : IEv) (h : groupChanged st e = false) :
    ∃ old, aget st.groups.byId e.id = some old ∧ old.name = e.name ∧ old.dis = e.dis := by
  unfold groupChanged at h
  split at h
  · rename_i old ho
    simp at h
    exact ⟨old, ho, h.1, h.2⟩
  · simp at h

/-- what the event loop of ApplyEvent maintains about groups; `GOrd` only while `changedGroups` is still false.
    Between calls it is read at `(st, false)`. -/
structure GroupsOK (s : Store × Bool) : Prop where
  desc : Desc s.1.ordered
  grouped : Grouped s.1
  gk : GK s.1
  gord : s.2 = false → GOrd s.1

theorem groupsOK_applyOne (v : Variant) (s : Store × Bool) (e : IEv) (h : GroupsOK s) : GroupsOK (applyOne v s e) := by
  rcases applyOne_cases v s e with h' | ⟨_, h'⟩ | ⟨_, h'⟩ | ⟨_, h'⟩ <;> rw [h']
  · exact h
  · refine ⟨h.desc, upsert_byId_cases _ _ _ ?_ (fun id m _ hm => h.grouped id m hm), h.gk, h.gord⟩
    -- the incoming metric keeps its group only together with its name
    simp only [applyMetric, metricGroup]
    split
    · rename_i old ho
      split
      · rename_i hn
        rw [h.grouped _ old ho, hn]
      · rfl
    · rfl
  · refine ⟨h.desc, h.grouped, ⟨?_, upsert_byId_cases _ _ _ rfl (fun id g _ hg => h.gk.2 id g hg)⟩, ?_⟩
    · simp only [applyGroup, upsert_byId]
      exact aset_nodup _ _ _ h.gk.1
    intro h2
    simp only [Bool.or_eq_false_iff] at h2
    obtain ⟨old, ho, hn, hd⟩ := groupChanged_false s.1 e h2.2
    have hg := h.gord h2.1
    have hoid := h.gk.2 e.id old ho
    have hen : userEnabled ({ id := e.id, name := e.name, ver := e.ver, dis := e.dis } : Ent) = userEnabled old := by
      simp [userEnabled, hoid, hd]
    simp only [GOrd, applyGroup]
    rw [upsert_byId]
    refine ⟨?_, ?_⟩
    · intro g hgm
      obtain ⟨a, g', b1, b2, b3⟩ := hg.1 g hgm
      refine ⟨a, ?_⟩
      by_cases hid : g.id = e.id
      · rw [hid, get_set_same]
        rw [hid, ho] at b1
        injection b1 with b1
        subst b1
        exact ⟨_, rfl, hn.symm.trans b2, hen.trans b3⟩
      · rw [get_set_other _ _ _ _ hid]
        exact ⟨g', b1, b2, b3⟩
    · intro id g' hg' hen'
      rcases get_set_some _ _ _ _ _ hg' with ⟨rfl, rfl⟩ | ⟨_, hg'⟩
      · obtain ⟨g, c1, c2, c3⟩ := hg.2 e.id old ho (hen.symm.trans hen')
        exact ⟨g, c1, c2, c3.trans hn⟩
      · exact hg.2 id g' hg' hen'
  · exact ⟨h.desc, h.grouped, h.gk, h.gord⟩

/-- the regrouping pass re-establishes everything from the key invariant of groupsByID alone -/
theorem groupsOK_rebuild (v : Variant) (tie : List Int) (st : Store) (hk : GK st) :
    GroupsOK (rebuild v tie st, false) := by
  obtain ⟨hperm, hdesc⟩ := sortGroups_spec tie ((st.groups.byId.map (·.2)).filter userEnabled)
  have hmem : ∀ g, g ∈ (rebuild v tie st).ordered ↔ (g ∈ st.groups.byId.map (·.2) ∧ userEnabled g = true) :=
    fun g => hperm.mem_iff.trans List.mem_filter
  refine ⟨hdesc, ?_, ?_, fun _ => ?_⟩
  · intro id m h
    have e : (rebuild v tie st).metrics.byId = st.metrics.byId.map (fun p => (p.1, regroup (orderedOf tie st.groups) p.2)) := by
      cases v <;> rfl
    rw [e] at h
    have := (get_map st.metrics.byId (regroup (orderedOf tie st.groups)) id).symm ▸ h
    obtain ⟨m0, _, rfl⟩ := Option.map_eq_some_iff.mp this
    cases v <;> rfl
  · simp only [GK, rebuild_keeps_groups]
    exact hk
  · simp only [GOrd, rebuild_keeps_groups]
    refine ⟨?_, ?_⟩
    · intro g hg
      obtain ⟨h1, h2⟩ := (hmem g).mp hg
      obtain ⟨p, hp, rfl⟩ := List.mem_map.mp h1
      have := aget_of_mem _ p.1 p.2 hk.1 hp
      have hid := hk.2 p.1 p.2 this
      exact ⟨h2, p.2, hid.symm ▸ this, rfl, h2⟩
    · intro id g' hg' hen
      have hm := aget_mem _ _ _ hg'
      exact ⟨g', (hmem g').mpr ⟨List.mem_map.mpr ⟨(id, g'), hm, rfl⟩, hen⟩, hk.2 id g' hg', rfl⟩

theorem groupsOK_applyTied (v : Variant) (bs : List (List Int × List IEv)) (st : Store) (h : GroupsOK (st, false)) :
    GroupsOK (applyTied v st bs, false) :=
  applyTied_induction v (fun s _ => GroupsOK s) (fun st _ => GroupsOK (st, false)) (fun _ _ h => h)
    (fun s e _ h => groupsOK_applyOne v s e h) (fun _ _ h hc => ⟨h.desc, h.grouped, h.gk, fun _ => h.gord hc⟩)
    (fun tie s _ h _ => groupsOK_rebuild v tie s.1 h.gk) bs st h

theorem groupsOK_init : GroupsOK (MetaIndex.init, false) := by
  refine ⟨by simp [MetaIndex.init, Desc], by intro id m h; simp [MetaIndex.init, aget] at h,
    ⟨init_groups_keys, (storeInv_init []).g.key⟩, fun _ => ⟨?_, ?_⟩⟩   -- `IdxInv.key` does not read the history: any `H` will do
  · intro g hg
    simp [MetaIndex.init] at hg
  · -- no built-in group is a user group
    intro id g' hg' hen
    have hall : ∀ p ∈ MetaIndex.init.groups.byId, userEnabled p.2 = false := by decide
    rw [hall _ (aget_mem _ _ _ hg')] at hen
    cases hen

end SH.C20
