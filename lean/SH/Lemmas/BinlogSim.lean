/-
  SH.Lemmas.BinlogSim — the writer's output as a layout of chunks (`layoutC`) and the simulation theorem: reading the layout
  from a state that matches the writer delivers exactly the appended events and arrives, in the last chunk, at a state that
  matches the writer after all appends (with an arbitrary continuation `K` = what follows in the last chunk / later chunks).
  Defines the vocabulary of the statements: `Ap`, `apNext`, `apMid`, `rotates`, `runAll`, `offsR`, the bytes of one append
  `apA`/`apRT`/`apRF`, and `finish` (the result of one file carried through the later ones); `apNext_buff_rotPos` ties the bytes
  of one append to `buffEx.buff`.
-/
import SH.Lemmas.BinlogRot
open SH.Binlog
namespace SH.C18

/-- one `Append`/`AppendASAP` with the inputs of the model (clock and md5 values) -/
structure Ap where
  body : Bytes
  asap : Bool
  ts : Nat
  h1 : Nat
  h2 : Nat

def Ap.ev (a : Ap) : Ev := ⟨a.body, a.asap, a.ts⟩

/-- one accepted `Append`: what `putLev` makes of the state when it answers `ok` (`putBody` on the framed event) -/
def apNext (cfg : Cfg) (w : WS) (a : Ap) : WS := putBody cfg w (encEvent cfg.evMagic a.body) a.asap a.ts a.h1 a.h2

/-- state after the event and the crc record, before the rotate block -/
def apMid (cfg : Cfg) (w : WS) (a : Ap) : WS := putCrc cfg w (encEvent cfg.evMagic a.body) a.ts

def rotates (cfg : Cfg) (w : WS) (a : Ap) : Bool := needRotate cfg (apMid cfg w a)

def runAll (cfg : Cfg) (w : WS) : List Ap → WS
  | [] => w
  | a :: as => runAll cfg (apNext cfg w a) as

/-- (offset the writer assigned = what the previous Append returned, framed event) -/
def offsR (cfg : Cfg) (w : WS) : List Ap → List (Int × Bytes)
  | [] => []
  | a :: as => ((w.offG : Int), encEvent cfg.evMagic a.body) :: offsR cfg (apNext cfg w a) as

/-- bytes of the event and of the crc record (if due) -/
def apA (cfg : Cfg) (w : WS) (a : Ap) : Bytes := padded (encEvent cfg.evMagic a.body) ++ crcPart cfg w a.ev

def apCur (cfg : Cfg) (w : WS) (a : Ap) : Nat := if (apMid cfg w a).firstFile then a.h1 else (apMid cfg w a).curHash

def apRT (cfg : Cfg) (w : WS) (a : Ap) : Bytes :=
  encRotTo a.ts ((apMid cfg w a).offG + 36) (apMid cfg w a).crc (apCur cfg w a) a.h2

def apRF (cfg : Cfg) (w : WS) (a : Ap) : Bytes :=
  encRotFrom a.ts ((apMid cfg w a).offG + 36) (cfg.upd (apMid cfg w a).crc (apRT cfg w a)) (apCur cfg w a) a.h2

/-- layout of what the appends write: (rest of the current chunk, later chunks); `K` = continuation of the last chunk and
    the chunks after it -/
def layoutC (cfg : Cfg) : WS → List Ap → Bytes × List Bytes → Bytes × List Bytes
  | _, [], K => K
  | w, a :: as, K =>
    if rotates cfg w a then
      (apA cfg w a ++ apRT cfg w a, (apRF cfg w a ++ (layoutC cfg (apNext cfg w a) as K).1) :: (layoutC cfg (apNext cfg w a) as K).2)
    else (apA cfg w a ++ (layoutC cfg (apNext cfg w a) as K).1, (layoutC cfg (apNext cfg w a) as K).2)

@[simp] theorem padded_rotTo (ts np : Nat) (c : UInt32) (a b : Nat) : padded (encRotTo ts np c a b) = encRotTo ts np c a b :=
  padded_of_mod (by simp)
@[simp] theorem padded_rotFrom (ts np : Nat) (c : UInt32) (a b : Nat) : padded (encRotFrom ts np c a b) = encRotFrom ts np c a b :=
  padded_of_mod (by simp)

/-- the position the crc record stores is left existential: no reader lemma looks at it -/
theorem apMid_cases (cfg : Cfg) (w : WS) (a : Ap) :
    (apMid cfg w a).offG = w.offG + (apA cfg w a).length ∧ (apMid cfg w a).buff = w.buff ++ apA cfg w a ∧
    ((apA cfg w a = padded (encEvent cfg.evMagic a.body) ∧
        (apMid cfg w a).crc = cfg.upd w.crc (padded (encEvent cfg.evMagic a.body))) ∨
     ∃ q, apA cfg w a = padded (encEvent cfg.evMagic a.body) ++ encCrc a.ts q (cfg.upd w.crc (padded (encEvent cfg.evMagic a.body))) ∧
        (apMid cfg w a).crc = cfg.upd (cfg.upd w.crc (padded (encEvent cfg.evMagic a.body)))
          (encCrc a.ts q (cfg.upd w.crc (padded (encEvent cfg.evMagic a.body))))) := by
  by_cases hc : needCrc cfg (appendLev cfg w (encEvent cfg.evMagic a.body)) = true
  · have hA : apA cfg w a = padded (encEvent cfg.evMagic a.body) ++
        encCrc a.ts (appendLev cfg w (encEvent cfg.evMagic a.body)).offG (cfg.upd w.crc (padded (encEvent cfg.evMagic a.body))) :=
      congrArg _ (if_pos hc)
    have hM : apMid cfg w a = addCrc cfg (appendLev cfg w (encEvent cfg.evMagic a.body)) a.ts := if_pos hc
    have hp : ∀ q c, padded (encCrc a.ts q c) = encCrc a.ts q c := fun q c => padded_of_mod (by rw [encCrc_length])
    rw [hA, hM]
    simp only [addCrc, appendLev, hp, List.length_append, List.append_assoc, Nat.add_assoc, true_and]
    exact .inr ⟨_, rfl, rfl⟩
  · have hA : apA cfg w a = padded (encEvent cfg.evMagic a.body) := (congrArg _ (if_neg hc)).trans (List.append_nil _)
    have hM : apMid cfg w a = appendLev cfg w (encEvent cfg.evMagic a.body) := if_neg hc
    rw [hA, hM]
    exact ⟨rfl, rfl, .inl ⟨rfl, rfl⟩⟩

theorem apMid_rotPos (cfg : Cfg) (w : WS) (a : Ap) : (apMid cfg w a).rotPos = w.rotPos := by
  simp only [apMid, putCrc]; split <;> rfl

theorem apNext_noRot {cfg : Cfg} {w : WS} {a : Ap} (hr : rotates cfg w a = false) :
    (apNext cfg w a).offG = (apMid cfg w a).offG ∧ (apNext cfg w a).crc = (apMid cfg w a).crc ∧
    (apNext cfg w a).buff = (apMid cfg w a).buff ∧ (apNext cfg w a).rotPos = (apMid cfg w a).rotPos := by
  have hr' : needRotate cfg (putCrc cfg w (encEvent cfg.evMagic a.body) a.ts) = false := hr
  simp only [apNext, putBody, hr', Bool.false_eq_true, if_false, apMid]
  split <;> exact ⟨rfl, rfl, rfl, rfl⟩

theorem apNext_rot {cfg : Cfg} {w : WS} {a : Ap} (hr : rotates cfg w a = true) :
    (apNext cfg w a).offG = (apMid cfg w a).offG + 72 ∧
    (apNext cfg w a).crc = cfg.upd (cfg.upd (apMid cfg w a).crc (apRT cfg w a)) (apRF cfg w a) ∧
    (apNext cfg w a).buff = (apMid cfg w a).buff ++ (apRT cfg w a ++ apRF cfg w a) ∧
    (apNext cfg w a).rotPos = (apMid cfg w a).rotPos ++ [((apMid cfg w a).buff ++ apRT cfg w a).length] := by
  have hr' : needRotate cfg (putCrc cfg w (encEvent cfg.evMagic a.body) a.ts) = true := hr
  have e : (addRotate cfg (putCrc cfg w (encEvent cfg.evMagic a.body) a.ts) a.ts a.h1 a.h2).offG = (apMid cfg w a).offG + 72 ∧
      (addRotate cfg (putCrc cfg w (encEvent cfg.evMagic a.body) a.ts) a.ts a.h1 a.h2).crc
        = cfg.upd (cfg.upd (apMid cfg w a).crc (apRT cfg w a)) (apRF cfg w a) ∧
      (addRotate cfg (putCrc cfg w (encEvent cfg.evMagic a.body) a.ts) a.ts a.h1 a.h2).buff
        = (apMid cfg w a).buff ++ (apRT cfg w a ++ apRF cfg w a) ∧
      (addRotate cfg (putCrc cfg w (encEvent cfg.evMagic a.body) a.ts) a.ts a.h1 a.h2).rotPos
        = (apMid cfg w a).rotPos ++ [((apMid cfg w a).buff ++ apRT cfg w a).length] := by
    simp only [addRotate, appendLev, levRotateSize, apRT, apRF, apCur, apMid, padded_rotTo, padded_rotFrom, encRotTo_length,
      encRotFrom_length, List.append_assoc, Nat.add_assoc]
    exact ⟨trivial, rfl, rfl, rfl⟩
  simp only [apNext, putBody, hr', if_true]
  split <;> exact e

/-- what one append adds to `buffEx.buff` and `rotatePos`: the statement of `apNext_buff` (Props/C18), for the lemma files -/
theorem apNext_buff_rotPos (cfg : Cfg) (w : WS) (a : Ap) :
    (apNext cfg w a).buff = w.buff ++ apA cfg w a ++ (if rotates cfg w a then apRT cfg w a ++ apRF cfg w a else []) ∧
    (apNext cfg w a).rotPos = w.rotPos ++ (if rotates cfg w a then [(w.buff ++ apA cfg w a ++ apRT cfg w a).length] else []) := by
  rw [← (apMid_cases cfg w a).2.1, ← apMid_rotPos cfg w a]
  cases hr : rotates cfg w a
  · exact ⟨(apNext_noRot hr).2.2.1.trans (List.append_nil _).symm, (apNext_noRot hr).2.2.2.trans (List.append_nil _).symm⟩
  · exact ⟨(apNext_rot hr).2.2.1, (apNext_rot hr).2.2.2⟩

theorem apA_pad_le (cfg : Cfg) (w : WS) (a : Ap) : pad4 (8 + a.body.length) ≤ (apA cfg w a).length := by
  rw [apA, List.length_append, padded_length, encEvent_length]
  exact Nat.le_add_right _ _

theorem apA_length (cfg : Cfg) (w : WS) (a : Ap) : 8 ≤ (apA cfg w a).length :=
  Nat.le_trans (Nat.le_trans (Nat.le_add_right 8 _) (pad4_ge _)) (apA_pad_le cfg w a)

theorem apNext_offG_lt (cfg : Cfg) (w : WS) (a : Ap) : w.offG < (apNext cfg w a).offG := by
  have := (apMid_cases cfg w a).1
  have := apA_length cfg w a
  cases hr : rotates cfg w a
  · rw [(apNext_noRot hr).1]; omega
  · rw [(apNext_rot hr).1]; omega

theorem runAll_mono (cfg : Cfg) : ∀ (as : List Ap) (w : WS), w.offG ≤ (runAll cfg w as).offG
  | [], _ => Nat.le_refl _
  | a :: as, w => Nat.le_trans (Nat.le_of_lt (apNext_offG_lt cfg w a)) (runAll_mono cfg as (apNext cfg w a))

theorem rot_pos {cfg : Cfg} {w : WS} {a : Ap} (hr : rotates cfg w a = true) (as : List Ap) :
    w.offG < (apMid cfg w a).offG + 36 ∧ (apMid cfg w a).offG + 36 < (apNext cfg w a).offG ∧
    (apMid cfg w a).offG + 36 < (runAll cfg w (a :: as)).offG := by
  have := (apMid_cases cfg w a).1
  have := (apNext_rot hr).1
  have := runAll_mono cfg as (apNext cfg w a)
  rw [runAll]
  omega

theorem hdrOf_apRF (cfg : Cfg) (w : WS) (a : Ap) (R : Bytes) (h : (apMid cfg w a).offG + 36 < 9223372036854775808) :
    (hdrOf (apRF cfg w a ++ R)).pos = (((apMid cfg w a).offG + 36 : Nat) : Int) ∧
    (hdrOf (apRF cfg w a ++ R)).crc = cfg.upd (apMid cfg w a).crc (apRT cfg w a) :=
  hdrOf_rotFrom _ _ _ _ _ R h

theorem layoutC_rot {cfg : Cfg} {w : WS} {a : Ap} (h : rotates cfg w a = true) (as : List Ap) (K : Bytes × List Bytes) :
    layoutC cfg w (a :: as) K =
      (apA cfg w a ++ apRT cfg w a, (apRF cfg w a ++ (layoutC cfg (apNext cfg w a) as K).1) :: (layoutC cfg (apNext cfg w a) as K).2) := by
  rw [layoutC, if_pos h]

theorem layoutC_noRot {cfg : Cfg} {w : WS} {a : Ap} (h : rotates cfg w a = false) (as : List Ap) (K : Bytes × List Bytes) :
    layoutC cfg w (a :: as) K = (apA cfg w a ++ (layoutC cfg (apNext cfg w a) as K).1, (layoutC cfg (apNext cfg w a) as K).2) := by
  rw [layoutC, if_neg (by rw [h]; exact Bool.false_ne_true)]

theorem runAll_append (cfg : Cfg) : ∀ (pre post : List Ap) (w : WS), runAll cfg w (pre ++ post) = runAll cfg (runAll cfg w pre) post
  | [], _, _ => rfl
  | a :: as, post, w => by simp only [List.cons_append, runAll]; exact runAll_append cfg as post _

theorem offsR_cons_reverse (cfg : Cfg) (w : WS) (a : Ap) (as : List Ap) (evs : List (Int × Bytes)) :
    (offsR cfg w (a :: as)).reverse ++ evs
      = (offsR cfg (apNext cfg w a) as).reverse ++ (((w.offG : Int), encEvent cfg.evMagic a.body) :: evs) := by
  rw [offsR, List.reverse_cons, List.append_assoc, List.singleton_append]

/-- two counts of the `k` iterations: `k ≤ 2` for the budget of `replay_all` (two per event), `8 * k ≤ length` for the budget
    by bytes of everything else -/
theorem read_A (cfg : Cfg) (hm : cfg.evMagic < 4294967296) (hsvc : cfg.evMagic ∉ serviceMagics) (w : WS) (a : Ap)
    (hb : a.body.length < 4294967296) (s : RS) (R : Bytes) (h : At s w.offG w.crc (apA cfg w a ++ R)) :
    ∃ k s', k ≤ 2 ∧ 8 * k ≤ (apA cfg w a).length ∧ (∀ f, readLoop cfg (f + k) s = readLoop cfg f s') ∧
      At s' (apMid cfg w a).offG (apMid cfg w a).crc R ∧
      s'.eng.evs = ((w.offG : Int), encEvent cfg.evMagic a.body) :: s.eng.evs := by
  obtain ⟨fo, -, ⟨hA, fc⟩ | ⟨q, hA, fc⟩⟩ := apMid_cases cfg w a
  · rw [hA] at h
    obtain ⟨s1, st1, at1, ev1⟩ := step_event cfg hm hsvc s w.offG w.crc a.body R hb h
    rw [fo, fc, hA, padded_length, encEvent_length]
    exact ⟨1, s1, Nat.le_succ _, by have := pad4_ge (8 + a.body.length); omega, fun f => readLoop_cont _ st1, at1, ev1⟩
  · rw [hA, List.append_assoc] at h
    obtain ⟨s1, st1, at1, ev1⟩ := step_event cfg hm hsvc s w.offG w.crc a.body _ hb h
    obtain ⟨s2, st2, at2, ev2⟩ := step_crc cfg s1 _ _ a.ts q R at1
    rw [fo, fc, hA, List.length_append, padded_length, encEvent_length, encCrc_length, ← Nat.add_assoc]
    exact ⟨2, s2, Nat.le_refl _, by have := pad4_ge (8 + a.body.length); omega,
      fun f => by rw [show f + 2 = (f + 1) + 1 from rfl, readLoop_cont _ st1, readLoop_cont _ st2], at2, by rw [ev2, ev1]⟩

/-- what `readAllFromPosition` does with the result of the current file: stop on error, else go on with the later files -/
def finish (cfg : Cfg) (r : FR) (later : List Hdr) : Int × UInt32 × Option Err × Eng × Nat :=
  match r.err with
  | some e => (r.s.pos, r.s.crc, some e, r.s.eng, r.s.ts)
  | none => readFiles cfg later false 0 none r.s.ts r.s.eng r.s.pos r.s.crc

theorem finish_last (cfg : Cfg) (r : FR) : finish cfg r [] = (r.s.pos, r.s.crc, r.err, r.s.eng, r.s.ts) := by
  unfold finish
  cases h : r.err <;> rfl

theorem readFiles_first (cfg : Cfg) (h : Hdr) (hs : List Hdr) (fromPos : Int) (si : Option Meta) (ts : Nat) (eng : Eng) (p : Int) (c : UInt32) :
    readFiles cfg (h :: hs) true fromPos si ts eng p c = finish cfg (readFile cfg h fromPos si ts eng) hs := by
  unfold finish
  rw [readFiles]
  rfl

theorem readFile_start (cfg : Cfg) (h : Hdr) (hp : 0 ≤ h.pos) (ts : Nat) (eng : Eng) :
    readFile cfg h 0 none ts eng = readLoop cfg (h.data.length / 2 + 4)
      { pos := h.pos, crc := h.crc, rest := h.data, slack := h.data.length % 4, dk := false, ts := ts, commitPos := 0, eng := eng } := by
  simp [readFile, seek, Int.not_lt.mpr hp]

theorem finish_rotated (cfg : Cfg) (s : RS) (h : Hdr) (hs : List Hdr) :
    finish cfg { s := s, rotated := true, err := none } (h :: hs) = finish cfg (readFile cfg h 0 none s.ts s.eng) hs := by
  unfold finish
  rw [readFiles]
  rfl

/-- crossing a file boundary.  The reader does not sum the ROTATE_TO it stops at; the writer does, and stores the result in
    ROTATE_FROM (`apRF`): the next file's header `H` re-seeds the reader's checksum. -/
theorem read_rot (cfg : Cfg) (s : RS) (p : Nat) (c : UInt32) (ts np : Nat) (c' : UInt32) (a b : Nat)
    (H : Hdr) (ts2 np2 : Nat) (c2 : UInt32) (a2 b2 : Nat) (R : Bytes) (later : List Hdr) (f : Nat)
    (h : At s p c (encRotTo ts np c' a b)) (hpos : H.pos = ((p + 36 : Nat) : Int))
    (hdata : H.data = encRotFrom ts2 np2 c2 a2 b2 ++ R) :
    ∃ s', At s' (p + 72) (cfg.upd H.crc (encRotFrom ts2 np2 c2 a2 b2)) R ∧ s'.eng.evs = s.eng.evs ∧
      finish cfg (readLoop cfg (f + 1) s) (H :: later) = finish cfg (readLoop cfg ((36 + R.length) / 2 + 3) s') later := by
  obtain ⟨s2, st2, off2, ev2⟩ := step_rotTo cfg s p c ts np c' a b h
  have at3 : At { pos := H.pos, crc := H.crc, rest := H.data, slack := H.data.length % 4, dk := false, ts := s2.commit.ts,
                  commitPos := 0, eng := s2.commit.eng } (p + 36) H.crc (encRotFrom ts2 np2 c2 a2 b2 ++ R) :=
    ⟨hpos, rfl, hdata, by rw [commit_off]; exact off2, rfl, by rw [hdata]⟩
  obtain ⟨s4, st4, at4, ev4⟩ := step_rotFrom cfg _ _ _ _ _ _ _ _ _ at3
  have hfuel : H.data.length / 2 + 4 = ((36 + R.length) / 2 + 3) + 1 := by
    rw [hdata, List.length_append, encRotFrom_length]
  refine ⟨s4, at4, by rw [ev4, commit_evs, ev2], ?_⟩
  rw [readLoop_rotated _ st2, finish_rotated, readFile_start cfg _ (by rw [hpos]; exact Int.natCast_nonneg _), hfuel,
    readLoop_cont _ st4]

/-- loop budget: `k` iterations that consumed at least `8 * k` of the first `A` bytes leave enough for the `L` bytes behind them -/
theorem fuel_split {A L k fuel : Nat} (hk : 8 * k ≤ A) (hf : (A + L) / 4 + 2 ≤ fuel) : ∃ f, fuel = f + k ∧ L / 4 + 2 ≤ f :=
  ⟨fuel - k, by omega, by omega⟩

/-- the budget `readFile` gives the next file (36 bytes of ROTATE_FROM in front of `L` bytes), less the step over the header -/
theorem fuel_next (L : Nat) : L / 4 + 2 ≤ (36 + L) / 2 + 3 := by omega

/-- **simulation.**  Reading from `s` (`readLoop` on the current file, `readFiles` on the later ones) is the same as reading from
    a state `s'` that matches the writer AFTER the appends, placed at the continuation `K.1` of the last chunk with the files
    `K.2` still to come; on the way exactly the events of `as` were delivered, in order, at the offsets the writer assigned. -/
theorem sim (cfg : Cfg) (hm : cfg.evMagic < 4294967296) (hsvc : cfg.evMagic ∉ serviceMagics) :
    ∀ (as : List Ap) (w : WS) (K : Bytes × List Bytes) (s : RS) (fuel : Nat),
      (∀ a ∈ as, a.body.length < 4294967296) →
      (runAll cfg w as).offG < 9223372036854775808 →
      At s w.offG w.crc (layoutC cfg w as K).1 →
      (layoutC cfg w as K).1.length / 4 + 2 ≤ fuel →
      ∃ s' fuel', At s' (runAll cfg w as).offG (runAll cfg w as).crc K.1 ∧ K.1.length / 4 + 2 ≤ fuel' ∧
        s'.eng.evs = (offsR cfg w as).reverse ++ s.eng.evs ∧
        finish cfg (readLoop cfg fuel s) ((layoutC cfg w as K).2.map hdrOf) = finish cfg (readLoop cfg fuel' s') (K.2.map hdrOf) := by
  intro as
  induction as with
  | nil => exact fun w K s fuel _ _ h hf => ⟨s, fuel, h, hf, rfl, rfl⟩
  | cons a as ih =>
    intro w K s fuel hsz hbound h hf
    have hb := hsz a (List.mem_cons_self ..)
    have hsz' : ∀ a' ∈ as, a'.body.length < 4294967296 := fun a' h' => hsz a' (List.mem_cons_of_mem _ h')
    rw [offsR_cons_reverse]
    cases hr : rotates cfg w a with
    | true =>
      simp only [layoutC_rot hr] at h hf ⊢
      obtain ⟨k, s1, -, hk8, hloop, at1, ev1⟩ := read_A cfg hm hsvc w a hb s (apRT cfg w a) h
      rw [List.length_append, apRT, encRotTo_length] at hf
      obtain ⟨f0, rfl, hf0⟩ := fuel_split hk8 hf
      obtain ⟨f, rfl⟩ := Nat.exists_eq_add_of_le' (Nat.le_trans (by decide : 1 ≤ 36 / 4 + 2) hf0)
      obtain ⟨hpos, hc2⟩ := hdrOf_apRF cfg w a (layoutC cfg (apNext cfg w a) as K).1 (Nat.lt_trans (rot_pos hr as).2.2 hbound)
      obtain ⟨s4, at4, ev4, hstep⟩ := read_rot cfg s1 _ _ _ _ _ _ _ (hdrOf (apRF cfg w a ++ (layoutC cfg (apNext cfg w a) as K).1))
        _ _ _ _ _ _ ((layoutC cfg (apNext cfg w a) as K).2.map hdrOf) f at1 hpos rfl
      rw [hc2] at at4
      have at4' : At s4 (apNext cfg w a).offG (apNext cfg w a).crc (layoutC cfg (apNext cfg w a) as K).1 := by
        rw [(apNext_rot hr).1, (apNext_rot hr).2.1]
        exact at4
      obtain ⟨s', fuel', hat, hfl, hev', hfin⟩ := ih (apNext cfg w a) K s4 _ hsz' hbound at4' (fuel_next _)
      refine ⟨s', fuel', hat, hfl, by rw [hev', ev4, ev1], ?_⟩
      rw [hloop, List.map_cons, hstep]
      exact hfin
    | false =>
      simp only [layoutC_noRot hr] at h hf ⊢
      obtain ⟨k, s1, -, hk8, hloop, at1, ev1⟩ := read_A cfg hm hsvc w a hb s _ h
      rw [List.length_append] at hf
      obtain ⟨f, rfl, hf'⟩ := fuel_split hk8 hf
      rw [← (apNext_noRot hr).1, ← (apNext_noRot hr).2.1] at at1
      obtain ⟨s', fuel', hat, hfl, hev', hfin⟩ := ih (apNext cfg w a) K s1 f hsz' hbound at1 hf'
      refine ⟨s', fuel', hat, hfl, by rw [hev', ev1], ?_⟩
      rw [hloop]
      exact hfin

end SH.C18
