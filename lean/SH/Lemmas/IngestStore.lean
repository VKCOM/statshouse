/-
  SH.Lemmas.IngestStore — reading a row of the model store (SH.Model.Ingest), how `storeUpd` changes what is read, and how it
  commutes with a filter on the metric (`storeUpd_filter`).
-/
import SH.Model.Ingest

namespace SH.Ingest

/-- address of one MultiValue: shard, metric, key timestamp, key tags (without string top), normalised string-top
    value ((0,"-") = the Tail) -/
structure Addr where
  shard : Nat
  metric : Int
  ts : Nat
  ktags : KeyTags
  top : Int × Str
deriving DecidableEq, Repr

def topMatch (a : Int × Str) (p : Int × Str × MV) : Bool := p.1 == a.1 && p.2.1 == a.2

def getTopMV (a : Int × Str) : List (Int × Str × MV) → MV
  | [] => {}
  | p :: r => if topMatch a p then p.2.2 else getTopMV a r

/-- the MultiValue of an item selected by a normalised top value -/
def getItemMV (it : Item) (a : Int × Str) : MV := if topEmpty a then it.tail else getTopMV a it.top

/-- the MultiValue stored at an address ({} if the row does not exist); first match, like `storeUpd` -/
def getMV : Store → Addr → MV
  | [], _ => {}
  | it :: r, a => if it.sameKey a.shard a.metric a.ts a.ktags then getItemMV it a.top else getMV r a

theorem normTop_idem (t : Int × Str) : normTop (normTop t) = normTop t := by
  unfold normTop; split <;> simp_all

section
variable {it : Item} {sh : Nat} {m : Int} {ts : Nat} {kt : KeyTags} {t a : Int × Str} {f : MV → MV} {p : Int × Str × MV}

theorem topMatch_iff : topMatch a p = true ↔ (p.1, p.2.1) = a := by
  unfold topMatch
  rw [Bool.and_eq_true, beq_iff_eq, beq_iff_eq, Prod.ext_iff]

theorem topEmpty_iff : topEmpty t = true ↔ t = (0, "-") := by
  unfold topEmpty
  rw [Bool.and_eq_true, beq_iff_eq, beq_iff_eq, Prod.ext_iff]

theorem topEmpty_normTop : topEmpty (normTop t) = topEmpty t := by
  unfold normTop topEmpty
  by_cases h : t.1 = 0 <;> simp [h]

theorem getTopMV_updTop (l : List (Int × Str × MV)) :
    getTopMV a (updTop f t l) = if a = t then f (getTopMV a l) else getTopMV a l := by
  induction l with
  | nil =>
    show (if topMatch a (t.1, t.2, f {}) = true then f {} else {}) = _
    by_cases h : a = t
    · rw [if_pos h, if_pos (topMatch_iff.2 h.symm)]
      rfl
    · rw [if_neg h, if_neg (fun hm => h (topMatch_iff.1 hm).symm)]
      rfl
  | cons p r ih =>
    show getTopMV a (if topMatch t p = true then (p.1, p.2.1, f p.2.2) :: r else p :: updTop f t r) = _
    by_cases hp : topMatch t p = true
    · have ht : (p.1, p.2.1) = t := topMatch_iff.1 hp
      rw [if_pos hp]
      show (if topMatch a p = true then f p.2.2 else getTopMV a r) =
        if a = t then f (if topMatch a p = true then p.2.2 else getTopMV a r) else (if topMatch a p = true then p.2.2 else getTopMV a r)
      by_cases h : a = t
      · have hm : topMatch a p = true := topMatch_iff.2 (ht.trans h.symm)
        rw [if_pos h, if_pos hm, if_pos hm]
      · have hm : ¬ topMatch a p = true := fun hm => h ((topMatch_iff.1 hm).symm.trans ht)
        rw [if_neg h, if_neg hm, if_neg hm]
    · rw [if_neg hp, getTopMV, getTopMV]
      by_cases hm : topMatch a p = true
      · have h : ¬ a = t := fun h => hp (h ▸ hm)
        rw [if_pos hm, if_neg h, if_pos hm]
      · rw [if_neg hm, if_neg hm, ih]

theorem getItemMV_upd :
    getItemMV (it.upd t f) a = if a = normTop t then f (getItemMV it a) else getItemMV it a := by
  unfold Item.upd getItemMV
  by_cases ht : topEmpty t = true
  · have hn : normTop t = (0, "-") := by
      rw [topEmpty_iff.1 ht]
      rfl
    rw [if_pos ht, hn]
    by_cases ha : topEmpty a = true
    · rw [if_pos ha, if_pos ha, if_pos (topEmpty_iff.1 ha)]
    · rw [if_neg ha, if_neg ha, if_neg (fun h => ha (topEmpty_iff.2 h))]
  · rw [if_neg ht]
    by_cases ha : topEmpty a = true
    · have hne : a ≠ normTop t := fun h => ht (by rw [← topEmpty_normTop, ← h]; exact ha)
      rw [if_pos ha, if_pos ha, if_neg hne]
    · rw [if_neg ha, if_neg ha]
      exact getTopMV_updTop it.top

theorem upd_sameKey :
    (it.upd t f).sameKey sh m ts kt = it.sameKey sh m ts kt := by
  unfold Item.upd Item.sameKey
  split <;> rfl

theorem upd_metric (it : Item) (t : Int × Str) (f : MV → MV) : (it.upd t f).metric = it.metric := by
  unfold Item.upd; split <;> rfl

theorem sameKey_iff :
    it.sameKey sh m ts kt = true ↔ it.shard = sh ∧ it.metric = m ∧ it.ts = ts ∧ it.ktags = kt := by
  unfold Item.sameKey
  simp [and_assoc]

theorem sameKey_addr {x : Int × Str} {a : Addr} (hk : it.sameKey sh m ts kt = true) :
    a = ⟨sh, m, ts, kt, x⟩ ↔ it.sameKey a.shard a.metric a.ts a.ktags = true ∧ a.top = x := by
  obtain ⟨h1, h2, h3, h4⟩ := sameKey_iff.1 hk
  constructor
  · rintro rfl
    exact ⟨hk, rfl⟩
  · rintro ⟨hk', hx⟩
    obtain ⟨g1, g2, g3, g4⟩ := sameKey_iff.1 hk'
    cases a
    exact congr (congr (congr (congr (congrArg Addr.mk (g1.symm.trans h1)) (g2.symm.trans h2)) (g3.symm.trans h3))
      (g4.symm.trans h4)) hx

theorem getMV_storeUpd {st : Store} {a : Addr} :
    getMV (storeUpd sh m ts kt t f st) a = if a = ⟨sh, m, ts, kt, normTop t⟩ then f (getMV st a) else getMV st a := by
  have hit : ∀ (it : Item) (d : MV), it.sameKey sh m ts kt = true →
      (if (it.upd t f).sameKey a.shard a.metric a.ts a.ktags = true then getItemMV (it.upd t f) a.top else d) =
      if a = ⟨sh, m, ts, kt, normTop t⟩ then f (if it.sameKey a.shard a.metric a.ts a.ktags = true then getItemMV it a.top else d)
      else (if it.sameKey a.shard a.metric a.ts a.ktags = true then getItemMV it a.top else d) := by
    intro it d hk
    rw [upd_sameKey, getItemMV_upd, ite_congr (propext (sameKey_addr hk)) (fun _ => rfl) (fun _ => rfl)]
    by_cases h1 : it.sameKey a.shard a.metric a.ts a.ktags = true
    · rw [if_pos h1, if_pos h1, ite_congr (propext (and_iff_right h1)) (fun _ => rfl) (fun _ => rfl)]
    · rw [if_neg h1, if_neg h1, if_neg (fun h => h1 h.1)]
  induction st with
  | nil =>
    have h0 := hit { shard := sh, metric := m, ts := ts, ktags := kt } {} (sameKey_iff.2 ⟨rfl, rfl, rfl, rfl⟩)
    have hz : ∀ b : Bool, (if b = true then getItemMV { shard := sh, metric := m, ts := ts, ktags := kt } a.top else {}) = ({} : MV) := by
      intro b
      unfold getItemMV
      split
      · split <;> rfl
      · rfl
    rw [hz] at h0
    exact h0
  | cons it r ih =>
    show getMV (if it.sameKey sh m ts kt = true then it.upd t f :: r else it :: storeUpd sh m ts kt t f r) a = _
    by_cases hk : it.sameKey sh m ts kt = true
    · rw [if_pos hk]
      exact hit it (getMV r a) hk
    · rw [if_neg hk, getMV, getMV, ih]
      by_cases h1 : it.sameKey a.shard a.metric a.ts a.ktags = true
      · have hne : a ≠ ⟨sh, m, ts, kt, normTop t⟩ := fun h => hk (by rw [h] at h1; exact h1)
        rw [if_pos h1, if_neg hne, if_pos h1]
      · rw [if_neg h1, if_neg h1]

/-- `storeUpd` commutes with a filter that looks at the metric only (and vanishes when its own metric does not pass) -/
theorem storeUpd_filter {st : Store} (q : Int → Bool) :
    (storeUpd sh m ts kt t f st).filter (fun it => q it.metric) =
      if q m = true then storeUpd sh m ts kt t f (st.filter fun it => q it.metric) else st.filter fun it => q it.metric := by
  induction st with
  | nil =>
    show List.filter _ [_] = if q m = true then [_] else []
    rw [List.filter_cons, List.filter_nil, upd_metric]
  | cons it r ih =>
    show List.filter _ (if it.sameKey sh m ts kt = true then it.upd t f :: r else it :: storeUpd sh m ts kt t f r) = _
    by_cases hs : it.sameKey sh m ts kt = true
    · rw [if_pos hs, List.filter_cons, List.filter_cons, upd_metric, (sameKey_iff.1 hs).2.1]
      by_cases hq : q m = true
      · rw [if_pos hq, if_pos hq, if_pos hq]
        exact (if_pos hs).symm
      · rw [if_neg hq, if_neg hq, if_neg hq]
    · rw [if_neg hs, List.filter_cons, List.filter_cons, ih]
      by_cases hi : q it.metric = true
      · rw [if_pos hi, if_pos hi]
        split
        · exact (if_neg hs).symm
        · rfl
      · rw [if_neg hi, if_neg hi]

theorem storeUpd_ne_nil {st : Store} : storeUpd sh m ts kt t f st ≠ [] := by
  cases st with
  | nil => exact List.cons_ne_nil _ _
  | cons it r =>
    unfold storeUpd
    split <;> exact List.cons_ne_nil _ _

end

end SH.Ingest
