/-
  SH.Lemmas.DiskCacheLimits — (1) every body size PutBucket accepts is a size ReadNextTailSecond accepts (the two size checks
  agree at the boundary maxChunkSize); (2) size accounting when a waiting tail file vanishes before the tail reader opens it.
-/
import SH.Lemmas.DiskCacheRun

namespace SH.C09
open SH.DiskCache

/-- writer: `len(data) > maxPut` is rejected -/
def acceptsP (maxPut n : Nat) : Bool := !(n > maxPut)
/-- reader: `chunkSize > maxRead` (or, seeded variant `strict`, `chunkSize >= maxRead`), or a chunk that does not fit the file, is rejected -/
def readerOkP (strict : Bool) (maxRead n size pos : Nat) : Bool :=
  !((if strict then decide (n ≥ maxRead) else decide (n > maxRead)) || decide (pos + headerSize + n > size))

/-- the model's two predicates are these with the constants of the code (`gen_constants_match` ties the constants) -/
theorem tooBigLen_eq (n : Nat) : tooBigLen n = !acceptsP maxChunkSize n := by simp [tooBigLen, acceptsP]
theorem badChunk_eq (h : Hdr) (size pos : Nat) : badChunk h size pos = !readerOkP false maxChunkSize h.size size pos := by
  simp [badChunk, readerOkP]

theorem accepted_size_readable_P (maxPut maxRead n size pos : Nat) (hle : maxPut ≤ maxRead) (ha : acceptsP maxPut n = true)
    (hfit : pos + headerSize + n ≤ size) : readerOkP false maxRead n size pos = true := by
  simp [acceptsP, readerOkP] at ha ⊢
  omega

/-- C09 `accepted_size_readable`: for ALL sizes, a body PutBucket does not reject (`tooBigLen n = false`) has a header that
    ReadNextTailSecond does not reject (`badChunk = false`) wherever the record lies completely inside its file — in particular
    for n = maxChunkSize, the body that fills a file to exactly fileRotateSize. -/
theorem accepted_size_readable (n size pos : Nat) (h : Hdr) (hn : tooBigLen n = false) (hs : h.size = n)
    (hfit : pos + headerSize + n ≤ size) : badChunk h size pos = false := by
  rw [badChunk_eq, hs, accepted_size_readable_P maxChunkSize maxChunkSize n size pos (Nat.le_refl _) (by
    rw [tooBigLen_eq] at hn; simpa using hn) hfit]
  rfl

/-- the boundary itself: a body of exactly maxChunkSize is accepted, goes into an empty file without rotating it, fills it to
    exactly fileRotateSize and is accepted by the reader there; one byte more is rejected by the writer.
    With the seeded reader (`>=`) the accepted body is rejected after a restart. -/
theorem max_chunk_boundary :
    tooBigLen maxChunkSize = false ∧ tooBigLen (maxChunkSize + 1) = true ∧
    rotates { name := 0, nextPos := 0, size := 0, refCount := 1 } maxChunkSize false = false ∧
    headerSize + maxChunkSize = fileRotateSize ∧
    badChunk ⟨magicGood, 0, maxChunkSize, 0⟩ fileRotateSize 0 = false ∧
    readerOkP true maxChunkSize maxChunkSize fileRotateSize 0 = false ∧
    readerOkP true maxChunkSize (maxChunkSize - 1) fileRotateSize 0 = true := by decide

/-- sizes still accounted in `total` for waiting files that are no longer in the directory -/
def ghost (s : Shard) : Int :=
  ((s.waiting.filter (fun w => !hasFile s.disk w.name)).map (fun w => (w.size : Int))).sum

/-- the accounting equation: reported total = bytes on disk + files the tail reader has not yet found missing -/
def Acct (s : Shard) : Prop := s.total = sumSizes s.disk + ghost s

theorem hasFile_filter_ne (d : List DFile) (n m : Nat) :
    hasFile (d.filter (fun g => g.name != n)) m = (hasFile d m && (m != n)) := by
  unfold hasFile
  rw [List.any_filter]
  induction d with
  | nil => rfl
  | cons x d ih =>
    rw [List.any_cons, List.any_cons, ih, Bool.and_or_distrib_right]
    congr 1
    by_cases h : x.name = m
    · subst h; simp [Bool.and_comm]
    · rw [beq_false_of_ne h, Bool.and_false, Bool.false_and]

/-- every reachable state (invariant `Inv`) satisfies the equation with no ghost at all: total = bytes on disk -/
theorem acct_of_inv (cfg : Cfg) (s : Shard) (a : Abs) (inv : Inv cfg s a) : Acct s ∧ ghost s = 0 := by
  have hg : ghost s = 0 := by
    unfold ghost
    have : s.waiting.filter (fun w => !hasFile s.disk w.name) = [] := by
      rw [List.filter_eq_nil_iff]
      intro w hw
      rw [inv.waiting] at hw
      obtain ⟨f, hf, rfl⟩ := List.mem_map.mp hw
      simp [inv.hasFile_of_mem (Abs.mem_files.mpr (Or.inr (Or.inr hf)))]
    rw [this]; rfl
  refine ⟨?_, hg⟩
  unfold Acct
  have htot : s.total = sumSizes s.disk := inv.size_accounting.1
  rw [hg, htot]
  simp

/-- the loop iteration that finds a waiting file missing (`os.OpenFile` fails) keeps the equation — because it subtracts the
    file's size from `total` — and removes that ghost -/
theorem acct_skipMissing (s : Shard) (w : WFile) (ws : List WFile) (h : Acct s) (hw : s.waiting = w :: ws)
    (hm : hasFile s.disk w.name = false) : Acct (skipMissing s w ws) ∧ ghost (skipMissing s w ws) = ghost s - w.size := by
  have hg : ghost s = w.size + ghost (skipMissing s w ws) := by
    unfold ghost
    rw [hw, List.filter_cons]
    simp [hm, skipMissing]
  unfold Acct at h ⊢
  have hd : (skipMissing s w ws).disk = s.disk := rfl
  have ht : (skipMissing s w ws).total = s.total - w.size := rfl
  rw [hd, ht]
  constructor <;> omega

/-- a file that is still waiting vanishes from the directory: the equation holds with exactly that file as the ghost;
    `acct_skipMissing` is the loop iteration that removes it (no lemma carries the equation through the other iterations) -/
theorem acct_vanish (cfg : Cfg) (s : Shard) (a : Abs) (inv : Inv cfg s a) (f : AFile) (hf : f ∈ a.wait) :
    Acct { s with disk := s.disk.filter (fun g => g.name != f.name) } ∧
    ghost { s with disk := s.disk.filter (fun g => g.name != f.name) } = f.size cfg := by
  have hff : f ∈ a.files := by simp [Abs.files, hf]
  have hnd := nodup_of_pairwise_lt inv.names
  have hdisk' : s.disk.filter (fun g => g.name != f.name) = (a.files.filter (fun g => g.name != f.name)).map (AFile.render cfg) := by
    rw [inv.disk, filter_map_render]
  have hsum : sumSizes (s.disk.filter (fun g => g.name != f.name)) = sumSizes s.disk - f.size cfg := by
    rw [hdisk', sumSizes_render, sizeSum_filter cfg f a.files hff hnd, inv.disk, sumSizes_render]
  have hwnd : (a.wait.map (·.name)).Nodup := by
    have : List.Sublist (a.wait.map (·.name)) (a.files.map (·.name)) := by
      apply List.Sublist.map
      simp only [Abs.files]
      exact ((List.sublist_append_left _ _).trans (List.sublist_append_right _ _)).trans (List.sublist_append_right _ _)
    exact this.nodup hnd
  have hg : ghost { s with disk := s.disk.filter (fun g => g.name != f.name) } = f.size cfg := by
    unfold ghost
    simp only
    rw [inv.waiting, List.filter_map, List.map_map]
    have hpred : ∀ g ∈ a.wait, ((fun w : WFile => !hasFile (s.disk.filter (fun g => g.name != f.name)) w.name) ∘
        (fun g : AFile => (⟨g.name, g.size cfg⟩ : WFile))) g = !(g.name != f.name) := by
      intro g hg
      simp [hasFile_filter_ne, inv.hasFile_of_mem (Abs.mem_files.mpr (Or.inr (Or.inr hg)))]
    rw [List.filter_congr hpred]
    have hsplit := sum_filter_split a.wait (fun g => g.name != f.name) (fun g => (g.size cfg : Int))
    have hrest := sizeSum_filter cfg f a.wait hf hwnd
    simp only [sizeSum] at hrest
    simp only [Function.comp_def]
    omega
  refine ⟨?_, hg⟩
  unfold Acct
  rw [hg]
  show s.total = _
  have htot : s.total = sumSizes s.disk := inv.size_accounting.1
  rw [hsum, htot]
  omega

/-- concrete run: put one second, restart, the file vanishes, the tail reader runs: the code as it is reports total 0 = bytes on
    disk; without the `totalFileSize -= tailFile.size` of the open-error branch (seeded variant) it would keep reporting 21. -/
theorem vanish_then_read_accounts :
    (readNext cfg0 (vanish (restart (run cfg0 {} [.put 5 [1] false])) 0)).1.total = 0 ∧
    sumSizes (readNext cfg0 (vanish (restart (run cfg0 {} [.put 5 [1] false])) 0)).1.disk = 0 ∧
    (vanish (restart (run cfg0 {} [.put 5 [1] false])) 0).total = 21 ∧
    ghost (vanish (restart (run cfg0 {} [.put 5 [1] false])) 0) = 21 := by decide +kernel

end SH.C09
