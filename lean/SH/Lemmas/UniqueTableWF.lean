/-
  SH.Lemmas.UniqueTableWF — rehash and resize of the open-addressing table RESTORE reachability (every stored value is
  reachable from its home slot without crossing an empty slot): one invariant per sweep (`Pass1`, `Pass2`: the passes of rehash;
  `Reloc`: the relocation loop of resize; the latter two share `Sweep`), carried through the `Visit`s of the loop; `Room` counts
  occupied slots to find the relocation loop a free slot ahead. Hence insertHash keeps `WF`; reading the values of a wire image
  back (UmMarshall) is insertImpl value by value (`foldl_readItem`).
-/
import SH.Lemmas.UniqueTable
namespace SH.C04
open SH.UTable
open SH.Unique (Params)

/-! ### the sweeps, abstractly: `n` slots, `g` the slot contents, `pl` the home slot of a value -/

/-- first pass of rehash, after slots < i. The one idea: `e0` is a slot that stays empty and no probe path crosses it
    (`free`, `no_cross`), so every path is a linear interval of the table cut open at `e0` and wrap-around needs no case
    of its own. Processed values with home ≤ slot are reachable (`reach_fwd`); processed values that wrapped have a full
    prefix (`wrapped_full`) and are repaired by the second pass -/
structure Pass1 (n : Nat) (pl : Nat → Nat) (e0 i : Nat) (g : Nat → Nat) : Prop where
  e0n : e0 < n
  free : g e0 = 0
  no_cross : ∀ j < n, g j ≠ 0 → ¬ OnPath (pl (g j)) j e0
  reach_fwd : ∀ j < i, j < n → g j ≠ 0 → pl (g j) ≤ j → Reachable n pl g j
  wrapped_full : ∀ j < i, j < n → g j ≠ 0 → j < pl (g j) → ∀ s < j, g s ≠ 0

theorem pass1_skip (n : Nat) (pl : Nat → Nat) (e0 i : Nat) (g : Nat → Nat) (h : Pass1 n pl e0 i g)
    (hz : g i = 0 ∨ Reachable n pl g i) : Pass1 n pl e0 (i + 1) g := by
  refine { e0n := h.e0n, free := h.free, no_cross := h.no_cross, reach_fwd := ?_, wrapped_full := ?_ }
  · intro j hj hjn hg hp
    by_cases hji : j = i
    · subst hji
      exact hz.resolve_left hg
    · exact h.reach_fwd j (by omega) hjn hg hp
  · intro j hj hjn hg hp s hs
    by_cases hji : j = i
    · subst hji
      exact hz.resolve_left hg s (by omega) (Or.inr ⟨hp, Or.inr hs⟩)
    · exact h.wrapped_full j (by omega) hjn hg hp s hs

theorem pass1_drop (n : Nat) (pl : Nat → Nat) (e0 i : Nat) (g g' : Nat → Nat) (h : Pass1 n pl e0 i g)
    (hG : ∀ s < n, g' s = if s = i then 0 else g s) : Pass1 n pl e0 (i + 1) g' := by
  have hg' : ∀ s < n, g' s ≠ 0 → g' s = g s ∧ s ≠ i := by
    intro s hs hne
    rw [hG s hs] at hne ⊢
    by_cases c : s = i
    · rw [if_pos c] at hne
      exact absurd rfl hne
    · rw [if_neg c]
      exact ⟨rfl, c⟩
  refine { e0n := h.e0n, free := ?_, no_cross := ?_, reach_fwd := ?_, wrapped_full := ?_ }
  · rw [hG e0 h.e0n]
    split
    · rfl
    · exact h.free
  · intro j hj hg
    obtain ⟨a, _⟩ := hg' j hj hg
    rw [a] at hg ⊢
    exact h.no_cross j hj hg
  · intro j hj hjn hg hp
    obtain ⟨a, b⟩ := hg' j hjn hg
    rw [a] at hg hp
    intro s hs hps
    rw [a] at hps
    have hsi : s ≠ i := by
      unfold OnPath at hps
      omega
    rw [hG s hs, if_neg hsi]
    exact h.reach_fwd j (by omega) hjn hg hp s hs hps
  · intro j hj hjn hg hp s hs
    obtain ⟨a, b⟩ := hg' j hjn hg
    rw [a] at hg hp
    rw [hG s (by omega), if_neg (by omega)]
    exact h.wrapped_full j (by omega) hjn hg hp s hs

theorem moved_free (n : Nat) (pl : Nat → Nat) (e0 i q : Nat) (g g' : Nat → Nat) (m : Moved n pl g g' i q) (he0 : e0 < n)
    (hE : g e0 = 0) (hF : ∀ j < n, g j ≠ 0 → ¬ OnPath (pl (g j)) j e0) :
    q ≠ e0 ∧ g' e0 = 0 ∧ ∀ j < n, g' j ≠ 0 → ¬ OnPath (pl (g' j)) j e0 := by
  have hFi := hF i m.hi m.hx
  have hie : i ≠ e0 := fun c => m.hx (c ▸ hE)
  have hqe : q ≠ e0 := fun c => hFi (c ▸ m.qp)
  refine ⟨hqe, ?_, ?_⟩
  · rw [m.hG e0 he0, if_neg (fun c => hqe c.symm), if_neg (fun c => hie c.symm)]
    exact hE
  · intro j hj hg
    by_cases hjq : j = q
    · subst hjq
      rw [m.at_q]
      have a := m.qp
      unfold OnPath at a hFi ⊢
      omega
    · have a := (m.old j hj hjq hg).1
      rw [a] at hg ⊢
      exact hF j hj hg

theorem pass1_move (n : Nat) (pl : Nat → Nat) (e0 i q : Nat) (g g' : Nat → Nat) (h : Pass1 n pl e0 i g)
    (m : Moved n pl g g' i q) : Pass1 n pl e0 (i + 1) g' := by
  obtain ⟨_, hE, hF⟩ := moved_free n pl e0 i q g g' m h.e0n h.free h.no_cross
  refine { e0n := h.e0n, free := hE, no_cross := hF, reach_fwd := ?_, wrapped_full := ?_ }
  · intro j hj hjn hg hp
    by_cases hjq : j = q
    · subst hjq
      exact m.reach
    · obtain ⟨a, b⟩ := m.old j hjn hjq hg
      rw [a] at hp
      refine m.reach_old j hjn hjq hg (h.reach_fwd j (by omega) hjn (a ▸ hg) hp) ?_
      unfold OnPath
      omega
  · intro j hj hjn hg hp s hs
    by_cases hjq : j = q
    · subst hjq
      rw [m.at_q] at hp
      have hps : OnPath (pl (g i)) j s := Or.inr ⟨hp, Or.inr hs⟩
      obtain ⟨a, b⟩ := m.full s (by omega) hps
      exact m.keep s (by omega) a b
    · obtain ⟨a, b⟩ := m.old j hjn hjq hg
      rw [a] at hg hp
      exact m.keep s (by omega) (h.wrapped_full j (by omega) hjn hg hp s hs) (by omega)

/-- A sweep that repairs probe chains slot by slot (second pass of rehash, relocation loop of resize), before slot `i`,
    with the tail `[a, b)` still to do: values below `i` or beyond `b` are reachable (`reach_done`); a tail value whose home lies in
    `[i, its slot]` is reachable already (`reach_tail`); below any other tail value the tail is full (`full_below`), so the sweep gets to it -/
structure Sweep (N : Nat) (pl : Nat → Nat) (a b i : Nat) (g : Nat → Nat) : Prop where
  reach_done : ∀ j < N, (j < i ∨ b < j) → g j ≠ 0 → Reachable N pl g j
  reach_tail : ∀ j, a ≤ j → j < b → g j ≠ 0 → i ≤ pl (g j) → pl (g j) ≤ j → Reachable N pl g j
  full_below : ∀ j, a ≤ j → j < b → g j ≠ 0 → (pl (g j) < i ∨ j < pl (g j)) → ∀ s, a ≤ s → s < j → g s ≠ 0

/-- `full_below` of the sweep one slot further on (tail from `a'`), shared by `sweep_skip` and `sweep_move` -/
theorem sweep_tail (N : Nat) (pl : Nat → Nat) (a b i a' : Nat) (g : Nat → Nat) (h : Sweep N pl a b i g) (ha : a ≤ a') (hia : i < a')
    (hb : b ≤ N) (j : Nat) (hj : a' ≤ j) (hjb : j < b) (hg : g j ≠ 0) (hc : pl (g j) < i + 1 ∨ j < pl (g j)) (s : Nat)
    (hs : a' ≤ s) (hsj : s < j) : g s ≠ 0 := by
  by_cases hpi : pl (g j) = i
  · refine h.reach_tail j (by omega) hjb hg (by omega) (by omega) s (by omega) ?_
    unfold OnPath
    omega
  · exact h.full_below j (by omega) hjb hg (by omega) s (by omega) hsj

theorem sweep_skip (N : Nat) (pl : Nat → Nat) (a b i a' : Nat) (g : Nat → Nat) (h : Sweep N pl a b i g) (ha : a ≤ a') (hia : i < a')
    (hb : b ≤ N) (hz : g i = 0 ∨ Reachable N pl g i) : Sweep N pl a' b (i + 1) g := by
  refine { reach_done := ?_, reach_tail := ?_, full_below := sweep_tail N pl a b i a' g h ha hia hb }
  · intro j hj hc hg
    by_cases hji : j = i
    · subst hji
      exact hz.resolve_left hg
    · exact h.reach_done j hj (by omega) hg
  · intro j hj hjb hg h1 h2
    exact h.reach_tail j (by omega) hjb hg (by omega) h2

/-- `e` is an empty slot ahead of the sweep: a path that crossed slot `i` would cross `e`. `hq`: the moved value lands in the
    part already swept, or beyond the tail, or inside the tail at or after its home (where `reach_tail` will cover it) -/
theorem sweep_move (N : Nat) (pl : Nat → Nat) (a b i a' q : Nat) (g g' : Nat → Nat) (h : Sweep N pl a b i g)
    (m : Moved N pl g g' i q) (ha : a ≤ a') (hia : i < a') (hb : b ≤ N) (e : Nat) (hei : i < e) (heb : e ≤ b) (heN : e < N)
    (he0 : g e = 0) (hq : q ≤ i ∨ b < q ∨ (i < pl (g i) ∧ pl (g i) ≤ q)) : Sweep N pl a' b (i + 1) g' := by
  refine { reach_done := ?_, reach_tail := ?_, full_below := ?_ }
  · intro j hj hc hg
    by_cases hjq : j = q
    · subst hjq
      exact m.reach
    · obtain ⟨c, hji⟩ := m.old j hj hjq hg
      have hr := h.reach_done j hj (by omega) (c ▸ hg)
      refine m.reach_old j hj hjq hg hr (fun hps => hr e heN ?_ he0)
      unfold OnPath at hps ⊢
      omega
  · intro j hj hjb hg h1 h2
    by_cases hjq : j = q
    · subst hjq
      exact m.reach
    · obtain ⟨c, _⟩ := m.old j (by omega) hjq hg
      rw [c] at h1 h2
      refine m.reach_old j (by omega) hjq hg (h.reach_tail j (by omega) hjb (c ▸ hg) (by omega) h2) ?_
      unfold OnPath
      omega
  · intro j hj hjb hg hc s hs hsj
    have hjq : j ≠ q := by
      intro c
      rw [c, m.at_q] at hc
      omega
    obtain ⟨c, _⟩ := m.old j (by omega) hjq hg
    rw [c] at hg hc
    exact m.keep s (by omega) (sweep_tail N pl a b i a' g h ha hia hb j hj hjb hg hc s hs hsj) (by omega)

theorem sweep_done (N : Nat) (pl : Nat → Nat) (b i : Nat) (g : Nat → Nat) (h : Sweep N pl i b i g) (hzb : b < N → g b = 0)
    (hzi : i < b → g i = 0) : ∀ j < N, g j ≠ 0 → Reachable N pl g j := by
  intro j hj hg
  by_cases hc : j < i ∨ b < j
  · exact h.reach_done j hj hc hg
  · have hjb : j ≠ b := fun c => hg (c ▸ hzb (c ▸ hj))
    have hji : j ≠ i := fun c => hg (c ▸ hzi (by omega))
    by_cases hp : i ≤ pl (g j) ∧ pl (g j) ≤ j
    · exact h.reach_tail j (by omega) (by omega) hg hp.1 hp.2
    · exact absurd (hzi (by omega)) (h.full_below j (by omega) (by omega) hg (by omega) i (Nat.le_refl i) (by omega))

/-- second pass of rehash ("process the first collision resolution chain once again"), before slot `i`: the sweep with
    tail `[i, e0)`, where `e0` stays empty and no path crosses it -/
structure Pass2 (n : Nat) (pl : Nat → Nat) (e0 i : Nat) (g : Nat → Nat) : Prop where
  e0n : e0 < n
  free : g e0 = 0
  no_cross : ∀ j < n, g j ≠ 0 → ¬ OnPath (pl (g j)) j e0
  ile : i ≤ e0
  sw : Sweep n pl i e0 i g

theorem pass2_init (n : Nat) (pl : Nat → Nat) (e0 : Nat) (g : Nat → Nat) (h : Pass1 n pl e0 n g) : Pass2 n pl e0 0 g := by
  have he := h.e0n
  refine { e0n := h.e0n, free := h.free, no_cross := h.no_cross, ile := by omega,
           sw := { reach_done := ?_, reach_tail := ?_, full_below := ?_ } }
  · intro j hj hc hg
    by_cases hp : pl (g j) ≤ j
    · exact h.reach_fwd j hj hj hg hp
    · exfalso
      apply h.no_cross j hj hg
      unfold OnPath
      omega
  · intro j _ hje hg _ hp
    exact h.reach_fwd j (by omega) (by omega) hg hp
  · intro j _ hje hg hc s _ hs
    exact h.wrapped_full j (by omega) (by omega) hg (by omega) s hs

theorem pass2_lt (n : Nat) (pl : Nat → Nat) (e0 i : Nat) (g : Nat → Nat) (h : Pass2 n pl e0 i g) (hx : g i ≠ 0) : i < e0 := by
  have := h.ile
  by_contra c
  have : i = e0 := by omega
  rw [this] at hx
  exact hx h.free

theorem pass2_skip (n : Nat) (pl : Nat → Nat) (e0 i : Nat) (g : Nat → Nat) (h : Pass2 n pl e0 i g) (hx : g i ≠ 0)
    (hr : Reachable n pl g i) : Pass2 n pl e0 (i + 1) g := by
  have hlt := pass2_lt n pl e0 i g h hx
  have he := h.e0n
  exact { e0n := h.e0n, free := h.free, no_cross := h.no_cross, ile := hlt,
          sw := sweep_skip n pl i e0 i (i + 1) g h.sw (Nat.le_succ i) (Nat.lt_succ_self i) (by omega) (Or.inr hr) }

theorem pass2_move (n : Nat) (pl : Nat → Nat) (e0 i q : Nat) (g g' : Nat → Nat) (h : Pass2 n pl e0 i g)
    (m : Moved n pl g g' i q) : Pass2 n pl e0 (i + 1) g' := by
  have hlt := pass2_lt n pl e0 i g h m.hx
  have he0n := h.e0n
  have hFi := h.no_cross i m.hi m.hx
  obtain ⟨_, hE, hF⟩ := moved_free n pl e0 i q g g' m h.e0n h.free h.no_cross
  -- the landing slot is at or below i, or beyond e0
  have hq : q ≤ i ∨ e0 < q := by
    have c := m.qp
    unfold OnPath at c hFi
    omega
  exact { e0n := h.e0n, free := hE, no_cross := hF, ile := hlt,
          sw := sweep_move n pl i e0 i (i + 1) q g g' h.sw m (Nat.le_succ i) (Nat.lt_succ_self i) (by omega) e0 hlt
            (Nat.le_refl e0) he0n h.free (hq.imp_right Or.inl) }


theorem place_congr (P : Params) {a b : Tb} (h : a.sd = b.sd) : place P a = place P b := by
  funext x; unfold place; rw [h]

theorem rehashLoop1_pass1 (P : Params) (e0 : Nat) (t : Tb) (hs : Shape t) (h : Pass1 (size t) (place P t) e0 0 (get t)) :
    Pass1 (size t) (place P t) e0 (size t) (get (rehashLoop1 P (size t) 0 t)) := by
  have := (rehashLoop1_ind P (fun i t' => t'.sd = t.sd ∧ Pass1 (size t) (place P t) e0 i (get t')) ?_ ?_ (size t) 0 t hs
    (by omega) ⟨rfl, h⟩).2.2
  · rwa [Nat.zero_add] at this
  · intro i a a' sa _ _ ⟨e, l⟩ v
    rw [← size_congr e, ← place_congr P e] at l ⊢
    refine ⟨(v.same sa).2.1.sd.trans e, ?_⟩
    cases v with
    | skip hz => exact pass1_skip _ _ e0 i _ l hz
    | move q m => exact pass1_move _ _ e0 i q _ _ l m
  · intro i a sa hi ⟨e, l⟩ _ _
    have hl : (slots a).length = size a := sa
    exact ⟨e, pass1_drop _ _ e0 i _ _ l (fun s _ => get_put_lt a i 0 (hl ▸ hi) s)⟩

theorem rehashLoop2_pass2 (P : Params) (n e0 f : Nat) (pl : Nat → Nat) (t : Tb) (hs : Shape t) (hn : size t = n)
    (hpl : place P t = pl) (hf : n ≤ f) (h : Pass2 n pl e0 0 (get t)) :
    ∀ j < n, get (rehashLoop2 P f 0 t) j ≠ 0 → Reachable n pl (get (rehashLoop2 P f 0 t)) j := by
  subst hn
  subst hpl
  have hv : ∀ i a a', Shape a → i < size a → get a i ≠ 0 → a.sd = t.sd ∧ Pass2 (size t) (place P t) e0 i (get a) →
      Visit P a i a' → a'.sd = t.sd ∧ Pass2 (size t) (place P t) e0 (i + 1) (get a') := by
    intro i a a' sa _ hx ⟨e, l⟩ v
    rw [← size_congr e, ← place_congr P e] at l ⊢
    refine ⟨(v.same sa).2.1.sd.trans e, ?_⟩
    cases v with
    | skip hz => exact pass2_skip _ _ e0 i _ l hx (hz.resolve_left hx)
    | move q m => exact pass2_move _ _ e0 i q _ _ l m
  obtain ⟨j, ⟨_, l⟩, hj⟩ := rehashLoop2_ind P (fun i t' => t'.sd = t.sd ∧ Pass2 (size t) (place P t) e0 i (get t')) hv
    f 0 t hs ⟨rfl, h⟩
  rcases hj with hj | hj
  · have := l.ile
    have := l.e0n
    omega
  · exact sweep_done _ _ e0 j _ l.sw (fun _ => l.free) (fun _ => hj)

theorem rehash_wf (P : Params) (t : Tb) (w : WF P t) (k' e0 : Nat) (he : e0 < size t) (h0 : get t e0 = 0) :
    WF P (rehash P { t with k := k' }) := by
  let t0 : Tb := { t with k := k' }
  have hs0 : Shape t0 := w.shape
  have hc0 : CntOk t0 := w.cnt
  obtain ⟨s1, h1, c1, p1⟩ := rehash_items P t0 hs0 hc0
  have hnd : (items (rehash P t0)).Nodup := p1.nodup_iff.mpr ((wf_nodup P t w).filter _)
  have init : Pass1 (size t) (place P t) e0 0 (get t0) := by
    refine { e0n := he, free := h0, no_cross := ?_, reach_fwd := by intro j hj; omega,
             wrapped_full := by intro j hj; omega }
    intro j hj hg hp
    exact w.reachable j hj hg e0 he hp h0
  have la := rehashLoop1_pass1 P e0 t0 hs0 init
  obtain ⟨sa, ha, _⟩ := rehashLoop1_spec P t0 hs0 hc0
  have rb := rehashLoop2_pass2 P (size t0) e0 (size t0) (place P t0) _ sa (size_congr ha.sd) (place_congr P ha.sd)
    (Nat.le_refl _) (pass2_init _ _ _ _ la)
  apply wf_of_parts P _ s1 c1 hnd
  rw [size_congr h1.sd, place_congr P h1.sd]
  exact rb


/-- relocation loop of resize (old size `n`, new size `N`), before slot `i`: the sweep with tail `[max i n, N)`; tail values do
    not wrap (`no_wrap`): the old slots `[i, n)` are not yet looked at -/
structure Reloc (n N : Nat) (pl : Nat → Nat) (i : Nat) (g : Nat → Nat) : Prop where
  sw : Sweep N pl (max i n) N i g
  no_wrap : ∀ j, max i n ≤ j → j < N → g j ≠ 0 → pl (g j) ≤ j

theorem reloc_skip (n N : Nat) (pl : Nat → Nat) (i : Nat) (g : Nat → Nat) (h : Reloc n N pl i g) (hz : g i = 0 ∨ Reachable N pl g i) :
    Reloc n N pl (i + 1) g :=
  { sw := sweep_skip N pl (max i n) N i (max (i + 1) n) g h.sw (by omega) (by omega) (Nat.le_refl N) hz,
    no_wrap := fun j hj hjn hg => h.no_wrap j (by omega) hjn hg }

theorem reloc_move (n N : Nat) (pl : Nat → Nat) (i q : Nat) (g g' : Nat → Nat) (h : Reloc n N pl i g)
    (m : Moved N pl g g' i q) (e : Nat) (hei : i < e) (heN : e < N) (he0 : g e = 0) : Reloc n N pl (i + 1) g' := by
  have hq : q ≤ i ∨ (i < pl (g i) ∧ pl (g i) ≤ q) := by
    have c := m.qp
    unfold OnPath at c
    omega
  refine { sw := sweep_move N pl (max i n) N i (max (i + 1) n) q g g' h.sw m (by omega) (by omega) (Nat.le_refl N) e hei
                   (Nat.le_of_lt heN) heN he0 (hq.imp_right Or.inr), no_wrap := ?_ }
  intro j hj hjn hg
  by_cases hjq : j = q
  · rw [hjq, m.at_q]
    omega
  · obtain ⟨c, _⟩ := m.old j hjn hjq hg
    rw [c] at hg ⊢
    exact h.no_wrap j (by omega) hjn hg

theorem reloc_done (n N : Nat) (pl : Nat → Nat) (i : Nat) (g : Nat → Nat) (h : Reloc n N pl i g) (hn : n ≤ i)
    (hz : i < N → g i = 0) : ∀ j < N, g j ≠ 0 → Reachable N pl g j := by
  have hs := h.sw
  rw [Nat.max_eq_left hn] at hs
  exact sweep_done N pl N i g hs (fun c => absurd c (Nat.lt_irrefl N)) hz


def nzFrom (t : Tb) (a : Nat) : Nat := (((slots t).drop a).filter nz).length

theorem nzFrom_le (t : Tb) (a : Nat) : nzFrom t a ≤ (items t).length :=
  List.Sublist.length_le ((List.drop_sublist a (slots t)).filter nz)

theorem nzFrom_put_lt (t : Tb) (i v a : Nat) (h : i < a) : nzFrom (put t i v) a = nzFrom t a := by
  unfold nzFrom; rw [slots_put, List.drop_set_of_lt h]

theorem nzFrom_succ (t : Tb) (a : Nat) (ha : a < (slots t).length) (hx : get t a ≠ 0) : nzFrom t a = nzFrom t (a + 1) + 1 := by
  unfold nzFrom
  rw [List.drop_eq_getElem_cons ha]
  have : (slots t)[a] = get t a := by rw [get_eq, getD_of_lt _ _ ha]
  have hz : nz (slots t)[a] = true := by rw [this]; simpa [nz] using hx
  simp [List.filter, hz]

theorem exists_empty (t : Tb) (a : Nat) (hlt : nzFrom t a < (slots t).length - a) :
    ∃ e, a ≤ e ∧ e < (slots t).length ∧ get t e = 0 := by
  by_contra hc
  have hall : ((slots t).drop a).filter nz = (slots t).drop a := by
    rw [List.filter_eq_self]
    intro x hx
    obtain ⟨k, hk, hget⟩ := List.mem_iff_getElem.mp hx
    rw [List.length_drop] at hk
    rw [List.getElem_drop] at hget
    have hne : get t (a + k) ≠ 0 := by
      intro c; exact hc ⟨a + k, by omega, by omega, c⟩
    rw [get_eq, getD_of_lt _ _ (by omega)] at hne
    rw [← hget]; simpa [nz] using hne
  unfold nzFrom at hlt; rw [hall, List.length_drop] at hlt; omega

/-- bookkeeping of the relocation loop at index `i`, for `c` stored values in a table grown from `n` slots: past the old
    table, the occupied slots from `i` on and the slots already passed number at most `c` together (each value found
    beyond the old end was moved there from below, and the slots it passed are occupied) -/
structure Room (n c i : Nat) (t : Tb) : Prop where
  items : (items t).length = c
  tail : n ≤ i → nzFrom t i + (i - n) ≤ c

theorem room_step (n c i : Nat) (t : Tb) (h : Room n c i t) (hi : i < (slots t).length) (hcond : i < n ∨ get t i ≠ 0) :
    Room n c (i + 1) t := by
  refine ⟨h.items, fun hni => ?_⟩
  by_cases hin : i < n
  · have := nzFrom_le t (i + 1)
    have := h.items
    omega
  · have := nzFrom_succ t i hi (hcond.resolve_left hin)
    have := h.tail (by omega)
    omega

theorem room_free (n c i : Nat) (t : Tb) (h : Room n c i t) (hc : c + 1 ≤ n) (hN : 2 * n ≤ (slots t).length)
    (hi : i < (slots t).length) (h0 : get t i ≠ 0) : ∃ e, i < e ∧ e < (slots t).length ∧ get t e = 0 := by
  by_cases hin : i < n
  · have h1 := nzFrom_le t n
    have h2 := h.items
    obtain ⟨e, a, b, c'⟩ := exists_empty t n (by omega)
    exact ⟨e, by omega, b, c'⟩
  · have h1 := nzFrom_succ t i hi h0
    have h2 := h.tail (by omega)
    obtain ⟨e, a, b, c'⟩ := exists_empty t (i + 1) (by omega)
    exact ⟨e, by omega, b, c'⟩

theorem room_move (n c i q : Nat) (t : Tb) (h : Room n c i t) (hi : i < (slots t).length) (h0 : get t i ≠ 0)
    (hperm : (items (put (put t i 0) q (get t i))).Perm (items t)) (hqi : n ≤ i → q ≤ i) :
    Room n c (i + 1) (put (put t i 0) q (get t i)) := by
  refine ⟨hperm.length_eq.trans h.items, fun hni => ?_⟩
  by_cases hin : i < n
  · have := nzFrom_le (put (put t i 0) q (get t i)) (i + 1)
    have := hperm.length_eq
    have := h.items
    omega
  · have := hqi (by omega)
    rw [nzFrom_put_lt _ q _ _ (by omega), nzFrom_put_lt _ i 0 _ (by omega)]
    have := nzFrom_succ t i hi h0
    have := h.tail (by omega)
    omega

theorem resizeLoop_wf (P : Params) (n N c : Nat) (pl : Nat → Nat) (hc : c + 1 ≤ n) (hN : 2 * n ≤ N) (t : Tb) (hs : Shape t)
    (hsz : size t = N) (hpl : place P t = pl) (hnd : (items t).Nodup) (hroom : Room n c 0 t) (hz : Reloc n N pl 0 (get t)) :
    ∀ j < N, get (resizeLoop .full P n N 0 t) j ≠ 0 → Reachable N pl (get (resizeLoop .full P n N 0 t)) j := by
  subst hsz
  subst hpl
  have hv : ∀ i a a', Shape a → i < size a → (i < n ∨ (ResizeV.full = .full ∧ get a i ≠ 0)) →
      a.sd = t.sd ∧ Room n c i a ∧ Reloc n (size t) (place P t) i (get a) → Visit P a i a' →
      a'.sd = t.sd ∧ Room n c (i + 1) a' ∧ Reloc n (size t) (place P t) (i + 1) (get a') := by
    intro i a a' sa hi hcond ⟨e, r, z⟩ vis
    rw [← size_congr e, ← place_congr P e] at z ⊢
    have hN' : 2 * n ≤ size a := by rw [size_congr e]; exact hN
    have hl : (slots a).length = size a := sa
    refine ⟨(vis.same sa).2.1.sd.trans e, ?_⟩
    cases vis with
    | skip hz' => exact ⟨room_step n c i a r (hl ▸ hi) (hcond.imp_right And.right), reloc_skip n _ _ i _ z hz'⟩
    | move q m =>
      -- a free slot beyond `i`: a path that crossed slot `i` would cross it
      obtain ⟨e', hei, heN, he0⟩ := room_free n c i a r hc (hl ▸ hN') (hl ▸ hi) m.hx
      have hq_le : n ≤ i → q ≤ i := by
        intro hni
        have h5 := z.no_wrap i (by omega) hi m.hx
        have c' := m.qp
        unfold OnPath at c'
        omega
      exact ⟨room_move n c i q a r (hl ▸ hi) m.hx ((Visit.move q m).same sa).2.2.2 hq_le,
        reloc_move n _ _ i q _ _ z m e' hei (hl ▸ heN) he0⟩
  obtain ⟨j, ⟨_, _, z⟩, hj⟩ := resizeLoop_ind .full P n
    (fun i t' => t'.sd = t.sd ∧ Room n c i t' ∧ Reloc n (size t) (place P t) i (get t')) hv (size t) 0 t hs hnd
    (Nat.le_of_eq (Nat.zero_add _)) ⟨rfl, hroom, hz⟩
  rcases hj with hj | hj
  · exact reloc_done n _ _ j _ z (by omega) (fun c' => by omega)
  · have hnj : n ≤ j := by
      by_contra c'
      exact hj (Or.inl (by omega))
    have hj0 : get (resizeLoop .full P n (size t) 0 t) j = 0 := by
      by_contra c'
      exact hj (Or.inr ⟨rfl, c'⟩)
    exact reloc_done n _ _ j _ z hnj (fun _ => hj0)


theorem resize_wf (P : Params) (t : Tb) (w : WF P t) (newSd : Nat) (hge : t.sd + 1 ≤ newSd)
    (hroom : (items t).length + 1 ≤ size t) : WF P (resize .full P t newSd) := by
  have hl : (slots t).length = 2 ^ t.sd := w.shape
  have hpow : 2 * 2 ^ t.sd ≤ 2 ^ newSd := by
    have : 2 ^ (t.sd + 1) ≤ 2 ^ newSd := Nat.pow_le_pow_right (by omega) hge
    rw [Nat.pow_succ] at this
    omega
  obtain ⟨hslots, hs1, hitems⟩ := grown_spec t newSd w.shape (by omega)
  have hsz1 : size (grown t newSd) = 2 ^ newSd := rfl
  have hupper : ∀ j, size t ≤ j → get (grown t newSd) j = 0 := by
    intro j hj
    unfold size at hj
    rw [get_eq, hslots, List.getD, List.getElem?_append_right (by omega), List.getElem?_replicate]
    split <;> rfl
  have hz : Reloc (size t) (2 ^ newSd) (place P (grown t newSd)) 0 (get (grown t newSd)) := by
    refine { sw := { reach_done := by intro j hj hc; omega, reach_tail := ?_, full_below := ?_ }, no_wrap := ?_ } <;>
      exact fun j hj _ hg => absurd (hupper j (by omega)) hg
  have hnd1 : (items (grown t newSd)).Nodup := by rw [hitems]; exact wf_nodup P t w
  have ra := resizeLoop_wf P (size t) (2 ^ newSd) (items t).length (place P (grown t newSd)) hroom
    (by unfold size; exact hpow) (grown t newSd) hs1 hsz1 rfl hnd1 ⟨by rw [hitems], by intro c; omega⟩ hz
  obtain ⟨m, _⟩ := resize_items .full P t newSd w.shape w.cnt (wf_nodup P t w) (by omega)
  apply wf_of_parts P _ m.shape m.cnt (m.perm.nodup_iff.mpr hnd1)
  have hszr : size (resize .full P t newSd) = 2 ^ newSd := size_congr m.hdr.sd
  rw [hszr, place_congr P m.hdr.sd]
  exact ra


theorem free_slot_of_len (t : Tb) (hs : Shape t) (h : (items t).length + 1 ≤ size t) : ∃ e < size t, get t e = 0 := by
  have hl : (slots t).length = size t := hs
  have h0 : nzFrom t 0 = (items t).length := by unfold nzFrom items; simp
  obtain ⟨e, _, b, c⟩ := exists_empty t 0 (by rw [h0, hl]; omega)
  exact ⟨e, by rw [← hl]; exact b, c⟩

theorem thinLoop_wf (P : Params) : ∀ (f : Nat) (t : Tb), WF P t → (items t).length + 1 ≤ size t → WF P (UTable.thinLoop P f t) := by
  intro f
  induction f with
  | zero => intro t w _; exact w
  | succ f ih =>
    intro t w hroom
    simp only [UTable.thinLoop]
    split
    · obtain ⟨e0, he, h0⟩ := free_slot_of_len t w.shape hroom
      obtain ⟨_, h1, _, p1⟩ := rehash_items P { t with k := t.k + 1 } w.shape w.cnt
      have hlen : (items (rehash P { t with k := t.k + 1 })).length ≤ (items t).length := by
        rw [p1.length_eq]; exact List.length_filter_le _ _
      exact ih _ (rehash_wf P t w (t.k + 1) e0 he h0) (by rw [size_congr (show (rehash P { t with k := t.k + 1 }).sd = t.sd from h1.sd)]; omega)
    · exact w

theorem shrinkIfNeed_wf (P : Params) (t : Tb) (w : WF P t) (hroom : (items t).length + 1 ≤ size t) :
    WF P (UTable.shrinkIfNeed .full P t) := by
  unfold UTable.shrinkIfNeed
  split
  · exact w
  · split
    · exact thinLoop_wf P _ t w hroom
    · exact resize_wf P t w (t.sd + 1) (by omega) hroom

theorem insertHash_wf (P : Params) (t : Tb) (w : WF P t) (x : Nat) (hroom : (items t).length + 2 ≤ size t) :
    WF P (UTable.insertHash .full P t x) := by
  unfold UTable.insertHash
  split
  · obtain ⟨j, hj, hj0⟩ := free_slot_of_len t w.shape (by omega)
    obtain ⟨w', _, _, hlen, hsd, _⟩ := insertImpl_spec P t w x j hj hj0
    exact shrinkIfNeed_wf P _ w' (by rw [size_congr hsd]; omega)
  · exact w


def setCnt (t : Tb) (c : Nat) : Tb := { t with cnt := c }

theorem probe_absent (t : Tb) (x : Nat) (hab : ∀ i < UTable.size t, UTable.get t i ≠ x) :
    ∀ (f p : Nat), p < UTable.size t → probe t x f p = probe t 0 f p := by
  intro f
  induction f with
  | zero => intro p _; rfl
  | succ f ih =>
    intro p hp
    simp only [probe]
    have := hab p hp
    by_cases h0 : UTable.get t p = 0
    · simp [h0]
    · simp [h0, this]; exact ih _ (next_lt t p)

theorem probe_setCnt (t : Tb) (c x : Nat) : ∀ (f p : Nat), probe (setCnt t c) x f p = probe t x f p := by
  intro f
  induction f with
  | zero => intro p; rfl
  | succ f ih =>
    intro p
    simp only [probe]
    have e1 : UTable.get (setCnt t c) p = UTable.get t p := rfl
    have e2 : next (setCnt t c) p = next t p := rfl
    rw [e1, e2, ih]

/-- reading one value of a well-formed image = insertImpl, except that itemsCount was set in advance -/
theorem readItem_eq (P : Params) (t : Tb) (c x : Nat) (hab : x ≠ 0 → ∀ i < UTable.size t, UTable.get t i ≠ x) :
    readItem P (setCnt t c) x = setCnt (UTable.insertImpl P t x) c := by
  unfold readItem UTable.insertImpl
  by_cases hx : x = 0
  · simp only [hx, if_true]
    by_cases hz : t.zero = true
    · simp [setCnt, hz]
    · simp [setCnt, hz]
  · simp only [hx, if_false]
    unfold reinsertImpl
    have e1 : probe (setCnt t c) 0 (UTable.size (setCnt t c)) (place P (setCnt t c) x) = probe t 0 (UTable.size t) (place P t x) :=
      probe_setCnt t c 0 _ _
    rw [e1, ← probe_absent t x (hab hx) _ _ (place_lt P t x)]
    cases hp : probe t x (UTable.size t) (place P t x) with
    | none => rfl
    | some q =>
      have hqlt : q < UTable.size t := (probe_path t x _ _ q (place_lt P t x) hp).1
      simp only [hab hx q hqlt, if_false]
      rfl

theorem not_stored_of_not_tvals (t : Tb) (hs : Shape t) (x : Nat) (h : x ∉ tvals t) :
    x ≠ 0 → ∀ i < UTable.size t, UTable.get t i ≠ x := by
  intro hx i hi hc
  apply h
  unfold tvals
  have hl : (slots t).length = UTable.size t := hs
  exact Finset.mem_union_left _ (List.mem_toFinset.mpr ((mem_items t x).mpr ⟨hx, i, by rw [hl]; exact hi, hc⟩))

theorem foldl_readItem (P : Params) (c : Nat) : ∀ (xs : List Nat) (t : Tb), WF P t → xs.Nodup → (∀ x ∈ xs, x ∉ tvals t) →
    (items t).length + xs.length + 1 ≤ UTable.size t →
    xs.foldl (readItem P) (setCnt t c) = setCnt (xs.foldl (UTable.insertImpl P) t) c ∧
    WF P (xs.foldl (UTable.insertImpl P) t) ∧ tvals (xs.foldl (UTable.insertImpl P) t) = tvals t ∪ xs.toFinset ∧
    (xs.foldl (UTable.insertImpl P) t).sd = t.sd ∧ (xs.foldl (UTable.insertImpl P) t).k = t.k ∧
    (xs.foldl (UTable.insertImpl P) t).alloc = t.alloc := by
  intro xs
  induction xs with
  | nil => intro t w _ _ _; simp; exact w
  | cons x xs ih =>
    intro t w hnd hab hroom
    simp only [List.foldl_cons, List.length_cons] at hroom ⊢
    obtain ⟨j, hj, hj0⟩ := free_slot_of_len t w.shape (by omega)
    obtain ⟨w', htv, _, hlen, hsd, hk, hal⟩ := insertImpl_spec P t w x j hj hj0
    rw [readItem_eq P t c x (not_stored_of_not_tvals t w.shape x (hab x (by simp)))]
    have hnd' := (List.nodup_cons.mp hnd)
    obtain ⟨a, b, c', d, e, f⟩ := ih (UTable.insertImpl P t x) w' hnd'.2
      (by intro y hy; rw [htv, Finset.mem_insert]; rintro (h | h)
          · rw [h] at hy; exact hnd'.1 hy
          · exact hab y (by simp [hy]) h)
      (by rw [size_congr hsd]; omega)
    refine ⟨a, b, ?_, d.trans hsd, e.trans hk, f.trans hal⟩
    rw [c', htv, List.toFinset_cons, Finset.insert_union, Finset.union_insert]

end SH.C04
