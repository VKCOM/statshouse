/-
  SH.Lemmas.TL — the TL1 codec (SH.Model.TL): round trip of the primitives (4-byte little endian naturals, fixed-width
  fields, strings in their three length forms with padding, the vector read loop) and of every descriptor (`rt_all`, by
  structural recursion on the descriptor, clause for clause like `wt`).
-/
import SH.Model.TL
namespace SH.C14
open SH.TL

/-- Little-endian digit sums collapse to `n % 256 ^ k` one digit at a time. In a chain one step leaves `n % (256 * 256)`
    where the next step's pattern has the literal `65536`: `rw` identifies the two by evaluation. -/
theorem mod_add_digit (n a b : Nat) : n % a + n / a % b * a = n % (a * b) := by
  rw [Nat.mod_mul, Nat.mul_comm]

theorem readNat_le32 (n : Nat) (h : n < 4294967296) (r : Bytes) : readNat (le32 n ++ r) = some (n, r) := by
  simp only [le32, List.cons_append, List.nil_append, readNat, UInt8.toNat_ofNat', Nat.mod_mod]
  rw [mod_add_digit n 256 256, mod_add_digit n 65536 256, mod_add_digit n 16777216 256, Nat.mod_eq_of_lt h]

theorem takeN_append (a r : Bytes) : takeN a.length (a ++ r) = some (a, r) := by
  induction a with
  | nil => simp [takeN]
  | cons x a ih => simp [takeN, ih]

theorem padW_eq (p : Nat) : padW p = padLen p := by
  have h : ∀ m, m < 4 → (match m with | 1 => 3 | 2 => 2 | 3 => 1 | _ => 0) = (4 - m) % 4 := by decide
  exact h _ (Nat.mod_lt _ (by decide))

theorem allZero_replicate (k : Nat) : allZero (List.replicate k 0) = true := by
  induction k with
  | zero => rfl
  | succ k ih => simp [allZero, List.replicate_succ]

theorem eq_replicate_of_allZero : ∀ (b : Bytes), allZero b = true → b = List.replicate b.length 0
  | [], _ => rfl
  | x :: xs, h => by
    have h2 := Bool.and_eq_true_iff.1 (show (x == 0 && allZero xs) = true from h)
    rw [List.length_cons, List.replicate_succ, ← eq_replicate_of_allZero xs h2.2, eq_of_beq h2.1]

theorem takeStr_ok (b r : Bytes) (p : Nat) :
    takeStr b.length p (b ++ List.replicate (padW p) 0 ++ r) = some (b, r) := by
  have hz := takeN_append (List.replicate (padLen p) 0) r
  rw [List.length_replicate] at hz
  rw [takeStr, List.append_assoc, takeN_append, padW_eq]
  simp only [hz, allZero_replicate, if_true]

theorem decStr_strHeader (l : Nat) (h : l ≤ maxHugeStringLen) (r : Bytes) :
    decStr (strHeader l ++ r) = takeStr l (strP l) r := by
  unfold strHeader strP
  by_cases h1 : isTiny l = true
  · have h1' : l ≤ 253 := of_decide_eq_true h1
    rw [if_pos h1, if_pos h1, List.singleton_append]
    show (if (UInt8.ofNat l).toNat ≤ tinyStringLen then _ else _) = _
    rw [UInt8.toNat_ofNat_of_lt' (Nat.lt_of_le_of_lt h1' (by decide))]
    exact if_pos h1'
  · rw [if_neg h1, if_neg h1]
    by_cases h2 : isMedium l = true
    · -- `decStr.eq_2` by name, the marker tests apart: unfolding `decStr` on the literal header (`rfl`, `simp`) evaluates
      -- through `UInt8` literals and costs ten times this proof
      have c1 : ¬ (254 : UInt8).toNat ≤ tinyStringLen := by decide
      have c2 : (254 : UInt8).toNat = 254 := by decide
      have hl : l < 65536 * 256 := Nat.lt_succ_of_le (of_decide_eq_true h2)
      rw [if_pos h2]
      simp only [List.cons_append, List.nil_append]
      rw [decStr.eq_2, if_neg c1, if_pos c2]
      simp only [UInt8.toNat_ofNat', Nat.mod_mod]
      rw [mod_add_digit l 256 256, mod_add_digit l 65536 256, Nat.mod_eq_of_lt hl, if_neg h1]
    · have c1 : ¬ (255 : UInt8).toNat ≤ tinyStringLen := by decide
      have c2 : ¬ (255 : UInt8).toNat = 254 := by decide
      have hl : l < 281474976710656 * 256 := Nat.lt_succ_of_le h
      rw [if_neg h2]
      simp only [List.cons_append, List.nil_append]
      rw [decStr.eq_2, if_neg c1, if_neg c2]
      simp only [UInt8.toNat_ofNat', Nat.mod_mod]
      rw [mod_add_digit l 256 256, mod_add_digit l 65536 256,
        mod_add_digit l 16777216 256, mod_add_digit l 4294967296 256, mod_add_digit l 1099511627776 256,
        mod_add_digit l 281474976710656 256, Nat.mod_eq_of_lt hl, if_neg h2]

theorem decStr_encStr (b r : Bytes) (h : b.length ≤ maxHugeStringLen) : decStr (encStr b ++ r) = some (b, r) := by
  rw [encStr, List.append_assoc, List.append_assoc, decStr_strHeader _ h, ← List.append_assoc]
  exact takeStr_ok b r _

/-- `induction` does not handle the mutual `Vals`: its structural induction, by hand -/
theorem Vals.ind {P : Vals → Prop} (hnil : P .nil) (hcons : ∀ v vs, P vs → P (.cons v vs)) : ∀ vs, P vs
  | .nil => hnil
  | .cons v vs => hcons v vs (Vals.ind hnil hcons vs)

theorem decN_encVals (f : Val → Bytes) (g : Bytes → Option (Val × Bytes)) (p : Val → Bool)
    (hfg : ∀ v r, p v = true → g (f v ++ r) = some (v, r)) :
    ∀ vs r, allVals p vs = true → decN g vs.length (encVals f vs ++ r) = some (vs, r) := by
  intro vs
  induction vs using Vals.ind with
  | hnil =>
    intro r _
    simp [Vals.length, encVals, decN]
  | hcons v vs ih =>
    intro r h
    simp only [allVals, Bool.and_eq_true] at h
    simp only [Vals.length, encVals, decN, List.append_assoc, hfg v _ h.1, ih r h.2]

mutual
/-- The TL1 round trip, clause for clause like `wt`. No clause is written for a value of another shape than its descriptor:
    there `wt` computes to `false`, which the coverage check of the equation compiler sees by itself. -/
theorem rt_all : ∀ (d : Desc) (env : Env) (v : Val) (r : Bytes), wt d env v = true →
    dec d env (enc d env v ++ r) = some (v, r)
  | .nat, _, .nat n, r, h => by
    simp only [enc, dec, readNat_le32 n (of_decide_eq_true h)]
  | .fixed w, _, .raw b, r, h => by
    rw [enc, dec, ← eq_of_beq h, takeN_append]
  | .str, _, .str b, r, h => by
    simp only [enc, dec, decStr_encStr b r (of_decide_eq_true h)]
  | .vec t, env, .list vs, r, h => by
    rw [wt, Bool.and_eq_true, decide_eq_true_eq] at h
    rw [enc, dec, List.append_assoc, readNat_le32 _ h.1]
    simp only [decN_encVals (enc t env) (dec t env) (wt t env) (rt_all t env) vs r h.2]
  | .tup n t, env, .list vs, r, h => by
    rw [wt, Bool.and_eq_true, beq_iff_eq] at h
    rw [enc, dec, ← h.1]
    simp only [decN_encVals (enc t env) (dec t env) (wt t env) (rt_all t env) vs r h.2]
  | .struct args fs, env, .recd vs, r, h => by
    simp only [enc, dec, rtf_all fs (evalArgs env args) vs r h]
  | .boxed tag t, env, v, r, h => by
    rw [wt, Bool.and_eq_true, decide_eq_true_eq] at h
    simp only [enc, dec, List.append_assoc, readNat_le32 _ h.1, if_true, rt_all t env v r h.2]
  | .union alts, env, .alt i v, r, h => by
    obtain ⟨ht, hd⟩ := rta_all alts env i v r 0 h
    simp only [enc, dec, List.append_assoc, readNat_le32 _ ht, hd, Nat.zero_add]
theorem rtf_all : ∀ (fs : Flds) (env : Env) (vs : Vals) (r : Bytes), wtFlds fs env vs = true →
    decFlds fs env (encFlds fs env vs ++ r) = some (vs, r)
  | .nil, _, .nil, _, _ => rfl
  | .natF rest, env, .cons (.nat n) vs, r, h => by
    rw [wtFlds, Bool.and_eq_true, decide_eq_true_eq] at h
    simp only [encFlds, decFlds, List.append_assoc, readNat_le32 _ h.1, rtf_all rest _ vs r h.2]
  | .fld t rest, env, .cons v vs, r, h => by
    rw [wtFlds, Bool.and_eq_true] at h
    simp only [encFlds, decFlds, List.append_assoc, rt_all t env v _ h.1, rtf_all rest env vs r h.2]
  | .opt m bit t rest, env, .cons v vs, r, h => by
    by_cases hb : bitSet env m bit = true
    · rw [wtFlds, if_pos hb, Bool.and_eq_true] at h
      rw [encFlds, decFlds, if_pos hb, if_pos hb]
      simp only [List.append_assoc, rt_all t env v _ h.1, rtf_all rest env vs r h.2]
    · rw [wtFlds, if_neg hb, Bool.and_eq_true] at h
      rw [encFlds, decFlds, if_neg hb, if_neg hb]
      cases v <;> simp [Val.isNone] at h
      simp only [rtf_all rest env vs r h]
/-- `k` = alternatives already passed; the bound on the tag is what lets the union case read it back with `readNat_le32` -/
theorem rta_all : ∀ (alts : Alts) (env : Env) (i : Nat) (v : Val) (r : Bytes) (k : Nat), wtAlt alts env i v = true →
    tagAt alts i < 4294967296 ∧
    decAlts alts env (tagAt alts i) (encAlt alts env i v ++ r) k = some (.alt (k + i) v, r)
  | .cons tag t rest, env, 0, v, r, k, h => by
    simp only [wtAlt, Bool.and_eq_true, decide_eq_true_eq] at h
    refine ⟨h.1, ?_⟩
    simp only [tagAt, encAlt, decAlts, if_true, rt_all t env v r h.2, Nat.add_zero]
  | .cons tag t rest, env, i + 1, v, r, k, h => by
    simp only [wtAlt, Bool.and_eq_true, bne_iff_ne, ne_eq] at h
    obtain ⟨ht, hd⟩ := rta_all rest env i v r (k + 1) h.2
    refine ⟨ht, ?_⟩
    simp only [tagAt, encAlt, decAlts, h.1, if_false, hd, Nat.add_assoc, Nat.add_comm 1 i]
end

end SH.C14
