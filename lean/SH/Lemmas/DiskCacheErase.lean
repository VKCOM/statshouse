/-
  SH.Lemmas.DiskCacheErase — GetBucket and EraseBucket under the invariant: `get_at`; where a known second lives (`BucketAt`);
  `inv_erase`: EraseBucket removes the second with this id from the live sequence, whether its file stays or goes with it.
-/
import SH.Lemmas.DiskCacheRead

namespace SH.C09
open SH.DiskCache

theorem readBody_at (cfg : Cfg) (r1 r2 : List ARec) (r : ARec) (tl : Bytes) (id name t c : Nat) :
    readBody (encRecs cfg (r1 ++ r :: r2) ++ tl) ⟨id, name, recsLen r1, t, r.body.length, c⟩ = r.body := by
  unfold readBody
  rw [encRecs_mid]
  simp only
  rw [← List.drop_drop, ← encRecs_length cfg r1, List.drop_left]
  have : headerSize = (encHeader r.magic r.time r.body.length (cfg.crc r.body)).length := by simp [encHeader_length, headerSize]
  rw [this, List.drop_left, List.take_left]

theorem Abs.bucket_view {cfg : Cfg} {a : Abs} {b : Bucket} (hb : b ∈ a.buckets cfg) :
    ∃ f ∈ a.files, ∃ r1 r r2, f.recs = r1 ++ r :: r2 ∧ r.id = some b.id ∧
      b = ⟨b.id, f.name, recsLen r1, r.time, r.body.length, cfg.crc r.body⟩ := by
  obtain ⟨f, hf, hbf⟩ := List.mem_flatMap.mp hb
  obtain ⟨r1, r, r2, h1, h2, h3⟩ := mem_bucketsAt cfg f.name b 0 f.recs hbf
  exact ⟨f, hf, r1, r, r2, h1, h2, by simpa using h3⟩

theorem findB_some {bs : List Bucket} {id : Nat} {b : Bucket} (h : findB bs id = some b) : b ∈ bs ∧ b.id = id := by
  unfold findB at h
  exact ⟨List.mem_of_find?_eq_some h, by simpa using List.find?_some h⟩

theorem Inv.findB_of_mem {cfg : Cfg} {s : Shard} {a : Abs} (inv : Inv cfg s a) {b : Bucket} (hb : b ∈ a.buckets cfg) :
    findB s.known b.id = some b := by
  have hk : b ∈ s.known := (inv.known b).mpr hb
  cases h : findB s.known b.id with
  | none =>
    unfold findB at h
    rw [List.find?_eq_none] at h
    have := h b hk
    simp at this
  | some b' =>
    obtain ⟨h1, h2⟩ := findB_some h
    have hb' : b' ∈ a.buckets cfg := (inv.known b').mp h1
    have := Lists.nodup_map_inj (fun x : Bucket => x.id) inv.idsNodup b' hb' b hb h2
    rw [this]

/-- under the invariant GetBucket on the id of a record returns exactly the bytes that were put, and changes nothing -/
theorem get_at (cfg : Cfg) (s : Shard) (a : Abs) (inv : Inv cfg s a) (f : AFile) (hf : f ∈ a.files) (r1 r2 : List ARec) (r : ARec)
    (k : Nat) (hrec : f.recs = r1 ++ r :: r2) (hid : r.id = some k) : DiskCache.get cfg s k r.time = (s, .ok r.body) := by
  have hb : (⟨k, f.name, 0 + recsLen r1, r.time, r.body.length, cfg.crc r.body⟩ : Bucket) ∈ a.buckets cfg :=
    List.mem_flatMap.mpr ⟨f, hf, by unfold fbuckets; rw [hrec]; exact bucketsAt_mem cfg f.name 0 r1 r2 r k hid⟩
  have hfb : findB s.known k = some _ := inv.findB_of_mem hb
  unfold DiskCache.get
  rw [hfb]
  simp only [bne_self_eq_false, Bool.false_eq_true, if_false]
  have hbody : readBody (DiskCache.fileBytes s.disk f.name) ⟨k, f.name, 0 + recsLen r1, r.time, r.body.length, cfg.crc r.body⟩ =
      r.body := by
    rw [inv.fileBytes_of_mem hf, AFile.bytes, hrec, Nat.zero_add]
    exact readBody_at cfg r1 r2 r f.tl _ _ _ _
  rw [hbody]
  simp

theorem get_known (cfg : Cfg) (s : Shard) (a : Abs) (inv : Inv cfg s a) (b : Bucket) (hb : b ∈ a.buckets cfg) :
    ∃ f ∈ a.files, ∃ r1 r r2, f.recs = r1 ++ r :: r2 ∧ r.id = some b.id ∧ r.time = b.time ∧
      DiskCache.get cfg s b.id b.time = (s, .ok r.body) := by
  obtain ⟨f, hf, r1, r, r2, h1, h2, h3⟩ := Abs.bucket_view hb
  have ht : r.time = b.time := by rw [h3]
  exact ⟨f, hf, r1, r, r2, h1, h2, ht, ht ▸ get_at cfg s a inv f hf r1 r2 r b.id h1 h2⟩

theorem get_state (cfg : Cfg) (s : Shard) (a : Abs) (inv : Inv cfg s a) (id t : Nat) : (DiskCache.get cfg s id t).1 = s := by
  cases h : findB s.known id with
  | none => simp [DiskCache.get, h]
  | some b =>
    obtain ⟨hbk, hbid⟩ := findB_some h
    have hb := (inv.known b).mp hbk
    by_cases ht : b.time = t
    · obtain ⟨_, _, _, _, _, _, _, _, hg⟩ := get_known cfg s a inv b hb
      rw [hbid, ht] at hg
      rw [hg]
    · unfold DiskCache.get
      rw [h]
      have : (b.time != t) = true := by simp [ht]
      simp [this]

def ARec.erased (r : ARec) : ARec := { r with magic := magicDeleted, id := none }
def eraseRec (k : Nat) (r : ARec) : ARec := if r.id = some k then r.erased else r
def eraseF (k : Nat) (f : AFile) : AFile := f.setRecs (f.recs.map (eraseRec k))

def Abs.eraseA (a : Abs) (k : Nat) : Abs :=
  { a with pre := a.pre.map (eraseF k), cur := a.cur.map (fun p => (eraseF k p.1, p.2)),
           wait := a.wait.map (eraseF k), new := a.new.map (eraseF k) }

theorem eraseRec_len (k : Nat) (r : ARec) : (eraseRec k r).len = r.len := by
  unfold eraseRec; split <;> simp [ARec.erased, ARec.len]

theorem recsLen_erase (k : Nat) (rs : List ARec) : recsLen (rs.map (eraseRec k)) = recsLen rs := by
  induction rs with
  | nil => rfl
  | cons r rs ih => simp [recsLen, ih, eraseRec_len]

theorem map_eraseRec_id (k : Nat) (rs : List ARec) (h : ∀ r ∈ rs, r.id ≠ some k) : rs.map (eraseRec k) = rs := by
  induction rs with
  | nil => rfl
  | cons r rs ih =>
    simp [eraseRec, h r (by simp), ih (fun q hq => h q (by simp [hq]))]

theorem bucketsAt_erase (cfg : Cfg) (name k : Nat) : ∀ (off : Nat) (rs : List ARec),
    bucketsAt cfg name off (rs.map (eraseRec k)) = (bucketsAt cfg name off rs).filter (fun b => b.id != k) := by
  intro off rs
  induction rs generalizing off with
  | nil => rfl
  | cons r rs ih =>
    simp only [List.map_cons, bucketsAt, List.filter_append, eraseRec_len, ih]
    congr 1
    unfold eraseRec
    cases hid : r.id with
    | none => simp [bucketOf, hid]
    | some j =>
      by_cases hj : j = k
      · subst hj; simp [bucketOf, hid, ARec.erased]
      · have : ¬ (some j = some k) := by simp [hj]
        simp [bucketOf, hid, this, hj]

theorem Abs.files_erase (a : Abs) (k : Nat) : (a.eraseA k).files = a.files.map (eraseF k) := by
  cases hc : a.cur with
  | none => simp [Abs.files, Abs.curL, Abs.eraseA, hc]
  | some p => simp [Abs.files, Abs.curL, Abs.eraseA, hc]

theorem Abs.cur_erase {a : Abs} {k : Nat} {g : AFile} {j : Nat} (h : (a.eraseA k).cur = some (g, j)) :
    ∃ g1, a.cur = some (g1, j) ∧ g1 ∈ a.files ∧ g = eraseF k g1 := by
  cases hc : a.cur with
  | none => simp [Abs.eraseA, hc] at h
  | some p =>
    obtain ⟨g1, j1⟩ := p
    simp only [Abs.eraseA, hc, Option.map_some, Option.some.injEq, Prod.mk.injEq] at h
    exact ⟨g1, by rw [h.2], by simp [Abs.files, Abs.curL, hc], h.1.symm⟩

theorem Abs.buckets_erase (cfg : Cfg) (a : Abs) (k : Nat) :
    (a.eraseA k).buckets cfg = (a.buckets cfg).filter (fun b => b.id != k) := by
  unfold Abs.buckets
  rw [Abs.files_erase, List.flatMap_map, List.filter_flatMap]
  congr 1
  funext f
  simp [fbuckets, eraseF, AFile.setRecs, bucketsAt_erase]

theorem erased_enc (cfg : Cfg) (pre rest : Bytes) (r : ARec) :
    writeAt (pre ++ (r.enc cfg ++ rest)) pre.length (le 4 magicDeleted) = pre ++ (r.erased.enc cfg ++ rest) := by
  simp only [ARec.enc, List.append_assoc]
  exact writeAt_magic pre _ _ _ _ _ _

theorem prefix_eq_of_recsLen : ∀ (p1 r1 p2 r2 : List ARec) (q r : ARec),
    p1 ++ q :: p2 = r1 ++ r :: r2 → recsLen p1 = recsLen r1 → p1 = r1 := by
  intro p1
  induction p1 with
  | nil =>
    intro r1 p2 r2 q r _ hl
    cases r1 with
    | nil => rfl
    | cons x r1 => have := ARec.len_pos x; simp [recsLen] at hl; omega
  | cons y p1 ih =>
    intro r1 p2 r2 q r h hl
    cases r1 with
    | nil => have := ARec.len_pos y; simp [recsLen] at hl; omega
    | cons x r1 =>
      simp at h
      obtain ⟨h1, h2⟩ := h
      subst h1
      simp [recsLen] at hl
      rw [ih r1 p2 r2 q r h2 hl]

/-- where the known second `b` lives (file `f`, record `r` between `r1` and `r2`), and that its id occurs nowhere else -/
structure BucketAt (cfg : Cfg) (a : Abs) (b : Bucket) (f : AFile) (r1 : List ARec) (r : ARec) (r2 : List ARec) : Prop where
  mem : f ∈ a.files
  recs : f.recs = r1 ++ r :: r2
  id : r.id = some b.id
  bucket : b = ⟨b.id, f.name, recsLen r1, r.time, r.body.length, cfg.crc r.body⟩
  recUnique : ∀ q ∈ r1 ++ r2, q.id ≠ some b.id
  fileUnique : ∀ g ∈ a.files, g ≠ f → ∀ q ∈ g.recs, q.id ≠ some b.id

theorem BucketAt.file {cfg : Cfg} {a : Abs} {b : Bucket} {f : AFile} {r1 r2 : List ARec} {r : ARec}
    (h : BucketAt cfg a b f r1 r r2) : b.file = f.name := by rw [h.bucket]

theorem BucketAt.pos {cfg : Cfg} {a : Abs} {b : Bucket} {f : AFile} {r1 r2 : List ARec} {r : ARec}
    (h : BucketAt cfg a b f r1 r r2) : b.pos = recsLen r1 := by rw [h.bucket]

theorem BucketAt.size {cfg : Cfg} {a : Abs} {b : Bucket} {f : AFile} {r1 r2 : List ARec} {r : ARec}
    (h : BucketAt cfg a b f r1 r r2) : b.size = r.body.length := by rw [h.bucket]

theorem Inv.bucketAt {cfg : Cfg} {s : Shard} {a : Abs} (inv : Inv cfg s a) {b : Bucket} (hb : b ∈ a.buckets cfg) :
    ∃ f r1 r r2, BucketAt cfg a b f r1 r r2 := by
  obtain ⟨f, hf, r1, r, r2, h1, h2, h3⟩ := Abs.bucket_view hb
  have key : ∀ g ∈ a.files, ∀ p1 q p2, g.recs = p1 ++ q :: p2 → q.id = some b.id → g = f ∧ p1 = r1 := by
    intro g hg p1 q p2 hrec hq
    have hb' : (⟨b.id, g.name, 0 + recsLen p1, q.time, q.body.length, cfg.crc q.body⟩ : Bucket) ∈ a.buckets cfg := by
      apply List.mem_flatMap.mpr
      refine ⟨g, hg, ?_⟩
      unfold fbuckets; rw [hrec]
      exact bucketsAt_mem cfg g.name 0 p1 p2 q b.id hq
    have := Lists.nodup_map_inj (fun x : Bucket => x.id) inv.idsNodup _ hb' b hb rfl
    rw [h3] at this
    simp only [Bucket.mk.injEq, Nat.zero_add] at this
    obtain ⟨_, hn, hp, _⟩ := this
    have hgf : g = f := inv.name_inj hg hf hn
    subst hgf
    rw [h1] at hrec
    exact ⟨rfl, prefix_eq_of_recsLen p1 r1 p2 r2 q r hrec.symm hp⟩
  refine ⟨f, r1, r, r2, hf, h1, h2, h3, ?_, ?_⟩
  · intro q hq hqid
    rcases List.mem_append.mp hq with h | h
    · obtain ⟨p1, p2, hp⟩ := List.append_of_mem h
      have := (key f hf p1 q (p2 ++ r :: r2) (by rw [h1, hp]; simp) hqid).2
      rw [hp] at this
      -- a list is not its own strict prefix (likewise below)
      exact List.cons_ne_nil q p2 (List.self_eq_append_right.mp this)
    · obtain ⟨p1, p2, hp⟩ := List.append_of_mem h
      have := (key f hf (r1 ++ r :: p1) q p2 (by rw [h1, hp]; simp) hqid).2
      exact List.cons_ne_nil r p1 (List.append_right_eq_self.mp this)
  · intro g hg hgf q hq hqid
    obtain ⟨p1, p2, hp⟩ := List.append_of_mem hq
    exact hgf (key g hg p1 q p2 hp hqid).1

theorem AFile.setRecs_self (f : AFile) : f.setRecs f.recs = f := by cases f; rfl

theorem getLast?_map_name (l : List AFile) (g : AFile → AFile) (hg : ∀ x, (g x).name = x.name) :
    (l.map g).getLast?.map (·.name) = l.getLast?.map (·.name) := by
  rw [List.getLast?_map]
  cases l.getLast? <;> simp [hg]

theorem erased_wf (cfg : Cfg) (r : ARec) (h : r.WF cfg) : r.erased.WF cfg := by
  obtain ⟨a1, a2, a3, a4, _, _⟩ := h
  refine ⟨by show magicDeleted < 2 ^ 32; decide, a2, a3, a4, ?_, ?_⟩
  · intro hd
    have : ARec.dead cfg r.erased = true := isDeleted_deleted cfg
    rw [this] at hd; cases hd
  · intro hid; simp [ARec.erased] at hid

theorem BucketAt.erase_self {cfg : Cfg} {a : Abs} {b : Bucket} {f : AFile} {r1 r2 : List ARec} {r : ARec}
    (h : BucketAt cfg a b f r1 r r2) : eraseF b.id f = f.setRecs (r1 ++ r.erased :: r2) := by
  simp only [eraseF, h.recs, List.map_append, List.map_cons]
  rw [map_eraseRec_id _ r1 (fun q hq => h.recUnique q (by simp [hq])), map_eraseRec_id _ r2 (fun q hq => h.recUnique q (by simp [hq]))]
  simp [eraseRec, h.id]

theorem BucketAt.erase_other {cfg : Cfg} {a : Abs} {b : Bucket} {f : AFile} {r1 r2 : List ARec} {r : ARec}
    (h : BucketAt cfg a b f r1 r r2) : ∀ g ∈ a.files, g ≠ f → eraseF b.id g = g := by
  intro g hg hgf
  simp only [eraseF]
  rw [map_eraseRec_id _ _ (h.fileUnique g hg hgf), AFile.setRecs_self]

theorem mapDisk_erase (cfg : Cfg) (a : Abs) (b : Bucket) (f : AFile) (r1 r2 : List ARec) (r : ARec)
    (ef : BucketAt cfg a b f r1 r r2) (hinj : ∀ g ∈ a.files, g.name = f.name → g = f) :
    mapDisk (a.files.map (AFile.render cfg)) f.name (fun x => writeAt x (recsLen r1) (le 4 magicDeleted)) =
      (a.files.map (eraseF b.id)).map (AFile.render cfg) := by
  unfold mapDisk
  rw [List.map_map, List.map_map]
  apply List.map_congr_left
  intro g hg
  simp only [Function.comp]
  by_cases hgn : g.name = f.name
  · have := hinj g hg hgn; subst this
    have h1 : ((AFile.render cfg g).name == g.name) = true := by simp [AFile.render]
    rw [if_pos h1, ef.erase_self]
    simp only [AFile.render, AFile.bytes, AFile.setRecs, ef.recs, encRecs_append, encRecs]
    congr 1
    have := erased_enc cfg (encRecs cfg r1) (encRecs cfg r2 ++ g.tl) r
    rw [encRecs_length] at this
    simpa [List.append_assoc] using this
  · have h1 : ((AFile.render cfg g).name == f.name) = false := by simp [AFile.render, hgn]
    rw [h1]; simp only [Bool.false_eq_true, if_false]
    rw [ef.erase_other g hg (fun h => hgn (by rw [h]))]

theorem size_erase (cfg : Cfg) (k : Nat) (g : AFile) : (eraseF k g).size cfg = g.size cfg := by
  simp [AFile.size, AFile.bytes, eraseF, AFile.setRecs, encRecs_length, recsLen_erase]

theorem sizeSum_erase (cfg : Cfg) (k : Nat) (l : List AFile) : sizeSum cfg (l.map (eraseF k)) = sizeSum cfg l := by
  simp only [sizeSum, List.map_map]
  exact congrArg List.sum (List.map_congr_left (fun g _ => by simp [size_erase]))

theorem forall_eraseF {P : ARec → Prop} {k : Nat} (hP : ∀ q, P q → P (eraseRec k q)) {g : AFile} (h : ∀ q ∈ g.recs, P q) :
    ∀ q ∈ (eraseF k g).recs, P q := by
  intro q hq
  obtain ⟨q0, hq0, rfl⟩ := List.mem_map.mp hq
  exact hP q0 (h q0 hq0)

theorem filter_none_of (l : List Bucket) (k : Nat) (h : ∀ x ∈ l, x.id ≠ k) : l.filter (fun x => x.id != k) = l := by
  rw [List.filter_eq_self]
  intro y hy
  simp [h y hy]

theorem len_filter_remove (l : List Bucket) (b : Bucket) (hnd : (l.map (·.id)).Nodup) (hb : b ∈ l) :
    (l.filter (fun x => x.id != b.id)).length + 1 = l.length :=
  (perm_cons_filter_key (·.id) b l hnd hb).length_eq.symm

theorem inv_erase_keep (cfg : Cfg) (s : Shard) (a : Abs) (b : Bucket) (o : OFile) (inv : Inv cfg s a)
    (hb : b ∈ a.buckets cfg) {f : AFile} {r1 r2 : List ARec} {r : ARec} (ef : BucketAt cfg a b f r1 r r2)
    (ho : findO s.ofiles f.name = some o) (hz : ¬ o.refCount - 1 = 0) :
    Inv cfg (eraseKnown s b) (a.eraseA b.id) := by
  have hinj : ∀ g ∈ a.files, g.name = f.name → g = f := fun g hg h => inv.name_inj hg ef.mem h
  have hfiles1 := Abs.files_erase a b.id
  have hB1 := Abs.buckets_erase cfg a b.id
  have hrn1 : (a.eraseA b.id).rname = a.rname := by
    cases hc : a.cur <;> simp [Abs.rname, Abs.eraseA, hc, eraseF, AFile.setRecs]
  have hwn1 : (a.eraseA b.id).wname = a.wname := by
    have := getLast?_map_name a.new (eraseF b.id) (fun _ => rfl)
    simp only [Abs.wname, Abs.eraseA, this]
  have hidcf : idc (eraseF b.id f).recs + 1 = idc f.recs := by
    rw [ef.erase_self, ef.recs]; simp only [AFile.setRecs, idc_append]
    simp [idc, hasId, ARec.erased, ef.id]; omega
  have hrefs_other : ∀ g ∈ a.files, g ≠ f → (a.eraseA b.id).refs (eraseF b.id g) = a.refs g := by
    intro g hg hgf
    rw [ef.erase_other g hg hgf]; simp only [Abs.refs, hrn1, hwn1]
  have hrefs_f : (a.eraseA b.id).refs (eraseF b.id f) = a.refs f - 1 :=
    (Int.sub_eq_iff_eq_add.mpr (Abs.refs_succ (f := eraseF b.id f) (f' := f) rfl hrn1.symm hwn1.symm hidcf.symm)).symm
  obtain ⟨hon, horc, hopos, hosz, hocur⟩ := inv.ofile_of_mem ef.mem ho
  have hposf : 0 < a.refs f - 1 := pred_pos_of_ne hopos (horc ▸ hz)
  simp only [eraseKnown]
  rw [ef.file, ef.pos, ef.size, unref_keep (s := { s with disk := mapDisk s.disk f.name (fun x => writeAt x (recsLen r1) (le 4 magicDeleted)) }) ho hz]
  have hwfrec : ∀ q : ARec, q.WF cfg → (eraseRec b.id q).WF cfg := by
    intro q hq
    unfold eraseRec
    split
    · exact erased_wf cfg q hq
    · exact hq
  have hunread : ∀ q, unread cfg q = false → unread cfg (eraseRec b.id q) = false := by
    intro q hq
    unfold eraseRec; split
    · simp [unread, ARec.erased, ARec.dead, isDeleted_deleted]
    · exact hq
  have hidnone : ∀ q : ARec, q.id = none → (eraseRec b.id q).id = none := by
    intro q hq; unfold eraseRec; split <;> simp [ARec.erased, hq]
  refine { inv with
           disk := ?_, names := ?_, namesLt := ?_, wf := ?_, newTl := ?_, preRead := ?_, newRead := ?_, waitIds := ?_, curOk := ?_,
           idsLe := ?_, idsNodup := ?_, known := ?_, ofiles := ?_, reading := ?_, writing := ?_, writingSome := ?_, waiting := ?_,
           total := ?_, knownSize := ?_, waitingSize := ?_, present := ?_ }
  · show (mapDisk s.disk f.name fun x => writeAt x (recsLen r1) (le 4 magicDeleted)) = _
    rw [hfiles1, inv.disk]
    exact mapDisk_erase cfg a b f r1 r2 r ef hinj
  · rw [hfiles1, List.map_map]; exact inv.names
  · rw [hfiles1]; exact List.forall_mem_map.mpr inv.namesLt
  · rw [hfiles1]
    exact List.forall_mem_map.mpr (fun g hg => ⟨forall_eraseF hwfrec (inv.wf g hg).1, (inv.wf g hg).2⟩)
  · exact List.forall_mem_map.mpr inv.newTl
  · exact List.forall_mem_map.mpr (fun g hg => forall_eraseF hunread (inv.preRead g hg))
  · exact List.forall_mem_map.mpr (fun g hg => forall_eraseF hunread (inv.newRead g hg))
  · exact List.forall_mem_map.mpr (fun g hg => forall_eraseF hidnone (inv.waitIds g hg))
  · intro g j h
    obtain ⟨g1, hc, -, rfl⟩ := Abs.cur_erase h
    obtain ⟨c1, c2, c3⟩ := inv.curOk g1 j hc
    refine ⟨by simpa [eraseF, AFile.setRecs] using c1, ?_, ?_⟩
    · intro q hq
      simp only [eraseF, AFile.setRecs, ← List.map_take, List.mem_map] at hq
      obtain ⟨q0, hq0, rfl⟩ := hq
      exact hunread q0 (c2 q0 hq0)
    · intro q hq
      simp only [eraseF, AFile.setRecs, ← List.map_drop, List.mem_map] at hq
      obtain ⟨q0, hq0, rfl⟩ := hq
      exact hidnone q0 (c3 q0 hq0)
  · rw [hB1]; intro x hx; exact inv.idsLe x (List.mem_filter.mp hx).1
  · rw [hB1]
    exact (List.Sublist.map _ List.filter_sublist).nodup inv.idsNodup
  · intro x
    rw [hB1]
    simp only [List.mem_filter, inv.known x]
  · intro name
    by_cases hn : name = f.name
    · subst hn
      rw [findO_mapO s.ofiles f.name (fun g => { g with refCount := g.refCount - 1 }) o (fun _ => rfl) ho]
      refine ⟨hon, eraseF b.id f, by rw [hfiles1]; exact List.mem_map.mpr ⟨f, ef.mem, rfl⟩, rfl, ?_, ?_, ?_, ?_⟩
      · rw [hrefs_f]; simp [horc]
      · rw [hrefs_f]; exact hposf
      · rw [hosz, size_erase]
      · intro j h
        obtain ⟨g1, hc, hg1, h1⟩ := Abs.cur_erase h
        have : g1 = f := hinj g1 hg1 (congrArg AFile.name h1).symm
        subst this
        simp only [hocur j hc, eraseF, AFile.setRecs, ← List.map_take, recsLen_erase]
    · have hne : ∀ g : AFile, g.name = name → g ≠ f := fun g hgn e => hn (hgn.symm.trans (congrArg AFile.name e))
      refine inv.ofiles_other (findO_mapO_ne _ _ _ _ (fun _ => rfl) hn) ?_ ?_ ?_
      · intro g hgn
        rw [hfiles1, List.mem_map]
        constructor
        · rintro ⟨g1, hg1, rfl⟩
          rwa [ef.erase_other g1 hg1 (hne g1 hgn)]
        · intro hg
          exact ⟨g, hg, ef.erase_other g hg (hne g hgn)⟩
      · intro g hg hgn
        have := hrefs_other g hg (hne g hgn)
        rwa [ef.erase_other g hg (hne g hgn)] at this
      · intro g j hgn h
        obtain ⟨g2, hc, hg2, rfl⟩ := Abs.cur_erase h
        rw [ef.erase_other g2 hg2 (hne g2 hgn)]
        exact hc
  · show s.reading = _; rw [hrn1]; exact inv.reading
  · show s.writing = _; rw [hwn1]; exact inv.writing
  · intro h; have := inv.writingSome h; simpa [Abs.eraseA] using this
  · show s.waiting = _
    rw [inv.waiting]; simp only [Abs.eraseA, List.map_map]
    exact List.map_congr_left (fun g _ => by simp only [Function.comp, size_erase]; rfl)
  · show s.total = _
    rw [inv.total, hfiles1, sizeSum_erase]
  · show s.knownSize - _ = _
    rw [hB1, inv.knownSize, sum_filter_key (·.id) bsize b _ inv.idsNodup hb]
    simp [bsize, ef.size]
  · show s.waitingSize = _
    rw [inv.waitingSize]
    exact (sizeSum_erase cfg b.id a.wait).symm
  · intro g hg
    have hg' : ∃ g1 ∈ a.pre ++ a.new, g = eraseF b.id g1 := by
      simp only [Abs.eraseA, List.mem_append, List.mem_map] at hg
      rcases hg with ⟨g1, h1, rfl⟩ | ⟨g1, h1, rfl⟩
      · exact ⟨g1, by simp [h1], rfl⟩
      · exact ⟨g1, by simp [h1], rfl⟩
    obtain ⟨g1, hg1, rfl⟩ := hg'
    have hg1f : g1 ∈ a.files := mem_files_of_pre_new hg1
    by_cases hgf : g1 = f
    · subst hgf; rw [hrefs_f]; exact hposf
    · rw [hrefs_other g1 hg1f hgf]; exact inv.present g1 hg1

def liveErase (k : Nat) (l : List LiveE) : List LiveE := l.filter (fun e => e.1 != some k)

theorem liveRecs_erase (cfg : Cfg) (k : Nat) (rs : List ARec) (hwf : ∀ q ∈ rs, q.id ≠ none → q.dead cfg = false) :
    liveRecs cfg (rs.map (eraseRec k)) = liveErase k (liveRecs cfg rs) := by
  induction rs with
  | nil => rfl
  | cons q rs ih =>
    have ih' := ih (fun x hx => hwf x (by simp [hx]))
    simp only [liveRecs, liveErase, List.map_cons, List.filter_cons] at ih' ⊢
    unfold eraseRec
    by_cases hq : q.id = some k
    · have hd : q.dead cfg = false := hwf q (by simp) (by rw [hq]; simp)
      have hde : ARec.dead cfg q.erased = true := isDeleted_deleted cfg
      simp only [hq, if_true, hde, hd, Bool.not_true, Bool.false_eq_true, if_false, Bool.not_false, List.map_cons, List.filter_cons]
      simp only [bne_self_eq_false, Bool.false_eq_true, if_false]
      exact ih'
    · simp only [hq, if_false]
      cases hd : q.dead cfg
      · simp only [Bool.not_false, if_true, List.map_cons, List.filter_cons]
        have : ((q.id, q.time, q.body).1 != some k) = true := by simp [hq]
        rw [this]; simp only [if_true]; exact congrArg ((q.id, q.time, q.body) :: ·) ih'
      · simp only [Bool.not_true, Bool.false_eq_true, if_false]; exact ih'

theorem Abs.live_erase (cfg : Cfg) (a : Abs) (k : Nat) (hwf : ∀ f ∈ a.files, ∀ q ∈ f.recs, q.id ≠ none → q.dead cfg = false) :
    (a.eraseA k).live cfg = liveErase k (a.live cfg) := by
  unfold Abs.live
  rw [Abs.files_erase, List.flatMap_map]
  unfold liveErase
  rw [List.filter_flatMap]
  apply flatMap_congr_left
  intro f hf
  exact liveRecs_erase cfg k f.recs (hwf f hf)

theorem rec_id_bucket (cfg : Cfg) (g : AFile) (q : ARec) (k : Nat) (hq : q ∈ g.recs) (hid : q.id = some k) :
    ∃ x ∈ fbuckets cfg g, x.id = k := by
  obtain ⟨p1, p2, hp⟩ := List.append_of_mem hq
  exact ⟨_, by unfold fbuckets; rw [hp]; exact bucketsAt_mem cfg g.name 0 p1 p2 q k hid, rfl⟩

theorem live_entry_rec (cfg : Cfg) (g : AFile) (e : LiveE) (he : e ∈ fLive cfg g) :
    ∃ q ∈ g.recs, q.dead cfg = false ∧ e = (q.id, q.time, q.body) := by
  simp only [fLive, liveRecs, List.mem_map, List.mem_filter] at he
  obtain ⟨q, ⟨hq, hd⟩, rfl⟩ := he
  exact ⟨q, hq, by simpa using hd, rfl⟩

theorem liveErase_id_of (cfg : Cfg) (g : AFile) (k : Nat) (h : ∀ x ∈ fbuckets cfg g, x.id ≠ k) :
    liveErase k (fLive cfg g) = fLive cfg g := by
  apply List.filter_eq_self.mpr
  intro e he
  obtain ⟨q, hq, _, rfl⟩ := live_entry_rec cfg g e he
  simp only [bne_iff_ne, ne_eq]
  intro hid
  obtain ⟨x, hx, hxk⟩ := rec_id_bucket cfg g q k hq hid
  exact h x hx hxk

theorem mapDisk_filter (d : List DFile) (n : Nat) (g : Bytes → Bytes) :
    (mapDisk d n g).filter (fun f => f.name != n) = d.filter (fun f => f.name != n) := by
  induction d with
  | nil => rfl
  | cons x d ih =>
    have e : mapDisk (x :: d) n g = (if x.name == n then { x with bytes := g x.bytes } else x) :: mapDisk d n g := rfl
    rw [e]
    by_cases hx : x.name = n
    · have h1 : (x.name == n) = true := by simp [hx]
      rw [h1]; simp only [if_true, List.filter_cons]
      have h2 : (x.name != n) = false := by simp [hx]
      rw [h2]; simp only [Bool.false_eq_true, if_false]; exact ih
    · have h1 : (x.name == n) = false := by simp [hx]
      rw [h1]; simp only [Bool.false_eq_true, if_false, List.filter_cons]
      have h2 : (x.name != n) = true := by simp [hx]
      rw [h2]; simp only [if_true]; rw [ih]

/-- The erased second was the last reference to its file: the count is 1 with a bucket inside, so the file holds exactly that
    bucket, neither head is on it and it lies in `pre ++ new`; `inv_drop_core` applies, and the live sequence loses exactly `b`
    (the abstract state forgets the file, it does not keep an erased record). -/
theorem inv_erase_drop (cfg : Cfg) (s : Shard) (a : Abs) (b : Bucket) (o : OFile) (inv : Inv cfg s a)
    {f : AFile} {r1 r2 : List ARec} {r : ARec} (ef : BucketAt cfg a b f r1 r r2)
    (ho : findO s.ofiles f.name = some o) (hz : o.refCount - 1 = 0) :
    ∃ a', Inv cfg (eraseKnown s b) a' ∧ a'.live cfg = liveErase b.id (a.live cfg) ∧ a'.lastID = a.lastID := by
  have hinj : ∀ g ∈ a.files, g.name = f.name → g = f := fun g hg h => inv.name_inj hg ef.mem h
  obtain ⟨-, horc, -, hosz, -⟩ := inv.ofile_of_mem ef.mem ho
  have hbin : b ∈ fbuckets cfg f := by
    unfold fbuckets; rw [ef.recs, ef.bucket]
    have := bucketsAt_mem cfg f.name 0 r1 r2 r b.id ef.id
    simpa using this
  have hidc : idc f.recs = (fbuckets cfg f).length := idc_eq_len cfg f.name 0 f.recs
  have hlenpos : 0 < (fbuckets cfg f).length := List.length_pos_of_mem hbin
  have hrefs1 : a.refs f = 1 := by omega
  have hidc1 : (fbuckets cfg f).length = 1 ∧ a.rname ≠ some f.name ∧ a.wname ≠ some f.name :=
    hidc ▸ Abs.refs_eq_one_of_idc_pos hrefs1 (hidc ▸ hlenpos)
  have hfb : fbuckets cfg f = [b] := by
    cases hl : fbuckets cfg f with
    | nil => rw [hl] at hbin; simp at hbin
    | cons x xs =>
      rw [hl] at hbin hidc1
      have : xs = [] := by
        have := hidc1.1; simp at this; exact this
      subst this; simp at hbin; rw [hbin]
  have hfw : f ∉ a.wait := by
    intro h
    have := inv.waitIds f h r (by rw [ef.recs]; simp)
    rw [ef.id] at this
    cases this
  have hpn : f ∈ a.pre ++ a.new :=
    (Abs.mem_files.mp ef.mem).resolve_right (fun h => h.elim (fun ⟨j, hc⟩ => hidc1.2.1 (by simp [Abs.rname, hc])) hfw)
  have hothb : ∀ g ∈ a.files, g ≠ f → ∀ x ∈ fbuckets cfg g, x.id ≠ b.id := by
    intro g hg hgf x hx hxk
    obtain ⟨p1, q, p2, h1, h2, _⟩ := mem_bucketsAt cfg g.name x 0 g.recs hx
    exact ef.fileUnique g hg hgf q (by rw [h1]; simp) (by rw [h2, hxk])
  simp only [eraseKnown]
  rw [ef.file, ef.pos, ef.size, unref_drop (s := { s with disk := mapDisk s.disk f.name (fun x => writeAt x (recsLen r1) (le 4 magicDeleted)) }) ho hz]
  refine ⟨_, inv_drop_core cfg s _ a f false b.id inv ef.mem hfw
    (hw := by simpa using hidc1.2.2)
    (hBf := by intro x hx; rw [hfb] at hx; simp at hx; rw [hx]) (hk := hothb)
    (hknown := rfl) (hks := by rw [hfb]; simp [bsize, ef.size])
    (hrd := (if_neg (by rw [inv.reading]; exact hidc1.2.1)).symm)
    (htotal := congrArg (s.total - ·) (congrArg Int.ofNat hosz))
    (hdisk := by simp only; exact mapDisk_filter _ _ _), ?_, rfl⟩
  unfold Abs.live
  rw [inv.files_drop ef.mem hfw false]
  refine flatMap_filter_name (fLive cfg) (fun e => e.1 != some b.id) f.name a.files ?_ ?_
  · intro g hg hgn
    exact liveErase_id_of cfg g b.id (hothb g hg (fun e => hgn (by rw [e])))
  · intro g hg hgn
    have := hinj g hg hgn; subst this
    rw [List.filter_eq_nil_iff]
    intro e he
    obtain ⟨q, hq, hqd, rfl⟩ := live_entry_rec cfg g e he
    have hur : unread cfg q = false := by
      rcases List.mem_append.mp hpn with h | h
      · exact inv.preRead g h q hq
      · exact inv.newRead g h q hq
    simp [unread, hqd, hasId] at hur
    cases hid : q.id with
    | none => rw [hid] at hur; simp at hur
    | some j =>
      obtain ⟨x, hx, hxj⟩ := rec_id_bucket cfg g q j hq hid
      rw [hfb] at hx; simp at hx; subst hx
      simp [hxj]

theorem liveErase_unknown (cfg : Cfg) (s : Shard) (a : Abs) (inv : Inv cfg s a) (id : Nat) (h : findB s.known id = none) :
    liveErase id (a.live cfg) = a.live cfg := by
  unfold Abs.live liveErase
  rw [List.filter_flatMap]
  apply flatMap_congr_left
  intro g hg
  apply liveErase_id_of
  intro x hx hxk
  have hxb : x ∈ a.buckets cfg := List.mem_flatMap.mpr ⟨g, hg, hx⟩
  have := inv.findB_of_mem hxb
  rw [hxk, h] at this
  cases this

/-- EraseBucket refines "remove the second with this id from the live sequence" (a no-op for an unknown id) -/
theorem inv_erase (cfg : Cfg) (s : Shard) (a : Abs) (inv : Inv cfg s a) (id : Nat) :
    ∃ a', Inv cfg (erase s id) a' ∧ a'.live cfg = liveErase id (a.live cfg) ∧ a'.lastID = a.lastID := by
  unfold erase
  cases hfb : findB s.known id with
  | none => exact ⟨a, inv, (liveErase_unknown cfg s a inv id hfb).symm, rfl⟩
  | some b =>
    obtain ⟨hbk, hbid⟩ := findB_some hfb
    have hb := (inv.known b).mp hbk
    obtain ⟨f, r1, r, r2, ef⟩ := inv.bucketAt hb
    have hidcpos : 0 < idc f.recs := by
      rw [ef.recs]; simp [idc, hasId, ef.id]; omega
    obtain ⟨o, hfo⟩ := inv.ofile_some ef.mem (Int.le_trans (Int.ofNat_le.mpr hidcpos) (a.idc_le_refs f))
    simp only
    subst hbid
    by_cases hz : o.refCount - 1 = 0
    · exact inv_erase_drop cfg s a b o inv ef hfo hz
    · exact ⟨_, inv_erase_keep cfg s a b o inv hb ef hfo hz, Abs.live_erase cfg a b.id inv.id_live, rfl⟩

end SH.C09
