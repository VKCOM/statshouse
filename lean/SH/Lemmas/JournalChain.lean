/-
  SH.Lemmas.JournalChain — two hops: source S → aggregator A → agent G, where BOTH replicas may restart from an old or
  truncated file. After such a restart of A the agent can be ahead of its upstream (G.lv > A.cur).

  The invariant is stated relative to the SOURCE (not to the immediate upstream, which can go backwards):
  a journal at depth d is `Faithful`: it holds only source events transported d times, each with its source version, and
  all current source entries up to its loaderVersion. For chains WITHOUT the compaction skip (non-compact journals)
  this is preserved by every op of every journal in the chain, whatever the others do (`sf_deliver`, `sf_load`,
  `srcok_srcAdd`; `sf`, `FileSF` = skip-free), hence two-hop convergence under arbitrary rollbacks of the aggregator
  (`run2_inv`, `chain_synced`). For a COMPACT aggregator the statement is false of the code; the witness is in Props/C20
  section K. A compact aggregator that never restarts is two one-hop systems (`hopA`, `hopG`, `HopsInv`, `run2c_inv`).
  With roll-backs of a compact aggregator only facts about ONE stored entry are proved, read as a run of source versions
  with identical stored form (`NoReturn`, `Covers`, `covers_*`); the journal-level statement is missing (Props/C20).

  In /repo S is the metadata loader (`metricMetaLoader.LoadJournal`), not a JournalFast; the aggregator keeps `journalFast`
  (compact = false) and `journalCompact` (compact = true, served when getMetrics3 asks for it: handleGetMetrics3); agents
  and the API load their journal with compact = false.
-/
import SH.Lemmas.JournalConv

namespace SH.C20
open SH.Journal

/-- content after `d` transports -/
def iterT (tab : Nat → Content) : Nat → Nat → Nat
  | 0, k => k
  | d + 1, k => (tab (iterT tab d k)).t

/-- the source event `h` as a journal at depth `d` stores it: same version, transported `d` times -/
def img (tab : Nat → Content) (d : Nat) (h : Entry) : Entry := mkEntry tab h.ver (iterT tab d h.k)

/-- transport keeps the entity (type, id) of an event (the field `TabOK.tkey`, as the chain theorems assume it) -/
def KeepsKey (tab : Nat → Content) : Prop :=
  ∀ k, (tab (tab k).t).typ = (tab k).typ ∧ (tab (tab k).t).id = (tab k).id

theorem img_succ (tab : Nat → Content) (d : Nat) (h : Entry) :
    mkEntry tab (img tab d h).ver (tab (img tab d h).k).t = img tab (d + 1) h := rfl

theorem iterT_key (tab : Nat → Content) (ht : KeepsKey tab) :
    ∀ (d k : Nat), (tab (iterT tab d k)).typ = (tab k).typ ∧ (tab (iterT tab d k)).id = (tab k).id := by
  intro d
  induction d with
  | zero => intro k; exact ⟨rfl, rfl⟩
  | succ n ih => intro k; have a := ht (iterT tab n k); have b := ih k; exact ⟨a.1.trans b.1, a.2.trans b.2⟩

theorem img_sameKey (tab : Nat → Content) (ht : KeepsKey tab)
    (d : Nat) (h : Entry) (hw : h = mkEntry tab h.ver h.k) : sameKey (img tab d h) h = true := by
  have a := iterT_key tab ht d h.k
  have w := wf_fields tab h hw
  rw [sameKey_iff]
  simp only [img, mkEntry]
  exact ⟨a.1.trans w.1.symm, a.2.trans w.2.1.symm⟩

/-- the source journal and the list of all events it ever received -/
structure SrcOK (tab : Nat → Content) (S : J) (H : List Entry) : Prop where
  jx : JX S
  sub : ∀ s ∈ S.entries, s ∈ H
  latest : ∀ h ∈ H, ∃ s ∈ S.entries, sameKey h s = true ∧ h.ver ≤ s.ver
  wf : WF tab H
  bound : ∀ h ∈ H, h.ver ≤ S.cur

/-- `P` holds only source events transported `d` times (with their source versions) and every current source entry
    up to version `b` -/
structure Faithful (tab : Nat → Content) (d : Nat) (P S : J) (H : List Entry) (b : Int) : Prop where
  f1 : ∀ s ∈ S.entries, s.ver ≤ b → img tab d s ∈ P.entries
  f2 : ∀ p ∈ P.entries, ∃ h ∈ H, p = img tab d h

theorem Faithful.mono {tab d P S H b b'} (h : Faithful tab d P S H b) (hb : b' ≤ b) : Faithful tab d P S H b' :=
  ⟨fun s hs hle => h.f1 s hs (Int.le_trans hle hb), h.f2⟩

/-- a replica in the chain: non-compact, faithful up to its loaderVersion -/
structure Rep (tab : Nat → Content) (d : Nat) (R S : J) (H : List Entry) : Prop where
  jx : JX R
  nc : R.compact = false
  fa : Faithful tab d R S H R.lv
  lo : R.cur ≤ R.lv
  hi : R.lv ≤ S.cur

theorem src_faithful (tab : Nat → Content) (S : J) (H : List Entry) (h : SrcOK tab S H) : Faithful tab 0 S S H S.cur :=
  ⟨fun s hs _ => by
      have : img tab 0 s = s := (h.wf s (h.sub s hs)).symm
      rw [this]; exact hs,
   fun p hp => ⟨p, h.sub p hp, h.wf p (h.sub p hp)⟩⟩

theorem srcok_empty (tab : Nat → Content) : SrcOK tab {} [] :=
  ⟨jx_empty false, by intro s hs; simp at hs, by intro h hh; simp at hh, by intro h hh; simp at hh, by intro h hh; simp at hh⟩

theorem srcok_srcAdd (tab : Nat → Content) (S S' : J) (H : List Entry) (v : Int) (k : Nat) (hS : SrcOK tab S H)
    (ha : add S (mkEntry tab v k) = some S') :
    SrcOK tab S' (H ++ [mkEntry tab v k]) ∧
    ∀ d P b, b ≤ S.cur → Faithful tab d P S H b → Faithful tab d P S' (H ++ [mkEntry tab v k]) b := by
  obtain ⟨_, c1, l1⟩ := add_inv S S' _ hS.jx.inv ha
  have hm := fun x => mem_add S S' (mkEntry tab v k) x ha
  have m1 := (hm _).mpr (Or.inl rfl)
  refine ⟨⟨add_jx _ _ _ hS.jx ha, ?_, ?_, ?_, ?_⟩, ?_⟩
  · intro s hs
    rcases (hm s).mp hs with rfl | ⟨a, _⟩
    · simp
    · exact List.mem_append_left _ (hS.sub s a)
  · intro h hh
    rcases List.mem_append.mp hh with a | a
    · obtain ⟨s, hs, hk, hv⟩ := hS.latest h a
      by_cases he : sameKey (mkEntry tab v k) s = true
      · exact ⟨mkEntry tab v k, m1, sameKey_trans hk (sameKey_symm he),
          Int.le_of_lt (Int.lt_of_le_of_lt (Int.le_trans hv (hS.jx.inv.bound s hs)) l1)⟩
      · exact ⟨s, (hm s).mpr (Or.inr ⟨hs, by simpa using he⟩), hk, hv⟩
    · simp at a; subst a
      exact ⟨_, m1, sameKey_refl _, Int.le_refl _⟩
  · intro h hh
    rcases List.mem_append.mp hh with a | a
    · exact hS.wf h a
    · simp at a; subst a; rfl
  · intro h hh
    rw [c1]
    rcases List.mem_append.mp hh with a | a
    · exact Int.le_of_lt (Int.lt_of_le_of_lt (hS.bound h a) l1)
    · rw [List.mem_singleton.mp a]
      exact Int.le_refl _
  · intro d P b hb hf
    refine ⟨?_, fun p hp => ?_⟩
    · intro s hs hle
      rcases (hm s).mp hs with rfl | ⟨a, _⟩
      · exact absurd (Int.le_trans hle hb) (Int.not_le.mpr l1)
      · exact hf.f1 s a hle
    · obtain ⟨h, hh, e⟩ := hf.f2 p hp
      exact ⟨h, List.mem_append_left _ hh, e⟩

/-- C20 (a delivery anywhere in a skip-free chain). `R` (depth d+1) receives from `P` (depth d) — any item / byte limits,
    any cut. NOTHING is assumed about how R's loaderVersion relates to P's version: P may have been rolled back (then the
    diff is empty and R waits) or be anywhere in its own catch-up. P only has to be faithful up to its own currentVersion. -/
theorem sf_deliver (tab : Nat → Content) (hkey : KeepsKey tab)
    (d : Nat) (P R R' S : J) (H : List Entry) (applied : List Entry) (mi mb cut : Nat)
    (hS : SrcOK tab S H) (hPj : JX P) (hP : Faithful tab d P S H P.cur) (hR : Rep tab (d + 1) R S H)
    (h : applyUpdate tab R ((transport tab (diff P R.lv mi mb)).take cut) P.cur = some (R', applied)) :
    Rep tab (d + 1) R' S H := by
  rcases deliver_cases tab P R R' applied mi mb cut P.cur hPj hR.jx hR.lo h with rfl |
    ⟨q, j1, hne, D2, D1, h1, rfl, hjx1, hcur, hL⟩
  · exact hR
  rw [keptOf_of_not_compact tab R _ hR.nc] at h1
  have hmem := fun x => mem_addAll _ R j1 x h1
  -- every delivered entry is the image of a source event
  have hev : ∀ e ∈ transport tab q, ∃ hh ∈ H, img tab d hh ∈ q ∧ e = img tab (d + 1) hh := by
    intro e he
    simp only [transport, List.mem_map] at he
    obtain ⟨p, hp, rfl⟩ := he
    obtain ⟨hh, hhH, rfl⟩ := hP.f2 p (D2 p hp).1
    exact ⟨hh, hhH, hp, rfl⟩
  have ikey := fun n hh hhH => img_sameKey tab hkey n hh (hS.wf hh hhH)
  have kdistinct : KeysUnique (transport tab q) := by
    refine keys_distinct_of_sorted P.entries _ hPj.inv.keys (addAll_inv _ R j1 hR.jx.inv h1).2.2.2 ?_
    intro x hx
    obtain ⟨hh, hhH, hp, rfl⟩ := hev x hx
    exact ⟨_, (D2 _ hp).1,
      sameKey_trans (ikey (d + 1) hh hhH) (sameKey_symm (ikey d hh hhH)), rfl⟩
  refine ⟨jx_congr j1 _ hjx1 rfl rfl rfl, (addAll_compact _ R j1 h1).trans hR.nc, ⟨?_, ?_⟩, hcur, ?_⟩
  · intro s hs hle
    simp only at hle
    by_cases hold : s.ver ≤ R.lv
    · refine (hmem _).2.1 (hR.fa.f1 s hs hold) ?_
      intro e he
      obtain ⟨hh, hhH, hp, rfl⟩ := hev e he
      apply Bool.eq_false_iff.mpr
      intro hse
      -- a newer version of `s`'s entity would have arrived, but `s` is the latest and is not above `R.lv`
      have h3 : sameKey hh s = true :=
        sameKey_trans (sameKey_symm (ikey (d + 1) hh hhH))
          (sameKey_trans hse (ikey (d + 1) s (hS.sub s hs)))
      obtain ⟨s', hs', hk', hv'⟩ := hS.latest hh hhH
      have : s' = s := unique_of_sameKey S.entries hS.jx.inv.keys s' s hs' hs
        (sameKey_trans (sameKey_symm hk') h3)
      subst this
      have hlt : R.lv < hh.ver := (D2 _ hp).2.1
      exact Int.not_le.mpr hlt (Int.le_trans hv' hold)
    · -- within the delivered range: P has it (faithful up to P.cur), the diff does not skip it
      have hPin := hP.f1 s hs (Int.le_trans hle hL)
      have hsq : img tab d s ∈ q := D1 _ hPin (Int.not_le.mp hold) hle
      exact (hmem _).2.2 (by simp only [transport, List.mem_map]; exact ⟨_, hsq, rfl⟩) kdistinct
  · intro r hr
    rcases (hmem r).1 hr with hk | hold
    · obtain ⟨hh, hhH, _, rfl⟩ := hev r hk
      exact ⟨hh, hhH, rfl⟩
    · exact hR.fa.f2 r hold
  · obtain ⟨x, hx, hv⟩ := lastVer_mem q R.lv hne
    obtain ⟨hh, hhH, rfl⟩ := hP.f2 x (D2 x hx).1
    exact hv ▸ hS.bound hh hhH

/-- the file holds (a prefix of) a snapshot of a replica that was faithful; being faithful is stable under later source
    edits (`srcok_srcAdd`), so an OLD file is as good as a new one for the invariant -/
def FileSF (tab : Nat → Content) (d : Nat) (f : File) (S : J) (H : List Entry) : Prop :=
  ∃ Rs : J, Rep tab d Rs S H ∧ (f.chunks.map (·.evs)).flatten <+: Rs.entries ∧ f.lv = Rs.lv ∧ f.cur = Rs.cur

theorem rep_empty (tab : Nat → Content) (d : Nat) (S : J) (H : List Entry) (hS : SrcOK tab S H) :
    Rep tab d {} S H := by
  refine ⟨jx_empty false, rfl, ⟨?_, by intro p hp; simp at hp⟩, Int.le_refl _, hS.jx.cur_nonneg⟩
  -- loaderVersion 0, every source version positive: nothing to be faithful about
  intro s hs hle
  have := hS.jx.pos s hs
  simp at hle
  omega

theorem filesf_empty (tab : Nat → Content) (d : Nat) (S : J) (H : List Entry) (hS : SrcOK tab S H) :
    FileSF tab d {} S H := ⟨{}, rep_empty tab d S H hS, by simp, rfl, rfl⟩

theorem filesf_truncate (tab : Nat → Content) (d : Nat) (f : File) (S : J) (H : List Entry) (keep : Nat)
    (h : FileSF tab d f S H) : FileSF tab d (truncate f keep) S H := by
  obtain ⟨Rs, a, e, g1, g2⟩ := h
  obtain ⟨t1, t2, t3⟩ := truncate_flatten f keep
  exact ⟨Rs, a, t1.trans e, t2.trans g1, t3.trans g2⟩

theorem rep_flatten (tab : Nat → Content) (hsz : ∀ k, 0 < (tab k).sz) (d : Nat) (R S : J) (H : List Entry)
    (hR : Rep tab d R S H) : ((saveFile R).chunks.map (·.evs)).flatten = R.entries := by
  refine saveFile_flatten tab hsz R ?_
  intro e he
  obtain ⟨h, _, rfl⟩ := hR.fa.f2 e he
  rfl

theorem filesf_save (tab : Nat → Content) (hsz : ∀ k, 0 < (tab k).sz) (d : Nat) (R S : J) (H : List Entry)
    (hR : Rep tab d R S H) : FileSF tab d (saveFile R) S H :=
  ⟨R, hR, by rw [rep_flatten tab hsz d R S H hR]; exact List.prefix_refl _, rfl, rfl⟩

theorem rep_srcAdd (tab : Nat → Content) (d : Nat) (R S S' : J) (H : List Entry) (v : Int) (k : Nat)
    (hS : SrcOK tab S H) (ha : add S (mkEntry tab v k) = some S') (hR : Rep tab d R S H) :
    Rep tab d R S' (H ++ [mkEntry tab v k]) := by
  obtain ⟨_, c1, l1⟩ := add_inv S S' _ hS.jx.inv ha
  exact ⟨hR.jx, hR.nc, (srcok_srcAdd tab S S' H v k hS ha).2 d R R.lv hR.hi hR.fa, hR.lo,
    c1 ▸ Int.le_of_lt (Int.lt_of_le_of_lt hR.hi l1)⟩

theorem filesrcok_srcAdd (tab : Nat → Content) (d : Nat) (f : File) (S S' : J) (H : List Entry) (v : Int) (k : Nat)
    (hS : SrcOK tab S H) (ha : add S (mkEntry tab v k) = some S') (h : FileSF tab d f S H) :
    FileSF tab d f S' (H ++ [mkEntry tab v k]) := by
  obtain ⟨Rs, a, e, g1, g2⟩ := h
  exact ⟨Rs, rep_srcAdd tab d Rs S S' H v k hS ha a, e, g1, g2⟩

/-- C20 (restart of a chain replica from an old and / or truncated file): faithful again -/
theorem sf_load (tab : Nat → Content) (d : Nat) (f : File) (S R' : J) (H : List Entry) (bs : List (List Entry))
    (err : Bool) (hf : FileSF tab d f S H) (hl : load false f = some (R', bs, err)) : Rep tab d R' S H := by
  obtain ⟨Rs, hRs, hpre, hlv, hcur⟩ := hf
  obtain ⟨hjx, hjc, hsub, hlo, hhi, hall⟩ := load_of_prefix false f Rs R' bs err hRs.jx hRs.lo hpre hlv hcur hl
  refine ⟨hjx, hjc, ⟨?_, fun r hr => hRs.fa.f2 r (hsub r hr)⟩, hlo, Int.le_trans hhi hRs.hi⟩
  intro s hs hlu
  exact hall _ (hRs.fa.f1 s hs (Int.le_trans hlu hhi)) hlu

theorem rep_save (tab : Nat → Content) (hsz : ∀ k, 0 < (tab k).sz) (d : Nat) (R S : J) (H : List Entry) (f : File)
    (hR : Rep tab d R S H) (hf : FileSF tab d f S H) :
    Rep tab d (save R f).1 S H ∧ FileSF tab d (save R f).2.1 S H := by
  rcases save_cases R f with hs | hs <;> rw [hs]
  · exact ⟨hR, hf⟩
  · exact ⟨⟨jx_congr _ _ hR.jx rfl rfl rfl, hR.nc, ⟨hR.fa.f1, hR.fa.f2⟩, hR.lo, hR.hi⟩, filesf_save tab hsz d R S H hR⟩

theorem rep_restart (tab : Nat → Content) (d : Nat) (R S : J) (H : List Entry) (f : File) (keep : Nat)
    (p : J × List (List Entry) × Bool) (hR : Rep tab d R S H) (hf : FileSF tab d f S H)
    (h : load R.compact (truncate f keep) = some p) :
    Rep tab d p.1 S H ∧ FileSF tab d (truncate f keep) S H := by
  have hf' := filesf_truncate tab d f S H keep hf
  rw [hR.nc] at h
  exact ⟨sf_load tab d _ S p.1 H p.2.1 p.2.2 hf' h, hf'⟩

inductive Op2
  | src (ver : Int) (k : Nat)
  | deliverA (items bytes cut : Nat) | saveA | restartA (keep : Nat)
  | deliverG (items bytes cut : Nat) | saveG | restartG (keep : Nat)
deriving DecidableEq, Repr

structure W2 where
  S : J := {}
  A : J := {}          -- aggregator: replica of S
  fileA : File := {}
  G : J := {}          -- agent: replica of A
  fileG : File := {}
deriving DecidableEq, Repr

def step2 (tab : Nat → Content) (w : W2) : Op2 → Option W2
  | .src v k =>
    match add w.S (mkEntry tab v k) with
    | some S' => some { w with S := S' }
    | none => none
  | .deliverA i b c =>
    match applyUpdate tab w.A ((transport tab (diff w.S w.A.lv i b)).take c) w.S.cur with
    | some p => some { w with A := p.1 }
    | none => none
  | .saveA => some { w with A := (save w.A w.fileA).1, fileA := (save w.A w.fileA).2.1 }
  | .restartA keep =>
    match load w.A.compact (truncate w.fileA keep) with
    | some p => some { w with A := p.1, fileA := truncate w.fileA keep }
    | none => none
  | .deliverG i b c =>
    match applyUpdate tab w.G ((transport tab (diff w.A w.G.lv i b)).take c) w.A.cur with
    | some p => some { w with G := p.1 }
    | none => none
  | .saveG => some { w with G := (save w.G w.fileG).1, fileG := (save w.G w.fileG).2.1 }
  | .restartG keep =>
    match load w.G.compact (truncate w.fileG keep) with
    | some p => some { w with G := p.1, fileG := truncate w.fileG keep }
    | none => none

def run2 (tab : Nat → Content) : W2 → List Op2 → Option W2
  | w, [] => some w
  | w, op :: r =>
    match step2 tab w op with
    | some w' => run2 tab w' r
    | none => none

/-- invariant of the skip-free chain; `H` (all source events so far) is a ghost -/
def ChainInv (tab : Nat → Content) (w : W2) : Prop :=
  ∃ H, SrcOK tab w.S H ∧ Rep tab 1 w.A w.S H ∧ FileSF tab 1 w.fileA w.S H ∧
       Rep tab 2 w.G w.S H ∧ FileSF tab 2 w.fileG w.S H

theorem chainInv_init (tab : Nat → Content) : ChainInv tab {} :=
  ⟨[], srcok_empty tab, rep_empty tab 1 _ _ (srcok_empty tab), filesf_empty tab 1 _ _ (srcok_empty tab),
   rep_empty tab 2 _ _ (srcok_empty tab), filesf_empty tab 2 _ _ (srcok_empty tab)⟩

theorem step2_inv (tab : Nat → Content)
    (hkey : KeepsKey tab) (hsz : ∀ k, 0 < (tab k).sz)
    (w w' : W2) (op : Op2) (hi : ChainInv tab w) (h : step2 tab w op = some w') : ChainInv tab w' := by
  obtain ⟨H, hS, hA, hfA, hG, hfG⟩ := hi
  cases op with
  | src v k =>
    simp only [step2] at h
    split at h
    · rename_i S' hS'
      injection h with h; subst h
      exact ⟨H ++ [mkEntry tab v k], (srcok_srcAdd tab _ _ H v k hS hS').1, rep_srcAdd tab 1 _ _ _ H v k hS hS' hA,
        filesrcok_srcAdd tab 1 _ _ _ H v k hS hS' hfA, rep_srcAdd tab 2 _ _ _ H v k hS hS' hG,
        filesrcok_srcAdd tab 2 _ _ _ H v k hS hS' hfG⟩
    · simp at h
  | deliverA i b c =>
    simp only [step2] at h
    split at h
    · rename_i p hp
      injection h with h; subst h
      exact ⟨H, hS, sf_deliver tab hkey 0 w.S w.A p.1 w.S H p.2 i b c hS hS.jx (src_faithful tab _ _ hS) hA hp, hfA, hG, hfG⟩
    · simp at h
  | saveA =>
    simp only [step2] at h
    injection h with h; subst h
    obtain ⟨a, b⟩ := rep_save tab hsz 1 _ _ H w.fileA hA hfA
    exact ⟨H, hS, a, b, hG, hfG⟩
  | restartA keep =>
    simp only [step2] at h
    split at h
    · rename_i p hp
      injection h with h; subst h
      obtain ⟨a, b⟩ := rep_restart tab 1 _ _ H w.fileA keep p hA hfA hp
      exact ⟨H, hS, a, b, hG, hfG⟩
    · simp at h
  | deliverG i b c =>
    simp only [step2] at h
    split at h
    · rename_i p hp
      injection h with h; subst h
      exact ⟨H, hS, hA, hfA,
        sf_deliver tab hkey 1 w.A w.G p.1 w.S H p.2 i b c hS hA.jx (hA.fa.mono hA.lo) hG hp, hfG⟩
    · simp at h
  | saveG =>
    simp only [step2] at h
    injection h with h; subst h
    obtain ⟨a, b⟩ := rep_save tab hsz 2 _ _ H w.fileG hG hfG
    exact ⟨H, hS, hA, hfA, a, b⟩
  | restartG keep =>
    simp only [step2] at h
    split at h
    · rename_i p hp
      injection h with h; subst h
      obtain ⟨a, b⟩ := rep_restart tab 2 _ _ H w.fileG keep p hG hfG hp
      exact ⟨H, hS, hA, hfA, a, b⟩
    · simp at h

theorem run2_inv (tab : Nat → Content)
    (hkey : KeepsKey tab) (hsz : ∀ k, 0 < (tab k).sz) :
    ∀ (ops : List Op2) (w w' : W2), ChainInv tab w → run2 tab w ops = some w' → ChainInv tab w' := by
  intro ops
  induction ops with
  | nil => intro w w' hi h; simp [run2] at h; subst h; exact hi
  | cons op r ih =>
    intro w w' hi h
    simp only [run2] at h
    split at h
    · rename_i w1 h1; exact ih w1 w' (step2_inv tab hkey hsz w w1 op hi h1) h
    · simp at h

/-- a caught-up chain replica holds exactly the source's current entries, transported `d` times, with their versions -/
theorem chain_synced (tab : Nat → Content)
    (hkey : KeepsKey tab)
    (d : Nat) (R S : J) (H : List Entry) (hS : SrcOK tab S H) (hR : Rep tab d R S H) (hs : S.cur ≤ R.lv) :
    ∀ r, r ∈ R.entries ↔ ∃ s ∈ S.entries, r = img tab d s := by
  intro r
  constructor
  · intro hr
    obtain ⟨h, hh, rfl⟩ := hR.fa.f2 r hr
    obtain ⟨s, hs', hk, _⟩ := hS.latest h hh
    have hin := hR.fa.f1 s hs' (Int.le_trans (hS.jx.inv.bound s hs') hs)
    have k1 := img_sameKey tab hkey d h (hS.wf h hh)
    have k2 := img_sameKey tab hkey d s (hS.wf s (hS.sub s hs'))
    have : img tab d h = img tab d s := unique_of_sameKey R.entries hR.jx.inv.keys _ _ hr hin
      (sameKey_trans k1 (sameKey_trans hk (sameKey_symm k2)))
    exact ⟨s, hs', this⟩
  · rintro ⟨s, hs', rfl⟩
    exact hR.fa.f1 s hs' (Int.le_trans (hS.jx.inv.bound s hs') hs)

def NoRestartA (ops : List Op2) : Prop := ∀ op ∈ ops, ∀ k, op ≠ Op2.restartA k

/-- the two hops of the chain as one-hop systems -/
def hopA (w : W2) : W := { U := w.S, R := w.A, file := w.fileA }
def hopG (w : W2) : W := { U := w.A, R := w.G, file := w.fileG }

structure HopsInv (tab : Nat → Content) (w : W2) : Prop where
  hop1 : WInv tab (hopA w)
  hop2 : WInv tab (hopG w)

theorem step2c_inv (tab : Nat → Content) (w w' : W2) (op : Op2) (hTA : TabOK tab w.A.compact) (hTG : TabOK tab w.G.compact)
    (hno : ∀ k, op ≠ Op2.restartA k) (hi : HopsInv tab w) (h : step2 tab w op = some w') :
    HopsInv tab w' ∧ w'.A.compact = w.A.compact ∧ w'.G.compact = w.G.compact := by
  cases op with
  | src v k =>
    simp only [step2] at h
    split at h
    · rename_i S' hS'
      injection h with h; subst h
      have h1 := stepW_inv tab (hopA w) { hopA w with U := S' } (.upAdd v k) hTA hi.hop1 (by simp only [stepW, hopA, hS'])
      exact ⟨⟨h1.1, hi.hop2⟩, rfl, rfl⟩
    · simp at h
  | deliverA i b c =>
    simp only [step2] at h
    split at h
    · rename_i p hp
      injection h with h; subst h
      have h1 := stepW_inv tab (hopA w) { hopA w with R := p.1 } (.deliver i b c) hTA hi.hop1 (by simp only [stepW, hopA, hp])
      have key := conv_upDeliver tab w.G.compact hTG w.A p.1 ((diff w.S w.A.lv i b).take c) p.2 w.S.cur hi.hop1.jR
        (transport_take tab _ c ▸ hp)
      exact ⟨⟨h1.1, h1.1.jR, hi.hop2.jR, key w.G rfl hi.hop2.conv, fileok_mono tab _ _ _ _ key hi.hop2.file⟩, h1.2, rfl⟩
    · simp at h
  | saveA =>
    simp only [step2] at h
    injection h with h; subst h
    have h1 := stepW_inv tab (hopA w) _ .save hTA hi.hop1 rfl
    have he : (save w.A w.fileA).1.entries = w.A.entries ∧ (save w.A w.fileA).1.cur = w.A.cur := by
      rcases save_cases w.A w.fileA with hs | hs <;> rw [hs] <;> exact ⟨rfl, rfl⟩
    exact ⟨⟨h1.1, h1.1.jR, hi.hop2.jR, conv_congrU tab _ _ _ he.1 he.2 hi.hop2.conv,
      fileok_mono tab _ _ _ _ (fun Rs _ => conv_congrU tab Rs _ _ he.1 he.2) hi.hop2.file⟩, h1.2, rfl⟩
  | restartA keep => exact absurd rfl (hno keep)
  | deliverG i b c =>
    simp only [step2] at h
    split at h
    · rename_i p hp
      injection h with h; subst h
      have hx := stepW_inv tab (hopG w) { hopG w with R := p.1 } (.deliver i b c) hTG hi.hop2 (by simp only [stepW, hopG, hp])
      exact ⟨⟨hi.hop1, hx.1⟩, rfl, hx.2⟩
    · simp at h
  | saveG =>
    simp only [step2] at h
    injection h with h; subst h
    have hx := stepW_inv tab (hopG w) _ .save hTG hi.hop2 rfl
    exact ⟨⟨hi.hop1, hx.1⟩, rfl, hx.2⟩
  | restartG keep =>
    simp only [step2] at h
    split at h
    · rename_i p hp
      injection h with h; subst h
      have hx := stepW_inv tab (hopG w) { hopG w with R := p.1, file := truncate w.fileG keep } (.restart keep) hTG hi.hop2
        (by simp only [stepW, hopG, hp])
      exact ⟨⟨hi.hop1, hx.1⟩, rfl, hx.2⟩
    · simp at h

theorem run2c_inv (tab : Nat → Content) : ∀ (ops : List Op2) (w w' : W2), TabOK tab w.A.compact → TabOK tab w.G.compact →
    NoRestartA ops → HopsInv tab w → run2 tab w ops = some w' →
    HopsInv tab w' ∧ w'.A.compact = w.A.compact ∧ w'.G.compact = w.G.compact := by
  intro ops
  induction ops with
  | nil => intro w w' _ _ _ hi h; simp [run2] at h; subst h; exact ⟨hi, rfl, rfl⟩
  | cons op r ih =>
    intro w w' hA hG hno hi h
    simp only [run2] at h
    split at h
    · rename_i w1 h1
      obtain ⟨i1, c1, c2⟩ := step2c_inv tab w w1 op hA hG (fun k => hno op (by simp) k) hi h1
      obtain ⟨i2, d1, d2⟩ := ih w1 w' (by rw [c1]; exact hA) (by rw [c2]; exact hG)
        (fun o ho k => hno o (List.mem_cons_of_mem _ ho) k) i1 h
      exact ⟨i2, d1.trans c1, d2.trans c2⟩
    · simp at h

/-- an entity's stored form never returns to an earlier value: between two source versions with the same stored form,
    every version of the entity has that form (excludes exactly A → B → A) -/
def NoReturn (tab : Nat → Content) (c : Bool) (H : List Entry) : Prop :=
  ∀ h1 ∈ H, ∀ h2 ∈ H, ∀ h3 ∈ H, sameKey h1 h2 = true → sameKey h2 h3 = true → h1.ver ≤ h2.ver → h2.ver ≤ h3.ver →
    storedAs tab c h1.k = storedAs tab c h3.k → storedAs tab c h2.k = storedAs tab c h1.k

/-- the stored entry `a` stands for a RUN of source versions: it starts at a genuine source version of its entity whose
    stored form is `a.k`, and every source version of the entity from there up to `L` has that same stored form -/
def Covers (tab : Nat → Content) (c : Bool) (H : List Entry) (a : Entry) (L : Int) : Prop :=
  (∃ h ∈ H, sameKey a h = true ∧ a.ver = h.ver ∧ storedAs tab c h.k = some a.k) ∧
  ∀ h' ∈ H, sameKey h' a = true → a.ver ≤ h'.ver → h'.ver ≤ L → storedAs tab c h'.k = some a.k

/-- the skip extends the run: the journal holds `a`, a source event `he` of the same entity arrives whose stored form
    equals `a.k` (so `applyUpdate` skips it and keeps `a` with its old version). Under `NoReturn` the kept entry covers
    everything up to `he.ver`, whatever it covered before: only the first half of `hc` is used, `L` and `hv` are not. -/
theorem covers_skip (tab : Nat → Content) (c : Bool) (H : List Entry) (hnr : NoReturn tab c H) (a he : Entry) (L : Int)
    (hc : Covers tab c H a L) (heH : he ∈ H) (hk : sameKey he a = true) (hv : a.ver ≤ he.ver)
    (hf : storedAs tab c he.k = some a.k) : Covers tab c H a he.ver := by
  obtain ⟨⟨h, hh, kah, vah, fh⟩, _⟩ := hc
  refine ⟨⟨h, hh, kah, vah, fh⟩, ?_⟩
  intro h' hh' kh' v1 v2
  have k1 : sameKey h h' = true :=
    sameKey_trans (sameKey_symm kah) (sameKey_symm kh')
  have k2 : sameKey h' he = true := sameKey_trans kh' (sameKey_symm hk)
  have := hnr h hh h' hh' he heH k1 k2 (by omega) v2 (by rw [fh, hf])
  rw [this, fh]

/-- a restart only lowers the bound (loaderVersion) and drops entries: what is kept still covers its (shorter) run -/
theorem covers_shrink (tab : Nat → Content) (c : Bool) (H : List Entry) (a : Entry) (L L' : Int)
    (hc : Covers tab c H a L) (hl : L' ≤ L) : Covers tab c H a L' :=
  ⟨hc.1, fun h' hh' k v1 v2 => hc.2 h' hh' k v1 (Int.le_trans v2 hl)⟩

/-- `covers_skip` on the shortened run; since `covers_skip` ignores the old bound, `L'` and `hl` play no role -/
theorem covers_restart_then_skip (tab : Nat → Content) (c : Bool) (H : List Entry) (hnr : NoReturn tab c H) (a he : Entry)
    (L L' : Int) (hc : Covers tab c H a L) (hl : L' ≤ L) (heH : he ∈ H) (hk : sameKey he a = true) (hv : a.ver ≤ he.ver)
    (hf : storedAs tab c he.k = some a.k) : Covers tab c H a he.ver :=
  covers_skip tab c H hnr a he L' (covers_shrink tab c H a L L' hc hl) heH hk hv hf

/-- a freshly stored entry covers its own version; `huniq`: the source holds one event per entity and version -/
theorem covers_fresh (tab : Nat → Content) (c : Bool) (H : List Entry) (h : Entry) (hh : h ∈ H) (hw : h = mkEntry tab h.ver h.k)
    (hkey : TabOK tab c) (f : Nat) (hf : storedAs tab c h.k = some f)
    (huniq : ∀ h' ∈ H, sameKey h' h = true → h'.ver = h.ver → h' = h) : Covers tab c H (mkEntry tab h.ver f) h.ver := by
  have ks := stored_sameKey tab c hkey h hw f hf h.ver
  refine ⟨⟨h, hh, ks, rfl, hf⟩, ?_⟩
  intro h' hh' k v1 v2
  have : h' = h := huniq h' hh' (sameKey_trans k ks) (by simp only [mkEntry] at v1; omega)
  rw [this]; exact hf

end SH.C20
