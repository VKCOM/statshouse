/-
  SH.Lemmas.PromReduce — the storage contract over events: merging the rows of a whole group of series (what a pushed-down
  query asks the storage to do) is the same as merging, per series, the rows of that series and then merging the results
  (tsValues.merge is associative and commutative); likewise the rows of a bucket [T, T+r) are the rows of its r one-second
  buckets (for the two-grid argument of the over-time push-down).  Both by `mergeRows_rowsOf_or`: disjoint parts merge separately.
-/
import SH.Model.PromEval
import Mathlib.Algebra.Order.Field.Rat

namespace SH.PromReduce
open SH.PromEval

theorem Row.eq_of_fields {a b : Row} (h1 : a.count = b.count) (h2 : a.sum = b.sum) (h3 : a.min = b.min) (h4 : a.max = b.max)
    (h5 : a.sumsq = b.sumsq) : a = b := by
  cases a
  cases b
  exact Row.mk.injEq .. ▸ ⟨h1, h2, h3, h4, h5⟩

theorem merge_min (a b : Row) : (a.merge b).min = min a.min b.min := by
  show (if b.min < a.min then b.min else a.min) = _
  split
  · exact (min_eq_right (le_of_lt ‹_›)).symm
  · exact (min_eq_left (not_lt.mp ‹_›)).symm

theorem merge_max (a b : Row) : (a.merge b).max = max a.max b.max := by
  show (if a.max < b.max then b.max else a.max) = _
  split
  · exact (max_eq_right (le_of_lt ‹_›)).symm
  · exact (max_eq_left (not_lt.mp ‹_›)).symm

theorem merge_comm (a b : Row) : a.merge b = b.merge a :=
  Row.eq_of_fields (add_comm _ _) (add_comm _ _) (by rw [merge_min, merge_min, min_comm]) (by rw [merge_max, merge_max, max_comm])
    (add_comm _ _)

theorem merge_assoc (a b c : Row) : (a.merge b).merge c = a.merge (b.merge c) :=
  Row.eq_of_fields (add_assoc _ _ _) (add_assoc _ _ _) (by simp only [merge_min, min_assoc]) (by simp only [merge_max, max_assoc])
    (add_assoc _ _ _)

/-- merge lifted to "no row yet" -/
def om (a b : Option Row) : Option Row :=
  match a, b with
  | none, b => b
  | a, none => a
  | some x, some y => some (x.merge y)

theorem om_none_left (a : Option Row) : om none a = a := by cases a <;> rfl
theorem om_none_right (a : Option Row) : om a none = a := by cases a <;> rfl
theorem om_comm (a b : Option Row) : om a b = om b a := by
  cases a <;> cases b <;> simp [om, merge_comm]
theorem om_assoc (a b c : Option Row) : om (om a b) c = om a (om b c) := by
  cases a <;> cases b <;> cases c <;> simp [om, merge_assoc]

/-- `mergeRows` row by row; `none` is neutral for `om` (`om_none_left/right`), so empty parts cost nothing in `mergeRows_rowsOf_or` -/
theorem mergeRows_cons (r : Row) (rs : List Row) : mergeRows (r :: rs) = om (some r) (mergeRows rs) := by
  induction rs generalizing r with
  | nil => rfl
  | cons x xs ih =>
    show mergeRows (r.merge x :: xs) = _
    rw [ih, ih x]
    exact om_assoc (some r) (some x) _

/-- rows of the events selected by `p` -/
def rowsOf (evs : List Event) (p : Event → Bool) : List Row := (evs.filter p).map (fun e => Row.ofEvent e.val)

theorem bucketRows_eq_rowsOf (st : Store) (members : List Nat) (lo hi : Int) :
    bucketRows st members lo hi =
      rowsOf st.events (fun e => members.contains e.series && decide (lo ≤ e.sec) && decide (e.sec < hi)) := rfl

/-- disjoint parts merge separately; `s` is given apart from `p || q` so that a user states the cover pointwise -/
theorem mergeRows_rowsOf_or (evs : List Event) (p q s : Event → Bool) (hs : ∀ e, s e = (p e || q e))
    (hd : ∀ e, ¬ (p e = true ∧ q e = true)) :
    mergeRows (rowsOf evs s) = om (mergeRows (rowsOf evs p)) (mergeRows (rowsOf evs q)) := by
  obtain rfl : s = fun e => p e || q e := funext hs
  induction evs with
  | nil => rfl
  | cons e es ih =>
    unfold rowsOf at ih ⊢
    by_cases hp : p e = true
    · have hq : q e = false := by
        cases hqe : q e with
        | false => rfl
        | true => exact absurd ⟨hp, hqe⟩ (hd e)
      simp only [List.filter_cons, hp, hq, Bool.or_false, if_true, List.map_cons, mergeRows_cons,
        Bool.false_eq_true, if_false] at ih ⊢
      rw [ih, om_assoc]
    · have hp' : p e = false := by simpa using hp
      by_cases hq : q e = true
      · simp only [List.filter_cons, hp', hq, Bool.or_true, if_true, List.map_cons, mergeRows_cons,
          Bool.false_eq_true, if_false] at ih ⊢
        rw [ih, ← om_assoc, om_comm (some _) (mergeRows _), om_assoc]
      · have hq' : q e = false := by simpa using hq
        simp only [List.filter_cons, hp', hq', Bool.or_false, Bool.false_eq_true, if_false] at ih ⊢
        exact ih

theorem mergeRows_filterMap (per : List (Option Row)) :
    mergeRows (per.filterMap id) = per.foldr om none := by
  induction per with
  | nil => rfl
  | cons o os ih =>
    cases o with
    | none =>
      simp only [List.filterMap_cons, id, List.foldr_cons, om_none_left]
      exact ih
    | some r =>
      simp only [List.filterMap_cons, id, List.foldr_cons, mergeRows_cons] at ih ⊢
      rw [ih]

/-- **the storage contract over events**: the merged row of a group of (distinct) series in a bucket is the merge of the
    per-series merged rows -/
theorem bucket_group_eq_pooled (st : Store) (members : List Nat) (hnd : members.Nodup) (lo hi : Int) :
    mergeRows (bucketRows st members lo hi) =
      mergeRows ((members.map (fun m => mergeRows (bucketRows st [m] lo hi))).filterMap id) := by
  rw [mergeRows_filterMap]
  induction members with
  | nil =>
    have hf : st.events.filter (fun _ => false) = [] := List.filter_eq_nil_iff.mpr (by simp)
    simp [bucketRows, mergeRows, hf]
  | cons m ms ih =>
    have hm : m ∉ ms := (List.nodup_cons.mp hnd).1
    rw [List.map_cons, List.foldr_cons, ← ih (List.nodup_cons.mp hnd).2]
    -- `bucketRows` is `rowsOf` (`bucketRows_eq_rowsOf`): the two parts are read off the goal; left: they cover and are disjoint
    refine mergeRows_rowsOf_or _ _ _ _ (fun e => ?_) (fun e ⟨h1, h2⟩ => ?_)
    · rw [List.contains_cons, List.contains_cons, List.contains_nil, Bool.or_false, Bool.and_or_distrib_right,
        Bool.and_or_distrib_right]
    · simp only [Bool.and_eq_true, List.contains_iff_mem, List.mem_singleton, decide_eq_true_eq] at h1 h2
      exact hm (h1.1.1 ▸ h2.1.1)

theorem foldr_om_append (l : List (Option Row)) (x : Option Row) :
    (l ++ [x]).foldr om none = om (l.foldr om none) x := by
  induction l with
  | nil => simp [om_none_left, om_none_right]
  | cons a as ih => simp only [List.cons_append, List.foldr_cons, ih, om_assoc]

/-- **the rows of the bucket [T, T+r) are the rows of its r one-second buckets**: merging them all at once (what the
    storage does for the pushed-down query, in whatever order the events are stored) equals merging second by second -/
theorem bucket_by_seconds (st : Store) (members : List Nat) (T : Int) (r : Nat) :
    mergeRows (bucketRows st members T (T + (r : Int))) =
      mergeRows (((List.range r).map (fun (d : Nat) => mergeRows (bucketRows st members (T + (d : Int)) (T + (d : Int) + 1)))).filterMap id) := by
  rw [mergeRows_filterMap]
  induction r with
  | zero =>
    have hf : st.events.filter (fun e => members.contains e.series && decide (T ≤ e.sec) && decide (e.sec < T + ((0 : Nat) : Int))) = [] := by
      apply List.filter_eq_nil_iff.mpr
      intro e _
      simp only [Nat.cast_zero, add_zero, Bool.and_eq_true, decide_eq_true_eq, not_and, not_lt]
      intro h; exact h.2
    unfold bucketRows
    rw [hf]
    rfl
  | succ r ih =>
    rw [List.range_succ, List.map_append, List.map_singleton, foldr_om_append, ← ih]
    refine mergeRows_rowsOf_or _ _ _ _ (fun e => ?_) (fun e ⟨h1, h2⟩ => ?_)
    · cases members.contains e.series
      · rfl
      · rw [Bool.eq_iff_iff]
        simp only [Bool.true_and, Bool.and_eq_true, Bool.or_eq_true, decide_eq_true_eq]
        omega
    · simp only [Bool.and_eq_true, decide_eq_true_eq] at h1 h2
      omega

end SH.PromReduce
