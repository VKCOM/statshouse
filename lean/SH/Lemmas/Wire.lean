/-
  SH.Lemmas.Wire — for Props/C13: the contracts every reader of the model obeys (`Reads`, `Skips` for the skippers,
  `MPR.Good` with the allocation request); little-endian integers and lists of records; stretches of input under a
  fuel-driven loop (`Stretch`: the fuel accounting of the Protobuf and batch-loop round trips); the TL round trip with
  `Metric.WF`; the format switch of parser.parse as a decision list (`Detected`) and its batch loop; the TCP frame
  splitter.
-/
import SH.Model.Wire
namespace SH.Wire

/-- The contract of a reader's result `x` on input `b`: a success leaves a rest at least `k` bytes shorter than `b`, a
    failure is never the model's own `fuel`. Loop termination and the allocation bounds rest on the first half. -/
def Reads {α : Type} (k : Nat) (b : Bytes) : R α → Prop
  | .ok (_, r) => r.length + k ≤ b.length
  | .error e => e ≠ .fuel

theorem Reads.ok {α : Type} {k : Nat} {b r : Bytes} {y : α} (h : r.length + k ≤ b.length) : Reads k b (.ok (y, r)) := h

theorem Reads.error {α : Type} {k : Nat} {b : Bytes} {e : Err} (h : e ≠ .fuel) : Reads (α := α) k b (.error e) := h

theorem Reads.le {α : Type} {k : Nat} {b r : Bytes} {y : α} (h : Reads k b (.ok (y, r))) : r.length + k ≤ b.length := h

/-- Case analysis on a reader's result under its contract. The statement has no `match`: the motive is taken from the
    goal, so the rule applies to the model's own `match` on the result. -/
@[elab_as_elim]
theorem Reads.elim {α : Type} {k : Nat} {b : Bytes} {motive : R α → Prop} {x : R α} (h : Reads k b x)
    (error : ∀ e, e ≠ .fuel → motive (.error e)) (ok : ∀ y r, r.length + k ≤ b.length → motive (.ok (y, r))) :
    motive x := by
  obtain e | ⟨y, r⟩ := x
  · exact error e h
  · exact ok y r h

theorem error_ne_fuel {α : Type} {e : Err} (h : e ≠ .fuel) : (Except.error e : Except Err α) ≠ .error .fuel :=
  fun h' => h (Except.error.inj h')

theorem Reads.mono {α : Type} {k k' : Nat} {b b' : Bytes} {x : R α} (h : Reads k b x)
    (hk : b.length + k' ≤ b'.length + k) : Reads k' b' x := by
  obtain e | ⟨y, r⟩ := x
  · exact h
  · have := h.le
    exact .ok (by omega)

theorem Reads.zero {α : Type} {k : Nat} {b : Bytes} {x : R α} (h : Reads k b x) : Reads 0 b x :=
  h.mono (Nat.le_add_right _ _)

theorem Reads.cons {α : Type} {k : Nat} {r : Bytes} {x : R α} (h : Reads k r x) (a : Nat) : Reads (k + 1) (a :: r) x :=
  h.mono (by rw [List.length_cons]; omega)

theorem Reads.ite {α : Type} {k : Nat} {b : Bytes} {c : Prop} [Decidable c] {x y : R α} (hx : Reads k b x)
    (hy : Reads k b y) : Reads k b (if c then x else y) := by
  split
  · exact hx
  · exact hy

theorem Reads.mapR {α β : Type} {k : Nat} {b : Bytes} {x : R α} (h : Reads k b x) (f : α → β) : Reads k b (mapR x f) := by
  obtain e | ⟨y, r⟩ := x
  · exact h
  · exact h

theorem Reads.fixedWidth {α : Type} (n : Nat) (b : Bytes) (f : Bytes → α) :
    Reads n b (if b.length < n then .error .eof else .ok (f (b.take n), b.drop n)) := by
  split
  · exact .error nofun
  · exact .ok (by rw [List.length_drop]; omega)

theorem readN_reads {α : Type} {f : Bytes → R α} (hf : ∀ b, Reads 0 b (f b)) : ∀ n b, Reads 0 b (readN f n b)
  | 0, b => .ok (Nat.le_refl _)
  | n + 1, b => by
    simp only [readN]
    refine (hf b).elim (fun _ he => .error he) fun y r h1 => ?_
    dsimp only
    exact (readN_reads hf n r).elim (fun _ he => .error he) fun ys r' h2 => .ok (Nat.le_trans h2 h1)


/-- `Reads` for the skippers (msgp.Skip, consumeFieldValueD), which return the rest only and run on fuel: `enough` is the
    fuel bound under which `fuel` is ruled out. -/
def Skips (k : Nat) (b : Bytes) (enough : Prop) : Except Err Bytes → Prop
  | .ok r => r.length + k ≤ b.length
  | .error e => enough → e ≠ .fuel

theorem Skips.ok {k : Nat} {b r : Bytes} {c : Prop} (h : r.length + k ≤ b.length) : Skips k b c (.ok r) := h

theorem Skips.error {k : Nat} {b : Bytes} {c : Prop} {e : Err} (h : c → e ≠ .fuel) : Skips k b c (.error e) := h

@[elab_as_elim]
theorem Skips.elim {k : Nat} {b : Bytes} {c : Prop} {motive : Except Err Bytes → Prop} {x : Except Err Bytes}
    (h : Skips k b c x) (error : ∀ e, (c → e ≠ .fuel) → motive (.error e))
    (ok : ∀ r, r.length + k ≤ b.length → motive (.ok r)) : motive x := by
  obtain e | r := x
  · exact error e h
  · exact ok r h

theorem Skips.reads {α : Type} {k : Nat} {b : Bytes} {x : Except Err Bytes} (h : Skips k b True x) (y : α) :
    Reads k b (match x with | .error e => .error e | .ok r => .ok (y, r)) := by
  obtain e | r := x
  · exact h trivial
  · exact h

theorem Skips.ne_fuel {k : Nat} {b : Bytes} {c : Prop} {x : Except Err Bytes} (h : Skips k b c x) (hc : c) :
    x ≠ .error .fuel := by
  intro e
  subst e
  exact h hc rfl

theorem Skips.mono {k k' : Nat} {b b' : Bytes} {c c' : Prop} {x : Except Err Bytes} (h : Skips k b c x)
    (hk : b.length + k' ≤ b'.length + k) (hc : c' → c) : Skips k' b' c' x := by
  obtain e | r := x
  · exact fun h' => h (hc h')
  · have : r.length + k ≤ b.length := h
    exact (by omega : r.length + k' ≤ b'.length)

theorem Skips.ite {k : Nat} {b : Bytes} {c : Prop} {p : Prop} [Decidable p] {x y : Except Err Bytes} (hx : Skips k b c x)
    (hy : Skips k b c y) : Skips k b c (if p then x else y) := by
  split
  · exact hx
  · exact hy

/-- A decoding step on input `b` with its allocation request: the result obeys `Reads k`, and under `c` the request is for
    at most `b.length` elements. `c` is the MessagePack length check of the fix; `True` for TL. -/
def MPR.Good {α : Type} (c : Prop) (x : MPR α) (b : Bytes) (k : Nat := 0) : Prop :=
  (c → x.alloc ≤ b.length) ∧ Reads k b x.res

theorem MPR.Good.pure {α : Type} {c : Prop} {b : Bytes} {k : Nat} {res : R α} (h : Reads k b res) :
    MPR.Good c ⟨0, res⟩ b k :=
  ⟨fun _ => Nat.zero_le _, h⟩

theorem MPR.Good.done {α : Type} {c : Prop} {y : α} {r : Bytes} : MPR.Good c ⟨0, .ok (y, r)⟩ r :=
  .pure (.ok (Nat.le_refl _))

theorem MPR.Good.ite {α : Type} {c : Prop} {b : Bytes} {k : Nat} {p : Prop} [Decidable p] {x y : MPR α}
    (hx : x.Good c b k) (hy : y.Good c b k) : (if p then x else y).Good c b k := by
  split
  · exact hx
  · exact hy

theorem MPR.Good.mono {α : Type} {c : Prop} {x : MPR α} {b r : Bytes} {k : Nat} (h : x.Good c r)
    (hr : r.length + k ≤ b.length) : x.Good c b k :=
  ⟨fun hc => Nat.le_trans (h.1 hc) (Nat.le_of_add_right_le hr), h.2.mono hr⟩

theorem MPR.Good.step {α : Type} {c : Prop} {b r : Bytes} {a k : Nat} {t : MPR α} (ht : t.Good c r)
    (hr : r.length + k ≤ b.length) (ha : c → a ≤ b.length) : MPR.Good c ⟨max a t.alloc, t.res⟩ b k :=
  ⟨fun hc => Nat.max_le.2 ⟨ha hc, (ht.mono hr).1 hc⟩, (ht.mono hr).2⟩

theorem le_length (n v : Nat) : (le n v).length = n := by
  induction n generalizing v with
  | zero => rfl
  | succ n ih => simp [le, ih]

theorem rdLE_le (n v : Nat) : rdLE (le n v) = v % 256 ^ n := by
  induction n generalizing v with
  | zero => simp [le, rdLE, Nat.mod_one]
  | succ n ih =>
    simp only [le, rdLE, ih]
    rw [Nat.pow_succ, Nat.mul_comm (256 ^ n) 256, Nat.mod_mul]

theorem rdLE_le_of_lt {n v : Nat} (h : v < 256 ^ n) : rdLE (le n v) = v := by
  rw [rdLE_le, Nat.mod_eq_of_lt h]

theorem take_le_append (n v : Nat) (r : Bytes) : (le n v ++ r).take n = le n v := List.take_left' (le_length n v)

theorem drop_le_append (n v : Nat) (r : Bytes) : (le n v ++ r).drop n = r := List.drop_left' (le_length n v)

theorem zeros_length (n : Nat) : (zeros n).length = n := by simp [zeros]

theorem length_pos_ite {c : Prop} [Decidable c] {a b : Bytes} (ha : 1 ≤ a.length) (hb : 1 ≤ b.length) :
    1 ≤ (if c then a else b).length := by
  split
  · exact ha
  · exact hb

theorem append_ne_nil_of_length_pos {a t : Bytes} (h : 1 ≤ a.length) : a ++ t ≠ [] := by
  cases a with
  | nil => exact absurd h (by decide)
  | cons x xs => nofun

theorem length_cons_pos {a : Nat} {l : Bytes} : 1 ≤ (a :: l).length := Nat.succ_le_succ (Nat.zero_le _)

theorem catMap_cons {α : Type} (f : α → Bytes) (x : α) (xs : List α) : catMap f (x :: xs) = f x ++ catMap f xs := rfl

theorem catMap_length_ge {α : Type} (f : α → Bytes) (k : Nat) (xs : List α) (h : ∀ x ∈ xs, k ≤ (f x).length) :
    k * xs.length ≤ (catMap f xs).length := by
  induction xs with
  | nil => simp [catMap]
  | cons x xs ih =>
    have h1 := h x (by simp)
    have h2 := ih (fun y hy => h y (by simp [hy]))
    simp only [catMap, List.length_cons, List.length_append]
    rw [Nat.mul_succ]; omega

theorem catMap_length_le {α : Type} (f : α → Bytes) (k : Nat) (xs : List α) (h : ∀ x ∈ xs, (f x).length ≤ k) :
    (catMap f xs).length ≤ k * xs.length := by
  induction xs with
  | nil => simp [catMap]
  | cons x xs ih =>
    have h1 := h x (by simp)
    have h2 := ih (fun y hy => h y (by simp [hy]))
    simp only [catMap, List.length_cons, List.length_append]
    rw [Nat.mul_succ]; omega

theorem readN_catMap {α : Type} (dec : Bytes → R α) (enc : α → Bytes) (xs : List α)
    (h : ∀ x ∈ xs, ∀ r, dec (enc x ++ r) = .ok (x, r)) (r : Bytes) :
    readN dec xs.length (catMap enc xs ++ r) = .ok (xs, r) := by
  induction xs with
  | nil => simp [readN, catMap]
  | cons x xs ih =>
    simp only [List.length_cons, catMap, List.append_assoc, readN]
    rw [h x (by simp)]
    simp only []
    rw [ih (fun y hy => h y (by simp [hy]))]

/-- a loop that takes one record per unit of fuel takes a run of records; `acc st xs` is the state after `xs` -/
theorem loop_catMap {α σ τ : Type} (L : Nat → σ → Bytes → τ) (rec : α → Bytes) (acc : σ → List α → σ) (P : α → Prop)
    (hnil : ∀ st, acc st [] = st) (hcons : ∀ st x xs, acc (acc st [x]) xs = acc st (x :: xs))
    (step : ∀ f st x t, P x → L (f + 1) st (rec x ++ t) = L f (acc st [x]) t) :
    ∀ (xs : List α) (st : σ) (k : Nat) (t : Bytes), (∀ x ∈ xs, P x) →
      L (k + xs.length) st (catMap rec xs ++ t) = L k (acc st xs) t
  | [], st, k, t, _ => by
    rw [hnil]
    rfl
  | x :: xs, st, k, t, h => by
    rw [catMap_cons, List.append_assoc, List.length_cons, ← Nat.add_assoc, step _ _ _ _ (h x (List.mem_cons_self ..)),
      loop_catMap L rec acc P hnil hcons step xs _ k t fun y hy => h y (List.mem_cons_of_mem _ hy), hcons]

/-- A stretch `bytes` of input on which the fuel-driven loop `L` spends `n` units of fuel and takes its state through `upd`.
    It is at least `n` bytes long, so the fuel `length + 1` that the model gives covers an input made of such stretches
    (`Stretch.whole`): the round trips through the Protobuf loops and through `batchLoop` take their fuel accounting
    from here. -/
structure Stretch {σ τ : Type} (L : Nat → σ → Bytes → τ) (bytes : Bytes) (n : Nat) (upd : σ → σ) : Prop where
  le : n ≤ bytes.length
  eq : ∀ k st t, L (k + n) st (bytes ++ t) = L k (upd st) t

/-- one record, read by one turn of the loop -/
theorem Stretch.one {σ τ : Type} {L : Nat → σ → Bytes → τ} {rec : Bytes} {upd : σ → σ} (h1 : 1 ≤ rec.length)
    (h : ∀ f st t, L (f + 1) st (rec ++ t) = L f (upd st) t) : Stretch L rec 1 upd :=
  ⟨h1, h⟩

theorem Stretch.append {σ τ : Type} {L : Nat → σ → Bytes → τ} {b1 b2 : Bytes} {n1 n2 : Nat} {u1 u2 : σ → σ}
    (h1 : Stretch L b1 n1 u1) (h2 : Stretch L b2 n2 u2) : Stretch L (b1 ++ b2) (n2 + n1) fun st => u2 (u1 st) :=
  ⟨by rw [List.length_append, Nat.add_comm]; exact Nat.add_le_add h1.le h2.le,
   fun k st t => by rw [List.append_assoc, ← Nat.add_assoc, h1.eq, h2.eq]⟩

/-- a record that the encoder omits under `c` -/
theorem Stretch.opt {σ τ : Type} {L : Nat → σ → Bytes → τ} {b : Bytes} {n : Nat} {u : σ → σ} (c : Prop) [Decidable c]
    (h : Stretch L b n u) : Stretch L (if c then [] else b) (if c then 0 else n) fun st => if c then st else u st := by
  by_cases hc : c
  · simp only [if_pos hc]
    exact ⟨Nat.le_refl _, fun _ _ _ => rfl⟩
  · simp only [if_neg hc]
    exact h

theorem Stretch.run {α σ τ : Type} {L : Nat → σ → Bytes → τ} (rec : α → Bytes) (acc : σ → List α → σ) (P : α → Prop)
    (hnil : ∀ st, acc st [] = st) (hcons : ∀ st x xs, acc (acc st [x]) xs = acc st (x :: xs))
    (h1 : ∀ x, 1 ≤ (rec x).length) (step : ∀ f st x t, P x → L (f + 1) st (rec x ++ t) = L f (acc st [x]) t)
    (xs : List α) (hP : ∀ x ∈ xs, P x) : Stretch L (catMap rec xs) xs.length fun st => acc st xs :=
  ⟨by have := catMap_length_ge rec 1 xs fun x _ => h1 x
      omega,
   fun k st t => loop_catMap L rec acc P hnil hcons step xs st k t hP⟩

/-- the whole input is one stretch: of the fuel `length + 1` at least one unit is left for the empty rest -/
theorem Stretch.whole {σ τ : Type} {L : Nat → σ → Bytes → τ} {b : Bytes} {n : Nat} {u : σ → σ} (h : Stretch L b n u)
    (st : σ) : ∃ k, L (b.length + 1) st b = L (k + 1) (u st) [] := by
  have e : b.length + 1 = (b.length - n + 1) + n := by have := h.le; omega
  have := h.eq (b.length - n + 1) st []
  rw [List.append_nil, ← e] at this
  exact ⟨_, this⟩

/-- the literal `if` is the body of tlNat, tlLong, pbFixed64; the lemma applies to them by unfolding -/
theorem fixedWidth_enc {n v : Nat} (h : v < 256 ^ n) (r : Bytes) :
    (if (le n v ++ r).length < n then Except.error Err.eof else .ok (rdLE ((le n v ++ r).take n), (le n v ++ r).drop n))
      = .ok (v, r) := by
  have hl : ¬ (le n v ++ r).length < n := by simp [le_length]
  rw [if_neg hl, take_le_append, drop_le_append, rdLE_le_of_lt h]

theorem tlNat_enc {v : Nat} (h : v < 2 ^ 32) (r : Bytes) : tlNat (le 4 v ++ r) = .ok (v, r) := fixedWidth_enc (n := 4) h r

theorem tlLong_enc {v : Nat} (h : v < 2 ^ 64) (r : Bytes) : tlLong (le 8 v ++ r) = .ok (v, r) := fixedWidth_enc (n := 8) h r

theorem tlStrTail_enc (s r : Bytes) (p : Nat) :
    tlStrTail (s ++ zeros (tlPadLen p) ++ r) s.length p = .ok (s, r) := by
  unfold tlStrTail
  have h1 : ¬ (s ++ zeros (tlPadLen p) ++ r).length < s.length := by simp
  have h2 : ¬ (s ++ zeros (tlPadLen p) ++ r).length < s.length + tlPadLen p := by simp [zeros_length]
  rw [if_neg h1, if_neg h2]
  have h3 : (s ++ zeros (tlPadLen p) ++ r).drop s.length = zeros (tlPadLen p) ++ r := by
    rw [List.append_assoc, List.drop_left]
  have h4 : (zeros (tlPadLen p) ++ r).take (tlPadLen p) = zeros (tlPadLen p) := List.take_left' (zeros_length _)
  have h5 : (zeros (tlPadLen p)).all (· == 0) = true := by simp [zeros]
  rw [h3, h4, h5, if_pos rfl]
  have h6 : (s ++ zeros (tlPadLen p) ++ r).take s.length = s := by
    rw [List.append_assoc, List.take_left]
  have h7 : (s ++ zeros (tlPadLen p) ++ r).drop (s.length + tlPadLen p) = r := by
    have : s.length + tlPadLen p = (s ++ zeros (tlPadLen p)).length := by simp [zeros_length]
    rw [this, List.drop_left]
  rw [h6, h7]

theorem tlString_enc (s r : Bytes) (h : s.length < 2 ^ 56) : tlString (tlEncString s ++ r) = .ok (s, r) := by
  unfold tlEncString
  by_cases h1 : s.length ≤ 253
  · rw [if_pos h1]
    show tlString (s.length :: (s ++ zeros (tlPadLen (s.length + 1)) ++ r)) = _
    unfold tlString
    simp only [if_pos h1]
    exact tlStrTail_enc s r _
  · rw [if_neg h1]
    by_cases h2 : s.length ≤ 2 ^ 24 - 1
    · rw [if_pos h2]
      show tlString (254 :: (le 3 s.length ++ (s ++ zeros (tlPadLen s.length) ++ r))) = _
      have hv : rdLE (le 3 s.length) = s.length := rdLE_le_of_lt (by omega)
      have hl : ¬ (le 3 s.length ++ (s ++ zeros (tlPadLen s.length) ++ r)).length < 3 := by simp [le_length]
      simp only [tlString]
      rw [if_neg (by decide), if_pos trivial, if_neg hl, take_le_append, hv, if_neg h1, drop_le_append]
      exact tlStrTail_enc s r _
    · rw [if_neg h2]
      show tlString (255 :: (le 7 s.length ++ (s ++ zeros (tlPadLen s.length) ++ r))) = _
      have hv : rdLE (le 7 s.length) = s.length := rdLE_le_of_lt h
      have hl : ¬ (le 7 s.length ++ (s ++ zeros (tlPadLen s.length) ++ r)).length < 7 := by simp [le_length]
      simp only [tlString]
      rw [if_neg (by decide), if_neg (by decide), if_neg hl, take_le_append, hv, if_neg h2, drop_le_append]
      exact tlStrTail_enc s r _

theorem tlVec_enc {α : Type} (dec : Bytes → R α) (enc : α → Bytes) (xs : List α) (hn : xs.length < 2 ^ 32)
    (h : ∀ x ∈ xs, ∀ r, dec (enc x ++ r) = .ok (x, r)) (h4 : ∀ x ∈ xs, 4 ≤ (enc x).length) (r : Bytes) :
    tlVec dec (tlEncVec enc xs ++ r) = .ok (xs, r) := by
  unfold tlVec tlEncVec
  rw [List.append_assoc, tlNat_enc hn]
  simp only []
  have := catMap_length_ge enc 4 xs h4
  have hl : ¬ (catMap enc xs ++ r).length < xs.length * 4 := by simp; omega
  rw [if_neg hl, readN_catMap dec enc xs h]

theorem tlOpt_enc {α : Type} (c : Bool) (dec : Bytes → R α) (enc : Bytes) (x dflt : α) (r : Bytes)
    (h1 : dec (enc ++ r) = .ok (x, r)) (h2 : c = false → x = dflt) :
    tlOpt c dec dflt ((if c then enc else []) ++ r) = .ok (x, r) := by
  cases c with
  | true => simp [tlOpt, h1]
  | false => simp [tlOpt, h2]

theorem tlEncString_length_ge (s : Bytes) : 4 ≤ (tlEncString s).length := by
  unfold tlEncString tlPadLen
  split
  · simp [zeros_length]; omega
  · split <;> simp [le_length, zeros_length] <;> omega

theorem tlTag_enc (t : Bytes × Bytes) (h1 : t.1.length < 2 ^ 56) (h2 : t.2.length < 2 ^ 56) (r : Bytes) :
    tlTag (tlEncString t.1 ++ tlEncString t.2 ++ r) = .ok (t, r) := by
  unfold tlTag
  rw [List.append_assoc, tlString_enc _ _ h1]
  simp only []
  rw [tlString_enc _ _ h2]

theorem tlPair_enc (p : Nat × Nat) (h1 : p.1 < 2 ^ 64) (h2 : p.2 < 2 ^ 64) (r : Bytes) :
    tlPair (le 8 p.1 ++ le 8 p.2 ++ r) = .ok (p, r) := by
  unfold tlPair
  rw [List.append_assoc, tlLong_enc h1]
  simp only []
  rw [tlLong_enc h2]

/-- a metric that a client can express in every format: sizes fit the length fields, numbers fit their width,
    optional fields that are absent from the mask hold their zero value. The Protobuf round trip needs in addition
    that the whole encoded metric fits its length prefix; that is a condition on `pbEncMetric m` and stated there. -/
structure Metric.WF (m : Metric) : Prop where
  mask : m.mask < 2 ^ 32
  name : m.name.length < 2 ^ 32
  tagsLen : m.tags.length < 2 ^ 32
  tags : ∀ t ∈ m.tags, t.1.length < 2 ^ 32 ∧ t.2.length < 2 ^ 32
  counter : m.counter < 2 ^ 64
  counter0 : hasBit m.mask 0 = false → m.counter = 0
  ts : m.ts < 2 ^ 32
  ts0 : hasBit m.mask 4 = false → m.ts = 0
  valueLen : m.value.length < 2 ^ 32
  value : ∀ x ∈ m.value, x < 2 ^ 64
  value0 : hasBit m.mask 1 = false → m.value = []
  uniqueLen : m.unique.length < 2 ^ 32
  unique : ∀ x ∈ m.unique, x < 2 ^ 64
  unique0 : hasBit m.mask 2 = false → m.unique = []
  histLen : m.hist.length < 2 ^ 32
  hist : ∀ h ∈ m.hist, h.1 < 2 ^ 64 ∧ h.2 < 2 ^ 64
  hist0 : hasBit m.mask 3 = false → m.hist = []

theorem tlMetric_enc (m : Metric) (w : m.WF) (r : Bytes) : tlMetric (tlEncMetric m ++ r) = .ok (m, r) := by
  unfold tlMetric tlEncMetric
  simp only [List.append_assoc]
  rw [tlNat_enc w.mask]
  simp only [bind, Except.bind]
  rw [tlString_enc _ _ (by have := w.name; omega)]
  simp only []
  rw [tlVec_enc tlTag (fun t => tlEncString t.1 ++ tlEncString t.2) m.tags w.tagsLen
    (fun t ht r => tlTag_enc t (by have := (w.tags t ht).1; omega) (by have := (w.tags t ht).2; omega) r)
    (fun t _ => by have := tlEncString_length_ge t.1; simp; omega)]
  simp only []
  rw [tlOpt_enc (hasBit m.mask 0) tlLong (le 8 m.counter) m.counter 0 _ (tlLong_enc w.counter _) w.counter0]
  simp only []
  rw [tlOpt_enc (hasBit m.mask 4) tlNat (le 4 m.ts) m.ts 0 _ (tlNat_enc w.ts _) w.ts0]
  simp only []
  rw [tlOpt_enc (hasBit m.mask 1) (tlVec tlLong) (tlEncVec (le 8) m.value) m.value [] _
    (tlVec_enc tlLong (le 8) m.value w.valueLen (fun x hx r => tlLong_enc (w.value x hx) r) (fun x _ => by simp [le_length]) _) w.value0]
  simp only []
  rw [tlOpt_enc (hasBit m.mask 2) (tlVec tlLong) (tlEncVec (le 8) m.unique) m.unique [] _
    (tlVec_enc tlLong (le 8) m.unique w.uniqueLen (fun x hx r => tlLong_enc (w.unique x hx) r) (fun x _ => by simp [le_length]) _) w.unique0]
  simp only []
  rw [tlOpt_enc (hasBit m.mask 3) (tlVec tlPair) (tlEncVec (fun h => le 8 h.1 ++ le 8 h.2) m.hist) m.hist [] r
    (tlVec_enc tlPair (fun h => le 8 h.1 ++ le 8 h.2) m.hist w.histLen
      (fun h hh r => tlPair_enc h (w.hist h hh).1 (w.hist h hh).2 r) (fun x _ => by simp [le_length]) _) w.hist0]
  rfl

theorem tlEncMetric_length_ge (m : Metric) : 4 ≤ (tlEncMetric m).length := by
  unfold tlEncMetric
  simp only [List.length_append, le_length]; omega

theorem tlBatch_enc (ms : List Metric) (hn : ms.length < 2 ^ 32) (hw : ∀ m ∈ ms, m.WF) (r : Bytes) :
    tlBatch (tlEncBatch ms ++ r) = .ok (ms, r) := by
  unfold tlBatch tlEncBatch
  simp only [List.append_assoc]
  have hl : ¬ (le 4 tlBatchTag ++ (le 4 0 ++ (tlEncVec tlEncMetric ms ++ r))).length < 4 := by simp [le_length]
  rw [if_neg hl, take_le_append, drop_le_append, rdLE_le_of_lt (by decide)]
  simp only [ne_eq, not_true_eq_false, if_false]
  rw [tlNat_enc (by decide)]
  simp only []
  exact tlVec_enc tlMetric tlEncMetric ms hn (fun m hm r => tlMetric_enc m (hw m hm) r) (fun m _ => tlEncMetric_length_ge m) r

/-- the `switch` of parser.parse as a decision list: each format with the tests that lead to it -/
inductive Detected (pkt : Bytes) : Fmt → Prop
  | empty : pkt = [] → Detected pkt .empty
  | tl : pkt ≠ [] → pkt.take 4 = tlPrefix → Detected pkt .tl
  | json : pkt.take 4 ≠ tlPrefix → pkt.take 1 = [0x7b] → Detected pkt .json
  | legacy : pkt.take 4 ≠ tlPrefix → pkt.take 1 ≠ [0x7b] → pkt.take 2 = [0x53, 0x48] → Detected pkt .legacy
  | msgpack : pkt.take 4 ≠ tlPrefix → pkt.take 1 ≠ [0x7b] → pkt.take 2 ≠ [0x53, 0x48] → mpLooksLikeMap pkt = true →
      Detected pkt .msgpack
  | pb : pkt ≠ [] → pkt.take 4 ≠ tlPrefix → pkt.take 1 ≠ [0x7b] → pkt.take 2 ≠ [0x53, 0x48] →
      mpLooksLikeMap pkt ≠ true → Detected pkt .pb

theorem detect_spec (pkt : Bytes) : Detected pkt (detect pkt) := by
  unfold detect
  split
  · exact .empty ‹_›
  · split
    · exact .tl ‹_› ‹_›
    · split
      · exact .json ‹_› ‹_›
      · split
        · exact .legacy ‹_› ‹_› ‹_›
        · split
          · exact .msgpack ‹_› ‹_› ‹_› ‹_›
          · exact .pb ‹_› ‹_› ‹_› ‹_› ‹_›

/-- 0x39, 0x7b, 0x53: the first bytes of the TL, JSON and legacy prefixes -/
theorem detect_cons (lead : Nat) (r : Bytes) (h39 : lead ≠ 0x39) (h7b : lead ≠ 0x7b) (h53 : lead ≠ 0x53) :
    detect (lead :: r) = if mpLooksLikeMap (lead :: r) then .msgpack else .pb := by
  have h4 : (lead :: r).take 4 ≠ tlPrefix := fun h => h39 (List.cons.inj h).1
  have h1 : (lead :: r).take 1 ≠ [0x7b] := fun h => h7b (List.cons.inj h).1
  have h2 : (lead :: r).take 2 ≠ [0x53, 0x48] := fun h => h53 (List.cons.inj h).1
  unfold detect
  rw [if_neg (List.cons_ne_nil _ _), if_neg h4, if_neg h1, if_neg h2]

theorem detect_of_tlPrefix {pkt : Bytes} (h : pkt.take 4 = tlPrefix) : detect pkt = .tl := by
  have hne : pkt ≠ [] := by
    rintro rfl
    exact absurd h (by decide)
  unfold detect
  rw [if_neg hne, if_pos h]

theorem tlEncBatch_take4 (ms : List Metric) (r : Bytes) : (tlEncBatch ms ++ r).take 4 = tlPrefix := by
  unfold tlEncBatch
  rw [List.append_assoc, List.append_assoc, take_le_append]
  decide

theorem tlEncBatch_ne_nil (ms : List Metric) : tlEncBatch ms ≠ [] := by
  intro h
  have := tlEncBatch_take4 ms []
  rw [h] at this
  exact absurd this (by decide)

theorem detect_tlEnc (ms : List Metric) : detect (tlEncBatch ms) = .tl := by
  have := detect_of_tlPrefix (tlEncBatch_take4 ms [])
  rwa [List.append_nil] at this

theorem batchLoop_ok (dec : Bytes → MPR (List Metric)) (fmt : Fmt) (f : Nat) {pkt rest : Bytes} (acc : List Metric)
    (a : Nat) {a' : Nat} {ms : List Metric} (hne : pkt ≠ []) (h : dec pkt = ⟨a', .ok (ms, rest)⟩) :
    batchLoop dec fmt (f + 1) pkt acc a = batchLoop dec fmt f rest (acc ++ ms) (max a a') := by
  rw [batchLoop, if_neg hne, h]

theorem batchLoop_one (dec : Bytes → MPR (List Metric)) (fmt : Fmt) (pkt : Bytes) (ms : List Metric) (a : Nat)
    (hne : pkt ≠ []) (h : dec pkt = ⟨a, .ok (ms, [])⟩) :
    batchLoop dec fmt (pkt.length + 1) pkt [] 0 = { fmt := fmt, delivered := ms, alloc := a } := by
  obtain _ | ⟨x, xs⟩ := pkt
  · exact absurd rfl hne
  · simp [batchLoop, h]

/-- an encoded TL batch under the batch loop of `parse`: one turn, its metrics delivered -/
theorem tlEncBatch_stretch (ms : List Metric) (hn : ms.length < 2 ^ 32) (hw : ∀ m ∈ ms, m.WF) :
    Stretch (fun f (st : List Metric × Nat) b => batchLoop (fun b => ⟨0, tlBatch b⟩) .tl f b st.1 st.2) (tlEncBatch ms) 1
      fun st => (st.1 ++ ms, max st.2 0) :=
  .one (Nat.pos_of_ne_zero fun h => tlEncBatch_ne_nil ms (List.eq_nil_of_length_eq_zero h)) fun f st t =>
    batchLoop_ok _ .tl f st.1 st.2 (by simp [tlEncBatch_ne_nil ms]) (congrArg (MPR.mk 0) (tlBatch_enc ms hn hw t))

/-- `L` is a bound that stays fixed while the packet shrinks: `a ≤ pkt.length` would not carry over to the rest -/
theorem batchLoop_spec (dec : Bytes → MPR (List Metric)) (fmt : Fmt) (c : Prop) {k : Nat}
    (hd : ∀ b, (dec b).Good c b (k + 1)) :
    ∀ (f : Nat) (pkt : Bytes) (acc : List Metric) (a : Nat), pkt.length < f →
      (batchLoop dec fmt f pkt acc a).err ≠ some .fuel ∧
      (c → ∀ L, a ≤ L → pkt.length ≤ L → (batchLoop dec fmt f pkt acc a).alloc ≤ L)
  | 0, _, _, _, h => absurd h (Nat.not_lt_zero _)
  | f + 1, pkt, acc, a, hp => by
    rw [batchLoop]
    split
    · exact ⟨nofun, fun _ _ ha _ => ha⟩
    · obtain ⟨h1, h2⟩ := hd pkt
      generalize dec pkt = x at h1 h2 ⊢
      obtain ⟨a', e | ⟨ms, rest⟩⟩ := x
      · exact ⟨fun hh => h2 (Option.some.inj hh), fun hc L ha hl => Nat.max_le.2 ⟨ha, Nat.le_trans (h1 hc) hl⟩⟩
      · have hr := h2.le
        obtain ⟨ih1, ih2⟩ := batchLoop_spec dec fmt c hd f rest (acc ++ ms) (max a a') (by omega)
        exact ⟨ih1, fun hc L ha hl => ih2 hc L (Nat.max_le.2 ⟨ha, Nat.le_trans (h1 hc) hl⟩) (by omega)⟩

theorem batchLoop_parse {dec : Bytes → MPR (List Metric)} {c : Prop} {k : Nat} (fmt : Fmt)
    (hd : ∀ b, (dec b).Good c b (k + 1)) (pkt : Bytes) :
    (batchLoop dec fmt (pkt.length + 1) pkt [] 0).err ≠ some .fuel ∧
      (c → (batchLoop dec fmt (pkt.length + 1) pkt [] 0).alloc ≤ pkt.length) :=
  have h := batchLoop_spec dec fmt c hd _ pkt [] 0 (Nat.lt_succ_self _)
  ⟨h.1, fun hc => h.2 hc _ (Nat.zero_le _) (Nat.le_refl _)⟩

theorem splitF_fuel (m : Nat) : ∀ (f g : Nat) (b : Bytes), b.length < f → b.length < g → splitF m f b = splitF m g b := by
  intro f
  induction f with
  | zero => intro g b h; omega
  | succ f ih =>
    intro g b hf hg
    cases g with
    | zero => omega
    | succ g =>
      simp only [splitF]
      split
      · rfl
      · split
        · rfl
        · split
          · rfl
          · rename_i h1 h2 h3
            have hl : (b.drop (4 + rdLE (b.take 4))).length < b.length := by simp; omega
            rw [ih g _ (by omega) (by omega)]

theorem deframe_short (m : Nat) {b : Bytes} (h : b.length < 4) : deframe m b = ([], b, false) := by
  rw [deframe, splitF, if_pos h]

theorem hdr_append_take_drop {h : Bytes} (h4 : h.length = 4) (t : Bytes) :
    ¬ (h ++ t).length < 4 ∧ (h ++ t).take 4 = h ∧ (h ++ t).drop 4 = t :=
  ⟨by rw [List.length_append]; omega, List.take_left' h4, List.drop_left' h4⟩

theorem deframe_over (m : Nat) {h : Bytes} (h4 : h.length = 4) (ho : m < rdLE h) (t : Bytes) :
    deframe m (h ++ t) = ([], h ++ t, true) := by
  obtain ⟨a, b, _⟩ := hdr_append_take_drop h4 t
  rw [deframe, splitF, if_neg a, b, if_pos ho]

theorem deframe_part (m : Nat) {h t : Bytes} (h4 : h.length = 4) (hm : rdLE h ≤ m) (hs : t.length < rdLE h) :
    deframe m (h ++ t) = ([], h ++ t, false) := by
  obtain ⟨a, b, _⟩ := hdr_append_take_drop h4 t
  rw [deframe, splitF, if_neg a, b, if_neg (Nat.not_lt.2 hm), if_pos (by rw [List.length_append]; omega)]

/-- what follows a complete frame is split as a stream of its own: the fuel left over is more than it needs -/
theorem deframe_frame (m : Nat) {h body : Bytes} (h4 : h.length = 4) (hl : rdLE h = body.length) (hm : body.length ≤ m)
    (t : Bytes) : deframe m (h ++ (body ++ t)) = (body :: (deframe m t).1, (deframe m t).2) := by
  obtain ⟨a, b, c⟩ := hdr_append_take_drop h4 (body ++ t)
  have d : (h ++ (body ++ t)).drop (4 + body.length) = t := by
    rw [← List.drop_drop, c, List.drop_left]
  rw [deframe, splitF, if_neg a, b, hl, if_neg (by omega), if_neg (by simp; omega), c, List.take_left, d,
    splitF_fuel m _ (t.length + 1) t (by simp; omega) (Nat.lt_succ_self _)]
  rfl

/-- every byte string is a run of complete frames followed by one of: less than a header, an oversize header, a header
    with less than its body -/
theorem frames_ind (m : Nat) {P : Bytes → Prop}
    (short : ∀ b, b.length < 4 → P b)
    (over : ∀ h t, h.length = 4 → m < rdLE h → P (h ++ t))
    (part : ∀ h t, h.length = 4 → rdLE h ≤ m → t.length < rdLE h → P (h ++ t))
    (frame : ∀ h body t, h.length = 4 → rdLE h = body.length → body.length ≤ m → P t → P (h ++ (body ++ t)))
    (b : Bytes) : P b := by
  by_cases h4 : b.length < 4
  · exact short b h4
  · have e : b = b.take 4 ++ b.drop 4 := (List.take_append_drop 4 b).symm
    have l4 : (b.take 4).length = 4 := by rw [List.length_take]; omega
    by_cases ho : m < rdLE (b.take 4)
    · rw [e]; exact over _ _ l4 ho
    · by_cases hp : (b.drop 4).length < rdLE (b.take 4)
      · rw [e]; exact part _ _ l4 (by omega) hp
      · have e2 : b.drop 4 = (b.drop 4).take (rdLE (b.take 4)) ++ (b.drop 4).drop (rdLE (b.take 4)) :=
          (List.take_append_drop _ _).symm
        have l : ((b.drop 4).take (rdLE (b.take 4))).length = rdLE (b.take 4) := by rw [List.length_take]; omega
        rw [e, e2]
        exact frame _ _ _ l4 l.symm (by omega) (frames_ind m short over part frame _)
termination_by b.length
decreasing_by simp; omega

/-- the splitter can be resumed, so the chunking of a stream does not matter: what it makes of `a ++ x` is what it makes
    of `a`, continued on (rest of a) ++ x, unless it has met an oversize header, which later bytes do not undo -/
theorem deframe_append (m : Nat) (x a : Bytes) :
    deframe m (a ++ x) = if (deframe m a).2.2 then ((deframe m a).1, (deframe m a).2.1 ++ x, true)
      else ((deframe m a).1 ++ (deframe m ((deframe m a).2.1 ++ x)).1, (deframe m ((deframe m a).2.1 ++ x)).2) := by
  induction a using frames_ind m with
  | short b h => rw [deframe_short m h]; rfl
  | over h t h4 ho => rw [List.append_assoc, deframe_over m h4 ho, deframe_over m h4 ho, List.append_assoc]; rfl
  | part h t h4 hm hs => rw [deframe_part m h4 hm hs]; rfl
  | frame h body t h4 hl hm ih =>
    rw [List.append_assoc, List.append_assoc, deframe_frame m h4 hl hm, deframe_frame m h4 hl hm, ih]
    split <;> rfl

theorem deframe_rest_short (m : Nat) (a : Bytes) (hflag : (deframe m a).2.2 = false) : (deframe m a).2.1.length < 4 + m := by
  induction a using frames_ind m with
  | short b h => rw [deframe_short m h]; exact Nat.lt_add_right m h
  | over h t h4 ho => rw [deframe_over m h4 ho] at hflag; cases hflag
  | part h t h4 hm hs => rw [deframe_part m h4 hm hs, List.length_append]; omega
  | frame h body t h4 hl hm ih =>
    rw [deframe_frame m h4 hl hm] at hflag ⊢
    exact ih hflag

theorem deframe_frames (m : Nat) (bodies : List Bytes) (hm : ∀ b ∈ bodies, b.length ≤ m) (h32 : ∀ b ∈ bodies, b.length < 2 ^ 32) :
    deframe m (catMap frame bodies) = (bodies, [], false) := by
  induction bodies with
  | nil => exact deframe_short m (by decide)
  | cons b bs ih =>
    rw [catMap_cons, frame, List.append_assoc, deframe_frame m (le_length 4 _) (rdLE_le_of_lt (h32 b (by simp))) (hm b (by simp)),
      ih (fun x hx => hm x (by simp [hx])) (fun x hx => h32 x (by simp [hx]))]

/-- `c` is the connection state after the receiver has been offered the stream prefix `p` -/
structure After (m : Nat) (c : Conn) (p : Bytes) : Prop where
  frames : c.frames = (deframe m p).1
  ending : c.ending = if (deframe m p).2.2 then some .framing else none
  buf : (deframe m p).2.2 = false → c.buf = (deframe m p).2.1

theorem After.of_error {m : Nat} {c : Conn} {p : Bytes} (hA : After m c p) (hflag : (deframe m p).2.2 = true) (x : Bytes) :
    After m c (p ++ x) := by
  have e := deframe_append m x p
  rw [hflag, if_pos rfl] at e
  obtain ⟨h1, h2, _⟩ := hA
  rw [hflag] at h2
  exact ⟨by rw [e, h1], by rw [e, h2], fun h => by rw [e] at h; cases h⟩

/-- one `Read` of `x` on a live connection: by `deframe_append` the split of buffer ++ x is the split of `p ++ x` -/
theorem After.read {m : Nat} {c : Conn} {p : Bytes} (hA : After m c p) (hflag : (deframe m p).2.2 = false) (x : Bytes)
    (e : Option ConnEnd) (he : e = if (deframe m (c.buf ++ x)).2.2 then some .framing else none) :
    After m { frames := c.frames ++ (deframe m (c.buf ++ x)).1, buf := (deframe m (c.buf ++ x)).2.1, ending := e }
      (p ++ x) := by
  have e := deframe_append m x p
  rw [hflag, ← hA.buf hflag, ← hA.frames] at e
  simp only [Bool.false_eq_true, if_false] at e
  exact ⟨by rw [e], by rw [e]; exact he, fun _ => by rw [e]⟩

/-- The stall branch is ruled out because the buffer holds the rest of `p`, which is shorter than header + largest body
    (`deframe_rest_short`), and `hb`. -/
theorem After.of_recv (m bufSize : Nat) (hb : m + 4 ≤ bufSize) :
    ∀ (fuel : Nat) (c : Conn) (avail p : Bytes), avail.length < fuel → After m c p →
      After m (recv m bufSize fuel c avail) (p ++ avail)
  | 0, _, _, _, h, _ => absurd h (Nat.not_lt_zero _)
  | f + 1, c, avail, p, hf, hA => by
    have hend := hA.ending
    rw [recv]
    cases hflag : (deframe m p).2.2 with
    | true =>
      rw [hflag] at hend
      rw [if_pos (by rw [hend]; rfl)]
      exact hA.of_error hflag avail
    | false =>
      rw [hflag] at hend
      rw [if_neg (by rw [hend]; nofun)]
      split
      · rename_i ha
        rw [ha, List.append_nil]
        exact hA
      · rename_i ha
        have hshort := deframe_rest_short m p hflag
        rw [← hA.buf hflag] at hshort
        have hfree : ¬ (bufSize - c.buf.length = 0) := by omega
        rw [if_neg hfree]
        generalize bufSize - c.buf.length = k at hfree ⊢
        have hstep := hA.read hflag (avail.take k)
        have hS : splitF m ((c.buf ++ avail.take k).length + 1) (c.buf ++ avail.take k) = deframe m (c.buf ++ avail.take k) := rfl
        simp only [hS]
        rw [show p ++ avail = (p ++ avail.take k) ++ avail.drop k by rw [List.append_assoc, List.take_append_drop]]
        cases hf2 : (deframe m (c.buf ++ avail.take k)).2.2 with
        | true =>
          rw [hf2] at hstep
          rw [if_pos rfl]
          refine (hstep _ rfl).of_error ?_ _
          rw [deframe_append, hflag, ← hA.buf hflag]
          exact hf2
        | false =>
          rw [hf2] at hstep
          rw [if_neg (by nofun)]
          refine After.of_recv m bufSize hb f _ _ _ ?_ (hstep _ hend)
          have : avail.length ≠ 0 := fun h => ha (List.eq_nil_of_length_eq_zero h)
          rw [List.length_drop]
          omega

theorem After.of_chunks (m bufSize : Nat) (hb : m + 4 ≤ bufSize) :
    ∀ (chunks : List Bytes) (c : Conn) (p : Bytes), After m c p →
      After m (chunks.foldl (fun c ch => recv m bufSize (ch.length + 1) c ch) c) (p ++ chunks.flatten) := by
  intro chunks
  induction chunks with
  | nil => intro c p h; simpa using h
  | cons ch chs ih =>
    intro c p h
    simp only [List.foldl_cons, List.flatten_cons]
    rw [← List.append_assoc]
    exact ih _ _ (After.of_recv m bufSize hb _ c ch p (Nat.lt_succ_self _) h)

theorem After.init (m : Nat) : After m {} [] := by
  have h : deframe m [] = ([], [], false) := deframe_short m (by decide)
  exact ⟨by rw [h], by rw [h]; rfl, fun _ => by rw [h]⟩

end SH.Wire
