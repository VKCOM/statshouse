/-
  SH.Lemmas.EngineWaitQ — the wait queue of the engine (property C17): `binlogNotifyWaited` releases an entry only when the
  binlog commit covers what that entry stands for (a write: its own end offset; a read: the offset row it has read);
  `reach`: `Inv`, `Ch` and the wait-queue invariant at every state reachable from a fresh engine.  Defines for the property
  statements: `covered`, `bound`.
-/
import SH.Lemmas.EngineChain
namespace SH.Engine

/-- walking the queue with the running bound `b` (the committed offset and the offsets of the writes passed so far), every
    read has seen at most the bound at its place (it sits behind the write whose effects it saw, or those are committed) -/
def covered : Nat → List Waiter → Prop
  | _, [] => True
  | b, w :: t => if w.rd then w.off ≤ b ∧ covered b t else covered (max b w.off) t

/-- the running bound behind the queue -/
def bound : Nat → List Waiter → Nat
  | b, [] => b
  | b, w :: t => if w.rd then bound b t else bound (max b w.off) t

theorem covered_rd {b : Nat} {w : Waiter} {t : List Waiter} (h : w.rd = true) :
    covered b (w :: t) ↔ w.off ≤ b ∧ covered b t := by
  rw [covered, if_pos h]

theorem covered_wr {b : Nat} {w : Waiter} {t : List Waiter} (h : w.rd = false) :
    covered b (w :: t) ↔ covered (max b w.off) t := by
  rw [covered, if_neg (h ▸ Bool.false_ne_true)]

theorem bound_rd {b : Nat} {w : Waiter} {t : List Waiter} (h : w.rd = true) : bound b (w :: t) = bound b t := by
  rw [bound, if_pos h]

theorem bound_wr {b : Nat} {w : Waiter} {t : List Waiter} (h : w.rd = false) :
    bound b (w :: t) = bound (max b w.off) t := by
  rw [bound, if_neg (h ▸ Bool.false_ne_true)]

theorem max_le_max_left {b b' : Nat} (c : Nat) (h : b ≤ b') : max b c ≤ max b' c :=
  Nat.max_le.2 ⟨Nat.le_trans h (Nat.le_max_left ..), Nat.le_max_right ..⟩

theorem covered_mono : ∀ (q : List Waiter) (b b' : Nat), b ≤ b' → covered b q → covered b' q := by
  intro q
  induction q with
  | nil => intro _ _ _ _; trivial
  | cons w t ih =>
    intro b b' hb h
    cases hr : w.rd with
    | true =>
      rw [covered_rd hr] at h ⊢
      exact ⟨Nat.le_trans h.1 hb, ih _ _ hb h.2⟩
    | false =>
      rw [covered_wr hr] at h ⊢
      exact ih _ _ (max_le_max_left _ hb) h

theorem bound_eq : ∀ (q : List Waiter) (b : Nat), bound b q = max b (bound 0 q) := by
  intro q
  induction q with
  | nil => intro b; exact (Nat.max_zero b).symm
  | cons w t ih =>
    intro b
    cases hr : w.rd with
    | true =>
      rw [bound_rd hr, bound_rd hr]
      exact ih b
    | false =>
      rw [bound_wr hr, bound_wr hr, ih, ih (max 0 w.off), Nat.zero_max, Nat.max_assoc]

theorem bound_mono (q : List Waiter) (b b' : Nat) (h : b ≤ b') : bound b q ≤ bound b' q := by
  rw [bound_eq q b, bound_eq q b']
  exact max_le_max_left _ h

theorem bound_ge (q : List Waiter) (b : Nat) : b ≤ bound b q := by
  rw [bound_eq]
  exact Nat.le_max_left ..

theorem bound_append : ∀ (q q' : List Waiter) (b : Nat), bound b (q ++ q') = bound (bound b q) q' := by
  intro q
  induction q with
  | nil => intro q' b; rfl
  | cons a t ih =>
    intro q' b
    cases ha : a.rd with
    | true => rw [List.cons_append, bound_rd ha, bound_rd ha, ih]
    | false => rw [List.cons_append, bound_wr ha, bound_wr ha, ih]

theorem covered_append : ∀ (q q' : List Waiter) (b : Nat),
    covered b (q ++ q') ↔ covered b q ∧ covered (bound b q) q' := by
  intro q
  induction q with
  | nil => intro q' b; exact ⟨fun h => ⟨trivial, h⟩, fun h => h.2⟩
  | cons a t ih =>
    intro q' b
    cases ha : a.rd with
    | true => rw [List.cons_append, covered_rd ha, covered_rd ha, bound_rd ha, ih, and_assoc]
    | false => rw [List.cons_append, covered_wr ha, covered_wr ha, bound_wr ha, ih]

theorem released_covered : ∀ (q : List Waiter) (b k : Nat), b ≤ k → covered b q →
    (∀ w ∈ released k q, w.off ≤ k) ∧ covered k (remaining k q) ∧ bound b q ≤ bound k (remaining k q) := by
  intro q
  induction q with
  | nil => intro b k hb _; exact ⟨fun w hw => (nomatch hw), trivial, hb⟩
  | cons a t ih =>
    intro b k hb h
    unfold released remaining
    rw [List.takeWhile_cons, List.dropWhile_cons]
    by_cases hrel : relOK k a = true
    · -- `a` is released: a read was covered by `b ≤ k`, a write has its own offset committed
      rw [if_pos hrel, if_pos hrel]
      cases hr : a.rd with
      | true =>
        rw [covered_rd hr] at h
        rw [bound_rd hr]
        obtain ⟨i1, i2, i3⟩ := ih b k hb h.2
        exact ⟨fun w hw => (List.mem_cons.1 hw).elim (fun e => e ▸ Nat.le_trans h.1 hb) (i1 w), i2, i3⟩
      | false =>
        have hk : a.off ≤ k := by simpa [relOK, hr] using hrel
        rw [covered_wr hr] at h
        rw [bound_wr hr]
        obtain ⟨i1, i2, i3⟩ := ih (max b a.off) k (Nat.max_le.2 ⟨hb, hk⟩) h
        exact ⟨fun w hw => (List.mem_cons.1 hw).elim (fun e => e ▸ hk) (i1 w), i2, i3⟩
    · -- `a` is a write beyond `k`: it and everything behind it stays
      rw [if_neg hrel, if_neg hrel]
      have hr : a.rd = false := by
        cases hr : a.rd with
        | false => rfl
        | true => exact absurd (by simp [relOK, hr]) hrel
      rw [covered_wr hr] at h ⊢
      rw [bound_wr hr, bound_wr hr]
      exact ⟨fun w hw => (nomatch hw), covered_mono _ _ _ (max_le_max_left _ hb) h, bound_mono _ _ _ (max_le_max_left _ hb)⟩

/-- `w2`: calls are parked only on a master that neither re-reads nor queues (a step that moves records finds the queue empty:
    `hnil` in `step_wq`), and the offset row stays below the running bound, which covers the read parked next.
    Over `s`, not over components: `⟨h.w1, h.w2, h.w3⟩` re-types the clauses for a state that differs in other fields. -/
structure WQ (s : St) : Prop where
  w1 : covered s.ci s.waitQ
  w2 : s.waitQ ≠ [] → s.q = false ∧ s.rest = [] ∧ s.repl = false ∧ s.tx.off ≤ bound s.ci s.waitQ
  w3 : s.wait = false → s.waitQ = []       -- calls are parked in WaitCommit mode only (a must-commit-now write is released within its own step)

theorem wq_of_nil {s : St} (h : s.waitQ = []) : WQ s :=
  ⟨h ▸ trivial, fun hn => absurd h hn, fun _ => h⟩

theorem wq_wait {s : St} (h : WQ s) (hn : s.waitQ ≠ []) : s.wait = true := by
  cases hw : s.wait with
  | true => rfl
  | false => exact absurd (h.w3 hw) hn

theorem notify_wq {s : St} (h : WQ s) (k : Nat) (hk : s.ci ≤ k) : WQ (notify s k) := by
  obtain ⟨i1, i2, i3⟩ := released_covered s.waitQ s.ci k hk h.w1
  refine ⟨i2, ?_, ?_⟩
  · intro hn
    have hne : s.waitQ ≠ [] := by
      intro he
      apply hn
      show remaining k s.waitQ = []
      rw [he]; rfl
    obtain ⟨a, b, c, d⟩ := h.w2 hne
    exact ⟨a, b, c, Nat.le_trans d i3⟩
  · intro hw
    show remaining k s.waitQ = []
    rw [h.w3 hw]; rfl

theorem commitStep_wq {s : St} (h : WQ s) (k : Nat) : WQ (commitStep s k) := by
  have hn : ¬ k < s.ci → WQ (notify (announce s k) k) := fun hci =>
    notify_wq (s := announce s k) ⟨h.w1, h.w2, h.w3⟩ k (Nat.not_lt.1 hci)
  refine commitStep_cases s k (fun _ => ⟨h.w1, h.w2, h.w3⟩) (fun _ hq _ => ?_) (fun hci _ _ _ => ?_) fun hci _ => hn hci
  · -- a delayed commit needs q = true, so nobody is parked
    have hnil : s.waitQ = [] := Decidable.byContradiction fun he => Bool.false_ne_true ((h.w2 he).1 ▸ hq)
    apply wq_of_nil
    rw [flushQ_eq]
    show remaining k s.waitQ = []
    rw [hnil]; rfl
  · exact ⟨(hn hci).w1, (hn hci).w2, (hn hci).w3⟩

theorem commitStep_waitQ_eq (t : St) (k : Nat) (h : ¬ k < t.ci) : (commitStep t k).waitQ = remaining k t.waitQ := by
  refine commitStep_cases (P := fun x => x.waitQ = remaining k t.waitQ) t k (fun hlt => absurd hlt h) (fun _ _ _ => ?_)
    (fun _ _ _ _ => rfl) fun _ _ => rfl
  rw [flushQ_eq]; rfl

theorem step_wq {s : St} (hi : Inv s) (h : WQ s) (op : Op) : WQ (step s op).1 := by
  have hnil : s.rest ≠ [] ∨ s.q = true ∨ s.repl = true → s.waitQ = [] := by
    intro hx
    refine Decidable.byContradiction fun he => ?_
    obtain ⟨a, b, c, _⟩ := h.w2 he
    rcases hx with hx | hx | hx
    · exact hx b
    · exact Bool.false_ne_true (a ▸ hx)
    · exact Bool.false_ne_true (c ▸ hx)
  apply step_cases s op h
  case wAck =>
    intro id ln extra b hb hc hci
    obtain ⟨c1, _, c2, c3⟩ := canWrite_iff.1 hc
    dsimp only [ackNow, writeOK]
    exact ⟨h.w1, fun hn => ⟨c2, c3, c1, Nat.le_trans (hci (hb ▸ wq_wait h hn)) (bound_ge _ _)⟩, h.w3⟩
  case wPark =>
    intro id ln extra hw hc
    obtain ⟨c1, _, c2, c3⟩ := canWrite_iff.1 hc
    dsimp only [park, writeOK]
    refine ⟨(covered_append _ _ _).2 ⟨h.w1, (covered_wr rfl).2 trivial⟩, fun _ => ⟨c2, c3, c1, ?_⟩,
      fun hf => absurd (hw ▸ hf : true = false) (fun e => nomatch e)⟩
    rw [bound_append, bound_wr rfl]
    exact Nat.le_max_right ..
  case rPark =>
    intro id hw hne
    obtain ⟨a, b, c, d⟩ := h.w2 hne
    dsimp only [park]
    refine ⟨(covered_append _ _ _).2 ⟨h.w1, (covered_rd rfl).2 ⟨d, trivial⟩⟩, fun _ => ⟨a, b, c, Nat.le_trans d ?_⟩,
      fun hf => absurd (hw ▸ hf : true = false) (fun e => nomatch e)⟩
    rw [bound_append]
    exact bound_ge _ _
  case rAck =>
    intro _
    exact ⟨h.w1, h.w2, h.w3⟩
  case now =>
    -- the must-commit-now write is the only parked call; the commit of its own end offset releases it
    intro id ln extra hw hc
    have hnot : ¬ (s.dbo + plen ln + extra) < s.ci :=
      Nat.not_lt.2 (Nat.le_trans hi.1.i7b (Nat.le_trans hi.1.dl (Nat.le_trans (Nat.le_of_eq (canWrite_iff.1 hc).2.1.symm)
        (Nat.le_trans (Nat.le_add_right ..) (Nat.le_add_right ..)))))
    refine wq_of_nil ?_
    rw [commitStep_waitQ_eq (park (writeOK s id ln extra) id (s.dbo + plen ln) false) _ hnot]
    show remaining (s.dbo + plen ln + extra) (s.waitQ ++ [⟨id, s.dbo + plen ln, false⟩]) = []
    rw [h.w3 hw]
    simp [remaining, relOK]
  case commit =>
    intro k _
    exact commitStep_wq h k
  case comTx =>
    intro t ht _
    exact ⟨ht.w1, ht.w2, ht.w3⟩
  case enq =>
    intro n it m hne _ _ _
    exact wq_of_nil (hnil (Or.inl hne))
  case direct =>
    intro n hne _
    exact wq_of_nil (hnil (Or.inl hne))
  case append =>
    intro l hr _
    exact wq_of_nil (hnil (Or.inr (Or.inr hr)))
  case flags =>
    intro t ht _ _ _
    exact ⟨ht.w1, ht.w2, ht.w3⟩
  case crash =>
    intro _ _
    exact wq_of_nil rfl
  case torn =>
    intro _ _ _
    exact wq_of_nil rfl
  case ready =>
    intro hq
    refine wq_of_nil ?_
    rw [flushQ_eq]
    exact hnil (Or.inr (Or.inl hq))

theorem run_good : ∀ (ops : List Op) (s : St), Inv s → Ch s → WQ s →
    Inv (run s ops) ∧ Ch (run s ops) ∧ WQ (run s ops) := by
  intro ops
  induction ops with
  | nil => intro s hi hc h; exact ⟨hi, hc, h⟩
  | cons op t ih => intro s hi hc h; exact ih _ (step_good hi hc op).1 (step_good hi hc op).2 (step_wq hi h op)

theorem reach (w r : Bool) (l : List (Bool × Nat × Nat)) (hl : ∀ x ∈ l, 0 < x.2.2) (ops : List Op) :
    Inv (run (fresh w r l) ops) ∧ Ch (run (fresh w r l) ops) ∧ WQ (run (fresh w r l) ops) :=
  run_good ops _ (fresh_inv w r l hl) (ch_fresh w r l hl) (wq_of_nil rfl)

end SH.Engine
