/-
  SH.Lemmas.TableWhats — getHandlerWhat (property C25, "exactly one column per requested function"): the grouping of the
  requested functions into storage queries drops nothing and keeps the order of the (sorted) request, and every query
  uses between 1 and tsValueCount selectors.
-/
import SH.Model.Table
import SH.Lemmas.Lists

namespace SH.C25
open SH.Table

/-- all functions of the loop state, in order -/
def flatState (s : GroupState) : List Fn := ((s.cur :: s.done).reverse).flatMap (·.sel)

theorem flatState_step (s : GroupState) (w : Fn) : flatState (groupStep s w) = flatState s ++ [w] := by
  fun_cases groupStep s w <;> simp [flatState, List.flatMap_append, newQuery]

theorem flatState_fold : ∀ (ws : List Fn) (s : GroupState), flatState (ws.foldl groupStep s) = flatState s ++ ws := by
  intro ws
  induction ws with
  | nil => intro s; simp
  | cons w ws ih => intro s; simp [List.foldl_cons, ih, flatState_step]

theorem groupSorted_concat (ws : List Fn) : (groupSorted ws).flatMap (·.sel) = ws := by
  cases ws with
  | nil => simp [groupSorted]
  | cons w ws =>
    have := flatState_fold ws { done := [], cur := newQuery w }
    simp only [flatState] at this
    simp only [groupSorted]
    rw [this]
    simp [newQuery]

theorem sortFns_eq_foldr (l : List Fn) : sortFns l = l.foldr insertFn [] := by
  induction l with
  | nil => rfl
  | cons x xs ih => rw [sortFns, ih, List.foldr_cons]

theorem sortFns_spec (l : List Fn) : (sortFns l).Perm l ∧ (sortFns l).Pairwise (fun a b => a.digest ≤ b.digest) := by
  rw [sortFns_eq_foldr]
  exact Lists.foldr_ins_spec (fun x y => x.digest < y.digest) insertFn (fun _ => rfl) (fun _ _ _ => rfl)
    (fun a b => a.digest ≤ b.digest) (fun _ => True) (fun _ _ _ _ _ _ => Nat.le_trans) (fun _ _ _ _ => Nat.le_of_lt)
    (fun _ _ _ _ => Nat.le_of_not_lt) l (fun _ _ => trivial)

/-- every storage query uses at least one and at most tsValueCount (= len(tsWhat)) selectors -/
def QryOk (g : HandlerWhat) : Prop := 1 ≤ g.qry.length ∧ g.qry.length ≤ tsValueCount

theorem groupStep_qryOk (s : GroupState) (w : Fn) (h : QryOk s.cur ∧ ∀ g ∈ s.done, QryOk g) :
    QryOk (groupStep s w).cur ∧ ∀ g ∈ (groupStep s w).done, QryOk g := by
  fun_cases groupStep s w
  · rename_i hlt _
    exact ⟨⟨by simp, by simpa using Nat.succ_le_of_lt hlt⟩, h.2⟩
  · exact h
  · exact ⟨by simp [QryOk, newQuery, tsValueCount], List.forall_mem_cons.2 h⟩

theorem fold_qryOk (ws : List Fn) (s : GroupState) (h : QryOk s.cur ∧ ∀ g ∈ s.done, QryOk g) :
    QryOk (ws.foldl groupStep s).cur ∧ ∀ g ∈ (ws.foldl groupStep s).done, QryOk g :=
  List.foldlRecOn ws groupStep h (fun s hs w _ => groupStep_qryOk s w hs)

theorem groupSorted_qryOk (ws : List Fn) : ∀ g ∈ groupSorted ws, QryOk g := by
  cases ws with
  | nil => intro g hg; simp [groupSorted] at hg
  | cons w ws =>
    have := fold_qryOk ws { done := [], cur := newQuery w } ⟨by simp [QryOk, newQuery, tsValueCount], by simp⟩
    intro g hg
    simp only [groupSorted, List.mem_reverse, List.mem_cons] at hg
    rcases hg with rfl | hg
    · exact this.1
    · exact this.2 g hg

theorem colsOf_flatten (request : List Fn) : (colsOf request).flatten = (sortFns request).map (·.field) := by
  have h := groupSorted_concat (sortFns request)
  simp only [colsOf, getHandlerWhat]
  conv => rhs; rw [← h]
  simp only [List.flatMap_def, List.map_flatten, List.map_map]
  rfl

theorem colsOf_total (request : List Fn) : ((colsOf request).map List.length).sum = request.length := by
  have h := congrArg List.length (colsOf_flatten request)
  rw [List.length_flatten, List.length_map, (sortFns_spec request).1.length_eq] at h
  exact h

end SH.C25
