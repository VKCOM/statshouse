/-
  SH.Lemmas.Transfer — what holds of the transfer model (SH.Model.Transfer) without arithmetic.  Core Lean only; the
  number type is generic with the model's own type classes, so the order facts a proof needs (`¬ c ≤ 0`, `0 ≤ 0`, a
  validator returning 0) come in as hypotheses.  Notions of its own: `HostsNorm` (what ItemValue.Merge needs of the value
  merged in), `topKeyOf` and `MergesAs` (the Top loop of MergeWithTLMultiItem on a fresh row), `AgentClosed` (what an
  agent operation can do to a row).
-/
import SH.Model.Transfer
import SH.Lemmas.Lists

namespace SH.Transfer

theorem ite_inv {σ : Type} (P : σ → Prop) {c : Prop} [Decidable c] {a b : σ} (ha : P a) (hb : P b) :
    P (if c then a else b) :=
  iteInduction (fun _ => ha) (fun _ => hb)

theorem lookup_mem {κ β : Type} [BEq κ] [LawfulBEq κ] (k : κ) (l : List (κ × β)) (b : β) (h : l.lookup k = some b) :
    (k, b) ∈ l := by
  obtain ⟨l1, l2, rfl, _⟩ := List.lookup_eq_some_iff.mp h
  exact List.mem_append_right _ List.mem_cons_self

theorem getD_ite_isEmpty {β : Type} (l : List β) : (if l.isEmpty then none else some l).getD [] = l := by
  cases l with
  | nil => rfl
  | cons a l => rfl

theorem getD_ite_zero {α : Type} [Zero α] [DecidableEq α] (x : α) : (if x = 0 then none else some x).getD 0 = x := by
  by_cases h0 : x = 0
  · rw [if_pos h0, h0]
    rfl
  · rw [if_neg h0]
    rfl

theorem setInsert_append (a : List Nat) (x : Nat) (h : ∀ y ∈ a, y < x) : setInsert a x = a ++ [x] := by
  induction a with
  | nil => rfl
  | cons y ys ih =>
    have hy : y < x := h y List.mem_cons_self
    rw [setInsert, if_neg (by omega), if_neg (by omega), ih (fun z hz => h z (List.mem_cons_of_mem _ hz))]
    rfl

theorem foldl_setInsert (b : List Nat) : ∀ a : List Nat, (a ++ b).Pairwise (· < ·) → b.foldl setInsert a = a ++ b := by
  induction b with
  | nil => exact fun a _ => (List.append_nil a).symm
  | cons x xs ih =>
    intro a h
    have hx : ∀ y ∈ a, y < x := fun y hy => (List.pairwise_append.mp h).2.2 y hy x List.mem_cons_self
    rw [List.foldl_cons, setInsert_append a x hx, ih (a ++ [x]) (by rwa [List.append_assoc]), List.append_assoc]
    rfl

theorem uqMerge_toTL_uq (u : List Nat) (hu : u.Pairwise (· < ·)) :
    uqMerge [] (if u.isEmpty then none else some u) = u := by
  unfold uqMerge
  rw [getD_ite_isEmpty]
  exact foldl_setInsert u [] hu

theorem mem_setInsert (l : List Nat) (x y : Nat) (h : y ∈ setInsert l x) : y = x ∨ y ∈ l := by
  induction l with
  | nil => exact Or.inl (List.mem_singleton.mp h)
  | cons z zs ih =>
    unfold setInsert at h
    by_cases h1 : x < z
    · rw [if_pos h1] at h
      exact List.mem_cons.mp h
    rw [if_neg h1] at h
    by_cases h2 : x = z
    · rw [if_pos h2] at h
      exact Or.inr h
    rw [if_neg h2] at h
    rcases List.mem_cons.mp h with h | h
    · exact Or.inr (h ▸ List.mem_cons_self)
    · exact (ih h).imp_right (List.mem_cons_of_mem _)

theorem setInsert_pairwise (l : List Nat) (x : Nat) (h : l.Pairwise (· < ·)) : (setInsert l x).Pairwise (· < ·) := by
  induction l with
  | nil => exact List.pairwise_singleton _ _
  | cons z zs ih =>
    obtain ⟨h1, h2⟩ := List.pairwise_cons.mp h
    unfold setInsert
    by_cases hx : x < z
    · rw [if_pos hx]
      refine List.pairwise_cons.mpr ⟨fun a ha => ?_, h⟩
      rcases List.mem_cons.mp ha with rfl | ha
      · exact hx
      · exact Nat.lt_trans hx (h1 a ha)
    rw [if_neg hx]
    by_cases he : x = z
    · rw [if_pos he]
      exact h
    rw [if_neg he]
    refine List.pairwise_cons.mpr ⟨fun a ha => ?_, ih h2⟩
    rcases mem_setInsert zs x a ha with rfl | ha
    · omega
    · exact h1 a ha

theorem foldl_setInsert_pairwise {β : Type} (f : β → Nat) (l : List β) (u : List Nat) (h : u.Pairwise (· < ·)) :
    (l.foldl (fun u b => setInsert u (f b)) u).Pairwise (· < ·) :=
  List.foldlRecOn l _ h (fun u hu b _ => setInsert_pairwise u (f b) hu)

/-- The three host tags are normalized: all ItemValue.Merge needs of the value it merges IN (its value fields are read
    only when its ValueSet is true), hence all the temporary value of ApplyValues / ApplyUnique has to satisfy. -/
def HostsNorm {α : Type} (v : ItemValue α) : Prop := v.hcnt.isNorm = true ∧ v.hmin.isNorm = true ∧ v.hmax.isNorm = true

section
variable {α : Type}

theorem simpleItemCounter_hosts [Zero α] (c : α) (host : Tag) (hh : host.isNorm = true) :
    HostsNorm (simpleItemCounter c host) :=
  ⟨hh, rfl, rfl⟩

theorem scaleTmp_hosts [One α] [Mul α] [Div α] [DecidableEq α] (t : ItemValue α) (c tot : α) (ht : HostsNorm t) :
    HostsNorm (scaleTmp t c tot) :=
  ite_inv HostsNorm ht (ite_inv HostsNorm ht ht)

variable [Add α] [Mul α] [LT α] [DecidableLT α]

theorem addOnlyValue_hosts (s : ItemValue α) (x c : α) (host : Tag) (hs : HostsNorm s) (hh : host.isNorm = true) :
    HostsNorm (addOnlyValue s x c host) :=
  ⟨hs.1, ite_inv (fun t : Tag => t.isNorm = true) hh hs.2.1, ite_inv (fun t : Tag => t.isNorm = true) hh hs.2.2⟩

theorem tmpOfValues_hosts [Zero α] [One α] [Div α] [DecidableEq α] (hist : List (α × α)) (vals : List α) (c tot : α)
    (host : Tag) (hh : host.isNorm = true) : HostsNorm (tmpOfValues hist vals c tot host) :=
  scaleTmp_hosts _ _ _ (List.foldlRecOn hist _
    (List.foldlRecOn vals _ (simpleItemCounter_hosts c host hh) (fun t ht _ _ => addOnlyValue_hosts t _ _ host ht hh))
    (fun t ht _ _ => addOnlyValue_hosts t _ _ host ht hh))

end

theorem normalize_ok (t : Tag) (h : t.isEmpty = false) : t.normalize.isEmpty = false ∧ t.normalize.isNorm = true := by
  obtain ⟨i, s⟩ := t
  by_cases hi : i = 0
  · subst hi
    cases s with
    | nil => simp [Tag.isEmpty] at h
    | cons c cs => exact ⟨rfl, rfl⟩
  · refine ⟨?_, ?_⟩ <;> simp [Tag.normalize, hi, Tag.isEmpty, Tag.isNorm]

theorem norm_cases (t : Tag) (hn : t.isNorm = true) :
    t = ⟨0, []⟩ ∨ (∃ c cs, t = ⟨0, c :: cs⟩) ∨ ∃ i, i ≠ 0 ∧ t = ⟨i, []⟩ := by
  obtain ⟨i, s⟩ := t
  by_cases hi : i = 0
  · subst hi
    cases s with
    | nil => exact Or.inl rfl
    | cons c cs => exact Or.inr (Or.inl ⟨c, cs, rfl⟩)
  · have : s = [] := by simpa [Tag.isNorm, hi] using hn
    exact Or.inr (Or.inr ⟨i, hi, by rw [this]⟩)

theorem mem_dropTrailing {β : Type} (p : β → Bool) (l : List β) (x : β) (h : x ∈ dropTrailing p l) : x ∈ l :=
  List.mem_reverse.mp ((List.dropWhile_sublist _).subset (List.mem_reverse.mp h))

theorem pad_dropTrailing {β : Type} (p : β → Bool) (d : β) (hp : ∀ x, p x = true → x = d) (n : Nat) (l : List β)
    (hl : l.length = n) : padTo n d (dropTrailing p l) = l := by
  have hrev : l = (l.reverse.dropWhile p).reverse ++ (l.reverse.takeWhile p).reverse := by
    rw [← List.reverse_append, List.takeWhile_append_dropWhile, List.reverse_reverse]
  have hrep : (l.reverse.takeWhile p).reverse = List.replicate _ d :=
    List.eq_replicate_iff.mpr
      ⟨rfl, fun x hx => hp x (List.all_eq_true.mp List.all_takeWhile x (List.mem_reverse.mp hx))⟩
  have hlen : n = (l.reverse.dropWhile p).reverse.length + (l.reverse.takeWhile p).reverse.length := by
    rw [← hl, ← List.length_append, ← hrev]
  unfold padTo dropTrailing
  rw [hlen, Nat.add_sub_cancel_left, ← hrep, ← hrev]
  exact List.take_of_length_le (by rw [← hlen, hl]; exact Nat.le_refl n)

theorem pad_tags (n : Nat) (l : List Int) (hl : l.length = n) : padTo n 0 (dropTrailing (fun x => x == 0) l) = l :=
  pad_dropTrailing _ 0 (by intro x hx; simpa using hx) n l hl

theorem pad_stags (n : Nat) (l : List Str) (hl : l.length = n) :
    padTo n [] (dropTrailing (fun (x : Str) => x.isEmpty) l) = l :=
  pad_dropTrailing _ [] (by intro x hx; simpa using hx) n l hl

theorem key_ext (a b : Key) (h1 : a.ts = b.ts) (h2 : a.metric = b.metric) (h3 : a.tags = b.tags)
    (h4 : a.stags = b.stags) : a = b := by
  cases a
  cases b
  rw [Key.mk.injEq]
  exact ⟨h1, h2, h3, h4⟩

section
variable {α : Type} [Zero α]

theorem topUpdate_fresh (f : MultiValue α → MultiValue α) (k : Tag) (top : List (Tag × MultiValue α))
    (h : ∀ kv ∈ top, kv.1 ≠ k) : topUpdate top k f = top ++ [(k, f MultiValue.empty)] := by
  induction top with
  | nil => rfl
  | cons kv rest ih =>
    rw [topUpdate, if_neg (h kv List.mem_cons_self), ih (fun x hx => h x (List.mem_cons_of_mem _ hx))]
    rfl

theorem topUpdate_mem (f : MultiValue α → MultiValue α) (k : Tag) (top : List (Tag × MultiValue α))
    (kv : Tag × MultiValue α) (h : kv ∈ topUpdate top k f) :
    kv ∈ top ∨ (kv.1 = k ∧ ∃ m, (m = MultiValue.empty ∨ (k, m) ∈ top) ∧ kv.2 = f m) := by
  induction top with
  | nil =>
    rw [List.mem_singleton.mp h]
    exact Or.inr ⟨rfl, MultiValue.empty, Or.inl rfl, rfl⟩
  | cons km rest ih =>
    unfold topUpdate at h
    by_cases hk : km.1 = k
    · rw [if_pos hk] at h
      rcases List.mem_cons.mp h with h | h
      · rw [h]
        exact Or.inr ⟨hk, km.2, Or.inr (hk ▸ List.mem_cons_self), rfl⟩
      · exact Or.inl (List.mem_cons_of_mem _ h)
    · rw [if_neg hk] at h
      rcases List.mem_cons.mp h with h | h
      · exact Or.inl (h ▸ List.mem_cons_self)
      · rcases ih h with h' | ⟨h1, m', h2, h3⟩
        · exact Or.inl (List.mem_cons_of_mem _ h')
        · exact Or.inr ⟨h1, m', h2.imp_right (List.mem_cons_of_mem _), h3⟩

theorem topUpdate_distinct (f : MultiValue α → MultiValue α) (k : Tag) (top : List (Tag × MultiValue α))
    (h : top.Pairwise (fun a b => a.1 ≠ b.1)) : (topUpdate top k f).Pairwise (fun a b => a.1 ≠ b.1) := by
  induction top with
  | nil => exact List.pairwise_singleton _ _
  | cons km rest ih =>
    obtain ⟨h1, h2⟩ := List.pairwise_cons.mp h
    unfold topUpdate
    by_cases hk : km.1 = k
    · rw [if_pos hk]
      exact List.pairwise_cons.mpr ⟨h1, h2⟩
    · rw [if_neg hk]
      refine List.pairwise_cons.mpr ⟨fun b hb => ?_, ih h2⟩
      rcases topUpdate_mem f k rest b hb with hb' | ⟨hb1, _⟩
      · exact h1 b hb'
      · rw [hb1]
        exact hk

end

section
variable {α : Type} [Zero α] [One α] [Mul α] [LE α] [DecidableEq α] [DecidableLE α]

theorem rowToTL_top (var : Variant) (r : Row α) (bucketTs : Nat) (sf : α) (pct : Bool) (cents : Tag → List (Centroid α)) :
    (rowToTL var r bucketTs sf pct cents).top.getD [] =
      r.top.map (fun kv => ⟨kv.1.s, hostI kv.1, toTL var kv.2 sf pct (cents kv.1)⟩) := by
  unfold rowToTL
  cases r.top with
  | nil => rfl
  | cons a l => rfl

theorem rowToTL_skeys (var : Variant) (r : Row α) (bucketTs : Nat) (sf : α) (pct : Bool) (cents : Tag → List (Centroid α)) :
    (rowToTL var r bucketTs sf pct cents).skeys.getD [] = dropTrailing (fun (x : Str) => x.isEmpty) r.key.stags :=
  getD_ite_isEmpty _

variable (var : Variant) (m : MultiValue α) (sf : α) (pct : Bool) (cents : List (Centroid α))

theorem toTL_nonpos (hn : m.v.counter * sf ≤ 0) : toTL var m sf pct cents = TLValue.empty := by
  unfold toTL
  rw [if_pos hn]

variable (hn : ¬ m.v.counter * sf ≤ 0)
include hn

theorem toTL_unset (hv : m.v.vset = false) : toTL var m sf pct cents = toTLHead var m sf := by
  unfold toTL
  rw [if_neg hn, hv]
  rfl

theorem toTL_set (hv : m.v.vset = true) :
    toTL var m sf pct cents =
      { toTLHead var m sf with
        cents := toTLCents m sf pct cents
        implicit := toTLImplicit m pct
        vset := true
        min := if m.v.min = 0 then none else some m.v.min
        max := if compact var m.v then none else some m.v.max
        sum := if compact var m.v then 0 else m.v.sum * sf
        sq := if compact var m.v then 0 else m.v.sq * sf } := by
  unfold toTL
  rw [if_neg hn, hv]
  rfl

theorem toTL_counter_vset_uq :
    tlCounter (toTL var m sf pct cents) = m.v.counter * sf ∧ (toTL var m sf pct cents).vset = m.v.vset ∧
      (toTL var m sf pct cents).uq = if m.uq.isEmpty then none else some m.uq := by
  have hc : tlCounter (toTLHead var m sf) = m.v.counter * sf := by
    by_cases h : m.v.counter * sf = 1 <;> simp [tlCounter, toTLHead, TLValue.empty, h]
  cases hv : m.v.vset with
  | false =>
    rw [toTL_unset var m sf pct cents hn hv]
    exact ⟨hc, rfl, rfl⟩
  | true =>
    rw [toTL_set var m sf pct cents hn hv]
    exact ⟨hc, rfl, rfl⟩

variable [Add α] [LT α] [NatCast α] [DecidableLT α]

theorem valueFieldsErr_toTL (hv : m.v.vset = true) (e0 : valueErr (0 : α) = 0) (e1 : valueErr m.v.min = 0)
    (e2 : valueErr m.v.max = 0) (e3 : valueErr (m.v.sum * sf) = 0) :
    valueFieldsErr (toTL var m sf pct cents) = 0 := by
  rw [toTL_set var m sf pct cents hn hv]
  unfold valueFieldsErr
  simp only [getD_ite_zero]
  cases compact var m.v
  · simp only [Bool.false_eq_true, if_false, Option.getD_some, e1, e2, e3, ne_eq, not_true_eq_false]
  · simp only [if_true, Option.getD_none, e0, e1, ne_eq, not_true_eq_false, if_false]

end

/-- `h0` holds in every preorder; the model's classes do not know it -/
theorem addCounterHost_empty {α : Type} [Zero α] [Add α] [LE α] [DecidableLE α] (c : α) (host : Tag) (pick : Bool)
    (hc : ¬ c ≤ 0) (h0 : (0 : α) ≤ 0) :
    addCounterHost (ItemValue.empty : ItemValue α) c host pick =
      { (ItemValue.empty : ItemValue α) with hcnt := host, counter := c } := by
  unfold addCounterHost
  rw [if_neg hc, if_pos (show (ItemValue.empty : ItemValue α).counter ≤ 0 from h0)]

section
variable {α : Type} [Zero α] [Add α] [LT α] [LE α] [NatCast α] [DecidableEq α] [DecidableLT α] [DecidableLE α]

theorem addCentroids_ok (cs : List (Centroid α)) : ∀ dg : List (Centroid α),
    (∀ c ∈ cs, c.w ≠ 0 ∧ counterErr c.w = 0 ∧ valueErr c.mean = 0 ∧ ¬ c.w ≤ 0) → addCentroids dg cs = (dg ++ cs, 0) := by
  induction cs with
  | nil =>
    intro dg _
    rw [addCentroids, List.append_nil]
  | cons c cs ih =>
    intro dg h
    obtain ⟨h1, h2, h3, h4⟩ := h c List.mem_cons_self
    rw [addCentroids, if_neg h1, if_neg (fun e => e h2), if_neg (fun e => e h3), dgAdd, if_neg h4,
      ih (dg ++ [c]) (fun x hx => h x (List.mem_cons_of_mem _ hx)), List.append_assoc]
    rfl

theorem mergeDigest_nil (m : MultiValue α) (t : TLValue α) (c : α) (h : tlCents t = []) :
    mergeDigest m t c =
      if t.implicit then ⟨{ m with dg := some (dgAdd (m.dg.getD []) ⟨t.min.getD 0, c⟩) }, 0⟩ else ⟨m, 0⟩ := by
  unfold mergeDigest
  rw [h]
  rfl

theorem mergeDigest_ok (m : MultiValue α) (t : TLValue α) (c : α) (d : List (Centroid α)) (hne : tlCents t ≠ [])
    (h : addCentroids (m.dg.getD []) (tlCents t) = (d, 0)) :
    mergeDigest m t c =
      if t.implicit then ⟨{ m with dg := some (dgAdd d ⟨t.min.getD 0, c⟩) }, 0⟩ else ⟨{ m with dg := some d }, 0⟩ := by
  unfold mergeDigest
  rw [if_neg (by simpa using hne), h, if_neg (fun hh => hh rfl)]

end

theorem tsFromTL_sendT (k : Key) (bucketTs : Nat) (h0 : k.ts ≠ 0) (h1 : k.ts ≤ bucketTs)
    (h2 : bucketTs ≤ k.ts + believeWindow) :
    tsFromTL (if sendT k bucketTs then some k.ts else none) bucketTs = (k.ts, 0) := by
  by_cases hb : k.ts = bucketTs
  · simp [sendT, hb, tsFromTL]
  · have a : ¬ bucketTs < k.ts := by omega
    have b : ¬ k.ts + believeWindow < bucketTs := by omega
    simp [sendT, hb, h0, tsFromTL, a, b]

/-- the string-top key the aggregator reads from a TL top element: the term `mergeTopElem` tests for emptiness and
    normalizes (MapStringTopBytes) -/
def topKeyOf {α : Type} (e : TLTop α) : Tag := tagOf e.tag (some e.stag)

section
variable {α : Type} [Zero α] [One α] [Add α] [Mul α] [LT α] [LE α] [NatCast α]
  [DecidableEq α] [DecidableLT α] [DecidableLE α]

/-- the aggregator reads `k` as the string-top key of the TL element `e` and merges its value into a fresh entry as `v` -/
def MergesAs (var : Variant) (h : Tag) (pick : Bool) (e : TLTop α) (k : Tag) (v : MultiValue α) : Prop :=
  (topKeyOf e).isEmpty = false ∧ (topKeyOf e).normalize = k ∧ mergeTL var MultiValue.empty e.value h pick = ⟨v, 0⟩

theorem mergeTopElem_fresh (var : Variant) (r : Row α) (e : TLTop α) (h : Tag) (pick : Bool) (k : Tag) (v : MultiValue α)
    (hm : MergesAs var h pick e k v) (hfr : ∀ d ∈ r.top, d.1 ≠ k) :
    mergeTopElem var r e h pick = ⟨{ r with top := r.top ++ [(k, v)] }, 0⟩ := by
  obtain ⟨h1, h2, h3⟩ := hm
  unfold topKeyOf at h1 h2
  have hl : r.top.lookup k = none :=
    List.lookup_eq_none_iff.mpr fun p hp => bne_iff_ne.mpr fun e => hfr p hp e.symm
  unfold mergeTopElem
  rw [h1, h2, topUpdate_fresh _ _ _ hfr, hl, Option.getD_none, h3]
  rfl

section fresh
variable {β : Type} (var : Variant) (h : Tag) (pick : Bool) (f : β → TLTop α) (key : β → Tag) (val : β → MultiValue α)

/-- `l` is in ANY order (Go map iteration).  `f x` is the TL element of the entry `x`, `key x` the key the aggregator
    recovers from it, `val x` the value it merges to. -/
theorem mergeTops_fresh (l : List β) : ∀ r : Row α, (∀ x ∈ l, MergesAs var h pick (f x) (key x) (val x)) →
    l.Pairwise (fun a b => key a ≠ key b) → (∀ x ∈ l, ∀ d ∈ r.top, d.1 ≠ key x) →
    mergeTops var h pick r (l.map f) = ⟨{ r with top := r.top ++ l.map (fun x => (key x, val x)) }, 0⟩ := by
  induction l with
  | nil =>
    intro r _ _ _
    rw [List.map_nil, List.map_nil, List.append_nil]
    rfl
  | cons x l ih =>
    intro r hok hpw hfresh
    obtain ⟨hpw1, hpw2⟩ := List.pairwise_cons.mp hpw
    rw [List.map_cons, mergeTops, mergeTopElem_fresh var r (f x) h pick _ _ (hok x List.mem_cons_self)
        (hfresh x List.mem_cons_self), if_neg (fun hh => hh rfl),
      ih { r with top := r.top ++ [(key x, val x)] } (fun y hy => hok y (List.mem_cons_of_mem _ hy)) hpw2 (by
        intro y hy d hd
        rcases List.mem_append.mp hd with hd | hd
        · exact hfresh y (List.mem_cons_of_mem _ hy) d hd
        · rw [List.mem_singleton.mp hd]
          exact hpw1 y hy),
      List.map_cons, List.append_assoc]
    rfl

theorem mergeItemTL_fresh (k : Key) (it : TLItem α) (l : List β) (tl : MultiValue α) (htop : it.top.getD [] = l.map f)
    (hok : ∀ x ∈ l, MergesAs var h pick (f x) (key x) (val x)) (hpw : l.Pairwise (fun a b => key a ≠ key b))
    (htail : mergeTL var MultiValue.empty it.tail h pick = ⟨tl, 0⟩) :
    mergeItemTL var (Row.empty k) it h pick = ⟨⟨k, l.map (fun x => (key x, val x)), tl⟩, 0⟩ := by
  have hm := mergeTops_fresh var h pick f key val l (Row.empty k) hok hpw (fun _ _ _ hd => nomatch hd)
  unfold mergeItemTL
  rw [htop, hm, if_neg (fun hh => hh rfl)]
  show (⟨⟨k, [] ++ _, (mergeTL var MultiValue.empty it.tail h pick).mv⟩,
    (mergeTL var MultiValue.empty it.tail h pick).err⟩ : MergedRow α) = _
  rw [htail, List.nil_append]

end fresh

end

section
variable {α : Type} [Zero α] [One α] [Add α] [Mul α] [Div α] [LT α] [LE α] [NatCast α]
  [DecidableEq α] [DecidableLT α] [DecidableLE α]

/-- `P` survives all an agent operation can do to a row: an event satisfying `Q` applied to the tail or to a top entry,
    and (resampling, FinishStringTop) a top entry folded into the tail -/
structure AgentClosed (P : Row α → Prop) (Q : Event α → Prop) : Prop where
  tail : ∀ e, Q e → ∀ r, P r → P { r with tail := applyEvent r.tail e }
  top : ∀ (t : Tag) e, Q e → t.isEmpty = false → ∀ r, P r →
    P { r with top := topUpdate r.top t.normalize (fun m => applyEvent m e) }
  fold : ∀ r k m pick, r.top.lookup k = some m → P r → P { r with tail := mvMerge r.tail m pick, top := topRemove r.top k }

section closed
variable {P : Row α → Prop} {Q : Event α → Prop} (c : AgentClosed P Q)
include c

theorem foldIntoTail_inv (ks : List (Tag × Bool)) : ∀ r : Row α, P r → P (foldIntoTail r ks) := by
  induction ks with
  | nil => exact fun _ h => h
  | cons kp ks ih =>
    intro r h
    unfold foldIntoTail
    cases hl : r.top.lookup kp.1 with
    | none => exact ih r h
    | some m => exact ih _ (c.fold r kp.1 m kp.2 hl h)

theorem finishTop_inv (cap : Nat) (a a' : AgentRow α) (ev : List (Tag × Bool)) (h : finishTop cap a ev = some a')
    (hP : P a.row) : P a'.row := by
  unfold finishTop at h
  obtain ⟨-, h⟩ := Option.ite_none_right_eq_some.mp h
  cases h
  exact foldIntoTail_inv c ev a.row hP

theorem resampleLoop_inv (cap : Nat) (rounds : List (List (Tag × Bool))) : ∀ a a' : AgentRow α,
    resampleLoop cap a rounds = some a' → P a.row → P a'.row := by
  induction rounds with
  | nil =>
    intro a a' h hP
    unfold resampleLoop at h
    obtain ⟨-, h⟩ := Option.ite_none_right_eq_some.mp h
    cases h
    exact hP
  | cons ev rest ih =>
    intro a a' h hP
    unfold resampleLoop resampleRound at h
    obtain ⟨-, h⟩ := Option.ite_none_left_eq_some.mp h
    by_cases hev : evictionOk a ev = true
    · rw [if_pos hev] at h
      exact ih _ a' h (foldIntoTail_inv c ev a.row hP)
    · rw [if_neg hev] at h
      cases h

theorem rowEvent_inv (t : Tag) (e : Event α) (hq : Q e) (r : Row α) (h : P r) : P (rowEvent r t e) := by
  unfold rowEvent
  -- `split` on nested record updates is many times slower to check than `rw [if_pos …]`
  by_cases h1 : e.count ≤ 0
  · rw [if_pos h1]
    exact h
  rw [if_neg h1]
  by_cases h2 : t.isEmpty = true
  · rw [if_pos h2]
    exact c.tail e hq r h
  · rw [if_neg h2]
    exact c.top t e hq (Bool.eq_false_iff.mpr h2) r h

theorem rowEventCap_inv (t : Tag) (e : Event α) (hq : Q e) (cap : Nat) (a a' : AgentRow α) (redirect : Bool)
    (rounds : List (List (Tag × Bool))) (h : rowEventCap cap a t e redirect rounds = some a') (hP : P a.row) :
    P a'.row := by
  unfold rowEventCap at h
  by_cases h1 : e.count ≤ 0
  · rw [if_pos h1] at h
    cases h
    exact hP
  rw [if_neg h1] at h
  by_cases h2 : t.isEmpty = true
  · rw [if_pos h2] at h
    cases h
    exact c.tail e hq _ hP
  rw [if_neg h2] at h
  by_cases h3 : (a.row.top.lookup t.normalize).isSome = true
  · rw [if_pos h3] at h
    cases h
    exact c.top t e hq (Bool.eq_false_iff.mpr h2) _ hP
  rw [if_neg h3] at h
  by_cases h4 : redirect = true
  · rw [if_pos h4] at h
    obtain ⟨-, h⟩ := Option.ite_none_left_eq_some.mp h
    cases h
    exact c.tail e hq _ hP
  rw [if_neg h4] at h
  cases hl : resampleLoop (if cap < 1 then defaultTopCapacity else cap) a rounds with
  | none =>
    rw [hl] at h
    cases h
  | some a2 =>
    rw [hl] at h
    cases h
    exact c.top t e hq (Bool.eq_false_iff.mpr h2) _ (resampleLoop_inv c _ rounds a a2 hl hP)

theorem agentRun_inv (ops : List (AgentOp α)) : ∀ a a' : AgentRow α,
    (∀ cap t e redirect rounds, AgentOp.event cap t e redirect rounds ∈ ops → Q e) →
    agentRun a ops = some a' → P a.row → P a'.row := by
  induction ops with
  | nil =>
    intro a a' _ h hP
    cases h
    exact hP
  | cons op ops ih =>
    intro a a' hq h hP
    unfold agentRun at h
    cases hs : agentStep a op with
    | none =>
      rw [hs] at h
      cases h
    | some a2 =>
      rw [hs] at h
      refine ih a2 a' (fun cap t e redirect rounds hm => hq cap t e redirect rounds (List.mem_cons_of_mem _ hm)) h ?_
      cases op with
      | event cap t e redirect rounds =>
        exact rowEventCap_inv c t e (hq cap t e redirect rounds List.mem_cons_self) cap a a2 redirect rounds hs hP
      | finish cap ev => exact finishTop_inv c cap a a2 ev hs hP

end closed

end

theorem terminated_cons (s : Str) (l : List Str) : terminated (s :: l) = s ++ nul :: terminated l := by
  simp [terminated]

theorem terminated_inj (l1 : List Str) : ∀ l2 : List Str, (∀ s ∈ l1, nul ∉ s) → (∀ s ∈ l2, nul ∉ s) →
    terminated l1 = terminated l2 → l1 = l2 := by
  induction l1 with
  | nil =>
    intro l2 _ _ h
    cases l2 with
    | nil => rfl
    | cons s l2 =>
      rw [terminated_cons] at h
      cases s <;> cases h
  | cons s1 l1 ih =>
    intro l2 h1 h2 h
    cases l2 with
    | nil =>
      rw [terminated_cons] at h
      cases s1 <;> cases h
    | cons s2 l2 =>
      rw [terminated_cons, terminated_cons] at h
      obtain ⟨e1, -, e2⟩ := Lists.first_marked_unique (· = nul) s1 s2 _ _ nul nul h
        (fun _ he e => h1 s1 List.mem_cons_self (e ▸ he)) (fun _ he e => h2 s2 List.mem_cons_self (e ▸ he)) rfl rfl
      rw [e1, ih l2 (fun s hs => h1 s (List.mem_cons_of_mem _ hs)) (fun s hs => h2 s (List.mem_cons_of_mem _ hs)) e2]

/-- the tree writes the trimmed string tags zero-terminated, then the unused zero byte; with no string tag set only
    the `#stags = 0` byte, which is the same bytes -/
theorem stagSection_false (stags : List Str) :
    stagSection false stags = terminated (dropTrailing (fun (x : Str) => x.isEmpty) stags) ++ [nul] := by
  have hf : ∀ l : List Str, l.filter (fun s => !(false && s.isEmpty)) = l := fun l => by simp
  unfold stagSection
  rw [hf]
  split
  · rename_i h
    rw [List.isEmpty_iff.mp h]
    rfl
  · rfl

end SH.Transfer
