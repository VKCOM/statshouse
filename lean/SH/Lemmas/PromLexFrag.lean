/-
  SH.Lemmas.PromLexFrag — character-level lexing of a RECURSIVE fragment of printed expressions by chaining the step lemmas
  (`Chain.Seg`: composable segments across which `Chain.Lexes` derivations extend): metric names, range selectors, parentheses, one-argument calls,
  number literals and the twelve binary operators written ` op `. `TE` / `printText` / `toksOf` are a syntax, a text and a
  token list of the fragment's own (names as byte lists): nothing relates them to `Expr` / `printExpr`. The result is
  `seg_printText`, by induction on the expression; SH.Props.C28.lexAll_printText_fragment closes it at the end of input.
-/
import SH.Lemmas.PromLexChain
namespace SH.PromLex.Frag
open SH.PromLex SH.PromLex.Steps SH.PromLex.Num SH.PromLex.Chain

/-- the twelve arithmetic and comparison operators the printer writes as ` op ` (a blank on either side) -/
inductive BOp
  | add | sub | mul | div | mod | pow | eqlc | neq | lte | gte | lss | gtr
deriving DecidableEq, Repr

def BOp.text : BOp → List Nat
  | .add => [43] | .sub => [45] | .mul => [42] | .div => [47] | .mod => [37] | .pow => [94]
  | .eqlc => [61, 61] | .neq => [33, 61] | .lte => [60, 61] | .gte => [62, 61] | .lss => [60] | .gtr => [62]

def BOp.tok : BOp → RawTok
  | .add => ⟨"ADD", 1⟩ | .sub => ⟨"SUB", 1⟩ | .mul => ⟨"MUL", 1⟩ | .div => ⟨"DIV", 1⟩ | .mod => ⟨"MOD", 1⟩ | .pow => ⟨"POW", 1⟩
  | .eqlc => ⟨"EQLC", 2⟩ | .neq => ⟨"NEQ", 2⟩ | .lte => ⟨"LTE", 2⟩ | .gte => ⟨"GTE", 2⟩ | .lss => ⟨"LSS", 1⟩ | .gtr => ⟨"GTR", 1⟩

theorem step_bop (o : BOp) (st : LexState) (hst : plain st) (rest : List Nat) :
    lexStep (o.text ++ 32 :: rest) st = .tok o.tok.name o.tok.len (32 :: rest) st := by
  cases o <;> exact lexStep_plain hst _

theorem BOp.text_stops (o : BOp) (T : List Nat) : Stops isSpaceB (o.text ++ T) := by
  cases o <;> exact stops_cons rfl _

inductive TE
  | sel (c : Nat) (w : List Nat)
  | rng (c : Nat) (w : List Nat) (n : Nat)
  | par (e : TE)
  | call (c : Nat) (w : List Nat) (arg : TE)
  | bin (o : BOp) (l r : TE)
  | num (sh : NumShape)

abbrev TE.add (l r : TE) : TE := .bin .add l r

def goodName (c : Nat) (w : List Nat) : Prop := (isAlphaB c || c == 58) = true ∧ ∀ x ∈ w, isWordB x = true

def Good : TE → Prop
  | .sel c w => goodName c w
  | .rng c w _ => goodName c w
  | .par e => Good e
  | .call c w a => goodName c w ∧ Good a
  | .bin _ l r => Good l ∧ Good r
  | .num sh => sh.ok = true

/-- the text as printer.go spaces it: `%s %s %s` in BinaryExpr.String, no blank in `%s(%s)` (Call), `(%s)` (ParenExpr) and
    `name[<n>s]` (MatrixSelector) -/
def printText : TE → List Nat
  | .sel c w => c :: w
  | .rng c w n => c :: w ++ 91 :: (printSeconds n ++ [93])
  | .par e => 40 :: (printText e ++ [41])
  | .call c w a => c :: w ++ 40 :: (printText a ++ [41])
  | .bin o l r => printText l ++ 32 :: (o.text ++ 32 :: printText r)
  | .num sh => sh.render

def toksOf : TE → List RawTok
  | .sel c w => [⟨wordName (c :: w), w.length + 1⟩]
  | .rng c w n => [⟨wordName (c :: w), w.length + 1⟩, ⟨"LEFT_BRACKET", 1⟩, ⟨"DURATION", (printSeconds n).length⟩, ⟨"RIGHT_BRACKET", 1⟩]
  | .par e => ⟨"LEFT_PAREN", 1⟩ :: (toksOf e ++ [⟨"RIGHT_PAREN", 1⟩])
  | .call c w a => ⟨wordName (c :: w), w.length + 1⟩ :: ⟨"LEFT_PAREN", 1⟩ :: (toksOf a ++ [⟨"RIGHT_PAREN", 1⟩])
  | .bin o l r => toksOf l ++ o.tok :: toksOf r
  | .num sh => [⟨"NUMBER", sh.render.length⟩]

/-- what may follow a printed expression: not a word character, and not `.`, which would continue a number literal as its
    fraction (`numFollow`) -/
def bnd (rest : List Nat) : Prop := ∀ x t, rest = x :: t → (isWordB x = false ∧ x ≠ 46)

theorem bnd_cons (x : Nat) (t : List Nat) (h : isWordB x = false ∧ x ≠ 46) : bnd (x :: t) := by
  intro y u hy; cases hy; exact h

theorem bnd.word {rest : List Nat} (h : bnd rest) : Stops isWordB rest :=
  fun x t e => (h x t e).1

theorem numFollow_of_bnd (rest : List Nat) (h : bnd rest) : numFollow rest = true := by
  cases rest with
  | nil => rfl
  | cons x t =>
    have := h x t rfl
    have h1 : isAlnumB x = false := by have := this.1; simp [isWordB] at this; exact this.1
    simp [numFollow, h1, this.2]

theorem headAlnum_of_bnd (rest : List Nat) (h : bnd rest) : headAlnum rest = false := by
  cases rest with
  | nil => rfl
  | cons x t => have := (h x t rfl).1; simp [isWordB] at this; simp [headAlnum, this.1]

theorem BOp.text_pos (o : BOp) : 0 < o.text.length := by
  cases o <;> decide

theorem printText_stops (e : TE) (hg : Good e) (T : List Nat) : Stops isSpaceB (printText e ++ T) := by
  induction e generalizing T with
  | sel c w => exact stops_cons (word_not_space (word_of_start hg.1)) _
  | rng c w n => exact stops_cons (word_not_space (word_of_start hg.1)) _
  | par e _ => exact stops_cons rfl _
  | call c w a _ => exact stops_cons (word_not_space (word_of_start hg.1.1)) _
  | bin o l r ihl _ =>
    have := ihl hg.1 (32 :: (o.text ++ 32 :: printText r) ++ T)
    simpa [printText] using this
  | num sh =>
    obtain ⟨d, t, hd, hdig⟩ := render_cons sh hg
    exact (show printText (.num sh) = d :: t from hd) ▸ stops_cons (word_not_space (word_of_digit hdig)) _

theorem depth_back (st : LexState) : ({ { st with depth := st.depth + 1 } with depth := st.depth + 1 - 1 } : LexState) = st := by
  cases st; simp

theorem seg_paren {st : LexState} (hr : Ready st) {text rest : List Nat} {ts : List RawTok}
    (h : Seg { st with depth := st.depth + 1 } (text ++ 41 :: rest) ts { st with depth := st.depth + 1 } (41 :: rest)) :
    Seg st (40 :: (text ++ 41 :: rest)) (⟨"LEFT_PAREN", 1⟩ :: (ts ++ [⟨"RIGHT_PAREN", 1⟩])) st rest := by
  have hrp := step_rparen { st with depth := st.depth + 1 } hr.plain (Nat.succ_ne_zero _) rest
  rw [depth_back] at hrp
  exact .tok (step_lparen st hr.plain _) (by simp) (h.trans (.tok hrp (by simp) (.nil st rest)))

theorem seg_printText (e : TE) (hg : Good e) : ∀ (st : LexState), Ready st → ∀ rest, bnd rest →
    Seg st (printText e ++ rest) (toksOf e) st rest := by
  induction e with
  | sel c w => intro st hr rest hb; exact seg_word st hr c w rest hg.1 hg.2 hb.word
  | rng c w n =>
    intro st hr rest _
    have h := (seg_word st hr c w _ hg.1 hg.2 (stops_cons rfl _)).trans (seg_range st hr n rest)
    simpa [printText, toksOf] using h
  | par e ih =>
    intro st hr rest _
    have h := seg_paren hr (ih hg { st with depth := st.depth + 1 } hr (41 :: rest) (bnd_cons 41 _ (by decide)))
    simpa [printText, toksOf] using h
  | call c w a ih =>
    intro st hr rest _
    have h := (seg_word st hr c w _ hg.1.1 hg.1.2 (stops_cons rfl _)).trans
      (seg_paren hr (ih hg.2 { st with depth := st.depth + 1 } hr (41 :: rest) (bnd_cons 41 _ (by decide))))
    simpa [printText, toksOf] using h
  | bin o l r ihl ihr =>
    intro st hr rest hb
    have h1 := ihl hg.1 st hr (32 :: (o.text ++ 32 :: (printText r ++ rest))) (bnd_cons 32 _ (by decide))
    have hb1 := seg_blank st hr.wantDur _ (o.text_stops (32 :: (printText r ++ rest)))
    have hop : Seg st (o.text ++ 32 :: (printText r ++ rest)) [o.tok] st (32 :: (printText r ++ rest)) :=
      .tok (step_bop o st hr.plain _) (by have := o.text_pos; simp; omega) (.nil st _)
    have hb2 := seg_blank st hr.wantDur _ (printText_stops r hg.2 rest)
    have h := h1.trans (hb1.trans (hop.trans (hb2.trans (ihr hg.2 st hr rest hb))))
    simpa [printText, toksOf] using h
  | num sh =>
    intro st hr rest hb
    obtain ⟨d, t, hd, _⟩ := render_cons sh hg
    exact .tok (step_num st hr.plain sh hg rest (numFollow_of_bnd rest hb)) (by simp [printText, hd]; omega) (.nil st rest)

end SH.PromLex.Frag
