/-
  SH.Lemmas.TransferMap — the string → int32 mapping glue of handleSendSourceBucket: it commutes with MergeWithTL2, and
  the aggregator recovers every string-top key through it.

  `mapTLValue mp t` (what the handler does to the three host string tags of a TL value before merging it) changes the
  result of merging into a FRESH aggregator value only by mapping the three restored hosts: `mergeTL_map`.
  `mapTLTop mp` (what it does to a string-top element): `topKeyOf_mapTLTop`.  Core Lean only, as SH.Lemmas.Transfer.
  Defined here: `mapHostsV`, `mapHostsMV` (the statements of Props/C02 use them), `mapMerged`, `HostPairOk`, `TLHostsOk`.
-/
import SH.Lemmas.Transfer

namespace SH.Transfer

/-- host fields as `MultiValueToTL` writes them: a string host is never accompanied by a non-zero int host -/
def HostPairOk (i : Option Int) (s : Option Str) : Prop := s.isSome = true → i.getD 0 = 0

section
variable (mp : Str → Int)

theorem mapTag_none : mapTag mp Tag.none = Tag.none := by
  simp [mapTag, Tag.none, mapStr]

theorem isNone_mapHost (i : Option Int) (s : Option Str) :
    ((mapHostI mp i s).isNone && (mapHostS mp s).isNone) = (i.isNone && s.isNone) := by
  cases s with
  | none => simp [mapHostI, mapHostS]
  | some str => by_cases h : 0 < mapStr mp str <;> simp [mapHostI, mapHostS, h]

theorem tagOf_map (i : Option Int) (s : Option Str) (ok : HostPairOk i s) :
    tagOf (mapHostI mp i s) (mapHostS mp s) = mapTag mp (tagOf i s) := by
  cases s with
  | none => simp [mapHostI, mapHostS, tagOf, mapTag, mapStr]
  | some str =>
    have hi : i.getD 0 = 0 := ok rfl
    by_cases h : 0 < mapStr mp str
    · simp [mapHostI, mapHostS, tagOf, mapTag, h, hi]
    · simp [mapHostI, mapHostS, tagOf, mapTag, h]

theorem isEmpty_mapTag (t : Tag) : (mapTag mp t).isEmpty = t.isEmpty := by
  obtain ⟨i, s⟩ := t
  cases s with
  | nil => simp [mapTag, mapStr]
  | cons c cs =>
    unfold mapTag
    split
    · rename_i h
      have hm : mapStr mp (c :: cs) ≠ 0 := (Int.ne_of_lt h.2).symm
      simp [Tag.isEmpty, hm]
    · rfl

theorem hostPair_ok (t : Tag) : HostPairOk (hostI t) (hostS t) := by
  intro hs
  by_cases hi : t.i = 0
  · simp [hostI, hi]
  · simp [hostS, hi] at hs

theorem hostDiffPair_ok (e : Bool) (t hmax : Tag) : HostPairOk (hostDiffI e t hmax) (hostDiffS t hmax) := by
  intro hs
  by_cases he : t = hmax
  · simp [hostDiffS, he] at hs
  · by_cases hi : t.i = 0
    · cases hts : t.s with
      | nil => simp [hostDiffS, he, hostS, hi, hts] at hs
      | cons c cs => simp [hostDiffI, he, hi, hts]
    · simp [hostDiffS, he, hostS, hi] at hs

end

section
variable {α : Type}

/-- the wire-side counterpart of `HostsNorm`; holds of every sent value, whatever its hosts (`toTL_hostsOk`) -/
structure TLHostsOk (t : TLValue α) : Prop where
  max : HostPairOk t.hmaxI t.hmaxS
  min : HostPairOk t.hminI t.hminS
  cnt : HostPairOk t.hcntI t.hcntS

/-- the three hosts of a value mapped the way the aggregator maps host strings -/
def mapHostsV (mp : Str → Int) (v : ItemValue α) : ItemValue α :=
  { v with hcnt := mapTag mp v.hcnt, hmin := mapTag mp v.hmin, hmax := mapTag mp v.hmax }

def mapHostsMV (mp : Str → Int) (m : MultiValue α) : MultiValue α := { m with v := mapHostsV mp m.v }

def mapMerged (mp : Str → Int) (r : Merged α) : Merged α := ⟨mapHostsMV mp r.mv, r.err⟩

end

section
variable {α : Type} [Zero α] [One α] [Mul α] [LE α] [DecidableEq α] [DecidableLE α]

theorem toTL_hostsOk (var : Variant) (m : MultiValue α) (sf : α) (pct : Bool) (cents : List (Centroid α)) :
    TLHostsOk (toTL var m sf pct cents) := by
  have hd : TLHostsOk (toTLHead var m sf) := ⟨hostPair_ok _, hostDiffPair_ok _ _ _, hostDiffPair_ok _ _ _⟩
  by_cases hn : m.v.counter * sf ≤ 0
  · rw [toTL_nonpos var m sf pct cents hn]
    exact ⟨fun h => absurd h Bool.false_ne_true, fun h => absurd h Bool.false_ne_true,
      fun h => absurd h Bool.false_ne_true⟩
  · cases hv : m.v.vset with
    | false =>
      rw [toTL_unset var m sf pct cents hn hv]
      exact hd
    | true =>
      rw [toTL_set var m sf pct cents hn hv]
      exact ⟨hd.max, hd.min, hd.cnt⟩

end

section map
variable (mp : Str → Int)

theorem restoreOther_map (var : Variant) (i : Option Int) (s : Option Str) (hmax h : Tag)
    (ok : HostPairOk i s) (hh : mapTag mp h = h) :
    restoreOther var (mapHostI mp i s) (mapHostS mp s) (mapTag mp hmax) h = mapTag mp (restoreOther var i s hmax h) := by
  simp only [restoreOther, isNone_mapHost, tagOf_map mp _ _ ok, isEmpty_mapTag]
  split
  · rfl
  · split <;> simp [hh]

theorem addCounterHost_empty_map {α : Type} [Zero α] [Add α] [LE α] [DecidableLE α] (c : α) (host : Tag) (pick : Bool)
    (h0 : (0 : α) ≤ 0) :
    addCounterHost (ItemValue.empty : ItemValue α) c (mapTag mp host) pick =
      mapHostsV mp (addCounterHost (ItemValue.empty : ItemValue α) c host pick) := by
  by_cases h1 : c ≤ 0
  · unfold addCounterHost
    rw [if_pos h1, if_pos h1]
    simp [mapHostsV, ItemValue.empty, mapTag_none]
  · rw [addCounterHost_empty c _ pick h1 h0, addCounterHost_empty c _ pick h1 h0]
    simp [mapHostsV, ItemValue.empty, mapTag_none]

theorem mergeDigest_map {α : Type} [Zero α] [Add α] [LT α] [LE α] [NatCast α] [DecidableEq α] [DecidableLT α]
    [DecidableLE α] (m : MultiValue α) (t : TLValue α) (c : α) :
    mergeDigest (mapHostsMV mp m) (mapTLValue mp t) c = mapMerged mp (mergeDigest m t c) := by
  unfold mergeDigest
  simp only [apply_ite (mapMerged mp)]
  rfl

section glue
variable {α : Type} (t : TLValue α) (h : Tag) (ok : TLHostsOk t) (hh : mapTag mp h = h)
include ok hh

theorem restoreMaxHost_map : restoreMaxHost (mapTLValue mp t) h = mapTag mp (restoreMaxHost t h) := by
  simp only [restoreMaxHost, mapTLValue, isNone_mapHost, tagOf_map mp _ _ ok.max]
  split <;> simp [hh]

theorem mergeValueTL_map [Zero α] [Add α] [Mul α] [LT α] [DecidableLT α] (var : Variant) (s : ItemValue α) (c : α) :
    mergeValueTL var (mapHostsV mp s) (mapTLValue mp t) c h = mapHostsV mp (mergeValueTL var s t c h) := by
  simp only [mergeValueTL, restoreMinHost, restoreMaxHost_map mp t h ok hh]
  simp only [mapTLValue, mapHostsV, newMin, newMax, restoreOther_map mp var _ _ _ _ ok.min hh]
  congr 1 <;> exact (apply_ite (mapTag mp) _ _ _).symm

theorem mergeCounterUq_map [Zero α] [One α] [Add α] [LE α] [DecidableLE α] (var : Variant) (pick : Bool)
    (h0 : (0 : α) ≤ 0) :
    mergeCounterUq var (MultiValue.empty : MultiValue α) (mapTLValue mp t) h pick =
      mapHostsMV mp (mergeCounterUq var MultiValue.empty t h pick) := by
  have e1 : tlCounter (mapTLValue mp t) = tlCounter t := rfl
  have e2 : (mapTLValue mp t).uq = t.uq := rfl
  simp only [mergeCounterUq, e1, e2, restoreCntHost, restoreMaxHost_map mp t h ok hh, MultiValue.empty, mapHostsMV]
  simp only [mapTLValue, restoreOther_map mp var _ _ _ _ ok.cnt hh, addCounterHost_empty_map mp _ _ _ h0]

variable [Zero α] [One α] [Add α] [Mul α] [LT α] [LE α] [NatCast α] [DecidableEq α] [DecidableLT α]
  [DecidableLE α]

/-- Only into a FRESH value: on a used value AddCounterHost compares `s.hcnt = host`, which `mapTag` (not injective) does
    not preserve.  `hh`: the agent host is what `getTagUnionBytes` returned, i.e. already mapped. -/
theorem mergeTL_map (var : Variant) (pick : Bool) (h0 : (0 : α) ≤ 0) :
    mergeTL var (MultiValue.empty : MultiValue α) (mapTLValue mp t) h pick =
      mapMerged mp (mergeTL var MultiValue.empty t h pick) := by
  have e0 : ∀ n, mapMerged mp (⟨MultiValue.empty, n⟩ : Merged α) = ⟨MultiValue.empty, n⟩ := fun n => by
    simp [mapMerged, mapHostsMV, mapHostsV, MultiValue.empty, ItemValue.empty, mapTag_none]
  have e5 := mergeValueTL_map mp t h ok hh var (mergeCounterUq var (MultiValue.empty : MultiValue α) t h pick).v (tlCounter t)
  unfold mergeTL
  -- push `mapMerged` through the branches of MergeWithTL2 (`apply_ite`); each kind of leaf has its commutation lemma
  simp only [apply_ite (mapMerged mp), e0, ← mergeDigest_map]
  rw [mergeCounterUq_map mp t h ok hh var pick h0]
  unfold mapHostsMV
  rw [← e5]
  rfl

end glue

end map

/-- `⟨k.s, hostI k, v⟩` is the element keepF sends for the key `k`, `mapTLTop` the handler's rewrite of it -/
theorem topKeyOf_mapTLTop {α : Type} (mp : Str → Int) (k : Tag) (v : TLValue α) (h1 : k.isEmpty = false)
    (h2 : k.isNorm = true) :
    (topKeyOf (mapTLTop mp ⟨k.s, hostI k, v⟩)).isEmpty = false ∧
      (topKeyOf (mapTLTop mp ⟨k.s, hostI k, v⟩)).normalize = mapTag mp k := by
  simp only [topKeyOf, mapTLTop]
  rcases norm_cases k h2 with rfl | ⟨c, cs, rfl⟩ | ⟨i, hi, rfl⟩
  · simp [Tag.isEmpty] at h1
  · by_cases hm : 0 < mapStr mp (c :: cs)
    · have hne : mapStr mp (c :: cs) ≠ 0 := by omega
      simp [tagOf, Tag.isEmpty, Tag.normalize, mapTag, hm, hne]
    · simp [tagOf, hostI, Tag.isEmpty, Tag.normalize, mapTag, hm]
  · simp [tagOf, hostI, Tag.isEmpty, Tag.normalize, mapTag, mapStr, hi]

theorem topKeyOf_sent {α : Type} (k : Tag) (v : TLValue α) (h1 : k.isEmpty = false) (h2 : k.isNorm = true) :
    (topKeyOf (⟨k.s, hostI k, v⟩ : TLTop α)).isEmpty = false ∧
      (topKeyOf (⟨k.s, hostI k, v⟩ : TLTop α)).normalize = k := by
  simpa [topKeyOf, mapTLTop, mapStr, mapTag] using topKeyOf_mapTLTop (fun _ => 0) k v h1 h2

theorem mapItem_top {α : Type} (mp : Str → Int) (it : TLItem α) :
    (mapItem mp it).top.getD [] = (it.top.getD []).map (mapTLTop mp) := by
  unfold mapItem
  cases it.top with
  | none => rfl
  | some l => rfl

end SH.Transfer
