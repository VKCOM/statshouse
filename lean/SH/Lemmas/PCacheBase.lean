/-
  SH.Lemmas.PCacheBase — lemmas about SH.Model.PCache shared by the C24 files, and the words of the C24 statements
  that are not in the model: `secMap`, `load` (the accounted size the eviction loop tests), `costSum`, `actual`.
  Also: rounding and the scan loops (`mid_key_iff`), closed forms of the cache operations, and the principles by which
  the properties of the cache side (accounting, size bound, provenance) go through them (`evictLoop_inv`, `run_inv`,
  `step_cases`, `step_entries`).
-/
import SH.Model.PCache
import Mathlib.Tactic.Ring

namespace SH.C24
open SH.PCache SH.Gen.C24

theorem mget_filter_key (m : LMap) (p : Int → Bool) (k : Int) :
    mget (m.filter (fun x => p x.1)) k = if p k then mget m k else none := by
  induction m with
  | nil => simp [mget]
  | cons x r ih =>
    obtain ⟨a, v⟩ := x
    by_cases h2 : a = k
    · subst h2
      cases h : p a <;> simp [List.filter, h, mget, ih]
    · cases h : p a <;> simp [List.filter, h, mget, ih, h2]

theorem merase_eq_filter (m : LMap) (k : Int) : merase m k = m.filter (fun x => !decide (x.1 = k)) := by
  induction m with
  | nil => rfl
  | cons p r ih =>
    obtain ⟨a, v⟩ := p
    by_cases h : a = k <;> simp [merase, h, ih]

theorem mget_merase (m : LMap) (k k' : Int) : mget (merase m k) k' = if k = k' then none else mget m k' := by
  rw [merase_eq_filter, mget_filter_key m (fun a => !decide (a = k)) k']
  by_cases h : k = k'
  · simp [h]
  · simp [h, Ne.symm h]

theorem mget_mput (m : LMap) (k v k' : Int) : mget (mput m k v) k' = if k = k' then some v else mget m k' := by
  simp only [mput, mget, mget_merase]
  by_cases h : k = k' <;> simp [h]

theorem bump_self (m : LMap) (k a : Int) : ∃ b, mget (bump m k a) k = some b ∧ a ≤ b := by
  unfold bump
  cases h : mget m k with
  | none => exact ⟨a, by simp [mget_mput], le_refl _⟩
  | some last =>
    by_cases h2 : a > last
    · exact ⟨a, by simp [h2, mget_mput], le_refl _⟩
    · exact ⟨last, by simp [h2, h], by omega⟩

theorem bump_mono (m : LMap) (k a k' c : Int) (h : ∃ b, mget m k' = some b ∧ c ≤ b) :
    ∃ b', mget (bump m k a) k' = some b' ∧ c ≤ b' := by
  obtain ⟨b, h, hc⟩ := h
  by_cases e : k = k'
  · subst e
    unfold bump
    simp only [h]
    by_cases h2 : a > b
    · exact ⟨a, by simp [h2, mget_mput], by omega⟩
    · exact ⟨b, by simp [h2, h], hc⟩
  · refine ⟨b, ?_, hc⟩
    unfold bump
    cases hk : mget m k with
    | none => simp [mget_mput, e, h]
    | some last =>
      simp only
      split
      · simp [mget_mput, e, h]
      · exact h

theorem bump_src (m : LMap) (k a k' b : Int) (h : mget (bump m k a) k' = some b) :
    mget m k' = some b ∨ (k' = k ∧ b = a) := by
  have put : mget (mput m k a) k' = some b → mget m k' = some b ∨ (k' = k ∧ b = a) := by
    rw [mget_mput]
    split
    · rename_i e
      intro hb
      injection hb with hb
      exact Or.inr ⟨e.symm, hb.symm⟩
    · exact Or.inl
  unfold bump at h
  cases hk : mget m k with
  | none => rw [hk] at h; exact put h
  | some last =>
    rw [hk] at h
    simp only at h
    split at h
    · exact put h
    · exact Or.inl h

theorem mget_gcMap (m : LMap) (g : Int) (del : List Int) (k : Int) :
    mget (gcMap m g del) k = if (decide (k < g) && del.contains k) then none else mget m k := by
  unfold gcMap
  rw [mget_filter_key m (fun a => !(decide (a < g) && del.contains a)) k]
  cases (decide (k < g) && del.contains k) <;> simp

theorem mget_gcMap_ge (m : LMap) (g : Int) (del : List Int) (k : Int) (h : g ≤ k) :
    mget (gcMap m g del) k = mget m k := by
  rw [mget_gcMap]
  have : ¬ k < g := by omega
  simp [this]

theorem mget_gcMap_some (m : LMap) (g : Int) (del : List Int) (k v : Int) (h : mget (gcMap m g del) k = some v) :
    mget m k = some v := by
  rw [mget_gcMap] at h; split at h
  · simp at h
  · exact h

theorem roundTime_le (t step off : Int) (h : 0 < step) : roundTime t step off ≤ t := by
  unfold roundTime
  have := Int.ediv_mul_le (t + off) (Int.ne_of_gt h)
  omega

theorem lt_roundTime_add (t step off : Int) (h : 0 < step) : t < roundTime t step off + step := by
  unfold roundTime
  have := Int.lt_ediv_add_one_mul_self (t + off) h
  rw [Int.add_mul, Int.one_mul] at this
  omega

theorem roundTime_one (t off : Int) : roundTime t 1 off = t := by
  unfold roundTime; simp

theorem countMid_round (lo hi step off : Int) (h : 0 < step) :
    countMid (roundTime lo step off) (roundTime hi step off) step =
      ((hi + off) / step - (lo + off) / step - 1).toNat := by
  unfold countMid roundTime
  generalize (lo + off) / step = a
  generalize (hi + off) / step = b
  have e : (b * step - off - (a * step - off) - 1) = (step - 1) + (b - a - 1) * step := by ring
  rw [e, Int.add_mul_ediv_right _ _ (Int.ne_of_gt h), Int.ediv_eq_zero_of_lt (by omega) (by omega), Int.zero_add]

/-! Comparing a time with a bucket boundary is comparing bucket numbers `(· + off) / step`. -/

theorem roundTime_add_le_iff (lo s step off : Int) (h : 0 < step) :
    roundTime lo step off + step ≤ s ↔ (lo + off) / step + 1 ≤ (s + off) / step := by
  rw [Int.le_ediv_iff_mul_le h, Int.add_mul, Int.one_mul]
  unfold roundTime
  omega

theorem lt_roundTime_iff (s hi step off : Int) (h : 0 < step) :
    s < roundTime hi step off ↔ (s + off) / step < (hi + off) / step := by
  rw [Int.ediv_lt_iff_lt_mul h]
  unfold roundTime
  omega

/-- the bucket of `s` is a scanned middle key iff `s` lies from the end of `lo`'s bucket to the start of `hi`'s: the
    middle keys are the buckets strictly between `lo`'s and `hi`'s, each wholly inside the range -/
theorem mid_key_iff (s lo hi step off : Int) (h : 0 < step) :
    (∃ k : Nat, k < countMid (roundTime lo step off) (roundTime hi step off) step ∧
      roundTime s step off = roundTime lo step off + step + step * (k : Int)) ↔
    roundTime lo step off + step ≤ s ∧ s < roundTime hi step off := by
  rw [roundTime_add_le_iff lo s step off h, lt_roundTime_iff s hi step off h, countMid_round lo hi step off h]
  unfold roundTime
  generalize (lo + off) / step = a
  generalize (hi + off) / step = b
  generalize (s + off) / step = c
  have e : ∀ k : Nat, (c * step - off = a * step - off + step + step * (k : Int)) ↔ c = a + 1 + k := by
    intro k
    rw [show a * step - off + step + step * (k : Int) = (a + 1 + k) * step - off by ring, Int.sub_left_inj,
      Int.mul_eq_mul_right_iff (Int.ne_of_gt h)]
  constructor
  · rintro ⟨k, hk, hr⟩
    rw [e] at hr
    rw [Int.lt_toNat] at hk
    omega
  · rintro ⟨h1, h2⟩
    refine ⟨(c - a - 1).toNat, Int.lt_toNat.mpr ?_, (e _).mpr ?_⟩
    · rw [Int.toNat_of_nonneg (by omega)]; omega
    · rw [Int.toNat_of_nonneg (by omega)]; omega

theorem lt_mid_key (lo step off : Int) (h : 0 < step) (k : Nat) : lo < roundTime lo step off + step + step * (k : Int) :=
  lt_of_lt_of_le (lt_roundTime_add lo step off h)
    (Int.le_add_of_nonneg_right (Int.mul_nonneg (le_of_lt h) (Int.natCast_nonneg k)))

theorem fromNext_eq (r step t : Int) : fromNext r step t = min t (r + step) := by
  unfold fromNext
  split
  · rename_i h; exact (min_eq_left (le_of_lt h)).symm
  · rename_i h; exact (min_eq_right (not_lt.mp h)).symm

theorem toPrev_eq (r f : Int) : toPrev r f = max f r := by
  unfold toPrev
  split
  · rename_i h; exact (max_eq_left (le_of_lt h)).symm
  · rename_i h; exact (max_eq_right (not_lt.mp h)).symm

/-- `f + 1 * k` is the shape `base + step * k` of `scanOK`'s keys -/
theorem lt_countLast_one (f t : Int) (k : Nat) : k < countLast f t 1 ↔ f + 1 * (k : Int) ≤ t := by
  unfold countLast
  rw [Int.ediv_one, Int.one_mul, Int.lt_toNat]
  omega

theorem staleKey_iff (m : LMap) (loadAt k : Int) :
    staleKey m loadAt k = true ↔ ∃ b, mget m k = some b ∧ loadAt ≤ b + invalidateLingerNs := by
  unfold staleKey
  cases mget m k <;> simp

theorem scanOK_eq_false (m : LMap) (loadAt base step : Int) (n : Nat) :
    scanOK m loadAt base step n = false ↔ ∃ k : Nat, k < n ∧ staleKey m loadAt (base + step * (k : Int)) = true := by
  unfold scanOK
  simp [List.all_eq_false]

theorem beforeEdge_false (sec now : Int) : beforeEdge sec now = false ↔ immutableNs now ≤ sec * nsPerSec := by
  unfold beforeEdge; simp

theorem edge_le_of_mutable (sec now : Int) (h : beforeEdge sec now = false) : edgeSec now ≤ sec :=
  Int.ediv_le_of_le_mul (by decide) ((beforeEdge_false sec now).mp h)

theorem edge_le_clamp (f now : Int) : edgeSec now ≤ clampFrom f now := by
  unfold clampFrom; split
  · exact le_refl _
  · rename_i hb; exact edge_le_of_mutable f now (by simpa using hb)

theorem beforeEdge_mono (sec t now : Int) (h : sec ≤ t) (hmut : beforeEdge sec now = false) :
    beforeEdge t now = false :=
  (beforeEdge_false t now).mpr
    (le_trans ((beforeEdge_false sec now).mp hmut) (Int.mul_le_mul_of_nonneg_right h (by decide)))

theorem clamp_le_of_mutable (f sec now : Int) (h : f ≤ sec) (hmut : beforeEdge sec now = false) :
    clampFrom f now ≤ sec := by
  unfold clampFrom
  split
  · exact edge_le_of_mutable sec now hmut
  · exact h

theorem edgeSec_mono (a b : Int) (h : a ≤ b) : edgeSec a ≤ edgeSec b :=
  Int.ediv_le_ediv (by decide) (Int.add_le_add_right h _)

/-- the per-second map: the map of the last level (Go `seconds[2]`, step 1) -/
def secMap (lv : List Level) : LMap :=
  match lv.getLast? with
  | some p => p.2
  | none => []

theorem steps_good : (∀ st ∈ steps, 0 < st) ∧ steps.getLast? = some 1 := by decide

theorem levels_pos (lv : List Level) (h : lv.map (·.1) = steps) : ∀ p ∈ lv, 0 < p.1 := by
  intro p hp
  apply steps_good.1
  rw [← h]; exact List.mem_map_of_mem hp

theorem levels_last (lv : List Level) (h : lv.map (·.1) = steps) : lv.getLast? = some (1, secMap lv) := by
  have h2 := steps_good.2
  rw [← h, List.getLast?_map] at h2
  unfold secMap
  cases hl : lv.getLast? with
  | none => simp [hl] at h2
  | some p =>
    simp [hl] at h2
    obtain ⟨a, b⟩ := p
    simp at h2; subst h2; rfl

theorem secMap_of_last (lv : List Level) (p : Level) (h : lv.getLast? = some p) : secMap lv = p.2 := by
  unfold secMap; rw [h]

theorem init_levels : initLevels.map (·.1) = steps ∧ secMap initLevels = [] := by decide

theorem updateLevels_fst (lv : List Level) (off tAt sec : Int) :
    (updateLevels lv off tAt sec).map (·.1) = lv.map (·.1) := by
  unfold updateLevels; rw [List.map_map]; rfl

theorem updateAll_fst (off tAt : Int) (secs : List Int) : ∀ lv : List Level,
    (updateAll lv off tAt secs).map (·.1) = lv.map (·.1) := by
  induction secs with
  | nil => intro lv; rfl
  | cons x r ih =>
    intro lv
    simp only [updateAll]
    rw [ih, updateLevels_fst]

theorem updateLevels_secMap (lv : List Level) (off tAt sec : Int) (h : lv.map (·.1) = steps) :
    secMap (updateLevels lv off tAt sec) = bump (secMap lv) sec tAt := by
  apply secMap_of_last (p := (1, bump (secMap lv) sec tAt))
  unfold updateLevels
  rw [List.getLast?_map, levels_last lv h]
  simp [roundTime_one]

theorem gcLevels_cons (p : Level) (r : List Level) (gf : Int) (ds : List (List Int)) :
    gcLevels (p :: r) gf ds = (p.1, gcMap p.2 gf (ds.headD [])) :: gcLevels r gf ds.tail := by
  cases ds <;> rfl

theorem gcLevels_fst : ∀ (lv : List Level) (gf : Int) (ds : List (List Int)),
    (gcLevels lv gf ds).map (·.1) = lv.map (·.1) := by
  intro lv
  induction lv with
  | nil => intro gf ds; simp [gcLevels]
  | cons p r ih => intro gf ds; simp [gcLevels_cons, ih]

theorem gcLevels_mem : ∀ (lv : List Level) (gf : Int) (ds : List (List Int)) (p' : Level),
    p' ∈ gcLevels lv gf ds → ∃ p ∈ lv, ∃ d, p' = (p.1, gcMap p.2 gf d) := by
  intro lv
  induction lv with
  | nil => intro gf ds p' h; simp [gcLevels] at h
  | cons p r ih =>
    intro gf ds p' h
    rw [gcLevels_cons, List.mem_cons] at h
    rcases h with h | h
    · exact ⟨p, List.mem_cons_self, _, h⟩
    · obtain ⟨q, hq, d, e⟩ := ih gf _ p' h
      exact ⟨q, List.mem_cons_of_mem _ hq, d, e⟩

theorem gcLevels_last : ∀ (lv : List Level) (gf : Int) (ds : List (List Int)) (p : Level),
    lv.getLast? = some p → ∃ d, (gcLevels lv gf ds).getLast? = some (p.1, gcMap p.2 gf d) := by
  intro lv
  induction lv with
  | nil => intro gf ds p h; simp at h
  | cons x r ih =>
    intro gf ds p h
    cases r with
    | nil =>
      simp at h; subst h
      exact ⟨ds.headD [], by rw [gcLevels_cons]; rfl⟩
    | cons y r' =>
      rw [List.getLast?_cons_cons] at h
      obtain ⟨d, hd⟩ := ih gf ds.tail p h
      refine ⟨d, ?_⟩
      rw [gcLevels_cons] at hd ⊢
      rw [gcLevels_cons, List.getLast?_cons_cons]
      exact hd

theorem gcLevels_secMap (lv : List Level) (gf : Int) (ds : List (List Int)) (h : lv.map (·.1) = steps) :
    ∃ d, secMap (gcLevels lv gf ds) = gcMap (secMap lv) gf d := by
  obtain ⟨d, hd⟩ := gcLevels_last lv gf ds _ (levels_last lv h)
  exact ⟨d, secMap_of_last _ _ hd⟩

theorem findEntry_eq_find (c : List Entry) (k : Nat) : findEntry c k = c.find? (fun e => e.key = k) := by
  induction c with
  | nil => rfl
  | cons x r ih =>
    rw [findEntry, List.find?_cons, ih]
    by_cases h : x.key = k <;> simp [h]

theorem findEntry_mem (c : List Entry) (k : Nat) (e : Entry) (h : findEntry c k = some e) : e ∈ c ∧ e.key = k := by
  rw [findEntry_eq_find] at h
  exact ⟨List.mem_of_find?_eq_some h, by simpa using List.find?_some h⟩

theorem findEntry_none (c : List Entry) (k : Nat) (h : findEntry c k = none) : ∀ e ∈ c, e.key ≠ k := by
  rw [findEntry_eq_find, List.find?_eq_none] at h
  exact fun e he hk => h e he (decide_eq_true hk)

theorem findEntry_append_new (c : List Entry) (e : Entry) (h : findEntry c e.key = none) :
    findEntry (c ++ [e]) e.key = some e := by
  rw [findEntry_eq_find] at h ⊢
  simp [List.find?_append, h]

theorem findRows_mem (rs : List CRows) (f t : Int) (cr : CRows) (h : findRows rs f t = some cr) :
    cr ∈ rs ∧ cr.tFrom = f ∧ cr.tTo = t := by
  have e : ∀ rs : List CRows, findRows rs f t = rs.find? (fun c => isRange c f t) := by
    intro rs
    induction rs with
    | nil => rfl
    | cons x r ih =>
      rw [findRows, List.find?_cons, ih]
      cases isRange x f t <;> rfl
  rw [e] at h
  have := List.find?_some h
  simp only [isRange, Bool.and_eq_true, decide_eq_true_eq] at this
  exact ⟨List.mem_of_find?_eq_some h, this⟩

theorem loadCached_fst (s : State) (key : Nat) (f t tLru tChk : Int) :
    (loadCached s key f t tLru tChk).1 = s ∨
    (loadCached s key f t tLru tChk).1 = { s with cache := setLru s.cache key tLru } := by
  unfold loadCached
  split
  · exact Or.inl rfl
  · simp only
    split <;> exact Or.inr rfl

theorem loadCached_snd (s : State) (key : Nat) (f t tLru tChk : Int) :
    (loadCached s key f t tLru tChk).2 =
      match lookupRows s key f t with
      | none => .absent
      | some cr => if checkInvalidation s.levels s.off tChk cr.loadedAt f t then .served cr.n cr.gen else .stale := by
  unfold loadCached
  cases lookupRows s key f t with
  | none => rfl
  | some cr =>
    simp only
    split <;> rfl

theorem loadCached_cached (s : State) (key : Nat) (f t tLru tChk : Int) (cr : CRows)
    (h : lookupRows s key f t = some cr) :
    ((loadCached s key f t tLru tChk).2 = .stale ↔ checkInvalidation s.levels s.off tChk cr.loadedAt f t = false) ∧
    ((loadCached s key f t tLru tChk).2 = .served cr.n cr.gen ↔
      ¬ checkInvalidation s.levels s.off tChk cr.loadedAt f t = false) := by
  rw [loadCached_snd, h]
  simp only
  cases checkInvalidation s.levels s.off tChk cr.loadedAt f t <;> simp

theorem store_eq (s : State) (key : Nat) (tLru : Int) (cr : CRows) (ch : List Nat) :
    store s key tLru cr ch =
      if (evictLoop s ch).2 = .ok then (insertRows (evictLoop s ch).1 key tLru cr, .ok) else evictLoop s ch := by
  unfold store
  rcases evictLoop s ch with ⟨s1, f⟩
  cases f <;> rfl

theorem addKey_eq (c : List Entry) (k : Nat) :
    (∃ e, findEntry c k = some e ∧ addKey c k = c) ∨
    (findEntry c k = none ∧ addKey c k = c ++ [{ key := k, lru := 0, rows := [], rowsSize := 0 }]) := by
  unfold addKey hasKey
  cases findEntry c k with
  | none => exact Or.inr ⟨rfl, rfl⟩
  | some e => exact Or.inl ⟨e, rfl, rfl⟩

theorem mem_addKey (c : List Entry) (k : Nat) (e : Entry) (h : e ∈ addKey c k) :
    e ∈ c ∨ e = { key := k, lru := 0, rows := [], rowsSize := 0 } := by
  rcases addKey_eq c k with ⟨_, _, h'⟩ | ⟨_, h'⟩ <;> rw [h'] at h
  · exact Or.inl h
  · simpa using h

/-- the `none` branch of `insertRows` is dead -/
theorem insertRows_eq (s : State) (key : Nat) (tLru : Int) (cr : CRows) :
    ∃ e, findEntry (addKey s.cache key) key = some e ∧
      insertRows s key tLru cr =
        { s with size := s.size + sizeDelta e cr,
                 cache := (addKey s.cache key).map (fun x => if x.key = key then putEntry x tLru cr else x) } := by
  have hsome : ∃ e, findEntry (addKey s.cache key) key = some e := by
    rcases addKey_eq s.cache key with ⟨e, he, h'⟩ | ⟨hn, h'⟩ <;> rw [h']
    · exact ⟨e, he⟩
    · exact ⟨_, findEntry_append_new _ { key := key, lru := 0, rows := [], rowsSize := 0 } hn⟩
  obtain ⟨e, he⟩ := hsome
  exact ⟨e, he, by unfold insertRows; simp only [he]⟩

theorem evictLoop_inv (P : State → Prop) (h1 : ∀ s k, P s → P (evictOne s k)) :
    ∀ (ch : List Nat) (s : State), P s → P (evictLoop s ch).1 := by
  intro ch
  induction ch with
  | nil =>
    intro s h
    rw [evictLoop]
    split
    · split <;> exact h
    · exact h
  | cons k ks ih =>
    intro s h
    rw [evictLoop]
    split
    · split
      · exact ih _ (h1 s k h)
      · exact h
    · exact h

theorem evictLoop_flag : ∀ (ch : List Nat) (s : State),
    ((evictLoop s ch).2 = .ok → needEvict (evictLoop s ch).1 = false) ∧
    ((evictLoop s ch).2 = .hang → needEvict (evictLoop s ch).1 = true ∧ (evictLoop s ch).1.cache = []) := by
  intro ch
  induction ch with
  | nil =>
    intro s
    rw [evictLoop]
    by_cases hn : needEvict s = true
    · rw [if_pos hn]
      by_cases he : s.cache.isEmpty = true
      · rw [if_pos he]
        exact ⟨fun h => (by cases h), fun _ => ⟨hn, List.isEmpty_iff.mp he⟩⟩
      · rw [if_neg he]
        exact ⟨fun h => (by cases h), fun h => (by cases h)⟩
    · rw [if_neg hn]
      exact ⟨fun _ => (by simpa using hn), fun h => (by cases h)⟩
  | cons k ks ih =>
    intro s
    rw [evictLoop]
    by_cases hn : needEvict s = true
    · rw [if_pos hn]
      by_cases hl : evictLegal s.cache k = true
      · rw [if_pos hl]
        exact ih _
      · rw [if_neg hl]
        exact ⟨fun h => (by cases h), fun h => (by cases h)⟩
    · rw [if_neg hn]
      exact ⟨fun h => (by cases h), fun h => (by cases h)⟩

theorem run_inv (P : State → Prop) (ops : List Op) (hstep : ∀ s op, op ∈ ops → P s → P (step s op)) :
    ∀ s, P s → P (run s ops) := by
  induction ops with
  | nil => intro s h; exact h
  | cons op r ih =>
    intro s h
    exact ih (fun s o ho => hstep s o (List.mem_cons_of_mem _ ho)) _ (hstep s op List.mem_cons_self h)

/-- what lookups, evictions and stores leave alone: the invalidation maps, the offset and the size limit -/
structure Frame (s s' : State) : Prop where
  levels : s'.levels = s.levels
  off : s'.off = s.off
  maxSize : s'.maxSize = s.maxSize

theorem evictOne_frame (s : State) (k : Nat) : Frame s (evictOne s k) := by
  unfold evictOne
  split <;> exact ⟨rfl, rfl, rfl⟩

theorem evictLoop_frame (ch : List Nat) (s : State) : Frame s (evictLoop s ch).1 :=
  evictLoop_inv (Frame s)
    (fun s' k h => by
      have h2 := evictOne_frame s' k
      exact ⟨h2.levels.trans h.levels, h2.off.trans h.off, h2.maxSize.trans h.maxSize⟩) ch s ⟨rfl, rfl, rfl⟩

theorem lookup_frame (s : State) (key : Nat) (f t tLru tChk : Int) : Frame s (loadCached s key f t tLru tChk).1 := by
  rcases loadCached_fst s key f t tLru tChk with h | h
  · rw [h]
    exact ⟨rfl, rfl, rfl⟩
  · rw [h]
    exact ⟨rfl, rfl, rfl⟩

theorem store_frame (s : State) (key : Nat) (tLru : Int) (cr : CRows) (ch : List Nat) :
    Frame s (store s key tLru cr ch).1 := by
  have h := evictLoop_frame ch s
  rw [store_eq]
  split
  · obtain ⟨e, _, hi⟩ := insertRows_eq (evictLoop s ch).1 key tLru cr
    rw [hi]
    exact ⟨h.levels, h.off, h.maxSize⟩
  · exact h

theorem step_maxSize (s : State) (op : Op) : (step s op).maxSize = s.maxSize := by
  cases op with
  | lookup key f t tLru tChk => exact (lookup_frame s key f t tLru tChk).maxSize
  | store key tLru cr ch => exact (store_frame s key tLru cr ch).maxSize
  | invalidate tAt tFrom secs dels => rfl

/-- the moves of one critical section: `invalidate`, a new lru stamp, evictions, one `insertRows` with the loop's condition false -/
theorem step_cases (P : State → Prop) (s : State) (op : Op)
    (hinv : ∀ tAt tFrom secs dels, P s → P (invalidate s tAt tFrom secs dels))
    (hlru : ∀ k t, P s → P { s with cache := setLru s.cache k t })
    (hev : ∀ s' k, P s' → P (evictOne s' k))
    (hins : ∀ s' key tLru cr ch, op = .store key tLru cr ch → needEvict s' = false → s'.maxSize = s.maxSize → P s' →
      P (insertRows s' key tLru cr))
    (h : P s) : P (step s op) := by
  cases op with
  | invalidate tAt tFrom secs dels => exact hinv _ _ _ _ h
  | lookup key f t tLru tChk =>
    simp only [step]
    rcases loadCached_fst s key f t tLru tChk with e | e <;> rw [e]
    · exact h
    · exact hlru key tLru h
  | store key tLru cr ch =>
    have h1 : P (evictLoop s ch).1 := evictLoop_inv P hev ch s h
    simp only [step, store_eq]
    split
    · rename_i hok
      exact hins _ key tLru cr ch rfl ((evictLoop_flag ch s).1 hok) (evictLoop_frame ch s).maxSize h1
    · exact h1

theorem evictOne_cache_sub (s : State) (k : Nat) : ∀ e ∈ (evictOne s k).cache, e ∈ s.cache := by
  intro e he
  unfold evictOne at he; split at he
  · exact he
  · exact (List.mem_filter.mp he).1

theorem setLru_entries (Q : Entry → Prop) (c : List Entry) (k : Nat) (t : Int) (hlru : ∀ e t, Q e → Q { e with lru := t })
    (h : ∀ e ∈ c, Q e) : ∀ e ∈ setLru c k t, Q e := by
  intro e he
  obtain ⟨x, hx, rfl⟩ := List.mem_map.mp he
  split
  · exact hlru x t (h x hx)
  · exact h x hx

theorem insertRows_entries (Q : Entry → Prop) (s : State) (key : Nat) (tLru : Int) (cr : CRows)
    (hnew : Q { key := key, lru := 0, rows := [], rowsSize := 0 })
    (hput : ∀ e, e.key = key → Q e → Q (putEntry e tLru cr))
    (h : ∀ e ∈ s.cache, Q e) : ∀ e ∈ (insertRows s key tLru cr).cache, Q e := by
  obtain ⟨_, _, hi⟩ := insertRows_eq s key tLru cr
  rw [hi]
  intro e he
  obtain ⟨x, hx, rfl⟩ := List.mem_map.mp he
  have hQ : Q x := by
    rcases mem_addKey _ _ _ hx with hx | hx
    · exact h x hx
    · rw [hx]; exact hnew
  split
  · rename_i hk
    exact hput x hk hQ
  · exact hQ

theorem step_entries (Q : Entry → Prop) (s : State) (op : Op)
    (hlru : ∀ e t, Q e → Q { e with lru := t })
    (hnew : ∀ k, Q { key := k, lru := 0, rows := [], rowsSize := 0 })
    (hput : ∀ key tLru cr ch, op = .store key tLru cr ch → ∀ e, e.key = key → Q e → Q (putEntry e tLru cr))
    (h : ∀ e ∈ s.cache, Q e) : ∀ e ∈ (step s op).cache, Q e :=
  step_cases (fun s' => ∀ e ∈ s'.cache, Q e) s op (fun _ _ _ _ h' => h')
    (fun k t h' => setLru_entries Q s.cache k t hlru h')
    (fun s' k hs e he => hs e (evictOne_cache_sub s' k e he))
    (fun s' key tLru cr ch hop _ _ h1 => insertRows_entries Q s' key tLru cr (hnew key) (hput key tLru cr ch hop) h1) h

/-- the accounted size, what the eviction loop compares with approxMaxSize (not a load of rows) -/
def load (s : State) : Int := s.size + (s.cache.length : Int)

theorem entryCost_nonneg (e : Entry) : 0 ≤ entryCost e := by unfold entryCost; omega

def rowsTotal (rs : List CRows) : Int := (rs.map (fun c => (c.n : Int))).sum
/-- what an entry really holds: itself, its ranges, their rows -/
def actualEntry (e : Entry) : Int := 1 + (e.rows.length : Int) + rowsTotal e.rows
def actual (s : State) : Int := (s.cache.map actualEntry).sum
def costSum (c : List Entry) : Int := (c.map entryCost).sum

theorem costSum_cons (x : Entry) (r : List Entry) : costSum (x :: r) = entryCost x + costSum r := by
  simp [costSum]

theorem setLru_map {α : Type} (g : Entry → α) (hg : ∀ e t, g { e with lru := t } = g e) (c : List Entry) (k : Nat)
    (t : Int) : (setLru c k t).map g = c.map g := by
  unfold setLru
  rw [List.map_map]
  apply List.map_congr_left
  intro x _
  simp only [Function.comp]
  split
  · exact hg x t
  · rfl

theorem costSum_nonneg (c : List Entry) : 0 ≤ costSum c := by
  induction c with
  | nil => simp [costSum]
  | cons x r ih =>
    rw [costSum_cons]
    have := entryCost_nonneg x
    omega

theorem rowsTotal_filter_le (rows : List CRows) (p : CRows → Bool) : rowsTotal (rows.filter p) ≤ rowsTotal rows := by
  induction rows with
  | nil => exact le_refl _
  | cons c r ih =>
    by_cases hc : p c = true
    · rw [List.filter_cons_of_pos hc]
      exact Int.add_le_add_left ih _
    · rw [List.filter_cons_of_neg hc]
      exact le_trans ih (Int.le_add_of_nonneg_left (Int.natCast_nonneg c.n))

end SH.C24
