/-
  SH.Lemmas.WirePBFuel — every Protobuf reader of the model obeys `Reads`, and the loops never exhaust the fuel the model
  gives them (len+1 for the field loops, 2·len+2 for the group skipper).
-/
import SH.Lemmas.Wire
namespace SH.Wire

theorem pbVarintGo_reads : ∀ (b : Bytes) (i acc : Nat), Reads 1 b (pbVarintGo i acc b)
  | [], i, acc => by
    unfold pbVarintGo
    exact .error nofun
  | y :: t, i, acc => by
    unfold pbVarintGo
    refine .ite (.ite (.ok (Nat.le_refl _)) (.error nofun)) <| .ite (.ok (Nat.le_refl _)) ?_
    exact ((pbVarintGo_reads t _ _).cons y).mono (Nat.le_succ _)

theorem pbVarint_reads (b : Bytes) : Reads 1 b (pbVarint b) := pbVarintGo_reads b 0 0

theorem pbTag_reads (b : Bytes) : Reads 1 b (pbTag b) := by
  unfold pbTag
  exact (pbVarint_reads b).elim (fun _ he => .error he) fun v r h => .ite (.error nofun) (.ok h)

theorem pbBytes_reads (b : Bytes) : Reads 1 b (pbBytes b) := by
  unfold pbBytes
  refine (pbVarint_reads b).elim (fun _ he => .error he) fun m r h => .ite (.error nofun) (.ok ?_)
  rw [List.length_drop]
  omega

theorem pbBytes_payload (b d r : Bytes) (h : pbBytes b = .ok (d, r)) : d.length + r.length < b.length := by
  unfold pbBytes at h
  revert h
  refine (pbVarint_reads b).elim (fun _ _ => nofun) fun m r0 h1 h => ?_
  dsimp only at h
  split at h
  · cases h
  · cases h
    rw [List.length_take, List.length_drop]
    omega

theorem pbFixed64_reads (b : Bytes) : Reads 8 b (pbFixed64 b) := Reads.fixedWidth 8 b rdLE

theorem pbFixed32_reads (b : Bytes) : Reads 4 b (pbFixed32 b) := Reads.fixedWidth 4 b rdLE

/-- consumeFieldValueD and its group loop, by simultaneous induction on the fuel: `2·len+2` resp. `2·len+1` units are
    enough, since every tag and every value takes a byte -/
theorem pbSkipVal_skips : ∀ (f : Nat),
    (∀ (num typ : Nat) (b : Bytes) (d : Int), Skips 0 b (2 * b.length + 2 ≤ f) (pbSkipVal f num typ b d)) ∧
    (∀ (num : Nat) (b : Bytes) (d : Int), Skips 1 b (2 * b.length + 1 ≤ f) (pbSkipGroup f num b d))
  | 0 => ⟨fun _ _ _ _ => .error fun h => by omega, fun _ _ _ => .error fun h => by omega⟩
  | f + 1 => by
    obtain ⟨ihV, ihG⟩ := pbSkipVal_skips f
    constructor
    · intro num typ b d
      simp only [pbSkipVal]
      -- wire types 0, 5, 1, 2: the value is skipped by reading it
      refine .ite ?_ <| .ite ?_ <| .ite ?_ <| .ite ?_ ?_
      · exact (pbVarint_reads b).elim (fun _ he => .error fun _ => he) fun _ r h => .ok (Nat.le_of_add_right_le h)
      · exact (pbFixed32_reads b).elim (fun _ he => .error fun _ => he) fun _ r h => .ok (Nat.le_of_add_right_le h)
      · exact (pbFixed64_reads b).elim (fun _ he => .error fun _ => he) fun _ r h => .ok (Nat.le_of_add_right_le h)
      · exact (pbBytes_reads b).elim (fun _ he => .error fun _ => he) fun _ r h => .ok (Nat.le_of_add_right_le h)
      refine .ite (.ite (.error fun _ => nofun) ?_) <| .ite (.error fun _ => nofun) (.error fun _ => nofun)
      exact (ihG num b d).mono (Nat.le_succ _) (by omega)
    · intro num b d
      simp only [pbSkipGroup]
      refine (pbTag_reads b).elim (fun _ he => .error fun _ => he) fun ⟨num2, typ2⟩ r hr => ?_
      refine .ite (.ite (.error fun _ => nofun) (.ok hr)) ?_
      refine (ihV num2 typ2 r (d - 1)).elim (fun _ he => .error fun hf => he (by omega)) fun r' hr' => ?_
      exact (ihG num r' d).mono (by omega) (by omega)

theorem pbSkip_skips (num typ : Nat) (b : Bytes) : Skips 0 b True (pbSkip num typ b) :=
  ((pbSkipVal_skips _).1 num typ b _).mono (Nat.le_refl _) fun _ => Nat.le_refl _

/-- The four field loops go the same way: a turn consumes at least the tag byte, so the recursive call gets a shorter
    input with one unit of fuel less. -/
theorem pbEntry_ne_fuel : ∀ (f : Nat) (kv : Bytes × Bytes) (b : Bytes), b.length < f → pbEntry f kv b ≠ .error .fuel
  | 0, _, _, h => absurd h (Nat.not_lt_zero _)
  | f + 1, kv, b, hf => by
    rw [pbEntry]
    split
    · nofun
    · refine (pbTag_reads b).elim (fun _ he => error_ne_fuel he) fun p r h0 => ?_
      dsimp only
      split
      · exact (pbBytes_reads r).elim (fun _ he => error_ne_fuel he) fun s r' h1 => pbEntry_ne_fuel f _ r' (by omega)
      · split
        · exact (pbBytes_reads r).elim (fun _ he => error_ne_fuel he) fun s r' h1 => pbEntry_ne_fuel f _ r' (by omega)
        · exact (pbSkip_skips p.1 p.2 r).elim (fun _ he => error_ne_fuel (he trivial)) fun r' h1 =>
            pbEntry_ne_fuel f _ r' (by omega)

theorem pbCentroid_ne_fuel : ∀ (f : Nat) (c : Nat × Nat) (b : Bytes), b.length < f → pbCentroid f c b ≠ .error .fuel
  | 0, _, _, h => absurd h (Nat.not_lt_zero _)
  | f + 1, c, b, hf => by
    rw [pbCentroid]
    split
    · nofun
    · refine (pbTag_reads b).elim (fun _ he => error_ne_fuel he) fun p r h0 => ?_
      dsimp only
      split
      · exact (pbFixed64_reads r).elim (fun _ he => error_ne_fuel he) fun x r' h1 => pbCentroid_ne_fuel f _ r' (by omega)
      · split
        · exact (pbFixed64_reads r).elim (fun _ he => error_ne_fuel he) fun x r' h1 => pbCentroid_ne_fuel f _ r' (by omega)
        · exact (pbSkip_skips p.1 p.2 r).elim (fun _ he => error_ne_fuel (he trivial)) fun r' h1 =>
            pbCentroid_ne_fuel f _ r' (by omega)

theorem pbPackedVar_ne_fuel : ∀ (f : Nat) (b : Bytes), b.length < f → (pbPackedVar f b).2 ≠ some .fuel
  | 0, _, h => absurd h (Nat.not_lt_zero _)
  | f + 1, b, hf => by
    rw [pbPackedVar]
    split
    · nofun
    · exact (pbVarint_reads b).elim (fun _ he h => he (Option.some.inj h)) fun x r h0 => pbPackedVar_ne_fuel f r (by omega)

/-- only `Reads 0`: with `packedErr = false` a swallowed packed error returns the input unchanged -/
theorem pbMetricField_reads (v : Variant) (m : Metric) (num typ : Nat) (r : Bytes) :
    Reads 0 r (pbMetricField v m num typ r) := by
  have bytes := (pbBytes_reads r).zero
  have fixed := (pbFixed64_reads r).zero
  have varint := (pbVarint_reads r).zero
  unfold pbMetricField
  refine .ite (bytes.mapR _) <| .ite ?tags <| .ite (fixed.mapR _) <| .ite ?ts <| .ite ?value <| .ite (fixed.mapR _) <|
    .ite ?unique <| .ite (varint.mapR _) <| .ite ?hist ((pbSkip_skips num typ r).reads m)
  case tags =>
    refine bytes.elim (fun _ he => .error he) fun d r' hr => ?_
    have hl := pbEntry_ne_fuel (d.length + 1) ([], []) d (Nat.lt_succ_self _)
    dsimp only
    generalize pbEntry (d.length + 1) ([], []) d = x at hl ⊢
    obtain e | kv := x
    · exact .error fun h => hl (congrArg _ h)
    · exact .ok hr
  case hist =>
    refine bytes.elim (fun _ he => .error he) fun d r' hr => ?_
    have hl := pbCentroid_ne_fuel (d.length + 1) (0, 0) d (Nat.lt_succ_self _)
    dsimp only
    generalize pbCentroid (d.length + 1) (0, 0) d = x at hl ⊢
    obtain e | c := x
    · exact .error fun h => hl (congrArg _ h)
    · exact .ok hr
  case ts => exact varint.elim (fun _ he => .error he) fun x r' hr => .ite (.error nofun) (.ok hr)
  case value => exact bytes.elim (fun _ he => .error he) fun d r' hr => .ite (.error nofun) (.ok hr)
  case unique =>
    refine bytes.elim (fun _ he => .error he) fun d r' hr => ?_
    have hp := pbPackedVar_ne_fuel (d.length + 1) d (Nat.lt_succ_self _)
    dsimp only
    generalize pbPackedVar (d.length + 1) d = p at hp ⊢
    obtain ⟨xs, _ | e⟩ := p
    · exact .ok hr
    · exact .ite (.error fun h => hp (congrArg _ h)) (.ok (Nat.le_refl _))

theorem pbMetric_ne_fuel (v : Variant) : ∀ (f : Nat) (m : Metric) (b : Bytes), b.length < f → pbMetric v f m b ≠ .error .fuel
  | 0, _, _, h => absurd h (Nat.not_lt_zero _)
  | f + 1, m, b, hf => by
    rw [pbMetric]
    split
    · nofun
    · refine (pbTag_reads b).elim (fun _ he => error_ne_fuel he) fun ⟨num, typ⟩ r h0 => ?_
      dsimp only
      exact (pbMetricField_reads v m num typ r).elim (fun _ he => error_ne_fuel he) fun m' r' h1 =>
        pbMetric_ne_fuel v f m' r' (by omega)

theorem pbBatch_ne_fuel (v : Variant) : ∀ (f : Nat) (ms : List Metric) (b : Bytes), b.length < f →
    ∀ rest, pbBatch v f ms b ≠ .error (.fuel, rest)
  | 0, _, _, h, _ => absurd h (Nat.not_lt_zero _)
  | f + 1, ms, b, hf, rest => by
    have err : ∀ {e : Err} {t : Bytes}, e ≠ .fuel → (Except.error (e, t) : Except (Err × Bytes) (List Metric)) ≠ .error (.fuel, rest) :=
      fun he h => he (congrArg Prod.fst (Except.error.inj h))
    rw [pbBatch]
    split
    · nofun
    · refine (pbTag_reads b).elim (fun _ he => err he) fun p r h0 => ?_
      dsimp only
      split
      · refine (pbBytes_reads r).elim (fun _ he => err he) fun d r' h1 => ?_
        have hm := pbMetric_ne_fuel v (d.length + 1) {} d (Nat.lt_succ_self _)
        dsimp only
        generalize pbMetric v (d.length + 1) {} d = x at hm ⊢
        obtain e | m := x
        · exact err fun h => hm (congrArg _ h)
        · exact pbBatch_ne_fuel v f _ r' (by omega) rest
      · exact (pbSkip_skips p.1 p.2 r).elim (fun _ he => err (he trivial)) fun r' h1 =>
          pbBatch_ne_fuel v f ms r' (by omega) rest

theorem mapR_mono' {α β : Type} (x : R α) (f : α → β) (b : Bytes) (hx : ∀ a r, x = .ok (a, r) → r.length < b.length)
    (y : β) (r : Bytes) (h : mapR x f = .ok (y, r)) : r.length < b.length := by
  obtain e | ⟨a, r'⟩ := x
  · cases h
  · cases h
    exact hx a r rfl

end SH.Wire
