/-
  SH.Lemmas.DiskCachePut — PutBucket under the invariant: rotation, a new file named by the clock, appending the record.
-/
import SH.Lemmas.DiskCacheErase

namespace SH.C09
open SH.DiskCache

/-- what `Inv` says of the file `f` under the write head (named `w`) and of its file object `o` -/
structure WritingView (cfg : Cfg) (s : Shard) (a : Abs) (w : Nat) (f : AFile) (o : OFile) : Prop where
  flag : a.writing = true
  last : a.new.getLast? = some f
  name : f.name = w
  new : f ∈ a.new
  mem : f ∈ a.files
  wname : a.wname = some f.name
  ofile : findO s.ofiles w = some o
  refs : o.refCount = a.refs f
  size : o.size = f.size cfg
  oname : o.name = w

theorem Inv.writing_view {cfg : Cfg} {s : Shard} {a : Abs} (inv : Inv cfg s a) {w : Nat} (hw : s.writing = some w) :
    ∃ f o, WritingView cfg s a w f o := by
  have h1 := inv.writing
  rw [hw] at h1
  unfold Abs.wname at h1
  split at h1
  · rename_i hwt
    cases hl : a.new.getLast? with
    | none => rw [hl] at h1; simp at h1
    | some f =>
      rw [hl] at h1; simp at h1
      have hfn : f ∈ a.new := List.mem_of_getLast? hl
      have hff : f ∈ a.files := mem_files_of_pre_new (List.mem_append_right _ hfn)
      have hwn : a.wname = some f.name := by simp [Abs.wname, hwt, hl]
      obtain ⟨o, ho⟩ := inv.ofile_some hff (Abs.one_le_refs_of_wname hwn)
      obtain ⟨hn, hrc, -, hsz, -⟩ := inv.ofile_of_mem hff ho
      exact ⟨f, o, hwt, hl, h1.symm, hfn, hff, hwn, h1 ▸ ho, hrc, hsz, h1 ▸ hn⟩
  · simp at h1

theorem Inv.writing_view_at {cfg : Cfg} {s : Shard} {a : Abs} (inv : Inv cfg s a) {w : Nat} {o : OFile}
    (hw : s.writing = some w) (ho : findO s.ofiles w = some o) : ∃ f, WritingView cfg s a w f o := by
  obtain ⟨f, o', v⟩ := inv.writing_view hw
  cases ho.symm.trans v.ofile
  exact ⟨f, v⟩

theorem inv_unwrite_keep (cfg : Cfg) (s : Shard) (a : Abs) (w : Nat) (o : OFile) (inv : Inv cfg s a)
    (hw : s.writing = some w) (ho : findO s.ofiles w = some o) (hz : ¬ o.refCount - 1 = 0) :
    Inv cfg { unref s w with writing := none } { a with writing := false } := by
  obtain ⟨f, v⟩ := inv.writing_view_at hw ho
  have hfn := v.name
  subst hfn
  let a2 : Abs := { a with writing := false }
  have hrn : a2.rname = a.rname := rfl
  have hwn2 : a2.wname = none := rfl
  have hinj : ∀ g ∈ a.files, g.name = f.name → g = f := fun g hg h => inv.name_inj hg v.mem h
  have hrefs : ∀ g ∈ a.files, g ≠ f → a2.refs g = a.refs g := by
    intro g hg hgf
    have : f.name ≠ g.name := fun e => hgf (hinj g hg e.symm)
    simp [Abs.refs, hrn, hwn2, v.wname, this]
  have hrefsf : a2.refs f = a.refs f - 1 := by
    simp only [Abs.refs, hrn, hwn2, v.wname]; simp
  have hposf : 0 < a.refs f - 1 := pred_pos_of_ne (Abs.one_le_refs_of_wname v.wname) (v.refs ▸ hz)
  rw [unref_keep ho hz]
  refine { inv with ofiles := ?_, writing := rfl, writingSome := ?_, present := ?_ }
  · intro name
    by_cases hn : name = f.name
    · subst hn
      rw [findO_mapO s.ofiles f.name (fun g => { g with refCount := g.refCount - 1 }) o (fun _ => rfl) ho]
      obtain ⟨-, -, -, -, hcur⟩ := inv.ofile_of_mem v.mem ho
      exact ⟨v.oname, f, v.mem, rfl, by rw [hrefsf]; simp [v.refs], by rw [hrefsf]; exact hposf, v.size, hcur⟩
    · exact inv.ofiles_other (findO_mapO_ne _ _ _ _ (fun _ => rfl) hn) (fun g _ => Iff.rfl)
        (fun g hg hgn => hrefs g hg (fun e => hn (hgn.symm.trans (congrArg AFile.name e)))) (fun g j _ h => h)
  · intro h; simp at h
  · intro g hg
    have hgf : g ∈ a.files := mem_files_of_pre_new hg
    by_cases hgw : g = f
    · subst hgw; rw [hrefsf]; exact hposf
    · rw [hrefs g hgf hgw]; exact inv.present g hg

theorem inv_rotate (cfg : Cfg) (s : Shard) (a : Abs) (inv : Inv cfg s a) (len : Nat) (tr : Bool) :
    ∃ a', Inv cfg (rotateIfNeeded s len tr) a' ∧ a'.live cfg = a.live cfg ∧ a'.lastID = a.lastID := by
  unfold rotateIfNeeded
  cases hw : s.writing with
  | none => exact ⟨a, inv, rfl, rfl⟩
  | some w =>
    obtain ⟨f, o, v⟩ := inv.writing_view hw
    simp only [v.ofile]
    split
    · by_cases hz : o.refCount - 1 = 0
      · -- the file had no live second left: it is deleted
        have hfn := v.name
        subst hfn
        have hidc0 := Abs.refs_eq_one_of_wname v.wname (by
          have h1 := Abs.one_le_refs_of_wname v.wname
          have h2 := v.refs
          omega)
        have hfb : fbuckets cfg f = [] := bucketsAt_none cfg _ _ _ (idc_zero_none _ hidc0.1)
        have hfw : f ∉ a.wait := fun h => inv.wait_name_ne h (List.mem_append_right _ v.new) rfl
        rw [unref_drop v.ofile hz]
        exact ⟨_, inv_drop_core cfg s _ a f true (a.lastID + 1) inv v.mem hfw
          (hw := by simpa using v.wname)
          (hBf := by intro x hx; rw [hfb] at hx; simp at hx)
          (hk := fun g hg _ x hx => Nat.ne_of_lt (Nat.lt_succ_of_le (inv.idsLe x (List.mem_flatMap.mpr ⟨g, hg, hx⟩))))
          (hknown := inv.known_filter_fresh.symm) (hks := by rw [hfb]; exact (Int.sub_zero _).symm)
          (hrd := (if_neg (by rw [inv.reading]; exact hidc0.2)).symm)
          (htotal := congrArg (s.total - ·) (congrArg Int.ofNat v.size)),
          inv.live_drop v.mem hfw (liveRecs_dead cfg _ (inv.newRead f v.new) (idc_zero_none _ hidc0.1)) true, rfl⟩
      · exact ⟨_, inv_unwrite_keep cfg s a w o inv hw v.ofile hz, rfl, rfl⟩
    · exact ⟨a, inv, rfl, rfl⟩

def Abs.newA (a : Abs) : Abs :=
  { a with new := a.new ++ [⟨a.clock, [], []⟩], writing := true, clock := a.clock + 1 }

theorem inv_newfile (cfg : Cfg) (s : Shard) (a : Abs) (inv : Inv cfg s a) (hw : s.writing = none) :
    Inv cfg (ensureWriting s) a.newA := by
  let nf : AFile := ⟨a.clock, [], []⟩
  have hwn : a.wname = none := by rw [← inv.writing]; exact hw
  have hfiles : a.newA.files = a.files ++ [nf] := by simp [Abs.files, Abs.curL, Abs.newA, nf]
  have hb : a.newA.buckets cfg = a.buckets cfg := by
    simp [Abs.buckets, hfiles, List.flatMap_append, fbuckets, bucketsAt, nf]
  have hrn : a.newA.rname = a.rname := rfl
  have hwn' : a.newA.wname = some a.clock := by simp [Abs.wname, Abs.newA]
  have hlt : ∀ g ∈ a.files, g.name ≠ a.clock := fun g hg => Nat.ne_of_lt (inv.namesLt g hg)
  have hrefs : ∀ g ∈ a.files, a.newA.refs g = a.refs g := by
    intro g hg
    have : a.clock ≠ g.name := fun e => hlt g hg e.symm
    simp [Abs.refs, hrn, hwn', hwn, this]
  have hrne : a.rname ≠ some a.clock := by
    intro h
    cases hc : a.cur with
    | none => simp [Abs.rname, hc] at h
    | some p =>
      simp [Abs.rname, hc] at h
      exact hlt p.1 (by simp [Abs.files, Abs.curL, hc]) h
  have hs : ensureWriting s =
      { s with
        disk := s.disk ++ [{ name := s.clock, bytes := [] }]
        ofiles := { name := s.clock, nextPos := 0, size := 0, refCount := 1 } :: s.ofiles
        writing := some s.clock
        clock := s.clock + 1 } := by
    simp [ensureWriting, hw]
  rw [hs]
  refine { inv with
           disk := ?_, clock := ?_, names := ?_, namesLt := ?_, wf := ?_, newTl := ?_, newRead := ?_, idsLe := ?_, idsNodup := ?_,
           known := ?_, ofiles := ?_, writing := ?_, writingSome := ?_, total := ?_, knownSize := ?_, present := ?_ }
  · rw [hfiles]; simp [inv.disk, inv.clock, AFile.render, AFile.bytes, encRecs, nf]
  · simp [Abs.newA, inv.clock]
  · rw [hfiles, List.map_append, List.pairwise_append]
    refine ⟨inv.names, by simp, ?_⟩
    intro x hx y hy
    obtain ⟨g, hg, rfl⟩ := List.mem_map.mp hx
    simp [nf] at hy; subst hy
    exact inv.namesLt g hg
  · rw [hfiles]
    exact forall_mem_concat (fun g h => Nat.lt_succ_of_lt (inv.namesLt g h)) (Nat.lt_succ_self _)
  · rw [hfiles]
    exact forall_mem_concat inv.wf ⟨fun _ h => (nomatch h), Or.inl rfl⟩
  · exact forall_mem_concat inv.newTl rfl
  · exact forall_mem_concat inv.newRead (fun _ h => nomatch h)
  · rw [hb]; exact inv.idsLe
  · rw [hb]; exact inv.idsNodup
  · rw [hb]; exact inv.known
  · intro name
    show match findO ({ name := s.clock, nextPos := 0, size := 0, refCount := 1 } :: s.ofiles) name with
      | none => _ | some o => _
    by_cases hn : name = a.clock
    · subst hn
      have := findO_cons_self { name := s.clock, nextPos := 0, size := 0, refCount := 1 } s.ofiles
      simp only [inv.clock] at this ⊢
      rw [this]
      refine ⟨rfl, nf, by rw [hfiles]; simp, rfl, ?_, ?_, by simp [AFile.size, AFile.bytes, encRecs, nf], ?_⟩
      · simp [Abs.refs, hrn, hwn', hrne, idc, nf]
      · simp [Abs.refs, hrn, hwn', hrne, idc, nf]
      · intro j h
        exfalso
        have : a.cur = some (nf, j) := h
        exact hlt nf (by simp [Abs.files, Abs.curL, this]) rfl
    · refine inv.ofiles_other (findO_cons_ne _ _ _ (fun e => hn (e.symm.trans inv.clock))) ?_ (fun g hg _ => hrefs g hg)
        (fun g j _ h => h)
      intro g hgn
      rw [hfiles, List.mem_append, List.mem_singleton]
      exact or_iff_left (fun e => hn (hgn.symm.trans (congrArg AFile.name e)))
  · show some s.clock = _; rw [hwn', inv.clock]
  · intro _; simp [Abs.newA]
  · rw [hfiles]; simp [sizeSum, inv.total, AFile.size, AFile.bytes, encRecs, nf]
  · rw [hb]; exact inv.knownSize
  · show ∀ g ∈ a.pre ++ (a.new ++ [nf]), _
    rw [← List.append_assoc]
    exact forall_mem_concat (fun g h => by rw [hrefs g (mem_files_of_pre_new h)]; exact inv.present g h)
      (by simp [Abs.refs, hrn, hwn', hrne, idc, nf])

theorem writeAt_end (f d : Bytes) : writeAt f f.length d = f ++ d := by
  unfold writeAt
  simp

theorem mapDisk_id_of_ne (d : List DFile) (n : Nat) (g : Bytes → Bytes) (h : ∀ x ∈ d, x.name ≠ n) : mapDisk d n g = d := by
  unfold mapDisk
  conv => rhs; rw [← List.map_id d]
  apply List.map_congr_left
  intro x hx
  simp [h x hx]

theorem mapDisk_mid (cfg : Cfg) (F1 F2 : List AFile) (f : AFile) (g : Bytes → Bytes)
    (h1 : ∀ x ∈ F1, x.name ≠ f.name) (h2 : ∀ x ∈ F2, x.name ≠ f.name) :
    mapDisk ((F1 ++ f :: F2).map (AFile.render cfg)) f.name g =
      F1.map (AFile.render cfg) ++ ⟨f.name, g (f.bytes cfg)⟩ :: F2.map (AFile.render cfg) := by
  rw [List.map_append, List.map_cons]
  have e : mapDisk (F1.map (AFile.render cfg) ++ f.render cfg :: F2.map (AFile.render cfg)) f.name g =
      mapDisk (F1.map (AFile.render cfg)) f.name g ++ (mapDisk [f.render cfg] f.name g ++ mapDisk (F2.map (AFile.render cfg)) f.name g) := by
    simp [mapDisk]
  rw [e, mapDisk_id_of_ne (F1.map (AFile.render cfg)) _ _ (by intro x hx; obtain ⟨y, hy, rfl⟩ := List.mem_map.mp hx; exact h1 y hy),
    mapDisk_id_of_ne (F2.map (AFile.render cfg)) _ _ (by intro x hx; obtain ⟨y, hy, rfl⟩ := List.mem_map.mp hx; exact h2 y hy)]
  simp [mapDisk, AFile.render]

def putRec (a : Abs) (time : Nat) (data : Bytes) : ARec := ⟨magicGood, time, data, some (a.lastID + 1)⟩

def Abs.appendA (a : Abs) (f : AFile) (time : Nat) (data : Bytes) : Abs :=
  { a with new := a.new.dropLast ++ [f.setRecs (f.recs ++ [putRec a time data])], lastID := a.lastID + 1 }

theorem inv_append (cfg : Cfg) (s : Shard) (a : Abs) (inv : Inv cfg s a) (w : Nat) (o : OFile)
    (hw : s.writing = some w) (ho : findO s.ofiles w = some o) (time : Nat) (data : Bytes)
    (ht : time < 2 ^ 32) (hdl : data.length ≤ maxChunkSize) (hcrc : cfg.crc data < 2 ^ 32) :
    ∃ a', Inv cfg (appendRec cfg s w o time data) a' ∧
      a'.live cfg = a.live cfg ++ [(some (a.lastID + 1), time, data)] ∧ a'.lastID = a.lastID + 1 ∧
      ∃ (F0 : List AFile) (f : AFile), a'.files = F0 ++ [f.setRecs (f.recs ++ [putRec a time data])] ∧ f.tl = [] := by
  obtain ⟨f, v⟩ := inv.writing_view_at hw ho
  have hfn := v.name
  subst hfn
  let r := putRec a time data
  let f' := f.setRecs (f.recs ++ [r])
  have hnew : a.new = a.new.dropLast ++ [f] := eq_dropLast_append a.new f v.last
  obtain ⟨F0, hF0⟩ : ∃ F0, F0 = a.pre ++ (a.curL ++ (a.wait ++ a.new.dropLast)) := ⟨_, rfl⟩
  have hF : a.files = F0 ++ [f] := by
    rw [Abs.files, hF0, hnew]
    simp
  have hF' : (a.appendA f time data).files = F0 ++ [f'] := by
    simp [Abs.files, Abs.appendA, hF0, f', r, Abs.curL]
  have htl : f.tl = [] := inv.newTl f v.new
  have hbytes' : f'.bytes cfg = f.bytes cfg ++ r.enc cfg := by
    simp [f', AFile.bytes, AFile.setRecs, encRecs_append, encRecs, htl]
  have hfsz : f.size cfg = recsLen f.recs := by simp [AFile.size, AFile.bytes, htl, encRecs_length]
  have hmemN : ∀ g ∈ (a.appendA f time data).new, g = f' ∨ g ∈ a.new := by
    intro g hg
    simp only [Abs.appendA, List.mem_append, List.mem_singleton] at hg
    rcases hg with h | h
    · exact Or.inr (List.dropLast_subset _ h)
    · exact Or.inl h
  refine ⟨a.appendA f time data, ?_, ?_, rfl, F0, f, hF', htl⟩
  · refine inv_new_id cfg s _ a _ inv F0 [] f f' o ⟨a.lastID + 1, f.name, f.size cfg, time, data.length, cfg.crc data⟩
      (headerSize + data.length)
      (fun g => { g with refCount := g.refCount + 1, size := g.size + (headerSize + data.length) })
      hF hF' (hwf := ?hwf) (hsize := by simp [AFile.size, hbytes', ARec.enc_length, ARec.len, r, putRec]) (hfb := ?hfb)
      (hwn := by simp [Abs.wname, Abs.appendA, v.flag, v.last, AFile.setRecs]) (hnewTl := ?hnewTl) (hnewRead := ?hnewRead)
      (hcurOk := inv.curOk) (hwsome := fun _ => by simp [Abs.appendA]) (hpn := ?hpn) (hcur := fun g j h => Or.inr h) (ho := ho)
      (hG := fun _ => rfl) (hGp := ?hGp) (hsd := ?hsd) (hsk := ?hsk) (hsks := by simp [appendRec, bsize]; omega)
    case hwf =>
      obtain ⟨h1, h2⟩ := inv.wf f v.mem
      refine ⟨?_, h2⟩
      intro q hq
      simp only [f', AFile.setRecs, List.mem_append, List.mem_singleton] at hq
      rcases hq with h | rfl
      · exact h1 q h
      · exact ⟨by show magicGood < 2 ^ 32; decide, ht, hdl, hcrc, fun _ => rfl, fun _ => isDeleted_good cfg⟩
    case hfb =>
      simp [fbuckets, f', AFile.setRecs, bucketsAt_append, bucketsAt, bucketOf, r, putRec, hfsz]
    case hnewTl =>
      intro g hg
      rcases hmemN g hg with rfl | h
      · exact htl
      · exact inv.newTl g h
    case hnewRead =>
      intro g hg q hq
      rcases hmemN g hg with rfl | h
      · simp only [f', AFile.setRecs, List.mem_append, List.mem_singleton] at hq
        rcases hq with h | rfl
        · exact inv.newRead f v.new q h
        · simp [unread, hasId, r, putRec]
      · exact inv.newRead g h q hq
    case hpn =>
      intro g hg
      rcases List.mem_append.mp hg with h | h
      · exact Or.inr (List.mem_append_left _ h)
      · exact (hmemN g h).imp_right (List.mem_append_right _)
    case hGp =>
      intro j h
      exfalso
      have hc : a.cur = some (f', j) := h
      have h1 : f' ∈ a.files := by simp [Abs.files, Abs.curL, hc]
      have := congrArg (fun x => x.recs.length) (inv.name_inj h1 v.mem rfl)
      simp [f', AFile.setRecs] at this
    case hsd =>
      show (mapDisk s.disk f.name fun b => writeAt b o.size (encHeader magicGood time data.length (cfg.crc data) ++ data)) = _
      rw [hF', inv.disk, hF, mapDisk_mid cfg F0 [] f _ (fun x hx => inv.names_split hF x (by simpa using hx)) (fun _ h => nomatch h),
        List.map_append, v.size, show f.size cfg = (f.bytes cfg).length from rfl, writeAt_end]
      simp only [List.map_cons, List.map_nil, AFile.render, hbytes']
      rfl
    case hsk =>
      show _ :: s.known = _
      rw [inv.lastID, v.size]
  · unfold Abs.live
    rw [hF', hF]
    simp only [List.flatMap_append, List.flatMap_cons, List.flatMap_nil, List.append_nil]
    have : fLive cfg f' = fLive cfg f ++ [(some (a.lastID + 1), time, data)] := by
      simp [fLive, f', AFile.setRecs, liveRecs, r, putRec, ARec.dead, isDeleted_good]
    rw [this]
    simp

theorem live_newA (cfg : Cfg) (a : Abs) : a.newA.live cfg = a.live cfg := by
  simp [Abs.live, Abs.files, Abs.newA, Abs.curL, List.flatMap_append, fLive, liveRecs]

/-- the first two steps of `writeSecond`: afterwards there is a writing file, with its file object -/
theorem inv_ensure (cfg : Cfg) (s : Shard) (a : Abs) (inv : Inv cfg s a) (len : Nat) (r : Bool) :
    ∃ a2 w o, Inv cfg (ensureWriting (rotateIfNeeded s len r)) a2 ∧ a2.live cfg = a.live cfg ∧ a2.lastID = a.lastID ∧
      (ensureWriting (rotateIfNeeded s len r)).writing = some w ∧
      findO (ensureWriting (rotateIfNeeded s len r)).ofiles w = some o := by
  obtain ⟨a1, inv1, hl1, hi1⟩ := inv_rotate cfg s a inv len r
  have hens : ∃ a2 w, Inv cfg (ensureWriting (rotateIfNeeded s len r)) a2 ∧ a2.live cfg = a.live cfg ∧ a2.lastID = a.lastID ∧
      (ensureWriting (rotateIfNeeded s len r)).writing = some w := by
    cases hw : (rotateIfNeeded s len r).writing with
    | none =>
      exact ⟨a1.newA, (rotateIfNeeded s len r).clock, inv_newfile cfg _ a1 inv1 hw, by rw [live_newA, hl1], hi1,
        by simp [ensureWriting, hw]⟩
    | some w =>
      have : ensureWriting (rotateIfNeeded s len r) = rotateIfNeeded s len r := by simp [ensureWriting, hw]
      rw [this]
      exact ⟨a1, w, inv1, hl1, hi1, hw⟩
  obtain ⟨a2, w, inv2, hl2, hi2, hw⟩ := hens
  obtain ⟨f, o, v⟩ := inv2.writing_view hw
  exact ⟨a2, w, o, inv2, hl2, hi2, hw, v.ofile⟩

theorem inv_put (cfg : Cfg) (s : Shard) (a : Abs) (inv : Inv cfg s a) (t : Nat) (d : Bytes) (r : Bool)
    (ht : t < 2 ^ 32) (hd : d.length ≤ maxChunkSize) (hcrc : cfg.crc d < 2 ^ 32) :
    ∃ a', Inv cfg (put cfg s t d r).1 a' ∧ a'.live cfg = a.live cfg ++ [(some (a.lastID + 1), t, d)] ∧
      a'.lastID = a.lastID + 1 ∧ (put cfg s t d r).2 = a.lastID + 1 ∧
      ∃ (F0 : List AFile) (f : AFile), a'.files = F0 ++ [f.setRecs (f.recs ++ [⟨magicGood, t, d, some (a.lastID + 1)⟩])] ∧ f.tl = [] := by
  have hnb : tooBig d = false := by simp [tooBig, tooBigLen]; omega
  obtain ⟨a2, w, o, inv2, hl2, hi2, hw, ho⟩ := inv_ensure cfg s a inv d.length r
  obtain ⟨a3, inv3, hl3, hi3, F0, f3, hsh, htl3⟩ := inv_append cfg _ a2 inv2 w o hw ho t d ht hd hcrc
  unfold put
  rw [hnb]
  simp only [Bool.false_eq_true, if_false, hw, ho]
  exact ⟨a3, inv3, by rw [hl3, hl2, hi2], by rw [hi3, hi2], by rw [inv2.lastID, hi2], F0, f3, by rw [hsh, putRec, hi2], htl3⟩

end SH.C09
