/-
  SH.Lemmas.BinlogAll — the files the writer produces: headers as `ScanForFilesFromPos` sees them, the chunk being written with its
  position/checksum accounting (`Acc`, `CurOK`), the split of the files at the end of a prefix of the appends (`splitC`), the head
  of the first file (`initBytes`, `initCur`), and runs of appends that stay in one file (their buffer is the layout,
  `runAll_buff_noRot`).  Defines `gh` (the header the scan gives a file), `allFiles`; `ev_ap` ties the single-file vocabulary to `Ap`.
-/
import SH.Lemmas.BinlogCut
open SH.Binlog
namespace SH.C18

/-- strictly increasing positions: how `ScanForFilesFromPos` sorts the headers -/
def Inc (l : List Hdr) : Prop := l.Pairwise (fun a b => a.pos < b.pos)

theorem sortHdrs_inc : ∀ (l : List Hdr), Inc l → sortHdrs l = l
  | [], _ => rfl
  | h :: hs, hi => by
    have hp := List.pairwise_cons.mp hi
    rw [sortHdrs, sortHdrs_inc hs hp.2]
    cases hs with
    | nil => rfl
    | cons x xs => simp [insertHdr, hp.1 x (List.mem_cons_self ..)]

/-- what `scanHeader` makes of the first file (LevStart) -/
def hdrStart (d : Bytes) : Hdr := { pos := 0, crc := 0, ts := 0, curHash := 0, data := d }

/-- the header `ScanForFilesFromPos` assigns to a file -/
def gh (d : Bytes) : Hdr := if rd32 d = magicStart then hdrStart d else hdrOf d

theorem gh_data (d : Bytes) : (gh d).data = d := by unfold gh; split <;> rfl

/-- the chunk being written: its header record(s) `hd`, the bytes behind them, and the position/checksum its header announces -/
structure Cur where
  hd : Bytes
  body : Bytes
  pos : Nat
  crc : UInt32

def Cur.bytes (c : Cur) : Bytes := c.hd ++ c.body

/-- whatever follows the header, the file scans to `gh` and announces `pos`/`crc` -/
def CurOK (cfg : Cfg) (c : Cur) : Prop :=
  ∀ x : Bytes, scanHeader cfg (c.hd ++ x) = .ok (gh (c.hd ++ x)) ∧ (gh (c.hd ++ x)).pos = (c.pos : Int) ∧ (gh (c.hd ++ x)).crc = c.crc

theorem CurOK.bytes {cfg : Cfg} {c : Cur} (hk : CurOK cfg c) (x : Bytes) :
    scanHeader cfg (c.bytes ++ x) = .ok (gh (c.bytes ++ x)) ∧ (gh (c.bytes ++ x)).pos = (c.pos : Int) ∧ (gh (c.bytes ++ x)).crc = c.crc := by
  rw [Cur.bytes, List.append_assoc]
  exact hk (c.body ++ x)

theorem curOK_nonempty (cfg : Cfg) (c : Cur) (hk : CurOK cfg c) : c.bytes.length ≠ 0 := by
  intro h
  have hb : c.hd = [] := by
    have : c.hd.length = 0 := by simp only [Cur.bytes, List.length_append] at h; omega
    exact List.eq_nil_of_length_eq_zero this
  have := (hk []).1
  rw [hb] at this
  simp [scanHeader] at this

/-- position and checksum accounting of the current chunk against the writer state -/
def Acc (cfg : Cfg) (w : WS) (c : Cur) : Prop :=
  c.pos + c.bytes.length = w.offG ∧ cfg.upd c.crc c.bytes = w.crc

def rfCur (cfg : Cfg) (w : WS) (a : Ap) : Cur :=
  { hd := apRF cfg w a, body := [], pos := (apMid cfg w a).offG + 36, crc := cfg.upd (apMid cfg w a).crc (apRT cfg w a) }

/-- completed chunks and the current chunk after the appends `as`, starting in chunk `c` -/
def splitC (cfg : Cfg) : WS → List Ap → Cur → List Bytes × Cur
  | _, [], c => ([], c)
  | w, a :: as, c =>
    if rotates cfg w a then
      ((c.bytes ++ apA cfg w a ++ apRT cfg w a) :: (splitC cfg (apNext cfg w a) as (rfCur cfg w a)).1,
       (splitC cfg (apNext cfg w a) as (rfCur cfg w a)).2)
    else splitC cfg (apNext cfg w a) as { c with body := c.body ++ apA cfg w a }

/-- all files: the current chunk `cur` continued by the layout, then the later chunks (`allFilesK` with `k1 = []`) -/
def allFiles (cfg : Cfg) (w : WS) (as : List Ap) (cur : Bytes) : List Bytes :=
  (cur ++ (layoutC cfg w as ([], [])).1) :: (layoutC cfg w as ([], [])).2

theorem apMid_crc_apA (cfg : Cfg) (hupd : ∀ c a b, cfg.upd (cfg.upd c a) b = cfg.upd c (a ++ b)) (w : WS) (a : Ap) :
    (apMid cfg w a).crc = cfg.upd w.crc (apA cfg w a) := by
  obtain ⟨-, -, ⟨hA, fc⟩ | ⟨q, hA, fc⟩⟩ := apMid_cases cfg w a
  · rw [fc, hA]
  · rw [fc, hA, hupd]

theorem gh_apRF (cfg : Cfg) (w : WS) (a : Ap) (x : Bytes) : gh (apRF cfg w a ++ x) = hdrOf (apRF cfg w a ++ x) := by
  rw [gh, if_neg (by rw [apRF, rd32_rotFrom]; decide)]

theorem rfCur_ok (cfg : Cfg) (w : WS) (a : Ap) (hnp : (apMid cfg w a).offG + 36 < 9223372036854775808) : CurOK cfg (rfCur cfg w a) := by
  intro x
  obtain ⟨hp, hc⟩ := hdrOf_apRF cfg w a x hnp
  rw [← gh_apRF] at hp hc
  exact ⟨(scanHeader_rotFrom cfg _ _ _ _ _ x).trans (congrArg _ (gh_apRF cfg w a x).symm), hp, hc⟩

theorem rfCur_acc (cfg : Cfg) (w : WS) (a : Ap) (hr : rotates cfg w a = true) : Acc cfg (apNext cfg w a) (rfCur cfg w a) := by
  obtain ⟨ho, hc, -, -⟩ := apNext_rot hr
  refine ⟨?_, ?_⟩
  · simp only [rfCur, Cur.bytes, List.append_nil, apRF, encRotFrom_length]; omega
  · simp only [rfCur, Cur.bytes, List.append_nil]; exact hc.symm

theorem splitC_append (cfg : Cfg) : ∀ (p1 p2 : List Ap) (w : WS) (c : Cur),
    (splitC cfg w (p1 ++ p2) c).1 = (splitC cfg w p1 c).1 ++ (splitC cfg (runAll cfg w p1) p2 (splitC cfg w p1 c).2).1 ∧
    (splitC cfg w (p1 ++ p2) c).2 = (splitC cfg (runAll cfg w p1) p2 (splitC cfg w p1 c).2).2
  | [], _, _, _ => by simp [splitC, runAll]
  | a :: as, p2, w, c => by
    cases hr : rotates cfg w a with
    | true =>
      have ih := splitC_append cfg as p2 (apNext cfg w a) (rfCur cfg w a)
      simp only [List.cons_append, splitC, hr, if_true, runAll, ih.1, ih.2, and_self]
    | false =>
      have ih := splitC_append cfg as p2 (apNext cfg w a) { c with body := c.body ++ apA cfg w a }
      simp only [List.cons_append, splitC, hr, Bool.false_eq_true, if_false, runAll, ih.1, ih.2, and_self]

theorem splitC_noRot (cfg : Cfg) : ∀ (as : List Ap) (w : WS) (c : Cur), NoRotR cfg w as →
    ∃ X, splitC cfg w as c = ([], { c with body := c.body ++ X })
  | [], _, c, _ => ⟨[], by rw [splitC, List.append_nil]⟩
  | a :: as, w, c, h => by
    obtain ⟨X, hX⟩ := splitC_noRot cfg as (apNext cfg w a) { c with body := c.body ++ apA cfg w a } h.2
    refine ⟨apA cfg w a ++ X, ?_⟩
    rw [splitC, if_neg (by rw [h.1]; exact Bool.false_ne_true), hX, List.append_assoc]

theorem layout_later (cfg : Cfg) (k1 : Bytes) : ∀ (as : List Ap) (w : WS),
    (layoutC cfg w as (k1, [])).2.map gh = (layoutC cfg w as (k1, [])).2.map hdrOf ∧
    ((runAll cfg w as).offG < 9223372036854775808 → ∀ h ∈ (layoutC cfg w as (k1, [])).2.map hdrOf, (w.offG : Int) < h.pos)
  | [], _ => ⟨rfl, fun _ _ hh => (nomatch hh)⟩
  | a :: as, w => by
    obtain ⟨i2, i4⟩ := layout_later cfg k1 as (apNext cfg w a)
    cases hr : rotates cfg w a with
    | true =>
      simp only [layoutC_rot hr, List.map_cons, List.forall_mem_cons, gh_apRF, i2, true_and]
      intro hb
      obtain ⟨p1, p2, p3⟩ := rot_pos hr as
      rw [(hdrOf_apRF cfg w a _ (Nat.lt_trans p3 hb)).1]
      exact ⟨Int.ofNat_lt.mpr p1, fun h hh => Int.lt_trans (Int.ofNat_lt.mpr (Nat.lt_trans p1 p2)) (i4 hb h hh)⟩
    | false =>
      simp only [layoutC_noRot hr]
      exact ⟨i2, fun hb h hh => Int.lt_of_le_of_lt (Int.ofNat_le.mpr (Nat.le_of_lt (apNext_offG_lt cfg w a))) (i4 hb h hh)⟩

/-- the head of the first file as `CreateEmptyFsBinlog` writes it: LevStart (schema id, 16 more bytes) and the 16-byte tag -/
def initBytes (cfg : Cfg) (sy ty : Bytes) : Bytes := (le32 magicStart ++ (le32 cfg.schema ++ sy)) ++ (le32 magicTag ++ ty)

def initCur (cfg : Cfg) (sy ty : Bytes) : Cur := { hd := initBytes cfg sy ty, body := [], pos := 0, crc := 0 }

theorem initCur_bytes (cfg : Cfg) (sy ty : Bytes) : (initCur cfg sy ty).bytes = initBytes cfg sy ty := List.append_nil _

theorem initCur_ok (cfg : Cfg) (sy ty : Bytes) (hs : cfg.schema < 4294967296) (hsy : sy.length = 16) : CurOK cfg (initCur cfg sy ty) := by
  intro x
  have hm : rd32 (initBytes cfg sy ty ++ x) = magicStart := by
    simp only [initBytes, List.append_assoc]; exact rd32_le32 _ (by decide) _
  have hsch : rd32 ((initBytes cfg sy ty ++ x).drop 4) = cfg.schema := rd32_le32 _ hs []
  have h4 : atLeast (initBytes cfg sy ty ++ x) 4 = true := by rw [atLeast_iff]; simp [initBytes]
  have h24 : atLeast (initBytes cfg sy ty ++ x) 24 = true := by rw [atLeast_iff]; simp [initBytes, hsy]; omega
  have hne : (initBytes cfg sy ty ++ x).isEmpty = false := by simp [initBytes, le32]
  have hg : gh (initBytes cfg sy ty ++ x) = hdrStart (initBytes cfg sy ty ++ x) := by simp [gh, hm]
  refine ⟨?_, ?_, ?_⟩
  · show scanHeader cfg (initBytes cfg sy ty ++ x) = .ok (gh (initBytes cfg sy ty ++ x))
    rw [hg]; simp [scanHeader, hne, h4, hm, h24, hsch, hdrStart]
  · show (gh (initBytes cfg sy ty ++ x)).pos = ((0 : Nat) : Int)
    rw [hg]; rfl
  · show (gh (initBytes cfg sy ty ++ x)).crc = 0
    rw [hg]; rfl

theorem apA_mod4 (cfg : Cfg) (w : WS) (a : Ap) : (apA cfg w a).length % 4 = 0 := by
  have := pad4_mod (8 + a.body.length)
  obtain ⟨-, -, ⟨hA, -⟩ | ⟨q, hA, -⟩⟩ := apMid_cases cfg w a
  · rw [hA, padded_length, encEvent_length]; exact this
  · rw [hA, List.length_append, padded_length, encEvent_length, encCrc_length]; omega

theorem runAll_buff_noRot (cfg : Cfg) : ∀ (as : List Ap) (w : WS), NoRotR cfg w as →
    (runAll cfg w as).buff = w.buff ++ (layoutC cfg w as ([], [])).1 ∧ (layoutC cfg w as ([], [])).1.length % 4 = 0
  | [], _, _ => ⟨(List.append_nil _).symm, rfl⟩
  | a :: as, w, h => by
    obtain ⟨ib, il⟩ := runAll_buff_noRot cfg as (apNext cfg w a) h.2
    simp only [layoutC_noRot h.1]
    refine ⟨by rw [runAll, ib, (apNext_noRot h.1).2.2.1, (apMid_cases cfg w a).2.1, List.append_assoc], ?_⟩
    have := apA_mod4 cfg w a
    rw [List.length_append]; omega

theorem read_noRot (cfg : Cfg) (hm : cfg.evMagic < 4294967296) (hsvc : cfg.evMagic ∉ serviceMagics) :
    ∀ (as : List Ap) (w : WS) (s : RS), NoRotR cfg w as → (∀ a ∈ as, a.body.length < 4294967296) →
      At s w.offG w.crc (layoutC cfg w as ([], [])).1 →
      ∃ n s', n ≤ 2 * as.length ∧ (∀ f, readLoop cfg (f + n) s = readLoop cfg f s') ∧
        At s' (runAll cfg w as).offG (runAll cfg w as).crc [] ∧ s'.eng.evs = (offsR cfg w as).reverse ++ s.eng.evs
  | [], _, s, _, _, h => ⟨0, s, Nat.le_refl _, fun _ => rfl, h, rfl⟩
  | a :: as, w, s, hnr, hsz, h => by
    have hb := hsz a (List.mem_cons_self ..)
    simp only [layoutC_noRot hnr.1] at h
    obtain ⟨k, s1, hk2, -, hloop, at1, ev1⟩ := read_A cfg hm hsvc w a hb s _ h
    rw [← (apNext_noRot hnr.1).1, ← (apNext_noRot hnr.1).2.1] at at1
    obtain ⟨n, s', hn, hl, hat, hev⟩ := read_noRot cfg hm hsvc as (apNext cfg w a) s1 hnr.2
      (fun a' h' => hsz a' (List.mem_cons_of_mem _ h')) at1
    refine ⟨n + k, s', by rw [List.length_cons]; omega, fun f => by rw [← Nat.add_assoc, hloop, hl], hat, ?_⟩
    rw [offsR_cons_reverse, hev, ev1]

/-- an `Ev` as an append with the hash inputs set to 0 -/
def Ev.ap (e : Ev) : Ap := ⟨e.body, e.asap, e.ts, 0, 0⟩

/-- the vocabulary of the single-file statement (`wnext`, `writeAll`, `offsets`, `NoRotate`) is the general one on `Ev.ap` -/
theorem ev_ap (cfg : Cfg) : ∀ (es : List Ev) (w : WS), writeAll cfg w es = runAll cfg w (es.map Ev.ap) ∧
    offsets cfg w es = offsR cfg w (es.map Ev.ap) ∧ (NoRotate cfg w es → NoRotR cfg w (es.map Ev.ap))
  | [], _ => ⟨rfl, rfl, id⟩
  | e :: es, w => by
    obtain ⟨i1, i2, i3⟩ := ev_ap cfg es (wnext cfg w e)
    exact ⟨i1, congrArg (List.cons _) i2, fun h => ⟨h.1, i3 h.2⟩⟩

end SH.C18
