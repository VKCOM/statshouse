/-
  SH.Lemmas.TablePage — the window of a table pass as a sorted list (property C25, "sorted in the requested direction,
  the requested row window and limit are respected"): queryTableRows.Less characterised (`less_lex`) and as core's order
  on `fullKey`, the requested order `keyBefore` on row keys and the final sort (`sortRows_spec`,
  `eq_of_sorted_of_mem_iff`); under the storage-order contract the window rows of a pass are visited in that order; with
  rows inside their LODs and times ≥ 0 they are all the stored rows inside the window.
-/
import SH.Lemmas.Table

namespace SH.C25
open SH.Table

/-- `less` calls `tagsLess` only on lists of equal length; there it is core's `<` (`none` on equal lists) -/
theorem tagsLess_eq : ∀ (l1 l2 : List Int), l1.length = l2.length →
    tagsLess l1 l2 = if l1 = l2 then none else some (decide (l1 < l2)) := by
  intro l1
  induction l1 with
  | nil =>
    intro l2 hl
    cases l2 with
    | nil => rfl
    | cons => simp at hl
  | cons x l1 ih =>
    intro l2 hl
    cases l2 with
    | nil => simp at hl
    | cons y l2 =>
      rw [tagsLess, ih l2 (by simpa using hl)]
      by_cases e : x = y <;> simp [e, List.cons_lt_cons_iff]

/-- `less` — the model of queryTableRows.Less, which `rows_sorted` (SH.Props.C25) is stated over — is exactly the
    lexicographic order on (time, number of tags, tag values, skey), with times and tag values compared as unbounded
    integers: there is no pair of tag values, however far apart, on which it answers by anything but `<` on ℤ. The real
    comparator must therefore agree with `<` on every pair of int64 values; the harness checks this directly on boundary
    pairs (ops `cmp`, `mlt`; oracle `less-order`, `lessthan-order`). -/
theorem less_lex (a b : RowRepr) : less a b = true ↔
    a.time < b.time ∨ (a.time = b.time ∧ (a.tags.length < b.tags.length ∨ (a.tags.length = b.tags.length ∧
      (a.tags < b.tags ∨ (a.tags = b.tags ∧ a.skey < b.skey))))) := by
  unfold less
  by_cases ht : a.time = b.time
  · by_cases hl : a.tags.length = b.tags.length
    · rw [tagsLess_eq _ _ hl]
      by_cases e : a.tags = b.tags <;> simp [ht, hl, e, List.lt_irrefl]
    · simp [ht, hl]
  · simp [ht]

/-- the four fields `less` compares, in its order, each as a list -/
def fullKey (a : RowRepr) : List (List Int) := [[a.time], [(a.tags.length : Int)], a.tags, [(a.skey : Int)]]

theorem less_full (a b : RowRepr) : less a b = true ↔ fullKey a < fullKey b := by
  simp [less_lex, fullKey, List.cons_lt_cons_iff, Int.natCast_inj]

theorem fullKey_inj (a b : RowRepr) (h : fullKey a = fullKey b) : a = b := by
  cases a
  cases b
  simp only [fullKey, List.cons.injEq, Int.natCast_inj, and_true] at h
  simp [h.1, h.2.2.1, h.2.2.2]

theorem less_asymm (a b : RowRepr) (h : less a b = true) : ¬ less b a = true := by
  rw [less_full] at h ⊢
  exact List.lt_asymm h

theorem less_negtrans (a b c : RowRepr) (h : less a c = true) : less a b = true ∨ less b c = true := by
  rw [less_full] at h ⊢
  rw [less_full]
  by_cases hab : fullKey a < fullKey b
  · exact Or.inl hab
  · exact Or.inr (List.lt_of_le_of_lt (List.not_lt.1 hab) h)

/-- the requested order on row keys: queryTableRows.Less on the row markers (`reprOf`: time, grouped tags, skey), reversed
    for fromEnd. Asymmetric and negatively transitive; keys with the same marker are not ordered either way. -/
def keyBefore (q : Req) (a b : Key) : Prop :=
  (if q.win.fromEnd then less (reprOf q b) (reprOf q a) else less (reprOf q a) (reprOf q b)) = true

def rowBefore (q : Req) (a b : Row) : Prop := keyBefore q a.key b.key

instance (q : Req) (a b : Key) : Decidable (keyBefore q a b) := by unfold keyBefore; exact inferInstance
instance (q : Req) (a b : Row) : Decidable (rowBefore q a b) := by unfold rowBefore; exact inferInstance

theorem keyBefore_asymm (q : Req) (a b : Key) (h : keyBefore q a b) : ¬ keyBefore q b a := by
  unfold keyBefore at *
  by_cases hf : q.win.fromEnd = true
  · simp only [hf, if_true] at h ⊢
    exact less_asymm _ _ h
  · simp only [hf] at h ⊢
    exact less_asymm _ _ h

theorem keyBefore_negtrans (q : Req) (a b c : Key) (h : keyBefore q a c) : keyBefore q a b ∨ keyBefore q b c := by
  unfold keyBefore at *
  by_cases hf : q.win.fromEnd = true
  · simp only [hf, if_true] at h ⊢
    exact (less_negtrans _ (reprOf q b) _ h).symm
  · simp only [hf] at h ⊢
    exact less_negtrans _ (reprOf q b) _ h

theorem sortRows_eq_foldr (q : Req) (l : List ORow) : sortRows q l = l.foldr (insertRow q) [] := by
  induction l with
  | nil => rfl
  | cons x xs ih => rw [sortRows, ih, List.foldr_cons]

theorem sortRows_spec (q : Req) (l : List ORow) :
    (sortRows q l).Perm l ∧ (sortRows q l).Pairwise (fun a b => ¬ keyBefore q b.key a.key) := by
  rw [sortRows_eq_foldr]
  refine Lists.foldr_ins_spec (fun x y => before q x y = true) (insertRow q) (fun _ => rfl) (fun _ _ _ => rfl) _ (fun _ => True)
    ?_ ?_ ?_ l (fun _ _ => trivial)
  · -- "not after" is transitive because the strict order is negatively transitive
    intro a b c _ _ _ hab hbc hca
    exact (keyBefore_negtrans q c.key b.key a.key hca).elim hbc hab
  · intro x y _ _ hb
    simp only [before, Bool.or_eq_true, Bool.and_eq_true, Bool.not_eq_true'] at hb
    rcases hb with hb | hb
    · -- `lessDir q x y = true` is `keyBefore q x.key y.key` by definition
      exact keyBefore_asymm q x.key y.key hb
    · exact fun g => Bool.false_ne_true (hb.1.symm.trans g)
  · intro x y _ _ hb g
    exact hb (by simp [before, show lessDir q x y = true from g])

theorem eq_of_sorted_of_mem_iff {α} (R : α → α → Prop) (asymm : ∀ a b, R a b → ¬ R b a) (l P : List α)
    (hl : l.Pairwise (fun a b => ¬ R b a)) (hnd : l.Nodup) (hP : P.Pairwise R) (hmem : ∀ k, k ∈ l ↔ k ∈ P) : l = P := by
  have hPnd : P.Nodup := hP.imp (fun {a b} hab (e : a = b) => asymm a b hab (e ▸ hab))
  have htot : ∀ a ∈ P, ∀ b ∈ P, a = b ∨ R a b ∨ R b a :=
    List.Pairwise.forall_of_forall_of_flip (fun _ _ => Or.inl rfl) (hP.imp (fun h => Or.inr (Or.inl h)))
      (hP.imp (fun h => Or.inr (Or.inr h)))
  refine ((List.perm_ext_iff_of_nodup hnd hPnd).2 hmem).eq_of_pairwise (le := fun a b => ¬ R b a) ?_ hl
    (hP.imp (asymm _ _))
  intro a b ha hb h1 h2
  rcases htot a ((hmem a).1 ha) b hb with e | g | g
  · exact e
  · exact absurd g h2
  · exact absurd g h1

/-- the storage-order contract in visiting-order form: the rows of the storage answers of one handler-what, taken in
    visiting order (LODs, time groups and rows as getTableFromLODs/limitQueries walk them), come in the requested order
    (strictly: `rowBefore`). This is what a time-sliced storage returns when every answer is sorted by (time, group-by
    keys) in the requested direction — the ORDER BY text the query builder generates — and the LODs are passed in
    ascending time order. -/
def VisitSorted (q : Req) (answers : List (Lod × Option (List (List Row)))) : Prop :=
  ((dir q.win.fromEnd answers).flatMap (fun a => (dir q.win.fromEnd (a.2.getD [])).flatten)).Pairwise (rowBefore q)

/-- rows lie inside the time range of the LOD whose answer returned them -/
def InLod (answers : List (Lod × Option (List (List Row)))) : Prop :=
  ∀ a ∈ answers, ∀ g ∈ a.2.getD [], ∀ r ∈ g, a.1.frm ≤ r.key.time ∧ r.key.time ≤ a.1.to

theorem window_sorted (q : Req) (answers : Answers) (h : VisitSorted q answers) :
    (candRows q (dir q.win.fromEnd answers)).Pairwise (rowBefore q) :=
  List.Pairwise.sublist (candRows_sublist q _) h

theorem not_skipped_of_window_row (q : Req) (l : Lod) (r : Row) (hin : inRange q.win r = true) (h0 : 0 ≤ r.key.time)
    (hl : l.frm ≤ r.key.time ∧ r.key.time ≤ l.to) : lodSkipped q l = false := by
  obtain ⟨h1, h2⟩ := inRange_times q r hin
  simp only [lodSkipped, aboveTo, Bool.or_eq_false_iff, Bool.and_eq_false_iff, bne_eq_false_iff_eq,
    decide_eq_false_iff_not]
  exact ⟨h2.imp id (fun h => by omega), by omega⟩

theorem candRows_sub_stored (q : Req) (answers : Answers) (r : Row)
    (h : r ∈ candRows q (dir q.win.fromEnd answers)) : r ∈ storedRows answers ∧ inRange q.win r = true := by
  obtain ⟨a, ha, _, hr⟩ := (mem_candRows _ _ _).1 h
  obtain ⟨⟨g, hg, hrg⟩, hin⟩ := (mem_windowRows _ _ _).1 hr
  exact ⟨(mem_storedRows _ _).2 ⟨a, (mem_dir _ _ _).1 ha, g, hg, hrg⟩, hin⟩

theorem window_complete (q : Req) (answers : Answers) (hl : InLod answers)
    (h0 : ∀ r ∈ storedRows answers, 0 ≤ r.key.time) (r : Row) :
    r ∈ candRows q (dir q.win.fromEnd answers) ↔ r ∈ storedRows answers ∧ inRange q.win r = true := by
  refine ⟨candRows_sub_stored q answers r, ?_⟩
  rintro ⟨hst, hin⟩
  obtain ⟨a, ha, g, hg, hrg⟩ := (mem_storedRows _ _).1 hst
  exact (mem_candRows _ _ _).2 ⟨a, (mem_dir _ _ _).2 ha, not_skipped_of_window_row q a.1 r hin (h0 r hst) (hl a ha g hg r hrg),
    (mem_windowRows _ _ _).2 ⟨⟨g, hg, hrg⟩, hin⟩⟩

/-- what a time-sliced storage returns for the generated query text: LODs in ascending time order with every row of an
    earlier LOD earlier than every row of a later one, time groups in ascending time, and the rows of one time group in
    the requested order (ORDER BY … every key ASC, resp. every key DESC) -/
def StorageContract (q : Req) (answers : List (Lod × Option (List (List Row)))) : Prop :=
  answers.Pairwise (fun a b => ∀ g ∈ a.2.getD [], ∀ r ∈ g, ∀ h ∈ b.2.getD [], ∀ s ∈ h, r.key.time < s.key.time) ∧
  (∀ a ∈ answers, (a.2.getD []).Pairwise (fun g h => ∀ r ∈ g, ∀ s ∈ h, r.key.time < s.key.time)) ∧
  (∀ a ∈ answers, ∀ g ∈ a.2.getD [], g.Pairwise (rowBefore q))

theorem rowBefore_of_time (q : Req) (r s : Row) (h : r.key.time < s.key.time) :
    if q.win.fromEnd then rowBefore q s r else rowBefore q r s := by
  have hl : less (reprOf q r.key) (reprOf q s.key) = true := (less_lex _ _).2 (Or.inl h)
  by_cases hf : q.win.fromEnd = true
  · simp only [hf, if_true, rowBefore, keyBefore]
    exact hl
  · simp only [hf, rowBefore, keyBefore]
    simpa using hl

end SH.C25
