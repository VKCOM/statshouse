/-
  SH.Lemmas.WireFuel — the TL readers that the walks of WireAlloc rest on (`tlNat`, `tlLong`, `tlString`, `tlPair`) and
  every MessagePack reader of the model obey `Reads` (consume input, never report the model's own `fuel`; `tlBatch_reads`
  is in WireAlloc); the MessagePack decoder with the length check asks `make` for no more elements than input bytes.
-/
import SH.Lemmas.Wire
namespace SH.Wire

theorem tlNat_reads (b : Bytes) : Reads 4 b (tlNat b) := Reads.fixedWidth 4 b rdLE

theorem tlLong_reads (b : Bytes) : Reads 8 b (tlLong b) := Reads.fixedWidth 8 b rdLE

theorem tlStrTail_reads (r : Bytes) (l p : Nat) : Reads 0 r (tlStrTail r l p) := by
  unfold tlStrTail
  exact .ite (.error nofun) <| .ite (.error nofun) <| .ite (.ok (by rw [List.length_drop]; omega)) (.error nofun)

theorem tlString_reads : ∀ b, Reads 1 b (tlString b)
  | [] => .error nofun
  | b0 :: r => by
    have tail : ∀ n l p, Reads 1 (b0 :: r) (tlStrTail (r.drop n) l p) := fun n l p =>
      (tlStrTail_reads _ l p).mono (by rw [List.length_drop, List.length_cons]; omega)
    simp only [tlString]
    refine .ite (tail 0 _ _) ?_
    refine .ite (.ite (.error nofun) <| .ite (.error nofun) (tail 3 _ _)) ?_
    exact .ite (.error nofun) <| .ite (.error nofun) (tail 7 _ _)

theorem tlPair_reads (b : Bytes) : Reads 16 b (tlPair b) := by
  unfold tlPair
  refine (tlLong_reads b).elim (fun _ he => .error he) fun x r h1 => ?_
  dsimp only
  exact (tlLong_reads r).elim (fun _ he => .error he) fun y r' h2 => .ok (Nat.le_trans (Nat.add_le_add_right h2 8) h1)

theorem mpBadPrefix_ne_fuel (l : Nat) : mpBadPrefix l ≠ .fuel := by
  unfold mpBadPrefix
  split <;> nofun

theorem length_drop_succ_le_cons (lead : Nat) (r : Bytes) (n : Nat) : (r.drop n).length + 1 ≤ (lead :: r).length := by
  rw [List.length_drop, List.length_cons]
  omega

theorem mpMapHdr_reads : ∀ b, Reads 1 b (mpMapHdr b)
  | [] => .error nofun
  | lead :: r => by
    have dr := length_drop_succ_le_cons lead r
    simp only [mpMapHdr]
    refine .ite (.ok (Nat.le_refl _)) ?_
    refine .ite (.ite (.error nofun) (.ok (dr 2))) ?_
    exact .ite (.ite (.error nofun) (.ok (dr 4))) (.error (mpBadPrefix_ne_fuel _))

theorem mpArrHdr_reads : ∀ b, Reads 1 b (mpArrHdr b)
  | [] => .error nofun
  | lead :: r => by
    have dr := length_drop_succ_le_cons lead r
    simp only [mpArrHdr]
    refine .ite (.ok (Nat.le_refl _)) ?_
    refine .ite (.ite (.error nofun) (.ok (dr 2))) ?_
    exact .ite (.ite (.error nofun) (.ok (dr 4))) (.error (mpBadPrefix_ne_fuel _))

theorem mpLenPayload_reads (h : Nat) (r : Bytes) : Reads 0 r (mpLenPayload h r) := by
  unfold mpLenPayload
  exact .ite (.error nofun) <| .ite (.error nofun) (.ok (by rw [List.length_drop, List.length_drop]; omega))

theorem mpStr_reads : ∀ b, Reads 1 b (mpStr b)
  | [] => .error nofun
  | lead :: r => by
    have pl := fun h => (mpLenPayload_reads h r).cons lead
    simp only [mpStr]
    refine .ite (.ite (.error nofun) (.ok (length_drop_succ_le_cons lead r _))) ?_
    exact .ite (pl 1) <| .ite (pl 2) <| .ite (pl 4) (.error nofun)

theorem mpBin_reads : ∀ b, Reads 1 b (mpBin b)
  | [] => .error nofun
  | lead :: r => by
    have pl := fun h => (mpLenPayload_reads h r).cons lead
    simp only [mpBin]
    exact .ite (pl 1) <| .ite (pl 2) <| .ite (pl 4) (.error (mpBadPrefix_ne_fuel _))

theorem mpKey_reads (b : Bytes) : Reads 1 b (mpKey b) := by
  have h := mpStr_reads b
  unfold mpKey
  split
  · rename_i hx
    rwa [hx] at h
  · exact .ite (mpBin_reads b) (.error nofun)
  · rename_i he
    rwa [he] at h

theorem mpF64_reads : ∀ b, Reads 1 b (mpF64 b)
  | [] => .error nofun
  | lead :: r => by
    have dr := length_drop_succ_le_cons lead r
    simp only [mpF64]
    refine .ite (.ite (.ok (dr 4)) (.error nofun)) ?_
    exact .ite (.ite (.ok (dr 4)) (.error (mpBadPrefix_ne_fuel _))) (.ok (dr 8))

theorem mpFixed_cons_reads (lead : Nat) (r : Bytes) (n : Nat) {g : Nat → Except Err Nat} (hg : ∀ x, g x ≠ .error .fuel) :
    Reads 1 (lead :: r) (mpFixed n r g) := by
  unfold mpFixed
  split
  · exact .error nofun
  · have hx := hg (rdBE (r.take n))
    generalize g (rdBE (r.take n)) = x at hx
    obtain e | v := x
    · exact .error fun h => hx (congrArg _ h)
    · exact .ok (length_drop_succ_le_cons lead r n)

theorem nonNeg_ne_fuel (n x : Nat) : nonNeg n x ≠ .error .fuel := by
  unfold nonNeg
  split <;> nofun

theorem mpU64_reads : ∀ b, Reads 1 b (mpU64 b)
  | [] => .error nofun
  | lead :: r => by
    have fx := mpFixed_cons_reads lead r
    simp only [mpU64]
    refine .ite (.ok (Nat.le_refl _)) ?_
    refine .ite (fx 1 (nonNeg_ne_fuel 1)) <| .ite (fx 1 fun _ => nofun) ?_
    refine .ite (fx 2 (nonNeg_ne_fuel 2)) <| .ite (fx 2 fun _ => nofun) ?_
    refine .ite (fx 4 (nonNeg_ne_fuel 4)) <| .ite (fx 4 fun _ => nofun) ?_
    refine .ite (fx 8 (nonNeg_ne_fuel 8)) <| .ite (fx 8 fun _ => nofun) ?_
    exact .ite (.error nofun) (.error (mpBadPrefix_ne_fuel _))

theorem mpU32_reads (b : Bytes) : Reads 1 b (mpU32 b) := by
  unfold mpU32
  exact (mpU64_reads b).elim (fun _ he => .error he) fun v r h => .ite (.error nofun) (.ok h)

theorem mpI64_reads : ∀ b, Reads 1 b (mpI64 b)
  | [] => .error nofun
  | lead :: r => by
    have fx := mpFixed_cons_reads lead r
    simp only [mpI64]
    refine .ite (.ok (Nat.le_refl _)) <| .ite (.ok (Nat.le_refl _)) ?_
    refine .ite (fx 1 fun _ => nofun) <| .ite (fx 1 fun _ => nofun) ?_
    refine .ite (fx 2 fun _ => nofun) <| .ite (fx 2 fun _ => nofun) ?_
    refine .ite (fx 4 fun _ => nofun) <| .ite (fx 4 fun _ => nofun) ?_
    refine .ite (fx 8 fun _ => nofun) <| .ite (fx 8 fun x => ?_) (.error (mpBadPrefix_ne_fuel _))
    split <;> nofun

theorem mpTag_reads (b : Bytes) : Reads 0 b (mpTag b) := by
  unfold mpTag
  refine (mpStr_reads b).zero.elim (fun _ he => .error he) fun k r h1 => ?_
  dsimp only
  exact (mpStr_reads r).zero.elim (fun _ he => .error he) fun v r' h2 => .ok (Nat.le_trans h2 h1)

theorem mpBucket_reads (b : Bytes) : Reads 0 b (mpBucket b) := by
  unfold mpBucket
  refine (mpArrHdr_reads b).zero.elim (fun _ he => .error he) fun n r h0 => .ite (.error nofun) ?_
  refine (mpF64_reads r).zero.elim (fun _ he => .error he) fun x r1 h1 => ?_
  dsimp only
  exact (mpF64_reads r1).zero.elim (fun _ he => .error he) fun y r2 h2 => .ok (Nat.le_trans h2 (Nat.le_trans h1 h0))

def MpSpec.pos : MpSpec → Bool
  | .fixed s _ => decide (1 ≤ s)
  | .ext s _ => decide (1 ≤ s)
  | .cont s _ _ => decide (1 ≤ s)
  | .invalid => true

/-- a finite table, evaluated: hence the bound (`mpGetSize` looks up `lead % 256`) -/
theorem mpSpec_pos : ∀ l, l < 256 → (mpSpec l).pos = true := by decide +kernel

theorem mpGetSize_spec (b : Bytes) : match mpGetSize b with | .ok (sz, _) => 1 ≤ sz | .error e => e ≠ .fuel := by
  cases b with
  | nil => exact nofun
  | cons lead r =>
    have hp := mpSpec_pos (lead % 256) (Nat.mod_lt _ (by decide))
    simp only [mpGetSize]
    generalize mpSpec (lead % 256) = sp at hp
    obtain ⟨s, n⟩ | ⟨s, k⟩ | ⟨s, k, m⟩ | _ := sp
    · exact of_decide_eq_true hp
    · have hs : 1 ≤ s := of_decide_eq_true hp
      dsimp only
      by_cases h : (lead :: r).length < s
      · rw [if_pos h]
        exact nofun
      · rw [if_neg h]
        exact Nat.le_trans hs (Nat.le_add_right _ _)
    · dsimp only
      by_cases h : (lead :: r).length < s
      · rw [if_pos h]
        exact nofun
      · rw [if_neg h]
        exact of_decide_eq_true hp
    · exact nofun

/-- with more fuel than bytes msgp.Skip never runs out of fuel: every object takes at least one byte -/
theorem mpSkipN_skips : ∀ (f c : Nat) (b : Bytes) (d : Nat), Skips 0 b (b.length < f) (mpSkipN f c b d)
  | _, 0, b, _ => by
    rw [mpSkipN]
    exact .ok (Nat.le_refl _)
  | 0, c + 1, b, _ => by
    rw [mpSkipN]
    exact .error fun h => absurd h (Nat.not_lt_zero _)
  | f + 1, c + 1, b, d => by
    rw [mpSkipN]
    refine .ite (.error fun _ => nofun) ?_
    have hs := mpGetSize_spec b
    generalize mpGetSize b = x at hs ⊢
    obtain e | ⟨sz, asz⟩ := x
    · exact .error fun _ => hs
    · have : 1 ≤ sz := hs
      dsimp only
      split
      · exact .error fun _ => nofun
      · have hd : (b.drop sz).length = b.length - sz := List.length_drop
        refine (mpSkipN_skips f asz (b.drop sz) (d + 1)).elim (fun _ he => .error fun hf => he (by omega)) fun b' h1 => ?_
        exact (mpSkipN_skips f c b' d).mono (by omega) (by omega)

theorem mpSkip_skips (b : Bytes) : Skips 0 b True (mpSkip b) :=
  (mpSkipN_skips (b.length + 1) 1 b 0).mono (Nat.le_refl _) fun _ => Nat.lt_succ_self _

/-- the fix: a collection header is accepted only if it promises no more elements than bytes are left -/
theorem mpColl_le (v : Variant) (isMap : Bool) (b : Bytes) (n : Nat) (r : Bytes) (h : mpColl v isMap b = .ok (n, r))
    (hv : v.boundAlloc = true) : n ≤ r.length := by
  unfold mpColl at h
  split at h
  · cases h
  · split at h
    · rename_i hc
      cases h
      simpa [mpCheckLen, hv] using hc
    · cases h

theorem mpColl_reads (v : Variant) (isMap : Bool) (b : Bytes) : Reads 1 b (mpColl v isMap b) := by
  unfold mpColl
  have h1 : Reads 1 b (if isMap then mpMapHdr b else mpArrHdr b) := .ite (mpMapHdr_reads b) (mpArrHdr_reads b)
  exact h1.elim (fun _ he => .error he) fun n r hr => .ite (.ok hr) (.error nofun)

theorem mpCollField_good {α : Type} (v : Variant) (isMap : Bool) {item : Bytes → R α} (hi : ∀ b, Reads 0 b (item b))
    (b : Bytes) (upd : List α → Metric) : (mpCollField v isMap item b upd).Good (v.boundAlloc = true) b := by
  unfold mpCollField
  have h1 := mpColl_reads v isMap b
  have h2 := mpColl_le v isMap b
  generalize mpColl v isMap b = x at h1 h2 ⊢
  obtain e | ⟨n, r⟩ := x
  · exact .pure h1.zero
  · have hr := h1.le
    exact ⟨fun hv => Nat.le_trans (h2 n r rfl hv) (Nat.le_of_succ_le hr),
      ((readN_reads hi n r).mapR upd).mono (Nat.le_of_succ_le hr)⟩

theorem mpField_good (v : Variant) (m : Metric) (key b : Bytes) : (mpField v m key b).Good (v.boundAlloc = true) b := by
  unfold mpField
  refine .ite (.pure ((mpStr_reads b).zero.mapR _)) ?_
  refine .ite (mpCollField_good v _ mpTag_reads _ _) ?_
  refine .ite (.pure ((mpF64_reads b).zero.mapR _)) ?_
  refine .ite (.pure ((mpU32_reads b).zero.mapR _)) ?_
  refine .ite (mpCollField_good v _ (fun b => (mpF64_reads b).zero) _ _) ?_
  refine .ite (mpCollField_good v _ (fun b => (mpI64_reads b).zero) _ _) ?_
  refine .ite (mpCollField_good v _ mpBucket_reads _ _) ?_
  exact .pure ((mpSkip_skips b).reads m)

theorem mpFields_good (v : Variant) : ∀ (n : Nat) (m : Metric) (b : Bytes), (mpFields v n m b).Good (v.boundAlloc = true) b
  | 0, m, b => .done
  | n + 1, m, b => by
    simp only [mpFields]
    refine (mpKey_reads b).zero.elim (fun _ he => .pure (.error he)) fun k r hr => ?_
    dsimp only
    have hf := mpField_good v m k r
    generalize mpField v m k r = x at hf ⊢
    obtain ⟨a, e | ⟨m', r'⟩⟩ := x
    · exact hf.mono hr
    · exact (mpFields_good v n m' r').step (Nat.le_trans hf.2.le hr) fun hv => Nat.le_trans (hf.1 hv) hr

theorem mpMetric_good (v : Variant) (b : Bytes) : (mpMetric v b).Good (v.boundAlloc = true) b := by
  unfold mpMetric
  exact (mpMapHdr_reads b).zero.elim (fun _ he => .pure (.error he)) fun n r hr => (mpFields_good v n {} r).mono hr

theorem mpMetrics_good (v : Variant) : ∀ (n : Nat) (b : Bytes), (mpMetrics v n b).Good (v.boundAlloc = true) b
  | 0, b => .done
  | n + 1, b => by
    simp only [mpMetrics]
    have hm := mpMetric_good v b
    generalize mpMetric v b = x at hm ⊢
    obtain ⟨a, e | ⟨m, r⟩⟩ := x
    · exact hm
    · have ht := mpMetrics_good v n r
      exact ⟨fun hv => Nat.max_le.2 ⟨hm.1 hv, Nat.le_trans (ht.1 hv) hm.2.le⟩, (ht.2.mapR _).mono hm.2.le⟩

theorem mpBatchFields_good (v : Variant) : ∀ (n : Nat) (ms : List Metric) (b : Bytes), (mpBatchFields v n ms b).Good (v.boundAlloc = true) b
  | 0, ms, b => .done
  | n + 1, ms, b => by
    simp only [mpBatchFields]
    refine (mpKey_reads b).zero.elim (fun _ he => .pure (.error he)) fun k r hr => ?_
    dsimp only
    split
    · -- two facts about one result (`mpColl_reads`, `mpColl_le`), hence `generalize` and not `elim`
      have h1 := mpColl_reads v false r
      have h2 := mpColl_le v false r
      generalize mpColl v false r = x at h1 h2 ⊢
      obtain e | ⟨cnt, r1⟩ := x
      · exact .pure (.error h1)
      · have hr1 : r1.length ≤ b.length := Nat.le_trans (Nat.le_of_succ_le h1) hr
        have hc := fun hv => Nat.le_trans (h2 cnt r1 rfl hv) hr1
        dsimp only
        have hm := mpMetrics_good v cnt r1
        generalize mpMetrics v cnt r1 = x at hm ⊢
        obtain ⟨a, e | ⟨ms', r2⟩⟩ := x
        · exact ⟨fun hv => Nat.max_le.2 ⟨hc hv, Nat.le_trans (hm.1 hv) hr1⟩, hm.2⟩
        · exact (mpBatchFields_good v n ms' r2).step (Nat.le_trans hm.2.le hr1) fun hv =>
            Nat.max_le.2 ⟨hc hv, Nat.le_trans (hm.1 hv) hr1⟩
    · refine (mpSkip_skips r).elim (fun _ he => .pure (.error (he trivial))) fun r1 h1 => ?_
      exact (mpBatchFields_good v n ms r1).mono (Nat.le_trans h1 hr)

theorem mpBatch_good (v : Variant) (b : Bytes) : (mpBatch v b).Good (v.boundAlloc = true) b 1 := by
  unfold mpBatch
  exact (mpMapHdr_reads b).elim (fun _ he => .pure (.error he)) fun n r hr => (mpBatchFields_good v n [] r).mono hr

end SH.Wire
