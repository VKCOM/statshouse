/-
  SH.Lemmas.PromLexStr — the string-literal lexer on `%q` bodies: lexString scans what strconv.Quote writes up to exactly its
  closing quote. Used by the whole-lexer step lemmas.
-/
import SH.Model.PromLex
namespace SH.PromLex.Str
open SH.PromLex

theorem renderQ_cons (i : QItem) (is : List QItem) : renderQ (i :: is) = i.render ++ renderQ is := by
  simp [renderQ]

theorem digitsVal2 (d1 d2 : Nat) (h1 : isHex d1 = true) (h2 : isHex d2 = true) : ∃ x, digitsVal 16 [d1, d2] = some x := by
  simp only [isHex, decide_eq_true_eq] at h1 h2
  simp [digitsVal, h1, h2]

theorem lexString_renderQ (items : List QItem) (hok : ∀ i ∈ items, i.ok = true) (rest : List Nat) :
    lexString cDq (renderQ items ++ cDq :: rest) = some (renderQ items, rest) := by
  induction items with
  | nil =>
    simp only [renderQ, List.flatMap_nil, List.nil_append]
    unfold lexString
    simp [cDq, cBackslash, cNl]
  | cons i is ih =>
    have ih' := ih (fun j hj => hok j (by simp [hj]))
    have hi := hok i (by simp)
    rw [renderQ_cons]
    cases i with
    | plain c =>
      simp only [QItem.ok, Bool.and_eq_true, bne_iff_ne, ne_eq] at hi
      simp only [QItem.render, List.cons_append, List.nil_append]
      unfold lexString
      simp [hi.1.1, hi.1.2, hi.2, ih']
    | short c =>
      simp only [QItem.ok] at hi
      simp only [QItem.render, List.cons_append, List.nil_append]
      unfold lexString
      simp [hi, ih']
    | hex2 d1 d2 =>
      simp only [QItem.ok, Bool.and_eq_true] at hi
      obtain ⟨x, hx⟩ := digitsVal2 d1 d2 hi.1 hi.2
      have hs : isShortEsc cDq 120 = false := by decide
      simp only [QItem.render, List.cons_append, List.nil_append]
      unfold lexString
      simp [hs, hx, ih']
    | u4 d1 d2 d3 d4 =>
      simp only [QItem.ok] at hi
      have hs : isShortEsc cDq 117 = false := by decide
      cases hx : digitsVal 16 [d1, d2, d3, d4] with
      | none => simp [hx] at hi
      | some x =>
        simp only [hx] at hi
        simp only [QItem.render, List.cons_append, List.nil_append]
        unfold lexString
        simp [hs, hx, hi, ih']
    | u8 d1 d2 d3 d4 d5 d6 d7 d8 =>
      simp only [QItem.ok] at hi
      have hs : isShortEsc cDq 85 = false := by decide
      cases hx : digitsVal 16 [d1, d2, d3, d4, d5, d6, d7, d8] with
      | none => simp [hx] at hi
      | some x =>
        simp only [hx] at hi
        simp only [QItem.render, List.cons_append, List.nil_append]
        unfold lexString
        simp [hs, hx, hi, ih']


theorem lexStringTok_quoted (items : List QItem) (hok : ∀ i ∈ items, i.ok = true) (rest : List Nat) :
    lexStringTok (cDq :: (renderQ items ++ cDq :: rest)) = some (cDq :: renderQ items ++ [cDq], rest) := by
  simp [lexStringTok, lexString_renderQ items hok rest]

end SH.PromLex.Str
