/-
  SH.Lemmas.C21Closed — C21: the closed theorem about the cache: the ghost run (`Legal`, `runImg`), the invariant `GInv`,
  `closed_run`, `closed_run_truncations`.

  A ghost-augmented run (state, image of the last file this cache saved) and the invariant `GInv`:
  exact accounting, every cached (string, value) was added, entries are well formed, the image is a well-formed encoding
  of entries that were added, and the file on disk is no longer than the image.
  `closed_run`: the invariant holds after ANY legal op sequence, where legality asks only what the Go types give
  (uint32 times, int32 values, strings that fit into a chunk), that Save enumerates the map, and that every restart reads
  bytes that are not longer than the file on disk and do not `PassesFrom` (C21Base) the last saved image.
  `closed_run_truncations`: for restarts from cut files the last condition is a theorem, so no hypothesis about the hash is left.
-/
import SH.Lemmas.C21Writer

namespace SH.C21
open SH.Chunked hiding St
open SH.MapCache

/-- `AllGood Q` is `AllEnt (fun p => Q p.1 p.2.val)`; this form also sees the access time -/
def AllEnt (R : Bytes × Entry → Prop) (s : St) : Prop := ∀ p ∈ s.cache, R p

/-- a well-formed entry that fits into half a chunk (chunked_storage2.go: "each individual item must be < chunkSize/2") -/
structure WFE (it : Bytes × Entry) : Prop where
  wf : WFItem it
  small : (encItem it).length ≤ halfChunk

/-- what the Go types and the length bound of `OpLegal` give: the bound leaves room for 11 bytes of `tlString` overhead and 8
    of value and access time below half a chunk -/
theorem wfe_of_bounds (k : Bytes) (v : Int) (ts : Nat) (hk : k.length ≤ 500000) (h1 : -2147483648 ≤ v)
    (h2 : v < 2147483648) (h3 : ts < 4294967296) : WFE (k, { val := v, ts := ts }) := by
  refine ⟨⟨by simp; omega, h1, h2, h3⟩, ?_⟩
  rw [encItem_length, halfChunk_val]
  have := tlString_length_le k
  simp only at this ⊢
  omega

theorem wfe_set_ts {k : Bytes} {e : Entry} (h : WFE (k, e)) (ts : Nat) (h3 : ts < 4294967296) :
    WFE (k, { e with ts := ts }) := by
  refine ⟨⟨h.wf.klen, h.wf.vlo, h.wf.vhi, h3⟩, ?_⟩
  have := h.small
  rw [encItem_length] at this ⊢
  exact this

/-- the invariant: `img` is the last file image this cache wrote with Save (empty before the first Save) -/
structure GInv (H : Bytes → Bytes) (A : List Pair) (s : St) (img : Bytes) : Prop where
  exact : Exact s
  good : AllGood (GoodVal A) s
  wf : AllEnt WFE s
  image : ∃ gs : List Cache, SavedAs H img gs ∧ ∀ g ∈ gs, ∀ it ∈ g, GoodVal A it.1 it.2.val ∧ WFE it
  len : s.store.file.length ≤ img.length

/-- legality of one operation in a ghost state: the ranges of the Go types, strings of at most 500000 bytes (so that every
    item fits into half a chunk, as the model of Save assumes), that Save enumerates the map, and that a restart reads bytes no
    longer than the file on disk which do not pass the hash check while differing from the saved image -/
def OpLegal (H : Bytes → Bytes) (s : St) (img : Bytes) : Op → Prop
  | .add now pairs _ =>
    now < 4294967296 ∧ ∀ p ∈ pairs, p.1.length ≤ 500000 ∧ -2147483648 ≤ p.2 ∧ p.2 < 2147483648
  | .get ts _ => ts < 4294967296
  | .save order => order.Perm s.cache
  | .reload dmg _ =>
    (dmg s.store.file).length ≤ s.store.file.length ∧
    ¬ PassesFrom H magicMappings zeroHash (readAll H magicMappings zeroHash img).1 (dmg s.store.file)
  | _ => True

def newImg (H : Bytes → Bytes) (s : St) (img : Bytes) : Op → Bytes
  | .save order => if dirty s then (save H s order).1.store.file else img
  | _ => img

def Legal (H : Bytes → Bytes) : St → Bytes → List Op → Prop
  | _, _, [] => True
  | s, img, op :: ops => OpLegal H s img op ∧ Legal H (step H .fixed s op) (newImg H s img op) ops

def runImg (H : Bytes → Bytes) : St → Bytes → List Op → Bytes
  | _, img, [] => img
  | s, img, op :: ops => runImg H (step H .fixed s op) (newImg H s img op) ops

theorem ginv_step {H : Bytes → Bytes} (hH : ∀ x, (H x).length = 16) (A : List Pair) (s : St) (img : Bytes) (op : Op)
    (h : GInv H A s img) (hl : OpLegal H s img op)
    (hA : ∀ p ∈ added [op], p ∈ A) :
    GInv H A (step H .fixed s op) (newImg H s img op) := by
  have hboth : ∀ p ∈ s.cache, GoodVal A p.1 p.2.val ∧ WFE p := fun p hp => ⟨h.good p hp, h.wf p hp⟩
  suffices hs : (∀ p ∈ (step H .fixed s op).cache, GoodVal A p.1 p.2.val ∧ WFE p) ∧
      (∃ gs : List Cache, SavedAs H (newImg H s img op) gs ∧ ∀ g ∈ gs, ∀ it ∈ g, GoodVal A it.1 it.2.val ∧ WFE it) ∧
      (step H .fixed s op).store.file.length ≤ (newImg H s img op).length from
    ⟨exact_step H s op h.exact, fun p hp => (hs.1 p hp).1, fun p hp => (hs.1 p hp).2, hs.2.1, hs.2.2⟩
  cases op with
  | add now pairs cands =>
    refine ⟨fun p hp => ?_, h.image, ?_⟩
    · rcases mem_addValues hp with hp | ⟨q, hq, ha, rfl⟩
      · exact hboth p hp
      · exact ⟨⟨(acceptable_spec ha).1, (acceptable_spec ha).2, hA q (by simp [added, hq])⟩,
          wfe_of_bounds q.1 q.2 now (hl.2 q hq).1 (hl.2 q hq).2.1 (hl.2 q hq).2.2 hl.1⟩
    · rw [step_file]; exact h.len
  | get ts k =>
    refine ⟨fun p hp => ?_, h.image, ?_⟩
    · rcases mem_getValue hp with hp | ⟨e, he, rfl⟩
      · exact hboth p hp
      · exact ⟨h.good (k, e) he, wfe_set_ts (h.wf _ he) ts hl⟩
    · rw [step_file]; exact h.len
  | ttl now visited =>
    refine ⟨fun p hp => hboth p (mem_removeVisited hp), h.image, ?_⟩
    rw [step_file]; exact h.len
  | save order =>
    by_cases hd : dirty s = true
    · have hperm : order.Perm s.cache := hl
      obtain ⟨gs, hflat, hs⟩ := save_writes_encoding hH s order hd
        (fun it hi => (h.wf it (hperm.mem_iff.mp hi)).wf) (fun it hi => (h.wf it (hperm.mem_iff.mp hi)).small)
      refine ⟨?_, ?_, ?_⟩
      · exact fun p hp => hboth p (save_cache H s order ▸ hp)
      · simp only [newImg, hd, if_true]
        refine ⟨gs, hs, fun g hg it hi => hboth it (hperm.mem_iff.mp ?_)⟩
        rw [← hflat]; exact List.mem_flatten.mpr ⟨g, hg, hi⟩
      · simp only [step, newImg, hd, if_true]; exact Nat.le_refl _
    · simp only [step, newImg, hd, save_clean H order hd]
      exact ⟨hboth, h.image, h.len⟩
  | reload dmg m =>
    obtain ⟨gs, hs, hq⟩ := h.image
    refine ⟨?_, ⟨gs, hs, hq⟩, ?_⟩
    · intro p hp
      obtain ⟨g, hg, hig⟩ := List.mem_flatten.mp (mem_loadNew_damaged hs (Nat.le_trans hl.1 h.len) hl.2 hp)
      exact hq g hg p hig
    · rw [step_file]; exact Nat.le_trans hl.1 h.len
  | _ => exact ⟨hboth, h.image, h.len⟩

theorem ginv_run {H : Bytes → Bytes} (hH : ∀ x, (H x).length = 16) (A : List Pair) (ops : List Op) (s : St) (img : Bytes)
    (h : GInv H A s img) (hl : Legal H s img ops) (hA : ∀ p ∈ added ops, p ∈ A) :
    GInv H A (run H .fixed s ops) (runImg H s img ops) := by
  induction ops generalizing s img with
  | nil => exact h
  | cons op ops ih =>
    have hs := ginv_step hH A s img op h hl.1 (fun p hp => hA p (added_head hp))
    have := ih _ _ hs hl.2 (fun p hp => hA p (added_tail hp))
    simpa [run, runImg] using this

theorem ginv_init (H : Bytes → Bytes) (hH : ∀ x, (H x).length = 16) (A : List Pair) (m t : Int) : GInv H A (init m t) [] :=
  ⟨exact_empty _ _ _, by intro p hp; simp [init] at hp, by intro p hp; simp [init] at hp,
    ⟨[], ⟨hH, by simp [encodeAll], by simp, by simp, by simp⟩, by simp⟩, by simp [init, Chunked.new]⟩

/-- C21, the closed theorem: start with an empty cache over an empty file and run ANY sequence of AddValues / GetValue /
    RemoveByTTL / SetSizeTTL / Stats / Save / restart operations — any eviction candidates, visit orders and write orders,
    any number of restarts, each from a file that was damaged in any way that does not make it longer (cut at any offset, any
    bytes changed, repeatedly, with or without Saves in between) — where the only things assumed are the ranges of the Go
    types, strings of at most 500000 bytes, that Save enumerates the map, and that no restart reads damaged bytes which pass the hash check (`PassesFrom`,
    the tight reduction form; it is never true for a pure truncation of the image, see `truncation_never_passes`).
    Then: accounting is exact, every cached entry is a (string, value) pair that was given to AddValues for exactly that
    string, with a non-empty string and a non-marker value (so GetValue can return nothing else), and the file on disk is
    not longer than the last image this cache saved, whose entries all were added. -/
theorem closed_run {H : Bytes → Bytes} (hH : ∀ x, (H x).length = 16) (m t : Int) (ops : List Op)
    (hl : Legal H (init m t) [] ops) :
    GInv H (added ops) (run H .fixed (init m t) ops) (runImg H (init m t) [] ops) :=
  ginv_run hH _ ops _ _ (ginv_init H hH _ m t) hl (fun _ hp => hp)

/-- the property sentence about GetValue, closed form -/
theorem closed_get {H : Bytes → Bytes} (hH : ∀ x, (H x).length = 16) (m t : Int) (ops : List Op)
    (hl : Legal H (init m t) [] ops) (ts : Nat) (k : Bytes) (x : Int)
    (hg : (getValue (run H .fixed (init m t) ops) ts k).2 = some x) :
    k ≠ [] ∧ x ≠ 0 ∧ x ≠ markerFlood ∧ x ≠ markerNotExist ∧ (k, x) ∈ added ops := by
  obtain ⟨e, he, rfl⟩ := getValue_result hg
  exact ((closed_run hH m t ops hl).good (k, e) (find_some_mem he)).spec

/-- size clause beside the closed theorem: every operation other than a resize or a restart leaves
    `sumSize ≤ max maxSize (sumSize before)` (in particular AddValues), and the sums are never negative.  Neither needs `hH` or
    `hl`: the bound is `step_size_bound` (any state), the signs are `sums_never_negative` (every op list). -/
theorem closed_size {H : Bytes → Bytes} (hH : ∀ x, (H x).length = 16) (m t : Int) (ops : List Op) (op : Op)
    (hl : Legal H (init m t) [] (ops ++ [op])) (hp : op.plain) :
    (run H .fixed (init m t) (ops ++ [op])).sumSize ≤
        max (run H .fixed (init m t) ops).maxSize (run H .fixed (init m t) ops).sumSize ∧
      0 ≤ (run H .fixed (init m t) (ops ++ [op])).sumSize ∧ 0 ≤ (run H .fixed (init m t) (ops ++ [op])).sumTS := by
  refine ⟨?_, sums_never_negative H m t _⟩
  simp only [run, List.foldl_append, List.foldl_cons, List.foldl_nil]
  exact (step_size_bound H .fixed _ op hp).1

/-- only cuts: every restart reads the file on disk cut at some offset -/
def TruncLegal (H : Bytes → Bytes) : St → List Op → Prop
  | _, [] => True
  | s, op :: ops =>
    (match op with
     | .add now pairs _ => now < 4294967296 ∧ ∀ p ∈ pairs, p.1.length ≤ 500000 ∧ -2147483648 ≤ p.2 ∧ p.2 < 2147483648
     | .get ts _ => ts < 4294967296
     | .save order => order.Perm s.cache
     | .reload dmg _ => ∃ n, ∀ f, dmg f = f.take n
     | _ => True) ∧ TruncLegal H (step H .fixed s op) ops

/-- cuts are always legal: the hash hypothesis of `Legal` is a theorem for them -/
theorem truncLegal_legal {H : Bytes → Bytes} (hH : ∀ x, (H x).length = 16) (A : List Pair) (ops : List Op) (s : St) (img : Bytes)
    (h : GInv H A s img) (hf : ∃ n0, s.store.file = img.take n0) (hl : TruncLegal H s ops) (hA : ∀ p ∈ added ops, p ∈ A) :
    Legal H s img ops := by
  -- `hf`, a second invariant: the file on disk IS a cut of the image (`GInv.len` only bounds its length), so a cut of it is
  -- a cut of the image, which never passes
  induction ops generalizing s img with
  | nil => trivial
  | cons op ops ih =>
    obtain ⟨n0, hn0⟩ := hf
    have hleg : OpLegal H s img op := by
      cases op with
      | reload dmg m =>
        obtain ⟨n, hn⟩ := hl.1
        obtain ⟨gs, hs, _⟩ := h.image
        refine ⟨by rw [hn, List.length_take]; exact Nat.min_le_right _ _, ?_⟩
        rw [hn, hn0, List.take_take]
        exact hs.cut_not_passes (min n n0)
      | _ => exact hl.1
    have hs := ginv_step hH A s img op h hleg (fun p hp => hA p (added_head hp))
    have hf' : ∃ n1, (step H .fixed s op).store.file = (newImg H s img op).take n1 := by
      cases op with
      | save order =>
        by_cases hd : dirty s = true
        · exact ⟨(save H s order).1.store.file.length, by simp [step, newImg, hd]⟩
        · exact ⟨n0, by simp only [step, newImg, hd, save_clean H order hd]; simpa using hn0⟩
      | reload dmg m =>
        obtain ⟨n, hn⟩ := hl.1
        exact ⟨min n n0, by rw [step_file]; simp only [newImg]; rw [hn, hn0, List.take_take]⟩
      | _ => exact ⟨n0, by rw [step_file]; exact hn0⟩
    exact ⟨hleg, ih _ _ hs hf' hl.2 (fun p hp => hA p (added_tail hp))⟩

theorem truncLegal_init {H : Bytes → Bytes} (hH : ∀ x, (H x).length = 16) (m t : Int) (ops : List Op)
    (hl : TruncLegal H (init m t) ops) : Legal H (init m t) [] ops :=
  truncLegal_legal hH _ ops _ _ (ginv_init H hH _ m t) ⟨0, by simp [init, Chunked.new]⟩ hl (fun _ hp => hp)

/-- C21, closed theorem for crashes that only CUT the file (the `fsync`-less reality of this cache): no hypothesis about
    the hash function at all (any H with 16-byte results).  Any interleaving of add / get / TTL eviction / resize / stats / Save
    and restarts from the current file cut at any offset, any number of times. -/
theorem closed_run_truncations {H : Bytes → Bytes} (hH : ∀ x, (H x).length = 16) (m t : Int) (ops : List Op)
    (hl : TruncLegal H (init m t) ops) :
    GInv H (added ops) (run H .fixed (init m t) ops) (runImg H (init m t) [] ops) :=
  closed_run hH m t ops (truncLegal_init hH m t ops hl)

/-! ### non-vacuity: a legal history with a Save and two restarts from cut files -/

def demoOps : List Op :=
  [.add 10 [([97], 1), ([98, 99], 5)] [], .get 12 [97], .save [([97], { val := 1, ts := 12 }), ([98, 99], { val := 5, ts := 10 })],
   .reload (fun f => f.take 30) 1000, .add 20 [([100], 9)] [], .reload (fun f => f.take 7) 50]

theorem demo_legal : TruncLegal toyH (init 1000 0) demoOps :=
  ⟨⟨by decide, by decide⟩, by decide, by decide, ⟨30, fun _ => rfl⟩, ⟨by decide, by decide⟩, ⟨7, fun _ => rfl⟩, trivial⟩

/-- non-vacuity of `closed_run`: its hypothesis `Legal` holds for the demo history -/
example : Legal toyH (init 1000 0) [] demoOps :=
  truncLegal_init toy_params.hlen 1000 0 demoOps demo_legal

example : GInv toyH (added demoOps) (run toyH .fixed (init 1000 0) demoOps) (runImg toyH (init 1000 0) [] demoOps) :=
  closed_run_truncations toy_params.hlen 1000 0 demoOps demo_legal

end SH.C21
