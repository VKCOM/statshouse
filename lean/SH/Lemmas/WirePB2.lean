/-
  SH.Lemmas.WirePB2 — Protobuf: one record of a metric at a time (counter, ts, packed and unpacked value / unique,
  histogram centroid), each read back by one iteration of protobufUnmarshalStatshouseMetric.
-/
import SH.Lemmas.WirePB
namespace SH.Wire

theorem pbTurn_counter (v : Variant) (f : Nat) (m : Metric) (x : Nat) (t : Bytes) (hx : x < 2 ^ 64) :
    pbMetric v (f + 1) m (pbEncTag 3 1 ++ le 8 x ++ t)
      = pbMetric v f { m with counter := x, mask := setBit m.mask 0 } t := by
  rw [List.append_assoc]
  apply pbMetric_step v f m _ 3 1 _ _ t (pbEncTag_append_ne_nil 3 1 _) (pbTag_enc 3 1 _ (by decide) (by decide) (by decide))
  unfold pbMetricField
  rw [if_neg (by decide), if_neg (by decide), if_pos (by decide), pbFixed64_enc x t hx]
  rfl

theorem pbTurn_ts (v : Variant) (f : Nat) (m : Metric) (x : Nat) (t : Bytes) (hx : x < 2 ^ 32) :
    pbMetric v (f + 1) m (pbEncTag 4 0 ++ pbEncV x ++ t)
      = pbMetric v f { m with ts := x, mask := setBit m.mask 4 } t := by
  rw [List.append_assoc]
  apply pbMetric_step v f m _ 4 0 _ _ t (pbEncTag_append_ne_nil 4 0 _) (pbTag_enc 4 0 _ (by decide) (by decide) (by decide))
  unfold pbMetricField
  rw [if_neg (by decide), if_neg (by decide), if_neg (by decide), if_pos (by decide),
    pbVarint_enc x t (Nat.lt_trans hx (by decide))]
  simp only []
  rw [if_neg (by omega)]

theorem pbTurn_valuePacked (v : Variant) (f : Nat) (m : Metric) (xs : List Nat) (t : Bytes) (hn : xs.length < 2 ^ 32)
    (hx : ∀ x ∈ xs, x < 2 ^ 64) :
    pbMetric v (f + 1) m (pbEncLen 5 (catMap (le 8) xs) ++ t)
      = pbMetric v f { m with value := m.value ++ xs, mask := setBit m.mask 1 } t := by
  have hl := catMap_le8_length xs
  have hd : (catMap (le 8) xs).length < 2 ^ 64 := by omega
  apply pbMetric_step v f m _ 5 2 _ _ t (pbEncLen_ne_nil 5 _ t) (pbTag_encLen 5 _ t (by decide) (by decide))
  unfold pbMetricField
  rw [if_neg (by decide), if_neg (by decide), if_neg (by decide), if_neg (by decide), if_pos (by decide),
    pbBytes_enc _ t hd]
  simp only []
  rw [if_neg (by omega)]
  -- fuel: the model gives 8 units per element, `pbPackedF64_enc` uses one
  have e : (catMap (le 8) xs).length = 7 * xs.length + xs.length := by omega
  rw [e, pbPackedF64_enc xs hx]

theorem pbTurn_uniquePacked (v : Variant) (f : Nat) (m : Metric) (xs : List Nat) (t : Bytes) (hn : xs.length < 2 ^ 32)
    (hx : ∀ x ∈ xs, x < 2 ^ 64) :
    pbMetric v (f + 1) m (pbEncLen 6 (catMap pbEncV xs) ++ t)
      = pbMetric v f { m with unique := m.unique ++ xs, mask := setBit m.mask 2 } t := by
  have hle := catMap_length_le pbEncV 10 xs (fun x _ => pbEncV_length_le x)
  have hge := catMap_length_ge pbEncV 1 xs (fun x _ => pbEncV_length_pos x)
  have hd : (catMap pbEncV xs).length < 2 ^ 64 := by omega
  apply pbMetric_step v f m _ 6 2 _ _ t (pbEncLen_ne_nil 6 _ t) (pbTag_encLen 6 _ t (by decide) (by decide))
  unfold pbMetricField
  rw [if_neg (by decide), if_neg (by decide), if_neg (by decide), if_neg (by decide), if_neg (by decide),
    if_neg (by decide), if_pos (by decide), pbBytes_enc _ t hd]
  simp only []
  -- fuel: one unit per byte and one more; `pbPackedVar_enc` uses one per element and one
  have e : (catMap pbEncV xs).length + 1 = ((catMap pbEncV xs).length - xs.length) + xs.length + 1 := by omega
  rw [e, pbPackedVar_enc xs hx]

theorem pbEncCentroid_length_le (h : Nat × Nat) : (pbEncCentroid h).length ≤ 36 := by
  -- a record: a tag (at most 10 bytes) and 8 bytes
  have one : ∀ (c : Prop) [Decidable c] (num x : Nat), (if c then [] else pbEncTag num 1 ++ le 8 x).length ≤ 18 := by
    intro c _ num x
    split
    · exact Nat.zero_le _
    · have := pbEncV_length_le (num * 8 + 1)
      rw [List.length_append, le_length, pbEncTag]
      omega
  unfold pbEncCentroid
  rw [List.length_append]
  exact Nat.add_le_add (one _ 1 h.1) (one _ 2 h.2)

/-- a histogram record of `pbEncMetric` -/
def pbHistRec (h : Nat × Nat) : Bytes := pbEncLen 7 (pbEncCentroid h)

theorem pbTurn_hist (v : Variant) (f : Nat) (m : Metric) (h : Nat × Nat) (t : Bytes)
    (h1 : h.1 < 2 ^ 64) (h2 : h.2 < 2 ^ 64) :
    pbMetric v (f + 1) m (pbHistRec h ++ t)
      = pbMetric v f { m with hist := m.hist ++ [h], mask := setBit m.mask 3 } t := by
  have hd : (pbEncCentroid h).length < 2 ^ 64 := by
    have := pbEncCentroid_length_le h
    omega
  apply pbMetric_step v f m _ 7 2 _ _ t (pbEncLen_ne_nil 7 _ t) (pbTag_encLen 7 _ t (by decide) (by decide))
  unfold pbMetricField
  rw [if_neg (by decide), if_neg (by decide), if_neg (by decide), if_neg (by decide), if_neg (by decide),
    if_neg (by decide), if_neg (by decide), if_neg (fun hh => absurd hh.1 (by decide)), if_pos (by decide),
    pbBytes_enc _ t hd]
  simp only []
  rw [pbCentroid_enc h h1 h2]

/-- the unpacked layouts: one fixed64 record per `value` element, one varint record per `unique` element -/
def pbValueRec (x : Nat) : Bytes := pbEncTag 5 1 ++ le 8 x
def pbUniqueRec (x : Nat) : Bytes := pbEncTag 6 0 ++ pbEncV x

/-- the mask after `n` records of the field with mask bit `k` -/
def maskN (k : Nat) : Nat → Nat → Nat
  | 0, mk => mk
  | n + 1, mk => maskN k n (setBit mk k)

theorem pbTurn_valueUnpacked (v : Variant) (f : Nat) (m : Metric) (x : Nat) (t : Bytes) (hx : x < 2 ^ 64) :
    pbMetric v (f + 1) m (pbValueRec x ++ t)
      = pbMetric v f { m with value := m.value ++ [x], mask := setBit m.mask 1 } t := by
  rw [pbValueRec, List.append_assoc]
  apply pbMetric_step v f m _ 5 1 _ _ t (pbEncTag_append_ne_nil 5 1 _) (pbTag_enc 5 1 _ (by decide) (by decide) (by decide))
  unfold pbMetricField
  rw [if_neg (by decide), if_neg (by decide), if_neg (by decide), if_neg (by decide), if_neg (by decide),
    if_pos (by decide), pbFixed64_enc x t hx]
  rfl

theorem pbTurn_uniqueUnpacked (v : Variant) (hv : v.uniqueWt0 = true) (f : Nat) (m : Metric) (x : Nat) (t : Bytes) (hx : x < 2 ^ 64) :
    pbMetric v (f + 1) m (pbUniqueRec x ++ t)
      = pbMetric v f { m with unique := m.unique ++ [x], mask := setBit m.mask 2 } t := by
  rw [pbUniqueRec, List.append_assoc]
  apply pbMetric_step v f m _ 6 0 _ _ t (pbEncTag_append_ne_nil 6 0 _) (pbTag_enc 6 0 _ (by decide) (by decide) (by decide))
  unfold pbMetricField
  rw [if_neg (by decide), if_neg (by decide), if_neg (by decide), if_neg (by decide), if_neg (by decide),
    if_neg (by decide), if_neg (by decide), hv, if_pos (by simp), pbVarint_enc x t hx]
  rfl

end SH.Wire
