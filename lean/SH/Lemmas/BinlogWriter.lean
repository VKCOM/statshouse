/-
  SH.Lemmas.BinlogWriter — the writer side of the model by itself: `rotatePos` well formed for the append buffer (`WF`, `Winv`)
  and kept by `putLevToBuffer` (`putLev_inv`: the cases of `putLev`, for properties of the resulting state); what `writeBuffer`, `written` and `syncCommit`
  do to the byte count, the synced prefix, the commits and the closed files (`OlderSynced`).
-/
import SH.Lemmas.BinlogRot
open SH.Binlog
namespace SH.C18

/-- `rotatePos` is well formed for a buffer of length `len` when writing starts at `prev`: every rotation position has the
    36 bytes of ROTATE_TO in front of it (after `prev`) and the 36 bytes of ROTATE_FROM behind it -/
def WF (len : Nat) : Nat → List Nat → Prop
  | prev, [] => prev ≤ len
  | prev, p :: ps => prev + 36 ≤ p ∧ p + 36 ≤ len ∧ WF len (p + 36) ps

theorem WF_mono {len len' : Nat} (hl : len ≤ len') : ∀ {prev : Nat} {ps : List Nat}, WF len prev ps → WF len' prev ps
  | _, [], h => Nat.le_trans h hl
  | _, _ :: _, ⟨a, b, c⟩ => ⟨a, Nat.le_trans b hl, WF_mono hl c⟩

theorem WF_snoc {len len' q : Nat} (h1 : len + 36 ≤ q) (h2 : q + 36 ≤ len') :
    ∀ {prev : Nat} {ps : List Nat}, WF len prev ps → WF len' prev (ps ++ [q])
  | _, [], h => by simp only [List.nil_append, WF]; simp only [WF] at h; omega
  | _, _ :: _, ⟨a, b, c⟩ => ⟨a, by omega, WF_snoc h1 h2 c⟩

/-- the writer state accounts for its buffer: `offsetGlobal = X + len(buff)` (X = bytes already handed to the files) -/
def Winv (X : Nat) (w : WS) : Prop := w.offG = X + w.buff.length ∧ WF w.buff.length 0 w.rotPos

theorem appendLev_winv (cfg : Cfg) {X : Nat} {w : WS} (d : Bytes) (h : Winv X w) : Winv X (appendLev cfg w d) := by
  refine ⟨?_, ?_⟩
  · simp only [appendLev, List.length_append]; have := h.1; omega
  · exact WF_mono (by simp [appendLev]) h.2

theorem putCrc_winv (cfg : Cfg) {X : Nat} {w : WS} (body : Bytes) (ts : Nat) (h : Winv X w) : Winv X (putCrc cfg w body ts) := by
  simp only [putCrc]
  split
  · exact appendLev_winv cfg _ (appendLev_winv cfg body h)
  · exact appendLev_winv cfg body h

theorem addRotate_winv (cfg : Cfg) {X : Nat} {w : WS} (ts h1 h2 : Nat) (h : Winv X w) : Winv X (addRotate cfg w ts h1 h2) := by
  have p36 : pad4 36 = 36 := by decide
  refine ⟨?_, ?_⟩
  · simp only [addRotate, appendLev, List.length_append, padded_length, encRotTo_length, encRotFrom_length, p36]
    have := h.1; omega
  · simp only [addRotate, appendLev, List.length_append, padded_length, encRotTo_length, encRotFrom_length, p36]
    exact WF_snoc (len := w.buff.length) (by omega) (by omega) h.2

/-- what `putLevToBuffer` leaves is the old state, or the state after the event and its crc record, or that state rotated,
    possibly with `commitASAP` set: a property kept by those steps holds of the result -/
theorem putLev_inv (cfg : Cfg) (P : WS → Prop) (w : WS) (inOff : Int) (body : Bytes) (asap : Bool) (ts h1 h2 : Nat) (h : P w)
    (hcrc : P (putCrc cfg w body ts))
    (hrot : needRotate cfg (putCrc cfg w body ts) = true → P (addRotate cfg (putCrc cfg w body ts) ts h1 h2))
    (hasap : ∀ w', P w' → P { w' with asap := true }) : P (putLev cfg w inOff body asap ts h1 h2).1 := by
  unfold putLev
  by_cases hs : w.stopped = true
  · rw [if_pos hs]; exact h
  · rw [if_neg hs]
    by_cases ho : inOff ≠ (w.offG : Int)
    · rw [if_pos ho]; exact h
    · rw [if_neg ho]
      by_cases hp : (needRotate cfg (putCrc cfg w body ts) && hashSlicePanics (putCrc cfg w body ts)) = true
      · rw [if_pos hp]; exact hcrc
      · rw [if_neg hp, putBody]
        have h3 : P (if needRotate cfg (putCrc cfg w body ts) = true then addRotate cfg (putCrc cfg w body ts) ts h1 h2
            else putCrc cfg w body ts) := by
          by_cases hr : needRotate cfg (putCrc cfg w body ts) = true
          · rw [if_pos hr]; exact hrot hr
          · rw [if_neg hr]; exact hcrc
        by_cases ha : asap = true
        · rw [if_pos ha]; exact hasap _ h3
        · rw [if_neg ha]; exact h3

theorem putLev_winv (cfg : Cfg) {X : Nat} {w : WS} (inOff : Int) (body : Bytes) (asap : Bool) (ts h1 h2 : Nat) (h : Winv X w) :
    Winv X (putLev cfg w inOff body asap ts h1 h2).1 :=
  putLev_inv cfg (Winv X) w inOff body asap ts h1 h2 h (putCrc_winv cfg body ts h)
    (fun _ => addRotate_winv cfg ts h1 h2 (putCrc_winv cfg body ts h)) (fun _ h' => h')

theorem putCrc_offG (cfg : Cfg) (w : WS) (body : Bytes) (ts : Nat) : w.offG ≤ (putCrc cfg w body ts).offG := by
  simp only [putCrc]
  split <;> simp only [addCrc, appendLev] <;> omega

theorem putLev_offG (cfg : Cfg) (w : WS) (inOff : Int) (body : Bytes) (asap : Bool) (ts h1 h2 : Nat) :
    w.offG ≤ (putLev cfg w inOff body asap ts h1 h2).1.offG :=
  putLev_inv cfg (fun w' => w.offG ≤ w'.offG) w inOff body asap ts h1 h2 (Nat.le_refl _) (putCrc_offG cfg w body ts)
    (fun _ => Nat.le_trans (putCrc_offG cfg w body ts) (by simp only [addRotate, appendLev]; omega)) (fun _ h' => h')

theorem stopped_refuses (cfg : Cfg) (w : WS) (inOff : Int) (body : Bytes) (asap : Bool) (ts h1 h2 : Nat) (h : w.stopped = true) :
    putLev cfg w inOff body asap ts h1 h2 = (w, .stopped, w.offG) := by
  simp [putLev, h]

theorem slice_length (b : Bytes) (i j : Nat) (hj : j ≤ b.length) : (slice b i j).length = j - i := by
  simp [slice]; omega

theorem writtenEnd_write (l : LS) (b : Bytes) : writtenEnd { l with cur := l.cur.write b } = writtenEnd l + b.length := by
  simp only [writtenEnd, FileS.write, List.length_append, Nat.add_assoc]

theorem writtenEnd_rotateFS (l : LS) (a b : Bytes) : writtenEnd (rotateFS l a b) = writtenEnd l + a.length + b.length := by
  simp only [writtenEnd, rotateFS, FileS.write, FileS.sync, List.map_cons, List.sum_cons, List.length_append]
  omega

theorem writeBuffer_written (buff : Bytes) : ∀ (ps : List Nat) (l : LS) (prev : Nat), WF buff.length prev ps →
    writtenEnd (writeBuffer l buff prev ps) = writtenEnd l + (buff.length - prev)
  | [], l, prev, _ => by rw [writeBuffer, writtenEnd_write, List.length_drop]
  | p :: ps, l, prev, ⟨a, b, c⟩ => by
    rw [writeBuffer, levRotateSize, writeBuffer_written buff ps _ _ c, writtenEnd_rotateFS, writtenEnd_write,
      slice_length _ _ _ (by omega), slice_length _ _ _ (by omega), slice_length _ _ _ (by omega)]
    omega

def SyncedLe (l : LS) : Prop := l.cur.synced ≤ l.cur.data.length

theorem writeBuffer_synced (buff : Bytes) : ∀ (ps : List Nat) (l : LS) (prev : Nat), SyncedLe l →
    syncedEnd l ≤ syncedEnd (writeBuffer l buff prev ps) ∧ SyncedLe (writeBuffer l buff prev ps)
  | [], l, prev, h => by
    simp only [writeBuffer, syncedEnd, SyncedLe, FileS.write, List.length_append] at *
    omega
  | p :: ps, l, prev, h => by
    simp only [writeBuffer]
    have ih := writeBuffer_synced buff ps
      (rotateFS { l with cur := l.cur.write (slice buff prev (p - levRotateSize)) } (slice buff (p - levRotateSize) p)
        (slice buff p (p + levRotateSize))) (p + levRotateSize) (by simp [SyncedLe, rotateFS])
    refine ⟨Nat.le_trans ?_ ih.1, ih.2⟩
    simp only [syncedEnd, rotateFS, FileS.write, FileS.sync, List.map_cons, List.sum_cons, List.length_append, SyncedLe] at *
    omega

theorem writeBuffer_commits (buff : Bytes) : ∀ (ps : List Nat) (l : LS) (prev : Nat), (writeBuffer l buff prev ps).commits = l.commits
  | [], _, _ => rfl
  | p :: ps, l, prev => by
    simp only [writeBuffer]; rw [writeBuffer_commits buff ps]; rfl

theorem written_commits (s : Sys) : (written s).commits = s.l.commits := by
  unfold written; split
  · rfl
  · exact writeBuffer_commits _ _ _ _

/-- every rotated-away file is completely covered by an fsync -/
def OlderSynced (l : LS) : Prop := ∀ f ∈ l.older, f.synced = f.data.length

theorem writeBuffer_older (buff : Bytes) : ∀ (ps : List Nat) (l : LS) (prev : Nat), OlderSynced l → OlderSynced (writeBuffer l buff prev ps)
  | [], _, _, h => h
  | p :: ps, l, prev, h => by
    simp only [writeBuffer]
    apply writeBuffer_older buff ps
    intro f hf
    simp only [rotateFS, List.mem_cons] at hf
    rcases hf with rfl | hf
    · rfl
    · exact h f hf

theorem written_older (s : Sys) (h : OlderSynced s.l) : OlderSynced (written s) := by
  unfold written; split
  · exact h
  · exact writeBuffer_older _ _ _ _ h

theorem syncedEnd_of_older {l : LS} (h : OlderSynced l) : syncedEnd l = (l.older.map (·.data.length)).sum + l.cur.synced := by
  simp only [syncedEnd]
  congr 1
  exact congrArg List.sum (List.map_congr_left (fun f hf => h f hf))

theorem syncCommit_synced (l : LS) (w : WS) (ts : Nat) (h : OlderSynced l) : syncedEnd (syncCommit l w ts) = writtenEnd l := by
  rw [syncedEnd_of_older (by simpa [syncCommit, OlderSynced] using h)]
  simp [syncCommit, FileS.sync, writtenEnd]

theorem syncedEnd_le_written {l : LS} (ho : OlderSynced l) (hs : SyncedLe l) : syncedEnd l ≤ writtenEnd l := by
  rw [syncedEnd_of_older ho]
  exact Nat.add_le_add_left hs _

theorem syncCommit_writtenEnd (l : LS) (w : WS) (ts : Nat) : writtenEnd (syncCommit l w ts) = writtenEnd l := rfl

theorem written_dirty (s : Sys) : (written s).dirty = false → written s = s.l := by
  unfold written; split
  · intro _; rfl
  · intro h; simp at h

end SH.C18
