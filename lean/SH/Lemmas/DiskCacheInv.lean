/-
  SH.Lemmas.DiskCacheInv — the abstract layout of a shard directory (files = lists of abstract records with their current ids
  + a tail at which the scan stops), the refinement invariant `Inv` between the DiskCache model state and that layout,
  its establishment by `restart`, the live sequence `Abs.live`
  (what the cache holds, in write order), and the lemmas every step of the invariant uses (file objects, reference counts, names,
  the directory by segments). It opens with the list facts the family needs and neither core nor SH.Lemmas.Lists states.
-/
import SH.Lemmas.DiskCacheBytes
import SH.Lemmas.Lists

namespace SH.C09
open SH.DiskCache

theorem nodup_of_pairwise_lt {l : List Nat} (h : l.Pairwise (· < ·)) : l.Nodup := by
  exact h.imp (fun hab => Nat.ne_of_lt hab)

theorem perm_cons_filter_key {α} (key : α → Nat) (x : α) : ∀ (l : List α), (l.map key).Nodup → x ∈ l →
    l.Perm (x :: l.filter (fun y => key y != key x)) := by
  intro l
  induction l with
  | nil => intro _ h; cases h
  | cons y l ih =>
    intro hnd hx
    rw [List.map_cons, List.nodup_cons] at hnd
    rcases List.mem_cons.mp hx with rfl | h
    · have : l.filter (fun y => key y != key x) = l :=
        List.filter_eq_self.mpr (fun y hy => bne_iff_ne.mpr (fun e => hnd.1 (e ▸ List.mem_map_of_mem hy)))
      simp [this]
    · have hy : (key y != key x) = true := bne_iff_ne.mpr (fun e => hnd.1 (e ▸ List.mem_map_of_mem h))
      rw [List.filter_cons, hy, if_pos rfl]
      exact ((ih hnd.2 h).cons y).trans (List.Perm.swap x y _)

theorem sum_filter_key {α} (key : α → Nat) (g : α → Int) (x : α) (l : List α) (hnd : (l.map key).Nodup) (hx : x ∈ l) :
    ((l.filter (fun y => key y != key x)).map g).sum = (l.map g).sum - g x := by
  rw [Lists.sum_perm ((perm_cons_filter_key key x l hnd hx).map g), List.map_cons, List.sum_cons]
  omega

theorem find?_map_nodup {α β} [DecidableEq β] (g : α → β) : ∀ (l : List α), (l.map g).Nodup → ∀ x ∈ l,
    l.find? (fun y => g y == g x) = some x := by
  intro l
  induction l with
  | nil => intro _ x hx; simp at hx
  | cons a l ih =>
    intro hnd x hx
    rw [List.map_cons, List.nodup_cons] at hnd
    rcases List.mem_cons.mp hx with h1 | h1
    · subst h1; simp
    · have : g a ≠ g x := fun h => hnd.1 (List.mem_map.mpr ⟨x, h1, h.symm⟩)
      rw [List.find?_cons]
      have h2 : (g a == g x) = false := by simp [this]
      rw [h2]
      exact ih hnd.2 x h1

theorem split_at {α} (l : List α) (j : Nat) (h : j < l.length) : ∃ r1 r r2, l = r1 ++ r :: r2 ∧ r1.length = j :=
  ⟨l.take j, l[j], l.drop (j + 1), by rw [← List.drop_eq_getElem_cons h, List.take_append_drop],
    List.length_take_of_le (Nat.le_of_lt h)⟩

theorem take_len_succ {α} (r1 r2 : List α) (x : α) : (r1 ++ x :: r2).take (r1.length + 1) = r1 ++ [x] := by
  rw [List.append_cons]
  exact List.take_left' (by simp)

theorem drop_len_succ {α} (r1 r2 : List α) (x : α) : (r1 ++ x :: r2).drop (r1.length + 1) = r2 := by
  rw [List.append_cons]
  exact List.drop_left' (by simp)

theorem getLast?_filter_eq_some {α} (l : List α) (p : α → Bool) (x : α) (h : l.getLast? = some x) (hp : p x = true) :
    (l.filter p).getLast? = some x := by
  rw [List.getLast?_eq_head?_reverse] at h ⊢
  rw [← List.filter_reverse]
  cases hr : l.reverse with
  | nil => rw [hr] at h; simp at h
  | cons y ys =>
    rw [hr] at h; simp at h; subst h
    simp [hp]

theorem eq_dropLast_append {α} (l : List α) (x : α) (h : l.getLast? = some x) : l = l.dropLast ++ [x] := by
  have hne : l ≠ [] := by intro e; subst e; simp at h
  have := List.dropLast_concat_getLast hne
  rw [List.getLast?_eq_some_getLast hne] at h
  simp at h
  rw [h] at this
  exact this.symm

theorem forall_mem_concat {α} {P : α → Prop} {l : List α} {x : α} (h : ∀ y ∈ l, P y) (hx : P x) : ∀ y ∈ l ++ [x], P y :=
  fun y hy => (List.mem_append.mp hy).elim (h y) (fun e => List.mem_singleton.mp e ▸ hx)

theorem flatMap_congr_left {α β} (l : List α) (g1 g2 : α → List β) (h : ∀ x ∈ l, g1 x = g2 x) : l.flatMap g1 = l.flatMap g2 := by
  induction l with
  | nil => rfl
  | cons x l ih => simp [List.flatMap_cons, h x (by simp), ih (fun y hy => h y (by simp [hy]))]

theorem sum_filter_split {α} (l : List α) (p : α → Bool) (g : α → Int) :
    (l.map g).sum = ((l.filter p).map g).sum + ((l.filter (fun x => !p x)).map g).sum := by
  induction l with
  | nil => rfl
  | cons x l ih =>
    cases hp : p x <;> simp [hp, ih] <;> omega

structure ARec where
  magic : Nat
  time : Nat
  body : Bytes
  id : Option Nat
deriving DecidableEq, Repr

def ARec.enc (cfg : Cfg) (r : ARec) : Bytes := encHeader r.magic r.time r.body.length (cfg.crc r.body) ++ r.body
def ARec.len (r : ARec) : Nat := headerSize + r.body.length
def ARec.dead (cfg : Cfg) (r : ARec) : Bool := isDeletedMagic cfg r.magic
def ARec.hdr (cfg : Cfg) (r : ARec) : Hdr := ⟨r.magic, r.time, r.body.length, cfg.crc r.body⟩

def ARec.WF (cfg : Cfg) (r : ARec) : Prop :=
  r.magic < 2 ^ 32 ∧ r.time < 2 ^ 32 ∧ r.body.length ≤ maxChunkSize ∧ cfg.crc r.body < 2 ^ 32 ∧
  (r.dead cfg = false → r.magic = magicGood) ∧ (r.id ≠ none → r.dead cfg = false)

theorem ARec.WF.live_good {cfg : Cfg} {r : ARec} (h : r.WF cfg) : r.dead cfg = false → r.magic = magicGood := h.2.2.2.2.1

theorem ARec.WF.id_live {cfg : Cfg} {r : ARec} (h : r.WF cfg) : r.id ≠ none → r.dead cfg = false := h.2.2.2.2.2

def encRecs (cfg : Cfg) : List ARec → Bytes
  | [] => []
  | r :: rs => r.enc cfg ++ encRecs cfg rs

def recsLen : List ARec → Nat
  | [] => 0
  | r :: rs => r.len + recsLen rs

theorem ARec.enc_length (cfg : Cfg) (r : ARec) : (r.enc cfg).length = r.len := by
  simp [ARec.enc, ARec.len, encHeader_length, headerSize]

theorem encRecs_length (cfg : Cfg) (rs : List ARec) : (encRecs cfg rs).length = recsLen rs := by
  induction rs with
  | nil => rfl
  | cons r rs ih => simp [encRecs, recsLen, ih, ARec.enc_length]

theorem encRecs_append (cfg : Cfg) (a b : List ARec) : encRecs cfg (a ++ b) = encRecs cfg a ++ encRecs cfg b := by
  induction a with
  | nil => rfl
  | cons r a ih => simp [encRecs, ih]

theorem encRecs_mid (cfg : Cfg) (r1 r2 : List ARec) (r : ARec) (tl : Bytes) :
    encRecs cfg (r1 ++ r :: r2) ++ tl =
      encRecs cfg r1 ++ (encHeader r.magic r.time r.body.length (cfg.crc r.body) ++ (r.body ++ (encRecs cfg r2 ++ tl))) := by
  simp [encRecs_append, encRecs, ARec.enc]

theorem recsLen_append (a b : List ARec) : recsLen (a ++ b) = recsLen a + recsLen b := by
  induction a with
  | nil => simp [recsLen]
  | cons r a ih => simp [recsLen, ih]; omega

theorem ARec.len_pos (r : ARec) : 0 < r.len := by simp [ARec.len, headerSize]; omega

/-- a tail after the last record at which the scan stops: nothing, or a strict non-empty prefix of some record. No `Op` leaves a
    tail; it is in `Inv.wf` so that `Inv` can be set up again on a directory a crash has damaged (`inv_restart_layout`). -/
def TailStop (tl : Bytes) : Prop :=
  tl = [] ∨ ∃ m t c k, ∃ body : Bytes, m < 2 ^ 32 ∧ t < 2 ^ 32 ∧ c < 2 ^ 32 ∧ body.length ≤ maxChunkSize ∧
    0 < k ∧ k < headerSize + body.length ∧ tl = (encHeader m t body.length c ++ body).take k

theorem look_boundary (cfg : Cfg) (r1 r2 : List ARec) (r : ARec) (tl : Bytes) (hw : r.WF cfg) :
    look cfg (encRecs cfg (r1 ++ r :: r2) ++ tl) (encRecs cfg (r1 ++ r :: r2) ++ tl).length (recsLen r1) =
      if r.dead cfg then .skip (recsLen r1 + r.len) else .good (r.hdr cfg) (recsLen r1 + r.len) := by
  obtain ⟨hm, ht, hb, hc, hg, _⟩ := hw
  have e := encRecs_mid cfg r1 r2 r tl
  have hl := encRecs_length cfg r1
  have h := look_at_magic cfg (encRecs cfg r1) r.body (encRecs cfg r2 ++ tl) r.magic r.time (cfg.crc r.body)
    (encRecs cfg (r1 ++ r :: r2) ++ tl).length hm ht hc hb (by
      rw [e]; simp [encHeader_length, headerSize])
  rw [hl] at h
  rw [← e] at h
  rw [h]
  cases hd : r.dead cfg
  · have : r.magic = magicGood := hg hd
    have hd' : isDeletedMagic cfg r.magic = false := hd
    simp [this, isDeleted_good, ARec.hdr, ARec.len, Nat.add_assoc]
  · have hd' : isDeletedMagic cfg r.magic = true := hd
    simp [hd', ARec.len, Nat.add_assoc]

theorem look_end (cfg : Cfg) (rs : List ARec) (tl : Bytes) (ht : TailStop tl) :
    recsLen rs ≥ (encRecs cfg rs ++ tl).length ∨
      look cfg (encRecs cfg rs ++ tl) (encRecs cfg rs ++ tl).length (recsLen rs) = .stop := by
  rcases ht with h | ⟨m, t, c, k, body, hm, ht, hc, hb, hk0, hk, he⟩
  · left; subst h; simp [encRecs_length]
  · right
    subst he
    have h := look_prefix_stop cfg (encRecs cfg rs) body m t c k hm ht hc hb hk
    rwa [encRecs_length] at h

structure AFile where
  name : Nat
  recs : List ARec
  tl : Bytes
deriving DecidableEq, Repr

def AFile.bytes (cfg : Cfg) (f : AFile) : Bytes := encRecs cfg f.recs ++ f.tl
def AFile.render (cfg : Cfg) (f : AFile) : DFile := ⟨f.name, f.bytes cfg⟩
def AFile.size (cfg : Cfg) (f : AFile) : Nat := (f.bytes cfg).length

def hasId (r : ARec) : Bool := r.id.isSome
def idc (rs : List ARec) : Nat := (rs.filter hasId).length
/-- live on disk but not handed out in this incarnation -/
def unread (cfg : Cfg) (r : ARec) : Bool := !r.dead cfg && !hasId r

def bucketOf (cfg : Cfg) (name off : Nat) (r : ARec) : List Bucket :=
  match r.id with
  | some k => [⟨k, name, off, r.time, r.body.length, cfg.crc r.body⟩]
  | none => []

def bucketsAt (cfg : Cfg) (name : Nat) : Nat → List ARec → List Bucket
  | _, [] => []
  | off, r :: rs => bucketOf cfg name off r ++ bucketsAt cfg name (off + r.len) rs

/- The layout of a shard directory, in name (= creation) order:
   `pre`   files the tail reader has read through in this incarnation (kept while still referenced);
   `cur`   the file under the read head, with the number of its records already looked at;
   `wait`  files found by the start-up scan, not opened yet;
   `new`   files created in this incarnation; when `writing`, the last of them is the write head.
   `ARec.id` is the id handed out in the CURRENT incarnation: `restart` forgets all of them. -/
structure Abs where
  pre : List AFile := []
  cur : Option (AFile × Nat) := none
  wait : List AFile := []
  new : List AFile := []
  writing : Bool := false
  lastID : Nat := 0
  clock : Nat := 0
deriving Repr

def Abs.curL (a : Abs) : List AFile :=
  match a.cur with
  | some (f, _) => [f]
  | none => []
def Abs.files (a : Abs) : List AFile := a.pre ++ (a.curL ++ (a.wait ++ a.new))
def Abs.rname (a : Abs) : Option Nat := a.cur.map (·.1.name)
def Abs.wname (a : Abs) : Option Nat := if a.writing then a.new.getLast?.map (·.name) else none
def fbuckets (cfg : Cfg) (f : AFile) : List Bucket := bucketsAt cfg f.name 0 f.recs
def Abs.buckets (cfg : Cfg) (a : Abs) : List Bucket := a.files.flatMap (fbuckets cfg)
def Abs.refs (a : Abs) (f : AFile) : Int :=
  (idc f.recs : Int) + (if a.rname = some f.name then 1 else 0) + (if a.wname = some f.name then 1 else 0)
def bsize (b : Bucket) : Int := ((b.size + headerSize : Nat) : Int)
def sizeSum (cfg : Cfg) (l : List AFile) : Int := (l.map (fun f => (f.size cfg : Int))).sum

/- `preRead`, `newRead`, `curOk`: every record that is not erased and lies in a closed file, in a file of this incarnation or
   before the read cursor has been handed out (`unread = false`); behind the cursor and in waiting files no record has an id.
   `ofiles`, `present`: there is a file object exactly for the files with a positive reference count `Abs.refs` (known seconds
   in the file + read head + write head), and a closed file stays in the directory only while it has one.
   Histories (`Op`) contain neither `vanish` nor `putFail`, so under `Inv` every waiting file is on disk and the
   `skipMissing` branch of `readLoop` is not taken. -/
structure Inv (cfg : Cfg) (s : Shard) (a : Abs) : Prop where
  disk : s.disk = a.files.map (AFile.render cfg)
  clock : s.clock = a.clock
  lastID : s.lastID = a.lastID
  names : (a.files.map (·.name)).Pairwise (· < ·)
  namesLt : ∀ f ∈ a.files, f.name < a.clock
  wf : ∀ f ∈ a.files, (∀ r ∈ f.recs, r.WF cfg) ∧ TailStop f.tl
  newTl : ∀ f ∈ a.new, f.tl = []
  preRead : ∀ f ∈ a.pre, ∀ r ∈ f.recs, unread cfg r = false
  newRead : ∀ f ∈ a.new, ∀ r ∈ f.recs, unread cfg r = false
  waitIds : ∀ f ∈ a.wait, ∀ r ∈ f.recs, r.id = none
  curOk : ∀ f j, a.cur = some (f, j) → j ≤ f.recs.length ∧ (∀ r ∈ f.recs.take j, unread cfg r = false) ∧
            (∀ r ∈ f.recs.drop j, r.id = none)
  idsLe : ∀ b ∈ a.buckets cfg, b.id ≤ a.lastID
  idsNodup : ((a.buckets cfg).map (·.id)).Nodup
  known : ∀ b, b ∈ s.known ↔ b ∈ a.buckets cfg
  ofiles : ∀ name, match findO s.ofiles name with
      | none => ∀ f ∈ a.files, f.name = name → a.refs f = 0
      | some o => o.name = name ∧ ∃ f ∈ a.files, f.name = name ∧ o.refCount = a.refs f ∧ 0 < a.refs f ∧
          o.size = f.size cfg ∧ (∀ j, a.cur = some (f, j) → o.nextPos = recsLen (f.recs.take j))
  reading : s.reading = a.rname
  writing : s.writing = a.wname
  writingSome : a.writing = true → a.new ≠ []
  waiting : s.waiting = a.wait.map (fun f => ⟨f.name, f.size cfg⟩)
  total : s.total = sizeSum cfg a.files
  knownSize : s.knownSize = ((a.buckets cfg).map bsize).sum
  waitingSize : s.waitingSize = sizeSum cfg a.wait
  present : ∀ f ∈ a.pre ++ a.new, 0 < a.refs f

theorem bucketsAt_none (cfg : Cfg) (name : Nat) : ∀ (off : Nat) (rs : List ARec), (∀ r ∈ rs, r.id = none) →
    bucketsAt cfg name off rs = [] := by
  intro off rs
  induction rs generalizing off with
  | nil => intro _; rfl
  | cons r rs ih =>
    intro h
    have h1 : r.id = none := h r (by simp)
    simp [bucketsAt, bucketOf, h1, ih _ (fun q hq => h q (by simp [hq]))]

theorem idc_none (rs : List ARec) (h : ∀ r ∈ rs, r.id = none) : idc rs = 0 := by
  unfold idc
  rw [List.length_eq_zero_iff, List.filter_eq_nil_iff]
  intro r hr
  simp [hasId, h r hr]

theorem bucketsAt_append (cfg : Cfg) (name : Nat) : ∀ (off : Nat) (r1 r2 : List ARec),
    bucketsAt cfg name off (r1 ++ r2) = bucketsAt cfg name off r1 ++ bucketsAt cfg name (off + recsLen r1) r2 := by
  intro off r1
  induction r1 generalizing off with
  | nil => intro r2; simp [bucketsAt, recsLen]
  | cons r r1 ih => intro r2; simp [bucketsAt, recsLen, ih, Nat.add_assoc]

theorem idc_eq_len (cfg : Cfg) (name : Nat) : ∀ (off : Nat) (rs : List ARec), idc rs = (bucketsAt cfg name off rs).length := by
  intro off rs
  induction rs generalizing off with
  | nil => rfl
  | cons r rs ih =>
    simp only [bucketsAt, List.length_append, ← ih]
    cases hid : r.id with
    | none => simp [idc, hasId, hid, bucketOf]
    | some j => simp [idc, hasId, hid, bucketOf]; omega

theorem idc_append (a b : List ARec) : idc (a ++ b) = idc a + idc b := by simp [idc]

theorem idc_zero_none (rs : List ARec) (h : idc rs = 0) : ∀ r ∈ rs, r.id = none := by
  intro r hr
  unfold idc at h
  rw [List.length_eq_zero_iff, List.filter_eq_nil_iff] at h
  have := h r hr
  cases hid : r.id with
  | none => rfl
  | some k => simp [hasId, hid] at this

theorem mem_bucketsAt (cfg : Cfg) (name : Nat) (b : Bucket) : ∀ (off : Nat) (rs : List ARec), b ∈ bucketsAt cfg name off rs →
    ∃ r1 r r2, rs = r1 ++ r :: r2 ∧ r.id = some b.id ∧
      b = ⟨b.id, name, off + recsLen r1, r.time, r.body.length, cfg.crc r.body⟩ := by
  intro off rs
  induction rs generalizing off with
  | nil => intro h; simp [bucketsAt] at h
  | cons q rs ih =>
    intro h
    simp only [bucketsAt, List.mem_append] at h
    rcases h with h | h
    · cases hid : q.id with
      | none => simp [bucketOf, hid] at h
      | some k =>
        simp [bucketOf, hid] at h
        subst h
        exact ⟨[], q, rs, rfl, hid, by simp [recsLen]⟩
    · obtain ⟨r1, r, r2, h1, h2, h3⟩ := ih _ h
      refine ⟨q :: r1, r, r2, by rw [h1]; rfl, h2, ?_⟩
      rw [h3]; simp [recsLen, Nat.add_assoc]

theorem bucketsAt_mem (cfg : Cfg) (name off : Nat) (r1 r2 : List ARec) (r : ARec) (k : Nat) (h : r.id = some k) :
    (⟨k, name, off + recsLen r1, r.time, r.body.length, cfg.crc r.body⟩ : Bucket) ∈ bucketsAt cfg name off (r1 ++ r :: r2) := by
  rw [bucketsAt_append]
  simp [bucketsAt, bucketOf, h]

def clearIds (f : AFile) : AFile := { f with recs := f.recs.map (fun r => { r with id := none }) }

theorem encRecs_clear (cfg : Cfg) (rs : List ARec) : encRecs cfg (rs.map (fun r => { r with id := none })) = encRecs cfg rs := by
  induction rs with
  | nil => rfl
  | cons r rs ih => simp [encRecs, ih, ARec.enc]

/-- every file of the directory, all ids forgotten, waiting to be re-read -/
def Abs.restart (a : Abs) : Abs :=
  { wait := a.files.map clearIds, clock := a.clock }

theorem render_clear (cfg : Cfg) (f : AFile) : (clearIds f).render cfg = f.render cfg := by
  simp [clearIds, AFile.render, AFile.bytes, encRecs_clear]

theorem size_clear (cfg : Cfg) (f : AFile) : (clearIds f).size cfg = f.size cfg := by
  simp [clearIds, AFile.size, AFile.bytes, encRecs_clear]

theorem sumSizes_render (cfg : Cfg) (L : List AFile) : sumSizes (L.map (AFile.render cfg)) = sizeSum cfg L := by
  simp [sumSizes, sizeSum, List.map_map, Function.comp_def, AFile.render, AFile.size]

theorem inv_fresh (cfg : Cfg) (L : List AFile) (clock : Nat) (s : Shard)
    (hn : (L.map (·.name)).Pairwise (· < ·)) (hlt : ∀ f ∈ L, f.name < clock)
    (hwf : ∀ f ∈ L, (∀ r ∈ f.recs, r.WF cfg) ∧ TailStop f.tl)
    (hid : ∀ f ∈ L, ∀ r ∈ f.recs, r.id = none)
    (hd : s.disk = L.map (AFile.render cfg)) (hc : s.clock = clock) :
    Inv cfg (restart s) { wait := L, clock := clock } := by
  have hfiles : ({ wait := L, clock := clock } : Abs).files = L := by simp [Abs.files, Abs.curL]
  have hb : ({ wait := L, clock := clock } : Abs).buckets cfg = [] := by
    unfold Abs.buckets
    rw [hfiles]
    exact List.flatMap_eq_nil_iff.mpr (fun f hf => bucketsAt_none cfg _ _ _ (hid f hf))
  refine { disk := ?_, clock := ?_, lastID := rfl, names := ?_, namesLt := ?_, wf := ?_, newTl := ?_, preRead := ?_,
           newRead := ?_, waitIds := ?_, curOk := ?_, idsLe := ?_, idsNodup := ?_, known := ?_, ofiles := ?_,
           reading := rfl, writing := rfl, writingSome := ?_, waiting := ?_, total := ?_, knownSize := ?_,
           waitingSize := ?_, present := ?_ }
  · rw [hfiles]; simp [restart, hd]
  · simp [restart, hc]
  · rw [hfiles]; exact hn
  · rw [hfiles]; exact hlt
  · rw [hfiles]; exact hwf
  · intro f hf; simp at hf
  · intro f hf; simp at hf
  · intro f hf; simp at hf
  · exact hid
  · intro f j h; simp at h
  · rw [hb]; intro b h; simp at h
  · rw [hb]; simp
  · rw [hb]; intro b; simp [restart]
  · intro name
    simp only [restart, findO, List.find?_nil]
    intro f hf _
    rw [hfiles] at hf
    simp [Abs.refs, Abs.rname, Abs.wname, idc_none _ (hid f hf)]
  · intro h; simp at h
  · simp [restart, hd, List.map_map, Function.comp_def, AFile.render, AFile.size]
  · rw [hfiles]; simp [restart, hd, sumSizes_render]
  · rw [hb]; simp [restart]
  · simp [restart, hd, sumSizes_render]
  · intro f hf; simp at hf

abbrev LiveE := Option Nat × Nat × Bytes

def liveRecs (cfg : Cfg) (rs : List ARec) : List LiveE :=
  (rs.filter (fun r => !r.dead cfg)).map (fun r => (r.id, r.time, r.body))
def fLive (cfg : Cfg) (f : AFile) : List LiveE := liveRecs cfg f.recs
def Abs.live (cfg : Cfg) (a : Abs) : List LiveE := a.files.flatMap (fLive cfg)

theorem liveRecs_append (cfg : Cfg) (a b : List ARec) : liveRecs cfg (a ++ b) = liveRecs cfg a ++ liveRecs cfg b := by
  simp [liveRecs]

theorem liveRecs_read (cfg : Cfg) (rs : List ARec) (h : ∀ r ∈ rs, unread cfg r = false) :
    ∀ e ∈ liveRecs cfg rs, e.1 ≠ none := by
  intro e he
  simp only [liveRecs, List.mem_map, List.mem_filter] at he
  obtain ⟨r, ⟨hr, hd⟩, rfl⟩ := he
  have := h r hr
  simp [unread, hasId] at this hd
  intro hn
  simp only at hn
  have := this hd
  rw [hn] at this; simp at this

theorem liveRecs_dead (cfg : Cfg) (rs : List ARec) (h1 : ∀ r ∈ rs, unread cfg r = false) (h2 : ∀ r ∈ rs, r.id = none) :
    liveRecs cfg rs = [] := by
  simp only [liveRecs, List.map_eq_nil_iff, List.filter_eq_nil_iff]
  intro r hr
  have a := h1 r hr
  have b := h2 r hr
  simp [unread, hasId, b] at a
  simp [a]

theorem liveRecs_split (cfg : Cfg) (r1 r2 : List ARec) (r : ARec) (hd : r.dead cfg = false) :
    liveRecs cfg (r1 ++ r :: r2) = liveRecs cfg r1 ++ (r.id, r.time, r.body) :: liveRecs cfg r2 := by
  simp [liveRecs, hd]

theorem unref_keep {s : Shard} {n : Nat} {o : OFile} (ho : findO s.ofiles n = some o) (hz : ¬ o.refCount - 1 = 0) :
    unref s n = { s with ofiles := mapO s.ofiles n (fun g => { g with refCount := g.refCount - 1 }) } := by
  simp [unref, ho, hz]

theorem unref_drop {s : Shard} {n : Nat} {o : OFile} (ho : findO s.ofiles n = some o) (hz : o.refCount - 1 = 0) :
    unref s n = { s with ofiles := s.ofiles.filter (fun g => g.name != n), total := s.total - o.size,
                         disk := s.disk.filter (fun g => g.name != n) } := by
  simp [unref, ho, hz]

theorem Abs.mem_files {a : Abs} {f : AFile} :
    f ∈ a.files ↔ f ∈ a.pre ++ a.new ∨ (∃ j, a.cur = some (f, j)) ∨ f ∈ a.wait := by
  have hc : f ∈ a.curL ↔ ∃ j, a.cur = some (f, j) := by
    unfold Abs.curL
    cases a.cur with
    | none => simp
    | some p => exact ⟨fun h => ⟨p.2, by rw [List.mem_singleton.mp h]⟩, fun ⟨j, h⟩ => by cases h; exact List.mem_singleton.mpr rfl⟩
  simp only [Abs.files, List.mem_append, hc, or_assoc, or_left_comm, or_comm]

theorem mem_files_of_pre_new {a : Abs} {f : AFile} (h : f ∈ a.pre ++ a.new) : f ∈ a.files :=
  Abs.mem_files.mpr (Or.inl h)

theorem Abs.files_of_cur {a : Abs} {f : AFile} {j : Nat} (hc : a.cur = some (f, j)) :
    a.files = a.pre ++ f :: (a.wait ++ a.new) := by
  simp [Abs.files, Abs.curL, hc]

theorem Inv.name_inj {cfg : Cfg} {s : Shard} {a : Abs} (inv : Inv cfg s a) {f g : AFile}
    (hf : f ∈ a.files) (hg : g ∈ a.files) (h : f.name = g.name) : f = g := by
  have hnd := nodup_of_pairwise_lt inv.names
  exact Lists.nodup_map_inj _ hnd f hf g hg h

/-- the `ofiles` clause of `Inv` for a name none of whose files a step touches: the step keeps which files carry that name,
    their reference counts and the read cursor on them, and does not change the file object (`x`) of that name -/
theorem Inv.ofiles_other {cfg : Cfg} {s : Shard} {a a' : Abs} (inv : Inv cfg s a) {name : Nat} {x : Option OFile}
    (hx : x = findO s.ofiles name)
    (hmem : ∀ g, g.name = name → (g ∈ a'.files ↔ g ∈ a.files))
    (hrefs : ∀ g ∈ a.files, g.name = name → a'.refs g = a.refs g)
    (hcur : ∀ g j, g.name = name → a'.cur = some (g, j) → a.cur = some (g, j)) :
    match x with
    | none => ∀ f ∈ a'.files, f.name = name → a'.refs f = 0
    | some o => o.name = name ∧ ∃ f ∈ a'.files, f.name = name ∧ o.refCount = a'.refs f ∧ 0 < a'.refs f ∧
        o.size = f.size cfg ∧ (∀ j, a'.cur = some (f, j) → o.nextPos = recsLen (f.recs.take j)) := by
  have h0 := inv.ofiles name
  rw [← hx] at h0
  cases x with
  | none =>
    intro g hg hgn
    have hg' := (hmem g hgn).mp hg
    rw [hrefs g hg' hgn]
    exact h0 g hg' hgn
  | some o =>
    obtain ⟨ho, g, hg, hgn, hrc, hpos, hsz, hc⟩ := h0
    rw [← hrefs g hg hgn] at hrc hpos
    exact ⟨ho, g, (hmem g hgn).mpr hg, hgn, hrc, hpos, hsz, fun j hj => hc j (hcur g j hgn hj)⟩

theorem Inv.id_live {cfg : Cfg} {s : Shard} {a : Abs} (inv : Inv cfg s a) : ∀ f ∈ a.files, ∀ q ∈ f.recs, q.id ≠ none → q.dead cfg = false :=
  fun f hf q hq => ((inv.wf f hf).1 q hq).id_live

theorem Inv.ofile_of_mem {cfg : Cfg} {s : Shard} {a : Abs} (inv : Inv cfg s a) {f : AFile} {o : OFile} (hf : f ∈ a.files)
    (ho : findO s.ofiles f.name = some o) :
    o.name = f.name ∧ o.refCount = a.refs f ∧ 0 < a.refs f ∧ o.size = f.size cfg ∧
      ∀ j, a.cur = some (f, j) → o.nextPos = recsLen (f.recs.take j) := by
  have h0 := inv.ofiles f.name
  rw [ho] at h0
  obtain ⟨hn, g, hg, hgn, hrc, hpos, hsz, hcur⟩ := h0
  have := inv.name_inj hg hf hgn
  subst this
  exact ⟨hn, hrc, hpos, hsz, hcur⟩

theorem Inv.ofile_some {cfg : Cfg} {s : Shard} {a : Abs} (inv : Inv cfg s a) {f : AFile} (hf : f ∈ a.files)
    (h1 : 1 ≤ a.refs f) : ∃ o, findO s.ofiles f.name = some o := by
  cases h : findO s.ofiles f.name with
  | none =>
    have h0 := inv.ofiles f.name
    rw [h] at h0
    rw [h0 f hf rfl] at h1
    exact absurd h1 (by decide)
  | some o => exact ⟨o, rfl⟩

theorem Abs.idc_le_refs (a : Abs) (f : AFile) : (idc f.recs : Int) ≤ a.refs f := by
  unfold Abs.refs
  split <;> split <;> omega

theorem Abs.refs_nonneg (a : Abs) (f : AFile) : 0 ≤ a.refs f :=
  Int.le_trans (Int.natCast_nonneg _) (a.idc_le_refs f)

theorem Abs.refs_succ {a a' : Abs} {f f' : AFile} (hn : f'.name = f.name) (hr : a'.rname = a.rname) (hw : a'.wname = a.wname)
    (hi : idc f'.recs = idc f.recs + 1) : a'.refs f' = a.refs f + 1 := by
  simp only [Abs.refs, hn, hr, hw, hi]
  omega

theorem pred_pos_of_ne {x : Int} (h1 : 1 ≤ x) (h : ¬ x - 1 = 0) : 0 < x - 1 := by
  omega

theorem Abs.one_le_refs_of_wname {a : Abs} {f : AFile} (h : a.wname = some f.name) : 1 ≤ a.refs f := by
  unfold Abs.refs
  rw [if_pos h]
  split <;> omega

theorem Abs.one_le_refs_of_rname {a : Abs} {f : AFile} (h : a.rname = some f.name) : 1 ≤ a.refs f := by
  unfold Abs.refs
  rw [if_pos h]
  split <;> omega

theorem Abs.refs_eq_one_of_wname {a : Abs} {f : AFile} (h : a.wname = some f.name) (h1 : a.refs f = 1) :
    idc f.recs = 0 ∧ a.rname ≠ some f.name := by
  unfold Abs.refs at h1
  rw [if_pos h] at h1
  constructor
  · split at h1 <;> omega
  · intro hr
    rw [if_pos hr] at h1
    omega

theorem Abs.refs_eq_one_of_idc_pos {a : Abs} {f : AFile} (h1 : a.refs f = 1) (hp : 0 < idc f.recs) :
    idc f.recs = 1 ∧ a.rname ≠ some f.name ∧ a.wname ≠ some f.name := by
  unfold Abs.refs at h1
  refine ⟨?_, ?_, ?_⟩
  · split at h1 <;> split at h1 <;> omega
  · intro h
    rw [if_pos h] at h1
    split at h1 <;> omega
  · intro h
    rw [if_pos h] at h1
    split at h1 <;> omega

theorem Inv.names_split {cfg : Cfg} {s : Shard} {a : Abs} (inv : Inv cfg s a) {F1 F2 : List AFile} {f : AFile}
    (hF : a.files = F1 ++ f :: F2) : ∀ x ∈ F1 ++ F2, x.name ≠ f.name := by
  have hnd := nodup_of_pairwise_lt inv.names
  rw [hF, List.map_append, List.map_cons] at hnd
  have hp := (List.perm_middle (a := f.name) (l₁ := F1.map (·.name)) (l₂ := F2.map (·.name))).nodup_iff.mp hnd
  rw [List.nodup_cons, ← List.map_append] at hp
  intro x hx e
  exact hp.1 (e ▸ List.mem_map.mpr ⟨x, hx, rfl⟩)

theorem Inv.replace_file {cfg : Cfg} {s : Shard} {a : Abs} (inv : Inv cfg s a) {F1 F2 : List AFile} {f f' : AFile}
    (hF : a.files = F1 ++ f :: F2) (hn : f'.name = f.name) (hwf : (∀ r ∈ f'.recs, r.WF cfg) ∧ TailStop f'.tl) :
    ((F1 ++ f' :: F2).map (·.name)).Pairwise (· < ·) ∧
      ∀ g ∈ F1 ++ f' :: F2, g.name < a.clock ∧ (∀ r ∈ g.recs, r.WF cfg) ∧ TailStop g.tl := by
  have hf : f ∈ a.files := by rw [hF]; exact List.mem_append_right _ List.mem_cons_self
  refine ⟨by simpa [hF, hn] using inv.names, fun g hg => ?_⟩
  have hg' : g = f' ∨ g ∈ a.files := by
    rw [hF]
    simp only [List.mem_append, List.mem_cons] at hg ⊢
    rcases hg with h | h | h
    · exact Or.inr (Or.inl h)
    · exact Or.inl h
    · exact Or.inr (Or.inr (Or.inr h))
  rcases hg' with rfl | h
  · exact ⟨hn ▸ inv.namesLt f hf, hwf⟩
  · exact ⟨inv.namesLt g h, inv.wf g h⟩

theorem Abs.wname_new {a : Abs} {n : Nat} (h : a.wname = some n) : ∃ g ∈ a.new, g.name = n := by
  unfold Abs.wname at h
  split at h
  · cases hl : a.new.getLast? with
    | none =>
      rw [hl] at h
      cases h
    | some g =>
      rw [hl] at h
      exact ⟨g, List.mem_of_getLast? hl, Option.some.inj h⟩
  · cases h

theorem Inv.wait_name_ne {cfg : Cfg} {s : Shard} {a : Abs} (inv : Inv cfg s a) {g f : AFile} (hg : g ∈ a.wait)
    (hf : f ∈ a.pre ++ a.new) : g.name ≠ f.name := by
  have h := inv.names
  simp only [Abs.files, List.map_append] at h
  obtain ⟨_, h1, h2⟩ := List.pairwise_append.mp h
  rcases List.mem_append.mp hf with hf | hf
  · exact Nat.ne_of_gt (h2 _ (List.mem_map_of_mem hf) _
      (List.mem_append_right _ (List.mem_append_left _ (List.mem_map_of_mem hg))))
  · exact Nat.ne_of_lt ((List.pairwise_append.mp (List.pairwise_append.mp h1).2.1).2.2 _ (List.mem_map_of_mem hg) _
      (List.mem_map_of_mem hf))

end SH.C09
