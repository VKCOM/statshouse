/-
  SH.Lemmas.DeliveryMain — `steps_step`: every operation but a process restart keeps `SInv`, only adds to the ghost list
  `flushed` and erases a disk record only after an acknowledgement (`AckDelivered`) or as a recorded drop; the erase-trace
  lemma `erase_step` is its third component, `sinv_step` and `flushed_step` hold for every operation (the restart proved
  apart); `sinv_init` and the induction over operation lists; a restart keeps the second of every record (`restart_secs`). On
  top of the per-operation lemmas of SH.Lemmas.Delivery, DeliveryRace (recv, tick, tickRace) and DeliveryEraser (erase).
-/
import SH.Lemmas.Delivery
import SH.Lemmas.DeliveryRace
import SH.Lemmas.DeliveryEraser
namespace SH.Delivery
open SH.Gen.C01

/-- operation `op` in state `s` delivers, to the sender blocked on request `rid`, an answer that tells it to discard
second `sec` — and that sender's request carried `sec` -/
def AckDelivered (s : State) (op : Op) (sec : Nat) : Prop :=
  ∃ rid a f, op = .resp rid ∧ a ∈ s.resps ∧ a.rid = rid ∧ a.discard = true ∧ a.err = false ∧ a.sec = sec ∧
    f ∈ s.ag.flights ∧ f.rid = rid ∧ f.cbd.sec = sec

/-- every operation but a process restart (which reads the records back under new ids, so `Extra` fails there): the invariant, and
what it did to `flushed`, the disk records and `dropped` -/
theorem steps_step {s : State} (op : Op) (hop : ∀ c, op ≠ .agentRestart c) (h : SInv s []) :
    Steps (AckDelivered s op) s (step s op).1 [] := by
  cases op with
  | overflow t => exact steps_overflow t h
  | recent t => exact steps_recent t h
  | recv rid => exact steps_recv rid h
  | tick r now ok => exact steps_tick r now ok h
  | resp rid =>
    exact steps_resp rid h fun a ha f hf har hfr hd he hsec => ⟨rid, a, f, rfl, ha, har, hd, he, hsec, hf, hfr, rfl⟩
  | drop rid => exact steps_drop rid h
  | pop now => exact steps_pop now h
  | alive r b => exact steps_agentFrame h rfl rfl rfl rfl rfl rfl
  | down r => exact steps_down r h
  | up r now => exact steps_up r now h
  | agentRestart c => exact absurd rfl (hop c)
  | ballast k => exact steps_agentFrame h rfl rfl rfl rfl rfl rfl
  | diskOk b => exact steps_agentFrame h rfl rfl rfl rfl rfl rfl
  | bad r => exact steps_bad r h
  | tickRace r n1 n2 rid ok => exact steps_tickRace r n1 n2 rid ok h
  | erase now over => exact steps_erase now over h

/-- which operations make a disk record of the agent disappear: the step form of `SH.Props.C01.erase_trace` -/
theorem erase_step {s : State} (h : SInv s []) (op : Op) (hop : ∀ c, op ≠ .agentRestart c) {r : Rec}
    (hr : r ∈ s.ag.recs) (hid : r.id ≠ 0) :
    r ∈ (step s op).1.ag.recs ∨ AckDelivered s op r.sec ∨ r.sec ∈ (step s op).1.ag.dropped :=
  (steps_step op hop h).extra.2 r hr hid

theorem flushed_step {s : State} (h : SInv s []) (op : Op) : ∀ t ∈ s.flushed, t ∈ (step s op).1.flushed := by
  cases op with
  | agentRestart c =>
    simp only [step, stepAgentRestart]
    exact fun _ ht => ht
  | _ => exact (steps_step _ (fun _ hc => Op.noConfusion hc) h).flushed

theorem sinv_step {s : State} (op : Op) (h : SInv s []) : SInv (step s op).1 [] := by
  cases op with
  | agentRestart c => exact sinv_agentRestart c h
  | _ => exact (steps_step _ (fun _ hc => Op.noConfusion hc) h).sinv

theorem sinv_init (disk saveFirst : Bool) (agentNow window shortWindow aggNow : Nat) :
    SInv (init disk saveFirst agentNow window shortWindow aggNow) [] := by
  have hb : ∀ g ∈ (init disk saveFirst agentNow window shortWindow aggNow).aggs, ∀ b ∈ g.recent ++ g.historic, b.reqs = [] := by
    intro g hg b hb
    obtain ⟨_, _, rfl⟩ := List.mem_map.1 hg
    simp only [List.append_nil] at hb
    exact (advance_mem (Or.inr hb)).resolve_left List.not_mem_nil
  have htags : ∀ p ∈ ridTags (init disk saveFirst agentNow window shortWindow aggNow), False := by
    refine forall_ridTags.2 ⟨fun _ h => List.not_mem_nil h, fun _ h => List.not_mem_nil h, fun _ h => List.not_mem_nil h, fun p hp => ?_⟩
    obtain ⟨g, hg, b, hb', hp⟩ := mem_parked.1 hp
    exact List.not_mem_nil (hb g hg b hb' ▸ hp)
  exact ⟨AInv.of_unread rfl rfl fun _ h => absurd h List.not_mem_nil,
    fun p hp => (htags p hp).elim, fun p hp => (htags p hp).elim, fun _ h => absurd h List.not_mem_nil,
    fun g hg b hb' p hp => absurd (hb g hg b hb' ▸ hp) List.not_mem_nil, fun _ h => absurd h List.not_mem_nil⟩

theorem sinv_run {s : State} (h : SInv s []) (ops : List Op) : SInv (run s ops) [] := by
  induction ops generalizing s with
  | nil => exact h
  | cons o os ih => exact ih (sinv_step o h)

theorem removeFlight_recs (a : Agent) (rid : Nat) : (removeFlight a rid).recs = a.recs ∧ (removeFlight a rid).dropped = a.dropped := ⟨rfl, rfl⟩

theorem readNext_secs {a : Agent} {r : Rec} (h : r ∈ a.recs) : ∃ r' ∈ (readNext a).recs, r'.sec = r.sec := by
  rcases readNext_cases a with he | ⟨r0, rs, _, _, hnew, _, hcov, he⟩ <;> rw [he]
  · exact ⟨r, h, rfl⟩
  · rcases hcov r h with h | rfl
    · exact ⟨r, h, rfl⟩
    · exact ⟨_, hnew, rfl⟩

theorem readN_secs (n : Nat) {a : Agent} {r : Rec} (h : r ∈ a.recs) : ∃ r' ∈ (readN n a).recs, r'.sec = r.sec := by
  induction n generalizing a r with
  | zero => exact ⟨r, h, rfl⟩
  | succ n ih =>
    unfold readN
    obtain ⟨r1, h1, e1⟩ := readNext_secs h
    obtain ⟨r2, h2, e2⟩ := ih h1
    exact ⟨r2, h2, e2.trans e1⟩

theorem restart_secs (s : State) (crash : Bool) {r : Rec} (hr : r ∈ s.ag.recs) :
    ∃ r' ∈ (step s (.agentRestart crash)).1.ag.recs, r'.sec = r.sec := by
  simp only [step, stepAgentRestart]
  have hb : r ∈ (if crash = true then s.ag else flushFlights s.ag.flights s.ag).recs := by
    split
    · exact hr
    · exact (flushFlights_facts s.ag.flights s.ag).1 r hr
  exact readN_secs startupReads (r := ⟨r.sec, 0⟩) (mem_resetIds hb)

end SH.Delivery
