/-
  SH.Lemmas.BinlogRot — reader steps stated on a position/crc/rest view of the state (`At`), without the 50 MB
  "big uncommitted tail" side condition, for every record kind the writer produces, and the loop's equations; then the header
  `scanHeader` reads off a file that starts with ROTATE_FROM (`hdrOf`).
-/
import SH.Lemmas.Binlog
open SH.Binlog
namespace SH.C18

/-- the reader is at global position `pos` with running checksum `crc`, `rest` is what remains of the file, the engine's own
    offset agrees, and `slack` is what `readFile` computed (all consumptions are multiples of 4) -/
structure At (s : RS) (pos : Nat) (crc : UInt32) (rest : Bytes) : Prop where
  hpos : s.pos = (pos : Int)
  hcrc : s.crc = crc
  hrest : s.rest = rest
  hoff : s.eng.off = (pos : Int)
  hdk : s.dk = false
  hslack : s.slack = rest.length % 4

theorem At.pre {s : RS} {p : Nat} {c : UInt32} {r : Bytes} (h : At s p c r) : At (preCommit s) p c r :=
  ⟨by simpa using h.hpos, by simpa using h.hcrc, by simpa using h.hrest, by simpa using h.hoff, by simpa using h.hdk,
   by simpa using h.hslack⟩

theorem step_event (cfg : Cfg) (hm : cfg.evMagic < 4294967296) (hsvc : cfg.evMagic ∉ serviceMagics) (s : RS) (p : Nat) (c : UInt32)
    (b R : Bytes) (hb : b.length < 4294967296) (h : At s p c (padded (encEvent cfg.evMagic b) ++ R)) :
    ∃ s', readStep cfg s = .cont s' ∧ At s' (p + pad4 (8 + b.length)) (cfg.upd c (padded (encEvent cfg.evMagic b))) R ∧
      s'.eng.evs = ((p : Int), encEvent cfg.evMagic b) :: s.eng.evs := by
  have hsl : s.slack ≤ R.length := by
    rw [h.hslack]; simp only [List.length_append, padded_length, encEvent_length]
    have := pad4_mod (8 + b.length); omega
  refine ⟨_, readStep_event cfg s b R hm (kindOf_user hsvc) hb h.hrest h.hdk (by rw [h.hoff, h.hpos]) hsl,
    ⟨?_, ?_, rfl, ?_, rfl, ?_⟩, ?_⟩
  · simp [afterEvent, h.hpos]
  · simp [afterEvent, h.hcrc]
  · simp [afterEvent, h.hoff]
  · simp only [afterEvent, pre_slack, h.hslack, List.length_append, padded_length, encEvent_length]
    have := pad4_mod (8 + b.length); omega
  · simp [afterEvent, h.hoff]

/-- a record of kind `k` that the loop only skips when all its `n` bytes are there (`Engine.Skip` and the position check):
    LevStart, tag, crc record, ROTATE_FROM; `T` is the timestamp the record leaves in the reader -/
theorem step_skipRec (cfg : Cfg) (s : RS) (p : Nat) (c : UInt32) (rec R : Bytes) (k : Kind) (n : Nat) (T : RS → Nat)
    (hn : rec.length = n) (hn4 : n % 4 = 0) (h4 : 4 ≤ n) (hk : kindOf (rd32 (rec ++ R)) = k)
    (hX : ∀ s0 : RS, atLeast s0.rest n = true → s0.rest = rec ++ R → s0.crc = c →
      stepKind cfg s0 k = skipLev cfg { s0 with ts := T s0 } n)
    (h : At s p c (rec ++ R)) :
    ∃ s', readStep cfg s = .cont s' ∧ At s' (p + n) (cfg.upd c rec) R ∧ s'.eng.evs = s.eng.evs := by
  have hp := h.pre
  have hN : atLeast (preCommit s).rest n = true := by
    rw [atLeast_iff, hp.hrest, List.length_append, hn]; exact Nat.le_add_right _ _
  have hoffeq : (preCommit s).eng.off + (n : Int) = (preCommit s).pos + (n : Int) := by rw [hp.hoff, hp.hpos]
  have t1 : (preCommit s).rest.take n = rec := by rw [hp.hrest]; exact List.take_left' hn
  have t2 : (preCommit s).rest.drop n = R := by rw [hp.hrest]; exact List.drop_left' hn
  rw [readStep_kind cfg (by rw [h.hrest, List.length_append, hn]; omega), h.hrest, hk, hX _ hN hp.hrest hp.hcrc]
  simp only [skipLev, ne_eq, hoffeq, not_true_eq_false, if_false]
  refine ⟨_, rfl, ⟨?_, ?_, ?_, ?_, rfl, ?_⟩, ?_⟩
  · simp [RS.advance, h.hpos]
  · simp only [RS.advance, t1, hp.hcrc]
  · simp only [RS.advance, t2]
  · simp [RS.advance, h.hpos]
  · simp only [RS.advance, pre_slack, h.hslack, List.length_append, hn]; omega
  · simp [RS.advance]

theorem step_crc (cfg : Cfg) (s : RS) (p : Nat) (c : UInt32) (ts q : Nat) (R : Bytes) (h : At s p c (encCrc ts q c ++ R)) :
    ∃ s', readStep cfg s = .cont s' ∧ At s' (p + 20) (cfg.upd c (encCrc ts q c)) R ∧ s'.eng.evs = s.eng.evs :=
  step_skipRec cfg s p c _ R .crc 20 (fun s0 => rd32 (s0.rest.drop 4)) (encCrc_length ..) (by decide) (by decide)
    (by rw [rd32_crc_magic]; decide)
    (fun s0 hN hr hc => by
      have hmm : ¬ crcMismatch s0 = true := by unfold crcMismatch; rw [hr, rd32_crc_crc, hc]; simp
      rw [stepKind, stepCrc, levCrcSize, if_pos hN, if_neg hmm]) h

@[simp] theorem encRotTo_length (ts np : Nat) (c : UInt32) (a b : Nat) : (encRotTo ts np c a b).length = 36 := by simp [encRotTo]
@[simp] theorem encRotFrom_length (ts np : Nat) (c : UInt32) (a b : Nat) : (encRotFrom ts np c a b).length = 36 := by simp [encRotFrom]

theorem rd32_rotTo (ts np : Nat) (c : UInt32) (a b : Nat) : rd32 (encRotTo ts np c a b) = magicRotTo := by
  simp only [encRotTo, List.append_assoc]; exact rd32_le32 _ (by decide) _

theorem rd32_rotFrom (ts np : Nat) (c : UInt32) (a b : Nat) (R : Bytes) : rd32 (encRotFrom ts np c a b ++ R) = magicRotFrom := by
  simp only [encRotFrom, List.append_assoc]; exact rd32_le32 _ (by decide) _

/-- ROTATE_TO at the end of a file: the file is finished, Skip was called (position and checksum stay in front of the record) -/
theorem step_rotTo (cfg : Cfg) (s : RS) (p : Nat) (c : UInt32) (ts np : Nat) (c' : UInt32) (a b : Nat)
    (h : At s p c (encRotTo ts np c' a b)) :
    ∃ s', readStep cfg s = .rotated s' ∧ s'.eng.off = ((p + 36 : Nat) : Int) ∧ s'.eng.evs = s.eng.evs := by
  have hp := h.pre
  have h36 : atLeast (preCommit s).rest levRotateSize = true := by rw [atLeast_iff, hp.hrest]; simp [levRotateSize]
  have hoff : (preCommit s).eng.off + (levRotateSize : Nat) = (preCommit s).pos + (levRotateSize : Nat) := by rw [hp.hoff, hp.hpos]
  refine ⟨{ preCommit s with eng := { (preCommit s).eng with off := (preCommit s).eng.off + levRotateSize }, dk := false }, ?_, ?_, ?_⟩
  · rw [readStep_kind cfg (by rw [h.hrest]; simp), h.hrest, rd32_rotTo]
    simp only [show kindOf magicRotTo = .rotTo by decide, stepKind, stepRotTo, h36, if_true]
    simp [h.hoff, h.hpos]
  · simp [h.hoff, levRotateSize]
  · simp

theorem step_rotFrom (cfg : Cfg) (s : RS) (p : Nat) (c : UInt32) (ts np : Nat) (c' : UInt32) (a b : Nat) (R : Bytes)
    (h : At s p c (encRotFrom ts np c' a b ++ R)) :
    ∃ s', readStep cfg s = .cont s' ∧ At s' (p + 36) (cfg.upd c (encRotFrom ts np c' a b)) R ∧ s'.eng.evs = s.eng.evs :=
  step_skipRec cfg s p c _ R .rotFrom 36 (fun s0 => rd32 (s0.rest.drop 4)) (encRotFrom_length ..) (by decide) (by decide)
    (by rw [rd32_rotFrom]; decide) (fun s0 hN _ _ => by rw [stepKind, stepRotFrom, levRotateSize, if_pos hN]) h

theorem step_start (cfg : Cfg) (s : RS) (p : Nat) (c : UInt32) (x R : Bytes) (hx : x.length = 20)
    (h : At s p c ((le32 magicStart ++ x) ++ R)) :
    ∃ s', readStep cfg s = .cont s' ∧ At s' (p + 24) (cfg.upd c (le32 magicStart ++ x)) R ∧ s'.eng.evs = s.eng.evs :=
  step_skipRec cfg s p c _ R .start 24 (·.ts) (by rw [List.length_append, hx]; rfl) (by decide) (by decide)
    (by rw [List.append_assoc, rd32_le32 _ (by decide)]; decide) (fun s0 hN _ _ => by rw [stepKind, stepStart, if_pos hN]) h

theorem step_tag (cfg : Cfg) (s : RS) (p : Nat) (c : UInt32) (x R : Bytes) (hx : x.length = 16)
    (h : At s p c ((le32 magicTag ++ x) ++ R)) :
    ∃ s', readStep cfg s = .cont s' ∧ At s' (p + 20) (cfg.upd c (le32 magicTag ++ x)) R ∧ s'.eng.evs = s.eng.evs :=
  step_skipRec cfg s p c _ R .tag 20 (·.ts) (by rw [List.length_append, hx]; rfl) (by decide) (by decide)
    (by rw [List.append_assoc, rd32_le32 _ (by decide)]; decide) (fun s0 hN _ _ => by rw [stepKind, stepTag, if_pos hN]) h

theorem readLoop_cont {cfg : Cfg} {s s' : RS} (f : Nat) (h : readStep cfg s = .cont s') :
    readLoop cfg (f + 1) s = readLoop cfg f s' := by simp only [readLoop, h]

theorem readLoop_rotated {cfg : Cfg} {s s' : RS} (f : Nat) (h : readStep cfg s = .rotated s') :
    readLoop cfg (f + 1) s = { s := s'.commit, rotated := true, err := none } := by simp only [readLoop, h]

theorem readLoop_eof {cfg : Cfg} {s s' : RS} (f : Nat) (h : readStep cfg s = .eof s') :
    readLoop cfg (f + 1) s = { s := s'.commit, rotated := false, err := none } := by simp only [readLoop, h]

theorem readLoop_end (cfg : Cfg) (f : Nat) {s : RS} {p : Nat} {c : UInt32} (h : At s p c []) :
    (readLoop cfg (f + 1) s).err = none ∧ (readLoop cfg (f + 1) s).rotated = false ∧
    (readLoop cfg (f + 1) s).s.eng.evs = s.eng.evs ∧ (readLoop cfg (f + 1) s).s.pos = p ∧ (readLoop cfg (f + 1) s).s.crc = c := by
  rw [readLoop_eof f (readStep_short cfg (by rw [h.hrest]; decide))]
  refine ⟨rfl, rfl, ?_, ?_, ?_⟩
  · rw [commit_evs, pre_evs]
  · rw [commit_pos, pre_pos]
    exact h.hpos
  · rw [commit_crc, pre_crc]
    exact h.hcrc

theorem rd64_le64 (x : Nat) (h : x < 18446744073709551616) (t : Bytes) : rd64 (le64 x ++ t) = x := by
  show rd32 (le64 x ++ t) + 4294967296 * rd32 ((le64 x ++ t).drop 4) = x
  rw [show rd32 (le64 x ++ t) = x % 4294967296 from rd32_le32 _ (Nat.mod_lt _ (by decide)) [],
    show rd32 ((le64 x ++ t).drop 4) = x / 4294967296 % 4294967296 from rd32_le32 _ (Nat.mod_lt _ (by decide)) [],
    ← Nat.mod_mul, Nat.mod_eq_of_lt h]

/-- what `scanHeader` makes of a file that starts with a ROTATE_FROM record -/
def hdrOf (d : Bytes) : Hdr :=
  { pos := s64 (rd64 (d.drop 8)), crc := UInt32.ofNat (rd32 (d.drop 16)), ts := rd32 (d.drop 4), curHash := rd64 (d.drop 28), data := d }

theorem hdrOf_rotFrom (ts np : Nat) (c : UInt32) (a b : Nat) (R : Bytes) (hnp : np < 9223372036854775808) :
    (hdrOf (encRotFrom ts np c a b ++ R)).pos = (np : Int) ∧ (hdrOf (encRotFrom ts np c a b ++ R)).crc = c := by
  have h8 : (encRotFrom ts np c a b ++ R).drop 8 = le64 np ++ (le32 c.toNat ++ (le64 a ++ (le64 b ++ R))) := by
    simp only [encRotFrom, List.append_assoc]
    rfl
  have h16 : (encRotFrom ts np c a b ++ R).drop 16 = le32 c.toNat ++ (le64 a ++ (le64 b ++ R)) := by
    simp only [encRotFrom, List.append_assoc]
    rfl
  refine ⟨?_, ?_⟩
  · simp only [hdrOf]
    rw [h8, rd64_le64 np (by omega), s64, if_pos hnp]
  · simp only [hdrOf]
    rw [h16, rd32_le32 _ (UInt32.toNat_lt c)]
    exact UInt32.ofNat_toNat

theorem scanHeader_rotFrom (cfg : Cfg) (ts np : Nat) (c : UInt32) (a b : Nat) (R : Bytes) :
    scanHeader cfg (encRotFrom ts np c a b ++ R) = .ok (hdrOf (encRotFrom ts np c a b ++ R)) := by
  have h4 : atLeast (encRotFrom ts np c a b ++ R) 4 = true := by rw [atLeast_iff]; simp; omega
  have h36 : atLeast (encRotFrom ts np c a b ++ R) levRotateSize = true := by rw [atLeast_iff]; simp [levRotateSize]
  have hne : (encRotFrom ts np c a b ++ R).isEmpty = false := by simp [encRotFrom, le32]
  have hm1 : magicRotFrom ≠ magicStart := by decide
  simp [scanHeader, hne, h4, h36, rd32_rotFrom, hm1, hdrOf]

end SH.C18
