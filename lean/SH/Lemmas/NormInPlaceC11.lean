/-
  SH.Lemmas.NormInPlaceC11 — the array-level model of ForceValidStringValueBytes (dst aliases src) against the
  value-level model `force`: the buffered loop (the code as it is) on every input, the direct-append variant under
  `nonGrowing` (defined here); poke_drop and poke_length serve the direct half, poke_self says of the fast path's copy
  onto itself that it changes nothing.
-/
import SH.Lemmas.NormC11

namespace SH.Norm

/-- copying a prefix of the array onto itself (`append(b[:0], b...)`, a memmove) leaves the array as it was -/
theorem poke_self (arr : List UInt8) (n : Nat) (hn : n ≤ arr.length) : poke arr 0 (arr.take n) = arr := by
  have : (arr.take n).length = n := List.length_take_of_le hn
  simp [poke, this]

theorem appendAtZero_value (arr v : List UInt8) : (appendAtZero arr v).value = v := by
  unfold appendAtZero
  split <;> rfl

/-- every rune the slow path writes is no longer than what it consumed: a per-rune condition, sufficient and not
    necessary (after skipped whitespace a growing rune may still fit), for the direct variant's write index to stay
    behind the read index -/
def nonGrowing (T : Tables) : Nat → List UInt8 → Bool → Bool
  | 0, _, _ => true
  | _ + 1, [], _ => true
  | f + 1, c :: rest, prev =>
    match classify T (decodeRune (c :: rest)).1 prev with
    | none => nonGrowing T f ((c :: rest).drop (decodeRune (c :: rest)).2) prev
    | some (ru, sp) =>
      decide ((encodeRune ru).length ≤ (decodeRune (c :: rest)).2) &&
        nonGrowing T f ((c :: rest).drop (decodeRune (c :: rest)).2) sp

theorem poke_drop (arr : List UInt8) (off : Nat) (e : List UInt8) (k : Nat)
    (h1 : off + e.length ≤ k) (h2 : off + e.length ≤ arr.length) : (poke arr off e).drop k = arr.drop k := by
  unfold poke
  have hl : (arr.take off ++ e).length = off + e.length := by
    rw [List.length_append, List.length_take_of_le (by omega)]
  rw [List.drop_append, List.drop_eq_nil_of_le (by omega), hl, List.nil_append, List.drop_drop]
  congr 1; omega

theorem poke_length (arr : List UInt8) (off : Nat) (e : List UInt8) (h2 : off + e.length ≤ arr.length) :
    (poke arr off e).length = arr.length := by
  rw [poke, List.length_append, List.length_append, List.length_take_of_le (by omega), List.length_drop]
  omega

theorem emitIP_direct (st : IPState) (e : List UInt8) (sp : Bool) (hd : st.detached = false)
    (hfit : st.out.length + e.length ≤ st.arr.length) :
    emitIP .direct st e sp = { st with arr := poke st.arr st.out.length e, out := st.out ++ e, prev := sp } := by
  rw [emitIP, hd, decide_eq_true hfit]
  rfl

/-- the array-level loop against the value-level loop on the unread bytes.  Buffered (the code as it is): the shared array
    is not written, every read sees the caller's bytes: the equation, and `arr` unchanged.  Direct: the array is written;
    the equation alone, as long as `out.length ≤ r` (kept by nonGrowing), so that no unread byte is overwritten. -/
theorem slowIP_value (T : Tables) (maxLen : Nat) : ∀ (fuel n r : Nat) (st : IPState),
    (slowLoop T true maxLen fuel ((st.arr.take n).drop r) st.out st.prev =
        some ((slowLoopIP .buffered T maxLen fuel n r st).out, (slowLoopIP .buffered T maxLen fuel n r st).prev) ∧
      (slowLoopIP .buffered T maxLen fuel n r st).arr = st.arr) ∧
    (n ≤ st.arr.length → st.detached = false → st.out.length ≤ r →
      nonGrowing T fuel ((st.arr.take n).drop r) st.prev = true →
      slowLoop T true maxLen fuel ((st.arr.take n).drop r) st.out st.prev =
        some ((slowLoopIP .direct T maxLen fuel n r st).out, (slowLoopIP .direct T maxLen fuel n r st).prev)) := by
  intro fuel
  induction fuel with
  | zero =>
    intro n r st
    exact ⟨⟨rfl, rfl⟩, fun _ _ _ _ => rfl⟩
  | succ f ih =>
    intro n r st
    cases hv : (st.arr.take n).drop r with
    | nil =>
      rw [slowLoopIP, slowLoopIP, hv]
      exact ⟨⟨rfl, rfl⟩, fun _ _ _ _ => rfl⟩
    | cons c rest =>
      have hdrop : (c :: rest).drop (decodeRune (c :: rest)).2 = (st.arr.take n).drop (r + (decodeRune (c :: rest)).2) := by
        rw [← hv, List.drop_drop]
      rw [slowLoopIP, slowLoopIP, hv, nonGrowing, slowLoop, Bool.not_true, Bool.and_false, if_neg Bool.false_ne_true, hdrop]
      dsimp only
      cases classify T (decodeRune (c :: rest)).1 st.prev with
      | none => exact ⟨(ih n _ st).1, fun hn hd hw hg => (ih n _ st).2 hn hd (Nat.le_add_right_of_le hw) hg⟩
      | some pr =>
        obtain ⟨ru, sp⟩ := pr
        simp only [Bool.and_eq_true, decide_eq_true_eq]
        split
        · exact ⟨⟨rfl, rfl⟩, fun _ _ _ _ => rfl⟩
        · refine ⟨(ih n _ (emitIP .buffered st (encodeRune ru) sp)).1, fun hn hd hw hg => ?_⟩
          have hwid := decode_width c rest
          have hvl : (c :: rest).length ≤ n - r := by
            rw [← hv]
            simp only [List.length_drop, List.length_take]
            omega
          simp only [List.length_cons] at hwid hvl
          have hfit : st.out.length + (encodeRune ru).length ≤ st.arr.length := by omega
          have hview : ((poke st.arr st.out.length (encodeRune ru)).take n).drop (r + (decodeRune (c :: rest)).2) =
              (st.arr.take n).drop (r + (decodeRune (c :: rest)).2) := by
            rw [List.drop_take, List.drop_take, poke_drop _ _ _ _ (by omega) hfit]
          rw [emitIP_direct st _ sp hd hfit, ← hview]
          exact (ih n _ { st with arr := poke st.arr st.out.length (encodeRune ru), out := st.out ++ encodeRune ru, prev := sp }).2
            (by rw [poke_length _ _ _ hfit]; exact hn) hd (by simp only [List.length_append]; omega)
            (by rw [hview]; exact hg.2)

/-- the in-place call against `force`: the whole result for the code as it is, the returned value for the direct-append
    variant under nonGrowing -/
theorem forceInPlace_force (T : Tables) (maxLen : Nat) (arr : List UInt8) (n : Nat) (hn : n ≤ arr.length) :
    forceInPlace .buffered T maxLen arr n = appendAtZero arr (force T maxLen (arr.take n)) ∧
    (nonGrowing T (n + 1) (arr.take n) true = true →
      (forceInPlace .direct T maxLen arr n).value = force T maxLen (arr.take n)) := by
  have hlen : (arr.take n).length = n := List.length_take_of_le hn
  unfold forceInPlace force appendValid
  by_cases h0 : (arr.take n).isEmpty = true
  · simp [h0, appendAtZero, poke]
  · simp only [h0, Bool.false_eq_true, ↓reduceIte, List.nil_append]
    by_cases h1 : (decide ((arr.take n).length ≤ maxLen) && fastOk (arr.take n)) = true
    · simp only [h1, ↓reduceIte, Option.getD_some]
      exact ⟨trivial, fun _ => appendAtZero_value arr _⟩
    · simp only [h1, Bool.false_eq_true, ↓reduceIte]
      have h := slowIP_value T maxLen (n + 1) n 0 { arr := arr, detached := false, out := [], prev := true }
      simp only [List.drop_zero] at h
      rw [hlen]
      refine ⟨?_, fun hg => ?_⟩
      · rw [h.1.1, h.1.2]
        rfl
      · rw [h.2 hn trivial (Nat.zero_le _) hg]
        rfl

end SH.Norm
