/-
  SH.Lemmas.MetaFlood — what the property files need to know about the mapping-side model functions, each said once: lookups in a
  flood table after `filter` / `setFlood`, `putMany` as iterated `putOne` (`putMany_ind`), reset-flood as a rewrite of the flood table
  (`resetTable`, `resetFlood_eq`), the complete case analysis of get-or-create (`NewFree`, `GocShape`, `goc_shape`) and the clock arithmetic of
  calcBudget when nothing wraps. (The case analysis of SaveEntity, `Shape` / `save_shape`, is in SH.Props.C15.)
-/
import SH.Model.Meta

namespace SH.MetaFlood
open SH.Meta

theorem lookup_filter_ne (m m' : Nat) (h : m' ≠ m) : ∀ fl : List Flood,
    lookupFlood (fl.filter (fun g => g.metric != m')) m = lookupFlood fl m := by
  intro fl
  induction fl with
  | nil => rfl
  | cons x xs ih =>
    unfold lookupFlood at ih ⊢
    by_cases hx : x.metric = m'
    · have h1 : (x.metric != m') = false := by simp [hx]
      have h2 : (x.metric == m) = false := by simp [hx, h]
      rw [List.filter_cons, if_neg (by simp [h1]), List.find?_cons, h2]
      exact ih
    · have h1 : (x.metric != m') = true := by simp [hx]
      rw [List.filter_cons, if_pos h1, List.find?_cons, List.find?_cons]
      cases hm : (x.metric == m) with
      | true => rfl
      | false => exact ih

theorem lookup_setFlood_ne (fl : List Flood) (f : Flood) (m : Nat) (h : f.metric ≠ m) :
    lookupFlood (setFlood fl f) m = lookupFlood fl m := by
  have h2 : (f.metric == m) = false := by simp [h]
  unfold setFlood lookupFlood
  rw [List.find?_cons, h2]
  exact lookup_filter_ne m f.metric h fl

theorem lookup_setFlood_eq (fl : List Flood) (f : Flood) : lookupFlood (setFlood fl f) f.metric = some f := by
  unfold setFlood lookupFlood
  rw [List.find?_cons]
  simp

theorem lookupFlood_mem {fl : List Flood} {m : Nat} {f : Flood} (h : lookupFlood fl m = some f) : f ∈ fl :=
  List.mem_of_find?_eq_some h

theorem mem_setFlood {fl : List Flood} {f g : Flood} (h : g ∈ setFlood fl f) : g = f ∨ g ∈ fl := by
  unfold setFlood at h
  rcases List.mem_cons.mp h with h | h
  · exact Or.inl h
  · exact Or.inr (List.mem_filter.mp h).1

theorem putMany_ind {R : State → State → Prop} (hrefl : ∀ s, R s s) (hput : ∀ s k v t, R (putOne s k v) t → R s t) :
    ∀ (kvs : List (Nat × Int)) (s : State), R s (putMany s kvs) := by
  intro kvs
  induction kvs with
  | nil => exact hrefl
  | cons kv rest ih => exact fun s => hput s kv.1 kv.2 _ (ih _)

theorem putMany_frame (kvs : List (Nat × Int)) (s : State) :
    (putMany s kvs).ents = s.ents ∧ (putMany s kvs).hist = s.hist ∧ (putMany s kvs).entSeq = s.entSeq ∧
    (putMany s kvs).flood = s.flood ∧ (putMany s kvs).lastCreated = s.lastCreated :=
  putMany_ind (R := fun s t => t.ents = s.ents ∧ t.hist = s.hist ∧ t.entSeq = s.entSeq ∧ t.flood = s.flood ∧
    t.lastCreated = s.lastCreated) (fun _ => ⟨rfl, rfl, rfl, rfl, rfl⟩) (fun _ _ _ _ h => h) kvs s

/-- the flood table after ResetFlood: the metric's row is removed (limit ≤ 0: it starts again from maxBudget) or set -/
def resetTable (c : Cfg) (fl : List Flood) (m : Nat) (l : Int) (now : Nat) : List Flood :=
  if l ≤ 0 then fl.filter (fun g => g.metric != m) else setFlood fl { metric := m, last := now, free := resetAfter c l }

theorem resetFlood_eq (c : Cfg) (s : State) (m : Nat) (l : Int) (now : Nat) :
    resetFlood c s m l now = ({ s with flood := resetTable c s.flood m l now }, freeCount c s, resetAfter c l) := by
  unfold resetFlood resetTable
  split <;> rfl

theorem lookup_resetTable_ne (c : Cfg) (fl : List Flood) {m m' : Nat} (l : Int) (now : Nat) (h : m' ≠ m) :
    lookupFlood (resetTable c fl m' l now) m = lookupFlood fl m := by
  unfold resetTable
  split
  · exact lookup_filter_ne m m' h fl
  · exact lookup_setFlood_ne fl _ m h

theorem lookup_resetTable_eq (c : Cfg) (fl : List Flood) (m : Nat) (l : Int) (now : Nat) :
    lookupFlood (resetTable c fl m l now) m
      = if l ≤ 0 then none else some { metric := m, last := now, free := resetAfter c l } := by
  unfold resetTable
  split
  · unfold lookupFlood
    rw [List.find?_eq_none]
    intro x hx
    simpa using (List.mem_filter.mp hx).2
  · exact lookup_setFlood_eq fl _

theorem mem_resetTable {c : Cfg} {fl : List Flood} {m : Nat} {l : Int} {now : Nat} {g : Flood}
    (h : g ∈ resetTable c fl m l now) : g = { metric := m, last := now, free := resetAfter c l } ∨ g ∈ fl := by
  unfold resetTable at h
  split at h
  · exact Or.inr (List.mem_filter.mp h).1
  · exact mem_setFlood h

/-- the budget a creation for `m` at time `now` writes into `m`'s flood row: `budgetFor` of the old row unless that is a flood hit;
    maxBudget − 1 when there is no row -/
def NewFree (c : Cfg) (s : State) (m now : Nat) (free : Int) : Prop :=
  (∃ f, lookupFlood s.flood m = some f ∧ floodHit c s f (roundTime now c.step) = false ∧
    free = budgetFor c s f (roundTime now c.step)) ∨
  (lookupFlood s.flood m = none ∧ free = c.maxBudget - 1)

/-- the complete case analysis of get-or-create as far as the mapping/flood bookkeeping is concerned -/
inductive GocShape (c : Cfg) (s : State) (m k now : Nat) : State × MapOut → Prop
  | got (id : Int) (hk : lookupKey s.maps k = some id) : GocShape c s m k now (s, .got id)
  | flood (f : Flood) (hk : lookupKey s.maps k = none) (hf : lookupFlood s.flood m = some f)
      (hh : floodHit c s f (roundTime now c.step) = true) : GocShape c s m k now (s, .flood)
  | created (free : Int) (hk : lookupKey s.maps k = none) (hfree : NewFree c s m now free) :
      GocShape c s m k now
        ({ s with maps := (((s.mapSeq + 1 : Nat) : Int), k) :: s.maps, mapSeq := s.mapSeq + 1,
                  flood := setFlood s.flood { metric := m, last := roundTime now c.step, free := free },
                  lastCreated := ((s.mapSeq + 1 : Nat) : Int) },
         .created ((s.mapSeq + 1 : Nat) : Int))

theorem goc_shape (c : Cfg) (s : State) (m k now : Nat) : GocShape c s m k now (getOrCreate c s m k now) := by
  unfold getOrCreate
  cases hk : lookupKey s.maps k with
  | some id => exact .got id hk
  | none =>
    simp only
    unfold createMapping
    cases hf : lookupFlood s.flood m with
    | some f =>
      dsimp only
      by_cases hh : floodHit c s f (roundTime now c.step) = true
      · simp only [hh, if_true]; exact .flood f hk hf hh
      · simp only [hh]
        exact .created _ hk (Or.inl ⟨f, hf, by simpa using hh, rfl⟩)
    | none => exact .created _ hk (Or.inr ⟨hf, rfl⟩)

theorem u32_of_lt {x : Nat} (h : x < two32) : u32 x = x := Nat.mod_eq_of_lt h

theorem roundTime_eq (now step : Nat) (hn : now < two32) : roundTime now step = step * (now / step) := by
  unfold roundTime
  rw [u32_of_lt hn]
  have := Nat.div_add_mod now step
  omega

theorem roundTime_lt (now step : Nat) (hn : now < two32) : roundTime now step < two32 := by
  unfold roundTime
  rw [u32_of_lt hn]
  omega

theorem subU32_of_le {x y : Nat} (h : y ≤ x) (hx : x < two32) : subU32 x y = x - y := by
  unfold subU32
  rw [u32_of_lt hx, u32_of_lt (Nat.lt_of_le_of_lt h hx)]
  have : x + two32 - y = two32 + (x - y) := by omega
  rw [this, Nat.add_mod_left, Nat.mod_eq_of_lt (by omega)]

/-- a row written by a creation at step index `kl`, read at a time whose step index is not smaller: the code's unsigned
    subtraction measures exactly the number of steps in between -/
theorem measured_steps (step kl now : Nat) (hs : 1 ≤ step) (hn : now < two32) (hk : kl ≤ now / step) :
    subU32 (roundTime now step) (u32 (step * kl)) / step = now / step - kl := by
  have hle : step * kl ≤ step * (now / step) := Nat.mul_le_mul_left _ hk
  have hr : step * (now / step) ≤ now := Nat.mul_div_le now step
  rw [roundTime_eq now step hn, u32_of_lt (by omega), subU32_of_le hle (by omega), ← Nat.mul_sub]
  exact Nat.mul_div_cancel_left _ (by omega)

theorem div_mono {a b : Nat} (step : Nat) (h : a ≤ b) : a / step ≤ b / step := Nat.div_le_div_right h

end SH.MetaFlood
