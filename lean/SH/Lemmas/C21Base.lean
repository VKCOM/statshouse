/-
  SH.Lemmas.C21Base — C21: chunk files (round trip, truncation, changed bytes in reduction form, arbitrary damage in tight
  reduction form), the mapping cache (accounting, values, size over all op sequences), the item codec, load and reload.

  The property text and the models are named in SH/Props/C21.lean.  xxh3 is the parameter `H` (any function with
  16-byte results); "corruption is detected" is proved in reduction form (`PassesFrom`: the witness is the damaged file itself).
  The vocabulary of histories in which C21Closed and Props/C21 are stated is defined here: `Op`, `step`, `run`, `init`, `added`.
-/
import SH.Model.Chunked
import SH.Model.MapCache
import SH.Lemmas.Lists

namespace SH.C21
open SH.Chunked hiding St
open SH.MapCache

theorem le_length (k n : Nat) : (le k n).length = k := by
  induction k generalizing n with
  | zero => rfl
  | succ k ih => simp [le, ih]

theorem unle_le (k n : Nat) (h : n < 256 ^ k) : unle (le k n) = n := by
  induction k generalizing n with
  | zero => simp at h; subst h; rfl
  | succ k ih =>
    simp only [le, unle]
    have h1 : n / 256 < 256 ^ k := by
      rw [Nat.pow_succ] at h
      exact Nat.div_lt_of_lt_mul (by rw [Nat.mul_comm]; exact h)
    rw [ih _ h1]
    have : (UInt8.ofNat (n % 256)).toNat = n % 256 := by
      simp [UInt8.toNat_ofNat']
    rw [this]; omega

theorem header_length (m : Nat) (b : Bytes) : (header m b).length = 8 := by
  simp [header, le_length]

theorem encChunk_length (H : Bytes → Bytes) (m : Nat) (prev b : Bytes) (hH : ∀ x, (H x).length = 16) :
    (encChunk H m prev b).length = 8 + b.length + 16 := by
  simp [encChunk, header_length, hH]; omega

structure Params (H : Bytes → Bytes) (magic : Nat) : Prop where
  hlen : ∀ x, (H x).length = 16
  magic32 : magic < 4294967296

theorem chunkSize_val : chunkSize = 1048576 := rfl
theorem headerSize_val : headerSize = 8 := rfl
theorem hashSize_val : hashSize = 16 := rfl
theorem halfChunk_val : halfChunk = 524288 := rfl

theorem magicOf_header (m n : Nat) (x : Bytes) (hm : m < 4294967296) : magicOf (le 4 m ++ (le 4 n ++ x)) = m := by
  rw [magicOf, List.take_left' (le_length 4 m), unle_le 4 m hm]

theorem bodySize_header (m n : Nat) (x : Bytes) (hn : n < 4294967296) : bodySize (le 4 m ++ (le 4 n ++ x)) = n := by
  rw [bodySize, List.drop_left' (le_length 4 m), List.take_left' (le_length 4 n), unle_le 4 n hn]

theorem readNext_frame {H : Bytes → Bytes} {magic : Nat} {prev hd body st rest x : Bytes}
    (hx : x = hd ++ (body ++ (st ++ rest))) (hhd : hd.length = 8) (hst : st.length = 16) (hm : magicOf x = magic)
    (hs : bodySize x = body.length) (hb : body.length ≤ chunkSize) (hh : H (prev ++ (hd ++ body)) = st) :
    readNext H magic prev x = .chunk body st rest := by
  -- `x` stays a variable so that the closing `simp only` never walks through the concatenation
  have hpart : hashedPart x = hd ++ body := by
    rw [hashedPart, hs, hx, ← List.append_assoc]
    exact List.take_left' (by rw [List.length_append, hhd, headerSize_val])
  have hstored : storedHash x = st := by
    rw [storedHash, hs, hx, ← List.append_assoc, List.drop_left' (by rw [List.length_append, hhd, headerSize_val])]
    exact List.take_left' (by rw [hst, hashSize_val])
  have hbody : (x.drop 8).take body.length = body := by
    rw [hx, List.drop_left' hhd]
    exact List.take_left' rfl
  have hrest : x.drop (8 + body.length + 16) = rest := by
    rw [hx, ← List.append_assoc, ← List.append_assoc]
    exact List.drop_left' (by simp only [List.length_append, hhd, hst])
  have hlen : x.length = 8 + body.length + 16 + rest.length := by
    simp only [hx, List.length_append, hhd, hst]
    omega
  have h0 : x.isEmpty = false := List.isEmpty_eq_false_iff.mpr (List.ne_nil_of_length_pos (by omega))
  have h1 : ¬ (8 + body.length + 16 + rest.length < 8 + 16) := by omega
  have h3 : ¬ (8 + body.length + 16 > 8 + body.length + 16 + rest.length) := by omega
  simp only [readNext, h0, shortHeader, wrongMagic, tooBig, bodyOverflows, hashMismatch, hm, hs, hlen, hpart, hstored,
    hbody, hrest, hh, headerSize_val, hashSize_val, h1, h3, Nat.not_lt.mpr hb, bne_self_eq_false, decide_false,
    Bool.false_eq_true, if_false]

theorem encChunk_append (H : Bytes → Bytes) (magic : Nat) (prev body rest : Bytes) :
    encChunk H magic prev body ++ rest
      = le 4 magic ++ (le 4 body.length ++ (body ++ (H (hashInput magic prev body) ++ rest))) := by
  simp only [encChunk, header, List.append_assoc]

theorem bodySize_encChunk {H : Bytes → Bytes} {magic : Nat} (prev body rest : Bytes)
    (hb : body.length ≤ chunkSize) : bodySize (encChunk H magic prev body ++ rest) = body.length := by
  rw [encChunk_append]
  exact bodySize_header _ _ _ (by rw [chunkSize_val] at hb; omega)

theorem readNext_encChunk {H : Bytes → Bytes} {magic : Nat} (P : Params H magic) (prev body rest : Bytes)
    (hb : body.length ≤ chunkSize) :
    readNext H magic prev (encChunk H magic prev body ++ rest)
      = .chunk body (H (hashInput magic prev body)) rest := by
  refine readNext_frame (by simp only [encChunk, List.append_assoc]) (header_length magic body) (P.hlen _) ?_
    (bodySize_encChunk prev body rest hb) hb rfl
  rw [encChunk_append]; exact magicOf_header _ _ _ P.magic32

/-- hash of the last chunk of `bodies` when the chain starts at `prev` -/
def chain (H : Bytes → Bytes) (magic : Nat) : Bytes → List Bytes → Bytes
  | prev, [] => prev
  | prev, b :: bs => chain H magic (H (hashInput magic prev b)) bs

theorem encodeAll_append (H : Bytes → Bytes) (m : Nat) (prev : Bytes) (xs ys : List Bytes) :
    encodeAll H m prev (xs ++ ys) = encodeAll H m prev xs ++ encodeAll H m (chain H m prev xs) ys := by
  induction xs generalizing prev with
  | nil => rfl
  | cons x xs ih => simp only [List.cons_append, encodeAll, chain, ih, List.append_assoc]

theorem chain_append (H : Bytes → Bytes) (m : Nat) (prev : Bytes) (xs ys : List Bytes) :
    chain H m prev (xs ++ ys) = chain H m (chain H m prev xs) ys := by
  induction xs generalizing prev with
  | nil => rfl
  | cons x xs ih => simp only [List.cons_append, chain, ih]

theorem encodeAll_at (H : Bytes → Bytes) (m : Nat) (prev : Bytes) (bodies : List Bytes) (j : Nat) (hj : j < bodies.length) :
    ∃ tail, encodeAll H m prev bodies = encodeAll H m prev (bodies.take j) ++
      (encChunk H m (chain H m prev (bodies.take j)) bodies[j] ++ tail) := by
  refine ⟨encodeAll H m (H (hashInput m (chain H m prev (bodies.take j)) bodies[j])) (bodies.drop (j + 1)), ?_⟩
  conv => lhs; rw [← List.take_append_drop j bodies, encodeAll_append, List.drop_eq_getElem_cons hj]
  rfl

theorem readAll_eq (H : Bytes → Bytes) (magic : Nat) (prev rest : Bytes) :
    readAll H magic prev rest =
      match readNext H magic prev rest with
      | .eof => ([], none)
      | .err e => ([], some e)
      | .chunk body stored rest' => (body :: (readAll H magic stored rest').1, (readAll H magic stored rest').2) := by
  rw [readAll]
  split <;> rename_i h <;> simp only [h]

theorem readAll_nil (H : Bytes → Bytes) (magic : Nat) (prev : Bytes) : readAll H magic prev [] = ([], none) := by
  rw [readAll_eq]; rfl

theorem readAll_chunk {H : Bytes → Bytes} {magic : Nat} {prev rest body stored rest' : Bytes}
    (h : readNext H magic prev rest = .chunk body stored rest') :
    readAll H magic prev rest = (body :: (readAll H magic stored rest').1, (readAll H magic stored rest').2) := by
  rw [readAll_eq, h]

theorem readAll_err {H : Bytes → Bytes} {magic : Nat} {prev rest : Bytes} {e : Err}
    (h : readNext H magic prev rest = .err e) : readAll H magic prev rest = ([], some e) := by
  rw [readAll_eq, h]

theorem readAll_eof {H : Bytes → Bytes} {magic : Nat} {prev rest : Bytes}
    (h : readNext H magic prev rest = .eof) : readAll H magic prev rest = ([], none) := by
  rw [readAll_eq, h]

theorem readAll_encodeAll_append {H : Bytes → Bytes} {magic : Nat} (P : Params H magic) (bodies : List Bytes)
    (hb : ∀ b ∈ bodies, b.length ≤ chunkSize) (prev rest : Bytes) :
    readAll H magic prev (encodeAll H magic prev bodies ++ rest)
      = (bodies ++ (readAll H magic (chain H magic prev bodies) rest).1,
         (readAll H magic (chain H magic prev bodies) rest).2) := by
  induction bodies generalizing prev with
  | nil => simp [encodeAll, chain]
  | cons b bs ih =>
    obtain ⟨hb0, hbs⟩ := List.forall_mem_cons.mp hb
    simp only [encodeAll, List.append_assoc, chain]
    rw [readAll_chunk (readNext_encChunk P prev b _ hb0), ih hbs]
    simp

/-- C21 (chunk files): reloading a chunked storage file yields exactly the saved chunks, without error. -/
theorem read_write_roundtrip {H : Bytes → Bytes} {magic : Nat} (P : Params H magic) (bodies : List Bytes)
    (hb : ∀ b ∈ bodies, b.length ≤ chunkSize) :
    readAll H magic zeroHash (encodeAll H magic zeroHash bodies) = (bodies, none) := by
  have := readAll_encodeAll_append P bodies hb zeroHash []
  simp [readAll_nil] at this
  exact this

/-- what the reader has checked when it returns a chunk (reduction form, DESIGN §4.7): the structural checks, and
    H(previous hash ‖ the bytes it read) equals the stored hash bytes -/
structure Accepted (H : Bytes → Bytes) (magic : Nat) (prev rest : Bytes) : Prop where
  nonempty : rest.isEmpty = false
  notShort : shortHeader rest = false
  magicOK : wrongMagic magic rest = false
  notBig : tooBig rest = false
  fits : bodyOverflows rest = false
  hash : H (prev ++ hashedPart rest) = storedHash rest

theorem readNext_accepted {H : Bytes → Bytes} {magic : Nat} {prev rest body stored rest' : Bytes}
    (h : readNext H magic prev rest = .chunk body stored rest') : Accepted H magic prev rest := by
  unfold readNext at h
  by_cases h0 : rest.isEmpty = true
  · simp [h0] at h
  by_cases h1 : shortHeader rest = true
  · simp [h0, h1] at h
  by_cases h2 : wrongMagic magic rest = true
  · simp [h0, h1, h2] at h
  by_cases h3 : tooBig rest = true
  · simp [h0, h1, h2, h3] at h
  by_cases h4 : bodyOverflows rest = true
  · simp [h0, h1, h2, h3, h4] at h
  by_cases h5 : hashMismatch H prev rest = true
  · simp [h0, h1, h2, h3, h4, h5] at h
  · exact ⟨by simpa using h0, by simpa using h1, by simpa using h2, by simpa using h3, by simpa using h4,
      by simpa [hashMismatch] using h5⟩

theorem readNext_eof {H : Bytes → Bytes} {magic : Nat} {prev rest : Bytes}
    (h : readNext H magic prev rest = .eof) : rest = [] := by
  unfold readNext at h
  by_cases h0 : rest.isEmpty = true
  · simpa using h0
  by_cases h1 : shortHeader rest = true
  · simp [h0, h1] at h
  by_cases h2 : wrongMagic magic rest = true
  · simp [h0, h1, h2] at h
  by_cases h3 : tooBig rest = true
  · simp [h0, h1, h2, h3] at h
  by_cases h4 : bodyOverflows rest = true
  · simp [h0, h1, h2, h3, h4] at h
  by_cases h5 : hashMismatch H prev rest = true
  · simp [h0, h1, h2, h3, h4, h5] at h
  · simp [h0, h1, h2, h3, h4, h5] at h

theorem bodySize_take (x : Bytes) (n : Nat) (h : 8 ≤ n) : bodySize (x.take n) = bodySize x := by
  simp only [bodySize, List.drop_take, List.take_take]
  congr 2
  omega

theorem readAll_strict_prefix {H : Bytes → Bytes} {magic : Nat} (P : Params H magic) (prev prev' body : Bytes)
    (hb : body.length ≤ chunkSize) (n : Nat) (hn : n < (encChunk H magic prev body).length) :
    (readAll H magic prev' ((encChunk H magic prev body).take n)).1 = [] ∧
    ((readAll H magic prev' ((encChunk H magic prev body).take n)).2 = none → n = 0) := by
  have hlen := encChunk_length H magic prev body P.hlen
  have htl : ((encChunk H magic prev body).take n).length = n := by
    rw [List.length_take]; omega
  cases hr : readNext H magic prev' ((encChunk H magic prev body).take n) with
  | eof =>
    rw [readNext_eof hr] at htl
    exact ⟨by rw [readAll_eof hr], fun _ => htl.symm⟩
  | err e => rw [readAll_err hr]; simp
  | chunk b st r =>
    exfalso
    have h1 := (readNext_accepted hr).notShort
    have h4 := (readNext_accepted hr).fits
    have h24 : 24 ≤ n := by
      simp [shortHeader, htl, headerSize_val, hashSize_val] at h1; omega
    have hs : bodySize ((encChunk H magic prev body).take n) = body.length := by
      rw [bodySize_take _ _ (by omega)]
      simpa using bodySize_encChunk (H := H) (magic := magic) prev body [] hb
    simp [bodyOverflows, hs, htl, headerSize_val, hashSize_val] at h4
    omega

theorem split_first_damage {H : Bytes → Bytes} {magic : Nat} (bodies : List Bytes) (prev b : Bytes) :
    ∃ (j : Nat) (rest' : Bytes), j ≤ bodies.length ∧ b = encodeAll H magic prev (bodies.take j) ++ rest' ∧
      ∀ hj : j < bodies.length, ¬ encChunk H magic (chain H magic prev (bodies.take j)) bodies[j] <+: rest' := by
  induction bodies generalizing prev b with
  | nil => exact ⟨0, b, Nat.le_refl _, rfl, nofun⟩
  | cons x bs ih =>
    by_cases hp : encChunk H magic prev x <+: b
    · obtain ⟨b', rfl⟩ := hp
      obtain ⟨j, rest', hj, rfl, hne⟩ := ih (H (hashInput magic prev x)) b'
      exact ⟨j + 1, rest', Nat.succ_le_succ hj, by simp only [List.take_succ_cons, encodeAll, List.append_assoc],
        fun hj' => hne (Nat.lt_of_succ_lt_succ hj')⟩
    · exact ⟨0, b, Nat.zero_le _, rfl, fun _ => hp⟩

theorem nil_of_append_length_le {α : Type} {a r : List α} (h : (a ++ r).length ≤ a.length) : r = [] :=
  List.length_eq_zero_iff.mp (by rw [List.length_append] at h; omega)

theorem cut_inside {α : Type} {a c t r : List α} {n : Nat} (h : (a ++ (c ++ t)).take n = a ++ r) (hne : ¬ c <+: r) :
    ∃ n', n' < c.length ∧ r = c.take n' := by
  have hlen : a.length ≤ n := by
    have := congrArg List.length h
    simp only [List.length_take, List.length_append] at this
    omega
  rw [List.take_append, List.take_of_length_le hlen] at h
  have h := List.append_cancel_left h
  have hlt : n - a.length < c.length := Nat.lt_of_not_le fun hge => hne (by
    rw [← h, List.take_append, List.take_of_length_le hge]
    exact List.prefix_append _ _)
  exact ⟨_, hlt, by rw [← h, List.take_append_of_le_length (Nat.le_of_lt hlt)]⟩

/-- C21 (chunk files): a file truncated at ANY offset yields a prefix of the saved chunks, every returned
    chunk intact; and when the reader reports no error the truncated file is exactly the first k chunks. -/
theorem truncated_gives_prefix {H : Bytes → Bytes} {magic : Nat} (P : Params H magic) (bodies : List Bytes)
    (hb : ∀ b ∈ bodies, b.length ≤ chunkSize) (prev : Bytes) (n : Nat) :
    ∃ k, k ≤ bodies.length ∧
      (readAll H magic prev ((encodeAll H magic prev bodies).take n)).1 = bodies.take k ∧
      ((readAll H magic prev ((encodeAll H magic prev bodies).take n)).2 = none →
        (encodeAll H magic prev bodies).take n = encodeAll H magic prev (bodies.take k)) := by
  obtain ⟨j, rest', hj, h, hne⟩ := split_first_damage (H := H) (magic := magic) bodies prev ((encodeAll H magic prev bodies).take n)
  refine ⟨j, hj, ?_⟩
  rw [h, readAll_encodeAll_append P _ (fun x hx => hb x (List.mem_of_mem_take hx))]
  by_cases hjl : j < bodies.length
  · obtain ⟨tail, ht⟩ := encodeAll_at H magic prev bodies j hjl
    rw [ht] at h
    obtain ⟨n', hn', rfl⟩ := cut_inside h (hne hjl)
    have := readAll_strict_prefix P _ (chain H magic prev (bodies.take j)) _ (hb _ (List.getElem_mem hjl)) n' hn'
    exact ⟨by simp [this.1], fun he => by rw [this.2 he]; simp⟩
  · rw [List.take_of_length_le (Nat.le_of_not_lt hjl)] at h ⊢
    have : rest' = [] := nil_of_append_length_le (h ▸ List.length_take_le' n _)
    subst this
    exact ⟨by simp [readAll_nil], fun _ => List.append_nil _⟩

/-- some byte string other than the saved chunk `j` passes the hash check in the position of chunk `j` -/
def HashCoincidence (H : Bytes → Bytes) (magic : Nat) (bodies : List Bytes) : Prop :=
  ∃ (j : Nat) (hj : j < bodies.length) (x : Bytes),
    H (chain H magic zeroHash (bodies.take j) ++ hashedPart x) = storedHash x ∧
    hashedPart x ++ storedHash x ≠ encChunk H magic (chain H magic zeroHash (bodies.take j)) bodies[j]

theorem part_stored_prefix (x : Bytes) : hashedPart x ++ storedHash x <+: x := by
  unfold hashedPart storedHash
  rw [← List.take_add]
  exact List.take_prefix _ _

/-- C21 (chunk files, reduction form): if the first `j` chunks of a file are intact and what follows does not
    start with the saved chunk `j` (any corruption: flipped bits, overwritten or inserted bytes, a cut), then the reader
    returns exactly the first `j` chunks and nothing else — unless the hash function maps the damaged bytes to the
    stored hash value (`HashCoincidence`).  The escape clause holds for every `H`, see `hashCoincidence_trivial`: the theorem with
    content is `damaged_prefix_or_passes`. -/
theorem corrupt_detected {H : Bytes → Bytes} {magic : Nat} (P : Params H magic) (bodies : List Bytes)
    (hb : ∀ b ∈ bodies, b.length ≤ chunkSize) (j : Nat) (hj : j < bodies.length) (rest' : Bytes)
    (hne : ¬ encChunk H magic (chain H magic zeroHash (bodies.take j)) bodies[j] <+: rest') :
    ((readAll H magic zeroHash (encodeAll H magic zeroHash (bodies.take j) ++ rest')).1 = bodies.take j ∧
      ((readAll H magic zeroHash (encodeAll H magic zeroHash (bodies.take j) ++ rest')).2 = none → rest' = []))
    ∨ HashCoincidence H magic bodies := by
  have hbt : ∀ b ∈ bodies.take j, b.length ≤ chunkSize := fun b hx => hb b (List.mem_of_mem_take hx)
  rw [readAll_encodeAll_append P _ hbt]
  cases hr : readNext H magic (chain H magic zeroHash (bodies.take j)) rest' with
  | eof =>
    left
    have : rest' = [] := readNext_eof hr
    subst this; simp [readAll_nil]
  | err e => left; rw [readAll_err hr]; simp
  | chunk body stored r =>
    right
    refine ⟨j, hj, rest', (readNext_accepted hr).hash, ?_⟩
    intro heq
    exact hne (heq ▸ part_stored_prefix rest')

/-- C21 (chunk files, every single-byte change, hence every single-bit flip; same escape clause): changing any one byte of a
    saved file makes the reader return a STRICT prefix of the saved chunks together with an error — or exhibits a
    hash coincidence. -/
theorem byte_change_detected {H : Bytes → Bytes} {magic : Nat} (P : Params H magic) (bodies : List Bytes)
    (hb : ∀ b ∈ bodies, b.length ≤ chunkSize) (p : Nat) (v : UInt8)
    (hp : p < (encodeAll H magic zeroHash bodies).length)
    (hv : (encodeAll H magic zeroHash bodies)[p]? ≠ some v) :
    (∃ k, k < bodies.length ∧
      (readAll H magic zeroHash ((encodeAll H magic zeroHash bodies).set p v)).1 = bodies.take k ∧
      (readAll H magic zeroHash ((encodeAll H magic zeroHash bodies).set p v)).2 ≠ none)
    ∨ HashCoincidence H magic bodies := by
  obtain ⟨j, rest', _, h, hnp⟩ := split_first_damage (H := H) (magic := magic) bodies zeroHash
    ((encodeAll H magic zeroHash bodies).set p v)
  have hl : (encodeAll H magic zeroHash (bodies.take j) ++ rest').length = (encodeAll H magic zeroHash bodies).length :=
    h ▸ List.length_set ..
  by_cases hjl : j < bodies.length
  · rw [h]
    refine (corrupt_detected P bodies hb j hjl rest' (hnp hjl)).imp_left fun hc => ⟨j, hjl, hc.1, fun hn => ?_⟩
    -- no error would mean that nothing follows the first j chunks: too short
    obtain ⟨tail, ht⟩ := encodeAll_at H magic zeroHash bodies j hjl
    rw [hc.2 hn, ht] at hl
    simp [encChunk, header_length] at hl
  · -- all chunks intact: the byte was not changed
    rw [List.take_of_length_le (Nat.le_of_not_lt hjl)] at h hl
    rw [nil_of_append_length_le (Nat.le_of_eq hl), List.append_nil] at h
    exact absurd (by rw [← h, List.getElem?_set_self (by simpa using hp)]) hv

/-- the escape clause `HashCoincidence` of `corrupt_detected` is satisfied by ANY hash function as soon as one chunk shorter
    than ChunkSize is saved (take a different, correctly hashed chunk): it does not name the damaged bytes.  `PassesFrom` below does. -/
theorem hashCoincidence_trivial {H : Bytes → Bytes} {magic : Nat} (P : Params H magic) (body : Bytes) (bs : List Bytes)
    (hb : body.length + 1 ≤ chunkSize) : HashCoincidence H magic (body :: bs) := by
  refine ⟨0, by simp, encChunk H magic zeroHash (0 :: body), ?_, ?_⟩
  · have h := readNext_encChunk P zeroHash (0 :: body) [] (by simpa using hb)
    simpa [chain] using (readNext_accepted h).hash
  · intro heq
    simp only [List.take_zero, chain, List.getElem_cons_zero] at heq
    -- the two chunks differ in their length field, which a prefix of 8 bytes or more keeps
    have hx : bodySize (encChunk H magic zeroHash (0 :: body)) = body.length + 1 := by
      simpa using bodySize_encChunk (H := H) (magic := magic) zeroHash (0 :: body) [] (by simpa using hb)
    have hy : bodySize (encChunk H magic zeroHash body) = body.length := by
      simpa using bodySize_encChunk (H := H) (magic := magic) zeroHash body [] (by omega)
    have hpre := List.prefix_iff_eq_take.mp (part_stored_prefix (encChunk H magic zeroHash (0 :: body)))
    rw [heq] at hpre
    have hlen := encChunk_length H magic zeroHash body P.hlen
    have := congrArg bodySize hpre
    rw [bodySize_take _ _ (by omega), hx, hy] at this
    omega

/-- `b` = the first `j` saved chunks (chain starting at `prev`) ‖ `rest'`, where `rest'` does not start with the saved chunk
    `j` and yet the reader accepts a chunk from `rest'` -/
def PassesFrom (H : Bytes → Bytes) (magic : Nat) (prev : Bytes) (bodies : List Bytes) (b : Bytes) : Prop :=
  ∃ (j : Nat) (hj : j < bodies.length) (rest' : Bytes),
    b = encodeAll H magic prev (bodies.take j) ++ rest' ∧
    ¬ encChunk H magic (chain H magic prev (bodies.take j)) bodies[j] <+: rest' ∧
    ∃ body stored r, readNext H magic (chain H magic prev (bodies.take j)) rest' = .chunk body stored r

/-- C21 (chunk files, tight reduction form, ARBITRARY damage): whatever bytes `b` (no longer than the saved file) the reader
    is given — truncated anywhere, any bytes changed, any combination, repeatedly — it returns a prefix of the saved chunks,
    or `b` itself passes the hash check on bytes that are not the saved chunk. -/
theorem damaged_prefix_or_passes {H : Bytes → Bytes} {magic : Nat} (P : Params H magic) (bodies : List Bytes)
    (hb : ∀ x ∈ bodies, x.length ≤ chunkSize) (prev b : Bytes)
    (hl : b.length ≤ (encodeAll H magic prev bodies).length) :
    (∃ k, k ≤ bodies.length ∧ (readAll H magic prev b).1 = bodies.take k) ∨ PassesFrom H magic prev bodies b := by
  obtain ⟨j, rest', hj, rfl, hne⟩ := split_first_damage (H := H) (magic := magic) bodies prev b
  rw [readAll_encodeAll_append P _ (fun x hx => hb x (List.mem_of_mem_take hx))]
  by_cases hjl : j < bodies.length
  · cases hr : readNext H magic (chain H magic prev (bodies.take j)) rest' with
    | eof => exact Or.inl ⟨j, hj, by rw [readAll_eof hr]; simp⟩
    | err e => exact Or.inl ⟨j, hj, by rw [readAll_err hr]; simp⟩
    | chunk body' stored r => exact Or.inr ⟨j, hjl, rest', rfl, hne hjl, body', stored, r, hr⟩
  · -- all chunks are there: nothing can follow them
    rw [List.take_of_length_le (Nat.le_of_not_lt hjl)] at hl ⊢
    rw [nil_of_append_length_le hl]
    exact Or.inl ⟨bodies.length, Nat.le_refl _, by simp [readAll_nil]⟩

theorem truncation_never_passes {H : Bytes → Bytes} {magic : Nat} (P : Params H magic) (bodies : List Bytes)
    (hb : ∀ x ∈ bodies, x.length ≤ chunkSize) (prev : Bytes) (n : Nat) :
    ¬ PassesFrom H magic prev bodies ((encodeAll H magic prev bodies).take n) := by
  rintro ⟨j, hj, rest', h1, h2, b, st, r, h3⟩
  -- what follows the first j chunks of a cut file is a strict prefix of chunk j, which the reader never accepts
  obtain ⟨tail, ht⟩ := encodeAll_at H magic prev bodies j hj
  rw [ht] at h1
  obtain ⟨n', hn', rfl⟩ := cut_inside h1 h2
  have := (readAll_strict_prefix P _ (chain H magic prev (bodies.take j)) _ (hb _ (List.getElem_mem hj)) n' hn').1
  rw [readAll_chunk h3] at this
  simp at this

/-! ## the mapping cache -/

def keys (c : Cache) : List Bytes := c.map (·.1)

theorem find_none_iff {c : Cache} {k : Bytes} : find c k = none ↔ k ∉ keys c := by
  induction c with
  | nil => simp [find, keys]
  | cons p c ih =>
    obtain ⟨k', e⟩ := p
    by_cases h : k' = k
    · simp [find, keys, h]
    · simp only [find, h, if_false, keys, List.map_cons, List.mem_cons, not_or] at ih ⊢
      constructor
      · intro hf; exact ⟨fun hh => h hh.symm, ih.mp hf⟩
      · intro hf; exact ih.mpr hf.2

theorem find_some_mem {c : Cache} {k : Bytes} {e : Entry} (h : find c k = some e) : (k, e) ∈ c := by
  induction c with
  | nil => simp [find] at h
  | cons p c ih =>
    by_cases hk : p.1 = k
    · simp only [find, hk, if_true, Option.some.injEq] at h
      simp [← h, ← hk]
    · simp only [find, hk, if_false] at h
      exact List.mem_cons_of_mem _ (ih h)

theorem mem_find_of_nodup {c : Cache} {k : Bytes} {e : Entry} (hn : (keys c).Nodup) (h : (k, e) ∈ c) : find c k = some e := by
  induction c with
  | nil => simp at h
  | cons p c ih =>
    simp only [keys, List.map_cons, List.nodup_cons] at hn
    rcases List.mem_cons.mp h with rfl | h
    · simp [find]
    · have : p.1 ≠ k := fun hh => hn.1 (hh ▸ List.mem_map_of_mem (f := (·.1)) h)
      simp only [find, this, if_false]
      exact ih hn.2 h

theorem erase_eq_filter (c : Cache) (k : Bytes) : erase c k = c.filter (fun p => p.1 ≠ k) := by
  induction c with
  | nil => rfl
  | cons p c ih => by_cases h : p.1 = k <;> simp [erase, h, ih]

theorem mem_erase {c : Cache} {k : Bytes} {p : Bytes × Entry} (h : p ∈ erase c k) : p ∈ c ∧ p.1 ≠ k := by
  simpa [erase_eq_filter] using h

theorem keys_erase_sublist (c : Cache) (k : Bytes) : (keys (erase c k)).Sublist (keys c) := by
  rw [erase_eq_filter]; exact List.filter_sublist.map _

theorem find_erase (c : Cache) (k k' : Bytes) : find (erase c k) k' = if k' = k then none else find c k' := by
  induction c with
  | nil => simp [erase, find]
  | cons q c ih =>
    obtain ⟨k2, e2⟩ := q
    by_cases hk : k2 = k
    · subst hk
      simp only [erase, if_true, ih, find]
      by_cases h2 : k' = k2
      · simp [h2]
      · have : ¬ k2 = k' := fun h => h2 h.symm
        simp [h2, this]
    · simp only [erase, hk, if_false, find, ih]
      by_cases h2 : k2 = k'
      · subst h2; simp [hk]
      · simp [h2]

theorem totals_erase {c : Cache} {k : Bytes} {e : Entry} (hn : (keys c).Nodup) (h : find c k = some e) :
    totalSize (erase c k) = totalSize c - elementSize k ∧ totalTS (erase c k) = totalTS c - e.ts := by
  induction c with
  | nil => simp [find] at h
  | cons q c ih =>
    obtain ⟨k', e'⟩ := q
    simp only [keys, List.map_cons, List.nodup_cons] at hn
    by_cases hk : k' = k
    · subst hk
      simp only [find, if_true, Option.some.injEq] at h; subst h
      have he : erase c k' = c := by
        rw [erase_eq_filter, List.filter_eq_self]
        intro p hp
        have : p.1 ≠ k' := fun hpk => hn.1 (hpk ▸ List.mem_map_of_mem hp)
        simpa using this
      simp only [erase, if_true, he, totalSize, totalTS, List.map_cons, List.sum_cons]
      constructor <;> omega
    · simp only [find, hk, if_false] at h
      have := ih hn.2 h
      simp only [erase, hk, if_false, totalSize, totalTS, List.map_cons, List.sum_cons] at this ⊢
      constructor <;> omega

theorem mem_put {c : Cache} {k : Bytes} {e : Entry} {p : Bytes × Entry} (h : p ∈ put c k e) : p = (k, e) ∨ p ∈ c := by
  induction c with
  | nil => simpa [put] using h
  | cons q c ih =>
    by_cases hk : q.1 = k
    · simp only [put, hk, if_true, List.mem_cons] at h
      exact h.imp id (List.mem_cons_of_mem _)
    · simp only [put, hk, if_false, List.mem_cons] at h
      rcases h with h | h
      · exact Or.inr (h ▸ List.mem_cons_self)
      · exact (ih h).imp id (List.mem_cons_of_mem _)

theorem find_put (c : Cache) (k k' : Bytes) (e : Entry) : find (put c k e) k' = if k' = k then some e else find c k' := by
  induction c with
  | nil =>
    by_cases h : k = k'
    · simp [put, find, h]
    · have : ¬ k' = k := fun hh => h hh.symm
      simp [put, find, h, this]
  | cons q c ih =>
    obtain ⟨k2, e2⟩ := q
    by_cases hk : k2 = k
    · subst hk
      simp only [put, if_true, find]
      by_cases h2 : k2 = k'
      · simp [h2]
      · have : ¬ k' = k2 := fun hh => h2 hh.symm
        simp [h2, this]
    · simp only [put, hk, if_false, find, ih]
      by_cases h2 : k2 = k'
      · subst h2; simp [hk]
      · simp [h2]

theorem put_eq_append {c : Cache} {k : Bytes} (e : Entry) (h : find c k = none) : put c k e = c ++ [(k, e)] := by
  induction c with
  | nil => rfl
  | cons q c ih =>
    obtain ⟨k', e'⟩ := q
    by_cases hk : k' = k
    · simp [find, hk] at h
    · simp only [find, hk, if_false] at h
      simp [put, hk, ih h]

theorem put_absent {c : Cache} {k : Bytes} (e : Entry) (h : find c k = none) :
    keys (put c k e) = keys c ++ [k] ∧ totalSize (put c k e) = totalSize c + elementSize k ∧
    totalTS (put c k e) = totalTS c + e.ts := by
  rw [put_eq_append e h]
  simp [keys, totalSize, totalTS]

theorem put_present {c : Cache} {k : Bytes} {e0 : Entry} (e : Entry) (h : find c k = some e0) :
    keys (put c k e) = keys c ∧ totalSize (put c k e) = totalSize c ∧
    totalTS (put c k e) = totalTS c - e0.ts + e.ts := by
  induction c with
  | nil => simp [find] at h
  | cons q c ih =>
    obtain ⟨k', e'⟩ := q
    by_cases hk : k' = k
    · subst hk
      simp only [find, if_true, Option.some.injEq] at h; subst h
      simp only [put, if_true, keys, totalSize, totalTS, List.map_cons, List.sum_cons]
      refine ⟨trivial, trivial, by omega⟩
    · simp only [find, hk, if_false] at h
      have := ih h
      simp only [put, hk, if_false, keys, totalSize, totalTS, List.map_cons, List.sum_cons] at this ⊢
      refine ⟨by rw [this.1], by omega, by omega⟩

/-- "size and access-time accounting exact": one entry per string, and the two running sums equal the sums over the map -/
structure Exact (s : St) : Prop where
  nodup : (keys s.cache).Nodup
  size : s.sumSize = totalSize s.cache
  ts : s.sumTS = totalTS s.cache

def AllGood (Q : Bytes → Int → Prop) (s : St) : Prop := ∀ p ∈ s.cache, Q p.1 p.2.val

theorem elementSize_nonneg (k : Bytes) : 0 ≤ elementSize k := by simp [elementSize]; omega

theorem present_false_iff {s : St} {k : Bytes} : present s k = false ↔ find s.cache k = none := by
  simp [present]

/-- `s'` is `s` after removals or a refreshed access time: no larger, same limit, same storage -/
structure Shrunk (s s' : St) : Prop where
  size : s'.sumSize ≤ s.sumSize
  maxSize : s'.maxSize = s.maxSize
  store : s'.store = s.store

theorem Shrunk.bound {s s' : St} (h : Shrunk s s') : s'.sumSize ≤ max s.maxSize s.sumSize ∧ s'.maxSize = s.maxSize :=
  ⟨Int.le_trans h.size (Int.le_max_right _ _), h.maxSize⟩

/-- `s'` is any state with these three fields: `addItem` and `loadInsert` are both instances -/
theorem exact_put {s s' : St} {k : Bytes} {e : Entry} (h : Exact s) (hk : find s.cache k = none)
    (hc : s'.cache = put s.cache k e) (hs : s'.sumSize = s.sumSize + elementSize k) (ht : s'.sumTS = s.sumTS + e.ts) :
    Exact s' := by
  have := put_absent e hk
  refine ⟨?_, by rw [hs, hc, this.2.1, h.size], by rw [ht, hc, this.2.2, h.ts]⟩
  rw [hc, this.1]
  refine List.nodup_append.mpr ⟨h.nodup, List.pairwise_singleton _ k, fun a ha b hb hab => ?_⟩
  -- the only new key is `k`, and `k` is not among the old keys
  rw [List.mem_singleton.mp hb] at hab
  exact find_none_iff.mp hk (hab ▸ ha)

theorem exact_removeItem {s : St} {k : Bytes} {e : Entry} (h : Exact s) (hk : find s.cache k = some e) :
    Exact (removeItem s k e.ts) := by
  have := totals_erase h.nodup hk
  refine ⟨?_, ?_, ?_⟩
  · exact List.Sublist.nodup (keys_erase_sublist _ _) h.nodup
  · simp only [removeItem]; rw [this.1, h.size]
  · simp only [removeItem]; rw [this.2, h.ts]

theorem getValue_cases (s : St) (ts : Nat) (k : Bytes) :
    getValue s ts k = (s, (find s.cache k).map (·.val)) ∨
    ∃ e, find s.cache k = some e ∧
      getValue s ts k = ({ s with cache := put s.cache k { e with ts := ts }, sumTS := s.sumTS - e.ts + ts }, some e.val) := by
  unfold getValue
  cases find s.cache k with
  | none => exact Or.inl rfl
  | some e =>
    by_cases hf : fresh e ts = true
    · exact Or.inl (by simp [hf])
    · exact Or.inr ⟨e, rfl, by simp [hf]⟩

theorem exact_getValue {s : St} (ts : Nat) (k : Bytes) (h : Exact s) : Exact (getValue s ts k).1 := by
  rcases getValue_cases s ts k with hg | ⟨e, he, hg⟩
  · rw [hg]; exact h
  · have := put_present (c := s.cache) (k := k) { e with ts := ts } he
    rw [hg]
    exact ⟨by simp only; rw [this.1]; exact h.nodup, by simp only; rw [this.2.1]; exact h.size,
      by simp only; rw [this.2.2, h.ts]⟩

theorem mem_getValue {s : St} {ts : Nat} {k : Bytes} {p : Bytes × Entry} (hp : p ∈ (getValue s ts k).1.cache) :
    p ∈ s.cache ∨ ∃ e, (k, e) ∈ s.cache ∧ p = (k, { e with ts := ts }) := by
  rcases getValue_cases s ts k with hg | ⟨e, he, hg⟩
  · rw [hg] at hp; exact Or.inl hp
  · rw [hg] at hp
    rcases mem_put hp with hp | hp
    · exact Or.inr ⟨e, find_some_mem he, hp⟩
    · exact Or.inl hp

theorem getValue_result {s : St} {ts : Nat} {k : Bytes} {v : Int} (h : (getValue s ts k).2 = some v) :
    ∃ e, find s.cache k = some e ∧ e.val = v := by
  rcases getValue_cases s ts k with hg | ⟨e, he, hg⟩
  · rw [hg] at h; exact Option.map_eq_some_iff.mp h
  · rw [hg] at h; exact ⟨e, he, Option.some.inj h⟩

theorem getValue_shrunk (s : St) (ts : Nat) (k : Bytes) : Shrunk s (getValue s ts k).1 := by
  rcases getValue_cases s ts k with hg | ⟨e, _, hg⟩ <;> rw [hg] <;> exact ⟨Int.le_refl _, rfl, rfl⟩

/-! ### AddValues and RemoveByTTL: what `addItem` / `removeItem` keep, the loops keep -/

theorem addAll_induct {I : St → Prop} {v : Variant} {now : Nat} (ps : List Pair)
    (hadd : ∀ s p, p ∈ ps → I s → skipDup v s p.1 = false → I (addItem s p.1 p.2 now)) {s : St} (h : I s) :
    I (addAll v now s ps) := by
  fun_induction addAll v now s ps with
  | case1 s => exact h
  | case2 s p ps hd ih => exact ih (fun s q hq => hadd s q (List.mem_cons_of_mem _ hq)) h
  | case3 s p ps hd ih =>
    exact ih (fun s q hq => hadd s q (List.mem_cons_of_mem _ hq)) (hadd s p (by simp) h (by simpa using hd))

theorem addFit_induct {I : St → Prop} {v : Variant} {now : Nat} (ps : List Pair)
    (hadd : ∀ s p, p ∈ ps → I s → skipDup v s p.1 = false → noRoom s p.1 = false → I (addItem s p.1 p.2 now)) {s : St}
    (h : I s) : I (addFit v now s ps) := by
  fun_induction addFit v now s ps with
  | case1 s => exact h
  | case2 s p ps hd ih => exact ih (fun s q hq => hadd s q (List.mem_cons_of_mem _ hq)) h
  | case3 s p ps hd hr => exact h
  | case4 s p ps hd hr ih =>
    exact ih (fun s q hq => hadd s q (List.mem_cons_of_mem _ hq))
      (hadd s p (by simp) h (by simpa using hd) (by simpa using hr))

theorem evict_induct {I : St → Prop} {now : Nat} {ns : Int} (ks : List Bytes)
    (hrem : ∀ s k e, I s → find s.cache k = some e → I (removeItem s k e.ts)) {s : St} (h : I s) :
    I (evict now ns s ks) := by
  fun_induction evict now ns s ks with
  | case1 s => exact h
  | case2 s k ks he ih => exact ih h
  | case3 s k ks e he h1 => exact h
  | case4 s k ks e he h1 h2 => exact h
  | case5 s k ks e he h1 h2 ih => exact ih (hrem s k e h he)

theorem removeVisited_induct {I : St → Prop} {now : Nat} (ks : List Bytes)
    (hrem : ∀ s k e, I s → find s.cache k = some e → I (removeItem s k e.ts)) {s : St} (h : I s) :
    I (removeVisited now s ks) := by
  fun_induction removeVisited now s ks with
  | case1 s => exact h
  | case2 s k ks he ih => exact ih h
  | case3 s k ks e he h1 ih => exact ih (hrem s k e h he)
  | case4 s k ks e he h1 ih => exact ih h

theorem addValues_induct {I : St → Prop} {v : Variant} {s : St} {now : Nat} {pairs : List Pair} (cands : List Bytes)
    (hadd : ∀ s' p, p ∈ pairs → acceptable s p = true → I s' → skipDup v s' p.1 = false → I (addItem s' p.1 p.2 now))
    (hrem : ∀ s' k e, I s' → find s'.cache k = some e → I (removeItem s' k e.ts))
    (hver : ∀ s' n, I s' → I { s' with version := n }) (h : I s) : I (addValues v s now pairs cands) := by
  have hadd' : ∀ s' p, p ∈ pairs.filter (acceptable s) → I s' → skipDup v s' p.1 = false → I (addItem s' p.1 p.2 now) :=
    fun s' p hp => hadd s' p (List.mem_filter.mp hp).1 (List.mem_filter.mp hp).2
  unfold addValues
  simp only
  by_cases h1 : (pairs.filter (acceptable s)).isEmpty = true
  · rw [if_pos h1]; exact h
  · rw [if_neg h1]
    by_cases h2 : fits s (newSize (pairs.filter (acceptable s))) = true
    · rw [if_pos h2]; exact hver _ _ (addAll_induct _ hadd' h)
    · rw [if_neg h2]; exact hver _ _ (addFit_induct _ (fun s' p hp h hd _ => hadd' s' p hp h hd) (evict_induct _ hrem h))

theorem skipDup_false_fixed {s : St} {k : Bytes} (h : skipDup .fixed s k = false) : find s.cache k = none := by
  simp [skipDup] at h; exact present_false_iff.mp h

theorem exact_addValues (s : St) (now : Nat) (pairs : List Pair) (cands : List Bytes) (h : Exact s) :
    Exact (addValues .fixed s now pairs cands) :=
  addValues_induct cands (fun _ _ _ _ h hd => exact_put h (skipDup_false_fixed hd) rfl rfl rfl)
    (fun _ _ _ h he => exact_removeItem h he) (fun _ _ h => ⟨h.nodup, h.size, h.ts⟩) h

theorem mem_removeVisited {now : Nat} {s : St} {ks : List Bytes} {p : Bytes × Entry}
    (hp : p ∈ (removeVisited now s ks).cache) : p ∈ s.cache :=
  removeVisited_induct (I := fun s' => ∀ q ∈ s'.cache, q ∈ s.cache) ks
    (fun _ _ _ h _ q hq => h q (mem_erase hq).1) (fun _ hq => hq) p hp

theorem acceptable_spec {s : St} {p : Pair} (h : acceptable s p = true) : p.1 ≠ [] ∧ isMarker p.2 = false := by
  simp [acceptable] at h
  exact ⟨by intro hh; simp [hh] at h, h.2⟩

theorem mem_addValues {v : Variant} {s : St} {now : Nat} {pairs : List Pair} {cands : List Bytes} {p : Bytes × Entry}
    (hp : p ∈ (addValues v s now pairs cands).cache) :
    p ∈ s.cache ∨ ∃ q ∈ pairs, acceptable s q = true ∧ p = (q.1, { val := q.2, ts := now }) :=
  addValues_induct
    (I := fun s' => ∀ p ∈ s'.cache, p ∈ s.cache ∨ ∃ q ∈ pairs, acceptable s q = true ∧ p = (q.1, { val := q.2, ts := now }))
    cands
    (fun _ q hq ha h _ p hp => (mem_put hp).elim (fun hp => Or.inr ⟨q, hq, ha, hp⟩) (h p))
    (fun _ _ _ h _ p hp => h p (mem_erase hp).1) (fun _ _ h => h) (fun _ hp => Or.inl hp) p hp

theorem good_addValues {Q : Bytes → Int → Prop} (v : Variant) (s : St) (now : Nat) (pairs : List Pair) (cands : List Bytes)
    (h : AllGood Q s) (hq : ∀ p ∈ pairs, p.1 ≠ [] → isMarker p.2 = false → Q p.1 p.2) :
    AllGood Q (addValues v s now pairs cands) := by
  intro p hp
  rcases mem_addValues hp with hp | ⟨q, hq1, ha, rfl⟩
  · exact h p hp
  · exact hq q hq1 (acceptable_spec ha).1 (acceptable_spec ha).2

theorem sumSize_addAll_le (v : Variant) (now : Nat) (s : St) (ps : List Pair) :
    (addAll v now s ps).sumSize ≤ s.sumSize + newSize ps ∧ (addAll v now s ps).maxSize = s.maxSize := by
  induction ps generalizing s with
  | nil => simp [addAll, newSize]
  | cons p ps ih =>
    have hn : newSize (p :: ps) = elementSize p.1 + newSize ps := by simp [newSize]
    have h0 := elementSize_nonneg p.1
    simp only [addAll]
    split
    · have := ih s; exact ⟨by omega, this.2⟩
    · have := ih (addItem s p.1 p.2 now)
      simp only [addItem] at this ⊢
      exact ⟨by omega, this.2⟩

theorem sumSize_addFit_le (v : Variant) (now : Nat) (s : St) (ps : List Pair) :
    (addFit v now s ps).sumSize ≤ max s.maxSize s.sumSize ∧ (addFit v now s ps).maxSize = s.maxSize :=
  addFit_induct (I := fun s' => s'.sumSize ≤ max s.maxSize s.sumSize ∧ s'.maxSize = s.maxSize) ps
    (fun s' p _ h _ hr => by
      simp only [noRoom, decide_eq_false_iff_not] at hr
      simp only [addItem]
      exact ⟨by omega, h.2⟩)
    ⟨by omega, rfl⟩

/-- in the shape of the `hrem` argument of `evict_induct` / `removeVisited_induct`, hence `s0` and the unused hypothesis -/
theorem removeItem_shrunk {s0 : St} (s : St) (k : Bytes) (e : Entry) (h : Shrunk s0 s) (_ : find s.cache k = some e) :
    Shrunk s0 (removeItem s k e.ts) := by
  have h0 := elementSize_nonneg k
  have h1 := h.size
  exact ⟨by simp only [removeItem]; omega, h.maxSize, h.store⟩

theorem evict_shrunk (now : Nat) (ns : Int) (s : St) (ks : List Bytes) : Shrunk s (evict now ns s ks) :=
  evict_induct ks removeItem_shrunk ⟨Int.le_refl _, rfl, rfl⟩

theorem removeVisited_shrunk (now : Nat) (s : St) (ks : List Bytes) : Shrunk s (removeVisited now s ks) :=
  removeVisited_induct ks removeItem_shrunk ⟨Int.le_refl _, rfl, rfl⟩

/-- C21 (cache, size): AddValues never grows the cache beyond the configured size: afterwards
    `sumSize ≤ max maxSize (sumSize before)` — for every candidate list, in both variants of the code. -/
theorem addValues_size_bound (v : Variant) (s : St) (now : Nat) (pairs : List Pair) (cands : List Bytes) :
    (addValues v s now pairs cands).sumSize ≤ max s.maxSize s.sumSize ∧
    (addValues v s now pairs cands).maxSize = s.maxSize := by
  have ha := sumSize_addAll_le v now s (pairs.filter (acceptable s))
  have he := evict_shrunk now (newSize (pairs.filter (acceptable s))) s cands
  have hf := sumSize_addFit_le v now (evict now (newSize (pairs.filter (acceptable s))) s cands) (pairs.filter (acceptable s))
  unfold addValues
  simp only
  by_cases h1 : (pairs.filter (acceptable s)).isEmpty = true
  · rw [if_pos h1]; exact ⟨Int.le_max_right _ _, rfl⟩
  rw [if_neg h1]
  by_cases h2 : fits s (newSize (pairs.filter (acceptable s))) = true
  · rw [if_pos h2]
    simp only [fits, decide_eq_true_eq] at h2
    exact ⟨Int.le_trans ha.1 (Int.le_trans h2 (Int.le_max_left _ _)), ha.2⟩
  · rw [if_neg h2]
    rw [he.maxSize] at hf
    exact ⟨Int.le_trans hf.1 (Int.max_le.mpr ⟨Int.le_max_left _ _, Int.le_trans he.size (Int.le_max_right _ _)⟩), hf.2⟩

theorem exact_loadInsert {s : St} (it : Bytes × Entry) (h : Exact s) : Exact (loadInsert s it) := by
  unfold loadInsert
  by_cases hp : present s it.1 = true
  · rw [if_pos hp]; exact h
  · rw [if_neg hp]; exact exact_put h (present_false_iff.mp (by simpa using hp)) rfl rfl rfl

theorem loadItems_induct {I : St → Prop} (hins : ∀ s it, I s → I (loadInsert s it)) (s : St) (body : Bytes) (h : I s) :
    I (loadItems s body).1 := by
  fun_induction loadItems s body with
  | case1 s body hb => exact h
  | case2 s body hb e he => exact h
  | case3 s body hb it rest he ih => exact ih (hins s it h)

theorem loadRest_induct {I : St → Prop} (hins : ∀ s it, I s → I (loadInsert s it)) (H : Bytes → Bytes) (s : St)
    (prev rest : Bytes) (h : I s) : I (loadRest H s prev rest).1 := by
  fun_induction loadRest H s prev rest with
  | case1 s prev rest hr => exact h
  | case2 s prev rest e hr => exact h
  | case3 s prev rest body stored rest' hr hb => exact h
  | case4 s prev rest body stored rest' hr hb r hsome => exact loadItems_induct hins s body h
  | case5 s prev rest body stored rest' hr hb r hnone ih => exact ih (loadItems_induct hins s body h)

theorem exact_empty (m t : Int) (st : Chunked.St) : Exact { maxSize := m, maxTTL := t, store := st } :=
  ⟨by simp [keys], by simp [totalSize], by simp [totalTS]⟩

/-- C21 (cache, load): whatever bytes are in the file, the cache built by `load` has exact accounting -/
theorem exact_loadNew (H : Bytes → Bytes) (file : Bytes) (maxSize : Int) : Exact (loadNew H file maxSize).1 :=
  loadRest_induct (fun _ it h => exact_loadInsert it h) H _ _ _ (exact_empty _ _ _)

theorem file_loadNew (H : Bytes → Bytes) (file : Bytes) (m : Int) : (loadNew H file m).1.store.file = file :=
  loadRest_induct (I := fun s => s.store.file = file) (fun s it h => by unfold loadInsert; split <;> exact h) H _ _ _ rfl

/-! ## histories: one `Op` per call on the cache object, `step`, `run` -/

/-- one call, with the inputs the model takes instead of behaviour (MapCache header) -/
inductive Op
  | add (now : Nat) (pairs : List Pair) (cands : List Bytes)
  | get (ts : Nat) (k : Bytes)
  | ttl (now : Nat) (visited : List Bytes)
  | setSizeTTL (maxSize maxTTL : Int)
  | stats
  | save (order : Cache)
  /-- restart: a fresh cache is loaded from the stored file after an arbitrary transformation `dmg` of its bytes
      (`id` = clean restart, `(·.take n)` = truncation, `(·.set p v)` = a changed byte, a constant = any file at all) -/
  | reload (dmg : Bytes → Bytes) (maxSize : Int)

/-- `.reload dmg m` REPLACES the cache by a fresh one (`maxSize := m`, `maxTTL = 0`) loaded from `dmg file`, the new file -/
def step (H : Bytes → Bytes) (v : Variant) (s : St) : Op → St
  | .add now pairs cands => addValues v s now pairs cands
  | .get ts k => (getValue s ts k).1
  | .ttl now visited => removeByTTL s now visited
  | .setSizeTTL a b => setSizeTTL s a b
  | .stats => stats s
  | .save order => (save H s order).1
  | .reload dmg m => (loadNew H (dmg s.store.file) m).1

def run (H : Bytes → Bytes) (v : Variant) (s : St) (ops : List Op) : St := ops.foldl (step H v) s

/-- an empty cache with limits `m`, `t` over an empty file -/
def init (m t : Int) : St := { maxSize := m, maxTTL := t, store := Chunked.new [] }

theorem save_cache (H : Bytes → Bytes) (s : St) (order : Cache) : (save H s order).1.cache = s.cache := by
  unfold save; split <;> rfl

theorem save_sumSize (H : Bytes → Bytes) (s : St) (order : Cache) : (save H s order).1.sumSize = s.sumSize := by
  unfold save; split <;> rfl

theorem save_sumTS (H : Bytes → Bytes) (s : St) (order : Cache) : (save H s order).1.sumTS = s.sumTS := by
  unfold save; split <;> rfl

theorem save_maxSize (H : Bytes → Bytes) (s : St) (order : Cache) : (save H s order).1.maxSize = s.maxSize := by
  unfold save; split <;> rfl

theorem save_clean (H : Bytes → Bytes) {s : St} (order : Cache) (hd : ¬ dirty s = true) : save H s order = (s, false) := by
  unfold save; simp [hd]

theorem step_file (H : Bytes → Bytes) (v : Variant) (s : St) (op : Op) :
    (step H v s op).store.file =
      match op with
      | .save order => (save H s order).1.store.file
      | .reload dmg _ => dmg s.store.file
      | _ => s.store.file := by
  cases op with
  | add now pairs cands =>
    exact addValues_induct (I := fun s' => s'.store.file = s.store.file) cands (fun _ _ _ _ h _ => h) (fun _ _ _ h _ => h)
      (fun _ _ h => h) rfl
  | get ts k => exact congrArg (·.file) (getValue_shrunk s ts k).store
  | ttl now visited => exact congrArg (·.file) (removeVisited_shrunk now s visited).store
  | reload dmg m => exact file_loadNew H _ m
  | _ => rfl

theorem exact_step (H : Bytes → Bytes) (s : St) (op : Op) (h : Exact s) : Exact (step H .fixed s op) := by
  cases op with
  | add now pairs cands => exact exact_addValues s now pairs cands h
  | get ts k => exact exact_getValue ts k h
  | ttl now visited => exact removeVisited_induct visited (fun _ _ _ h he => exact_removeItem h he) h
  | save order =>
    have hc := save_cache H s order
    exact ⟨hc ▸ h.nodup, (save_sumSize H s order).trans (hc ▸ h.size), (save_sumTS H s order).trans (hc ▸ h.ts)⟩
  | reload dmg m => exact exact_loadNew H _ m
  | _ => exact ⟨h.nodup, h.size, h.ts⟩

/-- C21 (cache, accounting): for EVERY sequence of add / get / evict-by-TTL / resize / stats / save / restart operations —
    every eviction candidate list, every visit order, every write order, every damage to the file — the cache holds at
    most one entry per string, `sumSize` is exactly the sum of the element sizes and `sumTS` exactly the sum of the access
    times.  (Fixed code; `dupAdd_breaks_accounting` below shows the pinned code violates it.) -/
theorem accounting_exact (H : Bytes → Bytes) (ops : List Op) (s : St) (h : Exact s) : Exact (run H .fixed s ops) := by
  induction ops generalizing s with
  | nil => exact h
  | cons op ops ih => exact ih _ (exact_step H s op h)

theorem sum_map_nonneg {α : Type} (f : α → Int) (hf : ∀ x, 0 ≤ f x) (l : List α) : 0 ≤ (l.map f).sum := by
  induction l with
  | nil => simp
  | cons x l ih =>
    have := hf x
    simp only [List.map_cons, List.sum_cons]
    omega

theorem totals_nonneg (c : Cache) : 0 ≤ totalSize c ∧ 0 ≤ totalTS c :=
  ⟨sum_map_nonneg (fun p : Bytes × Entry => elementSize p.1) (fun p => elementSize_nonneg p.1) c,
    sum_map_nonneg (fun p : Bytes × Entry => (p.2.ts : Int)) (fun p => Int.natCast_nonneg p.2.ts) c⟩

/-- the `panic("sumSize negative …")` / `panic("sumTS negative …")` states are unreachable -/
theorem sums_never_negative (H : Bytes → Bytes) (m t : Int) (ops : List Op) :
    0 ≤ (run H .fixed (init m t) ops).sumSize ∧ 0 ≤ (run H .fixed (init m t) ops).sumTS := by
  have h : Exact (run H .fixed (init m t) ops) := accounting_exact H ops _ (exact_empty _ _ _)
  rw [h.size, h.ts]; exact totals_nonneg _

/-- neither SetSizeTTL nor a restart (`load` does not enforce `maxSize`) -/
def Op.plain : Op → Prop
  | .setSizeTTL _ _ => False
  | .reload _ _ => False
  | _ => True

theorem step_size_bound (H : Bytes → Bytes) (v : Variant) (s : St) (op : Op) (hp : op.plain) :
    (step H v s op).sumSize ≤ max s.maxSize s.sumSize ∧ (step H v s op).maxSize = s.maxSize := by
  cases op with
  | add now pairs cands => exact addValues_size_bound v s now pairs cands
  | get ts k => exact (getValue_shrunk s ts k).bound
  | ttl now visited => exact (removeVisited_shrunk now s visited).bound
  | setSizeTTL a b => exact False.elim hp
  | stats => exact ⟨Int.le_max_right _ _, rfl⟩
  | save order => exact ⟨save_sumSize H s order ▸ Int.le_max_right _ _, save_maxSize H s order⟩
  | reload dmg m => exact False.elim hp

/-- C21 (cache, size): as long as the limit is not changed and the cache is not restarted (`Op.plain`), a cache that is within
    its configured size stays within it — for every such op sequence, every candidate list, both variants of the code. -/
theorem size_never_exceeds (H : Bytes → Bytes) (v : Variant) (ops : List Op) (s : St) (hp : ∀ op ∈ ops, op.plain)
    (h : s.sumSize ≤ s.maxSize) :
    (run H v s ops).sumSize ≤ s.maxSize ∧ (run H v s ops).maxSize = s.maxSize := by
  induction ops generalizing s with
  | nil => exact ⟨h, rfl⟩
  | cons op ops ih =>
    have h1 := step_size_bound H v s op (hp op (by simp))
    have h2 : (step H v s op).sumSize ≤ s.maxSize := Int.le_trans h1.1 (Int.max_le.mpr ⟨Int.le_refl _, h⟩)
    have := ih (step H v s op) (fun o ho => hp o (List.mem_cons_of_mem _ ho)) (h1.2 ▸ h2)
    rw [h1.2] at this
    exact this

/-- `(k, v)` may be served: the string is not empty, the value is no marker (0, mapping-flood, does-not-exist) and
    the pair was handed to AddValues -/
def GoodVal (A : List Pair) (k : Bytes) (v : Int) : Prop := k ≠ [] ∧ isMarker v = false ∧ (k, v) ∈ A

/-- all pairs ever handed to AddValues -/
def added : List Op → List Pair
  | [] => []
  | .add _ pairs _ :: ops => pairs ++ added ops
  | _ :: ops => added ops

theorem added_cons (op : Op) (ops : List Op) : added (op :: ops) = added [op] ++ added ops := by
  cases op <;> simp [added]

theorem added_head {op : Op} {ops : List Op} {p : Pair} (hp : p ∈ added [op]) : p ∈ added (op :: ops) := by
  rw [added_cons]; exact List.mem_append_left _ hp

theorem added_tail {op : Op} {ops : List Op} {p : Pair} (hp : p ∈ added ops) : p ∈ added (op :: ops) := by
  rw [added_cons]; exact List.mem_append_right _ hp

theorem GoodVal.spec {A : List Pair} {k : Bytes} {v : Int} (h : GoodVal A k v) :
    k ≠ [] ∧ v ≠ 0 ∧ v ≠ markerFlood ∧ v ≠ markerNotExist ∧ (k, v) ∈ A := by
  obtain ⟨h1, h2, h3⟩ := h
  simp only [isMarker, Bool.or_eq_false_iff, beq_eq_false_iff_ne] at h2
  exact ⟨h1, h2.1.1, h2.1.2, h2.2, h3⟩

/-- hypothesis about restarts: everything `load` accepts from the (possibly damaged) file satisfies `Q`.
    `restart_after_save_good` discharges it for files written by Save and read back intact or truncated anywhere. -/
def ReloadsGood (H : Bytes → Bytes) (v : Variant) (Q : Bytes → Int → Prop) : St → List Op → Prop
  | _, [] => True
  | s, op :: ops =>
    (match op with
     | .reload dmg m => AllGood Q (loadNew H (dmg s.store.file) m).1
     | _ => True) ∧ ReloadsGood H v Q (step H v s op) ops

theorem good_step (H : Bytes → Bytes) (v : Variant) (A : List Pair) (s : St) (op : Op) (h : AllGood (GoodVal A) s)
    (hA : ∀ p ∈ added [op], p ∈ A)
    (hr : ∀ dmg m, op = .reload dmg m → AllGood (GoodVal A) (loadNew H (dmg s.store.file) m).1) :
    AllGood (GoodVal A) (step H v s op) := by
  cases op with
  | add now pairs cands =>
    exact good_addValues v s now pairs cands h (fun p hp h1 h2 => ⟨h1, h2, hA p (by simp [added, hp])⟩)
  | get ts k =>
    intro p hp
    rcases mem_getValue hp with hp | ⟨e, he, rfl⟩
    · exact h p hp
    · exact h (k, e) he
  | ttl now visited => exact fun p hp => h p (mem_removeVisited hp)
  | save order => exact fun p hp => h p (save_cache H s order ▸ hp)
  | reload dmg m => exact hr dmg m rfl
  | _ => exact h

theorem good_run (H : Bytes → Bytes) (v : Variant) (A : List Pair) (ops : List Op) (s : St) (h : AllGood (GoodVal A) s)
    (hA : ∀ p ∈ added ops, p ∈ A) (hr : ReloadsGood H v (GoodVal A) s ops) : AllGood (GoodVal A) (run H v s ops) := by
  induction ops generalizing s with
  | nil => exact h
  | cons op ops ih =>
    have hs : AllGood (GoodVal A) (step H v s op) := by
      apply good_step H v A s op h (fun p hp => hA p (added_head hp))
      intro dmg m he; subst he; exact hr.1
    exact ih _ hs (fun p hp => hA p (added_tail hp)) hr.2

/-- C21 (cache, values): after ANY op sequence from an empty cache, every cached entry — hence everything GetValue can
    return — has a non-empty string, a non-marker value, and is a (string, value) pair that some AddValues call of the
    sequence was given for exactly this string. (Apply it to a prefix of the history to see that the pair was added BEFORE.) -/
theorem cache_values_are_added (H : Bytes → Bytes) (v : Variant) (m t : Int) (ops : List Op)
    (hr : ReloadsGood H v (GoodVal (added ops)) (init m t) ops) :
    AllGood (GoodVal (added ops)) (run H v (init m t) ops) :=
  good_run H v _ ops _ (by intro p hp; simp [init] at hp) (fun _ hp => hp) hr

/-- C21 (cache, GetValue): never a value for another string, never a marker value.  Open form (restarts under
    `ReloadsGood`); the closed form is `closed_get` (C21Closed). -/
theorem get_returns_added_value (H : Bytes → Bytes) (v : Variant) (m t : Int) (ops : List Op) (ts : Nat) (k : Bytes) (x : Int)
    (hr : ReloadsGood H v (GoodVal (added ops)) (init m t) ops)
    (hg : (getValue (run H v (init m t) ops) ts k).2 = some x) :
    k ≠ [] ∧ x ≠ 0 ∧ x ≠ markerFlood ∧ x ≠ markerNotExist ∧ (k, x) ∈ added ops := by
  obtain ⟨e, he, rfl⟩ := getValue_result hg
  exact (cache_values_are_added H v m t ops hr (k, e) (find_some_mem he)).spec

/-- what the Go types guarantee about an entry (int32 value, uint32 access time) plus a string shorter than 2^24 bytes
    (anything longer cannot be an item of a chunk anyway) -/
structure WFItem (it : Bytes × Entry) : Prop where
  klen : it.1.length < 16777216
  vlo : -2147483648 ≤ it.2.val
  vhi : it.2.val < 2147483648
  ts32 : it.2.ts < 4294967296

theorem readU32_roundtrip (n : Nat) (rest : Bytes) (h : n < 4294967296) : readU32 (le 4 n ++ rest) = .ok (n, rest) := by
  have h4 : (le 4 n).length = 4 := le_length _ _
  unfold readU32
  have : ¬ ((le 4 n ++ rest).length < 4) := by simp [h4]
  simp only [this, if_false]
  rw [List.take_left' h4, List.drop_left' h4, unle_le 4 n (by omega)]

theorem int_u32_roundtrip (v : Int) (h1 : -2147483648 ≤ v) (h2 : v < 2147483648) : intOfU32 (u32OfInt v) = v := by
  unfold intOfU32 u32OfInt
  split <;> omega

theorem paddingLen_lt (l : Nat) : paddingLen l < 4 := by unfold paddingLen; omega

theorem tlString_length (k : Bytes) :
    (tlString k).length =
      if k.length ≤ 253 then 1 + (k.length + paddingLen (k.length + 1))
      else if k.length ≤ 16777215 then 4 + (k.length + paddingLen k.length)
      else 8 + (k.length + paddingLen k.length) := by
  simp only [tlString]
  split
  · simp only [List.length_cons, List.length_append, List.length_replicate]; omega
  · split <;> simp only [List.length_cons, List.length_append, List.length_replicate, le_length] <;> omega

theorem tlString_length_le (k : Bytes) : (tlString k).length ≤ k.length + 11 := by
  have := paddingLen_lt k.length
  have := paddingLen_lt (k.length + 1)
  rw [tlString_length]
  split
  · omega
  · split <;> omega

theorem encItem_length (it : Bytes × Entry) : (encItem it).length = (tlString it.1).length + 8 := by
  simp [encItem, le_length]

theorem readStringTail_ok (k rest : Bytes) (p : Nat) :
    readStringTail (k ++ (List.replicate (paddingLen p) 0 ++ rest)) k.length p = .ok (k, rest) := by
  have h5 : (k ++ (List.replicate (paddingLen p) 0 ++ rest)).drop (k.length + paddingLen p) = rest := by
    rw [← List.append_assoc]; exact List.drop_left' (by simp)
  simp only [readStringTail, h5, List.length_append, List.length_replicate, List.drop_left, List.take_left,
    List.take_left' (List.length_replicate (n := paddingLen p) (a := (0 : UInt8)))]
  rw [if_neg (by omega), if_neg (by omega), if_neg (by simp)]

theorem readLongString_ok (b0 : UInt8) (n minLen l : Nat) (tail : Bytes) (hl : l < 256 ^ n) (hmin : minLen < l) :
    readLongString (b0 :: (le n l ++ tail)) n minLen = readStringTail tail l l := by
  have hd : (b0 :: (le n l ++ tail)).drop (1 + n) = tail := by
    rw [Nat.add_comm, List.drop_succ_cons, List.drop_left' (le_length n l)]
  simp only [readLongString, hd, List.drop_succ_cons, List.drop_zero, List.take_left' (le_length n l), unle_le n l hl,
    List.length_cons, List.length_append, le_length]
  rw [if_neg (by omega), if_neg (by omega)]

theorem readString_tlString (k rest : Bytes) (hk : k.length < 16777216) :
    readString (tlString k ++ rest) = .ok (k, rest) := by
  unfold tlString
  by_cases h1 : k.length ≤ 253
  · have : (UInt8.ofNat k.length).toNat = k.length := by simp [UInt8.toNat_ofNat']; omega
    simp only [h1, if_true, List.cons_append, List.append_assoc, readString, this]
    exact readStringTail_ok k rest (k.length + 1)
  · have h2 : k.length ≤ 16777215 := by omega
    simp only [h1, h2, if_false, if_true, List.cons_append, List.append_assoc, readString]
    rw [if_neg (by decide), if_pos (by decide), readLongString_ok _ 3 253 _ _ (by omega) (by omega)]
    exact readStringTail_ok k rest k.length

theorem readItem_encItem (it : Bytes × Entry) (rest : Bytes) (h : WFItem it) :
    readItem (encItem it ++ rest) = .ok (it, rest) := by
  obtain ⟨k, e⟩ := it
  unfold readItem encItem
  simp only [List.append_assoc]
  rw [readString_tlString k _ h.klen]
  simp only
  rw [readU32_roundtrip _ _ (by unfold u32OfInt; have := h.vlo; have := h.vhi; omega)]
  simp only
  rw [readU32_roundtrip _ _ h.ts32]
  simp only [int_u32_roundtrip e.val h.vlo h.vhi]

/-! ## load of a file whose chunk bodies decode: the elements of the chunks the reader returns -/

/-- the body of one chunk: the encodings of a group of elements -/
def encGroup (g : Cache) : Bytes := (g.map encItem).flatten

theorem loadItems_nil (s : St) : loadItems s [] = (s, none) := by
  rw [loadItems]; simp

theorem loadItems_ok {s : St} {body rest : Bytes} {it : Bytes × Entry} (hne : body.isEmpty = false)
    (h : readItem body = .ok (it, rest)) : loadItems s body = loadItems (loadInsert s it) rest := by
  rw [loadItems]
  simp only [hne, Bool.false_eq_true, if_false]
  split
  · rename_i h'; rw [h] at h'; cases h'
  · rename_i h'; rw [h] at h'; cases h'; rfl

theorem encGroup_cons (it : Bytes × Entry) (g : Cache) : encGroup (it :: g) = encItem it ++ encGroup g := by
  simp [encGroup]

theorem encGroup_ne_nil {g : Cache} (h : g ≠ []) : (encGroup g).isEmpty = false := by
  cases g with
  | nil => exact absurd rfl h
  | cons it g =>
    refine List.isEmpty_eq_false_iff.mpr (List.ne_nil_of_length_pos ?_)
    simp only [encGroup_cons, encItem, List.length_append, le_length]
    omega

theorem loadItems_encGroup (s : St) (g : Cache) (hwf : ∀ it ∈ g, WFItem it) :
    loadItems s (encGroup g) = (g.foldl loadInsert s, none) := by
  induction g generalizing s with
  | nil => simp [encGroup, loadItems_nil]
  | cons it g ih =>
    rw [loadItems_ok (encGroup_ne_nil (List.cons_ne_nil it g))
      (by rw [encGroup_cons]; exact readItem_encItem it _ (hwf it (by simp)))]
    rw [ih _ (fun x hx => hwf x (List.mem_cons_of_mem _ hx))]
    rfl

/-- when the bodies `readAll` returns are the encodings of non-empty groups `gs` of well-formed elements, `loadRest` inserts their
    elements in order and returns the reader's final error wrapped in `.chunk` (`none` if the reader stopped at the end of the
    file); so for such files every statement about `readAll` (round trip, truncation, corruption) transfers to the loader -/
theorem loadRest_groups (H : Bytes → Bytes) (s : St) (prev rest : Bytes) (gs : List Cache) (hne : ∀ g ∈ gs, g ≠ [])
    (hwf : ∀ g ∈ gs, ∀ it ∈ g, WFItem it) (h : (readAll H magicMappings prev rest).1 = gs.map encGroup) :
    loadRest H s prev rest = (gs.flatten.foldl loadInsert s, (readAll H magicMappings prev rest).2.map .chunk) := by
  fun_induction loadRest H s prev rest generalizing gs with
  | case1 s prev rest hr =>
    rw [readAll_eof hr] at h ⊢
    rw [List.map_eq_nil_iff.mp h.symm]
    rfl
  | case2 s prev rest e hr =>
    rw [readAll_err hr] at h ⊢
    rw [List.map_eq_nil_iff.mp h.symm]
    rfl
  | case3 s prev rest body stored rest' hr hb =>
    rw [readAll_chunk hr] at h
    obtain ⟨g, gs', rfl, rfl, -⟩ := List.map_eq_cons_iff.mp h.symm
    rw [encGroup_ne_nil (hne g (by simp))] at hb
    cases hb
  | case4 s prev rest body stored rest' hr hb r hsome =>
    rw [readAll_chunk hr] at h
    obtain ⟨g, gs', rfl, rfl, -⟩ := List.map_eq_cons_iff.mp h.symm
    simp only [r, loadItems_encGroup s g (hwf g (by simp))] at hsome
    cases hsome
  | case5 s prev rest body stored rest' hr hb r hnone ih =>
    rw [readAll_chunk hr] at h ⊢
    obtain ⟨g, gs', rfl, rfl, hrest⟩ := List.map_eq_cons_iff.mp h.symm
    simp only [r, loadItems_encGroup s g (hwf g (by simp))] at ih ⊢
    rw [ih gs' (fun x hx => hne x (List.mem_cons_of_mem _ hx)) (fun x hx => hwf x (List.mem_cons_of_mem _ hx)) hrest.symm]
    simp [List.foldl_append]

theorem mappings_params {H : Bytes → Bytes} (hH : ∀ x, (H x).length = 16) : Params H magicMappings :=
  ⟨hH, by decide⟩

/-- a saved file: the chunk bodies are the encodings of non-empty groups of well-formed elements -/
structure SavedAs (H : Bytes → Bytes) (file : Bytes) (gs : List Cache) : Prop where
  hlen : ∀ x, (H x).length = 16
  file_eq : file = encodeAll H magicMappings zeroHash (gs.map encGroup)
  nonempty : ∀ g ∈ gs, g ≠ []
  wf : ∀ g ∈ gs, ∀ it ∈ g, WFItem it
  small : ∀ g ∈ gs, (encGroup g).length ≤ chunkSize

/-- the state `LoadMappingsCacheSlice` starts from -/
def emptyOn (file : Bytes) (m : Int) : St := { maxSize := m, store := Chunked.new file }

theorem loadNew_eq (H : Bytes → Bytes) (file : Bytes) (m : Int) :
    loadNew H file m = loadRest H (emptyOn file m) zeroHash file :=
  rfl

theorem SavedAs.bodies_small {H : Bytes → Bytes} {file : Bytes} {gs : List Cache} (hs : SavedAs H file gs) :
    ∀ b ∈ gs.map encGroup, b.length ≤ chunkSize := by
  intro b hb
  obtain ⟨g, hg, rfl⟩ := List.mem_map.mp hb
  exact hs.small g hg

theorem SavedAs.bodies {H : Bytes → Bytes} {img : Bytes} {gs : List Cache} (hs : SavedAs H img gs) :
    (readAll H magicMappings zeroHash img).1 = gs.map encGroup := by
  rw [hs.file_eq, read_write_roundtrip (mappings_params hs.hlen) _ hs.bodies_small]

theorem SavedAs.load_prefix {H : Bytes → Bytes} {file : Bytes} {gs : List Cache} (hs : SavedAs H file gs) {b : Bytes} {k : Nat}
    (m : Int) (h : (readAll H magicMappings zeroHash b).1 = (gs.map encGroup).take k) :
    loadNew H b m
      = ((gs.take k).flatten.foldl loadInsert (emptyOn b m), (readAll H magicMappings zeroHash b).2.map .chunk) := by
  rw [loadNew_eq]
  exact loadRest_groups H _ _ _ _ (fun g hg => hs.nonempty g (List.mem_of_mem_take hg))
    (fun g hg => hs.wf g (List.mem_of_mem_take hg)) (by rw [h, List.map_take])

/-- a restart from ANY bytes that are not longer than the image and do not pass while damaged loads whole saved entries only.
    The saved bodies are named as what the reader returns from the image (`SavedAs.bodies`), as `OpLegal` (C21Closed) names them. -/
theorem loadNew_damaged {H : Bytes → Bytes} {img : Bytes} {gs : List Cache} (hs : SavedAs H img gs) (b : Bytes) (m : Int)
    (hl : b.length ≤ img.length)
    (hnp : ¬ PassesFrom H magicMappings zeroHash (readAll H magicMappings zeroHash img).1 b) :
    ∃ k, k ≤ gs.length ∧ (loadNew H b m).1 = (gs.take k).flatten.foldl loadInsert (emptyOn b m) := by
  rw [hs.bodies] at hnp
  rw [hs.file_eq] at hl
  rcases damaged_prefix_or_passes (mappings_params hs.hlen) (gs.map encGroup) hs.bodies_small zeroHash b hl with
    ⟨k, hk, h⟩ | h
  · exact ⟨k, by simpa using hk, by rw [hs.load_prefix m h]⟩
  · exact absurd h hnp

theorem mem_foldl_loadInsert {items : Cache} {s : St} {p : Bytes × Entry} (hp : p ∈ (items.foldl loadInsert s).cache) :
    p ∈ s.cache ∨ p ∈ items := by
  induction items generalizing s with
  | nil => exact Or.inl hp
  | cons it items ih =>
    rcases ih hp with h | h
    · unfold loadInsert at h
      split at h
      · exact Or.inl h
      · exact (mem_put h).elim (fun h => Or.inr (by simp [h])) Or.inl
    · exact Or.inr (List.mem_cons_of_mem _ h)

theorem mem_load_empty {items : Cache} {file : Bytes} {m : Int} {p : Bytes × Entry}
    (hp : p ∈ (items.foldl loadInsert (emptyOn file m)).cache) : p ∈ items :=
  (mem_foldl_loadInsert hp).elim (fun h => by simp [emptyOn] at h) id

theorem mem_loadNew_damaged {H : Bytes → Bytes} {img : Bytes} {gs : List Cache} (hs : SavedAs H img gs) {b : Bytes} {m : Int}
    (hl : b.length ≤ img.length)
    (hnp : ¬ PassesFrom H magicMappings zeroHash (readAll H magicMappings zeroHash img).1 b)
    {p : Bytes × Entry} (hp : p ∈ (loadNew H b m).1.cache) : p ∈ gs.flatten := by
  obtain ⟨k, _, hk⟩ := loadNew_damaged hs b m hl hnp
  rw [hk] at hp
  obtain ⟨g, hg, hig⟩ := List.mem_flatten.mp (mem_load_empty hp)
  exact List.mem_flatten.mpr ⟨g, List.mem_of_mem_take hg, hig⟩

theorem SavedAs.cut_not_passes {H : Bytes → Bytes} {img : Bytes} {gs : List Cache} (hs : SavedAs H img gs) (n : Nat) :
    ¬ PassesFrom H magicMappings zeroHash (readAll H magicMappings zeroHash img).1 (img.take n) := by
  have := truncation_never_passes (mappings_params hs.hlen) (gs.map encGroup) hs.bodies_small zeroHash n
  rwa [← hs.file_eq, ← hs.bodies] at this

/-- discharges `ReloadsGood` for every truncation of a saved file whose elements satisfy `Q` -/
theorem reload_truncated_good {Q : Bytes → Int → Prop} {H : Bytes → Bytes} {file : Bytes} {gs : List Cache}
    (hs : SavedAs H file gs) (hq : ∀ g ∈ gs, ∀ it ∈ g, Q it.1 it.2.val) (n : Nat) (m : Int) :
    AllGood Q (loadNew H (file.take n) m).1 := by
  intro p hp
  obtain ⟨g, hg, hig⟩ := List.mem_flatten.mp (mem_loadNew_damaged hs (List.length_take_le' n file) (hs.cut_not_passes n) hp)
  exact hq g hg p hig

theorem foldl_loadInsert_eq_append (items : Cache) (s : St) (hn : (keys s.cache ++ keys items).Nodup) :
    (items.foldl loadInsert s).cache = s.cache ++ items := by
  induction items generalizing s with
  | nil => simp
  | cons it items ih =>
    have hk : find s.cache it.1 = none := by
      apply find_none_iff.mpr
      intro hmem
      have := List.nodup_append.mp hn
      exact this.2.2 _ hmem _ (by simp [keys]) rfl
    have hp : present s it.1 = false := present_false_iff.mpr hk
    have e1 : (loadInsert s it).cache = s.cache ++ [it] := by
      simp only [loadInsert, hp, Bool.false_eq_true, if_false]
      exact put_eq_append it.2 hk
    simp only [List.foldl_cons]
    rw [ih (loadInsert s it) (by rw [e1]; simpa [keys, List.append_assoc] using hn), e1]
    simp

theorem totals_perm {a b : Cache} (h : a.Perm b) : totalSize a = totalSize b ∧ totalTS a = totalTS b :=
  ⟨Lists.sum_perm (h.map _), Lists.sum_perm (h.map _)⟩

/-- C21 (reload, same contents): if the file holds the elements of the cache in some order (`order` is a permutation of
    the map — Go map order or the deterministic order), split into chunks in any way, then a restart loads a cache with
    exactly the same string → (value, access time) mapping and the same `sumSize` / `sumTS`. -/
theorem reload_same_contents {H : Bytes → Bytes} {file : Bytes} {gs : List Cache} (s : St) (hex : Exact s)
    (hs : SavedAs H file gs) (hperm : gs.flatten.Perm s.cache) (m : Int) :
    (loadNew H file m).2 = none ∧
    (∀ k, find (loadNew H file m).1.cache k = find s.cache k) ∧
    (loadNew H file m).1.sumSize = s.sumSize ∧ (loadNew H file m).1.sumTS = s.sumTS := by
  have hrt := read_write_roundtrip (mappings_params hs.hlen) (gs.map encGroup) hs.bodies_small
  rw [← hs.file_eq] at hrt
  have hload : loadNew H file m = (gs.flatten.foldl loadInsert (emptyOn file m), none) := by
    have := loadRest_groups H (emptyOn file m) zeroHash file gs hs.nonempty hs.wf (by rw [hrt])
    rw [hrt] at this
    rw [loadNew_eq]
    exact this
  have hnd : (keys gs.flatten).Nodup := by
    have : (keys gs.flatten).Perm (keys s.cache) := List.Perm.map _ hperm
    exact this.nodup_iff.mpr hex.nodup
  have hcache : (gs.flatten.foldl loadInsert (emptyOn file m)).cache = gs.flatten := by
    rw [foldl_loadInsert_eq_append _ _ (by simpa [emptyOn, keys] using hnd)]; simp [emptyOn]
  have hex' : Exact (gs.flatten.foldl loadInsert (emptyOn file m)) := by
    have : Exact (loadNew H file m).1 := exact_loadNew H file m
    rw [hload] at this; exact this
  have htot := totals_perm hperm
  rw [hload]
  refine ⟨rfl, ?_, ?_, ?_⟩
  · intro k
    simp only [hcache]
    cases hf : find s.cache k with
    | none =>
      apply find_none_iff.mpr
      intro hmem
      have : k ∈ keys s.cache := (List.Perm.map _ hperm).mem_iff.mp hmem
      exact (find_none_iff.mp hf) this
    | some e =>
      exact mem_find_of_nodup hnd (hperm.mem_iff.mpr (find_some_mem hf))
  · show (gs.flatten.foldl loadInsert (emptyOn file m)).sumSize = s.sumSize
    rw [hex'.size, hcache, htot.1, hex.size]
  · show (gs.flatten.foldl loadInsert (emptyOn file m)).sumTS = s.sumTS
    rw [hex'.ts, hcache, htot.2, hex.ts]

/-- `elementSizeMem` of the model agrees with the compiled Go function on the sampled lengths (regenerated on every run) -/
theorem gen_elementSizeMem_samples :
    ∀ p ∈ SH.Gen.C21.elementSizeMemSamples, elementSize (List.replicate p.1 0) = (p.2 : Int) := by
  simp only [elementSize, List.length_replicate]
  decide

/-- `tlString` has the length of `basictl.StringWrite` on the sampled lengths (tiny / medium boundary, padding) -/
theorem gen_tlString_samples :
    ∀ p ∈ SH.Gen.C21.tlStringLenSamples, (tlString (List.replicate p.1 0)).length = p.2 := by
  simp only [tlString_length, List.length_replicate]
  decide

/-- a toy 16-byte "hash": the first 16 bytes of the input, zero padded (the theorems hold for every H) -/
def toyH (x : Bytes) : Bytes := (x ++ zeroHash).take 16

theorem toy_params : Params toyH 7 :=
  ⟨by intro x; simp [toyH, zeroHash, hashSize_val], by decide⟩

example : readAll toyH 7 zeroHash (encodeAll toyH 7 zeroHash [[1, 2], [3]]) = ([[1, 2], [3]], none) :=
  read_write_roundtrip toy_params _ (by decide)

example : (encodeAll toyH 7 zeroHash [[1, 2], [3]]).length = 51 := by decide +kernel

/-- The pinned code (`Variant.dupAdd`): AddValues(10, [{"a",1},{"a",2}]) on an empty cache with room for both.
    One element, but sumSize = 66 = 2·elementSizeMem("a") and sumTS = 20 = 2·10. Replayed on the real code by the
    harness (sig=cache-accounting). -/
def dupWitness : St := addValues .dupAdd (init 1000 0) 10 [([97], 1), ([97], 2)] []

example : dupWitness.cache.length = 1 ∧ dupWitness.sumSize = 66 ∧ totalSize dupWitness.cache = 33 ∧
    dupWitness.sumTS = 20 ∧ totalTS dupWitness.cache = 10 := by decide +kernel

theorem dupAdd_breaks_accounting : ¬ Exact dupWitness := by
  intro h
  have := h.size
  revert this
  decide +kernel

/-- the fixed code on the same input (first value wins, sums exact) -/
example : (addValues .fixed (init 1000 0) 10 [([97], 1), ([97], 2)] []).cache = [([97], { val := 1, ts := 10 })] ∧
    (addValues .fixed (init 1000 0) 10 [([97], 1), ([97], 2)] []).sumSize = 33 := by decide +kernel

/-- eviction reached and the bound of `addValues_size_bound` tight: two 33-byte elements in a 66-byte cache, a third
    one arrives later, the older one goes -/
example : (run toyH .fixed (init 66 0) [.add 10 [([97], 1)] [], .add 11 [([98], 2)] [], .add 20 [([99], 3)] [[97], [98]]]).sumSize = 66 ∧
    (keys (run toyH .fixed (init 66 0) [.add 10 [([97], 1)] [], .add 11 [([98], 2)] [], .add 20 [([99], 3)] [[97], [98]]]).cache) = [[98], [99]] := by
  decide +kernel

/-- markers and empty strings are filtered -/
example : (addValues .fixed (init 1000 0) 10 [([97], 0), ([98], -1), ([99], -2), ([], 5), ([100], 7)] []).cache
    = [([100], { val := 7, ts := 10 })] := by decide +kernel

/-- a concrete instance of `HashCoincidence`: with a hash that ignores its input every damaged chunk passes -/
example : HashCoincidence (fun _ => zeroHash) 7 [[1]] :=
  ⟨0, by decide, le 4 7 ++ le 4 1 ++ [2] ++ zeroHash, by decide +kernel, by decide +kernel⟩

end SH.C21
