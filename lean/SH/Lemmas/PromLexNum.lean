/-
  SH.Lemmas.PromLexNum — the lexical layer for durations and numbers (property C28), over SH.Model.PromLex.

  "What follows the token" is said in four ways in the lexical files: the model's `headAlnum rest = false` (durations),
  `numFollow rest = true` (numbers; defined here), a spelled-out `∀ x t, rest = x :: t → …` (`step_lname`, `Frag.bnd`), and
  `Stops p T`, the form the proofs work in; `numFollow_stops`, `headAlnum_stops`, `bnd.word`, `numFollow_of_bnd` lead across.
  Durations: the digit list `%d` writes reads back to n (`natDigits_spec`); `<n>s` is cut as one DURATION token by
  lexNumberOrDuration (after `offset`) and by lexDuration (after `[`) (`lex_printSeconds`) and parsed back to n seconds for
  1 ≤ n ≤ maxSecs (`parseDuration_printSeconds`). Numbers: scanNumber consumes exactly the shapes fmt.Sprint(float64) writes
  (`scanNumber_shape`); the `%.3f` seconds of an `@` timestamp convert back to the millisecond (`atMs_printMs`). Words:
  lexKeywordOrIdentifier takes a word whole (`lexWord_run`).
-/
import SH.Model.PromLex
import SH.Model.PromSyntax
namespace SH.PromLex.Num
open SH.PromLex

/-- `T` does not begin with a character of class `p`: what a scanner of `p`-characters stops at -/
def Stops (p : Nat → Bool) (T : List Nat) : Prop := ∀ c t, T = c :: t → p c = false

theorem Stops.mono {p q : Nat → Bool} {T : List Nat} (h : Stops p T) (hq : ∀ c, q c = true → p c = true) : Stops q T :=
  fun c t e => Bool.eq_false_iff.mpr fun hc => Bool.eq_false_iff.mp (h c t e) (hq c hc)

theorem stops_cons {p : Nat → Bool} {c : Nat} (hc : p c = false) (t : List Nat) : Stops p (c :: t) := by
  rintro x u ⟨rfl, _⟩
  exact hc

theorem span_run (p : Nat → Bool) (ds rest : List Nat) (hds : ∀ d ∈ ds, p d = true) (hr : Stops p rest) :
    (ds ++ rest).takeWhile p = ds ∧ (ds ++ rest).dropWhile p = rest := by
  rw [List.takeWhile_append_of_pos hds, List.dropWhile_append_of_pos hds]
  cases rest with
  | nil => simp
  | cons c t => simp [hr c t rfl]

theorem readNat_snoc (ds : List Nat) (d : Nat) : readNat (ds ++ [d]) = readNat ds * 10 + (d - 48) := by
  simp [readNat, List.foldl_append]

theorem isDigit_add (x : Nat) (h : x < 10) : isDigitB (48 + x) = true := by
  simp only [isDigitB, Bool.and_eq_true, decide_eq_true_eq]
  omega

theorem digitsAux_spec : ∀ (f n : Nat), n ≤ f →
    readNat (digitsAux f n) = n ∧ (∀ d ∈ digitsAux f n, isDigitB d = true) ∧ digitsAux f n ≠ [] := by
  intro f
  induction f with
  | zero =>
    intro n hn
    have : n = 0 := by omega
    subst this
    simp [digitsAux, readNat, isDigitB]
  | succ f ih =>
    intro n hn
    unfold digitsAux
    split
    · rename_i hlt
      refine ⟨by simp [readNat], ?_, by simp⟩
      intro d hd
      rw [List.mem_singleton.mp hd]
      exact isDigit_add n hlt
    · rename_i hge
      obtain ⟨h1, h2, _⟩ := ih (n / 10) (by omega)
      refine ⟨?_, ?_, by simp⟩
      · rw [readNat_snoc, h1]; omega
      · intro d hd
        simp at hd
        rcases hd with hd | rfl
        · exact h2 d hd
        · exact isDigit_add _ (Nat.mod_lt _ (by decide))

theorem natDigits_spec (n : Nat) :
    readNat (natDigits n) = n ∧ (∀ d ∈ natDigits n, isDigitB d = true) ∧ natDigits n ≠ [] :=
  digitsAux_spec n n (Nat.le_refl n)

theorem isDigit_115 : isDigitB 115 = false := by decide

theorem parseDurLoop_secs (ds : List Nat) (hds : ∀ d ∈ ds, isDigitB d = true) (hne : ds ≠ [])
    (hv : readNat ds ≤ SH.PromSyntax.maxSecs) (f : Nat) :
    parseDurLoop (f + 2) (ds ++ [115]) 0 0 = some (readNat ds * 1000000000) := by
  obtain ⟨d0, ds', rfl⟩ := List.exists_cons_of_ne_nil hne
  have hd0 := hds d0 (by simp)
  obtain ⟨htw, hdw⟩ := span_run isDigitB (d0 :: ds') [115] hds (stops_cons isDigit_115 _)
  simp only [SH.PromSyntax.maxSecs] at hv
  have h1 : ¬ readNat (d0 :: ds') ≥ 2 ^ 64 := by omega
  have h2 : ¬ readNat (d0 :: ds') > 2 ^ 63 / 1000000000 := by omega
  rw [show f + 2 = (f + 1) + 1 from rfl]
  unfold parseDurLoop
  simp only [List.cons_append, hd0, Bool.not_true, Bool.false_eq_true, if_false]
  simp only [← List.cons_append, htw, hdw]
  simp [List.takeWhile, List.dropWhile, isDigit_115, unitOf, h1, h2, parseDurLoop]
  omega

theorem printSeconds_ne (n : Nat) : printSeconds n ≠ [48] ∧ printSeconds n ≠ [] := by
  obtain ⟨_, _, hne⟩ := natDigits_spec n
  obtain ⟨d0, ds', h⟩ := List.exists_cons_of_ne_nil hne
  simp [printSeconds, h]

theorem parseDuration_printSeconds (n : Nat) (h1 : 1 ≤ n) (h2 : n ≤ SH.PromSyntax.maxSecs) :
    parseDuration (printSeconds n) = some n := by
  obtain ⟨hr, hd, hne⟩ := natDigits_spec n
  have hl := parseDurLoop_secs (natDigits n) hd hne (by rw [hr]; exact h2) (natDigits n).length
  have hlen : (printSeconds n).length + 1 = (natDigits n).length + 2 := by
    simp only [printSeconds, List.length_append, List.length_cons, List.length_nil]
  have hns : parseDurNs (printSeconds n) = some (n * 1000000000) := by
    simp only [parseDurNs, (printSeconds_ne n).1, (printSeconds_ne n).2, if_false, hlen]
    rw [show printSeconds n = natDigits n ++ [115] from rfl, hl, hr]
  simp only [parseDuration, hns]
  have : n * 1000000000 ≠ 0 := by omega
  simp only [this, if_false]
  congr 1
  simp only [SH.PromSyntax.maxSecs] at h2
  omega

theorem scanPrefix_dec (d0 : Nat) (X T : List Nat) (hd0 : isDigitB d0 = true) (hX : ∀ d ∈ X, isDigitB d = true)
    (hT : Stops (fun c => c == 120 || c == 88) T) :
    ∃ X', (scanPrefix (d0 :: X ++ T)) = (false, X' ++ T) ∧ ∀ d ∈ X', isDigitB d = true := by
  by_cases h48 : d0 = 48
  · subst h48
    cases X with
    | nil =>
      cases T with
      | nil => exact ⟨[], by simp [scanPrefix], by simp⟩
      | cons c t =>
        have h := hT c t rfl
        simp only [Bool.or_eq_false_iff, beq_eq_false_iff_ne] at h
        exact ⟨[], by simp [scanPrefix, h.1, h.2], by simp⟩
    | cons x X' =>
      have hx := hX x (by simp)
      have h1 : x ≠ 120 := by intro h; subst h; simp [isDigitB] at hx
      have h2 : x ≠ 88 := by intro h; subst h; simp [isDigitB] at hx
      exact ⟨x :: X', by simp [scanPrefix, h1, h2], hX⟩
  · refine ⟨d0 :: X, ?_, ?_⟩
    · unfold scanPrefix
      split
      · rename_i heq; simp at heq; exact absurd heq.1 h48
      · rename_i heq; simp at heq; exact absurd heq.1 h48
      · rfl
    · intro d hd; simp at hd; rcases hd with rfl | hd
      · exact hd0
      · exact hX d hd

theorem scanNumber_secs (ds rest : List Nat) (hds : ∀ d ∈ ds, isDigitB d = true) (hne : ds ≠ []) :
    scanNumber (ds ++ 115 :: rest) = (false, 115 :: rest) := by
  obtain ⟨d0, X, rfl⟩ := List.exists_cons_of_ne_nil hne
  obtain ⟨X', hp, hX'⟩ := scanPrefix_dec d0 X (115 :: rest) (hds d0 (by simp)) (fun d hd => hds d (by simp [hd]))
    (stops_cons rfl _)
  have hdw := (span_run isDigitB X' (115 :: rest) hX' (stops_cons isDigit_115 _)).2
  simp only [scanNumber, hp, Bool.false_eq_true, if_false, hdw]
  simp [scanFrac, scanExp, headAlnum, isAlnumB, isAlphaB]

theorem acceptRemDur_s (rest : List Nat) (h : headAlnum rest = false) : acceptRemDur (115 :: rest) = some rest := by
  cases rest with
  | nil => simp [acceptRemDur, isUnit1, remDurLoop]
  | cons c t =>
    simp only [headAlnum] at h
    have hd : isDigitB c = false := by simp [isAlnumB] at h; exact h.2
    simp [acceptRemDur, isUnit1, remDurLoop, hd, h]

theorem lex_secs (ds rest : List Nat) (hds : ∀ d ∈ ds, isDigitB d = true) (hne : ds ≠ []) (h : headAlnum rest = false) :
    lexNumOrDur (ds ++ 115 :: rest) = .dur (ds.length + 1) ∧ lexDurationB (ds ++ 115 :: rest) = .dur (ds.length + 1) := by
  have hs := scanNumber_secs ds rest hds hne
  have ha := acceptRemDur_s rest h
  have hl : (ds ++ 115 :: rest).length - rest.length = ds.length + 1 := by
    simp only [List.length_append, List.length_cons]; omega
  simp only [lexNumOrDur, lexDurationB, hs, ha, hl, Bool.false_eq_true, if_false, and_self]

theorem lex_printSeconds (n : Nat) (rest : List Nat) (h : headAlnum rest = false) :
    lexNumOrDur (printSeconds n ++ rest) = .dur (printSeconds n).length ∧
    lexDurationB (printSeconds n ++ rest) = .dur (printSeconds n).length := by
  obtain ⟨_, hd, hne⟩ := natDigits_spec n
  have := lex_secs (natDigits n) rest hd hne h
  simpa [printSeconds] using this

/-- what may follow a printed number: not an alphanumeric and not a dot -/
def numFollow : List Nat → Bool
  | c :: _ => !isAlnumB c && c != 46
  | [] => true

theorem numFollow_stops {rest : List Nat} (h : numFollow rest = true) : Stops (fun c => isAlnumB c || c == 46) rest := by
  rintro c t rfl
  simpa [numFollow] using h

theorem headAlnum_stops {T : List Nat} (h : Stops isAlnumB T) : headAlnum T = false := by
  cases T with
  | nil => rfl
  | cons c t => exact h c t rfl

theorem stops_frac {p : Nat → Bool} (h46 : p 46 = false) (frac : Option (List Nat)) {T : List Nat} (hT : Stops p T) :
    Stops p (fracToks frac ++ T) := by
  cases frac with
  | none => exact hT
  | some f => exact stops_cons h46 _

theorem stops_exp {p : Nat → Bool} (h101 : p 101 = false) (exp : Option (Bool × List Nat)) {T : List Nat} (hT : Stops p T) :
    Stops p (expToks exp ++ T) := by
  cases exp with
  | none => exact hT
  | some e => exact stops_cons h101 _

theorem scanFrac_fracToks (frac : Option (List Nat)) (hok : ∀ f ∈ frac, ∀ d ∈ f, isDigitB d = true) {T : List Nat}
    (hd : Stops isDigitB T) (h46 : Stops (· == 46) T) : scanFrac isDigitB (fracToks frac ++ T) = T := by
  cases frac with
  | none =>
    show scanFrac isDigitB T = T
    unfold scanFrac
    split
    · exact absurd (h46 46 _ rfl) (by decide)
    · rfl
  | some f => exact (span_run isDigitB f T (hok f rfl) hd).2

theorem scanExp_expToks (exp : Option (Bool × List Nat)) (hok : ∀ e ∈ exp, ∀ d ∈ e.2, isDigitB d = true) {T : List Nat}
    (hd : Stops isDigitB T) (he : Stops (fun c => c == 101 || c == 69) T) : scanExp (expToks exp ++ T) = T := by
  cases exp with
  | none =>
    cases T with
    | nil => rfl
    | cons c t =>
      have h := he c t rfl
      simp only [Bool.or_eq_false_iff, beq_eq_false_iff_ne] at h
      simp [expToks, scanExp, h.1, h.2]
  | some ne => cases hn : ne.1 <;> simp [expToks, scanExp, scanSign, hn, (span_run isDigitB ne.2 T (hok ne rfl) hd).2]

/-- prefix, digits, fraction and exponent each stop at the head of the next part or, behind the last, of `rest` -/
theorem scanNumber_shape (sh : NumShape) (hok : sh.ok = true) (rest : List Nat) (hf : numFollow rest = true) :
    scanNumber (sh.render ++ rest) = (true, rest) := by
  obtain ⟨int, frac, exp⟩ := sh
  have hS := numFollow_stops hf
  have hdig : Stops isDigitB rest := hS.mono fun c h => by simp [isAlnumB, h]
  have hdot : Stops (· == 46) rest := hS.mono fun c h => by simp [h]
  have hx : Stops (fun c => c == 120 || c == 88) rest := hS.mono fun c h => by
    simp only [Bool.or_eq_true, beq_iff_eq] at h
    rcases h with rfl | rfl <;> rfl
  have he : Stops (fun c => c == 101 || c == 69) rest := hS.mono fun c h => by
    simp only [Bool.or_eq_true, beq_iff_eq] at h
    rcases h with rfl | rfl <;> rfl
  simp only [NumShape.ok, Bool.and_eq_true, Bool.not_eq_true', List.all_eq_true] at hok
  obtain ⟨⟨⟨hne, hint⟩, hfrac⟩, hexp⟩ := hok
  obtain ⟨d0, X, rfl⟩ := List.exists_cons_of_ne_nil (by intro h; subst h; simp at hne : int ≠ [])
  have hfrac' : ∀ f ∈ frac, ∀ d ∈ f, isDigitB d = true := by
    rintro f rfl
    simp only [Bool.and_eq_true, List.all_eq_true] at hfrac
    exact hfrac.2
  have hexp' : ∀ e ∈ exp, ∀ d ∈ e.2, isDigitB d = true := by
    rintro e rfl
    simp only [Bool.and_eq_true, List.all_eq_true] at hexp
    exact hexp.2
  obtain ⟨X', hp, hX'⟩ := scanPrefix_dec d0 X (fracToks frac ++ (expToks exp ++ rest)) (hint d0 (by simp))
    (fun d hd' => hint d (by simp [hd'])) (stops_frac rfl frac (stops_exp rfl exp hx))
  simp only [NumShape.render, List.append_assoc, scanNumber, hp, Bool.false_eq_true, if_false,
    (span_run isDigitB X' _ hX' (stops_frac rfl frac (stops_exp rfl exp hdig))).2,
    scanFrac_fracToks frac hfrac' (stops_exp rfl exp hdig) (stops_exp rfl exp hdot),
    scanExp_expToks exp hexp' hdig he, headAlnum_stops (hS.mono fun c h => by simp [h]), Bool.not_false]

theorem lexNumOrDur_shape (sh : NumShape) (hok : sh.ok = true) (rest : List Nat) (hf : numFollow rest = true) :
    lexNumOrDur (sh.render ++ rest) = .num sh.render.length := by
  simp only [lexNumOrDur, scanNumber_shape sh hok rest hf, if_true, List.length_append, Nat.add_sub_cancel]

theorem render_cons (sh : NumShape) (hok : sh.ok = true) : ∃ d t, sh.render = d :: t ∧ isDigitB d = true := by
  obtain ⟨int, frac, exp⟩ := sh
  simp only [NumShape.ok, Bool.and_eq_true, Bool.not_eq_true', List.all_eq_true] at hok
  obtain ⟨d0, X, rfl⟩ := List.exists_cons_of_ne_nil (by intro h; subst h; simp at hok : int ≠ [])
  exact ⟨d0, X ++ (fracToks frac ++ expToks exp), by simp [NumShape.render], hok.1.1.2 d0 (by simp)⟩

/-- lexKeywordOrIdentifier takes a word whole (`Inf` and `NaN` are words; the keyword table makes them NUMBER tokens) -/
theorem lexWord_run (w : List Nat) (rest : List Nat) (hw : ∀ c ∈ w, isWordB c = true) (hr : Stops isWordB rest) :
    lexWord (w ++ rest) = (w, rest) :=
  Prod.ext (span_run isWordB w rest hw hr).1 (span_run isWordB w rest hw hr).2

theorem pad3_digits (r : Nat) : ∀ d ∈ pad3Digits r, isDigitB d = true := by
  intro d hd
  simp only [pad3Digits, List.mem_cons, List.mem_nil_iff, or_false] at hd
  rcases hd with rfl | rfl | rfl <;> exact isDigit_add _ (Nat.mod_lt _ (by decide))

theorem readNat_pad3 (r : Nat) (h : r < 1000) : readNat (pad3Digits r) = r := by
  simp only [pad3Digits, readNat, List.foldl_cons, List.foldl_nil, Nat.add_sub_cancel_left, Nat.zero_mul, Nat.zero_add]
  omega

theorem atMs_printMs (k : Nat) : atMs (printMs k) = some k := by
  obtain ⟨hr, hd, _⟩ := natDigits_spec (k / 1000)
  obtain ⟨htw, hdw⟩ := span_run isDigitB (natDigits (k / 1000)) (46 :: pad3Digits (k % 1000)) hd (stops_cons rfl _)
  have hall : (pad3Digits (k % 1000)).all isDigitB = true := List.all_eq_true.mpr (pad3_digits _)
  have h3 : readNat (pad3Digits (k % 1000)) = k % 1000 := readNat_pad3 _ (Nat.mod_lt _ (by omega))
  simp only [atMs, printMs, htw, hdw, hall, if_true, decMs, hr]
  have : ((pad3Digits (k % 1000) ++ [48, 48, 48]).take 3) = pad3Digits (k % 1000) := by simp [pad3Digits]
  rw [this, h3]
  simp [pad3Digits]
  omega

end SH.PromLex.Num
