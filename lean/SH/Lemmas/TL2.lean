/-
  SH.Lemmas.TL2 — lemmas for the TL2 codec (SH.Model.TL2; its size codec and strings are defined in SH.Model.TL): the size
  codec and strings, presence bits, the block/trim layout of object bodies against the slot reader (`decSlot_step`),
  well-typedness `wt2`, and the round trip of every descriptor of the modelled fragment (`rt2_all`, stated in `RT2V`, by
  structural recursion on the descriptor, clause for clause like `wt2`).
-/
import SH.Lemmas.TL
import SH.Model.TL2
namespace SH.C14
open SH.TL

mutual
/-- the values the TL2 codec round-trips: values of the shape of the descriptor within the modelled fragment, every
    count and body short enough for its size prefix. No environment: a conditional field may be present or absent
    whatever its mask bit (TL2 presence is a bit of its own), so this is not a restriction of TL1's `wt`. -/
def wt2 : Desc → Val → Bool
  | .nat, .nat n => n < 4294967296
  | .fixed w, .raw b => b.length == w && (w == 4 || w == 8)
  | .str, .str b => b.length ≤ maxInt
  | .boxed _ t, v => wt2 t v
  | .union alts, .alt i v => i < altCount alts && i ≤ maxInt && v == .recd .nil
  | .struct _ fs, .recd vs => wt2Fs fs vs && (layout 0 ((false, []) :: encFs fs vs)).length ≤ maxInt
  | .vec t, .list vs =>
    allVals (wt2 t) vs && vs.length ≤ maxInt && (tl2WriteSize vs.length ++ encVals (encE t) vs).length ≤ maxInt
  | _, _ => false
def wt2Fs : Flds → Vals → Bool
  | .nil, .nil => true
  | .natF rest, .cons (.nat n) vs => n < 4294967296 && wt2Fs rest vs
  | .fld t rest, .cons v vs => wt2 t v && wt2Fs rest vs
  | .opt _ _ t rest, .cons v vs => (v.isNone || (if isEmptyCtor t then v == .recd .nil else wt2 t v)) && wt2Fs rest vs
  | _, _ => false
end

theorem tl2ParseSize_tiny (n : Nat) (hn : n < 254) (r : Bytes) : tl2ParseSize (UInt8.ofNat n :: r) = some (n, r) := by
  show (if (UInt8.ofNat n).toNat < mediumStringMarker then _ else _) = _
  rw [UInt8.toNat_ofNat_of_lt' (Nat.lt_trans hn (by decide))]
  exact if_pos hn

theorem tl2ParseSize_zero (r : Bytes) : tl2ParseSize (0 :: r) = some (0, r) := tl2ParseSize_tiny 0 (by decide) r

theorem tl2_size_rt (n : Nat) (hn : n ≤ maxInt) (r : Bytes) :
    tl2ParseSize (tl2WriteSize n ++ r) = some (n, r) := by
  unfold tl2WriteSize
  by_cases h1 : tl2Tiny n = true
  · rw [if_pos h1]
    exact tl2ParseSize_tiny n (of_decide_eq_true h1) r
  · rw [if_neg h1]
    have h1' : 254 ≤ n := Nat.le_of_not_lt (fun x => h1 (decide_eq_true x))
    by_cases h2 : tl2Medium n = true
    · -- as in `decStr_strHeader`
      have c1 : ¬ (254 : UInt8).toNat < mediumStringMarker := by decide
      have c2 : (254 : UInt8).toNat = mediumStringMarker := by decide
      have h2' : n < 254 + 65536 := of_decide_eq_true h2
      have hl : n - 254 < 256 * 256 := by omega
      rw [if_pos h2]
      simp only [List.cons_append, List.nil_append]
      rw [tl2ParseSize.eq_2, if_neg c1, if_pos c2]
      simp only [UInt8.toNat_ofNat', Nat.mod_mod]
      rw [mod_add_digit _ 256 256, Nat.mod_eq_of_lt hl, mediumStringMarker, Nat.add_sub_cancel' h1']
    · have c1 : ¬ (255 : UInt8).toNat < mediumStringMarker := by decide
      have c2 : ¬ (255 : UInt8).toNat = mediumStringMarker := by decide
      have hl : n < 72057594037927936 * 256 := Nat.lt_of_le_of_lt hn (by decide)
      rw [if_neg h2]
      simp only [le64, List.cons_append, List.nil_append]
      rw [tl2ParseSize.eq_2, if_neg c1, if_neg c2]
      simp only [UInt8.toNat_ofNat', Nat.mod_mod]
      rw [mod_add_digit n 256 256, mod_add_digit n 65536 256, mod_add_digit n 16777216 256,
        mod_add_digit n 4294967296 256, mod_add_digit n 1099511627776 256, mod_add_digit n 281474976710656 256,
        mod_add_digit n 72057594037927936 256, Nat.mod_eq_of_lt hl, if_neg (Nat.not_lt.2 hn)]

theorem tl2_size_len (n : Nat) : (tl2WriteSize n).length = tl2CalculateSize n := by
  unfold tl2WriteSize tl2CalculateSize
  split
  · rfl
  · split <;> rfl

theorem tl2WriteSize_ne (n : Nat) : tl2WriteSize n ≠ [] := by
  unfold tl2WriteSize
  split
  · exact List.cons_ne_nil _ _
  · split <;> exact List.cons_ne_nil _ _

theorem tl2_string_rt (b r : Bytes) (hn : b.length ≤ maxInt) :
    tl2ReadStr (tl2WriteStr b ++ r) = some (b, r) := by
  unfold tl2ReadStr tl2WriteStr
  rw [List.append_assoc, tl2_size_rt _ hn]
  exact takeN_append b r

theorem testBit_bitsToNat : ∀ (l : List Bool) (i : Nat), (bitsToNat l).testBit i = l.getD i false
  | [], i => Nat.zero_testBit i
  | b :: bs, 0 => by
    rw [bitsToNat, Nat.testBit_zero, Nat.add_mul_mod_self_left, List.getD_cons_zero]
    cases b <;> rfl
  | b :: bs, i + 1 => by
    have h : ((if b then 1 else 0) + 2 * bitsToNat bs) / 2 = bitsToNat bs := by
      rw [Nat.add_mul_div_left _ _ (by decide)]
      cases b <;> simp
    rw [bitsToNat, Nat.testBit_succ, h, testBit_bitsToNat bs i, List.getD_cons_succ]

theorem bitsToNat_lt : ∀ (l : List Bool), bitsToNat l < 2 ^ l.length
  | [] => Nat.one_pos
  | b :: bs => by
    have ih := bitsToNat_lt bs
    rw [bitsToNat, List.length_cons, Nat.pow_succ]
    have hb : (if b then 1 else 0) ≤ 1 := by cases b <;> decide
    omega

theorem blockByte_toNat (l : List Bool) : (UInt8.ofNat (bitsToNat (l.take 8))).toNat = bitsToNat (l.take 8) :=
  UInt8.toNat_ofNat_of_lt' (Nat.lt_of_lt_of_le (bitsToNat_lt _)
    (Nat.pow_le_pow_right (by decide) (List.length_take_le 8 l)))

/-- the block byte `blk` agrees with the presence flags `pres` of slot `k` and of the later slots of its block -/
def inBlk (k blk : Nat) (pres : List Bool) : Prop :=
  ∀ j, k % 8 + j < 8 → blk.testBit (k % 8 + j) = pres.getD j false

/-- what the slot reader needs of the block byte in front of slot `k`: nothing where `k` starts a block (a fresh byte is
    read there and `blk` is dropped), else agreement with the flags from `k` to the end of the block -/
def blkInv (k blk : Nat) (pres : List Bool) : Prop :=
  k % 8 ≠ 0 → inBlk k blk pres

theorem getD_of_any_false : ∀ (es : List (Bool × Bytes)) (j : Nat), es.any (·.1) = false → (es.map (·.1)).getD j false = false
  | [], _, _ => rfl
  | _ :: _, 0, h => (Bool.or_eq_false_iff.1 h).1
  | _ :: rest, j + 1, h => getD_of_any_false rest j (Bool.or_eq_false_iff.1 h).2

theorem inBlk_bits (k : Nat) (l : List Bool) (hk : k % 8 = 0) : inBlk k (bitsToNat (l.take 8)) l := by
  intro j hj
  rw [hk, Nat.zero_add] at hj ⊢
  rw [testBit_bitsToNat, List.getD_eq_getElem?_getD, List.getElem?_take_of_lt hj, List.getD_eq_getElem?_getD]

theorem inBlk_next (k blk : Nat) (p : Bool) (pres : List Bool) (h : inBlk k blk (p :: pres)) :
    blkInv (k + 1) blk pres := by
  intro hk j hj
  -- by `hk`, slot `k + 1` continues the block of `k`
  have e : (k + 1) % 8 = k % 8 + 1 := by omega
  rw [e, Nat.add_assoc, Nat.add_comm 1 j] at hj ⊢
  exact h (j + 1) hj

theorem layout_none : ∀ (k : Nat) (es : List (Bool × Bytes)), es.any (·.1) = false → layout k es = []
  | _, [], _ => rfl
  | k, (p, b) :: rest, h => by
    rw [layout, if_neg (Bool.eq_false_iff.1 h)]

theorem layout_some (k : Nat) (p : Bool) (b : Bytes) (es : List (Bool × Bytes)) (h : ((p, b) :: es).any (·.1) = true) :
    layout k ((p, b) :: es) =
      (if k % 8 = 0 then [UInt8.ofNat (bitsToNat ((p :: es.map (·.1)).take 8))] else [])
        ++ ((if p then b else []) ++ layout (k + 1) es) := by
  rw [layout, if_pos h, List.append_assoc, List.map_take, List.map_cons]

/-- In front of slot `k` of a laid-out body the block byte in force after the switch agrees with the flags from `k` on,
    and the field (if present) and the later slots follow; also where the body was cut (then all of these are empty). -/
theorem nextBlock_layout (k blk : Nat) (p : Bool) (b : Bytes) (es : List (Bool × Bytes))
    (hinv : blkInv k blk (p :: es.map (·.1))) :
    ∃ blk', nextBlock k blk (layout k ((p, b) :: es)) = (blk', (if p then b else []) ++ layout (k + 1) es) ∧
      inBlk k blk' (p :: es.map (·.1)) := by
  by_cases hany : ((p, b) :: es).any (·.1) = true
  · rw [layout_some k p b es hany]
    by_cases hk : k % 8 = 0
    · refine ⟨_, ?_, inBlk_bits k _ hk⟩
      rw [if_pos hk, List.singleton_append, nextBlock, if_pos hk, blockByte_toNat]
    · refine ⟨blk, ?_, hinv hk⟩
      rw [if_neg hk, List.nil_append, nextBlock.eq_def, if_neg hk]
  · have hany' := Bool.eq_false_iff.2 hany
    have hp : p = false := (Bool.or_eq_false_iff.1 hany').1
    subst hp
    rw [layout_none _ _ hany', layout_none _ _ (Bool.or_eq_false_iff.1 hany').2]
    by_cases hk : k % 8 = 0
    · refine ⟨0, ?_, fun j _ => ?_⟩
      · rw [nextBlock, if_pos hk]
        rfl
      · rw [Nat.zero_testBit]
        exact (getD_of_any_false ((false, b) :: es) j hany').symm
    · refine ⟨blk, ?_, hinv hk⟩
      rw [nextBlock, if_neg hk]
      rfl

/-- slot `k`, laid out as `(p, b)` in front of the slots `es`, is read back as `v` (by `rd` if present, else it is the
    default `dv`), and `cont` gets the later slots under the invariant for `k + 1`, whatever block byte is then in force -/
theorem decSlot_step {rd : Bytes → Option (Val × Bytes)} {dv : Val} {cont : Nat → Bytes → Option Vals} {k blk : Nat}
    {p : Bool} {b : Bytes} {v : Val} {es : List (Bool × Bytes)} {vs : Vals}
    (hinv : blkInv k blk (p :: es.map (·.1)))
    (hrd : p = true → ∀ rest, rd (b ++ rest) = some (v, rest))
    (hdv : p = false → v = dv)
    (hcont : ∀ blk', blkInv (k + 1) blk' (es.map (·.1)) → cont blk' (layout (k + 1) es) = some vs) :
    decSlot rd dv cont k blk (layout k ((p, b) :: es)) = some (.cons v vs) := by
  obtain ⟨blk', hnb, hin⟩ := nextBlock_layout k blk p b es hinv
  have hbit : slotSet k blk' = p := hin 0 (Nat.mod_lt k (by decide))
  have hc := hcont blk' (inBlk_next k blk' p _ hin)
  rw [decSlot, hnb]
  cases p with
  | true => simp only [hbit, if_true, hrd rfl, hc]
  | false => simp only [hbit, Bool.false_eq_true, if_false, List.nil_append, hc, hdv rfl]

/-- the conclusion of `rt2_all` for one value (SH.Props.C14 reads its theorems off the fields): as an element it reads back
    and is not empty (the vector reader refuses a count above the remaining body bytes); as a plain field it is omitted
    only when it is the default, and else reads back. Bool is modelled as a plain field only (one byte there, while `encE`
    would write it as an enum that the one-byte reader of `decE` does not take back): hence the guards. -/
structure RT2V (d : Desc) (v : Val) : Prop where
  elem : headIsBool d = false → ∀ r, decE d (encE d v ++ r) = some (v, r)
  ne : headIsBool d = false → encE d v ≠ []
  fdef : encF d v = [] → v = defaultV d
  fld : encF d v ≠ [] → ∀ r, decE d (encF d v ++ r) = some (v, r)

/-- every type but Bool writes a plain field either not at all (condition `c`) or exactly as it writes an element -/
theorem RT2V.of_cond {d : Desc} {v : Val} (c : Prop) [Decidable c] (hF : encF d v = if c then [] else encE d v)
    (elem : ∀ r, decE d (encE d v ++ r) = some (v, r)) (ne : encE d v ≠ []) (hdef : c → v = defaultV d) : RT2V d v := by
  by_cases hc : c
  · rw [if_pos hc] at hF
    exact ⟨fun _ => elem, fun _ => ne, fun _ => hdef hc, fun he => absurd hF he⟩
  · rw [if_neg hc] at hF
    rw [← hF] at elem ne
    exact ⟨fun _ => hF ▸ elem, fun _ => hF ▸ ne, fun he => absurd he ne, fun _ => elem⟩

/-- a value with a non-empty body `B` is written the same way in both positions: size, body -/
theorem RT2V.of_body {d : Desc} {v : Val} (B : Bytes) (hB : B ≠ []) (hE : encE d v = wrapBody false B)
    (hF : encF d v = wrapBody true B) (elem : ∀ r, decE d (tl2WriteSize B.length ++ B ++ r) = some (v, r)) : RT2V d v := by
  rw [wrapBody, if_neg (mt List.isEmpty_iff.1 hB)] at hE hF
  refine .of_cond False (by rw [if_neg id, hF, hE]) (fun r => hE ▸ elem r) (fun e => ?_) False.elim
  rw [hE] at e
  exact hB (List.append_eq_nil_iff.1 e).2

theorem dec_enumBytes (alts : Alts) (hb : isBoolAlts alts = false) (i : Nat) (hi : i < altCount alts) (hm : i ≤ maxInt)
    (r : Bytes) : decE (.union alts) (enumBytes i ++ r) = some (.alt i (.recd .nil), r) := by
  have hc : 1 + tl2CalculateSize i < 254 ∧ 1 + tl2CalculateSize i ≠ 0 := by
    unfold tl2CalculateSize
    split
    · decide
    · split <;> decide
  have ht := takeN_append (1 :: tl2WriteSize i) r
  rw [List.length_cons, tl2_size_len, Nat.add_comm] at ht
  have hs := tl2_size_rt i hm []
  rw [List.append_nil] at hs
  have hbit : (1 : UInt8).toNat.testBit 0 = true := by decide
  rw [enumBytes, List.cons_append, decE, hb, if_neg Bool.false_ne_true, tl2ParseSize_tiny _ hc.1]
  simp only [hc.2, if_false, ht, decEnumBody, hbit, if_true, hs, Nat.not_le.2 hi]

theorem altCount_bool (alts : Alts) (h : isBoolAlts alts = true) : altCount alts = 2 := by
  match alts, h with
  | .cons _ _ (.cons _ _ .nil), _ => rfl

/-- for the payload `.recd .nil`, the only one `wt2` admits; `isEnumAlts` (what `tl2Supported` asks of a union) is not needed -/
theorem rt2_union (alts : Alts) (i : Nat) (hi : i < altCount alts) (hm : i ≤ maxInt) :
    RT2V (.union alts) (.alt i (.recd .nil)) := by
  by_cases hb : isBoolAlts alts = true
  · -- Bool: only ever a plain field, one byte when true
    have nb : headIsBool (.union alts) ≠ false := by
      rw [headIsBool, hb]
      decide
    rw [altCount_bool alts hb] at hi
    have hF : encF (.union alts) (.alt i (.recd .nil)) = if i = 1 then [1] else [] := by
      rw [encF, if_pos hb]
    refine ⟨fun hh => absurd hh nb, fun hh => absurd hh nb, fun he => ?_, fun he r => ?_⟩
    · have h0 : i = 0 := by
        by_cases h1 : i = 1
        · rw [hF, if_pos h1] at he
          exact absurd he (List.cons_ne_nil _ _)
        · omega
      rw [h0]
      rfl
    · have h1 : i = 1 := Decidable.byContradiction fun h1 => he (by rw [hF, if_neg h1])
      subst h1
      simp only [hF, if_true, List.singleton_append, decE, hb]
      rfl
  · have hb' : isBoolAlts alts = false := Bool.eq_false_iff.2 hb
    have hE : encE (.union alts) (.alt i (.recd .nil)) = if i = 0 then [0] else enumBytes i := by
      rw [encE]
    refine .of_cond (i = 0) ?_ (fun r => ?_) ?_ (fun hz => ?_)
    · rw [encF, if_neg hb, hE]
      split <;> rfl
    · rw [hE]
      split
      · rename_i hz
        subst hz
        simp only [List.singleton_append, decE, hb', Bool.false_eq_true, if_false, tl2ParseSize_zero, if_true]
      · exact dec_enumBytes alts hb' i hi hm r
    · rw [hE]
      split <;> exact List.cons_ne_nil _ _
    · rw [hz]
      rfl

/-- the conclusion of `rt2f_all` for one list of field values -/
structure RT2FV (fs : Flds) (vs : Vals) : Prop where
  dec : ∀ k blk, blkInv k blk ((encFs fs vs).map (·.1)) → decFs fs k blk (layout k (encFs fs vs)) = some vs
  dflt : (encFs fs vs).any (·.1) = false → vs = defaultFs fs

/-- one more field in front, of any kind: its slot is written as `(p, b)`, read by `rd`, defaulted to `dv` -/
theorem RT2FV.cons {fs rest : Flds} {v : Val} {vs : Vals} (rd : Bytes → Option (Val × Bytes)) (dv : Val) (p : Bool)
    (b : Bytes) (hE : encFs fs (.cons v vs) = (p, b) :: encFs rest vs)
    (hD : ∀ k blk r, decFs fs k blk r = decSlot rd dv (fun b r1 => decFs rest (k + 1) b r1) k blk r)
    (hdf : defaultFs fs = .cons dv (defaultFs rest))
    (hrd : p = true → ∀ r, rd (b ++ r) = some (v, r)) (hdv : p = false → v = dv) (ih : RT2FV rest vs) :
    RT2FV fs (.cons v vs) := by
  refine ⟨fun k blk hinv => ?_, fun hany => ?_⟩
  · rw [hE] at hinv ⊢
    rw [hD]
    exact decSlot_step hinv hrd hdv (fun blk' hb => ih.dec (k + 1) blk' hb)
  · rw [hE, List.any_cons, Bool.or_eq_false_iff] at hany
    rw [hdf, ← ih.dflt hany.2, hdv hany.1]

theorem length_le_encVals (f : Val → Bytes) (p : Val → Bool) (hf : ∀ v, p v = true → f v ≠ []) :
    ∀ vs, allVals p vs = true → vs.length ≤ (encVals f vs).length := by
  intro vs
  induction vs using Vals.ind with
  | hnil => exact fun _ => Nat.zero_le _
  | hcons v vs ih =>
    intro h
    rw [allVals, Bool.and_eq_true] at h
    have h1 := List.length_pos_iff.2 (hf v h.1)
    have h2 := ih h.2
    rw [Vals.length, encVals, List.length_append]
    omega

/-- the body is a variable `B` (callers give `_ rfl`) so that no rewrite enters it; likewise in `dec_objBody` -/
theorem dec_vecBody (t : Desc) (ih : ∀ v, wt2 t v = true → RT2V t v) (hnb : headIsBool t = false) (vs : Vals)
    (hall : allVals (wt2 t) vs = true) (hlen : vs.length ≤ maxInt) (B : Bytes)
    (hB : tl2WriteSize vs.length ++ encVals (encE t) vs = B) (hBl : B.length ≤ maxInt) (r : Bytes) :
    decE (.vec t) (tl2WriteSize B.length ++ B ++ r) = some (.list vs, r) := by
  have hc := tl2_size_rt vs.length hlen (encVals (encE t) vs)
  rw [hB] at hc
  have hBne : ¬ B.length = 0 := fun h0 =>
    tl2WriteSize_ne vs.length (List.append_eq_nil_iff.1 (hB.trans (List.eq_nil_of_length_eq_zero h0))).1
  have hp := tl2_size_rt B.length hBl (B ++ r)
  have ht := takeN_append B r
  have hgt : ¬ vs.length > (encVals (encE t) vs).length :=
    Nat.not_lt.2 (length_le_encVals (encE t) (wt2 t) (fun v hv => (ih v hv).ne hnb) vs hall)
  have hd := decN_encVals (encE t) (decE t) (wt2 t) (fun v r hv => (ih v hv).elem hnb r) vs [] hall
  rw [List.append_nil] at hd
  rw [List.append_assoc]
  simp only [decE, hp, ht, hBne, if_false, hc, hgt, hd]

theorem layout0_some (es : List (Bool × Bytes)) (h : es.any (·.1) = true) :
    layout 0 ((false, []) :: es) = UInt8.ofNat (bitsToNat ((false :: es.map (·.1)).take 8)) :: layout 1 es := by
  rw [layout_some 0 false [] es h]
  rfl

theorem dec_objBody (args : List NatE) (fs : Flds) (vs : Vals) (ih : RT2FV fs vs) (hany : (encFs fs vs).any (·.1) = true)
    (B : Bytes) (hB : layout 0 ((false, []) :: encFs fs vs) = B) (hBl : B.length ≤ maxInt) (r : Bytes) :
    decE (.struct args fs) (tl2WriteSize B.length ++ B ++ r) = some (.recd vs, r) := by
  have hl := layout0_some (encFs fs vs) hany
  have hb := blockByte_toNat (false :: (encFs fs vs).map (·.1))
  have hbit : (bitsToNat ((false :: (encFs fs vs).map (·.1)).take 8)).testBit 0 = false := by
    rw [testBit_bitsToNat]
    rfl
  -- slot 0 is the constructor-index flag `(false, [])`: the fields start at slot 1 under the block byte read for it;
  -- of that byte only `hb`, `hbit`, `hd` are used, and as a variable it keeps the terms below small
  have hd := ih.dec 1 _ (inBlk_next 0 _ false _ (inBlk_bits 0 _ rfl))
  generalize bitsToNat ((false :: (encFs fs vs).map (·.1)).take 8) = B0 at hl hb hbit hd
  rw [hB] at hl
  have hp := tl2_size_rt B.length hBl (B ++ r)
  have ht := takeN_append B r
  have hBne : ¬ B.length = 0 := by
    rw [hl]
    exact Nat.succ_ne_zero _
  rw [List.append_assoc]
  simp only [decE, hp, hBne, if_false, ht]
  rw [hl]
  simp only [hb, hbit, Bool.false_eq_true, if_false, hd]

mutual
/-- The TL2 round trip, clause for clause like `wt2`. No clause is written for a value of another shape than its descriptor,
    nor for tuples: there `wt2` or `tl2Supported` computes to `false`, which the coverage check of the equation compiler
    sees by itself. -/
theorem rt2_all : ∀ (d : Desc), tl2Supported d = true → ∀ (v : Val), wt2 d v = true → RT2V d v
  | .nat, _, .nat n, h => by
    refine .of_cond (n = 0) rfl (fun r => ?_) (List.cons_ne_nil _ _) (fun hn => ?_)
    · simp only [encE, decE, readNat_le32 n (of_decide_eq_true h) r]
    · rw [hn]
      rfl
  | .fixed w, _, .raw b, h => by
    simp [wt2] at h
    have hb : b.length ≠ 0 := by omega
    refine .of_cond (allZero b = true) rfl (fun r => ?_) (fun e => hb (congrArg List.length e)) (fun hz => ?_)
    · rw [encE, decE, ← h.1, takeN_append]
    · rw [defaultV, ← h.1, ← eq_replicate_of_allZero b hz]
  | .str, _, .str b, h => by
    refine .of_cond (b.isEmpty = true) rfl (fun r => ?_) (fun e => ?_) (fun hb => ?_)
    · simp only [encE, decE, tl2_string_rt b r (of_decide_eq_true h)]
    · rw [encE, tl2WriteStr] at e
      exact tl2WriteSize_ne _ (List.append_eq_nil_iff.1 e).1
    · rw [List.isEmpty_iff.1 hb]
      rfl
  | .boxed _ t, hs, v, h =>
    have ih := rt2_all t hs v h
    ⟨ih.elem, ih.ne, ih.fdef, ih.fld⟩
  | .union alts, _, .alt i w, h => by
    simp [wt2] at h
    obtain ⟨⟨hi, hm⟩, rfl⟩ := h
    exact rt2_union alts i hi hm
  | .struct args fs, hs, .recd vs, h => by
    simp [wt2] at h
    have ih := rt2f_all fs hs vs h.1
    by_cases hany : (encFs fs vs).any (·.1) = true
    · refine .of_body _ ?_ (by rw [encE]) (by rw [encF]) fun r => dec_objBody args fs vs ih hany _ rfl h.2 r
      rw [layout0_some _ hany]
      exact List.cons_ne_nil _ _
    · have hany' := Bool.eq_false_iff.2 hany
      have hl : layout 0 ((false, []) :: encFs fs vs) = [] := layout_none 0 _ hany'
      have hd := ih.dflt hany'
      refine .of_cond True ?_ (fun r => ?_) (fun e => ?_) (fun _ => ?_)
      · rw [encF, hl]
        rfl
      · rw [encE, hl]
        simp only [wrapBody, List.isEmpty_nil, if_true, Bool.false_eq_true, if_false, List.singleton_append, decE,
          tl2ParseSize_zero, ← hd]
      · rw [encE, hl] at e
        exact List.cons_ne_nil _ _ e
      · rw [defaultV, ← hd]
  | .vec t, hs, .list vs, h => by
    simp only [tl2Supported, Bool.and_eq_true, Bool.not_eq_true'] at hs
    simp [wt2] at h
    cases vs with
    | nil =>
      refine .of_cond True rfl (fun r => ?_) (List.cons_ne_nil _ _) (fun _ => rfl)
      simp only [encE, isNil, if_true, List.singleton_append, decE, tl2ParseSize_zero, takeN]
    | cons x xs =>
      have hn : ¬ isNil (.cons x xs) = true := Bool.false_ne_true
      refine .of_body _ (fun e => tl2WriteSize_ne _ (List.append_eq_nil_iff.1 e).1) (by rw [encE, if_neg hn])
        (by rw [encF, if_neg hn]) fun r =>
          dec_vecBody t (rt2_all t hs.1) hs.2 _ h.1.1 h.1.2 _ rfl (List.length_append ▸ h.2) r
theorem rt2f_all : ∀ (fs : Flds), tl2SupportedFs fs = true → ∀ (vs : Vals), wt2Fs fs vs = true → RT2FV fs vs
  | .nil, _, .nil, _ => ⟨fun _ _ _ => rfl, fun _ => rfl⟩
  | .natF rest, hs, .cons (.nat n) vs, h => by
    rw [wt2Fs, Bool.and_eq_true, decide_eq_true_eq] at h
    refine .cons readNatV (.nat 0) (n != 0) (le32 n) rfl (fun _ _ _ => rfl) rfl (fun _ r => ?_) (fun hp => ?_)
      (rt2f_all rest hs vs h.2)
    · rw [readNatV, readNat_le32 n h.1]
    · rw [bne_eq_false_iff_eq.1 hp]
  | .fld t rest, hs, .cons v vs, h => by
    rw [tl2SupportedFs, Bool.and_eq_true] at hs
    rw [wt2Fs, Bool.and_eq_true] at h
    have iht := rt2_all t hs.1 v h.1
    refine .cons (decE t) (defaultV t) (!(encF t v).isEmpty) (encF t v) rfl (fun _ _ _ => rfl) rfl
      (fun hp => iht.fld fun he => ?_) (fun hp => iht.fdef ?_) (rt2f_all rest hs.2 vs h.2)
    · rw [he] at hp
      exact absurd hp (by decide)
    · simpa using hp
  | .opt _ _ t rest, hs, .cons v vs, h => by
    simp only [tl2SupportedFs, Bool.and_eq_true, Bool.not_eq_true'] at hs
    rw [wt2Fs, Bool.and_eq_true, Bool.or_eq_true] at h
    have ih := rt2f_all rest hs.2 vs h.2
    by_cases hv : v.isNone = true
    · refine .cons _ .none false [] ?_ (fun _ _ _ => rfl) rfl (fun hp => absurd hp (by decide)) (fun _ => ?_) ih
      · rw [encFs, if_pos hv]
      · cases v <;> simp [Val.isNone] at hv
        rfl
    · have hw := h.1.resolve_left hv
      by_cases he : isEmptyCtor t = true
      · rw [if_pos he, beq_iff_eq] at hw
        refine .cons readNothing .none true [] ?_ (fun _ _ _ => ?_) rfl (fun _ r => ?_) (fun hp => absurd hp (by decide)) ih
        · rw [encFs, if_neg hv, if_pos he]
        · rw [decFs, if_pos he]
        · rw [hw]
          rfl
      · rw [if_neg he] at hw
        refine .cons (decE t) .none true (encE t v) ?_ (fun _ _ _ => ?_) rfl (fun _ => (rt2_all t hs.1.1 v hw).elem hs.1.2)
          (fun hp => absurd hp (by decide)) ih
        · rw [encFs, if_neg hv, if_neg he]
        · rw [decFs, if_neg he]
end

end SH.C14
