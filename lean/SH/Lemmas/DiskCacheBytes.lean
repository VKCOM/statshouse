/-
  SH.Lemmas.DiskCacheBytes — what rests on the model alone: the record format of internal/agent/disk_cache.go (header encoding and
  parsing), one iteration of the tail reader at a header, the scan of one file of records (`scan_records`), erase as a 4-byte
  overwrite, what GetBucket checks, the torn-erase magic, lookups in `ofiles`, `readLoop` by its equations and `readLoop_head`;
  with concrete witnesses. `Rec` / `encAll` / `scan` describe ONE file whose records carry no ids (the single-file forms of the
  theorems of Props/C09); the history-level files use `ARec` / `encRecs` (SH.Lemmas.DiskCacheInv) and nothing of the `Rec` layer.
-/
import SH.Model.DiskCache

namespace SH.C09
open SH.DiskCache

theorem le_length (k n : Nat) : (le k n).length = k := by
  induction k generalizing n with
  | zero => rfl
  | succ k ih => simp [le, ih]

theorem unle_le (k n : Nat) (h : n < 256 ^ k) : unle (le k n) = n := by
  induction k generalizing n with
  | zero => simp at h; subst h; rfl
  | succ k ih =>
    have h2 : n / 256 < 256 ^ k := by
      rw [Nat.pow_succ] at h
      exact Nat.div_lt_of_lt_mul (by rw [Nat.mul_comm]; exact h)
    simp only [le, unle, ih _ h2]
    have : (UInt8.ofNat (n % 256)).toNat = n % 256 := by
      simp
    rw [this]; omega

theorem unle_take_append (k n : Nat) (rest : Bytes) (h : n < 256 ^ k) : unle ((le k n ++ rest).take k) = n := by
  have : (le k n ++ rest).take k = le k n := by
    rw [List.take_append_of_le_length (by simp [le_length])]
    rw [List.take_of_length_le (by simp [le_length])]
  rw [this, unle_le k n h]

theorem drop_le_append (k n : Nat) (rest : Bytes) : (le k n ++ rest).drop k = rest := by
  have := le_length k n
  exact List.drop_left' this

theorem encHeader_length (m t sz c : Nat) : (encHeader m t sz c).length = 20 := by
  simp [encHeader, le_length]

theorem parseHdr_enc (m t sz c : Nat)
    (hm : m < 2 ^ 32) (ht : t < 2 ^ 32) (hs : sz < 2 ^ 64) (hc : c < 2 ^ 32) :
    parseHdr (encHeader m t sz c) = some ⟨m, t, sz, c⟩ := by
  have p32 : (2:Nat) ^ 32 = 256 ^ 4 := by decide
  have p64 : (2:Nat) ^ 64 = 256 ^ 8 := by decide
  rw [p32] at hm ht hc; rw [p64] at hs
  unfold parseHdr
  rw [if_neg (by simp [encHeader_length, headerSize])]
  have d4 : (encHeader m t sz c).drop 4 = le 4 t ++ (le 8 sz ++ le 4 c) := drop_le_append 4 m _
  have d8 : (encHeader m t sz c).drop 8 = le 8 sz ++ le 4 c := by
    rw [show (8:Nat) = 4 + 4 from rfl, ← List.drop_drop, d4, drop_le_append]
  have d16 : (encHeader m t sz c).drop 16 = le 4 c := by
    rw [show (16:Nat) = 8 + 8 from rfl, ← List.drop_drop, d8, drop_le_append]
  rw [d4, d8, d16]
  have e0 : unle ((encHeader m t sz c).take 4) = m := unle_take_append 4 m _ hm
  have e3 : unle ((le 4 c).take 4) = c := by
    have := unle_take_append 4 c [] hc
    simpa using this
  rw [e0, unle_take_append 4 t _ ht, unle_take_append 8 sz _ hs, e3]

theorem readHdr_at (pre rest : Bytes) (m t sz c : Nat)
    (hm : m < 2 ^ 32) (ht : t < 2 ^ 32) (hs : sz < 2 ^ 64) (hc : c < 2 ^ 32) :
    readHdr (pre ++ (encHeader m t sz c ++ rest)) pre.length = some ⟨m, t, sz, c⟩ := by
  have e1 : ((pre ++ (encHeader m t sz c ++ rest)).drop pre.length).take headerSize = encHeader m t sz c := by
    rw [List.drop_left]
    rw [List.take_append_of_le_length (by simp [encHeader_length, headerSize])]
    rw [List.take_of_length_le (by simp [encHeader_length, headerSize])]
  unfold readHdr
  rw [e1, parseHdr_enc m t sz c hm ht hs hc]

theorem lt_of_le_maxChunk {n : Nat} (h : n ≤ maxChunkSize) : n < 2 ^ 64 :=
  Nat.lt_of_le_of_lt h (by decide)

theorem isDeleted_good (cfg : Cfg) : isDeletedMagic cfg magicGood = false := by
  unfold isDeletedMagic; cases cfg.tornEraseOk <;> decide

theorem isDeleted_deleted (cfg : Cfg) : isDeletedMagic cfg magicDeleted = true := by
  unfold isDeletedMagic; cases cfg.tornEraseOk <;> decide

theorem isDeleted_torn (cfg : Cfg) : isDeletedMagic cfg magicTornDeleted = cfg.tornEraseOk := by
  unfold isDeletedMagic; cases cfg.tornEraseOk <;> decide

theorem look_at_magic (cfg : Cfg) (pre body rest : Bytes) (m t c : Nat) (size : Nat)
    (hm : m < 2 ^ 32) (ht : t < 2 ^ 32) (hc : c < 2 ^ 32) (hb : body.length ≤ maxChunkSize)
    (hsz : pre.length + (headerSize + body.length) ≤ size) :
    look cfg (pre ++ (encHeader m t body.length c ++ (body ++ rest))) size pre.length =
      if isDeletedMagic cfg m then .skip (pre.length + headerSize + body.length)
      else if m != magicGood then .stop
      else .good ⟨m, t, body.length, c⟩ (pre.length + headerSize + body.length) := by
  unfold look
  rw [readHdr_at pre _ _ _ _ _ hm ht (lt_of_le_maxChunk hb) hc]
  have hbad : badChunk ⟨m, t, body.length, c⟩ size pre.length = false := by
    simp [badChunk]; omega
  simp only [hbad]
  simp

/-- a strict prefix of header ++ body at the end of the file stops the scan (short header, or chunk beyond the file) -/
theorem look_prefix_stop (cfg : Cfg) (pre body : Bytes) (m t c k : Nat) (hm : m < 2 ^ 32) (ht : t < 2 ^ 32) (hc : c < 2 ^ 32)
    (hb : body.length ≤ maxChunkSize) (hk : k < headerSize + body.length) :
    look cfg (pre ++ (encHeader m t body.length c ++ body).take k) (pre ++ (encHeader m t body.length c ++ body).take k).length
      pre.length = .stop := by
  unfold look
  by_cases h20 : k < headerSize
  · have : readHdr (pre ++ (encHeader m t body.length c ++ body).take k) pre.length = none := by
      unfold readHdr parseHdr
      rw [List.drop_left, if_pos (Nat.lt_of_le_of_lt (Nat.le_trans (List.length_take_le' _ _) (List.length_take_le _ _)) h20)]
    rw [this]
  · have e : (encHeader m t body.length c ++ body).take k = encHeader m t body.length c ++ body.take (k - headerSize) := by
      rw [List.take_append, encHeader_length, List.take_of_length_le (by rw [encHeader_length]; exact Nat.le_of_not_lt h20)]
      rfl
    rw [e, readHdr_at pre _ _ _ _ _ hm ht (lt_of_le_maxChunk hb) hc]
    have hbad : badChunk ⟨m, t, body.length, c⟩
        (pre ++ (encHeader m t body.length c ++ body.take (k - headerSize))).length pre.length = true := by
      rw [badChunk, List.length_append, List.length_append, encHeader_length, List.length_take, Bool.or_eq_true]
      right
      unfold headerSize at hk h20 ⊢
      dsimp only
      exact decide_eq_true (by omega)
    simp only [hbad, if_true]

theorem look_good_next {cfg : Cfg} {f : Bytes} {size pos nx : Nat} {h : Hdr} (hl : look cfg f size pos = .good h nx) :
    nx = pos + headerSize + h.size := by
  unfold look at hl
  split at hl
  · cases hl
  · split at hl
    · cases hl
    · split at hl
      · cases hl
      · split at hl
        · cases hl
        · cases hl
          rfl

structure Rec where
  deleted : Bool
  time : Nat
  body : Bytes
deriving DecidableEq, Repr

def Rec.magic (r : Rec) : Nat := if r.deleted then magicDeleted else magicGood
def hdrOf (cfg : Cfg) (r : Rec) : Hdr := ⟨r.magic, r.time, r.body.length, cfg.crc r.body⟩
def encRec (cfg : Cfg) (r : Rec) : Bytes := encHeader r.magic r.time r.body.length (cfg.crc r.body) ++ r.body
def encAll (cfg : Cfg) : List Rec → Bytes
  | [] => []
  | r :: rs => encRec cfg r ++ encAll cfg rs
def RecWF (cfg : Cfg) (r : Rec) : Prop := r.time < 2 ^ 32 ∧ r.body.length ≤ maxChunkSize ∧ cfg.crc r.body < 2 ^ 32

instance (cfg : Cfg) (r : Rec) : Decidable (RecWF cfg r) := by unfold RecWF; infer_instance

theorem encRec_length (cfg : Cfg) (r : Rec) : (encRec cfg r).length = headerSize + r.body.length := by
  simp [encRec, encHeader_length, headerSize]

theorem magic_lt (r : Rec) : r.magic < 2 ^ 32 := by
  unfold Rec.magic; split <;> decide

theorem look_at_rec (cfg : Cfg) (pre rest : Bytes) (r : Rec) (size : Nat) (hw : RecWF cfg r)
    (hsz : pre.length + (headerSize + r.body.length) ≤ size) :
    look cfg (pre ++ (encRec cfg r ++ rest)) size pre.length =
      if r.deleted then .skip (pre.length + headerSize + r.body.length)
      else .good (hdrOf cfg r) (pre.length + headerSize + r.body.length) := by
  obtain ⟨ht, hb, hc⟩ := hw
  rw [encRec, List.append_assoc, look_at_magic cfg pre r.body rest r.magic r.time _ size (magic_lt r) ht hc hb hsz]
  cases hd : r.deleted
  · simp [Rec.magic, hd, isDeleted_good, hdrOf]
  · simp [Rec.magic, hd, isDeleted_deleted]

theorem look_torn (cfg : Cfg) (pre : Bytes) (r : Rec) (k : Nat) (hw : RecWF cfg r)
    (hk : k < headerSize + r.body.length) :
    look cfg (pre ++ (encRec cfg r).take k) (pre ++ (encRec cfg r).take k).length pre.length = .stop :=
  look_prefix_stop cfg pre r.body r.magic r.time (cfg.crc r.body) k (magic_lt r) hw.1 hw.2.2 hw.2.1 hk

/-- the decisions of the `ReadNextTailSecond` loop on one file, as a pure function: positions and headers of the
    seconds it hands out, from `pos` on (`fuel` = loop iterations) -/
def scan (cfg : Cfg) : Nat → Bytes → Nat → Nat → List (Nat × Hdr)
  | 0, _, _, _ => []
  | fuel + 1, f, size, pos =>
    if pos ≥ size then []
    else match look cfg f size pos with
      | .stop => []
      | .skip nx => scan cfg fuel f size nx
      | .good h nx => (pos, h) :: scan cfg fuel f size nx

/-- what has to come back: the records that are not erased, with their positions, in write order -/
def goodList (cfg : Cfg) : Nat → List Rec → List (Nat × Hdr)
  | _, [] => []
  | off, r :: rs =>
    (if r.deleted then [] else [(off, hdrOf cfg r)]) ++ goodList cfg (off + headerSize + r.body.length) rs

theorem scan_succ (cfg : Cfg) (fuel : Nat) (f : Bytes) (size pos : Nat) :
    scan cfg (fuel + 1) f size pos =
      if pos ≥ size then []
      else match look cfg f size pos with
        | .stop => []
        | .skip nx => scan cfg fuel f size nx
        | .good h nx => (pos, h) :: scan cfg fuel f size nx := rfl

theorem encAll_length_cons (cfg : Cfg) (r : Rec) (rs : List Rec) :
    (encAll cfg (r :: rs)).length = headerSize + r.body.length + (encAll cfg rs).length := by
  simp [encAll, encRec_length]

theorem scan_records (cfg : Cfg) (rs : List Rec) : ∀ (pre tl : Bytes) (e size : Nat),
    (∀ r ∈ rs, RecWF cfg r) → pre.length + (encAll cfg rs).length ≤ size →
    scan cfg (rs.length + e) (pre ++ (encAll cfg rs ++ tl)) size pre.length =
      goodList cfg pre.length rs ++ scan cfg e (pre ++ (encAll cfg rs ++ tl)) size (pre.length + (encAll cfg rs).length) := by
  induction rs with
  | nil => intro pre tl e size _ _; simp [goodList, encAll]
  | cons r rs ih =>
    intro pre tl e size hw hsz
    have hr : RecWF cfg r := hw r (by simp)
    have hrs : ∀ q ∈ rs, RecWF cfg q := fun q hq => hw q (by simp [hq])
    rw [encAll_length_cons] at hsz
    have e1 : pre ++ (encAll cfg (r :: rs) ++ tl) = pre ++ (encRec cfg r ++ (encAll cfg rs ++ tl)) := by
      simp [encAll]
    have e2 : pre ++ (encAll cfg (r :: rs) ++ tl) = (pre ++ encRec cfg r) ++ (encAll cfg rs ++ tl) := by
      simp [encAll]
    have hl : (pre ++ encRec cfg r).length = pre.length + headerSize + r.body.length := by
      simp [encRec_length]; omega
    have hlook := look_at_rec cfg pre (encAll cfg rs ++ tl) r size hr (by omega)
    have ih' := ih (pre ++ encRec cfg r) tl e size hrs (by rw [hl]; omega)
    rw [hl] at ih'
    have hfuel : (r :: rs).length + e = (rs.length + e) + 1 := by simp; omega
    rw [hfuel]
    rw [scan_succ]
    rw [if_neg (by simp [headerSize] at hsz ⊢; omega)]
    rw [e1, hlook, ← e1, e2]
    cases hd : r.deleted
    · simp only [Bool.false_eq_true, if_false]
      rw [ih', goodList, encAll_length_cons]
      simp [hd, Nat.add_assoc]
    · simp only [if_true]
      rw [ih', goodList, encAll_length_cons]
      simp [hd, Nat.add_assoc]

/-- C09, "re-reads exactly the seconds that were put and not erased, in write order", for ONE file: scanning a file that is a
    sequence of well-formed records hands out exactly the non-erased ones, in order, with the written header fields
    (`reread_after_restart` in Props/C09 is the statement for histories over any number of files). -/
theorem reread_after_restart_partial (cfg : Cfg) (rs : List Rec) (hw : ∀ r ∈ rs, RecWF cfg r) :
    scan cfg (rs.length + 1) (encAll cfg rs) (encAll cfg rs).length 0 = goodList cfg 0 rs := by
  have h := scan_records cfg rs [] [] 1 (encAll cfg rs).length hw (by simp)
  simp only [List.nil_append, List.append_nil, List.length_nil, Nat.zero_add] at h
  rw [h]
  simp [scan]

/-- C09, "a crash that tears the last write at any byte … only a second whose write was torn may be missing", for ONE file
    (`torn_tail` in Props/C09 is the statement for histories): if the last record is cut at ANY byte offset `k` (0 ≤ k < its length) the scan returns exactly what it returns
    without that record — nothing else is lost, nothing spurious appears. -/
theorem torn_tail_partial (cfg : Cfg) (rs : List Rec) (r : Rec) (k : Nat) (hw : ∀ q ∈ rs, RecWF cfg q) (hr : RecWF cfg r)
    (hk : k < headerSize + r.body.length) :
    scan cfg (rs.length + 1) (encAll cfg rs ++ (encRec cfg r).take k) (encAll cfg rs ++ (encRec cfg r).take k).length 0
      = goodList cfg 0 rs := by
  have h := scan_records cfg rs [] ((encRec cfg r).take k) 1 (encAll cfg rs ++ (encRec cfg r).take k).length hw (by simp)
  simp only [List.nil_append, List.length_nil, Nat.zero_add] at h
  rw [h]
  have : scan cfg 1 (encAll cfg rs ++ (encRec cfg r).take k) (encAll cfg rs ++ (encRec cfg r).take k).length (encAll cfg rs).length = [] := by
    unfold scan
    by_cases hz : (encAll cfg rs).length ≥ (encAll cfg rs ++ (encRec cfg r).take k).length
    · rw [if_pos hz]
    · rw [if_neg hz, look_torn cfg (encAll cfg rs) r k hr hk]
  rw [this]; simp

theorem writeAt_prefix (pre p q rest : Bytes) (h : p.length = q.length) :
    writeAt (pre ++ (q ++ rest)) pre.length p = pre ++ (p ++ rest) := by
  unfold writeAt
  have h0 : pre.length - (pre ++ (q ++ rest)).length = 0 := by simp
  simp only [h0, List.replicate_zero, List.append_nil]
  rw [List.take_left, ← List.drop_drop, List.drop_left, h, List.drop_left]

theorem writeAt_magic (pre rest : Bytes) (m m' t sz c : Nat) :
    writeAt (pre ++ (encHeader m t sz c ++ rest)) pre.length (le 4 m') = pre ++ (encHeader m' t sz c ++ rest) := by
  simp only [encHeader, List.append_assoc]
  exact writeAt_prefix pre _ _ _ (by rw [le_length, le_length])

/-- `eraseBucket` writes 4 bytes at the record's position: record `r` inside a file of records becomes a deleted record with
    the same length, every other byte of the file is untouched. -/
theorem erase_encAll (cfg : Cfg) (rs1 rs2 : List Rec) (r : Rec) :
    writeAt (encAll cfg (rs1 ++ r :: rs2)) (encAll cfg rs1).length (le 4 magicDeleted) =
      encAll cfg (rs1 ++ { r with deleted := true } :: rs2) := by
  have app : ∀ (a b : List Rec), encAll cfg (a ++ b) = encAll cfg a ++ encAll cfg b := by
    intro a b
    induction a with
    | nil => simp [encAll]
    | cons x a ih => simp [encAll, ih]
  rw [app, app]
  simp only [encAll, encRec, List.append_assoc]
  exact writeAt_magic (encAll cfg rs1) _ _ _ _ _ _

theorem readBody_length_le (f : Bytes) (b : Bucket) : (readBody f b).length ≤ b.size := by
  simp [readBody, List.length_take]; omega

/-- C09 "never returns … corrupted data", in the only form that is true (DESIGN §4.7): `GetBucket` hands out bytes `d`
    only for a known id with the requested time, and only if `d` are the bytes now on disk at the bucket's position,
    of the recorded length, whose crc equals the crc stored when the second was written / re-read. -/
theorem get_ok_checked (cfg : Cfg) (s s' : Shard) (id t : Nat) (d : Bytes) (h : DiskCache.get cfg s id t = (s', .ok d)) :
    ∃ b, findB s.known id = some b ∧ b.time = t ∧ d = readBody (fileBytes s.disk b.file) b ∧
      d.length = b.size ∧ cfg.crc d = b.crc ∧ s' = s := by
  unfold DiskCache.get at h
  split at h
  · simp at h
  · rename_i b hb
    refine ⟨b, hb, ?_⟩
    split at h
    · simp at h
    · rename_i ht
      dsimp only at h
      split at h
      · simp at h
      · rename_i hl
        split at h
        · simp at h
        · rename_i hc
          simp only [Prod.mk.injEq, GetRes.ok.injEq] at h
          obtain ⟨h1, h2⟩ := h
          subst h2
          refine ⟨by simpa using ht, rfl, ?_, by simpa using hc, h1.symm⟩
          have := readBody_length_le (fileBytes s.disk b.file) b
          omega

theorem findO_name (os : List OFile) (name : Nat) (f : OFile) (h : findO os name = some f) : f.name = name := by
  unfold findO at h
  have := List.find?_some h
  simpa using this

theorem findO_cons_self (o : OFile) (os : List OFile) : findO (o :: os) o.name = some o := by
  simp [findO]

theorem findO_cons_ne (o : OFile) (os : List OFile) (name : Nat) (h : o.name ≠ name) :
    findO (o :: os) name = findO os name := by
  simp [findO, h]

theorem findO_filter_ne (os : List OFile) (n name : Nat) (h : name ≠ n) :
    findO (os.filter (fun g => g.name != n)) name = findO os name := by
  induction os with
  | nil => rfl
  | cons o os ih =>
    by_cases ho : o.name = n
    · have : (o.name != n) = false := by simp [ho]
      rw [List.filter_cons, this]
      simp only [Bool.false_eq_true, if_false]
      rw [ih, findO_cons_ne _ _ _ (by omega)]
    · have : (o.name != n) = true := by simp [ho]
      rw [List.filter_cons, this]
      simp only [if_true]
      by_cases h2 : o.name = name
      · subst h2; rw [findO_cons_self, findO_cons_self]
      · rw [findO_cons_ne _ _ _ h2, findO_cons_ne _ _ _ h2, ih]

theorem findO_filter_self (os : List OFile) (n : Nat) :
    findO (os.filter (fun g => g.name != n)) n = none := by
  unfold findO
  rw [List.find?_eq_none]
  intro o ho
  simp at ho
  simp [ho.2]

theorem findO_mapO_eq (os : List OFile) (n name : Nat) (g : OFile → OFile) (hg : ∀ x, (g x).name = x.name) :
    findO (mapO os n g) name = (findO os name).map (fun f => if f.name == n then g f else f) := by
  unfold findO mapO
  rw [List.find?_map]
  congr 2
  funext f
  simp only [Function.comp]
  split <;> simp [hg]

theorem findO_mapO (os : List OFile) (name : Nat) (g : OFile → OFile) (f : OFile)
    (hg : ∀ x, (g x).name = x.name) (h : findO os name = some f) :
    findO (mapO os name g) name = some (g f) := by
  have hn : (f.name == name) = true := by
    rw [findO_name _ _ _ h]
    exact beq_self_eq_true _
  rw [findO_mapO_eq _ _ _ _ hg, h, Option.map_some, if_pos hn]

theorem findO_mapO_ne (os : List OFile) (n name : Nat) (g : OFile → OFile) (hg : ∀ x, (g x).name = x.name) (h : name ≠ n) :
    findO (mapO os n g) name = findO os name := by
  rw [findO_mapO_eq _ _ _ _ hg]
  cases hf : findO os name with
  | none => rfl
  | some f =>
    have hn : ¬ (f.name == n) = true := by
      rw [findO_name _ _ _ hf]
      simpa using h
    rw [Option.map_some, if_neg hn]

theorem readLoop_zero (cfg : Cfg) (s : Shard) : readLoop cfg 0 s = (s, .fuel) := rfl

theorem readLoop_none_nil (cfg : Cfg) (fuel : Nat) (s : Shard) (h1 : s.reading = none) (h2 : s.waiting = []) :
    readLoop cfg (fuel + 1) s = (s, .none) := by
  simp [readLoop, h1, h2]

theorem readLoop_none_cons (cfg : Cfg) (fuel : Nat) (s : Shard) (w : WFile) (ws : List WFile) (h1 : s.reading = none)
    (h2 : s.waiting = w :: ws) (h3 : hasFile s.disk w.name = true) :
    readLoop cfg (fuel + 1) s = readLoop cfg fuel (openNext s w ws) := by
  simp [readLoop, h1, h2, h3]

theorem readLoop_none_missing (cfg : Cfg) (fuel : Nat) (s : Shard) (w : WFile) (ws : List WFile) (h1 : s.reading = none)
    (h2 : s.waiting = w :: ws) (h3 : hasFile s.disk w.name = false) :
    readLoop cfg (fuel + 1) s = readLoop cfg fuel (skipMissing s w ws) := by
  simp [readLoop, h1, h2, h3]

theorem readLoop_some (cfg : Cfg) (fuel : Nat) (s : Shard) (name : Nat) (o : OFile) (h1 : s.reading = some name)
    (h2 : findO s.ofiles name = some o) :
    readLoop cfg (fuel + 1) s =
      if o.nextPos ≥ o.size then readLoop cfg fuel (closeReading s name)
      else match look cfg (fileBytes s.disk name) o.size o.nextPos with
        | .stop => readLoop cfg fuel (closeReading s name)
        | .skip nx => readLoop cfg fuel (setNextPos s name nx)
        | .good h nx => (register s o h nx, .got h.time (s.lastID + 1)) := by
  rw [readLoop]; simp only [h1, h2]
  split
  · rfl
  · cases look cfg (fileBytes s.disk name) o.size o.nextPos <;> rfl

/-- The model's loop hands out the first element of `scan`: started on a reading file at its cursor, `readLoop` returns
    the first good record that `scan` finds from there — its time, a fresh id — and registers a bucket holding exactly
    that record's position, size and crc; the directory is untouched and the cursor sits behind the record. -/
theorem readLoop_head (cfg : Cfg) : ∀ (fuel : Nat) (s : Shard) (name : Nat) (f : OFile) (p : Nat) (h : Hdr) (rest : List (Nat × Hdr)),
    s.reading = some name → findO s.ofiles name = some f →
    scan cfg fuel (fileBytes s.disk name) f.size f.nextPos = (p, h) :: rest →
    ∃ s', readLoop cfg fuel s = (s', .got h.time (s.lastID + 1)) ∧
      s'.known = { id := s.lastID + 1, file := name, pos := p, time := h.time, size := h.size, crc := h.crc } :: s.known ∧
      s'.lastID = s.lastID + 1 ∧ s'.disk = s.disk ∧ s'.reading = some name ∧ s'.waiting = s.waiting ∧
      findO s'.ofiles name = some { f with nextPos := p + headerSize + h.size, refCount := f.refCount + 1 } := by
  intro fuel
  induction fuel with
  | zero => intro s name f p h rest _ _ hs; simp [scan] at hs
  | succ fuel ih =>
    intro s name f p h rest hr hf hs
    rw [scan_succ] at hs
    obtain rfl := findO_name _ _ _ hf
    by_cases hge : f.nextPos ≥ f.size
    · rw [if_pos hge] at hs; simp at hs
    · rw [if_neg hge] at hs
      rw [readLoop_some cfg fuel s f.name f hr hf, if_neg hge]
      cases hl : look cfg (fileBytes s.disk f.name) f.size f.nextPos with
      | stop => simp [hl] at hs
      | skip nx =>
        simp only [hl] at hs ⊢
        exact ih (setNextPos s f.name nx) f.name { f with nextPos := nx } p h rest hr
          (findO_mapO s.ofiles f.name _ f (fun _ => rfl) hf) hs
      | good h0 nx =>
        simp only [hl] at hs ⊢
        simp only [List.cons.injEq, Prod.mk.injEq] at hs
        obtain ⟨⟨rfl, rfl⟩, _⟩ := hs
        refine ⟨register s f h0 nx, rfl, rfl, rfl, rfl, hr, rfl, ?_⟩
        rw [← look_good_next hl]
        exact findO_mapO s.ofiles f.name (fun g => { g with refCount := g.refCount + 1, nextPos := nx }) f (fun _ => rfl) hf

/-- the magic read back after the first `k` bytes of the erase reached the disk -/
def tornMagic (k : Nat) : Nat := unle ((le 4 magicDeleted).take k ++ (le 4 magicGood).drop k)

/-- 0,1,2 bytes: the record is still good (the erase did not happen); 4 bytes: erased; 3 bytes: a third magic -/
theorem torn_erase_magic :
    tornMagic 0 = magicGood ∧ tornMagic 1 = magicGood ∧ tornMagic 2 = magicGood ∧
    tornMagic 3 = magicTornDeleted ∧ tornMagic 4 = magicDeleted := by decide

/-- a reader that knows only the two magics (`tornEraseOk = false`, disk_cache.go before `magicDeletedTorn` was added): the
    magic left by an erase torn after 3 bytes is "unknown", the scan of the file stops there — every later second of that file is not re-read although it was put, not erased and not torn. -/
theorem torn_erase3_stops (cfg : Cfg) (hv : cfg.tornEraseOk = false) (pre body rest : Bytes) (t c size : Nat)
    (ht : t < 2 ^ 32) (hc : c < 2 ^ 32) (hb : body.length ≤ maxChunkSize)
    (hsz : pre.length + (headerSize + body.length) ≤ size) :
    look cfg (pre ++ (encHeader magicTornDeleted t body.length c ++ (body ++ rest))) size pre.length = .stop := by
  rw [look_at_magic cfg pre body rest magicTornDeleted t c size (by decide) ht hc hb hsz]
  have h2 : (magicTornDeleted != magicGood) = true := by decide
  simp [isDeleted_torn, hv, h2]

/-- the reader of disk_cache.go (`tornEraseOk = true`; Go `magicDeletedTorn` = model `magicTornDeleted`): that record is skipped like an erased one, the scan goes on -/
theorem torn_erase3_skipped_when_fixed (cfg : Cfg) (hv : cfg.tornEraseOk = true) (pre body rest : Bytes) (t c size : Nat)
    (ht : t < 2 ^ 32) (hc : c < 2 ^ 32) (hb : body.length ≤ maxChunkSize)
    (hsz : pre.length + (headerSize + body.length) ≤ size) :
    look cfg (pre ++ (encHeader magicTornDeleted t body.length c ++ (body ++ rest))) size pre.length =
      .skip (pre.length + headerSize + body.length) := by
  rw [look_at_magic cfg pre body rest magicTornDeleted t c size (by decide) ht hc hb hsz]
  simp [isDeleted_torn, hv]

/-! ### witnesses (non-vacuity; the two readers on a concrete directory) -/

def cfg0 : Cfg := { crc := fun b => b.length, tornEraseOk := false }
def cfgFixed : Cfg := { crc := fun b => b.length, tornEraseOk := true }
def rA : Rec := { deleted := false, time := 15, body := [1, 2] }
def rB : Rec := { deleted := true, time := 16, body := [] }
def rC : Rec := { deleted := false, time := 17, body := [9] }

example : ∀ r ∈ [rA, rB, rC], RecWF cfg0 r := by decide +kernel
example : scan cfg0 4 (encAll cfg0 [rA, rB, rC]) 63 0 = [(0, hdrOf cfg0 rA), (42, hdrOf cfg0 rC)] := by decide +kernel
-- every tear offset of the last record, concretely: the first record survives, nothing else appears
example : ∀ k < 21, scan cfg0 4 (encAll cfg0 [rA, rB] ++ (encRec cfg0 rC).take k) (42 + k) 0 = [(0, hdrOf cfg0 rA)] := by decide +kernel

/-- the full claim "only a second whose write was torn may be missing" is FALSE of the reader with `tornEraseOk = false` when the torn
    write is an erase: erase of rA torn after 3 bytes; rC (put, not erased, not torn) is not re-read. -/
theorem torn_erase3_loses_later_second :
    scan cfg0 4 (writeAt (encAll cfg0 [rA, rC]) 0 ((le 4 magicDeleted).take 3)) 43 0 = [] ∧
    goodList cfg0 0 [{ rA with deleted := true }, rC] = [(22, hdrOf cfg0 rC)] := by decide +kernel

/-- same directory, reader with `tornEraseOk = true`: rC is re-read -/
theorem torn_erase3_fixed_keeps_later_second :
    scan cfgFixed 4 (writeAt (encAll cfgFixed [rA, rC]) 0 ((le 4 magicDeleted).take 3)) 43 0 = [(22, hdrOf cfgFixed rC)] := by decide +kernel

-- hypotheses of `readLoop_head` are satisfiable: a restarted shard that has opened its only file
def sDemo : Shard :=
  openNext (restart { disk := [{ name := 5, bytes := encAll cfg0 [rB, rC] }] }) { name := 5, size := 41 } []
example : sDemo.reading = some 5 ∧ findO sDemo.ofiles 5 = some { name := 5, nextPos := 0, size := 41, refCount := 1 } ∧
    scan cfg0 3 (fileBytes sDemo.disk 5) 41 0 = [(20, hdrOf cfg0 rC)] := by decide +kernel
example : (readLoop cfg0 3 sDemo).2 = .got 17 1 := by decide +kernel
-- GetBucket on the demo shard returns the body that was put
example : (DiskCache.get cfg0 (readLoop cfg0 3 sDemo).1 1 17).2 = .ok [9] := by decide +kernel

/-- "Reported total and unsent sizes match the files on disk" at the moment the cache is (re)started -/
theorem restart_accounting (s : Shard) :
    (restart s).total = sumSizes s.disk ∧ unsent (restart s) = sumSizes s.disk ∧ (restart s).known = [] := by
  simp [restart, unsent, readingRest]

example : sumSizes (restart { disk := [{ name := 5, bytes := encAll cfg0 [rB, rC] }] }).disk = 41 := by decide +kernel

end SH.C09
