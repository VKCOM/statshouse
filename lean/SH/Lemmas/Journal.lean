/-
  SH.Lemmas.Journal — the journal model (SH.Model.Journal) on its own: what its functions return (add / addAll,
  applyUpdate, save, load, diff, truncate, packChunks: `*_eq_some`, `mem_add`, `mem_addAll`, `load_some`, `diff_prefix`),
  then keys and the xor of the entry hashes (equal contents give equal hashes), then the invariant `JInv` (one entry per
  entity, ascending versions, none above currentVersion, state hash = xor of the entry hashes) for add / addAll /
  applyUpdate / load.
-/
import SH.Model.Journal

namespace SH.C20
open SH.Journal

theorem sameKey_iff (a b : Entry) : sameKey a b = true ↔ a.typ = b.typ ∧ a.id = b.id := by
  simp [sameKey]

theorem sameKey_refl (a : Entry) : sameKey a a = true :=
  (sameKey_iff a a).mpr ⟨rfl, rfl⟩

theorem sameKey_comm (a b : Entry) : sameKey a b = sameKey b a := by
  simp only [sameKey, eq_comm]

theorem sameKey_symm {a b : Entry} (h : sameKey a b = true) : sameKey b a = true :=
  sameKey_comm a b ▸ h

theorem sameKey_trans {a b c : Entry} (h1 : sameKey a b = true) (h2 : sameKey b c = true) : sameKey a c = true := by
  rw [sameKey_iff] at *
  exact ⟨h1.1.trans h2.1, h1.2.trans h2.2⟩

theorem sameKey_false_of (e h b : Entry) (h1 : sameKey e h = true) (h2 : sameKey h b = false) : sameKey e b = false := by
  apply Bool.eq_false_iff.mpr
  intro hb
  rw [sameKey_trans (sameKey_symm h1) hb] at h2
  cases h2

def KeysUnique (es : List Entry) : Prop := es.Pairwise (fun a b => sameKey a b = false)

theorem add_eq_some (j j' : J) (e : Entry) : add j e = some j' ↔ j.cur < e.ver ∧
    j' = { j with entries := j.entries.filter (fun o => !sameKey e o) ++ [e],
                  hash := (j.hash ^^^ oldHash j.entries e) ^^^ e.hash, cur := e.ver } := by
  simp only [add, tooOld, decide_eq_true_eq]
  split
  · simp only [reduceCtorEq, false_iff, not_and]
    omega
  · simp only [Option.some.injEq, eq_comm (a := j')]
    constructor
    · intro h
      exact ⟨by omega, h⟩
    · exact fun h => h.2

theorem mem_add (j j' : J) (e x : Entry) (h : add j e = some j') :
    x ∈ j'.entries ↔ (x = e ∨ (x ∈ j.entries ∧ sameKey e x = false)) := by
  obtain ⟨_, rfl⟩ := (add_eq_some j j' e).mp h
  simp only [List.mem_append, List.mem_filter, List.mem_singleton, Bool.not_eq_true', or_comm]

theorem addAll_cons_eq_some (j j' : J) (e : Entry) (r : List Entry) :
    addAll j (e :: r) = some j' ↔ ∃ j1, add j e = some j1 ∧ addAll j1 r = some j' := by
  simp only [addAll]
  split <;> simp_all

theorem addAll_append_eq_some : ∀ (a b : List Entry) (j j' : J),
    addAll j (a ++ b) = some j' ↔ ∃ j1, addAll j a = some j1 ∧ addAll j1 b = some j' := by
  intro a b
  induction a with
  | nil => intro j j'; simp [addAll]
  | cons e r ih =>
    intro j j'
    simp only [List.cons_append, addAll_cons_eq_some, ih]
    constructor
    · rintro ⟨j1, h1, j2, h2, h3⟩
      exact ⟨j2, ⟨j1, h1, h2⟩, h3⟩
    · rintro ⟨j2, ⟨j1, h1, h2⟩, h3⟩
      exact ⟨j1, h1, j2, h2, h3⟩

theorem addAll_preserves (Q : J → Prop) (hadd : ∀ j j' e, Q j → add j e = some j' → Q j') :
    ∀ (es : List Entry) (j j' : J), Q j → addAll j es = some j' → Q j' := by
  intro es
  induction es with
  | nil => intro j j' hq h; simp [addAll] at h; subst h; exact hq
  | cons e r ih =>
    intro j j' hq h
    obtain ⟨j1, h1, h⟩ := (addAll_cons_eq_some j j' e r).mp h
    exact ih j1 j' (hadd j j1 e hq h1) h

theorem addAll_compact (es : List Entry) (j j' : J) (h : addAll j es = some j') : j'.compact = j.compact := by
  refine addAll_preserves (fun x => x.compact = j.compact) ?_ es j j' rfl h
  intro a b e ha hb
  obtain ⟨_, rfl⟩ := (add_eq_some a b e).mp hb
  exact ha

theorem mem_addAll : ∀ (es : List Entry) (j j' : J) (x : Entry), addAll j es = some j' →
    (x ∈ j'.entries → x ∈ es ∨ x ∈ j.entries) ∧
    (x ∈ j.entries → (∀ e ∈ es, sameKey e x = false) → x ∈ j'.entries) ∧
    (x ∈ es → KeysUnique es → x ∈ j'.entries) := by
  intro es
  induction es with
  | nil => intro j j' x h; simp [addAll] at h; subst h; simp
  | cons e r ih =>
    intro j j' x h
    obtain ⟨j1, h1, h⟩ := (addAll_cons_eq_some j j' e r).mp h
    obtain ⟨i1, i2, i3⟩ := ih j1 j' x h
    have hm := mem_add j j1 e x h1
    refine ⟨?_, ?_, ?_⟩
    · intro hx
      rcases i1 hx with a | a
      · left; exact List.mem_cons_of_mem _ a
      · rcases hm.mp a with rfl | ⟨b, _⟩
        · left; simp
        · right; exact b
    · intro hx hall
      exact i2 (hm.mpr (Or.inr ⟨hx, hall e (by simp)⟩)) (fun e' he' => hall e' (List.mem_cons_of_mem _ he'))
    · intro hx hp
      obtain ⟨hp1, hp2⟩ := List.pairwise_cons.mp hp
      rcases List.mem_cons.mp hx with rfl | hx
      · exact i2 (hm.mpr (Or.inl rfl)) (fun e' he' => sameKey_comm e' x ▸ hp1 e' he')
      · exact i3 hx hp2

theorem applyUpdate_eq_some (tab : Nat → Content) (j j' : J) (src applied : List Entry) (lk : Int) :
    applyUpdate tab j src lk = some (j', applied) ↔
      (src = [] ∧ j' = j ∧ applied = []) ∨
      (src ≠ [] ∧ applied = keptOf tab j src ∧
        ∃ j1, addAll j (keptOf tab j src) = some j1 ∧ j' = { j1 with lv := lastVer src 0, lk := lk }) := by
  unfold applyUpdate
  by_cases hs : src = []
  · simp [hs, eq_comm]
  · simp only [List.isEmpty_iff, hs, if_false, false_and, false_or, ne_eq, not_false_eq_true, true_and]
    cases addAll j (keptOf tab j src) with
    | none => simp
    | some j1 =>
      simp only [Option.some.injEq, Prod.mk.injEq, exists_eq_left']
      constructor
      · rintro ⟨rfl, rfl⟩
        exact ⟨rfl, rfl⟩
      · rintro ⟨rfl, rfl⟩
        exact ⟨rfl, rfl⟩

theorem keptOf_of_not_compact (tab : Nat → Content) (j : J) (src : List Entry) (h : j.compact = false) :
    keptOf tab j src = src := by
  simp [keptOf, h]

theorem lastVer_mem : ∀ (p : List Entry) (d : Int), p ≠ [] → ∃ x ∈ p, x.ver = lastVer p d := by
  intro p
  induction p with
  | nil => intro d h; exact absurd rfl h
  | cons e r ih =>
    intro d _
    cases r with
    | nil => exact ⟨e, by simp, rfl⟩
    | cons e2 r2 =>
      obtain ⟨x, hx, hv⟩ := ih d (by simp)
      exact ⟨x, List.mem_cons_of_mem _ hx, by simpa [lastVer] using hv⟩

theorem lastVer_transport (tab : Nat → Content) : ∀ (q : List Entry) (d d' : Int), q ≠ [] →
    lastVer (transport tab q) d = lastVer q d' := by
  intro q
  induction q with
  | nil => intro d d' h; exact absurd rfl h
  | cons e r ih =>
    intro d d' _
    cases r with
    | nil => rfl
    | cons e2 r2 => exact ih d d' (by simp)

theorem lastVer_max : ∀ (q : List Entry) (d : Int), q.Pairwise (fun a b => a.ver < b.ver) →
    ∀ u ∈ q, u.ver ≤ lastVer q d := by
  intro q
  induction q with
  | nil => intro d _ u hu; simp at hu
  | cons e r ih =>
    intro d hp u hu
    obtain ⟨h1, h2⟩ := List.pairwise_cons.mp hp
    cases r with
    | nil => simp at hu; subst hu; simp [lastVer]
    | cons e2 r2 =>
      simp only [lastVer]
      rcases List.mem_cons.mp hu with rfl | hu'
      · have a := h1 e2 (by simp)
        have b := ih d h2 e2 (by simp)
        omega
      · exact ih d h2 u hu'

theorem transport_take (tab : Nat → Content) (l : List Entry) (n : Nat) :
    (transport tab l).take n = transport tab (l.take n) := by
  simp [transport, List.map_take]

theorem save_cases (j : J) (f : File) :
    save j f = (j, f, false) ∨ save j f = ({ j with saved := j.cur }, saveFile j, true) := by
  unfold save
  split
  · exact Or.inl rfl
  · exact Or.inr rfl

theorem loadChunks_some : ∀ (cs : List Chunk) (j j' : J) (bs : List (List Entry)), loadChunks j cs = some (j', bs) →
    addAll j (cs.map (·.evs)).flatten = some j' ∧ bs = cs.map (·.evs) := by
  intro cs
  induction cs with
  | nil => intro j j' bs h; simp [loadChunks] at h; obtain ⟨rfl, rfl⟩ := h; exact ⟨rfl, rfl⟩
  | cons c r ih =>
    intro j j' bs h
    simp only [loadChunks] at h
    cases h1 : addAll j c.evs with
    | none => simp [h1] at h
    | some j1 =>
      cases h2 : loadChunks j1 r with
      | none => simp [h1, h2] at h
      | some p =>
        simp only [h1, h2, Option.some.injEq, Prod.mk.injEq] at h
        obtain ⟨rfl, rfl⟩ := h
        obtain ⟨a, e⟩ := ih j1 p.1 p.2 h2
        exact ⟨(addAll_append_eq_some _ _ j p.1).mpr ⟨j1, h1, a⟩, by rw [e]; rfl⟩

theorem load_some (c : Bool) (f : File) (R' : J) (bs : List (List Entry)) (err : Bool)
    (h : load c f = some (R', bs, err)) :
    ∃ j, addAll { compact := c } (f.chunks.map (·.evs)).flatten = some j ∧ bs = f.chunks.map (·.evs) ∧
      R' = { j with lv := if headerOk f j.cur then headerLv f else j.cur, lk := j.cur, saved := 0 } ∧
      err = decide (f.tail ≠ 0) := by
  unfold load at h
  cases h1 : loadChunks { compact := c } f.chunks with
  | none => simp [h1] at h
  | some p =>
    simp only [h1, Option.some.injEq, Prod.mk.injEq] at h
    obtain ⟨rfl, rfl, rfl⟩ := h
    obtain ⟨a, e⟩ := loadChunks_some _ _ p.1 p.2 h1
    exact ⟨p.1, a, e, rfl, rfl⟩

/-- a file cut exactly at a chunk boundary (`tail = 0`) reads without error -/
theorem load_err_iff_tail (c : Bool) (f : File) (R' : J) (bs : List (List Entry)) (err : Bool)
    (hl : load c f = some (R', bs, err)) : err = decide (f.tail ≠ 0) := by
  obtain ⟨_, _, _, _, h⟩ := load_some c f R' bs err hl
  exact h

/-- the loaderVersion `load` picks: the header's only when the last event read carries the header's currentVersion -/
theorem load_lv_cases (f : File) (cur : Int) :
    (if headerOk f cur then headerLv f else cur) = cur ∨
    (f.cur = cur ∧ cur ≤ f.lv ∧ (if headerOk f cur then headerLv f else cur) = f.lv) := by
  unfold headerOk headerLv
  cases f.chunks with
  | nil => left; simp; omega
  | cons a b =>
    by_cases h : f.cur = cur ∧ cur ≤ f.lv
    · right; simp [h]
    · left; simp; omega

theorem takeLim_prefix (mi mb : Nat) : ∀ (l : List Entry) (n b : Nat), takeLim mi mb l n b <+: l := by
  intro l
  induction l with
  | nil => intro n b; simp [takeLim]
  | cons e r ih =>
    intro n b
    simp only [takeLim]
    split
    · exact ⟨r, rfl⟩
    · exact List.prefix_cons_inj e |>.mpr (ih _ _)

theorem takeLim_ne_nil (mi mb : Nat) (l : List Entry) (n b : Nat) (h : l ≠ []) : takeLim mi mb l n b ≠ [] := by
  cases l with
  | nil => exact absurd rfl h
  | cons e r => simp only [takeLim]; split <;> simp

theorem diff_prefix (j : J) (from_ : Int) (mi mb : Nat) :
    diff j from_ mi mb <+: j.entries.filter (fun e => decide (from_ < e.ver)) := by
  unfold diff
  split
  · exact List.nil_prefix
  · exact takeLim_prefix _ _ _ _ _

theorem prefix_mem_le (l p : List Entry) (hp : p <+: l) (hs : l.Pairwise (fun a b => a.ver < b.ver))
    (e : Entry) (he : e ∈ p) (x : Entry) (hx : x ∈ l) (hle : x.ver ≤ e.ver) : x ∈ p := by
  obtain ⟨t, rfl⟩ := hp
  rcases List.mem_append.mp hx with h | h
  · exact h
  · exfalso
    have := (List.pairwise_append.mp hs).2.2 e he x h
    omega

/-- C20 (diff delivery): whatever the item / byte limits and wherever the response is cut, the delivered events are
    the upstream entries with versions in (from, last delivered] — none is skipped; and a request below the upstream
    version is never answered with nothing. -/
theorem delivery_never_skips (j : J) (hsorted : j.entries.Pairwise (fun a b => a.ver < b.ver))
    (from_ : Int) (mi mb cut : Nat) :
    let evs := (diff j from_ mi mb).take cut
    (evs ≠ [] → ∀ e ∈ j.entries, from_ < e.ver → e.ver ≤ lastVer evs from_ → e ∈ evs) ∧
    (∀ e ∈ evs, e ∈ j.entries ∧ from_ < e.ver) ∧
    ((∃ e ∈ j.entries, from_ < e.ver) → from_ < j.cur → diff j from_ mi mb ≠ []) := by
  intro evs
  have hpre2 : evs <+: j.entries.filter (fun e => decide (from_ < e.ver)) :=
    (List.take_prefix _ _).trans (diff_prefix j from_ mi mb)
  refine ⟨?_, ?_, ?_⟩
  · intro hne e he hlt hle
    obtain ⟨x, hx, hv⟩ := lastVer_mem evs from_ hne
    exact prefix_mem_le _ evs hpre2 (hsorted.filter _) x hx e (List.mem_filter.mpr ⟨he, by simpa using hlt⟩) (hv ▸ hle)
  · intro e he
    have := List.mem_filter.mp (hpre2.subset he)
    exact ⟨this.1, by simpa using this.2⟩
  · intro ⟨e, he, hlt⟩ hcur
    unfold diff
    rw [if_neg (by omega)]
    exact takeLim_ne_nil _ _ _ _ _ (List.ne_nil_of_mem (List.mem_filter.mpr ⟨he, by simpa using hlt⟩))

theorem keepChunks_prefix : ∀ (cs : List Chunk) (keep : Nat), keepChunks cs keep <+: cs := by
  intro cs
  induction cs with
  | nil => intro k; simp [keepChunks]
  | cons c r ih =>
    intro k
    simp only [keepChunks]
    split
    · exact (List.prefix_cons_inj c).mpr (ih _)
    · exact List.nil_prefix

/-- C20 (truncated reload): whatever the cut offset, the file that is read back consists of a prefix of the chunks that
    were written (complete chunks only). -/
theorem truncate_keeps_prefix (f : File) (keep : Nat) : (truncate f keep).chunks <+: f.chunks := by
  unfold truncate
  split
  · exact List.prefix_refl _
  · exact keepChunks_prefix _ _

theorem truncate_flatten (f : File) (keep : Nat) :
    ((truncate f keep).chunks.map (·.evs)).flatten <+: (f.chunks.map (·.evs)).flatten ∧
    (truncate f keep).lv = f.lv ∧ (truncate f keep).cur = f.cur := by
  obtain ⟨t, ht⟩ := truncate_keeps_prefix f keep
  refine ⟨by rw [← ht]; simp, ?_, ?_⟩ <;>
  · unfold truncate
    split <;> rfl

theorem packChunks_flatten : ∀ (es : List Entry) (body : Nat) (acc : List Entry), (body = 0 → acc = []) →
    (∀ e ∈ es, 0 < e.sz) → ((packChunks es body acc).map (·.evs)).flatten = acc.reverse ++ es := by
  intro es
  induction es with
  | nil =>
    intro body acc h0 _
    simp only [packChunks]
    split
    · rename_i hb; simp [h0 hb]
    · simp
  | cons e r ih =>
    intro body acc _ hsz
    simp only [packChunks]
    split
    · have := ih 0 [] (fun _ => rfl) (fun x hx => hsz x (List.mem_cons_of_mem _ hx))
      simp [this]
    · have hpos := hsz e (by simp)
      have := ih (body + e.sz) (e :: acc) (by intro hb; omega) (fun x hx => hsz x (List.mem_cons_of_mem _ hx))
      simp [this]

def xorAll : List Entry → Nat
  | [] => 0
  | e :: r => e.hash ^^^ xorAll r

theorem xorAll_append (a b : List Entry) : xorAll (a ++ b) = xorAll a ^^^ xorAll b := by
  induction a with
  | nil => simp [xorAll]
  | cons h r ih => simp [xorAll, ih, Nat.xor_assoc]

theorem xorAll_filter (e : Entry) : ∀ (es : List Entry), KeysUnique es →
    xorAll (es.filter (fun o => !sameKey e o)) ^^^ oldHash es e = xorAll es := by
  intro es
  induction es with
  | nil => intro _; simp [xorAll, oldHash, findKey]
  | cons h r ih =>
    intro hk
    obtain ⟨hh, hr⟩ := List.pairwise_cons.mp hk
    by_cases hs : sameKey e h = true
    · have hall : ∀ b ∈ r, (!sameKey e b) = true := by
        intro b hb; rw [sameKey_false_of e h b hs (hh b hb)]; rfl
      have hf : r.filter (fun o => !sameKey e o) = r := List.filter_eq_self.mpr hall
      simp [List.filter, hs, hf, oldHash, findKey, List.find?, xorAll, Nat.xor_comm]
    · have hs' : sameKey e h = false := by simpa using hs
      have := ih hr
      simp only [List.filter, hs', Bool.not_false, xorAll, oldHash, findKey, List.find?] at this ⊢
      rw [Nat.xor_assoc, this]

theorem unique_of_sameKey (es : List Entry) (hk : KeysUnique es) (a b : Entry) (ha : a ∈ es) (hb : b ∈ es)
    (h : sameKey a b = true) : a = b := by
  induction es with
  | nil => simp at ha
  | cons x r ih =>
    obtain ⟨hx, hr⟩ := List.pairwise_cons.mp hk
    rcases List.mem_cons.mp ha with rfl | ha' <;> rcases List.mem_cons.mp hb with rfl | hb'
    · rfl
    · have := hx b hb'; rw [h] at this; simp at this
    · have := hx a ha'; rw [sameKey_comm, h] at this; simp at this
    · exact ih hr ha' hb'

theorem xorAll_perm (a b : List Entry) (h : (a.map (·.hash)).Perm (b.map (·.hash))) : xorAll a = xorAll b := by
  have key : ∀ l : List Entry, xorAll l = (l.map (·.hash)).foldr (· ^^^ ·) 0 := by
    intro l; induction l with
    | nil => rfl
    | cons x r ih => simp [xorAll, ih]
  rw [key, key]
  exact h.foldr_eq' (fun x _ y _ z => by rw [← Nat.xor_assoc, Nat.xor_comm y x, Nat.xor_assoc]) 0

/-- entity and content hash of an entry; over a key-unique list these pairs are distinct -/
def kh (e : Entry) : (Int × Int) × Nat := ((e.typ, e.id), e.hash)

theorem xorAll_match (l1 l2 : List Entry) (hk1 : KeysUnique l1) (hk2 : KeysUnique l2)
    (h1 : ∀ x ∈ l1, ∃ y ∈ l2, sameKey x y = true ∧ x.hash = y.hash)
    (h2 : ∀ y ∈ l2, ∃ x ∈ l1, sameKey y x = true ∧ y.hash = x.hash) : xorAll l1 = xorAll l2 := by
  -- the lists of (entity, hash) pairs have no duplicates and the same members: one is a permutation of the other
  have nd : ∀ l, KeysUnique l → (l.map kh).Nodup := fun l hk =>
    List.nodup_iff_pairwise_ne.mpr (hk.map kh fun a b hab he => by
      rw [(sameKey_iff a b).mpr ⟨congrArg (·.1.1) he, congrArg (·.1.2) he⟩] at hab
      cases hab)
  have sub : ∀ la lb : List Entry, (∀ x ∈ la, ∃ y ∈ lb, sameKey x y = true ∧ x.hash = y.hash) →
      ∀ p ∈ la.map kh, p ∈ lb.map kh := by
    intro la lb h p hp
    obtain ⟨x, hx, rfl⟩ := List.mem_map.mp hp
    obtain ⟨y, hy, hs, hh⟩ := h x hx
    obtain ⟨a, b⟩ := (sameKey_iff x y).mp hs
    exact List.mem_map.mpr ⟨y, hy, by simp only [kh, a, b, hh]⟩
  have hp := ((List.perm_ext_iff_of_nodup (nd l1 hk1) (nd l2 hk2)).mpr fun p => ⟨sub l1 l2 h1 p, sub l2 l1 h2 p⟩).map Prod.snd
  rw [List.map_map, List.map_map] at hp
  exact xorAll_perm l1 l2 hp

/-- invariant of every reachable journal -/
structure JInv (j : J) : Prop where
  keys : KeysUnique j.entries
  hash : j.hash = xorAll j.entries
  sorted : j.entries.Pairwise (fun a b => a.ver < b.ver)
  bound : ∀ e ∈ j.entries, e.ver ≤ j.cur

theorem jinv_empty (c : Bool) : JInv { compact := c } :=
  ⟨List.Pairwise.nil, rfl, List.Pairwise.nil, by intro e he; simp at he⟩

theorem jinv_congr (j j' : J) (h : JInv j) (he : j'.entries = j.entries) (hh : j'.hash = j.hash) (hc : j'.cur = j.cur) :
    JInv j' :=
  ⟨by rw [he]; exact h.keys, by rw [hh, he]; exact h.hash, by rw [he]; exact h.sorted, by rw [he, hc]; exact h.bound⟩

theorem add_inv (j j' : J) (e : Entry) (hi : JInv j) (h : add j e = some j') :
    JInv j' ∧ j'.cur = e.ver ∧ j.cur < e.ver := by
  obtain ⟨hlt, rfl⟩ := (add_eq_some j j' e).mp h
  refine ⟨⟨?_, ?_, ?_, ?_⟩, rfl, hlt⟩
  · refine List.pairwise_append.mpr ⟨hi.keys.filter _, List.pairwise_singleton _ _, ?_⟩
    intro a ha b hb
    rw [List.mem_singleton.mp hb, sameKey_comm]
    simpa using (List.mem_filter.mp ha).2
  · simp only
    rw [xorAll_append, hi.hash, ← xorAll_filter e j.entries hi.keys]
    simp [xorAll, Nat.xor_assoc]
  · refine List.pairwise_append.mpr ⟨hi.sorted.filter _, List.pairwise_singleton _ _, ?_⟩
    intro a ha b hb
    rw [List.mem_singleton.mp hb]
    exact Int.lt_of_le_of_lt (hi.bound a (List.mem_filter.mp ha).1) hlt
  · intro a ha
    rcases List.mem_append.mp ha with h1 | h1
    · exact Int.le_of_lt (Int.lt_of_le_of_lt (hi.bound a (List.mem_filter.mp h1).1) hlt)
    · rw [List.mem_singleton.mp h1]
      exact Int.le_refl _

/-- `addEventLocked` in a row: versions must increase strictly, else the Go code panics (`none`) -/
theorem addAll_inv : ∀ (es : List Entry) (j j' : J), JInv j → addAll j es = some j' →
    JInv j' ∧ j.cur ≤ j'.cur ∧ (∀ e ∈ es, j.cur < e.ver ∧ e.ver ≤ j'.cur) ∧ es.Pairwise (fun a b => a.ver < b.ver) := by
  intro es
  induction es with
  | nil => intro j j' hi h; simp [addAll] at h; subst h; exact ⟨hi, Int.le_refl _, by simp, List.Pairwise.nil⟩
  | cons e r ih =>
    intro j j' hi h
    obtain ⟨j1, h1, h⟩ := (addAll_cons_eq_some j j' e r).mp h
    obtain ⟨i1, c1, l1⟩ := add_inv j j1 e hi h1
    obtain ⟨i2, c2, a2, p2⟩ := ih j1 j' i1 h
    have hle : j.cur ≤ j1.cur := c1 ▸ Int.le_of_lt l1
    refine ⟨i2, Int.le_trans hle c2, ?_, ?_⟩
    · intro x hx
      rcases List.mem_cons.mp hx with rfl | hx
      · exact ⟨l1, c1 ▸ c2⟩
      · exact ⟨Int.lt_of_le_of_lt hle (a2 x hx).1, (a2 x hx).2⟩
    · exact List.pairwise_cons.mpr ⟨fun x hx => c1 ▸ (a2 x hx).1, p2⟩

theorem applyUpdate_inv (tab : Nat → Content) (j j' : J) (src applied : List Entry) (lk : Int) (hi : JInv j)
    (h : applyUpdate tab j src lk = some (j', applied)) :
    JInv j' ∧ (∀ e ∈ applied, j.cur < e.ver) ∧ applied.Pairwise (fun a b => a.ver < b.ver) := by
  rcases (applyUpdate_eq_some tab j j' src applied lk).mp h with ⟨_, rfl, rfl⟩ | ⟨_, rfl, j1, h1, rfl⟩
  · exact ⟨hi, by simp, List.Pairwise.nil⟩
  · obtain ⟨i1, _, a1, p1⟩ := addAll_inv _ j j1 hi h1
    exact ⟨jinv_congr j1 _ i1 rfl rfl rfl, fun e he => (a1 e he).1, p1⟩

theorem load_inv (c : Bool) (f : File) (j : J) (bs : List (List Entry)) (err : Bool)
    (h : load c f = some (j, bs, err)) :
    JInv j ∧ (∀ e ∈ bs.flatten, 0 < e.ver) ∧ bs.flatten.Pairwise (fun a b => a.ver < b.ver) ∧ j.cur ≤ j.lv := by
  obtain ⟨j1, h1, rfl, rfl, _⟩ := load_some c f j bs err h
  obtain ⟨i1, _, a1, p1⟩ := addAll_inv _ _ j1 (jinv_empty c) h1
  refine ⟨jinv_congr j1 _ i1 rfl rfl rfl, fun e he => (a1 e he).1, p1, ?_⟩
  rcases load_lv_cases f j1.cur with h | ⟨_, h, hv⟩
  · exact Int.le_of_eq h.symm
  · exact Int.le_trans h (Int.le_of_eq hv.symm)

end SH.C20
