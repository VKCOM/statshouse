/-
  SH.Lemmas.UniqueSketch — the unique sketch (SH.Model.Unique, ChUnique as a set) keeps a canonical state.
  `Good P s U W`: `s` holds exactly the values of `U` (everything it has seen) divisible by 2^skipDegree, itemsCount is their
  number, skipDegree is minimal for the universe `W ⊇ U`, the table degree is in range. `W` makes minimality survive a merge
  with a sketch that has seen other values: both sides are stated over what either will ever see. `Rep`: `Good` or the zero
  value. insertHash, Merge (in any order of walking the sender), MergeRead / UmMarshall of any wire image (`Image`) keep it,
  for any `P` (hash width, limit 2^(maxDeg-1)); a state that has seen exactly its universe is canonical (`rep_canonical`).
  Merge and MergeRead are the same two steps: the sender's skipDegree is adopted, then the values of its image are inserted
  one by one (`absorb_image`; for Merge the image is the sender's zero flag and its values as walked).
-/
import SH.Model.Unique
import SH.Lemmas.UniqueTrie
namespace SH.C04
open SH.Unique

def abs (P : Params) (s : Sk) : Finset ℕ := keys P.bits s.items

/-- the part of `Good` that rehash and insertImpl keep while the table may be over-full (before shrinkIfNeed has run) -/
structure Core (P : Params) (s : Sk) (U W : Finset ℕ) : Prop where
  alloc : s.alloc = true
  cnt : s.cnt = (abs P s).card
  items : abs P s = fil s.k U
  sub : U ⊆ W
  bound : ∀ x ∈ W, x < 2 ^ P.bits
  minimal : ∀ j < s.k, limit P < (fil j W).card

/-- `Core`, the table degree is in range and the table is at most half full -/
structure Good (P : Params) (s : Sk) (U W : Finset ℕ) : Prop extends Core P s U W where
  sd1 : 1 ≤ s.sd
  sdmax : s.sd ≤ P.maxDeg
  fill : s.cnt ≤ maxFill s

/-- `Core` does not mention sizeDegree -/
theorem Core.with_sd {P : Params} {s : Sk} {U W : Finset ℕ} (h : Core P s U W) (n : Nat) : Core P { s with sd := n } U W :=
  ⟨h.alloc, h.cnt, h.items, h.sub, h.bound, h.minimal⟩

theorem good_cnt_le {P : Params} {s : Sk} {U W : Finset ℕ} (h : Good P s U W) : s.cnt ≤ limit P :=
  Nat.le_trans h.fill (Nat.pow_le_pow_right (by omega) (Nat.sub_le_sub_right h.sdmax 1))

theorem fil_mono (k : Nat) {U W : Finset ℕ} (h : U ⊆ W) : (fil k U).card ≤ (fil k W).card :=
  Finset.card_le_card (Finset.filter_subset_filter _ h)

theorem fil_fil_le {k k' : Nat} (h : k ≤ k') (U : Finset ℕ) : fil k' (fil k U) = fil k' U := by
  unfold fil
  rw [Finset.filter_filter]
  refine Finset.filter_congr (fun y _ => ⟨And.right, fun c => ⟨?_, c⟩⟩)
  exact Nat.mod_eq_zero_of_dvd ((Nat.pow_dvd_pow 2 h).trans (Nat.dvd_of_mod_eq_zero c))

/-- at skipDegree ≥ bits only the value 0 survives -/
theorem fil_big (P : Params) (k : Nat) (hk : P.bits ≤ k) (U : Finset ℕ) (hb : ∀ x ∈ U, x < 2 ^ P.bits) : (fil k U).card ≤ 1 := by
  rw [Finset.card_le_one]
  intro a ha b hb'
  rw [mem_fil] at ha hb'
  have hp : 2 ^ P.bits ≤ 2 ^ k := Nat.pow_le_pow_right (by omega) hk
  have h1 := hb a ha.1
  have h2 := hb b hb'.1
  have ea : a % 2 ^ k = a := Nat.mod_eq_of_lt (by omega)
  have eb : b % 2 ^ k = b := Nat.mod_eq_of_lt (by omega)
  omega

theorem rehash_core (P : Params) (s : Sk) (U W : Finset ℕ) (k' : Nat) (h : Core P s U W) (hk : s.k ≤ k')
    (hm : ∀ j < k', limit P < (fil j W).card) :
    Core P (rehash P { s with k := k' }) U W ∧ (rehash P { s with k := k' }).cnt ≤ s.cnt := by
  have habs : abs P (rehash P { s with k := k' }) = fil k' (abs P s) := by
    simp [abs, rehash, keys_thin]
  have hsz : (s.items.thin P.bits k').size P.bits ≤ s.items.size P.bits := by
    rw [size_eq, size_eq, keys_thin]; exact Finset.card_le_card (Finset.filter_subset _ _)
  have hc : (rehash P { s with k := k' }).cnt = (fil k' (abs P s)).card := by
    have h1 : s.cnt = s.items.size P.bits := by rw [h.cnt, size_eq]; rfl
    have h2 : (fil k' (abs P s)).card = (s.items.thin P.bits k').size P.bits := by rw [size_eq, keys_thin]; rfl
    simp only [rehash]; rw [h2]; omega
  refine ⟨⟨h.alloc, ?_, ?_, h.sub, h.bound, hm⟩, ?_⟩
  · rw [hc, habs]
  · rw [habs, h.items]; exact fil_fil_le hk U
  · rw [hc, h.cnt]; exact Finset.card_le_card (Finset.filter_subset _ _)

theorem thinLoop_sd (P : Params) : ∀ (f : Nat) (s : Sk), (thinLoop P f s).sd = s.sd := by
  intro f
  induction f with
  | zero => intro s; rfl
  | succ f ih =>
    intro s
    simp only [thinLoop]
    split
    · rw [ih]; rfl
    · rfl

theorem Core.cnt_le_of_bits {P : Params} {s : Sk} {U W : Finset ℕ} (h : Core P s U W) (hk : P.bits ≤ s.k) : s.cnt ≤ limit P := by
  rw [h.cnt, h.items]
  exact Nat.le_trans (fil_big P s.k hk U (fun x hx => h.bound x (h.sub hx))) Nat.one_le_two_pow

/-- one round of the thinning loop: more than `limit` values at skipDegree `k` are what makes `k + 1` minimal -/
theorem thinStep_core {P : Params} {s : Sk} {U W : Finset ℕ} (h : Core P s U W) (hov : limit P < s.cnt) :
    Core P (rehash P { s with k := s.k + 1 }) U W := by
  refine (rehash_core P s U W (s.k + 1) h (Nat.le_succ _) (fun j hj => ?_)).1
  rcases Nat.lt_succ_iff_lt_or_eq.mp hj with hjk | hjk
  · exact h.minimal j hjk
  · have := fil_mono s.k h.sub
    rw [← h.items, ← h.cnt] at this
    rw [hjk]
    omega

theorem thinLoop_core (P : Params) : ∀ (f : Nat) (s : Sk) (U W : Finset ℕ), Core P s U W → P.bits + 1 ≤ f + s.k →
    Core P (thinLoop P f s) U W ∧ (thinLoop P f s).cnt ≤ limit P := by
  intro f
  induction f with
  | zero => intro s U W h hf; exact ⟨h, h.cnt_le_of_bits (by omega)⟩
  | succ f ih =>
    intro s U W h hf
    simp only [thinLoop]
    split
    · rename_i hov
      simp only [overLimit, decide_eq_true_eq] at hov
      exact ih _ U W (thinStep_core h hov) (by show _ ≤ f + (s.k + 1); omega)
    · rename_i hov
      simp only [overLimit, decide_eq_true_eq] at hov
      exact ⟨h, by omega⟩

theorem shrink_good (P : Params) (s : Sk) (U W : Finset ℕ) (h : Core P s U W) (h1 : 1 ≤ s.sd) (hmax : s.sd ≤ P.maxDeg)
    (hfill : s.cnt ≤ maxFill s + 1) : Good P (shrinkIfNeed P s) U W := by
  have hfill' : s.cnt ≤ 2 ^ (s.sd - 1) + 1 := hfill
  unfold shrinkIfNeed
  by_cases hf : fits s = true
  · rw [if_pos hf]
    exact { toCore := h, sd1 := h1, sdmax := hmax, fill := of_decide_eq_true hf }
  · rw [if_neg hf]
    have hf' : ¬ s.cnt ≤ 2 ^ (s.sd - 1) := fun c => hf (decide_eq_true c)
    by_cases hov : overLimit P s = true
    · rw [if_pos hov]
      obtain ⟨c, l⟩ := thinLoop_core P (P.bits + 1) s U W h (by omega)
      have esd := thinLoop_sd P (P.bits + 1) s
      have hl : 2 ^ (P.maxDeg - 1) < s.cnt := of_decide_eq_true hov
      refine { toCore := c, sd1 := esd ▸ h1, sdmax := esd ▸ hmax, fill := ?_ }
      show _ ≤ 2 ^ ((thinLoop P (P.bits + 1) s).sd - 1)
      rw [esd]
      unfold limit at l
      omega
    · rw [if_neg hov]
      have hl : ¬ 2 ^ (P.maxDeg - 1) < s.cnt := fun c => hov (decide_eq_true c)
      have hlt : s.sd < P.maxDeg := by
        by_contra hge
        have : 2 ^ (P.maxDeg - 1) ≤ 2 ^ (s.sd - 1) := Nat.pow_le_pow_right (by omega) (by omega)
        omega
      refine { toCore := h.with_sd _, sd1 := Nat.le_succ_of_le h1, sdmax := hlt, fill := ?_ }
      show s.cnt ≤ 2 ^ (s.sd + 1 - 1)
      rw [Nat.add_sub_cancel, ← Nat.two_pow_pred_mul_two h1]
      have : 1 ≤ 2 ^ (s.sd - 1) := Nat.one_le_two_pow
      omega

theorem insertImpl_core (P : Params) (s : Sk) (U W : Finset ℕ) (x : Nat) (h : Core P s U W) (hx : x ∈ W)
    (hg : x % 2 ^ s.k = 0) :
    Core P (insertImpl P s x) (insert x U) W ∧ (insertImpl P s x).cnt ≤ s.cnt + 1 ∧ (insertImpl P s x).sd = s.sd := by
  have hxb := h.bound x hx
  have hsub : insert x U ⊆ W := Finset.insert_subset hx h.sub
  have hfil : fil s.k (insert x U) = insert x (fil s.k U) := by
    unfold fil
    rw [Finset.filter_insert, if_pos hg]
  unfold insertImpl
  split
  · rename_i hh
    simp only [has] at hh
    rw [mem_iff _ _ _ hxb] at hh
    have hin : x ∈ fil s.k U := by rw [← h.items]; exact hh
    refine ⟨⟨h.alloc, h.cnt, ?_, hsub, h.bound, h.minimal⟩, by omega, rfl⟩
    rw [hfil, Finset.insert_eq_of_mem hin]; exact h.items
  · rename_i hh
    simp only [has] at hh
    have hnot : x ∉ abs P s := by
      intro hc; apply hh; rw [mem_iff _ _ _ hxb]; exact hc
    have habs : abs P { s with items := s.items.insert P.bits x, cnt := s.cnt + 1 } = insert x (abs P s) := by
      simp only [abs]; exact keys_insert _ _ _ hxb
    refine ⟨⟨h.alloc, ?_, ?_, hsub, h.bound, h.minimal⟩, by simp, rfl⟩
    · rw [habs, Finset.card_insert_of_notMem hnot, ← h.cnt]
    · rw [habs, hfil, h.items]

theorem enlarge_good (P : Params) (s : Sk) (U V W : Finset ℕ) (h : Good P s U W) (hV : V ⊆ W)
    (hbad : ∀ x ∈ V, x % 2 ^ s.k ≠ 0) : Good P s (U ∪ V) W := by
  refine { toCore := ⟨h.alloc, h.cnt, ?_, Finset.union_subset h.sub hV, h.bound, h.minimal⟩, sd1 := h.sd1, sdmax := h.sdmax,
           fill := h.fill }
  rw [h.items]
  unfold fil
  rw [Finset.filter_union, Finset.filter_eq_empty_iff.mpr hbad, Finset.union_empty]

theorem insertHash_good (P : Params) (s : Sk) (U W : Finset ℕ) (x : Nat) (h : Good P s U W) (hx : x ∈ W) :
    Good P (insertHash P s x) (insert x U) W := by
  unfold insertHash
  split
  · rename_i hg
    rw [good_iff] at hg
    obtain ⟨c, l, esd⟩ := insertImpl_core P s U W x h.toCore hx hg
    apply shrink_good P _ _ _ c
    · rw [esd]; exact h.sd1
    · rw [esd]; exact h.sdmax
    · have := h.fill; simp only [maxFill] at *; rw [esd]; omega
  · rename_i hg
    rw [good_iff] at hg
    rw [Finset.insert_eq, Finset.union_comm]
    refine enlarge_good P s U {x} W h (Finset.singleton_subset_iff.mpr hx) (fun y hy => ?_)
    rw [Finset.mem_singleton.mp hy]
    exact hg

theorem foldl_insertHash_good (P : Params) : ∀ (xs : List Nat) (s : Sk) (U W : Finset ℕ), Good P s U W → (∀ x ∈ xs, x ∈ W) →
    Good P (xs.foldl (insertHash P) s) (U ∪ xs.toFinset) W := by
  intro xs
  induction xs with
  | nil => intro s U W h _; simpa using h
  | cons x xs ih =>
    intro s U W h hx
    simp only [List.foldl_cons, List.toFinset_cons]
    rw [List.forall_mem_cons] at hx
    rw [Finset.union_insert, ← Finset.insert_union]
    exact ih _ _ W (insertHash_good P s U W x h hx.1) hx.2

theorem insertHash_sd_ge (P : Params) (s : Sk) (x : Nat) : s.sd ≤ (insertHash P s x).sd := by
  unfold insertHash
  split
  · have e : (insertImpl P s x).sd = s.sd := by unfold insertImpl; split <;> rfl
    unfold shrinkIfNeed
    split
    · omega
    · split
      · rw [thinLoop_sd]; omega
      · show s.sd ≤ (insertImpl P s x).sd + 1; omega
  · omega


/-- well-formed parameters: 1 ≤ initial table degree ≤ maximal table degree (4 and 17 in the code) -/
def PWF (P : Params) : Prop := 1 ≤ P.initDeg ∧ P.initDeg ≤ P.maxDeg

/-- `Good`, or the zero value `ChUnique{}` that has seen nothing -/
def Rep (P : Params) (s : Sk) (U W : Finset ℕ) : Prop :=
  Good P s U W ∨ (s = nilSk ∧ U = ∅ ∧ ∀ x ∈ W, x < 2 ^ P.bits)

theorem rep_bound (P : Params) (s : Sk) (U W : Finset ℕ) (h : Rep P s U W) : ∀ x ∈ W, x < 2 ^ P.bits := by
  rcases h with h | ⟨_, _, c⟩
  · exact h.bound
  · exact c

theorem reset_good (P : Params) (hP : PWF P) (W : Finset ℕ) (hW : ∀ x ∈ W, x < 2 ^ P.bits) : Good P (reset P) ∅ W :=
  { alloc := rfl, cnt := by simp [reset, abs, keys_nil], items := by simp [reset, abs, keys_nil, fil],
    sub := Finset.empty_subset _, bound := hW, minimal := by intro j hj; simp [reset] at hj,
    sd1 := hP.1, sdmax := hP.2, fill := by simp [reset, maxFill] }

theorem ensure_good (P : Params) (hP : PWF P) (s : Sk) (U W : Finset ℕ) (h : Rep P s U W) : Good P (ensure P s) U W := by
  rcases h with h | ⟨a, b, c⟩
  · simp only [ensure, h.alloc, if_true]; exact h
  · subst a; subst b
    exact reset_good P hP W c

theorem adopt_good (P : Params) (s : Sk) (U W : Finset ℕ) (k' : Nat) (h : Good P s U W)
    (hm : ∀ j < k', limit P < (fil j W).card) : Good P (adopt P s k') U W ∧ k' ≤ (adopt P s k').k := by
  unfold adopt
  split
  · rename_i hlt
    obtain ⟨c, l⟩ := rehash_core P s U W k' h.toCore (by omega) hm
    -- rehash leaves sizeDegree alone and itemsCount does not grow
    exact ⟨{ toCore := c, sd1 := h.sd1, sdmax := h.sdmax, fill := Nat.le_trans l h.fill }, Nat.le_refl k'⟩
  · exact ⟨h, by omega⟩

/-- adopting the sender's skipDegree `k`: the values of `U2` that are not divisible by 2^k were never stored by the
    sender and would not be stored by the receiver either, so they count as seen -/
theorem adopt_absorb (P : Params) (s : Sk) (U1 U2 W : Finset ℕ) (k : Nat) (h : Good P s U1 W) (hs : U2 ⊆ W)
    (hm : ∀ j < k, limit P < (fil j W).card) : Good P (adopt P s k) (U1 ∪ (U2 \ fil k U2)) W := by
  obtain ⟨c1, hk⟩ := adopt_good P s U1 W k h hm
  refine enlarge_good P _ U1 _ W c1 (fun x hx => hs (Finset.mem_sdiff.mp hx).1) ?_
  intro x hx hmod
  obtain ⟨hx2, hn⟩ := Finset.mem_sdiff.mp hx
  refine hn ((mem_fil _ _ _).mpr ⟨hx2, ?_⟩)
  exact Nat.mod_eq_zero_of_dvd ((Nat.pow_dvd_pow 2 hk).trans (Nat.dvd_of_mod_eq_zero hmod))

theorem absorb_union (k : Nat) (U1 U2 : Finset ℕ) : U1 ∪ (U2 \ fil k U2) ∪ fil k U2 = U1 ∪ U2 := by
  rw [Finset.union_assoc, Finset.sdiff_union_of_subset (show fil k U2 ⊆ U2 from Finset.filter_subset _ _)]

theorem has_iff (P : Params) (s : Sk) (x : Nat) (hx : x < 2 ^ P.bits) : has P s x = true ↔ x ∈ abs P s := by
  simp only [has, abs]; exact mem_iff _ _ _ hx

theorem mergeItem_chGood (P : Params) (rk : Nat) : mergeItem .chGood P rk = insertHash P := by
  funext ch x; rfl

/-- the zero step of Merge is `insertHash` of the value 0 when the sender holds it: a receiver that holds 0 already is
    within its fill bound and stays as it is -/
theorem mergeZero_eq (P : Params) (ch rhs : Sk) (hf : ch.cnt ≤ maxFill ch) :
    mergeZero P ch rhs = (if has P rhs 0 = true then [0] else []).foldl (insertHash P) ch := by
  unfold mergeZero
  cases hr : has P rhs 0
  · simp
  · cases hc : has P ch 0
    · simp [insertHash, good]
    · simp [insertHash, good, insertImpl, hc, shrinkIfNeed, fits, hf]

theorem mem_nonZero (P : Params) (s : Sk) (y : Nat) : y ∈ nonZero P s ↔ y ∈ abs P s ∧ y ≠ 0 := by
  simp [nonZero, mem_toList, abs]

theorem abs_split (P : Params) (s : Sk) :
    (if has P s 0 = true then ({0} : Finset ℕ) else ∅) ∪ (nonZero P s).toFinset = abs P s := by
  ext y
  rw [Finset.mem_union, List.mem_toFinset, mem_nonZero]
  by_cases hy : y = 0
  · subst hy
    rw [← has_iff P s 0 (Nat.two_pow_pos _)]
    by_cases hh : has P s 0 = true <;> simp [hh]
  · have : y ∉ (if has P s 0 = true then ({0} : Finset ℕ) else ∅) := by
      split <;> simp [hy]
    simp [this, hy]

theorem sdFor_clamp (P : Params) (hP : PWF P) (ic : Nat) (hic : ic ≤ limit P) :
    1 ≤ sdFor .clamp P ic ∧ sdFor .clamp P ic ≤ P.maxDeg ∧ ic ≤ 2 ^ (sdFor .clamp P ic - 1) := by
  obtain ⟨h1, h2⟩ := hP
  unfold sdFor
  split
  · rename_i hgt
    simp only
    refine ⟨by omega, by omega, ?_⟩
    by_cases hc : P.maxDeg ≤ max P.initDeg (Nat.log2 ic + 2)
    · rw [Nat.min_eq_left hc]; exact hic
    · rw [Nat.min_eq_right (by omega)]
      have hl : ic < 2 ^ (Nat.log2 ic + 1) := Nat.lt_log2_self
      have : 2 ^ (Nat.log2 ic + 1) ≤ 2 ^ (max P.initDeg (Nat.log2 ic + 2) - 1) := Nat.pow_le_pow_right (by omega) (by omega)
      omega
  · rename_i hle
    refine ⟨h1, h2, ?_⟩
    have : 1 ≤ 2 ^ (P.initDeg - 1) := Nat.one_le_two_pow
    omega

theorem sdFor_gt (P : Params) (sd ic : Nat) (hlt : 2 ^ sd < ic) (hic : ic ≤ limit P) :
    sd + 1 ≤ sdFor .clamp P ic := by
  have hl : ic < 2 ^ (Nat.log2 ic + 1) := Nat.lt_log2_self
  have hsd : sd < Nat.log2 ic + 1 := (Nat.pow_lt_pow_iff_right (by omega : 1 < 2)).mp (by omega)
  have hmax : sd < P.maxDeg - 1 := (Nat.pow_lt_pow_iff_right (by omega : 1 < 2)).mp (by unfold limit at hic; omega)
  have h1 : 1 < ic := by have : 1 ≤ 2 ^ sd := Nat.one_le_two_pow; omega
  simp only [sdFor, h1, if_true]; omega

theorem sdFor_ge_init (P : Params) (hP : PWF P) (ic : Nat) : P.initDeg ≤ sdFor .clamp P ic := by
  unfold sdFor
  split
  · exact Nat.le_min.mpr ⟨hP.2, Nat.le_max_left _ _⟩
  · exact Nat.le_refl _

theorem readResize_good (P : Params) (hP : PWF P) (s : Sk) (U W : Finset ℕ) (ic : Nat) (h : Good P s U W) (hic : ic ≤ limit P) :
    Good P (readResize .clamp P s ic) U W := by
  unfold readResize
  split
  · rename_i hlt
    obtain ⟨a, b, _⟩ := sdFor_clamp P hP ic hic
    refine { toCore := h.toCore.with_sd _, sd1 := a, sdmax := b, fill := ?_ }
    -- the table only grows
    have hge := sdFor_gt P s.sd ic hlt hic
    have : 2 ^ (s.sd - 1) ≤ 2 ^ (sdFor .clamp P ic - 1) := Nat.pow_le_pow_right (by omega) (by omega)
    exact Nat.le_trans h.fill this
  · exact h

/-- `m` is what MarshallAppend writes for a sketch that has seen `U`, the values in whatever order (the zero value
    `ChUnique{}` writes the image of the empty set); `lim`: the readers reject `ic > uniquesHashMaxSize` -/
structure Image (P : Params) (m : Wire) (U W : Finset ℕ) : Prop where
  xs : m.xs.toFinset = fil m.k U
  ic : m.ic = (fil m.k U).card
  lim : m.ic ≤ limit P
  sub : U ⊆ W
  bound : ∀ x ∈ W, x < 2 ^ P.bits
  minimal : ∀ j < m.k, limit P < (fil j W).card

theorem good_image (P : Params) (s : Sk) (U W : Finset ℕ) (h : Good P s U W) (order : List Nat)
    (ho : order.toFinset = (nonZero P s).toFinset) :
    Image P { k := s.k, ic := s.cnt, xs := (if has P s 0 = true then [0] else []) ++ order } U W :=
  { xs := by
      show ((if has P s 0 = true then [0] else []) ++ order).toFinset = _
      rw [List.toFinset_append, ho, ← h.items, ← abs_split]; split <;> rfl
    ic := by rw [← h.items]; exact h.cnt, lim := good_cnt_le h, sub := h.sub, bound := h.bound, minimal := h.minimal }

theorem rep_image (P : Params) (s : Sk) (U W : Finset ℕ) (h : Rep P s U W) : Image P (marshal P s) U W := by
  rcases h with h | ⟨a, b, c⟩
  · have := good_image P s U W h _ rfl
    simpa only [marshal, h.alloc, if_true] using this
  · subst a
    subst b
    exact { xs := rfl, ic := rfl, lim := Nat.zero_le _, sub := Finset.empty_subset _, bound := c,
            minimal := fun j hj => absurd hj (Nat.not_lt_zero j) }

theorem Image.mem {P : Params} {m : Wire} {U W : Finset ℕ} (i : Image P m U W) : ∀ x ∈ m.xs, x ∈ W := by
  intro x hx
  have : x ∈ fil m.k U := by rw [← i.xs]; exact List.mem_toFinset.mpr hx
  exact i.sub ((mem_fil _ _ _).mp this).1

/-- what Merge and MergeRead both do once the sender's skipDegree `m.k` is adopted: the values of its image are inserted
    one by one -/
theorem absorb_image (P : Params) (s : Sk) (m : Wire) (U1 U2 W : Finset ℕ) (i : Image P m U2 W)
    (c : Good P s (U1 ∪ (U2 \ fil m.k U2)) W) : Good P (m.xs.foldl (insertHash P) s) (U1 ∪ U2) W := by
  have c4 := foldl_insertHash_good P m.xs _ _ W c i.mem
  rwa [i.xs, absorb_union] at c4

/-- ChUnique.Merge (after the fix), in whatever order the sender's table is walked: the receiver represents the union -/
theorem mergeWith_good (P : Params) (hP : PWF P) (ch rhs : Sk) (U1 U2 W : Finset ℕ) (hc : Rep P ch U1 W) (hr : Rep P rhs U2 W)
    (order : List Nat) (ho : order.toFinset = (nonZero P rhs).toFinset) :
    Rep P (mergeWith .chGood P ch rhs order) (U1 ∪ U2) W := by
  unfold mergeWith
  rcases hr with hr | ⟨a, b, _⟩
  · simp only [hr.alloc, Bool.not_true, Bool.false_eq_true, if_false]
    have c2 := adopt_absorb P _ U1 U2 W rhs.k (ensure_good P hP ch U1 W hc) hr.sub hr.minimal
    have c4 := absorb_image P _ _ U1 U2 W (good_image P rhs U2 W hr order ho) c2
    rw [List.foldl_append, ← mergeZero_eq P _ rhs c2.fill] at c4
    rw [mergeItem_chGood]
    exact Or.inl c4
  · subst a
    subst b
    simp only [nilSk, Bool.not_false, if_true, Finset.union_empty]
    exact hc

/-- the model's Merge walks the sender in trie order -/
theorem merge_good (P : Params) (hP : PWF P) (ch rhs : Sk) (U1 U2 W : Finset ℕ) (hc : Rep P ch U1 W) (hr : Rep P rhs U2 W) :
    Rep P (Unique.merge .chGood P ch rhs) (U1 ∪ U2) W :=
  mergeWith_good P hP ch rhs U1 U2 W hc hr _ rfl

theorem unmarshal_good (P : Params) (hP : PWF P) (m : Wire) (U W : Finset ℕ) (i : Image P m U W) :
    Good P (unmarshal .clamp P m) U W := by
  obtain ⟨s1, s2, s3⟩ := sdFor_clamp P hP m.ic i.lim
  have habs : abs P (unmarshal .clamp P m) = fil m.k U := by
    simp only [unmarshal, abs]
    rw [keys_foldl_insert _ _ _ (fun x hx => i.bound x (i.mem x hx)), keys_nil, Finset.empty_union, i.xs]
  exact { alloc := rfl, cnt := by rw [habs]; exact i.ic, items := habs, sub := i.sub, bound := i.bound, minimal := i.minimal,
          sd1 := s1, sdmax := s2, fill := s3 }

theorem mergeRead_image (P : Params) (hP : PWF P) (ch : Sk) (m : Wire) (U1 U2 W : Finset ℕ) (hc : Rep P ch U1 W)
    (i : Image P m U2 W) : Good P (mergeRead .adopt .clamp P ch m) (U1 ∪ U2) W := by
  unfold mergeRead
  rcases hc with hc | ⟨a, b, _⟩
  · simp only [hc.alloc, Bool.not_true, Bool.false_eq_true, if_false]
    -- `readAdopt .adopt` is `adopt` by definition
    exact absorb_image P _ m U1 U2 W i
      (readResize_good P hP _ _ W m.ic (adopt_absorb P ch U1 U2 W m.k hc i.sub i.minimal) i.lim)
  · subst a
    subst b
    simp only [nilSk, Bool.not_false, if_true, Finset.empty_union]
    exact unmarshal_good P hP m U2 W i

theorem mergeRead_rep (P : Params) (hP : PWF P) (ch rhs : Sk) (U1 U2 W : Finset ℕ) (hc : Rep P ch U1 W) (hr : Rep P rhs U2 W) :
    Rep P (mergeRead .adopt .clamp P ch (marshal P rhs)) (U1 ∪ U2) W :=
  Or.inl (mergeRead_image P hP ch _ U1 U2 W hc (rep_image P rhs U2 W hr))

/-- skipDegree is THE least degree at which the set fits, itemsCount the number of survivors (the zero value: of ∅) -/
theorem rep_canonical (P : Params) (s : Sk) (U : Finset ℕ) (h : Rep P s U U) :
    (fil s.k U).card ≤ limit P ∧ (∀ j < s.k, limit P < (fil j U).card) ∧ s.cnt = (fil s.k U).card := by
  rcases h with h | ⟨a, b, _⟩
  · refine ⟨?_, h.minimal, by rw [h.cnt, h.items]⟩
    rw [← h.items, ← h.cnt]
    exact good_cnt_le h
  · subst a; subst b
    exact ⟨Nat.zero_le _, fun j hj => absurd hj (Nat.not_lt_zero j), rfl⟩

end SH.C04
