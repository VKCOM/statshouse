/-
  SH.Lemmas.NormC11 — the loops of SH.Model.Norm (validStringValue, the slow path of appendValidStringValue) without
  fuel (`validL`; `slowL`, the forcing slow path; their step equations), the invariant of the slow path (`Inv`,
  slow_inv), forcing as the slow path on every input (force_eq_slow), strict normalisation against forcing (on slowLoop
  with its fuel: the strict loop has no fuel-free form).  `Tables.Sane` and `utf8Valid`, with which the theorems of
  SH.Props.C11 are stated, are defined here.
-/
import SH.Lemmas.Utf8C11

namespace SH.Norm

/-- the facts about unicode.IsSpace / unicode.IsPrint the theorems need -/
structure Tables.Sane (T : Tables) : Prop where
  /-- on ASCII, IsPrint is exactly format.bytePrint -/
  print_ascii : ∀ c, c < 128 → T.isPrint c = (decide (0x20 ≤ c) && decide (c ≤ 0x7e))
  /-- among printable ASCII, only 0x20 is a space -/
  space_ascii : ∀ c, 0x20 ≤ c → c ≤ 0x7e → T.isSpace c = decide (c = 0x20)
  /-- the replacement character is printable and not a space -/
  print_fffd : T.isPrint 0xFFFD = true
  space_fffd : T.isSpace 0xFFFD = false

/-- a function recursive on fuel whose step calls it only on shorter input does not depend on the fuel once there is enough -/
theorem fuel_irrelevant {β : Type} (F : Nat → List UInt8 → β) (hnil : ∀ f g, F (f + 1) [] = F (g + 1) [])
    (hcons : ∀ f g c rest, (∀ t, t.length ≤ rest.length → F f t = F g t) → F (f + 1) (c :: rest) = F (g + 1) (c :: rest)) :
    ∀ (f g : Nat) (s : List UInt8), s.length + 1 ≤ f → s.length + 1 ≤ g → F f s = F g s := by
  intro f
  induction f with
  | zero => intro g s h; omega
  | succ f ih =>
    intro g s hf hg
    cases g with
    | zero => omega
    | succ g =>
      cases s with
      | nil => exact hnil f g
      | cons c rest =>
        simp only [List.length_cons] at hf hg
        exact hcons f g c rest (fun t ht => ih g t (by omega) (by omega))

theorem validLoop_fuel (T : Tables) (f g : Nat) (s : List UInt8) (prev : Bool) (hf : s.length + 1 ≤ f) (hg : s.length + 1 ≤ g) :
    validLoop T f s prev = validLoop T g s prev :=
  congrFun (fuel_irrelevant (validLoop T) (fun _ _ => rfl) (fun f g c rest ih => by
    funext prev
    simp only [validLoop]
    rw [ih rest (Nat.le_refl _), ih _ (decode_drop c rest)]) f g s hf hg) prev

/-- validLoop with exactly enough fuel -/
def validL (T : Tables) (s : List UInt8) (prev : Bool) : Bool := validLoop T (s.length + 1) s prev

theorem validL_nil (T : Tables) (prev : Bool) : validL T [] prev = !prev := rfl

theorem slowLoop_fuel (T : Tables) (force : Bool) (maxLen : Nat) (f g : Nat) (s out : List UInt8) (prev : Bool)
    (hf : s.length + 1 ≤ f) (hg : s.length + 1 ≤ g) :
    slowLoop T force maxLen f s out prev = slowLoop T force maxLen g s out prev :=
  congrFun (congrFun (fuel_irrelevant (slowLoop T force maxLen) (fun _ _ => rfl) (fun f g c rest ih => by
    funext out prev
    rw [slowLoop, slowLoop, ih _ (decode_drop c rest)]) f g s hf hg) out) prev

/-- the slow path of appendValidStringValue(…, force = true) with exactly enough fuel -/
def slowL (T : Tables) (maxLen : Nat) (s out : List UInt8) (prev : Bool) : Option (List UInt8 × Bool) :=
  slowLoop T true maxLen (s.length + 1) s out prev

theorem slowL_nil (T : Tables) (maxLen : Nat) (out : List UInt8) (prev : Bool) : slowL T maxLen [] out prev = some (out, prev) := rfl

theorem slowL_cons (T : Tables) (maxLen : Nat) (c : UInt8) (rest out : List UInt8) (prev : Bool) :
    slowL T maxLen (c :: rest) out prev =
      match classify T (decodeRune (c :: rest)).1 prev with
      | none => slowL T maxLen ((c :: rest).drop (decodeRune (c :: rest)).2) out prev
      | some (r, sp) =>
        if out.length + (encodeRune r).length > maxLen then some (out, prev)
        else slowL T maxLen ((c :: rest).drop (decodeRune (c :: rest)).2) (out ++ encodeRune r) sp := by
  have hf : ∀ o p, slowLoop T true maxLen (rest.length + 1) ((c :: rest).drop (decodeRune (c :: rest)).2) o p =
      slowL T maxLen ((c :: rest).drop (decodeRune (c :: rest)).2) o p :=
    fun o p => slowLoop_fuel T true maxLen _ _ _ o p (Nat.succ_le_succ (decode_drop c rest)) (Nat.le_refl _)
  rw [slowL, List.length_cons, slowLoop]
  simp only [Bool.not_true, Bool.and_false, Bool.false_eq_true, ↓reduceIte, hf]
  rfl

theorem slowL_rune (T : Tables) (maxLen : Nat) (r : Nat) (hr : Scalar r) (tail out : List UInt8) (prev : Bool) :
    slowL T maxLen (encodeRune r ++ tail) out prev =
      match classify T r prev with
      | none => slowL T maxLen tail out prev
      | some (w, sp) =>
        if out.length + (encodeRune w).length > maxLen then some (out, prev)
        else slowL T maxLen tail (out ++ encodeRune w) sp := by
  obtain ⟨c, rest, he, hd, hdrop⟩ := decode_encode_cons r hr tail
  rw [he, slowL_cons, hd, hdrop]

theorem valid_eq_validL (T : Tables) (maxLen : Nat) (s : List UInt8) :
    valid T maxLen s = (decide (s.length ≤ maxLen) && (s.isEmpty || validL T s true)) := by
  unfold valid validL
  by_cases h : s.length > maxLen
  · have : ¬ s.length ≤ maxLen := by omega
    simp [h, this]
  · have : s.length ≤ maxLen := by omega
    simp only [h, ↓reduceIte, this, decide_true, Bool.true_and]
    cases s <;> simp

theorem valid_length (T : Tables) (maxLen : Nat) (s : List UInt8) (h : valid T maxLen s = true) : s.length ≤ maxLen := by
  rw [valid_eq_validL, Bool.and_eq_true, decide_eq_true_eq] at h
  exact h.1

theorem validL_printable (T : Tables) (c : UInt8) (rest : List UInt8) (prev : Bool) (h : bytePrint c = true) :
    validL T (c :: rest) prev = if isSp c && prev then false else validL T rest (isSp c) := by
  unfold validL
  rw [List.length_cons, validLoop, if_pos h]

theorem bytePrint_iff (c : UInt8) : bytePrint c = true ↔ 0x20 ≤ c.toNat ∧ c.toNat ≤ 0x7e := by
  simp [bytePrint]

/-- what the validator asks of one decoded rune (`prev` = previousSpace); as in the code, the tables are not consulted
    on 0x20..0x7e (bytePrint, `c == ' '`) -/
def stepOk (T : Tables) (r : Nat) (prev : Bool) : Bool :=
  if 0x20 ≤ r ∧ r ≤ 0x7e then !(decide (r = 0x20) && prev) else !T.isSpace r && T.isPrint r

/-- a byte is bytePrint exactly when the rune decoded at it lies in 0x20..0x7e: the step needs the decoded rune alone -/
theorem validL_cons (T : Tables) (c : UInt8) (rest : List UInt8) (prev : Bool) :
    validL T (c :: rest) prev =
      (!badRune (decodeRune (c :: rest)) && stepOk T (decodeRune (c :: rest)).1 prev &&
        validL T ((c :: rest).drop (decodeRune (c :: rest)).2) (decide ((decodeRune (c :: rest)).1 = 0x20))) := by
  by_cases h1 : bytePrint c = true
  · have hcp := (bytePrint_iff c).1 h1
    have hne : c.toNat ≠ runeError := by unfold runeError; omega
    have hb : badRune (c.toNat, 1) = false := by simp [badRune, hne]
    rw [validL_printable T c rest prev h1, decode_ascii c rest (by omega), hb, stepOk, if_pos hcp,
      show isSp c = decide (c.toNat = 0x20) from rfl]
    cases decide (c.toNat = 0x20) && prev <;> rfl
  · have hr : ¬ (0x20 ≤ (decodeRune (c :: rest)).1 ∧ (decodeRune (c :: rest)).1 ≤ 0x7e) := fun h =>
      h1 ((bytePrint_iff c).2 (by rw [decode_ascii_inv c rest (by omega)]; exact h))
    have hne : (decodeRune (c :: rest)).1 ≠ 0x20 := fun h => hr (by omega)
    unfold validL stepOk
    rw [List.length_cons, validLoop, if_neg h1, if_neg hr, decide_eq_false hne,
      validLoop_fuel T (_ + 1) (rest.length + 1) _ false (Nat.le_refl _)
        (Nat.succ_le_succ (decode_drop c rest))]
    generalize decodeRune (c :: rest) = d
    cases hb : badRune d <;> cases hs : T.isSpace d.1 <;> cases hp : T.isPrint d.1 <;> simp [hb, hs, hp]

theorem validL_rune (T : Tables) (r : Nat) (hs : Scalar r) (tail : List UInt8) (p : Bool) :
    validL T (encodeRune r ++ tail) p = (stepOk T r p && validL T tail (decide (r = 0x20))) := by
  obtain ⟨c, rest, he, hd, hdrop⟩ := decode_encode_cons r hs tail
  rw [he, validL_cons T, hd, hdrop, encode_not_bad]
  rfl

theorem sane_ascii (T : Tables) (hT : T.Sane) (r : Nat) (hr : 0x20 ≤ r ∧ r ≤ 0x7e) :
    T.isSpace r = decide (r = 0x20) ∧ T.isPrint r = true := by
  rw [hT.space_ascii r hr.1 hr.2, hT.print_ascii r (by omega)]
  simp [hr.1, hr.2]

theorem space_is_space (T : Tables) (hT : T.Sane) : T.isSpace 0x20 = true :=
  (sane_ascii T hT 0x20 (by omega)).1

theorem classify_ok (T : Tables) (hT : T.Sane) (r : Nat) (prev : Bool) (h : stepOk T r prev = true) :
    classify T r prev = some (r, decide (r = 0x20)) := by
  unfold stepOk at h
  unfold classify
  by_cases hr : 0x20 ≤ r ∧ r ≤ 0x7e
  · obtain ⟨hs, hp⟩ := sane_ascii T hT r hr
    rw [if_pos hr] at h
    by_cases h20 : r = 0x20 <;> simp_all
  · rw [if_neg hr] at h
    have h' : T.isSpace r = false ∧ T.isPrint r = true := by simpa using h
    have h20 : r ≠ 0x20 := fun h => hr (by omega)
    simp [h'.1, h'.2, h20]

theorem classify_writes (T : Tables) (hT : T.Sane) (r : Nat) (prev : Bool) (w : Nat) (sp : Bool) (hr : Scalar r)
    (h : classify T r prev = some (w, sp)) : Scalar w ∧ stepOk T w prev = true ∧ sp = decide (w = 0x20) := by
  unfold classify at h
  unfold stepOk
  by_cases h1 : T.isSpace r = true
  · cases prev <;> simp [h1] at h
    obtain ⟨rfl, rfl⟩ := h
    exact ⟨scalar_space, rfl, rfl⟩
  · have hne : r ≠ 0x20 := fun h20 => h1 (h20 ▸ space_is_space T hT)
    by_cases h2 : T.isPrint r = true
    · simp [h1, h2] at h
      obtain ⟨rfl, rfl⟩ := h
      simp [hne, h1, h2, hr]
    · simp [h1, h2] at h
      obtain ⟨rfl, rfl⟩ := h
      simp [runeError, hT.space_fffd, hT.print_fffd]
      exact scalar_fffd

/-- the validator, started in state `true` (nothing written yet) and fed `out`, is in state `prev` -/
def Reaches (T : Tables) (out : List UInt8) (prev : Bool) : Prop :=
  ∀ tail, validL T (out ++ tail) true = validL T tail prev

theorem reaches_valid (T : Tables) (maxLen : Nat) (s : List UInt8) (h : Reaches T s false) (hl : s.length ≤ maxLen) :
    valid T maxLen s = true := by
  have := h []
  rw [List.append_nil, validL_nil] at this
  rw [valid_eq_validL, this, decide_eq_true hl, Bool.not_false, Bool.or_true]
  rfl

/-- invariant of the slow path: what has been written is a valid prefix, and if the last thing written is a space it
    is a single ASCII space after a valid prefix that did not end in a space -/
structure Inv (T : Tables) (maxLen : Nat) (out : List UInt8) (prev : Bool) : Prop where
  reach : Reaches T out prev
  last : prev = true → out = [] ∨ ∃ out', out = out' ++ [0x20] ∧ Reaches T out' false
  len : out.length ≤ maxLen

theorem inv_init (T : Tables) (maxLen : Nat) : Inv T maxLen [] true :=
  ⟨fun _ => rfl, fun _ => Or.inl rfl, Nat.zero_le _⟩

theorem inv_rune (T : Tables) (maxLen : Nat) (out : List UInt8) (prev : Bool) (h : Inv T maxLen out prev)
    (r : Nat) (hs : Scalar r) (hok : stepOk T r prev = true) (hl : out.length + (encodeRune r).length ≤ maxLen) :
    Inv T maxLen (out ++ encodeRune r) (decide (r = 0x20)) := by
  refine ⟨fun tail => ?_, fun h20 => ?_, by simpa using hl⟩
  · rw [List.append_assoc, h.reach, validL_rune T r hs, hok, Bool.true_and]
  · have hr : r = 0x20 := of_decide_eq_true h20
    subst hr
    have hp : prev = false := by simpa [stepOk] using hok
    subst hp
    exact Or.inr ⟨out, by rw [encode_space], h.reach⟩

theorem slow_inv (T : Tables) (hT : T.Sane) (maxLen : Nat) (src out : List UInt8) (prev : Bool)
    (h : Inv T maxLen out prev) :
    ∃ out' prev', slowL T maxLen src out prev = some (out', prev') ∧ Inv T maxLen out' prev' := by
  induction src using decode_induction generalizing out prev with
  | nil => exact ⟨out, prev, rfl, h⟩
  | cons c rest ih =>
    rw [slowL_cons]
    cases hc : classify T (decodeRune (c :: rest)).1 prev with
    | none => exact ih out prev h
    | some p =>
      obtain ⟨w, sp⟩ := p
      obtain ⟨hw, hok, rfl⟩ := classify_writes T hT _ prev w sp (decode_scalar (c :: rest)) hc
      simp only
      split
      · exact ⟨out, prev, rfl, h⟩
      · exact ih _ _ (inv_rune T maxLen out prev h w hw hok (by omega))

theorem trimLast_valid (T : Tables) (maxLen : Nat) (out : List UInt8) (prev : Bool) (h : Inv T maxLen out prev) :
    valid T maxLen (trimLast (out, prev)) = true := by
  unfold trimLast
  cases prev with
  | false => exact reaches_valid T maxLen out h.reach h.len
  | true =>
    rcases h.last rfl with h0 | ⟨out', h1, h2⟩
    · subst h0; rfl
    · subst h1
      have hl := h.len
      rw [List.length_append] at hl
      have he : (out' ++ [0x20]).isEmpty = false := by cases out' <;> rfl
      rw [he, List.dropLast_concat]
      exact reaches_valid T maxLen out' h2 (by omega)

/-- the inputs appendValidStringValue returns as they are, without decoding a rune -/
def fastPath (maxLen : Nat) (s : List UInt8) : Bool := s.isEmpty || (decide (s.length ≤ maxLen) && fastOk s)

theorem appendValid_fast (T : Tables) (maxLen : Nat) (fl : Bool) (dst s : List UInt8) (h : fastPath maxLen s = true) :
    appendValid T maxLen fl dst s = some (dst ++ s) := by
  unfold appendValid
  cases s with
  | nil => simp
  | cons c rest =>
    rw [fastPath, List.isEmpty_cons, Bool.false_or] at h
    rw [List.isEmpty_cons, if_neg Bool.false_ne_true, if_pos h]

theorem appendValid_slow (T : Tables) (maxLen : Nat) (fl : Bool) (dst s : List UInt8) (h : fastPath maxLen s = false) :
    appendValid T maxLen fl dst s =
      (slowLoop T fl maxLen (s.length + 1) s [] true).map (fun o => dst ++ trimLast o) := by
  rw [fastPath, Bool.or_eq_false_iff] at h
  rw [appendValid, h.1, if_neg Bool.false_ne_true, h.2, if_neg Bool.false_ne_true]

theorem force_fast (T : Tables) (maxLen : Nat) (s : List UInt8) (h : fastPath maxLen s = true) : force T maxLen s = s := by
  rw [force, appendValid_fast T maxLen true [] s h]
  rfl

theorem force_slow (T : Tables) (maxLen : Nat) (s : List UInt8) (h : fastPath maxLen s = false) :
    force T maxLen s = ((slowL T maxLen s [] true).map trimLast).getD [] := by
  rw [force, appendValid_slow T maxLen true [] s h, slowL]
  cases slowLoop T true maxLen (s.length + 1) s [] true <;> rfl

theorem fast_reaches (T : Tables) : ∀ (s : List UInt8) (prev p : Bool), fastLoop s prev = some p →
    ∀ tail, validL T (s ++ tail) prev = validL T tail p := by
  intro s
  induction s with
  | nil =>
    intro prev p h tail
    simp only [fastLoop, Option.some.injEq] at h
    subst h
    rfl
  | cons c rest ih =>
    intro prev p h tail
    simp only [fastLoop] at h
    by_cases h1 : bytePrint c = true
    · simp only [h1, Bool.not_true, Bool.false_eq_true, ↓reduceIte] at h
      by_cases h2 : (isSp c && prev) = true
      · simp [h2] at h
      · simp only [h2, Bool.false_eq_true, ↓reduceIte] at h
        rw [List.cons_append, validL_printable T c _ prev h1, if_neg h2]
        exact ih _ _ h tail
    · simp [h1] at h

theorem fastPath_valid (T : Tables) (maxLen : Nat) (s : List UInt8) (h : fastPath maxLen s = true) :
    valid T maxLen s = true := by
  cases s with
  | nil => rfl
  | cons c rest =>
    simp only [fastPath, List.isEmpty_cons, Bool.false_or, Bool.and_eq_true, fastOk, beq_iff_eq, decide_eq_true_eq] at h
    exact reaches_valid T maxLen _ (fast_reaches T _ true false h.2) h.1

theorem slow_id (T : Tables) (hT : T.Sane) (maxLen : Nat) (s out : List UInt8) (prev : Bool)
    (hv : validL T s prev = true) (hl : out.length + s.length ≤ maxLen) :
    slowL T maxLen s out prev = some (out ++ s, false) := by
  induction s using decode_induction generalizing out prev with
  | nil =>
    simp only [validL_nil, Bool.not_eq_eq_eq_not, Bool.not_true] at hv
    rw [hv, List.append_nil]
    rfl
  | cons c rest ih =>
    rw [validL_cons T] at hv
    simp only [Bool.and_eq_true, Bool.not_eq_eq_eq_not, Bool.not_true] at hv
    obtain ⟨⟨hb, hok⟩, hv'⟩ := hv
    -- the step writes the bytes it has read
    have hs := encode_decode c rest hb
    have hlen := congrArg List.length hs
    simp only [List.length_append, List.length_cons] at hl hlen
    rw [slowL_cons, classify_ok T hT _ prev hok]
    simp only
    rw [if_neg (by omega), ih _ _ hv' (by simp only [List.length_append]; omega), List.append_assoc, hs]

theorem slow_returns_valid_input (T : Tables) (hT : T.Sane) (maxLen : Nat) (s : List UInt8) (hv : valid T maxLen s = true) :
    ((slowL T maxLen s [] true).map trimLast).getD [] = s := by
  cases s with
  | nil => rfl
  | cons c rest =>
    rw [valid_eq_validL, List.isEmpty_cons, Bool.false_or, Bool.and_eq_true, decide_eq_true_eq] at hv
    rw [slow_id T hT maxLen _ [] true hv.2 (by simpa using hv.1)]
    rfl

/-- the fast path is only a shortcut -/
theorem force_eq_slow (T : Tables) (hT : T.Sane) (maxLen : Nat) (s : List UInt8) :
    force T maxLen s = ((slowL T maxLen s [] true).map trimLast).getD [] := by
  cases hf : fastPath maxLen s with
  | true => rw [force_fast T maxLen s hf, slow_returns_valid_input T hT maxLen s (fastPath_valid T maxLen s hf)]
  | false => exact force_slow T maxLen s hf

/-- well-formed UTF-8: DecodeRune never answers (RuneError, ≤1) while walking the string (written after utf8.Valid; the
    correspondence does not exercise it) -/
def utf8Ok : Nat → List UInt8 → Bool
  | 0, _ => true
  | _ + 1, [] => true
  | f + 1, c :: rest =>
    if badRune (decodeRune (c :: rest)) then false else utf8Ok f ((c :: rest).drop (decodeRune (c :: rest)).2)

def utf8Valid (s : List UInt8) : Bool := utf8Ok (s.length + 1) s

/-- the strict loop against the forcing loop (what it answers, forcing answers) and against utf8Ok (on well-formed UTF-8
    it answers) -/
theorem slowLoop_strict (T : Tables) (maxLen : Nat) : ∀ (fuel : Nat) (s out : List UInt8) (prev : Bool),
    (∀ o, slowLoop T false maxLen fuel s out prev = some o → slowLoop T true maxLen fuel s out prev = some o) ∧
    (utf8Ok fuel s = true → ∃ o, slowLoop T false maxLen fuel s out prev = some o) := by
  intro fuel
  induction fuel with
  | zero =>
    intro s out prev
    exact ⟨fun _ h => h, fun _ => ⟨_, rfl⟩⟩
  | succ f ih =>
    intro s out prev
    cases s with
    | nil => exact ⟨fun _ h => h, fun _ => ⟨_, rfl⟩⟩
    | cons c rest =>
      rw [utf8Ok, slowLoop, slowLoop, Bool.not_true, Bool.and_false, if_neg Bool.false_ne_true, Bool.not_false,
        Bool.and_true]
      by_cases hb : badRune (decodeRune (c :: rest)) = true
      · rw [if_pos hb, if_pos hb]
        exact ⟨fun _ h => (nomatch h), fun h => (nomatch h)⟩
      · rw [if_neg hb, if_neg hb]
        cases classify T (decodeRune (c :: rest)).1 prev with
        | none => exact ih _ _ _
        | some p =>
          obtain ⟨r, sp⟩ := p
          simp only
          split
          · exact ⟨fun _ h => h, fun _ => ⟨_, rfl⟩⟩
          · exact ih _ _ _

/-- `strict` is `appendValid … false`: whatever strict normalisation answers is dst followed by the forced value -/
theorem appendValid_eq_force (T : Tables) (maxLen : Nat) (dst s v : List UInt8)
    (h : appendValid T maxLen false dst s = some v) : v = dst ++ force T maxLen s := by
  cases hf : fastPath maxLen s with
  | true =>
    rw [appendValid_fast T maxLen false dst s hf] at h
    rw [force_fast T maxLen s hf]
    exact (Option.some.inj h).symm
  | false =>
    rw [appendValid_slow T maxLen false dst s hf, Option.map_eq_some_iff] at h
    obtain ⟨o, ho, rfl⟩ := h
    rw [force_slow T maxLen s hf, slowL, (slowLoop_strict T maxLen _ _ _ _).1 o ho]
    rfl

theorem strict_some (T : Tables) (maxLen : Nat) (dst s : List UInt8) (hu : utf8Valid s = true) :
    ∃ v, strict T maxLen dst s = some v := by
  cases hf : fastPath maxLen s with
  | true => exact ⟨_, appendValid_fast T maxLen false dst s hf⟩
  | false =>
    obtain ⟨o, ho⟩ := (slowLoop_strict T maxLen (s.length + 1) s [] true).2 hu
    exact ⟨_, by rw [strict, appendValid_slow T maxLen false dst s hf, ho]; rfl⟩

end SH.Norm
