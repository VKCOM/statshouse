/-
  Lemmas for C22 about SH.Model.Timescale: rounding, the point-by-point `walk`, the grid of a step, iterating a step (`segEnd`), the LOD-selection loops, results, `lodRanges`.
-/
import SH.Model.Timescale
namespace SH.C22
open SH.Timescale SH.Gen.C22

/-! ### what the theorems of Props/C22.lean are stated with -/

/-- facts about Go's calendar primitives that the proofs use -/
structure CalOK (cal : Cal) : Prop where
  next_gt : ∀ t, t < cal.next t
  som_le : ∀ t, cal.som t ≤ t
  som_idem : ∀ t, cal.som (cal.som t) = cal.som t
  next_aligned : ∀ t, cal.som t = t → cal.som (cal.next t) = cal.next t
  /-- the month containing `t` ends after `t` -/
  next_som_gt : ∀ t, t < cal.next (cal.som t)
  /-- the month before a month start steps forward onto it -/
  next_pred : ∀ t, cal.som t = t → cal.next (cal.som (t - 1)) = t

/-- one step per point -/
def expand (lods : List LOD) : List Int := lods.flatMap (fun l => List.replicate l.len l.step)

/-- point-by-point walk: the list of visited points and the point after the last one (the `extend` point of an axis, the
    `ToSec` of a range) -/
def walk (cal : Cal) : List Int → Int → List Int × Int
  | [], t => ([], t)
  | s :: ss, t => (t :: (walk cal ss (stepForward cal t s)).1, (walk cal ss (stepForward cal t s)).2)

/-- "aligned to its step in the configured time zone": multiples of the step after adding the configured UTC offset;
    for the monthly step: the start of a calendar month of the Location -/
def Aligned (cal : Cal) (off t s : Int) : Prop :=
  if isMonth s = true then cal.som t = t else (t + off) % s = 0

/-- the step of the last level (`StepForward` from the last point with it reaches the `extend` point) -/
def lastStepOf : List LOD → Int
  | [] => 0
  | [l] => l.step
  | _ :: ls => lastStepOf ls

/-- floor division is T-division minus a correction (`Int.fdiv_eq_tdiv`) that is 1 exactly when the remainder is non-zero and
    the signs differ: the `else` branch of `mathDiv` -/
theorem mathDiv_fdiv (a b : Int) (hb : b ≠ 0) : mathDiv a b = Int.fdiv a b := by
  rw [Int.fdiv_eq_tdiv]
  unfold mathDiv sameSign
  by_cases hd : b ∣ a
  · rw [Int.tmod_eq_zero_of_dvd hd, if_pos hd, if_pos (by simp), Int.sub_zero]
  · have hm : (a.tmod b == 0) = false := by simpa using fun h => hd (Int.dvd_of_tmod_eq_zero h)
    rw [if_neg hd, hm, Bool.or_false]
    by_cases ha : 0 ≤ a
    · by_cases hb' : 0 ≤ b
      · simp [ha, hb']
      · simp [ha, hb']
    · by_cases hb' : 0 ≤ b
      · simp [ha, hb', Int.sign_eq_one_of_pos (by omega : 0 < b)]
      · simp [ha, hb', Int.sign_eq_neg_one_of_neg (by omega : b < 0)]

theorem mathDiv_pos (a b : Int) (hb : 0 < b) : mathDiv a b = a / b := by
  rw [mathDiv_fdiv a b (by omega), Int.fdiv_eq_ediv_of_nonneg a (by omega)]

theorem roundTime_eq (t step off : Int) (hs : 0 < step) : roundTime t step off = t - (t + off) % step := by
  unfold roundTime
  rw [mathDiv_pos _ _ hs, Int.emod_def, Int.mul_comm]
  omega

theorem roundTime_aligned (t step off : Int) (hs : 0 < step) : (roundTime t step off + off) % step = 0 := by
  have : roundTime t step off + off = (t + off) / step * step := by
    unfold roundTime
    rw [mathDiv_pos _ _ hs]
    omega
  rw [this]
  exact Int.mul_emod_left _ _

theorem roundTime_bracket (t step off : Int) (hs : 0 < step) :
    roundTime t step off ≤ t ∧ t < roundTime t step off + step := by
  have h2 := Int.emod_nonneg (t + off) (by omega : step ≠ 0)
  have h3 := Int.emod_lt_of_pos (t + off) hs
  rw [roundTime_eq t step off hs]
  omega

theorem roundTime_unique (t step off r : Int) (hs : 0 < step) (ha : (r + off) % step = 0) (h1 : r ≤ t) (h2 : t < r + step) :
    roundTime t step off = r := by
  have hd : (t + off) % step = t - r := by
    have : t + off = (t - r) + (r + off) := by omega
    rw [this, Int.add_emod, ha, Int.add_zero, Int.emod_emod, Int.emod_eq_of_lt (by omega) (by omega)]
  rw [roundTime_eq t step off hs, hd]
  omega

theorem roundTime_translate (t s off c : Int) (hs : 0 < s) (hd : s ∣ c) : roundTime (t + c) s off = roundTime t s off + c := by
  have hb := roundTime_bracket t s off hs
  refine roundTime_unique _ _ _ _ hs ?_ (by omega) (by omega)
  have : roundTime t s off + c + off = roundTime t s off + off + c := by omega
  rw [this, Int.add_emod, roundTime_aligned t s off hs, Int.emod_eq_zero_of_dvd hd]
  rfl

theorem emod_mul_eq_zero (n d k : Int) : n % (d * k) = 0 ↔ n % d = 0 ∧ (n / d) % k = 0 := by
  simp only [← Int.dvd_iff_emod_eq_zero]
  constructor
  · intro h
    have h1 : d ∣ n := Int.dvd_trans (Int.dvd_mul_right d k) h
    exact ⟨h1, (Int.dvd_ediv_iff_mul_dvd h1).mpr h⟩
  · intro ⟨h1, h2⟩
    exact (Int.dvd_ediv_iff_mul_dvd h1).mp h2

theorem walk_append (cal : Cal) (xs ys : List Int) (t : Int) :
    walk cal (xs ++ ys) t = ((walk cal xs t).1 ++ (walk cal ys (walk cal xs t).2).1, (walk cal ys (walk cal xs t).2).2) := by
  induction xs generalizing t with
  | nil => simp [walk]
  | cons x xs ih => simp [walk, ih]

theorem walk_snoc (cal : Cal) (ss : List Int) (s t : Int) :
    (walk cal (ss ++ [s]) t).1 = (walk cal ss t).1 ++ [(walk cal ss t).2] := by
  rw [walk_append]
  rfl

theorem genSeg_eq_walk (cal : Cal) (s : Int) (n : Nat) (t : Int) :
    genSeg cal s n t = walk cal (List.replicate n s) t := by
  induction n generalizing t with
  | zero => simp [genSeg, walk]
  | succ n ih => simp [genSeg, walk, List.replicate_succ, ih]

theorem genTime_eq_walk (cal : Cal) (lods : List LOD) (t : Int) :
    genTime cal lods t = walk cal (expand lods) t := by
  induction lods generalizing t with
  | nil => simp [genTime, expand, walk]
  | cons l ls ih =>
    simp only [genTime, expand, List.flatMap_cons, walk_append, genSeg_eq_walk]
    simp only [expand] at ih
    rw [ih]

theorem walk_length (cal : Cal) (ss : List Int) (t : Int) : (walk cal ss t).1.length = ss.length := by
  induction ss generalizing t with
  | nil => simp [walk]
  | cons s ss ih => simp [walk, ih]

theorem walk_zero (cal : Cal) (s : Int) (ss : List Int) (t : Int) : (walk cal (s :: ss) t).1[0]? = some t := by
  simp [walk]

theorem walk_succ (cal : Cal) (s : Int) (ss : List Int) (t : Int) (i : Nat) :
    (walk cal (s :: ss) t).1[i + 1]? = (walk cal ss (stepForward cal t s)).1[i]? := by
  simp [walk]

theorem walk_get (cal : Cal) (ss : List Int) (t : Int) (i : Nat) (x : Int) :
    (walk cal ss t).1[i]? = some x ↔ i < ss.length ∧ x = (walk cal (ss.take i) t).2 := by
  induction ss generalizing t i with
  | nil => simp [walk]
  | cons s ss ih =>
    cases i with
    | zero => simp [walk, eq_comm]
    | succ i =>
      rw [walk_succ, ih]
      simp [walk]

theorem segEnd_eq_walk (cal : Cal) (s : Int) (n : Nat) (t : Int) :
    segEnd cal s n t = (walk cal (List.replicate n s) t).2 := by
  induction n generalizing t with
  | zero => simp [segEnd, walk]
  | succ n ih => simp [segEnd, walk, List.replicate_succ, ih]

theorem walk_chain (cal : Cal) (ss : List Int) (t : Int) (i : Nat) (x y s : Int)
    (hx : (walk cal ss t).1[i]? = some x) (hy : (walk cal ss t).1[i + 1]? = some y) (hs : ss[i]? = some s) :
    y = stepForward cal x s := by
  rw [walk_get] at hx hy
  rw [hy.2, hx.2, List.take_add_one, hs, walk_append]
  rfl

def Fwd (cal : Cal) (s : Int) : Prop := ∀ t, t < stepForward cal t s

theorem walk_ge (cal : Cal) (ss : List Int) (hf : ∀ s ∈ ss, Fwd cal s) (t x : Int) (hx : x ∈ (walk cal ss t).1) : t ≤ x := by
  induction ss generalizing t with
  | nil => exact absurd hx List.not_mem_nil
  | cons s ss ih =>
    rcases List.mem_cons.mp hx with rfl | hx
    · exact Int.le_refl _
    · exact Int.le_trans (Int.le_of_lt (hf s List.mem_cons_self t)) (ih (fun s' hs' => hf s' (List.mem_cons_of_mem _ hs')) _ hx)

theorem walk_increasing (cal : Cal) (ss : List Int) (hf : ∀ s ∈ ss, Fwd cal s) (t : Int) :
    List.Pairwise (· < ·) (walk cal ss t).1 := by
  induction ss generalizing t with
  | nil => exact List.Pairwise.nil
  | cons s ss ih =>
    have hf' : ∀ s' ∈ ss, Fwd cal s' := fun s' hs' => hf s' (List.mem_cons_of_mem _ hs')
    refine List.pairwise_cons.mpr ⟨fun x hx => ?_, ih hf' _⟩
    exact Int.lt_of_lt_of_le (hf s List.mem_cons_self t) (walk_ge cal ss hf' _ x hx)

theorem stepForward_month {s : Int} (cal : Cal) (hm : isMonth s = true) (t : Int) : stepForward cal t s = cal.next t := by
  simp [stepForward, hm]

theorem stepForward_fixed {s : Int} (cal : Cal) (hm : isMonth s = false) (t : Int) : stepForward cal t s = t + s := by
  simp [stepForward, hm]

theorem startOfLOD_month {s : Int} (cal : Cal) (hm : isMonth s = true) (t off : Int) : startOfLOD cal t s off = cal.som t := by
  simp [startOfLOD, hm]

theorem startOfLOD_fixed {s : Int} (cal : Cal) (hm : isMonth s = false) (t off : Int) :
    startOfLOD cal t s off = roundTime t s off := by
  simp [startOfLOD, hm]

theorem aligned_month {s : Int} (cal : Cal) (hm : isMonth s = true) (off t : Int) : Aligned cal off t s ↔ cal.som t = t := by
  simp [Aligned, hm]

theorem aligned_fixed {s : Int} (cal : Cal) (hm : isMonth s = false) (off t : Int) : Aligned cal off t s ↔ (t + off) % s = 0 := by
  simp [Aligned, hm]

theorem fwd_step (cal : Cal) (hc : CalOK cal) (s : Int) (h : 0 < s) : Fwd cal s := by
  intro t
  cases hm : isMonth s with
  | true =>
    rw [stepForward_month cal hm]
    exact hc.next_gt t
  | false =>
    rw [stepForward_fixed cal hm]
    exact Int.lt_add_of_pos_right t h

theorem startOfLOD_aligned (cal : Cal) (hc : CalOK cal) (s off x : Int) (h : 0 < s) :
    Aligned cal off (startOfLOD cal x s off) s := by
  cases hm : isMonth s with
  | true =>
    rw [aligned_month cal hm, startOfLOD_month cal hm]
    exact hc.som_idem x
  | false =>
    rw [aligned_fixed cal hm, startOfLOD_fixed cal hm]
    exact roundTime_aligned _ _ _ h

theorem startOfLOD_bracket (cal : Cal) (hc : CalOK cal) (s off x : Int) (h : 0 < s) :
    startOfLOD cal x s off ≤ x ∧ x < stepForward cal (startOfLOD cal x s off) s := by
  cases hm : isMonth s with
  | true =>
    rw [stepForward_month cal hm, startOfLOD_month cal hm]
    exact ⟨hc.som_le x, hc.next_som_gt x⟩
  | false =>
    rw [stepForward_fixed cal hm, startOfLOD_fixed cal hm]
    exact roundTime_bracket x s off h

theorem aligned_step (cal : Cal) (hc : CalOK cal) (off t s : Int) (h : Aligned cal off t s) :
    Aligned cal off (stepForward cal t s) s := by
  cases hm : isMonth s with
  | true =>
    rw [aligned_month cal hm] at h ⊢
    rw [stepForward_month cal hm]
    exact hc.next_aligned t h
  | false =>
    rw [aligned_fixed cal hm] at h ⊢
    rw [stepForward_fixed cal hm, Int.add_right_comm, Int.add_emod_right]
    exact h

theorem startOfLOD_pred (cal : Cal) (hc : CalOK cal) (s off t : Int) (h : 0 < s) (ha : Aligned cal off t s) :
    stepForward cal (startOfLOD cal (t - 1) s off) s = t := by
  cases hm : isMonth s with
  | true =>
    rw [stepForward_month cal hm, startOfLOD_month cal hm]
    exact hc.next_pred t ((aligned_month cal hm off t).mp ha)
  | false =>
    have ha' := (aligned_fixed cal hm off t).mp ha
    have hp : (t - s + off) % s = 0 := by
      rw [Int.sub_eq_add_neg, Int.add_right_comm, ← Int.sub_eq_add_neg, Int.sub_emod_right]
      exact ha'
    rw [stepForward_fixed cal hm, startOfLOD_fixed cal hm, roundTime_unique (t - 1) s off (t - s) h hp (by omega) (by omega)]
    omega

/-- `s'` is at least as fine as `s` on the same kind of grid: both monthly, or both fixed with `s'` a divisor of `s` -/
def Finer (s s' : Int) : Prop :=
  if isMonth s = true then isMonth s' = true else isMonth s' = false ∧ s' ∣ s

instance (s s' : Int) : Decidable (Finer s s') := by
  unfold Finer
  infer_instance

theorem aligned_finer (cal : Cal) (off t : Int) {s s' : Int} (h : Finer s s') (ha : Aligned cal off t s) : Aligned cal off t s' := by
  unfold Finer at h
  cases hm : isMonth s with
  | true =>
    rw [if_pos hm] at h
    rw [aligned_month cal hm] at ha
    rw [aligned_month cal h]
    exact ha
  | false =>
    rw [if_neg (by simp [hm])] at h
    rw [aligned_fixed cal hm] at ha
    rw [aligned_fixed cal h.1]
    exact Int.emod_eq_zero_of_dvd (Int.dvd_trans h.2 (Int.dvd_of_emod_eq_zero ha))

theorem walk_end_aligned (cal : Cal) (hc : CalOK cal) (off : Int) (ss : List Int) (s : Int)
    (hs : List.Pairwise Finer (ss ++ [s])) (t : Int) (ht : Aligned cal off t ((ss ++ [s]).headD 0)) :
    Aligned cal off (walk cal ss t).2 s := by
  induction ss generalizing t with
  | nil => exact ht
  | cons s0 ss ih =>
    have hp := List.pairwise_cons.mp hs
    refine ih hp.2 _ (aligned_finer cal off _ (hp.1 _ ?_) (aligned_step cal hc off t s0 ht))
    cases ss <;> simp

theorem walk_aligned (cal : Cal) (hc : CalOK cal) (off : Int) (s0 : Int) (ss : List Int) (hs : List.Pairwise Finer (s0 :: ss))
    (t : Int) (ht : Aligned cal off t s0) (i : Nat) (x s : Int)
    (hx : (walk cal (s0 :: ss) t).1[i]? = some x) (hsi : (s0 :: ss)[i]? = some s) : Aligned cal off x s := by
  rw [walk_get] at hx
  have e : (s0 :: ss).take (i + 1) = (s0 :: ss).take i ++ [s] := by
    rw [List.take_add_one, hsi]
    rfl
  rw [hx.2]
  refine walk_end_aligned cal hc off _ s (e ▸ hs.sublist (List.take_sublist _ _)) t ?_
  rw [← e]
  exact ht

theorem segEnd_add (cal : Cal) (s : Int) (a b : Nat) (t : Int) :
    segEnd cal s (a + b) t = segEnd cal s b (segEnd cal s a t) := by
  induction a generalizing t with
  | zero => simp [segEnd]
  | succ a ih =>
    rw [Nat.add_right_comm]
    simp only [segEnd]
    exact ih _

theorem segEnd_succ_out (cal : Cal) (s : Int) (n : Nat) (t : Int) :
    segEnd cal s (n + 1) t = stepForward cal (segEnd cal s n t) s :=
  segEnd_add cal s n 1 t

theorem segEnd_ge (cal : Cal) (s : Int) (hf : Fwd cal s) (n : Nat) (t : Int) : t + n ≤ segEnd cal s n t := by
  induction n generalizing t with
  | zero => simp [segEnd]
  | succ n ih =>
    simp only [segEnd]
    have := ih (stepForward cal t s)
    have := hf t
    omega

theorem segEnd_lt (cal : Cal) (s : Int) (hf : Fwd cal s) (i n : Nat) (h : i < n) (t : Int) :
    segEnd cal s i t < segEnd cal s n t := by
  obtain ⟨d, rfl⟩ : ∃ d, n = i + d := ⟨n - i, by omega⟩
  rw [segEnd_add]
  have := segEnd_ge cal s hf d (segEnd cal s i t)
  omega

theorem segEnd_fixed (cal : Cal) (s : Int) (hn : isMonth s = false) (n : Nat) (t : Int) : segEnd cal s n t = t + n * s := by
  induction n generalizing t with
  | zero => simp [segEnd]
  | succ n ih =>
    rw [segEnd, ih, stepForward_fixed cal hn, Int.natCast_succ, Int.add_mul]
    omega

theorem aligned_segEnd (cal : Cal) (hc : CalOK cal) (off s : Int) (n : Nat) (t : Int) (h : Aligned cal off t s) :
    Aligned cal off (segEnd cal s n t) s := by
  induction n generalizing t with
  | zero => exact h
  | succ n ih => exact ih _ (aligned_step cal hc off t s h)

theorem walk_replicate_get (cal : Cal) (s : Int) (n : Nat) (rest : List Int) (t : Int) (i : Nat) (x : Int) (hi : i ≤ n)
    (hx : (walk cal (List.replicate n s ++ rest) t).1[i]? = some x) : x = segEnd cal s i t := by
  rw [walk_get] at hx
  rw [hx.2, List.take_append_of_le_length (by simpa using hi), List.take_replicate, Nat.min_eq_left hi, segEnd_eq_walk]

/-- the points around index `k` of a walk that begins with `k + 1` equal steps, the `k`-th landing on `t0` -/
theorem walk_run_around (cal : Cal) (s : Int) (hf : Fwd cal s) (k : Nat) (rest : List Int) (t t0 : Int)
    (hk : segEnd cal s k t = t0) (i : Nat) (x : Int)
    (hx : (walk cal (List.replicate (k + 1) s ++ rest) t).1[i]? = some x) :
    (i < k → x < t0) ∧ (i = k → x = t0) ∧ (i = k + 1 → x = stepForward cal t0 s) := by
  refine ⟨fun hi => ?_, fun hi => ?_, fun hi => ?_⟩
  · rw [walk_replicate_get cal s (k + 1) rest t i x (by omega) hx, ← hk]
    exact segEnd_lt cal s hf i k hi t
  · rw [walk_replicate_get cal s (k + 1) rest t i x (by omega) hx, hi, hk]
  · rw [walk_replicate_get cal s (k + 1) rest t i x (by omega) hx, hi, segEnd_succ_out, hk]

theorem segEnd_backN (cal : Cal) (hc : CalOK cal) (s0 off : Int) (h : 0 < s0) (k : Nat) (t : Int)
    (ha : Aligned cal off t s0) : segEnd cal s0 k (backN cal s0 off k t) = t := by
  induction k generalizing t with
  | zero => rfl
  | succ k ih =>
    rw [backN, segEnd_succ_out, ih _ (startOfLOD_aligned cal hc _ _ _ h), startOfLOD_pred cal hc s0 off t h ha]

theorem genLODs_outer (cal : Cal) (a : Args) (lods : List LOD) (h : genLODs cal a = .ok lods) :
    outer cal a (a.end_ - maxOffset a) (levelsFor a) (a.start - maxOffset a) 0 [] ⟨0, 0⟩ = .ok lods.reverse := by
  unfold genLODs at h
  cases ho : outer cal a (a.end_ - maxOffset a) (levelsFor a) (a.start - maxOffset a) 0 [] ⟨0, 0⟩ with
  | error e =>
    rw [ho] at h
    cases h
  | ok r =>
    rw [ho] at h
    cases h
    rw [List.reverse_reverse]

theorem badLOD_false {a : Args} {lod : LOD} (h : ¬ badLOD a lod = true) : 0 < lod.step ∧ 0 < lod.len := by
  simp [badLOD] at h
  omega

/-- the LOD list: steps from `tbl`, every level non-empty, strictly finer toward the present. `tbl` is always the steps of the
    level table, `allSteps (levelsFor a)`; `tbl_in_table` takes them to the LODTables keys `tableSteps` -/
def LodsOK (tbl : List Int) (lods : List LOD) : Prop :=
  (∀ l ∈ lods, l.step ∈ tbl ∧ 0 < l.len) ∧ List.Pairwise (fun a b => b.step < a.step) lods

theorem lodsOK_tail {tbl : List Int} {l : LOD} {ls : List LOD} (h : LodsOK tbl (l :: ls)) : LodsOK tbl ls :=
  ⟨fun x hx => h.1 x (List.mem_cons_of_mem _ hx), (List.pairwise_cons.mp h.2).2⟩

/-- read on `res.LODs` reversed (head = most recent), as the loop holds it -/
theorem lodsOK_reverse {tbl : List Int} (rl : List LOD) :
    LodsOK tbl rl.reverse ↔ (∀ l ∈ rl, l.step ∈ tbl ∧ 0 < l.len) ∧ List.Pairwise (fun a b => a.step < b.step) rl := by
  unfold LodsOK
  rw [List.pairwise_reverse]
  simp only [List.mem_reverse]

/-- what the inner loop guarantees about the step `s` it settles on, `p` being the step of the previous LOD (0 if none) -/
def StepChoice (tbl : List Int) (p s : Int) : Prop :=
  s = p ∨ (s ∈ tbl ∧ (p ≤ 0 ∨ s ≤ p))

theorem stepChoice_accept {tbl : List Int} (hpos : ∀ s ∈ tbl, 0 < s) {p : Int} {lod : LOD} {step : Int}
    (hq : StepChoice tbl p lod.step) (hs : step ∈ tbl) (hg : ¬ grows lod step = true) : StepChoice tbl p step := by
  refine Or.inr ⟨hs, ?_⟩
  simp [grows] at hg
  rcases hq with h | ⟨h1, h2⟩
  · omega
  · have := hpos _ h1
    omega

theorem inner_stepChoice (cal : Cal) (a : Args) (first : Bool) (start end_ edge : Int) (resLen : Nat)
    {tbl : List Int} (hpos : ∀ s ∈ tbl, 0 < s) (p : Int) (steps : List Int) (hsub : ∀ s ∈ steps, s ∈ tbl)
    (lod : LOD) (lodEnd : Int) (lod' : LOD) (e : Int) (hq : StepChoice tbl p lod.step)
    (h : inner cal a first start end_ edge resLen steps lod lodEnd = .done lod' e) : StepChoice tbl p lod'.step := by
  fun_induction inner cal a first start end_ edge resLen steps lod lodEnd with
  | case1 =>
    cases h
    exact hq
  | case2 step rest lod lodEnd _ ih =>
    -- the step would grow: skipped
    exact ih (fun s hs => hsub s (List.mem_cons_of_mem _ hs)) hq h
  | case3 => cases h
  | case4 =>
    -- over the point limit: back to the previous step
    cases h
    exact hq
  | case5 step rest lod lodEnd hg =>
    -- fine enough: this step to the end
    cases h
    exact stepChoice_accept hpos hq (hsub step List.mem_cons_self) hg
  | case6 step rest lod lodEnd hg _ _ ih =>
    -- too coarse: this step up to the edge, then the next one
    exact ih (fun s hs => hsub s (List.mem_cons_of_mem _ hs)) (stepChoice_accept hpos hq (hsub step List.mem_cons_self) hg) h

theorem appendLOD_same {l lod : LOD} (ls : List LOD) (h : l.step = lod.step) :
    appendLOD (l :: ls) lod = ⟨l.step, l.len + lod.len⟩ :: ls := by
  simp [appendLOD, h]

theorem appendLOD_diff {l lod : LOD} (ls : List LOD) (h : l.step ≠ lod.step) : appendLOD (l :: ls) lod = lod :: l :: ls := by
  simp [appendLOD, h]

/-- `rlods` is `res.LODs` reversed: there `step0Of` is the step of the most recent (finest) LOD -/
theorem step0Of_appendLOD (rlods : List LOD) (lod : LOD) : step0Of (appendLOD rlods lod) = lod.step := by
  fun_cases appendLOD rlods lod with
  | case1 => rfl
  | case2 l ls lod he => exact beq_iff_eq.mp he
  | case3 => rfl

theorem appendLOD_ne (rlods : List LOD) (lod : LOD) : appendLOD rlods lod ≠ [] := by
  fun_cases appendLOD rlods lod <;> exact List.cons_ne_nil _ _

theorem appendLOD_inv {tbl : List Int} (hpos : ∀ s ∈ tbl, 0 < s) (rlods : List LOD) (lod' : LOD)
    (hI : LodsOK tbl rlods.reverse) (hq : StepChoice tbl (step0Of rlods) lod'.step) (hs : 0 < lod'.step) (hl : 0 < lod'.len) :
    LodsOK tbl (appendLOD rlods lod').reverse := by
  rw [lodsOK_reverse] at hI ⊢
  cases rlods with
  | nil =>
    have hin : lod'.step ∈ tbl := by
      rcases hq with hq | hq
      · exact absurd hq (Int.ne_of_gt hs)
      · exact hq.1
    refine ⟨fun l hl' => ?_, List.pairwise_singleton _ _⟩
    rw [List.mem_singleton.mp hl']
    exact ⟨hin, hl⟩
  | cons l ls =>
    have hlm := hI.1 l List.mem_cons_self
    have hlpos := hpos _ hlm.1
    have hp := List.pairwise_cons.mp hI.2
    have hin : lod'.step ∈ tbl ∧ lod'.step ≤ l.step := by
      rcases hq with hq | ⟨h1, h2⟩
      · have : lod'.step = l.step := hq
        rw [this]
        exact ⟨hlm.1, Int.le_refl _⟩
      · exact ⟨h1, h2.resolve_left (Int.not_le.mpr hlpos)⟩
    by_cases he : l.step = lod'.step
    · rw [appendLOD_same ls he]
      refine ⟨?_, List.pairwise_cons.mpr hp⟩
      intro x hx
      rcases List.mem_cons.mp hx with rfl | hx
      · exact ⟨hlm.1, Nat.add_pos_left hlm.2 _⟩
      · exact hI.1 x (List.mem_cons_of_mem _ hx)
    · rw [appendLOD_diff ls he]
      refine ⟨?_, List.pairwise_cons.mpr ⟨?_, hI.2⟩⟩
      · intro x hx
        rcases List.mem_cons.mp hx with rfl | hx
        · exact ⟨hin.1, hl⟩
        · exact hI.1 x hx
      · intro b hb
        rcases List.mem_cons.mp hb with rfl | hb
        · exact Int.lt_iff_le_and_ne.mpr ⟨hin.2, Ne.symm he⟩
        · exact Int.lt_of_le_of_lt hin.2 (hp.1 b hb)

theorem outer_lodsOK (cal : Cal) (a : Args) (end_ : Int) {tbl : List Int} (hpos : ∀ s ∈ tbl, 0 < s)
    (levels : List (Int × List Int)) (hsub : ∀ sw ∈ levels, ∀ s ∈ sw.2, s ∈ tbl)
    (start : Int) (resLen : Nat) (rlods : List LOD) (lod : LOD) (r : List LOD)
    (hI : LodsOK tbl rlods.reverse) (hl : lod.step = step0Of rlods)
    (h : outer cal a end_ levels start resLen rlods lod = .ok r) : LodsOK tbl r.reverse := by
  fun_induction outer cal a end_ levels start resLen rlods lod with
  | case1 =>
    cases h
    exact hI
  | case2 sw rest start resLen rlods lod _ _ ih =>
    -- the level lies behind `start`: skipped
    exact ih (fun sw hsw => hsub sw (List.mem_cons_of_mem _ hsw)) hI hl h
  | case3 => cases h
  | case4 => cases h
  | case5 sw rest start resLen rlods lod _ _ lod' lodEnd hin hbad ih =>
    -- the LOD chosen by `inner` is appended
    have hq := inner_stepChoice cal a _ _ _ _ _ hpos (step0Of rlods) sw.2 (hsub sw List.mem_cons_self) ⟨lod.step, 0⟩ 0 lod' lodEnd
      (Or.inl hl) hin
    have hb := badLOD_false hbad
    exact ih (fun sw hsw => hsub sw (List.mem_cons_of_mem _ hsw)) (appendLOD_inv hpos rlods lod' hI hq hb.1 hb.2)
      (step0Of_appendLOD rlods lod').symm h
  | case6 =>
    cases h
    exact hI

def allSteps (levels : List (Int × List Int)) : List Int := levels.flatMap (·.2)

theorem tbl_sub (a : Args) : ∀ sw ∈ levelsFor a, ∀ s ∈ sw.2, s ∈ allSteps (levelsFor a) :=
  fun sw hsw _ hs => List.mem_flatMap.mpr ⟨sw, hsw, hs⟩

theorem tbl_pos (a : Args) : ∀ s ∈ allSteps (levelsFor a), 0 < s := by
  unfold levelsFor
  split
  · decide +kernel
  · decide +kernel

theorem tbl_in_table (a : Args) : ∀ s ∈ allSteps (levelsFor a), s ∈ tableSteps := by
  unfold levelsFor
  split
  · decide +kernel
  · decide +kernel

theorem tbl_finer (a : Args) : ∀ s ∈ allSteps (levelsFor a), ∀ s' ∈ allSteps (levelsFor a), s' ≤ s → Finer s s' := by
  unfold levelsFor
  split
  · decide +kernel
  · decide +kernel

theorem tbl_fixed (a : Args) (h : isMonth a.step = false) : ∀ s ∈ allSteps (levelsFor a), isMonth s = false := by
  unfold levelsFor
  rw [if_neg (by simp [h])]
  decide +kernel

theorem tbl_fwd (cal : Cal) (hc : CalOK cal) (a : Args) : ∀ s ∈ allSteps (levelsFor a), Fwd cal s :=
  fun s hs => fwd_step cal hc s (tbl_pos a s hs)

theorem genLODs_ok (cal : Cal) (a : Args) (lods : List LOD) (h : genLODs cal a = .ok lods) :
    LodsOK (allSteps (levelsFor a)) lods := by
  have hr := outer_lodsOK cal a _ (tbl_pos a) (levelsFor a) (tbl_sub a) _ _ _ _ _
    ⟨fun _ hl => absurd hl List.not_mem_nil, List.Pairwise.nil⟩ rfl (genLODs_outer cal a lods h)
  rwa [List.reverse_reverse] at hr

theorem expand_cons (l : LOD) (ls : List LOD) : expand (l :: ls) = List.replicate l.len l.step ++ expand ls := by
  simp [expand]

theorem mem_expand {lods : List LOD} {x : Int} (h : x ∈ expand lods) : ∃ l ∈ lods, x = l.step := by
  simp only [expand, List.mem_flatMap, List.mem_replicate] at h
  obtain ⟨l, hl, _, rfl⟩ := h
  exact ⟨l, hl, rfl⟩

theorem expand_appendLOD (rlods : List LOD) (lod : LOD) :
    expand (appendLOD rlods lod).reverse = expand rlods.reverse ++ List.replicate lod.len lod.step := by
  fun_cases appendLOD rlods lod with
  | case1 => simp [expand]
  | case2 l ls lod he => simp [expand, ← beq_iff_eq.mp he, List.replicate_append_replicate]
  | case3 => simp [expand]

theorem expand_length (lods : List LOD) : (expand lods).length = (lods.map (·.len)).sum := by
  induction lods with
  | nil => rfl
  | cons l ls ih =>
    rw [expand_cons]
    simp [ih]

theorem expand_pairwise {tbl : List Int} {R : Int → Int → Prop} (hR : ∀ a ∈ tbl, ∀ b ∈ tbl, b ≤ a → R a b)
    (lods : List LOD) (h : LodsOK tbl lods) : List.Pairwise R (expand lods) := by
  induction lods with
  | nil => exact List.Pairwise.nil
  | cons l ls ih =>
    have hl := (h.1 l List.mem_cons_self).1
    rw [expand_cons, List.pairwise_append]
    refine ⟨?_, ih (lodsOK_tail h), ?_⟩
    · rw [List.pairwise_replicate]
      exact Or.inr (hR _ hl _ hl (Int.le_refl _))
    · intro a ha b hb
      obtain ⟨l', hl', rfl⟩ := mem_expand hb
      rw [(List.mem_replicate.mp ha).2]
      have := (List.pairwise_cons.mp h.2).1 l' hl'
      exact hR _ hl _ (h.1 l' (List.mem_cons_of_mem _ hl')).1 (by omega)

theorem expand_mem_tbl {tbl : List Int} {lods : List LOD} (h : LodsOK tbl lods) : ∀ s ∈ expand lods, s ∈ tbl := by
  intro s hs
  obtain ⟨l, hl, rfl⟩ := mem_expand hs
  exact (h.1 l hl).1

theorem expand_head (lods : List LOD) {tbl : List Int} (h : LodsOK tbl lods) (hne : lods ≠ []) :
    ∃ rest, expand lods = step0Of lods :: rest := by
  cases lods with
  | nil => exact absurd rfl hne
  | cons l ls =>
    have := (h.1 l (by simp)).2
    rw [expand_cons]
    obtain ⟨m, hm⟩ : ∃ m, l.len = m + 1 := ⟨l.len - 1, by omega⟩
    rw [hm, List.replicate_succ]
    exact ⟨_, rfl⟩

theorem step0_mem {tbl : List Int} {lods : List LOD} (h : LodsOK tbl lods) (hne : lods ≠ []) : step0Of lods ∈ tbl := by
  cases lods with
  | nil => exact absurd rfl hne
  | cons l ls => exact (h.1 l List.mem_cons_self).1

theorem step0_pos (a : Args) (lods : List LOD) (h : LodsOK (allSteps (levelsFor a)) lods) (hne : lods ≠ []) :
    0 < step0Of lods :=
  tbl_pos a _ (step0_mem h hne)

theorem bumpFirst_steps (k : Nat) (lods : List LOD) : (bumpFirst k lods).map (·.step) = lods.map (·.step) := by
  cases lods <;> rfl

theorem bumpLast_steps (k : Nat) (lods : List LOD) : (bumpLast k lods).map (·.step) = lods.map (·.step) := by
  induction lods with
  | nil => rfl
  | cons l ls ih =>
    cases ls with
    | nil => rfl
    | cons l' ls' =>
      simp only [bumpLast, List.map_cons] at ih ⊢
      rw [ih]

theorem bumpFirst_len_pos (k : Nat) (lods : List LOD) (h : ∀ l ∈ lods, 0 < l.len) : ∀ l ∈ bumpFirst k lods, 0 < l.len := by
  cases lods with
  | nil => exact h
  | cons l ls =>
    intro x hx
    rcases List.mem_cons.mp hx with rfl | hx
    · exact Nat.add_pos_left (h l List.mem_cons_self) k
    · exact h x (List.mem_cons_of_mem _ hx)

theorem bumpLast_len_pos (k : Nat) (lods : List LOD) (h : ∀ l ∈ lods, 0 < l.len) : ∀ l ∈ bumpLast k lods, 0 < l.len := by
  induction lods with
  | nil => exact h
  | cons l ls ih =>
    cases ls with
    | nil =>
      intro x hx
      rw [List.mem_singleton.mp hx]
      exact Nat.add_pos_left (h l List.mem_cons_self) k
    | cons l' ls' =>
      intro x hx
      rcases List.mem_cons.mp hx with rfl | hx
      · exact h x List.mem_cons_self
      · exact ih (fun y hy => h y (List.mem_cons_of_mem _ hy)) x hx

theorem lodsOK_of_steps {tbl : List Int} {xs ys : List LOD} (hs : ys.map (·.step) = xs.map (·.step))
    (hl : ∀ l ∈ ys, 0 < l.len) (h : LodsOK tbl xs) : LodsOK tbl ys := by
  refine ⟨fun l hl' => ⟨?_, hl l hl'⟩, ?_⟩
  · have : l.step ∈ xs.map (·.step) := hs ▸ List.mem_map_of_mem hl'
    obtain ⟨x, hx, e⟩ := List.mem_map.mp this
    rw [← e]
    exact (h.1 x hx).1
  · have := (List.pairwise_map (f := fun l : LOD => l.step) (R := fun a b => b < a)).mpr h.2
    rw [← hs] at this
    exact List.pairwise_map.mp this

theorem step0Of_eq (lods : List LOD) : step0Of lods = (lods.map (·.step)).headD 0 := by
  cases lods <;> rfl

theorem lastStepOf_eq (lods : List LOD) : lastStepOf lods = (lods.map (·.step)).getLastD 0 := by
  induction lods with
  | nil => rfl
  | cons l ls ih =>
    cases ls with
    | nil => rfl
    | cons l' ls' =>
      show lastStepOf (l' :: ls') = _
      rw [ih]
      rfl

theorem step0Of_congr {xs ys : List LOD} (h : xs.map (·.step) = ys.map (·.step)) : step0Of xs = step0Of ys := by
  rw [step0Of_eq, h, ← step0Of_eq]

theorem lastStepOf_congr {xs ys : List LOD} (h : xs.map (·.step) = ys.map (·.step)) : lastStepOf xs = lastStepOf ys := by
  rw [lastStepOf_eq, h, ← lastStepOf_eq]

theorem step0Of_reverse (lods : List LOD) : step0Of lods.reverse = lastStepOf lods := by
  rw [step0Of_eq, lastStepOf_eq, List.map_reverse, List.headD_eq_head?_getD, List.head?_reverse, List.getLastD_eq_getLast?]

theorem expand_bumpFirst (k : Nat) (l : LOD) (ls : List LOD) :
    expand (bumpFirst k (l :: ls)) = List.replicate k l.step ++ expand (l :: ls) := by
  rw [bumpFirst, expand_cons, expand_cons, ← List.append_assoc, List.replicate_append_replicate, Nat.add_comm]

theorem expand_bumpLast (lods : List LOD) (h : lods ≠ []) :
    expand (bumpLast 1 lods) = expand lods ++ [lastStepOf lods] := by
  induction lods with
  | nil => exact absurd rfl h
  | cons l ls ih =>
    cases ls with
    | nil => simp [bumpLast, expand, lastStepOf, List.replicate_succ']
    | cons l' ls' =>
      have := ih (List.cons_ne_nil _ _)
      simp only [bumpLast, lastStepOf, expand_cons] at this ⊢
      rw [this]
      simp only [List.append_assoc]

/-- the first generated point `Time[0]`: `startOfLOD(Start)` moved back by the left extension points -/
def tstart (cal : Cal) (a : Args) (s0 : Int) : Int :=
  backN cal s0 a.utcOffset (leftExtra a (startOfLOD cal a.start s0 a.utcOffset)) (startOfLOD cal a.start s0 a.utcOffset)

theorem tstart_aligned (cal : Cal) (hc : CalOK cal) (a : Args) (s0 : Int) (h : 0 < s0) :
    Aligned cal a.utcOffset (tstart cal a s0) s0 := by
  unfold tstart
  generalize startOfLOD_aligned cal hc s0 a.utcOffset a.start h = ha
  generalize startOfLOD cal a.start s0 a.utcOffset = t at ha
  generalize leftExtra a t = k
  induction k generalizing t with
  | zero => exact ha
  | succ k ih => exact ih _ (startOfLOD_aligned cal hc _ _ _ h)

theorem rangeTS_lods (cal : Cal) (a : Args) (lods : List LOD) (s0 : Int) :
    (rangeTS cal a lods s0).lods = (if a.extend then bumpLast 1 else id)
      (bumpFirst (leftExtra a (startOfLOD cal a.start s0 a.utcOffset)) lods) := by
  unfold rangeTS
  split <;> rfl

theorem rangeTS_expand (cal : Cal) (a : Args) (lods : List LOD) (s0 : Int) (hne : lods ≠ []) :
    expand (rangeTS cal a lods s0).lods =
      List.replicate (leftExtra a (startOfLOD cal a.start s0 a.utcOffset)) (step0Of lods) ++ expand lods ++
        (if a.extend then [lastStepOf lods] else []) := by
  rw [rangeTS_lods]
  cases lods with
  | nil => exact absurd rfl hne
  | cons l ls =>
    split
    · rw [expand_bumpLast _ (by exact List.cons_ne_nil _ _), expand_bumpFirst, lastStepOf_congr (bumpFirst_steps _ (l :: ls))]
      rfl
    · rw [List.append_nil]
      exact expand_bumpFirst _ l ls

theorem rangeTS_view (cal : Cal) (a : Args) (lods : List LOD) (s0 : Int) :
    (rangeTS cal a lods s0).startX = 1 ∧ (rangeTS cal a lods s0).viewStartX = viewStart a := by
  unfold rangeTS
  split <;> exact ⟨rfl, rfl⟩

/-- `w` abbreviates the walk over the LOD list with the left extension points (callers pass `_ rfl`) -/
theorem rangeTS_shape (cal : Cal) (a : Args) (lods : List LOD) (s0 : Int) (w : List Int × Int)
    (hw : w = walk cal (expand (bumpFirst (leftExtra a (startOfLOD cal a.start s0 a.utcOffset)) lods)) (tstart cal a s0)) :
    (rangeTS cal a lods s0).time = w.1 ++ (if a.extend then [w.2] else []) ∧
    (rangeTS cal a lods s0).viewEndX = max w.1.length (rangeTS cal a lods s0).viewStartX := by
  subst hw
  unfold rangeTS tstart
  simp only [genTime_eq_walk]
  have hmax : ∀ v n : Nat, (if v < n then n else v) = max n v := by
    intro v n
    split <;> omega
  by_cases he : a.extend = true
  · simp only [he, if_true]
    exact ⟨trivial, hmax _ _⟩
  · simp only [he, Bool.false_eq_true, if_false, List.append_nil]
    exact ⟨trivial, hmax _ _⟩

theorem rangeTS_walk_split (cal : Cal) (hc : CalOK cal) (a : Args) (lods : List LOD) (hne : lods ≠ [])
    (hs0 : 0 < step0Of lods) :
    ∃ left, walk cal (expand (bumpFirst (leftExtra a (startOfLOD cal a.start (step0Of lods) a.utcOffset)) lods))
        (tstart cal a (step0Of lods)) =
      (left ++ (walk cal (expand lods) (startOfLOD cal a.start (step0Of lods) a.utcOffset)).1,
       (walk cal (expand lods) (startOfLOD cal a.start (step0Of lods) a.utcOffset)).2) := by
  cases lods with
  | nil => exact absurd rfl hne
  | cons l ls =>
    simp only [step0Of] at hs0 ⊢
    have e2 : (walk cal (List.replicate (leftExtra a (startOfLOD cal a.start l.step a.utcOffset)) l.step) (tstart cal a l.step)).2 =
        startOfLOD cal a.start l.step a.utcOffset := by
      rw [← segEnd_eq_walk]
      exact segEnd_backN cal hc l.step a.utcOffset hs0 _ _ (startOfLOD_aligned cal hc _ _ _ hs0)
    refine ⟨(walk cal (List.replicate (leftExtra a (startOfLOD cal a.start l.step a.utcOffset)) l.step) (tstart cal a l.step)).1, ?_⟩
    rw [expand_bumpFirst, walk_append, e2]

theorem rangeTS_steps (cal : Cal) (a : Args) (lods : List LOD) (s0 : Int) :
    (rangeTS cal a lods s0).lods.map (·.step) = lods.map (·.step) := by
  rw [rangeTS_lods]
  split
  · rw [bumpLast_steps, bumpFirst_steps]
  · exact bumpFirst_steps _ _

theorem rangeTS_lodsOK {tbl : List Int} (cal : Cal) (a : Args) (lods : List LOD) (s0 : Int) (h : LodsOK tbl lods) :
    LodsOK tbl (rangeTS cal a lods s0).lods := by
  refine lodsOK_of_steps (rangeTS_steps cal a lods s0) ?_ h
  rw [rangeTS_lods]
  split
  · exact bumpLast_len_pos _ _ (bumpFirst_len_pos _ _ fun l hl => (h.1 l hl).2)
  · exact bumpFirst_len_pos _ _ fun l hl => (h.1 l hl).2

theorem rangeTS_time (cal : Cal) (a : Args) (lods : List LOD) (s0 : Int) (h : lods ≠ []) :
    (rangeTS cal a lods s0).time = (walk cal (expand (rangeTS cal a lods s0).lods) (tstart cal a s0)).1 := by
  have hne : bumpFirst (leftExtra a (startOfLOD cal a.start s0 a.utcOffset)) lods ≠ [] := by
    cases lods with
    | nil => exact absurd rfl h
    | cons l ls => exact List.cons_ne_nil _ _
  rw [(rangeTS_shape cal a lods s0 _ rfl).1, rangeTS_lods]
  split
  · rw [expand_bumpLast _ hne, walk_snoc]
  · exact List.append_nil _

theorem rangeTS_prefix {tbl : List Int} (cal : Cal) (a : Args) (lods : List LOD) (s0 : Int) (hok : LodsOK tbl lods)
    (hne : lods ≠ []) :
    ∃ rest, expand (rangeTS cal a lods s0).lods =
      List.replicate (leftExtra a (startOfLOD cal a.start s0 a.utcOffset) + 1) (step0Of lods) ++ rest := by
  obtain ⟨rest, hr⟩ := expand_head lods hok hne
  rw [rangeTS_expand cal a lods s0 hne, hr, List.replicate_succ']
  exact ⟨rest ++ (if a.extend then [lastStepOf lods] else []), by simp only [List.append_assoc, List.cons_append, List.nil_append]⟩

theorem leftExtra_le (a : Args) (t : Int) : leftExtra a t ≤ 2 := by
  unfold leftExtra
  split <;> split <;> decide

theorem leftExtra_view (a : Args) (t0 : Int) (h : t0 ≤ a.start) :
    (t0 < a.start ∧ leftExtra a t0 + 1 = viewStart a) ∨ (t0 = a.start ∧ leftExtra a t0 = viewStart a) := by
  unfold leftExtra viewStart
  by_cases hlt : t0 < a.start
  · rw [if_pos hlt]
    refine Or.inl ⟨hlt, ?_⟩
    split <;> rfl
  · rw [if_neg hlt]
    exact Or.inr ⟨Int.le_antisymm h (Int.le_of_not_gt hlt), rfl⟩

theorem rangeTS_length (cal : Cal) (a : Args) (lods : List LOD) (s0 : Int) (h : lods ≠ []) :
    (rangeTS cal a lods s0).time.length =
      leftExtra a (startOfLOD cal a.start s0 a.utcOffset) + (expand lods).length + (if a.extend then 1 else 0) := by
  rw [rangeTS_time cal a lods s0 h, walk_length, rangeTS_expand cal a lods s0 h, List.length_append, List.length_append,
    List.length_replicate]
  split <;> rfl

theorem getTimescale_ok (cal : Cal) (a : Args) (ts : TS) (h : getTimescale cal a = .ok ts) :
    ts = TS.empty ∨ ∃ lods, genLODs cal a = .ok lods ∧ lods ≠ [] ∧ offsetsOK a (step0Of lods) = true ∧
      ts = if isPoint a then pointTS cal a lods (step0Of lods) else rangeTS cal a lods (step0Of lods) := by
  revert h
  fun_cases getTimescale cal a with
  | case1 => exact fun h => Or.inl (Except.ok.inj h).symm
  | case2 => exact fun h => nomatch h
  | case3 => exact fun h => Or.inl (Except.ok.inj h).symm
  | case4 => exact fun h => nomatch h
  | case5 _ lods hl hemp hoff hp =>
    intro h
    cases h
    exact Or.inr ⟨lods, hl, by simpa using hemp, by simpa using hoff, (if_pos hp).symm⟩
  | case6 _ lods hl hemp hoff hp =>
    intro h
    cases h
    exact Or.inr ⟨lods, hl, by simpa using hemp, by simpa using hoff, (if_neg hp).symm⟩

theorem getTimescale_range (cal : Cal) (a : Args) (ts : TS) (h : getTimescale cal a = .ok ts)
    (hp : isPoint a = false) (hne : ts.time ≠ []) :
    ∃ lods, genLODs cal a = .ok lods ∧ lods ≠ [] ∧ offsetsOK a (step0Of lods) = true ∧
      ts = rangeTS cal a lods (step0Of lods) := by
  rcases getTimescale_ok cal a ts h with rfl | ⟨lods, h1, h2, h3, h4⟩
  · exact absurd rfl hne
  · rw [hp] at h4
    exact ⟨lods, h1, h2, h3, h4⟩

theorem getTimescale_point (cal : Cal) (a : Args) (ts : TS) (h : getTimescale cal a = .ok ts)
    (hp : isPoint a = true) (hne : ts.time ≠ []) :
    ∃ lods, genLODs cal a = .ok lods ∧ lods ≠ [] ∧ ts = pointTS cal a lods (step0Of lods) := by
  rcases getTimescale_ok cal a ts h with rfl | ⟨lods, h1, h2, _, h4⟩
  · exact absurd rfl hne
  · rw [hp] at h4
    exact ⟨lods, h1, h2, h4⟩

theorem range_axis (cal : Cal) (a : Args) (ts : TS) (h : getTimescale cal a = .ok ts)
    (hp : isPoint a = false) (hne : ts.time ≠ []) :
    LodsOK (allSteps (levelsFor a)) ts.lods ∧ ts.lods ≠ [] ∧
    ts.time = (walk cal (expand ts.lods) (tstart cal a (step0Of ts.lods))).1 := by
  obtain ⟨lods, hl, hne', _, rfl⟩ := getTimescale_range cal a ts h hp hne
  have hs := rangeTS_steps cal a lods (step0Of lods)
  refine ⟨rangeTS_lodsOK cal a lods _ (genLODs_ok cal a lods hl), ?_, ?_⟩
  · intro e
    rw [e] at hs
    exact hne' (List.map_eq_nil_iff.mp hs.symm)
  · rw [step0Of_congr hs]
    exact rangeTS_time cal a lods _ hne'

theorem axis_head (cal : Cal) (a : Args) (ts : TS) (h : getTimescale cal a = .ok ts) (hp : isPoint a = false)
    (hne : ts.time ≠ []) : ∃ tl, ts.time = tstart cal a (step0Of ts.lods) :: tl := by
  obtain ⟨hok, hlne, ht⟩ := range_axis cal a ts h hp hne
  obtain ⟨rest, hr⟩ := expand_head ts.lods hok hlne
  rw [hr] at ht
  exact ⟨_, ht⟩

theorem getLODs_lodRanges (cal : Cal) (a : Args) (ts : TS) (h : getTimescale cal a = .ok ts) (hp : isPoint a = false)
    (hne : ts.time ≠ []) (o : Int) :
    getLODs cal a.utcOffset ts o = lodRanges cal ts.lods
      (if o != 0 then startOfLOD cal (tstart cal a (step0Of ts.lods) - o) (step0Of ts.lods) a.utcOffset
       else tstart cal a (step0Of ts.lods)) := by
  obtain ⟨tl, hhead⟩ := axis_head cal a ts h hp hne
  unfold getLODs
  rw [hhead]

theorem lodRanges_steps (cal : Cal) (lods : List LOD) (t : Int) :
    (lodRanges cal lods t).map (·.2.2) = lods.map (·.step) := by
  induction lods generalizing t with
  | nil => simp [lodRanges]
  | cons l ls ih => simp [lodRanges, ih]

theorem lodRanges_head (cal : Cal) (lods : List LOD) (t : Int) (r : Int × Int × Int)
    (h : (lodRanges cal lods t)[0]? = some r) : r.1 = t := by
  cases lods with
  | nil => simp [lodRanges] at h
  | cons l ls => simp [lodRanges] at h; rw [← h]

theorem lodRanges_contiguous (cal : Cal) (lods : List LOD) (t : Int) (j : Nat) (r r' : Int × Int × Int)
    (h : (lodRanges cal lods t)[j]? = some r) (h' : (lodRanges cal lods t)[j + 1]? = some r') : r.2.1 = r'.1 := by
  induction lods generalizing t j with
  | nil => simp [lodRanges] at h
  | cons l ls ih =>
    cases j with
    | zero =>
      simp [lodRanges] at h h'
      rw [← h]
      exact (lodRanges_head cal ls _ r' h').symm
    | succ j =>
      simp only [lodRanges, List.getElem?_cons_succ] at h h'
      exact ih _ _ h h'

theorem lodRanges_get (cal : Cal) (lods : List LOD) (t : Int) (j : Nat) (r : Int × Int × Int) (l : LOD)
    (h : (lodRanges cal lods t)[j]? = some r) (hl : lods[j]? = some l) :
    r.2.2 = l.step ∧ r.2.1 = segEnd cal l.step l.len r.1 := by
  induction lods generalizing t j with
  | nil => simp at hl
  | cons l0 ls ih =>
    cases j with
    | zero =>
      simp [lodRanges] at h hl
      subst hl
      rw [← h]
      exact ⟨rfl, rfl⟩
    | succ j =>
      simp only [lodRanges, List.getElem?_cons_succ] at h hl
      exact ih _ _ h hl

theorem lodRanges_enumerate (cal : Cal) (lods : List LOD) (t : Int) :
    (walk cal (expand lods) t).1 =
      ((lodRanges cal lods t).zip lods).flatMap (fun p => (walk cal (List.replicate p.2.len p.1.2.2) p.1.1).1) := by
  induction lods generalizing t with
  | nil => simp [lodRanges, expand, walk]
  | cons l ls ih =>
    rw [expand_cons, walk_append]
    simp only [lodRanges, List.zip_cons_cons, List.flatMap_cons]
    rw [ih, segEnd_eq_walk]

/-- every range starts on the grid of its level: a level ends on its own grid, and the next step is finer -/
theorem lodRanges_grid (cal : Cal) (hc : CalOK cal) (off : Int) {tbl : List Int}
    (hlink : ∀ s ∈ tbl, ∀ s' ∈ tbl, s' ≤ s → Finer s s')
    (lods : List LOD) (hok : LodsOK tbl lods) (S : Int) (hS : Aligned cal off S (step0Of lods)) :
    ∀ (j : Nat) (r : Int × Int × Int) (l : LOD), (lodRanges cal lods S)[j]? = some r → lods[j]? = some l →
      Aligned cal off r.1 l.step := by
  induction lods generalizing S with
  | nil => intro j r l h; simp [lodRanges] at h
  | cons l0 ls ih =>
    intro j r l h hl
    simp only [step0Of] at hS
    cases j with
    | zero =>
      simp [lodRanges] at h hl
      subst hl
      rw [← h]
      exact hS
    | succ j =>
      simp only [lodRanges, List.getElem?_cons_succ] at h hl
      refine ih (lodsOK_tail hok) _ ?_ j r l h hl
      cases ls with
      | nil => simp at hl
      | cons l1 ls' =>
        simp only [step0Of]
        have hlt := (List.pairwise_cons.mp hok.2).1 l1 (by simp)
        exact aligned_finer cal off _ (hlink _ (hok.1 l0 List.mem_cons_self).1 _ (hok.1 l1 (by simp)).1 (by omega))
          (aligned_segEnd cal hc off l0.step l0.len S hS)

end SH.C22
