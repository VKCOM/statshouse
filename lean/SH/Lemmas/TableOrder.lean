/-
  SH.Lemmas.TableOrder — time order of the rows a table pass visits (property C25, "sorted in the requested
  direction … limit respected"): with storage answers that are ordered in time (ascending LODs, ascending time groups)
  the window rows of a pass are visited in the requested time direction, so a page is a leading segment in time.
  `pairwise_visit` is stated for any relation on rows; SH.Props.C25 uses it for the requested order on keys.
-/
import SH.Lemmas.Table

namespace SH.C25
open SH.Table

/-- `a` may precede `b` in the requested direction, by time -/
def timeDir (fe : Bool) (a b : Row) : Prop := if fe then b.key.time ≤ a.key.time else a.key.time ≤ b.key.time

/-- what the storage of a time-sliced table returns, as far as times go: the answers are given in ascending LOD order,
    no row of an earlier LOD is later than a row of a later LOD, the time groups of an answer are ascending, and the
    rows of one group share their time. The other two storage predicates are in SH.Lemmas.TablePage: `StorageContract`
    (the same blocks with `<` on times, each group in the requested key order) implies `VisitSorted` (all rows in the
    requested key order as visited; `storage_contract_suffices`, SH.Props.C25). `TimeOrdered` is about times only and
    incomparable with `StorageContract`: it allows any order within a second and wants one time per group. -/
def TimeOrdered (answers : List (Lod × Option (List (List Row)))) : Prop :=
  answers.Pairwise (fun a b => ∀ g ∈ a.2.getD [], ∀ r ∈ g, ∀ h ∈ b.2.getD [], ∀ s ∈ h, r.key.time ≤ s.key.time) ∧
  (∀ a ∈ answers, (a.2.getD []).Pairwise (fun g h => ∀ r ∈ g, ∀ s ∈ h, r.key.time ≤ s.key.time)) ∧
  (∀ a ∈ answers, ∀ g ∈ a.2.getD [], ∀ r ∈ g, ∀ s ∈ g, r.key.time = s.key.time)

theorem dir_map {α β} (fe : Bool) (f : α → β) (l : List α) : dir fe (l.map f) = (dir fe l).map f := by
  cases fe <;> simp [dir]

theorem pairwise_dir_flatten {α} (fe : Bool) (R : α → α → Prop) (L : List (List α))
    (hin : ∀ l ∈ L, l.Pairwise R)
    (hx : L.Pairwise (fun l m => ∀ x ∈ l, ∀ y ∈ m, if fe then R y x else R x y)) :
    (dir fe L).flatten.Pairwise R := by
  cases fe with
  | false => exact List.pairwise_flatten.2 ⟨hin, hx⟩
  | true =>
    refine List.pairwise_flatten.2 ⟨fun l hl => hin l (List.mem_reverse.1 hl), ?_⟩
    exact List.pairwise_reverse.2 (hx.imp (fun h x hx y hy => h y hy x hx))

/-- `T` orders the blocks by time (`h1` across answers, `h2` across time groups); `hT` turns it into `R` in the
    requested direction -/
theorem pairwise_visit (fe : Bool) (R : Row → Row → Prop) (T : Int → Int → Prop)
    (hT : ∀ r s : Row, T r.key.time s.key.time → if fe then R s r else R r s) (answers : Answers)
    (h1 : answers.Pairwise (fun a b => ∀ g ∈ a.2.getD [], ∀ r ∈ g, ∀ h ∈ b.2.getD [], ∀ s ∈ h, T r.key.time s.key.time))
    (h2 : ∀ a ∈ answers, (a.2.getD []).Pairwise (fun g h => ∀ r ∈ g, ∀ s ∈ h, T r.key.time s.key.time))
    (h3 : ∀ a ∈ answers, ∀ g ∈ a.2.getD [], g.Pairwise R) :
    ((dir fe answers).flatMap (fun a => (dir fe (a.2.getD [])).flatten)).Pairwise R := by
  have mem_flat : ∀ (a : Lod × Option (List (List Row))) (x : Row),
      x ∈ (dir fe (a.2.getD [])).flatten → ∃ g ∈ a.2.getD [], x ∈ g := by
    intro a x hx
    obtain ⟨g, hg, hxg⟩ := List.mem_flatten.1 hx
    exact ⟨g, (mem_dir _ _ _).1 hg, hxg⟩
  rw [List.flatMap_def, ← dir_map]
  refine pairwise_dir_flatten fe R _ ?_ (List.pairwise_map.2 (h1.imp ?_))
  · intro l hl
    obtain ⟨a, ha, rfl⟩ := List.mem_map.1 hl
    exact pairwise_dir_flatten fe R _ (h3 a ha) ((h2 a ha).imp (fun hgh x hx y hy => hT x y (hgh x hx y hy)))
  · intro a b hab x hx y hy
    obtain ⟨g, hg, hxg⟩ := mem_flat a x hx
    obtain ⟨g', hg', hyg⟩ := mem_flat b y hy
    exact hT x y (hab g hg x hxg g' hg' y hyg)

theorem visit_time_sorted (fe : Bool) (answers : Answers) (h : TimeOrdered answers) :
    ((dir fe answers).flatMap (fun a => (dir fe (a.2.getD [])).flatten)).Pairwise (timeDir fe) := by
  refine pairwise_visit fe _ (fun x y => x ≤ y) ?_ answers h.1 h.2.1 ?_
  · intro r s hrs
    cases fe <;> exact hrs
  · intro a ha g hg
    refine List.pairwise_of_forall_mem_list (fun r hr s hs => ?_)
    have := h.2.2 a ha g hg r hr s hs
    cases fe <;> simp [timeDir, this]

theorem window_time_sorted (q : Req) (answers : Answers) (h : TimeOrdered answers) :
    (candRows q (dir q.win.fromEnd answers)).Pairwise (timeDir q.win.fromEnd) :=
  List.Pairwise.sublist (candRows_sublist q _) (visit_time_sorted q.win.fromEnd answers h)

end SH.C25
