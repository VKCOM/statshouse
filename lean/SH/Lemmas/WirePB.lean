/-
  SH.Lemmas.WirePB — Protobuf round trip for Props/C13: proto3 encoding (as proto.Marshal produces it) of a batch,
  decoded by the model of protobuf.go, gives back the batch. Here: varint, primitives, map entry, centroid, packed runs,
  the name and tag records; WirePB2: the other records; WirePB3: metric, batch, parse.
-/
import SH.Lemmas.Wire
-- no proof uses `ring`. The import supplies `DecidableEq (Except …)` (Batteries), which two `decide` goals of Props/C13
-- need; and with Mathlib in scope `2 ^ n : Nat` elaborates through `Monoid.toNPow`, which is what the statements of
-- WirePB* and Props/C13 contain
import Mathlib.Tactic.Ring
namespace SH.Wire

theorem pbVarintGo_enc : ∀ (f i acc v : Nat) (r : Bytes), i + f = 10 → 1 ≤ f → v * 2 ^ (7 * i) < 2 ^ 64 →
    pbVarintGo i acc (pbEncVarint f v ++ r) = .ok (acc + v * 2 ^ (7 * i), r) := by
  intro f
  induction f with
  | zero => intro i acc v r _ h; omega
  | succ f ih =>
    intro i acc v r hi _ hv
    -- the tenth byte holds one bit
    have h9 : i ≥ 9 → v < 2 := by
      intro h
      have : i = 9 := by omega
      subst this
      omega
    by_cases h128 : v < 128
    · simp only [pbEncVarint, if_pos h128, List.singleton_append]
      unfold pbVarintGo
      by_cases hi9 : i ≥ 9
      · have : i = 9 := by omega
        subst this
        simp [h9 hi9]
      · simp [hi9, h128]
    · simp only [pbEncVarint, if_neg h128, List.cons_append]
      have hi9 : ¬ i ≥ 9 := fun h => h128 (Nat.lt_trans (h9 h) (by decide))
      unfold pbVarintGo
      have hy : ¬ (v % 128 + 128 < 128) := by omega
      simp only [hi9, hy, if_false]
      -- v = 128 · (v / 128) + v % 128, scaled by 2^(7i)
      have hpow : 2 ^ (7 * (i + 1)) = 2 ^ (7 * i) * 128 := Nat.pow_add 2 (7 * i) 7
      have key : v * 2 ^ (7 * i) = v / 128 * (2 ^ (7 * i) * 128) + v % 128 * 2 ^ (7 * i) := by
        rw [← Nat.mul_assoc, Nat.mul_right_comm, ← Nat.add_mul, Nat.mul_comm (v / 128), Nat.div_add_mod]
      rw [ih (i + 1) _ (v / 128) r (by omega) (by omega) (by rw [hpow]; omega), Nat.add_sub_cancel, hpow, key,
        Nat.add_assoc, Nat.add_comm (v % 128 * _)]

theorem pbVarint_enc (x : Nat) (r : Bytes) (hx : x < 2 ^ 64) : pbVarint (pbEncV x ++ r) = .ok (x, r) := by
  unfold pbVarint pbEncV
  have := pbVarintGo_enc 10 0 0 x r rfl (by decide) (by simpa using hx)
  simpa using this

theorem pbEncVarint_length_pos (f v : Nat) : 1 ≤ (pbEncVarint (f + 1) v).length :=
  length_pos_ite length_cons_pos length_cons_pos

theorem pbEncV_length_pos (x : Nat) : 1 ≤ (pbEncV x).length := pbEncVarint_length_pos 9 x

theorem pbEncVarint_length_le : ∀ (f y : Nat), (pbEncVarint f y).length ≤ f := by
  intro f; induction f with
  | zero => intro y; simp [pbEncVarint]
  | succ f ih =>
    intro y
    simp only [pbEncVarint]
    split
    · exact Nat.succ_le_succ (Nat.zero_le _)
    · have := ih (y / 128)
      rw [List.length_cons]
      omega

theorem pbEncV_length_le (x : Nat) : (pbEncV x).length ≤ 10 := pbEncVarint_length_le 10 x

theorem pbTag_enc (num typ : Nat) (r : Bytes) (h1 : 1 ≤ num) (h2 : num ≤ 2 ^ 28) (ht : typ < 8) :
    pbTag (pbEncTag num typ ++ r) = .ok ((num, typ), r) := by
  unfold pbTag pbEncTag
  rw [pbVarint_enc _ _ (by omega)]
  simp only []
  have a : (num * 8 + typ) / 8 = num := by omega
  have b : (num * 8 + typ) % 8 = typ := by omega
  rw [a, b, if_neg (by omega)]

theorem pbBytes_enc (d r : Bytes) (hd : d.length < 2 ^ 64) : pbBytes (pbEncV d.length ++ (d ++ r)) = .ok (d, r) := by
  unfold pbBytes
  rw [pbVarint_enc _ _ hd]
  simp only []
  rw [if_neg (by simp), List.take_left, List.drop_left]

theorem pbFixed64_enc (x : Nat) (r : Bytes) (hx : x < 2 ^ 64) : pbFixed64 (le 8 x ++ r) = .ok (x, r) :=
  fixedWidth_enc (n := 8) hx r

theorem pbEncTag_length_pos (num typ : Nat) : 1 ≤ (pbEncTag num typ).length := pbEncV_length_pos _

theorem pbEncTag_append_length_pos (num typ : Nat) (d : Bytes) : 1 ≤ (pbEncTag num typ ++ d).length := by
  rw [List.length_append]
  exact Nat.le_add_right_of_le (pbEncTag_length_pos num typ)

theorem pbEncLen_length_pos (num : Nat) (d : Bytes) : 1 ≤ (pbEncLen num d).length := by
  unfold pbEncLen
  have := pbEncTag_length_pos num 2
  simp only [List.length_append]
  omega

theorem pbEncLen_ne_nil (num : Nat) (d : Bytes) (t : Bytes) : pbEncLen num d ++ t ≠ [] :=
  append_ne_nil_of_length_pos (pbEncLen_length_pos num d)

theorem pbEncTag_append_ne_nil (n ty : Nat) (t : Bytes) : pbEncTag n ty ++ t ≠ [] :=
  append_ne_nil_of_length_pos (pbEncTag_length_pos n ty)

theorem pbTag_encLen (num : Nat) (d t : Bytes) (h1 : 1 ≤ num) (h2 : num ≤ 2 ^ 28) :
    pbTag (pbEncLen num d ++ t) = .ok ((num, 2), pbEncV d.length ++ (d ++ t)) := by
  unfold pbEncLen
  simp only [List.append_assoc]
  exact pbTag_enc num 2 _ h1 h2 (by decide)

theorem pbEntry_step1 (f : Nat) (kv : Bytes × Bytes) (s t : Bytes) (hs : s.length < 2 ^ 64) :
    pbEntry (f + 1) kv (pbEncLen 1 s ++ t) = pbEntry f (s, kv.2) t := by
  rw [pbEntry, if_neg (pbEncLen_ne_nil 1 s t), pbTag_encLen 1 s t (by decide) (by decide)]
  simp only [and_self, if_true]
  rw [pbBytes_enc s t hs]

theorem pbEntry_step2 (f : Nat) (kv : Bytes × Bytes) (s t : Bytes) (hs : s.length < 2 ^ 64) :
    pbEntry (f + 1) kv (pbEncLen 2 s ++ t) = pbEntry f (kv.1, s) t := by
  rw [pbEntry, if_neg (pbEncLen_ne_nil 2 s t), pbTag_encLen 2 s t (by decide) (by decide)]
  simp only []
  rw [if_neg (by decide), if_pos (by decide), pbBytes_enc s t hs]

theorem pbEntry_enc (k v : Bytes) (hk : k.length < 2 ^ 32) (hv : v.length < 2 ^ 32) :
    pbEntry ((pbEncLen 1 k ++ pbEncLen 2 v).length + 1) ([], []) (pbEncLen 1 k ++ pbEncLen 2 v) = .ok (k, v) := by
  have key := Stretch.one (pbEncLen_length_pos 1 k) fun f kv t => pbEntry_step1 f kv k t (Nat.lt_trans hk (by decide))
  have value := Stretch.one (pbEncLen_length_pos 2 v) fun f kv t => pbEntry_step2 f kv v t (Nat.lt_trans hv (by decide))
  obtain ⟨_, e⟩ := (key.append value).whole ([], [])
  exact e.trans rfl

theorem pbCentroid_step1 (f : Nat) (c : Nat × Nat) (x : Nat) (t : Bytes) (hx : x < 2 ^ 64) :
    pbCentroid (f + 1) c (pbEncTag 1 1 ++ le 8 x ++ t) = pbCentroid f (x, c.2) t := by
  rw [List.append_assoc]
  simp only [pbCentroid]
  rw [if_neg (pbEncTag_append_ne_nil 1 1 _), pbTag_enc 1 1 _ (by decide) (by decide) (by decide)]
  simp only [and_self, if_true]
  rw [pbFixed64_enc x t hx]

theorem pbCentroid_step2 (f : Nat) (c : Nat × Nat) (x : Nat) (t : Bytes) (hx : x < 2 ^ 64) :
    pbCentroid (f + 1) c (pbEncTag 2 1 ++ le 8 x ++ t) = pbCentroid f (c.1, x) t := by
  rw [List.append_assoc]
  simp only [pbCentroid]
  rw [if_neg (pbEncTag_append_ne_nil 2 1 _), pbTag_enc 2 1 _ (by decide) (by decide) (by decide)]
  simp only []
  rw [if_neg (by decide), if_pos (by decide), pbFixed64_enc x t hx]

/-- the payload of a histogram record in `pbEncMetric` -/
def pbEncCentroid (h : Nat × Nat) : Bytes :=
  (if h.1 = 0 then [] else pbEncTag 1 1 ++ le 8 h.1) ++ (if h.2 = 0 then [] else pbEncTag 2 1 ++ le 8 h.2)

theorem pbCentroid_enc (h : Nat × Nat) (h1 : h.1 < 2 ^ 64) (h2 : h.2 < 2 ^ 64) :
    pbCentroid ((pbEncCentroid h).length + 1) (0, 0) (pbEncCentroid h) = .ok h := by
  have value := Stretch.opt (h.1 = 0)
    (.one (pbEncTag_append_length_pos 1 1 _) fun f c t => pbCentroid_step1 f c h.1 t h1)
  have count := Stretch.opt (h.2 = 0)
    (.one (pbEncTag_append_length_pos 2 1 _) fun f c t => pbCentroid_step2 f c h.2 t h2)
  obtain ⟨_, e⟩ := (value.append count).whole (0, 0)
  refine e.trans ?_
  rw [pbCentroid, if_pos rfl]
  -- an omitted half is the zero the slot starts from
  obtain ⟨a, b⟩ := h
  by_cases ha : a = 0 <;> by_cases hb : b = 0 <;> simp [ha, hb]

theorem pbPackedF64_succ (f : Nat) (b : Bytes) :
    pbPackedF64 (f + 1) b = if b.length < 8 then [] else rdLE (b.take 8) :: pbPackedF64 f (b.drop 8) := rfl

theorem pbPackedF64_enc (xs : List Nat) (hx : ∀ x ∈ xs, x < 2 ^ 64) (k : Nat) :
    pbPackedF64 (k + xs.length) (catMap (le 8) xs) = xs := by
  induction xs with
  | nil => cases k <;> simp [pbPackedF64, catMap]
  | cons x xs ih =>
    have e : k + (x :: xs).length = (k + xs.length) + 1 := by simp; omega
    have hl : ¬ (le 8 x ++ catMap (le 8) xs).length < 8 := by simp [le_length]
    rw [e, catMap_cons, pbPackedF64_succ, if_neg hl, take_le_append, drop_le_append,
      rdLE_le_of_lt (hx x (by simp)), ih (fun y hy => hx y (by simp [hy]))]

theorem catMap_le8_length (xs : List Nat) : (catMap (le 8) xs).length = 8 * xs.length := by
  induction xs with
  | nil => rfl
  | cons x xs ih => simp only [catMap, List.length_append, le_length, ih, List.length_cons]; omega

theorem pbPackedVar_succ (f : Nat) (b : Bytes) :
    pbPackedVar (f + 1) b = if b = [] then ([], none) else
      match pbVarint b with
      | .error e => ([], some e)
      | .ok (x, r) => (x :: (pbPackedVar f r).1, (pbPackedVar f r).2) := rfl

theorem pbPackedVar_enc (xs : List Nat) (hx : ∀ x ∈ xs, x < 2 ^ 64) (k : Nat) :
    pbPackedVar (k + xs.length + 1) (catMap pbEncV xs) = (xs, none) := by
  induction xs with
  | nil => rw [pbPackedVar_succ]; simp [catMap]
  | cons x xs ih =>
    have e : k + (x :: xs).length + 1 = (k + xs.length + 1) + 1 := by simp; omega
    have hne : pbEncV x ++ catMap pbEncV xs ≠ [] := append_ne_nil_of_length_pos (pbEncV_length_pos x)
    rw [e, catMap_cons, pbPackedVar_succ, if_neg hne, pbVarint_enc x _ (hx x (by simp))]
    simp only []
    rw [ih (fun y hy => hx y (by simp [hy]))]

theorem pbMetric_step (v : Variant) (f : Nat) (m m' : Metric) (num typ : Nat) (b r t : Bytes)
    (hb : b ≠ []) (ht : pbTag b = .ok ((num, typ), r)) (hf : pbMetricField v m num typ r = .ok (m', t)) :
    pbMetric v (f + 1) m b = pbMetric v f m' t := by
  simp only [pbMetric]
  rw [if_neg hb, ht]
  simp only []
  rw [hf]

theorem pbTurn_name (v : Variant) (f : Nat) (m : Metric) (s t : Bytes) (hs : s.length < 2 ^ 32) :
    pbMetric v (f + 1) m (pbEncLen 1 s ++ t) = pbMetric v f { m with name := s } t := by
  apply pbMetric_step v f m _ 1 2 _ _ t (pbEncLen_ne_nil 1 s t) (pbTag_encLen 1 s t (by decide) (by decide))
  unfold pbMetricField
  rw [if_pos (by decide), pbBytes_enc s t (Nat.lt_trans hs (by decide))]
  rfl

/-- a tag record of `pbEncMetric` -/
def pbTagRec (kv : Bytes × Bytes) : Bytes := pbEncLen 2 (pbEncLen 1 kv.1 ++ pbEncLen 2 kv.2)

theorem pbTurn_tag (v : Variant) (f : Nat) (m : Metric) (kv : Bytes × Bytes) (t : Bytes)
    (hk : kv.1.length < 2 ^ 32) (hv : kv.2.length < 2 ^ 32) :
    pbMetric v (f + 1) m (pbTagRec kv ++ t)
      = pbMetric v f { m with tags := m.tags ++ [kv] } t := by
  have hd : (pbEncLen 1 kv.1 ++ pbEncLen 2 kv.2).length < 2 ^ 64 := by
    unfold pbEncLen pbEncTag
    simp only [List.length_append]
    have := pbEncV_length_le
    have h1 := this (1 * 8 + 2)
    have h2 := this kv.1.length
    have h3 := this (2 * 8 + 2)
    have h4 := this kv.2.length
    omega
  apply pbMetric_step v f m _ 2 2 _ _ t (pbEncLen_ne_nil 2 _ t) (pbTag_encLen 2 _ t (by decide) (by decide))
  unfold pbMetricField
  rw [if_neg (by decide), if_pos (by decide), pbBytes_enc _ t hd]
  simp only []
  rw [pbEntry_enc kv.1 kv.2 hk hv]

end SH.Wire
