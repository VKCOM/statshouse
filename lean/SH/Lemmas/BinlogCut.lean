/-
  SH.Lemmas.BinlogCut — records cut by a truncation and the replay of a chunk cut anywhere (its later chunks removed), for Props/C18.
  Defines `NoRotR` and the counts of complete events `complete`, `completeC`.
-/
import SH.Lemmas.BinlogSim
open SH.Binlog
namespace SH.C18

theorem rd32_take {b : Bytes} {t : Nat} (h : 4 ≤ t) : rd32 (b.take t) = rd32 b := by
  obtain ⟨t, rfl⟩ := Nat.exists_eq_add_of_le' h
  match b with
  | [] => rfl
  | [_] => rfl
  | [_, _] => rfl
  | [_, _, _] => rfl
  | _ :: _ :: _ :: _ :: _ => rfl

/-- a record of `n` bytes whose reader first asks for all `n` (crc record, ROTATE_TO), cut before its end: the loop stops (EOF) -/
theorem step_cut_rec (cfg : Cfg) (s : RS) (p : Nat) (c : UInt32) (rec : Bytes) (k : Kind) (X : RS → Step) (t n : Nat) (ht : t < n)
    (hn : rec.length = n) (hk : kindOf (rd32 rec) = k)
    (hX : ∀ s0, stepKind cfg s0 k = if atLeast s0.rest n = true then X s0 else .eof s0) (h : At s p c (rec.take t)) :
    ∃ s', readStep cfg s = .eof s' ∧ s'.eng.evs = s.eng.evs := by
  have hl : (rec.take t).length = t := by rw [List.length_take, hn]; omega
  by_cases h4 : 4 ≤ t
  · have an : atLeast (preCommit s).rest n = false := by
      rw [Bool.eq_false_iff, ne_eq, atLeast_iff, pre_rest, h.hrest, hl]; omega
    refine ⟨preCommit s, ?_, pre_evs s⟩
    rw [readStep_kind cfg (by rw [h.hrest, hl]; exact h4), h.hrest, rd32_take h4, hk, hX, an]
    rfl
  · exact ⟨_, readStep_short cfg (by rw [h.hrest, hl]; exact Nat.lt_of_not_le h4), pre_evs s⟩

theorem step_cut_crc (cfg : Cfg) (s : RS) (p : Nat) (c : UInt32) (ts q : Nat) (c' : UInt32) (t : Nat) (ht : t < 20)
    (h : At s p c ((encCrc ts q c').take t)) : ∃ s', readStep cfg s = .eof s' ∧ s'.eng.evs = s.eng.evs := by
  have hk := rd32_crc_magic ts q c' []
  rw [List.append_nil] at hk
  exact step_cut_rec cfg s p c _ .crc _ t 20 ht (encCrc_length ..) (by rw [hk]; decide) (fun _ => rfl) h

theorem step_cut_rotTo (cfg : Cfg) (s : RS) (p : Nat) (c : UInt32) (ts np : Nat) (c' : UInt32) (a b : Nat) (t : Nat) (ht : t < 36)
    (h : At s p c ((encRotTo ts np c' a b).take t)) : ∃ s', readStep cfg s = .eof s' ∧ s'.eng.evs = s.eng.evs :=
  step_cut_rec cfg s p c _ .rotTo _ t 36 ht (encRotTo_length ..) (by rw [rd32_rotTo]; decide) (fun _ => rfl) h

theorem read_rotTo_cut (cfg : Cfg) (s : RS) (p : Nat) (c : UInt32) (ts np : Nat) (c' : UInt32) (a b : Nat) (t f : Nat)
    (h : At s p c ((encRotTo ts np c' a b).take t)) :
    (readLoop cfg (f + 1) s).err = none ∧ (readLoop cfg (f + 1) s).s.eng.evs = s.eng.evs := by
  by_cases h36 : 36 ≤ t
  · rw [List.take_of_length_le (by rw [encRotTo_length]; exact h36)] at h
    obtain ⟨s2, st2, -, ev2⟩ := step_rotTo cfg s p c ts np c' a b h
    rw [readLoop_rotated _ st2, commit_evs, ev2]
    exact ⟨rfl, rfl⟩
  · obtain ⟨s2, st2, ev2⟩ := step_cut_rotTo cfg s p c ts np c' a b t (by omega) h
    rw [readLoop_eof _ st2, commit_evs, ev2]
    exact ⟨rfl, rfl⟩

theorem engApply_cut (m sl : Nat) (b : Bytes) (t : Nat) (hm : m < 4294967296) (hb : b.length < 4294967296)
    (h4 : 4 ≤ t) (ht : t < pad4 (8 + b.length)) (hsl : sl = t % 4) :
    engApply m sl ((padded (encEvent m b)).take t) = .notEnough := by
  have hl : ((padded (encEvent m b)).take t).length = t := by simp; omega
  have hmag : rd32 ((padded (encEvent m b)).take t) = m := by
    rw [rd32_take h4]; have := rd32_event m hm b []; simpa using this
  unfold engApply
  rw [hmag]
  simp only [ne_eq, not_true_eq_false, if_false]
  by_cases h8 : atLeast ((padded (encEvent m b)).take t) (8 + sl) = true
  · have ht8 : 8 + sl ≤ t := by rw [atLeast_iff, hl] at h8; exact h8
    have hn : rd32 (((padded (encEvent m b)).take t).drop 4) = b.length := by
      rw [List.drop_take, rd32_take (by omega)]
      have := rd32_event_len m b [] hb; simpa using this
    have hno : atLeast ((padded (encEvent m b)).take t) (8 + b.length + sl) = false := by
      rw [Bool.eq_false_iff]; intro hh; rw [atLeast_iff, hl] at hh
      have := pad4_lt (8 + b.length); have := pad4_mod (8 + b.length); omega
    simp [h8, hn, hno]
  · simp [h8]

/-- an event cut before the end of its padding: `Engine.Apply` answers NotEnoughData, the loop stops, nothing is delivered -/
theorem step_cut_event (cfg : Cfg) (hm : cfg.evMagic < 4294967296) (hsvc : cfg.evMagic ∉ serviceMagics) (s : RS) (p : Nat) (c : UInt32)
    (b : Bytes) (hb : b.length < 4294967296) (t : Nat) (ht : t < pad4 (8 + b.length))
    (h : At s p c ((padded (encEvent cfg.evMagic b)).take t)) :
    ∃ s', readStep cfg s = .eof s' ∧ s'.eng.evs = s.eng.evs := by
  have hl : ((padded (encEvent cfg.evMagic b)).take t).length = t := by simp; omega
  by_cases h4 : 4 ≤ t
  · have hk : kindOf (rd32 s.rest) = .user := by
      have := rd32_event cfg.evMagic hm b []
      simp at this
      rw [h.hrest, rd32_take h4, this]
      exact kindOf_user hsvc
    have hsl : s.slack = t % 4 := by rw [h.hslack, hl]
    have hea := engApply_cut cfg.evMagic s.slack b t hm hb h4 ht hsl
    rw [← h.hrest] at hea
    have hsl2 : atLeast s.rest s.slack = true := by rw [atLeast_iff, h.hrest, hl, hsl]; omega
    rw [readStep_kind cfg (by rw [h.hrest, hl]; exact h4), hk]
    simp only [stepKind, applyStep, pre_rest, pre_dk, h.hdk, Bool.false_eq_true, if_false,
      pre_slack, hea, pre_off, pre_pos, h.hoff, h.hpos, Int.lt_irrefl, Int.sub_self, Int.toNat_zero, Nat.zero_add, hsl2, Bool.not_true]
    exact ⟨_, rfl, by simp [RS.advance]⟩
  · exact ⟨_, readStep_short cfg (by rw [h.hrest, hl]; exact Nat.lt_of_not_le h4), pre_evs s⟩

/-- `NoRotate` for `Ap`: the run stays in one chunk -/
def NoRotR (cfg : Cfg) (w : WS) : List Ap → Prop
  | [] => True
  | a :: as => rotates cfg w a = false ∧ NoRotR cfg (apNext cfg w a) as

/-- number of events that are complete (with their padding) in the first `t` bytes of what the appends wrote; a crc record that
    is cut ends the replay -/
def complete (cfg : Cfg) (w : WS) : List Ap → Nat → Nat
  | [], _ => 0
  | a :: as, t =>
    if pad4 (8 + a.body.length) ≤ t then
      (if (apA cfg w a).length ≤ t then complete cfg (apNext cfg w a) as (t - (apA cfg w a).length) + 1 else 1)
    else 0

/-- events of the CURRENT chunk that are complete in its first `t` bytes (the chunk ends with the append that rotates) -/
def completeC (cfg : Cfg) (w : WS) : List Ap → Nat → Nat
  | [], _ => 0
  | a :: as, t =>
    if pad4 (8 + a.body.length) ≤ t then
      (if (apA cfg w a).length ≤ t then
        (if rotates cfg w a then 0 else completeC cfg (apNext cfg w a) as (t - (apA cfg w a).length)) + 1
       else 1)
    else 0

theorem complete_eq_completeC (cfg : Cfg) : ∀ (as : List Ap) (w : WS) (t : Nat), NoRotR cfg w as →
    complete cfg w as t = completeC cfg w as t
  | [], _, _, _ => rfl
  | a :: as, w, t, h => by
    simp only [complete, completeC, h.1, Bool.false_eq_true, if_false]
    rw [complete_eq_completeC cfg as _ _ h.2]

theorem completeC_ge {cfg : Cfg} {w : WS} {a : Ap} {t : Nat} (h : (apA cfg w a).length ≤ t) (as : List Ap) :
    completeC cfg w (a :: as) t
      = (if rotates cfg w a then 0 else completeC cfg (apNext cfg w a) as (t - (apA cfg w a).length)) + 1 := by
  rw [completeC, if_pos (Nat.le_trans (apA_pad_le cfg w a) h), if_pos h]

theorem completeC_lt {cfg : Cfg} {w : WS} {a : Ap} {t : Nat} (h : ¬ (apA cfg w a).length ≤ t) (as : List Ap) :
    completeC cfg w (a :: as) t = if pad4 (8 + a.body.length) ≤ t then 1 else 0 := by
  rw [completeC, if_neg h]

theorem offsR_take_succ (cfg : Cfg) (w : WS) (a : Ap) (as : List Ap) (n : Nat) (evs : List (Int × Bytes)) :
    ((offsR cfg w (a :: as)).take (n + 1)).reverse ++ evs
      = ((offsR cfg (apNext cfg w a) as).take n).reverse ++ (((w.offG : Int), encEvent cfg.evMagic a.body) :: evs) := by
  rw [offsR, List.take_succ_cons, List.reverse_cons, List.append_assoc, List.singleton_append]

theorem read_A_cut (cfg : Cfg) (hm : cfg.evMagic < 4294967296) (hsvc : cfg.evMagic ∉ serviceMagics) (w : WS) (a : Ap)
    (as : List Ap) (hb : a.body.length < 4294967296) (s : RS) (X : Bytes) (t fuel : Nat) (ht : ¬ (apA cfg w a).length ≤ t)
    (hf : 2 ≤ fuel) (h : At s w.offG w.crc ((apA cfg w a ++ X).take t)) :
    (readLoop cfg fuel s).err = none ∧
    (readLoop cfg fuel s).s.eng.evs
      = ((offsR cfg w (a :: as)).take (if pad4 (8 + a.body.length) ≤ t then 1 else 0)).reverse ++ s.eng.evs := by
  obtain ⟨f, rfl⟩ := Nat.exists_eq_add_of_le' hf
  rw [List.take_append_of_le_length (by omega)] at h
  by_cases h2 : pad4 (8 + a.body.length) ≤ t
  · -- the event is complete, its crc record is cut
    obtain ⟨-, -, ⟨hA, -⟩ | ⟨q, hA, -⟩⟩ := apMid_cases cfg w a
    · exact absurd (by rw [hA, padded_length, encEvent_length]; exact h2) ht
    · rw [hA] at h ht
      rw [List.length_append, padded_length, encEvent_length, encCrc_length] at ht
      rw [List.take_append, List.take_of_length_le (by rw [padded_length, encEvent_length]; exact h2), padded_length,
        encEvent_length] at h
      obtain ⟨s1, st1, at1, ev1⟩ := step_event cfg hm hsvc s w.offG w.crc a.body _ hb h
      obtain ⟨s2, st2, ev2⟩ := step_cut_crc cfg s1 _ _ _ q _ (t - pad4 (8 + a.body.length)) (by omega) at1
      rw [readLoop_cont _ st1, readLoop_eof _ st2, if_pos h2, commit_evs, ev2, ev1]
      exact ⟨rfl, rfl⟩
  · -- the event itself is cut
    rw [apA, List.take_append_of_le_length (by rw [padded_length, encEvent_length]; omega)] at h
    obtain ⟨s1, st1, ev1⟩ := step_cut_event cfg hm hsvc s w.offG w.crc a.body hb t (by omega) h
    rw [readLoop_eof _ st1, if_neg h2, commit_evs, ev1]
    exact ⟨rfl, rfl⟩

/-- what follows the event/crc bytes of the first append in its chunk -/
def chunkTail (cfg : Cfg) (w : WS) (a : Ap) (as : List Ap) : Bytes :=
  if rotates cfg w a then apRT cfg w a else (layoutC cfg (apNext cfg w a) as ([], [])).1

theorem layout_head (cfg : Cfg) (w : WS) (a : Ap) (as : List Ap) :
    (layoutC cfg w (a :: as) ([], [])).1 = apA cfg w a ++ chunkTail cfg w a as := by
  simp only [layoutC, chunkTail]; split <;> rfl

theorem read_chunk_cut (cfg : Cfg) (hm : cfg.evMagic < 4294967296) (hsvc : cfg.evMagic ∉ serviceMagics) :
    ∀ (as : List Ap) (w : WS) (s : RS) (t fuel : Nat),
      (∀ a ∈ as, a.body.length < 4294967296) →
      At s w.offG w.crc ((layoutC cfg w as ([], [])).1.take t) → t / 4 + 2 ≤ fuel →
      (readLoop cfg fuel s).err = none ∧
      (readLoop cfg fuel s).s.eng.evs = ((offsR cfg w as).take (completeC cfg w as t)).reverse ++ s.eng.evs := by
  intro as
  induction as with
  | nil =>
    intro w s t fuel _ h hf
    obtain ⟨f, rfl⟩ : ∃ f, fuel = f + 1 := ⟨fuel - 1, by omega⟩
    rw [show (layoutC cfg w [] ([], [])).1.take t = [] from List.take_nil] at h
    obtain ⟨e1, -, e3, -⟩ := readLoop_end cfg f h
    exact ⟨e1, e3⟩
  | cons a as ih =>
    intro w s t fuel hsz h hf
    have hb := hsz a (List.mem_cons_self ..)
    rw [layout_head] at h
    by_cases h1 : (apA cfg w a).length ≤ t
    · rw [List.take_append, List.take_of_length_le h1] at h
      obtain ⟨k, s1, -, hk8, hloop, at1, ev1⟩ := read_A cfg hm hsvc w a hb s _ h
      obtain ⟨f0, rfl, hf0⟩ := fuel_split hk8 (by rw [Nat.add_sub_cancel' h1]; exact hf)
      rw [completeC_ge h1, offsR_take_succ, ← ev1, hloop]
      cases hr : rotates cfg w a with
      | true =>
        rw [chunkTail, if_pos hr, apRT] at at1
        obtain ⟨f, rfl⟩ := Nat.exists_eq_add_of_le' (Nat.le_trans (Nat.le_add_left 1 _) hf0)
        rw [if_pos rfl]
        exact read_rotTo_cut cfg s1 _ _ _ _ _ _ _ _ f at1
      | false =>
        simp only [chunkTail, hr, Bool.false_eq_true, if_false] at at1 ⊢
        rw [← (apNext_noRot hr).1, ← (apNext_noRot hr).2.1] at at1
        exact ih (apNext cfg w a) s1 (t - (apA cfg w a).length) f0 (fun a' h' => hsz a' (List.mem_cons_of_mem _ h')) at1 hf0
    · rw [completeC_lt h1]
      exact read_A_cut cfg hm hsvc w a as hb s _ t fuel h1 (Nat.le_trans (Nat.le_add_left 2 _) hf) h

end SH.C18
