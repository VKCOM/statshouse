/-
  SH.Lemmas.PromWindow — the window cursor on a uniform time grid, as the instance L r = r + 1 − k of the general cursor
  theorem of SH.Lemmas.PromWindowG: every over-time function is evaluated on exactly the `k` points its range selects
  (`kSpec`: ⌈w/s⌉ points when not strict, ⌊w/s⌋ when strict); `window_timestamps(_strict)` say which timestamps those are.
-/
import SH.Lemmas.PromWindowG
import Mathlib.Tactic.Ring

namespace SH.PromWindow
open SH.PromEval SH.PromWindowG

/-- `k` = number of grid points the range selects: not strict → the narrowest window at least `w` wide (⌈w/s⌉ points),
    strict → the widest window not wider than `w` (⌊w/s⌋ points, at least one) -/
def kSpec (strict : Bool) (w s : Int) (k : Nat) : Prop :=
  1 ≤ k ∧ 0 < s ∧ (if strict then (k : Int) * s ≤ w ∧ w < ((k : Int) + 1) * s else ((k : Int) - 1) * s < w ∧ w ≤ (k : Int) * s)

def uniform (t : List Int) (t0 s : Int) : Prop := ∀ i, i < t.length → tAt t i = t0 + (i : Int) * s

theorem uniform_sub {t : List Int} {t0 s : Int} (hg : uniform t t0 s) (a b : Nat) (ha : a < t.length) (hb : b < t.length) :
    tAt t a - tAt t b = ((a : Int) - (b : Int)) * s := by
  rw [hg a ha, hg b hb]
  ring

/-- not strict: k = ⌈w/s⌉ -/
theorem kSpec_ceil {w s : Int} {k : Nat} (hk : kSpec false w s k) (j : Int) : w ≤ j * s ↔ (k : Int) ≤ j := by
  obtain ⟨_, hs0, hlo, hhi⟩ := hk
  exact ⟨fun h => Int.sub_one_lt_iff.mp (lt_of_mul_lt_mul_right (hlo.trans_le h) hs0.le),
    fun h => hhi.trans (mul_le_mul_of_nonneg_right h hs0.le)⟩

/-- strict: k = ⌊w/s⌋ -/
theorem kSpec_floor {w s : Int} {k : Nat} (hk : kSpec true w s k) (j : Int) : j * s ≤ w ↔ j ≤ (k : Int) := by
  obtain ⟨_, hs0, hlo, hhi⟩ := hk
  exact ⟨fun h => Int.lt_add_one_iff.mp (lt_of_mul_lt_mul_right (h.trans_lt hhi) hs0.le),
    fun h => (mul_le_mul_of_nonneg_right h hs0.le).trans hlo⟩

/-- one point of the grid is never wider than the range when the function is strict (k ≥ 1 points fit) -/
theorem kSpec_not_narrow {strict : Bool} {w s : Int} {k : Nat} (hk : kSpec strict w s k) :
    (strict && decide (w < s)) = false := by
  cases strict with
  | false => rfl
  | true =>
    have := (kSpec_floor hk 1).mpr (by exact_mod_cast hk.1)
    exact decide_eq_false (by linarith)

theorem kSpec_w_pos {strict : Bool} {w s : Int} {k : Nat} (hk : kSpec strict w s k) : 0 < w := by
  have hs0 := hk.2.1
  cases strict with
  | false =>
    have := (kSpec_ceil hk 0).not.mpr (by have := hk.1; omega)
    linarith
  | true =>
    have := (kSpec_floor hk 1).mpr (by exact_mod_cast hk.1)
    linarith

/-- on a uniform grid the cursor's test at `l` asks whether the window l … r has at least `k` points -/
theorem wideAt_uniform {t : List Int} {t0 s w : Int} {strict : Bool} {k : Nat} (hg : uniform t t0 s) (hk : kSpec strict w s k)
    (r l : Nat) (hl : 1 ≤ l) (hlr : l ≤ r) (hr : r < t.length) : wideAt t w strict s r l = decide (l ≤ r + 1 - k) := by
  have hs0 := hk.2.1
  have e1 : tAt t r - tAt t l + s = ((r : Int) - (l : Int) + 1) * s := by
    rw [uniform_sub hg r l hr (by omega)]
    ring
  have e2 : tAt t r - tAt t (l - 1) + s = ((r : Int) - (l : Int) + 1 + 1) * s := by
    rw [uniform_sub hg r (l - 1) hr (by omega), Nat.cast_sub hl]
    ring
  unfold wideAt
  rw [e1, e2, Bool.eq_iff_iff, decide_eq_true_eq]
  cases strict with
  | false =>
    rw [Bool.false_and, Bool.or_false, decide_eq_true_eq, kSpec_ceil hk]
    omega
  | true =>
    rw [Bool.true_and, Bool.or_eq_true, decide_eq_true_eq, decide_eq_true_eq, ← not_le, kSpec_floor hk]
    constructor
    · rintro (h | h)
      · have := (kSpec_floor hk k).mpr (le_refl _)
        have := (mul_le_mul_iff_of_pos_right hs0).mp (this.trans h)
        omega
      · omega
    · intro h
      exact Or.inr (by omega)

structure Ctx where
  t : List Int
  t0 : Int
  s : Int
  w : Int
  strict : Bool
  k : Nat
  hg : uniform t t0 s
  hk : kSpec strict w s k

/-- the uniform grid as an instance of the general cursor theorem: constant bucket width, left edge r + 1 − k -/
def Ctx.toG (c : Ctx) : GCtx where
  t := c.t
  w := c.w
  strict := c.strict
  sOf := fun _ => c.s
  L := fun r => r + 1 - c.k
  hw := kSpec_w_pos c.hk
  hL := fun r => by
    have := c.hk.1
    omega
  hwide := wideAt_uniform c.hg c.hk
  hmono := fun r _ => by omega
  hstep := fun r h1 hr => by
    rw [uniform_sub c.hg r (r - 1) hr (by omega), Nat.cast_sub h1]
    ring
  hnarrow := fun _ _ => kSpec_not_narrow c.hk

/-- **the cursor-driven evaluation on a uniform grid**: point `i` carries the function of the `k` points ending at `i`
    (the nil value when none of them is present); the first `k` points (no complete window right of the guard point at
    index 0) are missing. -/
theorem overTimeWith_uniform (c : Ctx) (fn : List Val → Val) (nilV : Val) (orig : List Val) (hN : orig.length = c.t.length)
    (i : Nat) (hi : i < c.t.length) :
    (overTimeWith c.t c.w c.s c.strict fn nilV orig).getD i none =
      if i < c.k then none
      else if (present (slice orig (i + 1 - c.k) i)).length = 0 then nilV
      else fn (slice orig (i + 1 - c.k) i) := by
  have hk1 := c.hk.1
  have h : i + 1 - c.k = 0 ↔ i < c.k := by omega
  rw [← if_congr h rfl rfl]
  exact overTimeWith_general c.toG fn nilV orig hN i hi

theorem overTimeWith_length (c : Ctx) (fn : List Val → Val) (nilV : Val) (orig : List Val) (hN : orig.length = c.t.length)
    (hN1 : 1 ≤ c.t.length) : (overTimeWith c.t c.w c.s c.strict fn nilV orig).length = c.t.length :=
  (length_overTimeWith ..).trans hN

/-- not strict: the points `j ≤ i` of the window are exactly those with timestamp in (t_i − w, t_i] -/
theorem window_timestamps (t : List Int) (t0 s w : Int) (k : Nat) (hg : uniform t t0 s) (hk : kSpec false w s k)
    (i j : Nat) (hji : j ≤ i) (hi : i < t.length) : (i + 1 - k ≤ j) ↔ tAt t i - w < tAt t j := by
  have hc := kSpec_ceil hk ((i : Int) - (j : Int))
  rw [← uniform_sub hg i j hi (by omega)] at hc
  rw [sub_lt_comm, ← not_le, hc]
  omega

/-- strict: the points of the window are exactly those whose whole bucket [t_j, t_j + s) lies inside the range ending at
    t_i + s, i.e. t_j ≥ t_i + s − w; for a range that is a multiple of the step this is again (t_i − w, t_i] -/
theorem window_timestamps_strict (t : List Int) (t0 s w : Int) (k : Nat) (hg : uniform t t0 s) (hk : kSpec true w s k)
    (i j : Nat) (hji : j ≤ i) (hi : i < t.length) : (i + 1 - k ≤ j) ↔ tAt t i + s - w ≤ tAt t j := by
  have hf := kSpec_floor hk ((i : Int) - (j : Int) + 1)
  rw [add_one_mul, ← uniform_sub hg i j hi (by omega)] at hf
  rw [sub_le_comm, add_sub_right_comm, hf]
  omega

end SH.PromWindow
