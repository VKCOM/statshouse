/-
  SH.Lemmas.Table — the loops of limitQueries and getTableFromLODs (property C25, model SH.Model.Table).
  The row lists of one handler-what: `storedRows` (all the storage returned) ⊇ `candRows` (the rows inside the window,
  `windowRows` per answer, of the LODs that are not skipped) ⊇ `pageRows` (its first `limit` rows); `passRows` is what a
  pass hands to the row loop: a subsequence of `candRows` for every variant, `pageRows` for the fixed code when row times
  are ≥ 0 (`whatLoop_page`). The fixed limitQueries is filter-then-take (`limitQueries_fixed`). `whatLoop_ind` is the one
  induction over the handler-whats and the only place that unfolds `whatLoop`; `whatLoop_keys` and `whatLoop_page` use it.
-/
import SH.Model.Table
import SH.Lemmas.Lists

namespace SH.C25
open SH.Table

/-- the storage answers of one handler-what, one per LOD (`none` = loadPoints returned an error). The loops (`passRows`,
    `candRows`, `pageRows`) walk the list as given, i.e. in visiting order; the storage predicates (`TimeOrdered`,
    `VisitSorted`, `InLod`, `StorageContract`) take it in ascending LOD order and apply `dir` themselves. -/
abbrev Answers := List (Lod × Option (List (List Row)))
/-- per handler-what: columns and answers -/
abbrev Todo := List (List Nat × Answers)

theorem scanRows_fixed (w : Win) : ∀ (g : List Row) (n : Nat),
    scanRows .fixed w n g =
      ((g.filter (inRange w)).take n, decide (n < (g.filter (inRange w)).length), n - (g.filter (inRange w)).length) := by
  intro g
  induction g with
  | nil => intro n; simp [scanRows]
  | cons r rs ih =>
    intro n
    by_cases h : inRange w r = true
    · cases n with
      | zero => simp [scanRows, limitFirst, h]
      | succ m =>
        simp only [scanRows, limitFirst, h, List.filter_cons]
        simp [ih m]
    · simp only [Bool.not_eq_true] at h
      simp [scanRows, limitFirst, h, ih n]

theorem scanGroups_fixed (w : Win) (gs : List (List Row)) (n : Nat) :
    scanGroups .fixed w n gs =
      ((gs.flatten.filter (inRange w)).take n, decide (n < (gs.flatten.filter (inRange w)).length)) := by
  fun_induction scanGroups .fixed w n gs
  · simp
  · rename_i h _
    simp [skipsGroups] at h
  · rename_i n g gs _ t hm
    simp only [t, scanRows_fixed, decide_eq_true_eq] at hm ⊢
    rw [List.flatten_cons, List.filter_append, List.length_append, List.take_append_of_le_length (Nat.le_of_lt hm)]
    exact congrArg _ (decide_eq_true (Nat.lt_of_lt_of_le hm (Nat.le_add_right _ _))).symm
  · rename_i n g gs _ t hm u ih
    simp only [t, u, scanRows_fixed, decide_eq_true_eq, Nat.not_lt] at hm ih ⊢
    rw [ih, List.flatten_cons, List.filter_append, List.length_append, List.take_append, List.take_of_length_le hm]
    exact congrArg _ (decide_eq_decide.2 (by omega))

/-- the rows of one storage answer that lie in the requested window, in visiting order -/
def windowRows (w : Win) (groups : List (List Row)) : List Row := (dir w.fromEnd groups).flatten.filter (inRange w)

theorem limitQueries_fixed (w : Win) (groups : List (List Row)) (limit : Int) :
    limitQueries .fixed w groups limit =
      ((windowRows w groups).take limit.toNat, decide (limit.toNat < (windowRows w groups).length)) := by
  simp [limitQueries, scanGroups_fixed, windowRows]

theorem scanRows_sublist (v : Variant) (w : Win) (n : Nat) (g : List Row) :
    (scanRows v w n g).1.Sublist (g.filter (inRange w)) := by
  fun_induction scanRows v w n g
  · exact List.Sublist.refl _
  · exact List.nil_sublist _
  · rename_i hx _ ih
    rw [List.filter_cons_of_pos hx]
    exact ih.cons_cons _
  · rename_i hx ih
    rwa [List.filter_cons_of_neg hx]
  · exact List.nil_sublist _
  · rename_i hx _ _ ih
    rw [List.filter_cons_of_pos hx]
    exact ih.cons_cons _
  · rename_i hx ih
    rwa [List.filter_cons_of_neg hx]

theorem scanGroups_sublist (v : Variant) (w : Win) (n : Nat) (gs : List (List Row)) :
    (scanGroups v w n gs).1.Sublist (gs.flatten.filter (inRange w)) := by
  fun_induction scanGroups v w n gs
  · exact List.Sublist.refl _
  all_goals rw [List.flatten_cons, List.filter_append]
  · rename_i ih
    exact ih.trans (List.sublist_append_right _ _)
  · exact (scanRows_sublist _ _ _ _).trans (List.sublist_append_left _ _)
  · rename_i ih
    exact (scanRows_sublist _ _ _ _).append ih

theorem limitQueries_sublist (v : Variant) (w : Win) (groups : List (List Row)) (limit : Int) :
    (limitQueries v w groups limit).1.Sublist (windowRows w groups) := by
  unfold limitQueries
  split
  · split
    · exact List.nil_sublist _
    · exact scanGroups_sublist _ _ _ _
  · exact scanGroups_sublist _ _ _ _

theorem mem_dir {α} (fe : Bool) (l : List α) (x : α) : x ∈ dir fe l ↔ x ∈ l := by
  unfold dir
  split <;> simp

theorem mem_windowRows (w : Win) (groups : List (List Row)) (r : Row) :
    r ∈ windowRows w groups ↔ (∃ g ∈ groups, r ∈ g) ∧ inRange w r = true := by
  simp only [windowRows, List.mem_filter, List.mem_flatten, mem_dir]

def keysOf (out : List ORow) : List Key := out.map (·.key)

theorem hasKey_iff (out : List ORow) (k : Key) : hasKey out k = true ↔ k ∈ keysOf out := by
  simp [hasKey, keysOf, List.any_eq_true]

theorem keys_addRow (pad : Nat) (cols : List Nat) (out : List ORow) (r : Row) :
    keysOf (addRow pad cols out r) = if hasKey out r.key then keysOf out else keysOf out ++ [r.key] := by
  unfold addRow
  split
  · simp only [keysOf, List.map_map]
    apply List.map_congr_left
    intro o _
    simp only [Function.comp]
    split <;> rfl
  · simp [keysOf]

theorem mem_keys_addRow (pad : Nat) (cols : List Nat) (out : List ORow) (r : Row) (k : Key) :
    k ∈ keysOf (addRow pad cols out r) ↔ k ∈ keysOf out ∨ k = r.key := by
  rw [keys_addRow]
  split
  · rename_i hk
    exact ⟨Or.inl, fun h => h.elim id (fun e => e ▸ (hasKey_iff _ _).1 hk)⟩
  · simp

theorem mem_keys_fold (pad : Nat) (cols : List Nat) : ∀ (rows : List Row) (out : List ORow) (k : Key),
    k ∈ keysOf (rows.foldl (addRow pad cols) out) ↔ k ∈ keysOf out ∨ k ∈ rows.map (·.key) := by
  intro rows
  induction rows with
  | nil => intro out k; simp
  | cons r rs ih =>
    intro out k
    simp only [List.foldl_cons, ih, mem_keys_addRow, List.map_cons, List.mem_cons, or_assoc]

theorem nodup_keys_fold (pad : Nat) (cols : List Nat) (rows : List Row) (out : List ORow)
    (h : (keysOf out).Nodup) : (keysOf (rows.foldl (addRow pad cols) out)).Nodup := by
  refine List.foldlRecOn (motive := fun out => (keysOf out).Nodup) rows _ h (fun out h r _ => ?_)
  rw [keys_addRow]
  split
  · exact h
  · rename_i hk
    exact List.nodup_append.2 ⟨h, List.pairwise_singleton _ _, fun a ha b hb e =>
      hk ((hasKey_iff _ _).2 (by rw [← List.mem_singleton.1 hb, ← e]; exact ha))⟩

theorem keys_endPass (v : Variant) (cols : List Nat) (out : List ORow) : keysOf (endPass v cols out) = keysOf out := by
  simp only [keysOf, endPass, List.map_map]
  apply List.map_congr_left
  intro o _
  simp only [Function.comp]
  split <;> rfl

/-- ghost: the storage rows that one pass of the LOD loop hands to the row loop body, in order (the model's `passBatches`
    without the batch boundaries: `passRows_eq_flatten`) -/
def passRows (v : Variant) (q : Req) : List (Lod × Option (List (List Row))) → Nat → List Row
  | [], _ => []
  | (l, ans) :: rest, cnt =>
    if lodSkipped q l then passRows v q rest cnt
    else match ans with
      | none => []
      | some groups =>
        let lq := limitQueries v q.win groups (q.limit - cnt)
        let rows := lq.1.filter (fun r => !timeSkipped q r)
        if lq.2 then rows else rows ++ passRows v q rest (cnt + rows.length)

theorem passRows_eq_flatten (v : Variant) (q : Req) (answers : Answers) (cnt : Nat) :
    passRows v q answers cnt = (passBatches v q answers cnt).flatten := by
  fun_induction passRows v q answers cnt
  · rfl
  · rename_i hs ih
    simp only [passBatches, hs, if_true, ih]
  · rename_i hs
    simp only [passBatches, hs, Bool.false_eq_true, if_false, List.flatten_nil]
  · rename_i hs _ lq rows hm
    simp only [passBatches, hs, Bool.false_eq_true, if_false]
    rw [if_pos hm, List.flatten_cons, List.flatten_nil, List.append_nil]
  · rename_i hs _ lq rows hm ih
    simp only [passBatches, hs, Bool.false_eq_true, if_false]
    rw [if_neg hm, List.flatten_cons, ← ih]

theorem lodLoop_eq_fold (v : Variant) (q : Req) (pad : Nat) (cols : List Nat)
    (answers : Answers) (cnt : Nat) (out : List ORow) (res : List ORow × Bool)
    (he : lodLoop v q pad cols answers cnt out = some res) :
    res.1 = (passRows v q answers cnt).foldl (addRow pad cols) out := by
  fun_induction lodLoop v q pad cols answers cnt out
  · cases he
    rfl
  · rename_i hs ih
    simp only [passRows, hs, if_true]
    exact ih he
  · cases he
  · rename_i hs _ _ _ _ hm
    cases he
    simp only [passRows, hs, Bool.false_eq_true, if_false]
    rw [if_pos hm]
  · rename_i hs _ _ _ _ hm ih
    simp only [passRows, hs, Bool.false_eq_true, if_false]
    rw [if_neg hm, List.foldl_append]
    exact ih he

/-- an invariant `I done out more` (`done` = the work items processed) that survives one pass — `addRow` folded over
    `passRows`, then `endPass` — holds at the end -/
theorem whatLoop_ind (v : Variant) (q : Req) (I : Todo → List ORow → Bool → Prop) :
    ∀ (todo done : Todo) (out : List ORow) (more : Bool) (res : List ORow × Bool),
    (∀ done t out more r, t ∈ todo → I done out more →
        lodLoop v q (padBefore v (done.map (·.1))) t.1 t.2 0 out = some r →
        I (done ++ [t]) (endPass v t.1 ((passRows v q t.2 0).foldl (addRow (padBefore v (done.map (·.1))) t.1) out))
          (more || r.2)) →
    I done out more → whatLoop v q (done.map (·.1)) todo out more = some res → I (done ++ todo) res.1 res.2 := by
  intro todo
  induction todo with
  | nil =>
    intro done out more res _ h he
    cases he
    rwa [List.append_nil]
  | cons t rest ih =>
    intro done out more res step h he
    rw [whatLoop] at he
    split at he
    · cases he
    · rename_i r hr
      have h' := step done t out more r List.mem_cons_self h hr
      rw [← lodLoop_eq_fold v q _ _ _ _ _ r hr] at h'
      have := ih (done ++ [t]) _ _ res (fun d t' o m r' ht' => step d t' o m r' (List.mem_cons_of_mem _ ht')) h'
        (by rw [List.map_append]; exact he)
      rwa [List.append_assoc] at this

theorem whatLoop_keys (v : Variant) (q : Req) (todo : Todo) (res : List ORow × Bool)
    (he : whatLoop v q [] todo [] false = some res) :
    (keysOf res.1).Nodup ∧ ∀ k, k ∈ keysOf res.1 ↔ ∃ t ∈ todo, k ∈ (passRows v q t.2 0).map (·.key) := by
  refine whatLoop_ind v q (fun done out _ => (keysOf out).Nodup ∧
    ∀ k, k ∈ keysOf out ↔ ∃ t ∈ done, k ∈ (passRows v q t.2 0).map (·.key)) todo [] [] false res ?_ (by simp [keysOf]) he
  intro done t out more r _ h _
  rw [keys_endPass]
  refine ⟨nodup_keys_fold _ _ _ _ h.1, fun k => ?_⟩
  rw [mem_keys_fold, h.2 k]
  simp only [List.mem_append, List.mem_singleton, or_and_right, exists_or, exists_eq_left]

theorem lessThan_time_ne (l : Marker) (k : Key) (orEq fe : Bool) (h : l.time ≠ k.time) :
    lessThan l k orEq fe = if fe then decide (l.time > k.time) else decide (l.time < k.time) := by
  simp [lessThan, h]

theorem lessThan_time (l : Marker) (k : Key) (orEq fe : Bool) :
    (lessThan l k orEq fe = true → if fe then k.time ≤ l.time else l.time ≤ k.time) ∧
    (lessThan l k orEq fe = false → if fe then l.time ≤ k.time else k.time ≤ l.time) := by
  by_cases e : l.time = k.time
  · cases fe <;> simp [e]
  · rw [lessThan_time_ne _ _ _ _ e]
    cases fe <;>
      exact ⟨fun h => Int.le_of_lt (of_decide_eq_true h), fun h => Int.not_lt.1 (of_decide_eq_false h)⟩

theorem inRange_times (q : Req) (r : Row) (h : inRange q.win r = true) :
    (fromTime q = 0 ∨ fromTime q ≤ r.key.time) ∧ (toTime q = 0 ∨ r.key.time ≤ toTime q) := by
  simp only [inRange, afterFrom, beforeTo, Bool.and_eq_true, Bool.or_eq_true, beq_iff_eq, Bool.not_eq_true'] at h
  have h1 := h.1.imp id (lessThan_time _ _ _ _).1
  have h2 := h.2.imp id (lessThan_time _ _ _ _).2
  unfold fromTime toTime
  by_cases hf : q.win.fromEnd = true
  · simp only [hf, if_true] at h1 h2 ⊢
    exact ⟨h2, h1⟩
  · simp only [hf] at h1 h2 ⊢
    exact ⟨h1, h2⟩

/-- `ht`: a marker time 0 means "no bound" to `inRange` but is a bound to the time test, which rejects negative times -/
theorem inRange_not_timeSkipped (q : Req) (r : Row) (h : inRange q.win r = true) (ht : 0 ≤ r.key.time) :
    timeSkipped q r = false := by
  obtain ⟨h1, h2⟩ := inRange_times q r h
  simp only [timeSkipped, aboveTo, Bool.or_eq_false_iff, Bool.and_eq_false_iff, bne_eq_false_iff_eq,
    decide_eq_false_iff_not]
  exact ⟨h2.imp id Int.not_lt.2, by omega⟩

/-- the window rows of all LODs that are not skipped, in visiting order (an error answer contributes nothing) -/
def candRows (q : Req) : List (Lod × Option (List (List Row))) → List Row
  | [] => []
  | (l, ans) :: rest =>
    if lodSkipped q l then candRows q rest
    else windowRows q.win (ans.getD []) ++ candRows q rest

theorem mem_candRows (q : Req) (l : Answers) (r : Row) :
    r ∈ candRows q l ↔ ∃ a ∈ l, lodSkipped q a.1 = false ∧ r ∈ windowRows q.win (a.2.getD []) := by
  fun_induction candRows q l
  · simp
  · rename_i hs ih
    simp only [ih, List.mem_cons, exists_eq_or_imp, hs, Bool.true_eq_false, false_and, false_or]
  · rename_i hs ih
    simp only [List.mem_append, ih, List.mem_cons, exists_eq_or_imp, Bool.eq_false_iff.2 hs, true_and]

theorem candRows_inRange (q : Req) (answers : Answers) (r : Row)
    (h : r ∈ candRows q answers) : inRange q.win r = true := by
  obtain ⟨a, _, _, hr⟩ := (mem_candRows q answers r).1 h
  exact ((mem_windowRows _ _ _).1 hr).2

theorem candRows_not_timeSkipped (q : Req) (answers : Answers) (h : ∀ r ∈ candRows q answers, 0 ≤ r.key.time) :
    ∀ r ∈ candRows q answers, timeSkipped q r = false :=
  fun r hr => inRange_not_timeSkipped q r (candRows_inRange q answers r hr) (h r hr)

theorem candRows_sublist (q : Req) : ∀ (l : Answers),
    (candRows q l).Sublist (l.flatMap (fun a => (dir q.win.fromEnd (a.2.getD [])).flatten)) := by
  intro l
  induction l with
  | nil => simp [candRows]
  | cons a rest ih =>
    obtain ⟨lod, ans⟩ := a
    simp only [candRows, List.flatMap_cons]
    split
    · exact ih.trans (List.sublist_append_right _ _)
    · exact List.Sublist.append (by simp only [windowRows]; exact List.filter_sublist) ih

theorem passRows_sublist (v : Variant) (q : Req) (answers : Answers) (cnt : Nat) :
    (passRows v q answers cnt).Sublist ((candRows q answers).filter (fun r => !timeSkipped q r)) := by
  fun_induction passRows v q answers cnt
  · exact List.Sublist.refl _
  · rename_i hs ih
    simpa only [candRows, hs, if_true] using ih
  · exact List.nil_sublist _
  · rename_i hs _ _ _ _
    simp only [candRows, hs, Bool.false_eq_true, if_false, Option.getD_some, List.filter_append]
    exact ((limitQueries_sublist _ _ _ _).filter _).trans (List.sublist_append_left _ _)
  · rename_i hs _ _ _ _ ih
    simp only [candRows, hs, Bool.false_eq_true, if_false, Option.getD_some, List.filter_append]
    exact ((limitQueries_sublist _ _ _ _).filter _).append ih

theorem passRows_in_window (v : Variant) (q : Req) (answers : Answers) (cnt : Nat) (r : Row)
    (h : r ∈ passRows v q answers cnt) : inRange q.win r = true ∧ timeSkipped q r = false := by
  have := List.mem_filter.1 ((passRows_sublist v q answers cnt).mem h)
  exact ⟨candRows_inRange q answers r this.1, by simpa using this.2⟩

theorem limitQueries_fixed_filter (q : Req) (groups : List (List Row)) (lim : Int)
    (hw : ∀ x ∈ windowRows q.win groups, timeSkipped q x = false) :
    (limitQueries .fixed q.win groups lim).1.filter (fun r => !timeSkipped q r) =
      (windowRows q.win groups).take lim.toNat := by
  rw [limitQueries_fixed]
  exact List.filter_eq_self.2 (fun x hx => by simp [hw x (List.mem_of_mem_take hx)])

/-- `he`: the pass met no storage error; after an error `passRows` stops while `candRows` goes on -/
theorem passRows_fixed_eq_take (q : Req) (pad : Nat) (cols : List Nat)
    (answers : Answers) (cnt : Nat) (out : List ORow) (res : List ORow × Bool)
    (hts : ∀ r ∈ candRows q answers, timeSkipped q r = false)
    (he : lodLoop .fixed q pad cols answers cnt out = some res) :
    passRows .fixed q answers cnt = (candRows q answers).take (q.limit - cnt).toNat ∧
    res.2 = decide ((q.limit - cnt).toNat < (candRows q answers).length) := by
  fun_induction lodLoop .fixed q pad cols answers cnt out
  · cases he
    simp [passRows, candRows]
  · rename_i hs ih
    simp only [passRows, candRows, hs, if_true] at hts ⊢
    exact ih hts he
  · cases he
  · rename_i l rest cnt out hs groups lq rows out' hm
    simp only [passRows, candRows, hs, Bool.false_eq_true, if_false, Option.getD_some, List.mem_append] at hts ⊢
    have hlt : (q.limit - cnt).toNat < (windowRows q.win groups).length := by
      simpa [lq, limitQueries_fixed] using hm
    cases he
    rw [if_pos hm, limitQueries_fixed_filter q groups _ (fun x hx => hts x (Or.inl hx)), List.length_append,
      List.take_append_of_le_length (Nat.le_of_lt hlt)]
    exact ⟨rfl, (decide_eq_true (Nat.lt_of_lt_of_le hlt (Nat.le_add_right _ _))).symm⟩
  · rename_i l rest cnt out hs groups lq rows out' hm ih
    simp only [passRows, candRows, hs, Bool.false_eq_true, if_false, Option.getD_some, List.mem_append] at hts ⊢
    have hle : (windowRows q.win groups).length ≤ (q.limit - cnt).toNat := by
      simpa [lq, limitQueries_fixed] using hm
    have hr := limitQueries_fixed_filter q groups (q.limit - cnt) (fun x hx => hts x (Or.inl hx))
    rw [List.take_of_length_le hle] at hr
    have hr' : rows = windowRows q.win groups := hr
    rw [hr'] at he
    rw [hr', Int.natCast_add, ← Int.sub_sub, Int.toNat_sub'] at ih
    obtain ⟨h1, h2⟩ := ih (fun x hx => hts x (Or.inr hx)) he
    rw [if_neg hm, hr, h1, h2, List.take_append, List.take_of_length_le hle, List.length_append]
    exact ⟨rfl, decide_eq_decide.2 (by omega)⟩

/-- the page of one handler-what: the first `limit` window rows over all visited LODs -/
def pageRows (q : Req) (answers : List (Lod × Option (List (List Row)))) : List Row :=
  (candRows q answers).take q.limit.toNat

theorem whatLoop_page (q : Req) (todo : Todo) (res : List ORow × Bool)
    (hpos : ∀ t ∈ todo, ∀ r ∈ candRows q t.2, 0 ≤ r.key.time)
    (he : whatLoop .fixed q [] todo [] false = some res) :
    (res.2 = true ↔ ∃ t ∈ todo, q.limit.toNat < (candRows q t.2).length) ∧
    (∀ t ∈ todo, passRows .fixed q t.2 0 = pageRows q t.2) := by
  refine whatLoop_ind .fixed q (fun done _ more => (more = true ↔ ∃ t ∈ done, q.limit.toNat < (candRows q t.2).length) ∧
    ∀ t ∈ done, passRows .fixed q t.2 0 = pageRows q t.2) todo [] [] false res ?_ (by simp) he
  intro done t out more r ht h hr
  have hp := passRows_fixed_eq_take q _ t.1 t.2 0 out r (candRows_not_timeSkipped q t.2 (hpos t ht)) hr
  rw [Int.natCast_zero, Int.sub_zero] at hp
  refine ⟨?_, ?_⟩
  · simp only [h.1, hp.2, Bool.or_eq_true, decide_eq_true_eq, List.mem_append, List.mem_singleton, or_and_right,
      exists_or, exists_eq_left]
  · intro t' ht'
    rcases List.mem_append.1 ht' with ht' | ht'
    · exact h.2 t' ht'
    · rw [List.mem_singleton.1 ht']
      exact hp.1

/-- all rows of the storage answers of one handler-what (errors contribute nothing) -/
def storedRows : List (Lod × Option (List (List Row))) → List Row
  | [] => []
  | (_, ans) :: rest => (ans.getD []).flatten ++ storedRows rest

theorem mem_storedRows (answers : Answers) (r : Row) :
    r ∈ storedRows answers ↔ ∃ a ∈ answers, ∃ g ∈ a.2.getD [], r ∈ g := by
  fun_induction storedRows answers
  · simp
  · rename_i ih
    simp only [List.mem_append, List.mem_flatten, ih, List.mem_cons, exists_eq_or_imp]

theorem visit_perm_stored (fe : Bool) (answers : Answers) :
    (answers.flatMap (fun a => (dir fe (a.2.getD [])).flatten)).Perm (storedRows answers) := by
  fun_induction storedRows answers
  · exact List.Perm.refl _
  · rename_i ih
    rw [List.flatMap_cons]
    refine List.Perm.append ?_ ih
    cases fe
    · exact List.Perm.refl _
    · exact (List.reverse_perm _).flatten

/-- no key is handed to the row loop twice within one pass -/
def NoRepeat (v : Variant) (q : Req) (todo : Todo) : Prop :=
  ∀ t ∈ todo, ((passRows v q t.2 0).map (·.key)).Nodup

theorem noRepeat_of_nodup (v : Variant) (q : Req) (todo : Todo)
    (h : ∀ t ∈ todo, ((storedRows t.2).map (·.key)).Nodup) : NoRepeat v q todo := by
  intro t ht
  have h1 := ((visit_perm_stored q.win.fromEnd t.2).map (fun r : Row => r.key)).nodup_iff.2 (h t ht)
  exact h1.sublist ((((passRows_sublist v q t.2 0).trans List.filter_sublist).trans (candRows_sublist q t.2)).map _)

end SH.C25
